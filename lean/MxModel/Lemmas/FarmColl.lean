/-
  "Undistributed boosted rewards are collected once" at run level (C11): the per-week ghost
  `collW w` (what was moved from week `w`'s pool to `undistributedBoostedRewards`) and the marker
  `lastCollect` are touched by `collectUndistributedBoostedRewards` only; the marker only moves
  forward and every week above it is still uncollected (`collW w = 0`).
-/
import MxModel.Lemmas.FarmWk

namespace Mx.Farm

def cl (s : St) : (Nat → Nat) × Nat := (s.b.collW, s.lastCollect)

theorem Move.cl {v v' : WkV} {d d' : Nat} (m : Move v d v' d') :
    v'.b.collW = v.b.collW ∧ v'.lastCollect = v.lastCollect := by
  cases m with
  | gen _ hb => rcases hb with ⟨_, rfl⟩ | ⟨_, _, rfl⟩ <;> exact ⟨rfl, rfl⟩
  | claim hv h => subst hv; exact ⟨(claimBoostedYields_spec h).collW, rfl⟩
  | _ => exact ⟨rfl, rfl⟩

/-- what one operation does to the collection ghosts: every operation but
    `collectUndistributedBoostedRewards` leaves them alone; a collection moves the marker forward
    and, for exactly the weeks it passes, adds the week's then-remaining pool to the week's
    collected ghost and empties the pool -/
def CollMove (s s' : St) : Prop :=
  cl s' = cl s ∨
  (s.lastCollect < s'.lastCollect ∧
    (∀ W, s.week = some W → s'.lastCollect + 5 = W) ∧
    (∀ w, s.lastCollect < w → w ≤ s'.lastCollect →
      s'.b.collW w = s.b.collW w + s.b.remaining w ∧ s'.b.remaining w = 0) ∧
    (∀ w, (w ≤ s.lastCollect ∨ s'.lastCollect < w) →
      s'.b.collW w = s.b.collW w ∧ s'.b.remaining w = s.b.remaining w))

theorem Collects.collMove {s s' : St} {W : Nat} (h : Collects (wk s) (wk s') W) : CollMove s s' := by
  obtain ⟨b', u', e, k⟩ := h.weeks
  have hb : s'.b = b' := congrArg WkV.b e
  have hl : s'.lastCollect = W - 5 := congrArg WkV.lastCollect e
  have hm : (wk s).lastCollect < W - 5 := k.marker
  unfold CollMove
  rw [hb, hl]
  refine Or.inr ⟨hm, fun W' hW' => ?_, fun w hw1 hw2 => (k.passed w hw1 hw2).symm, fun w hw => (k.other w hw).symm⟩
  cases k.week.symm.trans hW'
  omega

theorem step_coll {s s' : St} {op : Op} {o : Out} (h : step s op = some (s', o)) :
    (∃ c, op = .collect c ∧ ∃ W, Collects (wk s) (wk s') W) ∨ cl s' = cl s := by
  rcases step_path h with ⟨b, e, _, rfl⟩ | hc | p
  · exact Or.inr rfl
  · exact Or.inl hc
  · have := p.inv (P := fun v _ => v.b.collW = s.b.collW ∧ v.lastCollect = s.lastCollect)
      (fun m hP => ⟨m.cl.1.trans hP.1, m.cl.2.trans hP.2⟩) ⟨rfl, rfl⟩
    exact Or.inr (Prod.ext this.1 this.2)

theorem step_cl_of_not_collect {s s' : St} {op : Op} {o : Out} (h : step s op = some (s', o))
    (hop : ∀ c, op ≠ .collect c) : cl s' = cl s :=
  (step_coll h).resolve_left fun ⟨c, hc, _⟩ => hop c hc

theorem step_collMove {s s' : St} {op : Op} {o : Out} (h : step s op = some (s', o)) : CollMove s s' :=
  (step_coll h).elim (fun ⟨_, _, _, hc⟩ => hc.collMove) Or.inl

def CollInv (s : St) : Prop := ∀ w, s.lastCollect < w → s.b.collW w = 0

theorem CollMove.inv {s s' : St} (hm : CollMove s s') (hI : CollInv s) :
    CollInv s' ∧ s.lastCollect ≤ s'.lastCollect := by
  rcases hm with h | ⟨h1, _, _, h4⟩
  · simp only [cl, Prod.mk.injEq] at h
    obtain ⟨e1, e2⟩ := h
    refine ⟨?_, by omega⟩
    intro w hw
    rw [e1]
    exact hI w (by omega)
  · refine ⟨?_, by omega⟩
    intro w hw
    rw [(h4 w (Or.inr hw)).1]
    exact hI w (by omega)

theorem init_collInv (kind : Kind) (sameTok : Bool) (dsc perBlock : Nat) (produce : Bool)
    (users : List Nat) (e0 : Nat) : CollInv (init kind sameTok dsc perBlock produce users e0) :=
  fun _ _ => rfl

theorem run_collInv (ops : List Op) {s : St} (hI : CollInv s) :
    CollInv (run s ops) ∧ s.lastCollect ≤ (run s ops).lastCollect :=
  run_induction (P := fun s' => CollInv s' ∧ s.lastCollect ≤ s'.lastCollect) ops ⟨hI, Nat.le_refl _⟩
    fun hP hs => ((step_collMove hs).inv hP.1).imp_right (Nat.le_trans hP.2)

end Mx.Farm
