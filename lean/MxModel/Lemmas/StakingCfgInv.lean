/-
  The stored boosted-yields configuration of the staking model (`St.b.cfg`) over every transaction
  (C11, farm-staking side).  One transaction leaves the config, creates it (`BCfg.new W x`, only
  `setBoostedYieldsFactors`) or replaces it by `c.update W new` for the current week `W`
  (`setBoostedYieldsFactors`: `new = some x`; the freeze of a week inside the boosted claim:
  `new = none`), and time only moves forward: `CStep`.  Read off it: a stored config is well formed
  (`CfgOK`), and a later config answers for the weeks still inside its window what the earlier one
  recorded for them (`FrozenCfg`).
-/
import MxModel.Lemmas.StakingFactors
import MxModel.Lemmas.StakingBoosted

namespace Mx.Staking

namespace CfgInv   -- own sub-namespace: `CfgOK`, `CfgMove`, `run_cfgOK`, `run_frozen` are also names of Lemmas/FarmCfgInv.lean

/-- the stored config stays, is created for week `W`, or is updated to week `W` -/
inductive CfgMove (W : Nat) : Option BCfg → Option BCfg → Prop
  | same (o : Option BCfg) : CfgMove W o o
  | fresh (x : Factors) : CfgMove W none (some (BCfg.new W x))
  | upd {c c' : BCfg} (new : Option Factors) : c.update W new = some c' → CfgMove W (some c) (some c')

theorem claimBoostedYields_cfg {s : St} {user farmAmt : Nat} {r : Weekly.St × B × Nat}
    (h : claimBoostedYields s user farmAmt = some r) : CfgMove s.week s.b.cfg r.2.1.cfg := by
  rcases (claimBoostedYields_cells h).2.2.2 with e | ⟨c, c', hc, hu, e⟩
  · rw [e]; exact .same _
  · rw [e, hc]; exact .upd none hu

/-- a transaction that runs inside one week: time does not move, the config makes one `CfgMove` -/
structure Keeps (s s' : St) : Prop where
  epoch : s'.epoch = s.epoch
  fw : s'.firstWeek = s.firstWeek
  cfg : CfgMove s.week s.b.cfg s'.b.cfg

theorem Keeps.same {s s' : St} (h1 : s'.epoch = s.epoch) (h2 : s'.firstWeek = s.firstWeek)
    (h3 : s'.b.cfg = s.b.cfg) : Keeps s s' :=
  ⟨h1, h2, by rw [h3]; exact .same _⟩

theorem Keeps.of_claims {s s' t : St} {u : Nat} {r : Weekly.St × B × Nat} (k : Claims s s' u t r) :
    Keeps s s' := by
  refine ⟨k.epoch, k.firstWeek, ?_⟩
  have hm := claimBoostedYields_cfg k.claim
  rw [k.pools.2.2.2]
  rcases k.entry with rfl | rfl <;> exact hm

/-- one successful transaction: a `Keeps` inside the current week, or time passes (the config is
    not touched, the deployment epoch stays, the epoch does not decrease) -/
def CStep (s s' : St) : Prop :=
  Keeps s s' ∨ (s'.b.cfg = s.b.cfg ∧ s'.firstWeek = s.firstWeek ∧ s.epoch ≤ s'.epoch)

theorem step_cstep {s s' : St} {op : Op} {o : Out} (h : step s op = some (s', o)) : CStep s s' := by
  cases step_kind h with
  | claim _ k => exact Or.inl (.of_claims k)
  | same _ e | settle _ e | energy _ _ e | sweep _ _ e =>
    exact Or.inl (.same (congrArg (·.epoch) e) (congrArg (·.firstWeek) e) (congrArg (·.b.cfg) e))
  | @factors _ x c hn e =>
    refine Or.inl ⟨congrArg (·.epoch) e, congrArg (·.firstWeek) e, ?_⟩
    rw [show s'.b.cfg = some c from congrArg (·.b.cfg) e]
    unfold nextCfg at hn
    split at hn
    · rename_i c0 hc0
      rw [hc0]
      exact .upd (some x) hn
    · rename_i hc0
      obtain rfl := Option.some.inj hn
      rw [hc0]
      exact .fresh x
  | tick _ d e =>
    exact Or.inr ⟨congrArg (·.b.cfg) e, congrArg (·.firstWeek) e,
      (congrArg (·.epoch) e).ge.trans' (Nat.le_add_right _ d)⟩

def CfgOK (s : St) : Prop :=
  ∀ c, s.b.cfg = some c → c.f.length = 5 ∧ c.lastUpdateWeek ≤ s.week

theorem CfgMove.ok {W : Nat} {o o' : Option BCfg} (m : CfgMove W o o')
    (h : ∀ c, o = some c → c.f.length = 5 ∧ c.lastUpdateWeek ≤ W) :
    ∀ c, o' = some c → c.f.length = 5 ∧ c.lastUpdateWeek ≤ W := by
  cases m with
  | same => exact h
  | fresh x =>
    intro c hc
    cases hc
    exact ⟨BCfg.new_length _ x, Nat.le_refl _⟩
  | upd new hu =>
    intro c hc
    cases hc
    obtain ⟨hl, _⟩ := h _ rfl
    obtain ⟨_, h1, h2, _⟩ := BCfg.update_spec hl hu
    exact ⟨h1, by rw [h2]⟩

theorem CStep.ok {s s' : St} (t : CStep s s') (h : CfgOK s) : CfgOK s' := by
  intro c' hc'
  rcases t with k | ⟨hcfg, hf, he⟩
  · have := k.cfg.ok h c' hc'
    rw [week_eq k.fw k.epoch]
    exact this
  · obtain ⟨hl, hle⟩ := h c' (hcfg ▸ hc')
    exact ⟨hl, Nat.le_trans hle (week_mono hf he)⟩

theorem run_cfgOK (ops : List Op) {s : St} (hI : CfgOK s) : CfgOK (run s ops) :=
  run_induction (fun hI h => (step_cstep h).ok hI) ops hI

theorem init_cfgOK (epoch block dsc maxApr minUnbond perBlock : Nat) (accts wl : List Nat) :
    CfgOK (init epoch block dsc maxApr minUnbond perBlock accts wl) := by
  intro c hc
  cases hc

theorem reachable_cfgOK (epoch block dsc maxApr minUnbond perBlock : Nat) (accts wl : List Nat)
    (ops : List Op) : CfgOK (run (init epoch block dsc maxApr minUnbond perBlock accts wl) ops) :=
  run_cfgOK ops (init_cfgOK epoch block dsc maxApr minUnbond perBlock accts wl)

/-- `c'` is a later version of the 5-slot config `c`: still 5 slots, not older, and for every week
    that was already past for `c` and is still inside the window of `c'` it answers what `c` answered -/
structure FrozenCfg (c c' : BCfg) : Prop where
  len : c'.f.length = 5
  mono : c.lastUpdateWeek ≤ c'.lastUpdateWeek
  keep : ∀ w, w < c.lastUpdateWeek → c'.lastUpdateWeek - w < 5 →
    c'.factorsForWeek w = c.factorsForWeek w

theorem FrozenCfg.refl {c : BCfg} (h : c.f.length = 5) : FrozenCfg c c :=
  ⟨h, Nat.le_refl _, fun _ _ _ => rfl⟩

theorem FrozenCfg.trans {a b c : BCfg} (h1 : FrozenCfg a b) (h2 : FrozenCfg b c) : FrozenCfg a c := by
  refine ⟨h2.len, Nat.le_trans h1.mono h2.mono, fun w hw hw' => ?_⟩
  have hb := h2.mono
  have ha := h1.mono
  rw [h2.keep w (by omega) hw', h1.keep w hw (by omega)]

theorem FrozenCfg.of_update {c c' : BCfg} {W : Nat} {new : Option Factors} (hl : c.f.length = 5)
    (h : c.update W new = some c') : FrozenCfg c c' := by
  obtain ⟨hle, h1, h2, _, h4, _⟩ := BCfg.update_spec hl h
  refine ⟨h1, by rw [h2]; exact hle, fun w hw1 hw2 => ?_⟩
  rw [h2] at hw2
  exact h4 w hw1 hw2

theorem CfgMove.frozen {W : Nat} {o' : Option BCfg} {c : BCfg} (m : CfgMove W (some c) o')
    (hl : c.f.length = 5) : ∃ c', o' = some c' ∧ FrozenCfg c c' := by
  cases m with
  | same => exact ⟨c, rfl, FrozenCfg.refl hl⟩
  | upd new hu => exact ⟨_, rfl, FrozenCfg.of_update hl hu⟩

theorem CStep.frozen {s s' : St} (t : CStep s s') {c : BCfg} (hc : s.b.cfg = some c)
    (hl : c.f.length = 5) : ∃ c', s'.b.cfg = some c' ∧ FrozenCfg c c' := by
  rcases t with k | ⟨hcfg, _, _⟩
  · have hm := k.cfg
    rw [hc] at hm
    exact hm.frozen hl
  · exact ⟨c, hcfg.trans hc, FrozenCfg.refl hl⟩

theorem run_frozen (ops : List Op) : ∀ {s : St} {c : BCfg}, s.b.cfg = some c → c.f.length = 5 →
    ∃ c', (run s ops).b.cfg = some c' ∧ FrozenCfg c c' := by
  intro s c hc hl
  refine run_induction (P := fun t => ∃ c', t.b.cfg = some c' ∧ FrozenCfg c c') ?_ ops
    ⟨c, hc, FrozenCfg.refl hl⟩
  rintro s1 s2 op o ⟨c1, hc1, f1⟩ h
  obtain ⟨c2, hc2, f2⟩ := (step_cstep h).frozen hc1 f1.len
  exact ⟨c2, hc2, f1.trans f2⟩

theorem BCfg.update_defined (c : BCfg) {W : Nat} (new : Option Factors) (hl : c.f.length = 5)
    (h : c.lastUpdateWeek ≤ W) : ∃ c', c.update W new = some c' := by
  have h4 : ∃ x, c.f[4]? = some x := by
    have : 4 < c.f.length := by omega
    exact ⟨c.f[4], List.getElem?_eq_getElem this⟩
  obtain ⟨x, hx⟩ := h4
  unfold BCfg.update
  simp only [req, h, if_true, hx, Option.bind_eq_bind, Option.bind_some, Option.pure_def]
  split
  · cases new <;> exact ⟨_, rfl⟩
  · exact ⟨_, rfl⟩

theorem BCfg.factorsForWeek_defined {c : BCfg} {w : Nat} (hl : c.f.length = 5)
    (h1 : w < c.lastUpdateWeek) (h2 : c.lastUpdateWeek - w < 5) :
    ∃ x, c.factorsForWeek w = some x := by
  rw [BCfg.factorsForWeek_eq c w h1 h2]
  have : 4 - (c.lastUpdateWeek - w) < c.f.length := by omega
  exact ⟨_, List.getElem?_eq_getElem this⟩

end CfgInv
end Mx.Staking
