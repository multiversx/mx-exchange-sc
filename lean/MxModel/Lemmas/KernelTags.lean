/-
  Variant indices of the Rust enums that `bin/gen-kernels` translates to numbers (a (tag, payload)
  pair, a `match` scrutinee, an enum value as operand), as functions on the models' inductive types.
  Used only to STATE the Props/K*.lean theorems.
-/
import MxModel.Core.Pair
import MxModel.Core.Governance

namespace Mx.Gov

/-- index of the `GovernanceProposalStatus` variant (proposal.rs: `None, Pending, Active, Defeated,
    DefeatedWithVeto, Succeeded`) -/
def Status.tag : Status → Nat
  | .none => 0
  | .pending => 1
  | .active => 2
  | .defeated => 3
  | .vetoed => 4
  | .succeeded => 5

theorem Status.tag_injective {a b : Status} (h : a.tag = b.tag) : a = b := by
  cases a <;> cases b <;> first | rfl | (simp [Status.tag] at h)

/-- index of the `VoteType` variant (`UpVote, DownVote, DownVetoVote, AbstainVote`) -/
def Vote.tag : Vote → Nat
  | .up => 0
  | .down => 1
  | .veto => 2
  | .abstain => 3

end Mx.Gov

namespace Mx.Pair

/-- index of the `pausable::State` variant (`Inactive, Active, PartialActive`) -/
def Status.tag : Status → Nat
  | .inactive => 0
  | .active => 1
  | .partialActive => 2

/-- index of the `SwapTokensOrder` variant (`PoolOrder, ReverseOrder`) -/
def Dir.tag : Dir → Nat
  | .ab => 0
  | .ba => 1

theorem Status.tag_injective {a b : Status} (h : a.tag = b.tag) : a = b := by
  cases a <;> cases b <;> first | rfl | (simp [Status.tag] at h)

end Mx.Pair

namespace Mx

/-- tag of an `Option` read as the pair (tag, payload): `None` = 0, `Some _` = 1 -/
def optTag {α : Type} : Option α → Nat
  | none => 0
  | some _ => 1

/-- payload of an `Option Nat` read as the pair (tag, payload) (anything for `None`) -/
def optVal : Option Nat → Nat
  | none => 0
  | some x => x

end Mx
