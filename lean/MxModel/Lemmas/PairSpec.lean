/-
  Characterisation ("spec") lemmas of the pair endpoints: what a successful call implies, and
  for the two swaps also the converse (`swapIn_iff`, `swapOut_iff`; the converse for
  `removeLiquidity` needs the invariant and is `removeLiq_ok` in Lemmas/PairQuote.lean).
  Property theorems (Props/C01..C04, C20) and the invariants of Lemmas/Pair*.lean are proved from
  these, never by unfolding `step`; case analysis over the operations goes through `step_cases`.
-/
import MxModel.Lemmas.PairFee

namespace Mx.Pair

theorem addSlkOut_zero (s : St) (d : Dir) : s.addSlkOut d 0 = s := by
  cases d <;> rfl

theorem lockOut_spec {s s' : St} {d : Dir} {out : Nat} {lk : Bool}
    (h : s.lockOut d out = some (s', lk)) :
    lk = s.locksOut ∧ (s.lockOn = true → s.lockSc = .simpleLock) ∧
    s' = s.addSlkOut d (if lk then out else 0) := by
  unfold St.lockOut at h
  unfold St.locksOut
  split at h
  · rename_i hon
    obtain ⟨hsc, h⟩ := peel_req h
    split at h
    · rename_i hu
      obtain ⟨rfl, rfl⟩ := Prod.mk.inj (Option.some.inj h)
      exact ⟨by simp [hon, hu], fun _ => hsc, rfl⟩
    · rename_i hu
      obtain ⟨rfl, rfl⟩ := Prod.mk.inj (Option.some.inj h)
      exact ⟨by simp [hu], fun _ => hsc, (addSlkOut_zero _ d).symm⟩
  · rename_i hoff
    obtain ⟨rfl, rfl⟩ := Prod.mk.inj (Option.some.inj h)
    exact ⟨by simp [hoff], fun hon => absurd hon hoff, (addSlkOut_zero _ d).symm⟩

theorem lockOut_ok (s : St) (d : Dir) (out : Nat)
    (h : s.lockOn = true → s.lockSc = .simpleLock) :
    s.lockOut d out = some (s.addSlkOut d (if s.locksOut then out else 0), s.locksOut) := by
  unfold St.lockOut St.locksOut
  by_cases hon : s.lockOn = true
  · by_cases hu : s.epoch < s.lockUnlockEpoch <;> simp [hon, h hon, req, hu, addSlkOut_zero]
  · simp [hon, addSlkOut_zero]

theorem lockOn_iff {s : St} : s.lockOn = true ↔ s.epoch < s.lockDeadline := decide_eq_true_iff

theorem locksOut_iff {s : St} :
    s.locksOut = true ↔ s.epoch < s.lockDeadline ∧ s.epoch < s.lockUnlockEpoch := by
  simp [St.locksOut, St.lockOn]

/-- reserves updated with the net input, payment received on the balance: the state between
    "reserves updated" and "fee routed" in a swap -/
def swapMid (s : St) (d : Dir) (charged fee out : Nat) : St :=
  let s1 := s.touch.setR d (s.rin d + (charged - fee)) (s.rout d - out)
  s1.setBal d (s1.balIn d + charged) (s1.balOut d)

/-- the fee a swap of `charged` takes out of the input before it enters the reserve -/
def swapFee (s : St) (charged : Nat) : Nat := if s.feeOn then specialFee s.special charged else 0

/-- the final result of a swap whose fee routing ended in `s3` -/
def swapEnd (s s3 : St) (d : Dir) (out : Nat) : St :=
  (s3.addSlkOut d (if s.locksOut then out else 0)).setBal d (s3.balIn d) (s3.balOut d - out)

theorem swapMid_rin (s : St) (d : Dir) (c f o : Nat) : (swapMid s d c f o).rin d = s.rin d + (c - f) := by
  cases d <;> rfl
theorem swapMid_rout (s : St) (d : Dir) (c f o : Nat) : (swapMid s d c f o).rout d = s.rout d - o := by
  cases d <;> rfl
theorem swapMid_balOut (s : St) (d : Dir) (c f o : Nat) : (swapMid s d c f o).balOut d = s.balOut d := by
  cases d <;> simp only [swapMid] <;> dir_simp

theorem swapMid_same (s : St) (d : Dir) (c f o : Nat) : SameCfg s.touch (swapMid s d c f o) := by
  cases d <;> simp only [swapMid] <;> dir_simp

theorem swapEnd_same (s s3 : St) (d : Dir) (out : Nat) : SameCfg s3 (swapEnd s s3 d out) := by
  cases d <;> simp only [swapEnd] <;> dir_simp

/-- the product that the model's K `req` compares, as the product of `swapMid`'s reserves -/
theorem swapMid_k (s : St) (d : Dir) (c f o : Nat) :
    (swapMid s d c f o).r1 * (swapMid s d c f o).r2 =
      (s.touch.setR d (s.rin d + (c - f)) (s.rout d - o)).r1 *
      (s.touch.setR d (s.rin d + (c - f)) (s.rout d - o)).r2 := by
  cases d <;> rfl

theorem k_of_dir (s : St) (d : Dir) : s.rin d * s.rout d = s.r1 * s.r2 := by
  cases d
  · rfl
  · exact Nat.mul_comm _ _

/-- …and read in the swap's direction (where `swapIn_k` / `swapOut_k` discharge it) -/
theorem swapMid_kdir {s : St} {d : Dir} {c f out : Nat} :
    s.r1 * s.r2 ≤ (swapMid s d c f out).r1 * (swapMid s d c f out).r2 ↔
      s.rin d * s.rout d ≤ (s.rin d + (c - f)) * (s.rout d - out) := by
  rw [← k_of_dir s d, ← k_of_dir (swapMid s d c f out) d, swapMid_rin, swapMid_rout]

/-- first stage of a swap as a trade: `out` has left the output reserve, not yet the balance -/
theorem swapMid_moved {s : St} {d : Dir} {c f out : Nat} (hout : out ≤ s.rout d)
    (hk : s.rin d * s.rout d ≤ (s.rin d + (c - f)) * (s.rout d - out)) :
    Moved d s (swapMid s d c f out) c (c - f) out 0 0 {} := by
  cases d <;> dir_simp at hout hk <;> simp only [swapMid] <;>
    dir_simp [moved_iff, Nat.sub_add_cancel hout, hk]

/-- last stage: `out` leaves the balance, to simple-lock if the output is delivered LOCKED -/
theorem swapEnd_moved (s : St) {s3 : St} {d : Dir} {out : Nat} (hb : out ≤ s3.balOut d) :
    Moved d s3 (swapEnd s s3 d out) 0 0 0 out (if s.locksOut then out else 0) {} := by
  cases d <;> dir_simp at hb <;> simp only [swapEnd] <;>
    dir_simp [moved_iff, Nat.sub_add_cancel hb, Nat.le_refl]

/-- What both swap endpoints do once the amount the pair keeps (`charged`) and the amount it
    owes (`out`) are fixed: the fee fits into the payment, the K check, fee routing ends in some
    `s3`, the locking guard, and the pair can pay `out`. -/
def SwapCore (s : St) (d : Dir) (charged out : Nat) (s' : St) : Prop :=
  swapFee s charged ≤ charged ∧
  s.r1 * s.r2 ≤ (swapMid s d charged (swapFee s charged) out).r1 *
    (swapMid s d charged (swapFee s charged) out).r2 ∧
  (s.lockOn = true → s.lockSc = .simpleLock) ∧
  ∃ s3, (swapMid s d charged (swapFee s charged) out).sendFee d (swapFee s charged) = some s3 ∧
    out ≤ s3.balOut d ∧ s' = swapEnd s s3 d out

/-- the last four steps of either swap endpoint; `mk` builds the result record from the
    LOCKED flag -/
theorem swapTail_iff {s s' : St} {d : Dir} {c out : Nat} {mk : Bool → Out} {o : Out} :
    (do
      let s3 ← (swapMid s d c (swapFee s c) out).sendFee d (swapFee s c)
      let (s4, lk) ← s3.lockOut d out
      let s5 ← s4.debitOut d out
      pure (s5, mk lk)) = some (s', o) ↔
    (s.lockOn = true → s.lockSc = .simpleLock) ∧
    (∃ s3, (swapMid s d c (swapFee s c) out).sendFee d (swapFee s c) = some s3 ∧
      out ≤ s3.balOut d ∧ s' = swapEnd s s3 d out) ∧ o = mk s.locksOut := by
  have key : ∀ s3, (swapMid s d c (swapFee s c) out).sendFee d (swapFee s c) = some s3 →
      s3.lockOn = s.lockOn ∧ s3.lockSc = s.lockSc ∧ s3.locksOut = s.locksOut := by
    intro s3 h3
    obtain ⟨_, _, _, _, hc⟩ := sendFee_spec h3
    have hs : SameCfg s.touch s3 := (swapMid_same ..).trans hc
    exact ⟨hs.lockOn, hs.lockSc, hs.locksOut⟩
  constructor
  · intro h
    obtain ⟨s3, h3, h⟩ := peel h
    obtain ⟨⟨s4, lk⟩, h4, h⟩ := peel h
    obtain ⟨s5, h5, h⟩ := peel h
    obtain ⟨rfl, rfl⟩ := Prod.mk.inj (Option.some.inj h)
    obtain ⟨e1, e2, e3⟩ := key s3 h3
    obtain ⟨rfl, hg, rfl⟩ := lockOut_spec h4
    obtain ⟨hb, rfl⟩ := debitOut_spec h5
    rw [e1, e2] at hg
    refine ⟨hg, ⟨s3, h3, ?_, ?_⟩, by rw [e3]⟩
    · cases d <;> exact hb
    · rw [swapEnd, e3]
      cases d <;> rfl
  · rintro ⟨hg, ⟨s3, h3, hb, rfl⟩, rfl⟩
    obtain ⟨e1, e2, e3⟩ := key s3 h3
    have h4 := lockOut_ok s3 d out (by rw [e1, e2]; exact hg)
    rw [e3] at h4
    have h5 : (s3.addSlkOut d (if s.locksOut then out else 0)).debitOut d out =
        some (swapEnd s s3 d out) := by
      unfold St.debitOut
      have e : (s3.addSlkOut d (if s.locksOut then out else 0)).balOut d = s3.balOut d := by
        cases d <;> rfl
      rw [e, sub?_pos hb]
      cases d <;> rfl
    simp only [h3, h4, h5, Option.bind_eq_bind, Option.bind_some]
    rfl

/-- `swapTokensFixedInput`: the complete list of guards and the exact result.  The endpoint's fourth
    guard `minOut < rOut` is not listed: it follows from `minOut ≤ out < rOut`. -/
theorem swapIn_iff {s s' : St} {d : Dir} {a minOut : Nat} {o : Out} :
    swapIn s d a minOut = some (s', o) ↔
      0 < minOut ∧ 0 < a ∧ s.status = .active ∧
      minOut ≤ amountOut s.total a (s.rin d) (s.rout d) ∧
      amountOut s.total a (s.rin d) (s.rout d) < s.rout d ∧
      amountOut s.total a (s.rin d) (s.rout d) ≠ 0 ∧
      SwapCore s d a (amountOut s.total a (s.rin d) (s.rout d)) s' ∧
      o = ⟨amountOut s.total a (s.rin d) (s.rout d), 0, 0, s.locksOut⟩ := by
  constructor
  · intro h
    obtain ⟨h1, h⟩ := peel_req h
    obtain ⟨h2, h⟩ := peel_req h
    obtain ⟨h3, h⟩ := peel_req h
    obtain ⟨_, h⟩ := peel_req h
    obtain ⟨h5, h⟩ := peel_req h
    obtain ⟨h6, h⟩ := peel_req h
    obtain ⟨h7, h⟩ := peel_req h
    obtain ⟨h8, h⟩ := peel_sub h
    obtain ⟨h9, h⟩ := peel_req h
    obtain ⟨hg, hs, ho⟩ := swapTail_iff.mp h
    exact ⟨h1, h2, h3, h5, h6, h7, ⟨h8, (swapMid_k ..).symm ▸ h9, hg, hs⟩, ho⟩
  · rintro ⟨h1, h2, h3, h5, h6, h7, ⟨h8, h9, hg, hs⟩, ho⟩
    have h4 : minOut < s.rout d := Nat.lt_of_le_of_lt h5 h6
    unfold swapIn
    rw [req_pos h1, Option.bind_eq_bind, Option.bind_some, req_pos h2, Option.bind_some,
      req_pos h3, Option.bind_some, req_pos h4, Option.bind_some]
    dsimp only
    rw [req_pos h5, Option.bind_some, req_pos h6, Option.bind_some, req_pos h7, Option.bind_some]
    show (sub? a (swapFee s a)).bind _ = _
    rw [sub?_pos h8, Option.bind_some, req_pos (swapMid_k .. ▸ h9), Option.bind_some]
    exact swapTail_iff.mpr ⟨hg, hs, ho⟩

/-- `swapTokensFixedOutput`: the complete list of guards and the exact result.  The endpoint's guard
    `amountIn ≠ 0` is not listed: `amountIn` is a successor. -/
theorem swapOut_iff {s s' : St} {d : Dir} {maxIn out : Nat} {o : Out} :
    swapOut s d maxIn out = some (s', o) ↔
      0 < out ∧ 0 < maxIn ∧ s.status = .active ∧ out < s.rout d ∧
      (s.rout d - out) * (M - s.total) ≠ 0 ∧
      amountIn s.total out (s.rin d) (s.rout d) ≤ maxIn ∧
      SwapCore s d (amountIn s.total out (s.rin d) (s.rout d)) out s' ∧
      o = ⟨out, amountIn s.total out (s.rin d) (s.rout d),
            maxIn - amountIn s.total out (s.rin d) (s.rout d), s.locksOut⟩ := by
  constructor
  · intro h
    obtain ⟨h1, h⟩ := peel_req h
    obtain ⟨h2, h⟩ := peel_req h
    obtain ⟨h3, h⟩ := peel_req h
    obtain ⟨h4, h⟩ := peel_req h
    obtain ⟨h5, h⟩ := peel_req h
    obtain ⟨h6, h⟩ := peel_req h
    obtain ⟨_, h⟩ := peel_req h
    obtain ⟨h8, h⟩ := peel_sub h
    obtain ⟨h9, h⟩ := peel_req h
    obtain ⟨hg, hs, ho⟩ := swapTail_iff.mp h
    exact ⟨h1, h2, h3, h4, h5, h6, ⟨h8, (swapMid_k ..).symm ▸ h9, hg, hs⟩, ho⟩
  · rintro ⟨h1, h2, h3, h4, h5, h6, ⟨h8, h9, hg, hs⟩, ho⟩
    have h7 : amountIn s.total out (s.rin d) (s.rout d) ≠ 0 := Nat.succ_ne_zero _
    unfold swapOut
    rw [req_pos h1, Option.bind_eq_bind, Option.bind_some, req_pos h2, Option.bind_some,
      req_pos h3, Option.bind_some, req_pos h4, Option.bind_some, req_pos h5, Option.bind_some]
    dsimp only
    rw [req_pos h6, Option.bind_some, req_pos h7, Option.bind_some]
    show (sub? (amountIn s.total out (s.rin d) (s.rout d))
      (swapFee s (amountIn s.total out (s.rin d) (s.rout d)))).bind _ = _
    rw [sub?_pos h8, Option.bind_some, req_pos (swapMid_k .. ▸ h9), Option.bind_some]
    exact swapTail_iff.mpr ⟨hg, hs, ho⟩

theorem swapFee_le (s : St) (c : Nat) : swapFee s c ≤ c * s.special / M := by
  unfold swapFee specialFee
  split
  · exact Nat.le_refl _
  · exact Nat.zero_le _

theorem swapFee_off {s : St} (hoff : s.feeOn = false) (c : Nat) : swapFee s c = 0 := by
  rw [swapFee, hoff]
  rfl

/-- What a swap does (either endpoint), in the one shape every invariant consumes: the pair keeps `c`,
    of which `c − fee` enters the reserve; `out` leaves reserve and balance, into simple-lock's hands
    when it is delivered LOCKED; fee routing moves `f`.  `s.touch`: the observation is recorded first.
    `hout` is asked for because `SwapCore` does not contain the endpoints' guard `out < s.rout d`. -/
theorem SwapCore.moved {s s' : St} {d : Dir} {c out : Nat} (hout : out ≤ s.rout d)
    (h : SwapCore s d c out s') :
    ∃ f, f.spent ≤ swapFee s c ∧ (swapFee s c = 0 → f = {}) ∧
      Moved d s s' c (c - swapFee s c) out out (if s.locksOut then out else 0) f ∧
      SameCfg s.touch s' := by
  obtain ⟨_, hk, _, s3, h3, hb, rfl⟩ := h
  obtain ⟨f, hf, hz, hr, hc⟩ := sendFee_spec h3
  have hm := ((swapMid_moved hout (swapMid_kdir.mp hk)).trans hr).trans (swapEnd_moved s hb)
  simp only [Nat.add_zero, Nat.zero_add, FeeSplit.add_zero, FeeSplit.zero_add] at hm
  exact ⟨f, hf, hz, hm, ((swapMid_same ..).trans hc).trans (swapEnd_same ..)⟩

/-- `swapTokensFixedInput` and `swapTokensFixedOutput` (not `swapNoFeeAndForward`) -/
def isSwap : Op → Bool
  | .swapIn .. => true
  | .swapOut .. => true
  | _ => false

/-- the direction of a swap; `.ab` for every other operation, so use it under `isSwap op = true` -/
def swapDir : Op → Dir
  | .swapIn d _ _ => d
  | .swapOut d _ _ => d
  | _ => .ab

end Mx.Pair

namespace Mx.PairLedger
open Mx.Pair

/-- what the pair keeps of the caller's payment: the whole payment for fixed input, the amount
    `get_amount_in` asks (payment − refund) for fixed output; 0 for an operation that is no swap.
    Nothing of the ledger enters: the name is in `Mx.PairLedger` because the statements of
    Props/C03Ledger read it there. -/
def chargedOf : Op → Out → Nat
  | .swapIn _ a _, _ => a
  | .swapOut _ _ _, o => o.v2
  | _, _ => 0

end Mx.PairLedger

namespace Mx.Pair
open Mx.PairLedger (chargedOf)

theorem swap_spec {s s' : St} {op : Op} {o : Out} (hsw : isSwap op = true)
    (h : step s op = some (s', o)) :
    0 < o.v1 ∧ o.v1 < s.rout (swapDir op) ∧ o.locked = s.locksOut ∧
    SwapCore s (swapDir op) (chargedOf op o) o.v1 s' := by
  cases op <;> cases hsw
  case swapIn d a m =>
    obtain ⟨_, _, _, _, h6, h7, hc, rfl⟩ := swapIn_iff.mp h
    exact ⟨Nat.pos_of_ne_zero h7, h6, rfl, hc⟩
  case swapOut d mx out =>
    obtain ⟨h1, _, _, h4, _, _, hc, rfl⟩ := swapOut_iff.mp h
    exact ⟨h1, h4, rfl, hc⟩

theorem plain_add_locked (o : Out) : o.plainAmt + o.lockedAmt = o.v1 := by
  cases hl : o.locked <;> simp [Out.plainAmt, Out.lockedAmt, hl]

theorem swap_moved {s s' : St} {op : Op} {o : Out} (hsw : isSwap op = true)
    (h : step s op = some (s', o)) :
    ∃ f, f.spent ≤ swapFee s (chargedOf op o) ∧ (swapFee s (chargedOf op o) = 0 → f = {}) ∧
      swapFee s (chargedOf op o) ≤ chargedOf op o ∧
      Moved (swapDir op) s s' (chargedOf op o) (chargedOf op o - swapFee s (chargedOf op o))
        o.v1 o.v1 o.lockedAmt f ∧
      SameCfg s.touch s' := by
  obtain ⟨_, hlt, hl, hc⟩ := swap_spec hsw h
  obtain ⟨f, hf, hz, hm, hs⟩ := hc.moved (Nat.le_of_lt hlt)
  rw [Out.lockedAmt, hl]
  exact ⟨f, hf, hz, hc.1, hm, hs⟩

theorem firstMint_spec {s s' : St} {a1 a2 lp : Nat} (h : s.firstMint a1 a2 = some (s', lp)) :
    MINLIQ < min a1 a2 ∧ lp = min a1 a2 - MINLIQ ∧
    s' = { s with S := min a1 a2, r1 := s.r1 + a1, r2 := s.r2 + a2,
                  lpCirc := s.lpCirc + min a1 a2, lpOwn := s.lpOwn + MINLIQ,
                  bal1 := s.bal1 + a1, bal2 := s.bal2 + a2 } := by
  obtain ⟨h1, h⟩ := peel_req h
  obtain ⟨rfl, rfl⟩ := Prod.mk.inj (Option.some.inj h)
  exact ⟨h1, rfl, rfl⟩

theorem addInitial_spec {s s' : St} {c a1 a2 : Nat} {o : Out}
    (h : addInitial s c a1 a2 = some (s', o)) :
    (s.adder = none ∨ s.adder = some c) ∧ 0 < a1 ∧ 0 < a2 ∧ s.status = .inactive ∧ s.S = 0 ∧
    MINLIQ < min a1 a2 ∧ o = ⟨min a1 a2 - MINLIQ, a1, a2, false⟩ ∧
    s' = { ({ s with S := min a1 a2, r1 := s.r1 + a1, r2 := s.r2 + a2,
                     lpCirc := s.lpCirc + min a1 a2, lpOwn := s.lpOwn + MINLIQ,
                     bal1 := s.bal1 + a1, bal2 := s.bal2 + a2 } : St) with
            status := .partialActive } := by
  obtain ⟨h1, h⟩ := peel_req h
  obtain ⟨⟨h2, h3⟩, h⟩ := peel_req h
  obtain ⟨h4, h⟩ := peel_req h
  obtain ⟨h5, h⟩ := peel_req h
  obtain ⟨⟨s1, lp⟩, hm, h⟩ := peel h
  obtain ⟨h6, hlp, hs1⟩ := firstMint_spec hm
  obtain ⟨rfl, rfl⟩ := Prod.mk.inj (Option.some.inj h)
  exact ⟨h1, h2, h3, h4, h5, h6, by rw [hlp], by rw [hs1]⟩

theorem optimal_spec {s : St} {a1 a2 m1 m2 o1 o2 : Nat}
    (h : optimal s a1 a2 m1 m2 = some (o1, o2)) :
    ((quote a1 s.r1 s.r2 ≤ a2 ∧ o1 = a1 ∧ o2 = quote a1 s.r1 s.r2) ∨
     (a2 < quote a1 s.r1 s.r2 ∧ quote a2 s.r2 s.r1 ≤ a1 ∧ o1 = quote a2 s.r2 s.r1 ∧ o2 = a2)) ∧
    m1 ≤ o1 ∧ m2 ≤ o2 := by
  obtain ⟨⟨p1, p2⟩, hp, h⟩ := peel h
  obtain ⟨h1, h⟩ := peel_req h
  obtain ⟨h2, h⟩ := peel_req h
  obtain ⟨rfl, rfl⟩ := Prod.mk.inj (Option.some.inj h)
  refine ⟨?_, h1, h2⟩
  split at hp
  · rename_i hq
    obtain ⟨rfl, rfl⟩ := Prod.mk.inj (Option.some.inj hp)
    exact Or.inl ⟨hq, rfl, rfl⟩
  · rename_i hq
    obtain ⟨hq1, hp⟩ := peel_req hp
    obtain ⟨rfl, rfl⟩ := Prod.mk.inj (Option.some.inj hp)
    exact Or.inr ⟨Nat.lt_of_not_le hq, hq1, rfl, rfl⟩

theorem optimal_le {s : St} {a1 a2 m1 m2 o1 o2 : Nat}
    (h : optimal s a1 a2 m1 m2 = some (o1, o2)) : o1 ≤ a1 ∧ o2 ≤ a2 := by
  obtain ⟨h1 | h1, _, _⟩ := optimal_spec h
  · obtain ⟨h2, rfl, rfl⟩ := h1
    exact ⟨Nat.le_refl _, h2⟩
  · obtain ⟨_, h2, rfl, rfl⟩ := h1
    exact ⟨h2, Nat.le_refl _⟩

/-! The characterisations of `addLiquidity` (with LP supply), `removeLiquidity` and the buy-back
  state a structure `…Run`: its parameters are the endpoint's arguments, the results of the helper
  calls, the final state and the output, and a field bears the name of the guard or call of the
  model's `do` block it records (`x1_…`, `min1`, `x2_…`, `min2`: the guards of `amountsRemoved` on
  the two amounts removed, which are `o.v1` and `o.v2`; `lpCirc`, `bal1`, `bal2`: the bound under
  which that checked subtraction went through). -/

structure AddLiqRun (s : St) (a1 a2 m1 m2 o1 o2 : Nat) (s' : St) (o : Out) : Prop where
  m1_pos : 0 < m1
  m2_pos : 0 < m2
  a1_pos : 0 < a1
  a2_pos : 0 < a2
  status : s.status = .active ∨ s.status = .partialActive
  r1_ne : s.r1 ≠ 0
  r2_ne : s.r2 ≠ 0
  optimal : optimal s a1 a2 m1 m2 = some (o1, o2)
  out : o = ⟨min (o1 * s.S / s.r1) (o2 * s.S / s.r2), o1, o2, false⟩
  liq_pos : 0 < o.v1
  k : s.r1 * s.r2 ≤ (s.r1 + o1) * (s.r2 + o2)
  state : s' = { s.touch with
    S := s.S + o.v1, r1 := s.r1 + o1, r2 := s.r2 + o2,
    lpCirc := s.lpCirc + o.v1, bal1 := s.bal1 + o1, bal2 := s.bal2 + o2 }

theorem addLiq_spec {s s' : St} {a1 a2 m1 m2 : Nat} {o : Out} (hS : s.S ≠ 0)
    (h : addLiq s a1 a2 m1 m2 = some (s', o)) : ∃ o1 o2, AddLiqRun s a1 a2 m1 m2 o1 o2 s' o := by
  obtain ⟨⟨h1, h2⟩, h⟩ := peel_req h
  obtain ⟨⟨h3, h4⟩, h⟩ := peel_req h
  obtain ⟨h5, h⟩ := peel_req h
  obtain ⟨_, h⟩ := peel_req h
  dsimp only at h
  rw [if_neg hS] at h
  obtain ⟨⟨h7, h8⟩, h⟩ := peel_req h
  obtain ⟨⟨o1, o2⟩, hopt, h⟩ := peel h
  obtain ⟨h9, h⟩ := peel_req h
  obtain ⟨h10, h⟩ := peel_req h
  obtain ⟨rfl, rfl⟩ := Prod.mk.inj (Option.some.inj h)
  exact ⟨o1, o2, h1, h2, h3, h4, h5, h7, h8, hopt, rfl, h9, h10, rfl⟩

theorem addLiq_first_spec {s s' : St} {a1 a2 m1 m2 : Nat} {o : Out} (hS : s.S = 0)
    (h : addLiq s a1 a2 m1 m2 = some (s', o)) :
    0 < a1 ∧ 0 < a2 ∧ (s.status = .active ∨ s.status = .partialActive) ∧ s.adder = none ∧
    MINLIQ < min a1 a2 ∧ o = ⟨min a1 a2 - MINLIQ, a1, a2, false⟩ ∧
    s' = { s.touch with
            S := min a1 a2, r1 := s.r1 + a1, r2 := s.r2 + a2,
            lpCirc := s.lpCirc + min a1 a2, lpOwn := s.lpOwn + MINLIQ,
            bal1 := s.bal1 + a1, bal2 := s.bal2 + a2 } := by
  obtain ⟨_, h⟩ := peel_req h
  obtain ⟨⟨h3, h4⟩, h⟩ := peel_req h
  obtain ⟨h5, h⟩ := peel_req h
  obtain ⟨h6, h⟩ := peel_req h
  dsimp only at h
  rw [if_pos hS] at h
  obtain ⟨⟨s1, lp⟩, hm, h⟩ := peel h
  obtain ⟨h7, hlp, hs1⟩ := firstMint_spec hm
  obtain ⟨_, h⟩ := peel_req h
  obtain ⟨rfl, rfl⟩ := Prod.mk.inj (Option.some.inj h)
  exact ⟨h3, h4, h5, h6.resolve_right (fun hne => hne hS), h7, by rw [hlp], hs1⟩

theorem amountsRemoved_spec {s : St} {lp m1 m2 x1 x2 : Nat}
    (h : amountsRemoved s lp m1 m2 = some (x1, x2)) :
    lp + MINLIQ ≤ s.S ∧ x1 = lp * s.r1 / s.S ∧ x2 = lp * s.r2 / s.S ∧
    0 < x1 ∧ m1 ≤ x1 ∧ x1 < s.r1 ∧ 0 < x2 ∧ m2 ≤ x2 ∧ x2 < s.r2 := by
  obtain ⟨h1, h⟩ := peel_req h
  obtain ⟨h2, h⟩ := peel_req h
  obtain ⟨h3, h⟩ := peel_req h
  obtain ⟨h4, h⟩ := peel_req h
  obtain ⟨h5, h⟩ := peel_req h
  obtain ⟨h6, h⟩ := peel_req h
  obtain ⟨h7, h⟩ := peel_req h
  obtain ⟨rfl, rfl⟩ := Prod.mk.inj (Option.some.inj h)
  exact ⟨h1, rfl, rfl, h2, h3, h4, h5, h6, h7⟩

structure RemoveLiqRun (s : St) (lp m1 m2 : Nat) (s' : St) (o : Out) : Prop where
  m1_pos : 0 < m1
  m2_pos : 0 < m2
  status : s.status = .active ∨ s.status = .partialActive
  lp_pos : 0 < lp
  minliq : lp + MINLIQ ≤ s.S
  out : o = ⟨lp * s.r1 / s.S, lp * s.r2 / s.S, 0, false⟩
  x1_pos : 0 < o.v1
  min1 : m1 ≤ o.v1
  x1_lt : o.v1 < s.r1
  x2_pos : 0 < o.v2
  min2 : m2 ≤ o.v2
  x2_lt : o.v2 < s.r2
  lpCirc : lp ≤ s.lpCirc
  bal1 : o.v1 ≤ s.bal1
  bal2 : o.v2 ≤ s.bal2
  state : s' = { s.touch with
    S := s.S - lp, r1 := s.r1 - o.v1, r2 := s.r2 - o.v2,
    lpCirc := s.lpCirc - lp, bal1 := s.bal1 - o.v1, bal2 := s.bal2 - o.v2 }

theorem removeLiq_spec {s s' : St} {lp m1 m2 : Nat} {o : Out}
    (h : removeLiq s lp m1 m2 = some (s', o)) : RemoveLiqRun s lp m1 m2 s' o := by
  obtain ⟨⟨h1, h2⟩, h⟩ := peel_req h
  obtain ⟨h3, h⟩ := peel_req h
  obtain ⟨h4, h⟩ := peel_req h
  obtain ⟨⟨x1, x2⟩, hx, h⟩ := peel h
  obtain ⟨g1, rfl, rfl, g2, g3, g4, g5, g6, g7⟩ := amountsRemoved_spec hx
  obtain ⟨_, h⟩ := peel_req h
  obtain ⟨h5, h⟩ := peel_sub h
  obtain ⟨h6, h⟩ := peel_sub h
  obtain ⟨h7, h⟩ := peel_sub h
  obtain ⟨rfl, rfl⟩ := Prod.mk.inj (Option.some.inj h)
  exact ⟨h1, h2, h3, h4, g1, rfl, g2, g3, g4, g5, g6, g7, h5, h6, h7, rfl⟩

theorem swapNoFee_spec {s s' : St} {c : Nat} {d : Dir} {a : Nat} {o : Out}
    (h : swapNoFee s c d a = some (s', o)) :
    c ∈ s.wl ∧ 0 < a ∧ s.status = .active ∧ s.rin d ≠ 0 ∧
    o = ⟨amountOutNoFee a (s.rin d) (s.rout d), 0, 0, false⟩ ∧ o.v1 < s.rout d ∧ o.v1 ≠ 0 ∧
    o.v1 ≤ s.balOut d ∧
    s' = (((s.touch.setR d (s.rin d + a) (s.rout d - o.v1)).setBal d (s.balIn d + a)
            (s.balOut d - o.v1))).addBurnOut d o.v1 := by
  obtain ⟨h1, h⟩ := peel_req h
  obtain ⟨h2, h⟩ := peel_req h
  obtain ⟨h3, h⟩ := peel_req h
  obtain ⟨⟨s1, out⟩, hl, h⟩ := peel h
  obtain ⟨hrin, ho, hlt, hne, rfl⟩ := localSwap_spec hl
  obtain ⟨_, h⟩ := peel_req h
  obtain ⟨s3, h3', h⟩ := peel h
  obtain ⟨hb, rfl⟩ := debitOut_spec h3'
  obtain ⟨rfl, rfl⟩ := Prod.mk.inj (Option.some.inj h)
  have hr : s.touch.rin d = s.rin d ∧ s.touch.rout d = s.rout d := by cases d <;> exact ⟨rfl, rfl⟩
  rw [hr.1] at hrin
  rw [hr.1, hr.2] at ho
  rw [hr.2] at hlt
  subst ho
  refine ⟨h1, h2, h3, hrin, rfl, hlt, hne, ?_, ?_⟩
  · cases d <;> exact hb
  · cases d <;> dir_simp

/-- `swapNoFeeAndForward` as a trade: the payment enters the reserve whole, what it buys is burned -/
theorem swapNoFee_moved {s s' : St} {c : Nat} {d : Dir} {a : Nat} {o : Out}
    (h : swapNoFee s c d a = some (s', o)) :
    Moved d s s' a a 0 0 0 { burnO := o.v1 } ∧ SameCfg s.touch s' := by
  obtain ⟨_, _, _, _, ho, hlt, _, hb, rfl⟩ := swapNoFee_spec h
  have hk := noFee_k a (s.rin d) (s.rout d) (by rw [ho] at hlt; exact Nat.le_of_lt hlt)
  rw [show amountOutNoFee a (s.rin d) (s.rout d) = o.v1 by rw [ho]] at hk
  cases d <;> dir_simp at hb hlt hk <;>
    dir_simp [moved_iff, Nat.sub_add_cancel hb, Nat.sub_add_cancel (Nat.le_of_lt hlt), hk]

/-- buy-back-and-burn: the reserves / supply update, then the two removed amounts are routed
    like fee slices, one per direction -/
structure BuybackRun (s : St) (c lp : Nat) (s2 : St) (f1 f2 : FeeSplit) (s' : St) (o : Out) :
    Prop where
  wl : c ∈ s.wl
  lp_pos : 0 < lp
  minliq : lp + MINLIQ ≤ s.S
  out : o = ⟨lp * s.r1 / s.S, lp * s.r2 / s.S, 0, false⟩
  x1_pos : 0 < o.v1
  x1_lt : o.v1 < s.r1
  x2_pos : 0 < o.v2
  x2_lt : o.v2 < s.r2
  lpCirc : lp ≤ s.lpCirc
  spent1 : f1.spent = o.v1
  spent2 : f2.spent = o.v2
  feeSlice1 : Route .ab { s.touch with
    S := s.S - lp, r1 := s.r1 - o.v1, r2 := s.r2 - o.v2, lpCirc := s.lpCirc - lp } s2 f1
  feeSlice2 : Route .ba s2 s' f2

theorem buyback_spec {s s' : St} {c lp : Nat} {w : Want} {o : Out}
    (h : buyback s c lp w = some (s', o)) : ∃ s2 f1 f2, BuybackRun s c lp s2 f1 f2 s' o := by
  obtain ⟨h1, h⟩ := peel_req h
  obtain ⟨h2, h⟩ := peel_req h
  obtain ⟨⟨x1, x2⟩, hx, h⟩ := peel h
  obtain ⟨g1, rfl, rfl, g2, _, g4, g5, _, g7⟩ := amountsRemoved_spec hx
  obtain ⟨h3, h⟩ := peel_sub h
  obtain ⟨s2, hf1, h⟩ := peel h
  obtain ⟨s3, hf2, h⟩ := peel h
  obtain ⟨rfl, rfl⟩ := Prod.mk.inj (Option.some.inj h)
  obtain ⟨f1, e1, r1⟩ := feeSlice_spec hf1
  obtain ⟨f2, e2, r2⟩ := feeSlice_spec hf2
  exact ⟨s2, f1, f2, h1, h2, g1, rfl, g2, g4, g5, g7, h3, e1, e2, r1, r2⟩

/-- the three state-setting configuration calls (`pause`, `resume`, `setStateActiveNoSwaps`) -/
def isSetState : Op → Bool
  | .cfg (.setState _) => true
  | _ => false

/-- the operations that neither hold nor move tokens -/
def isAdmin : Op → Bool
  | .cfg _ => true
  | .advance _ => true
  | .lock _ _ => true
  | .epoch _ => true
  | _ => false

theorem lockCfg_spec {s s' : St} {ow : Bool} {o : LockOp} (h : lockCfg s ow o = some s') :
    ow = true ∧ ∃ dl ul sc,
      s' = { s with lockDeadline := dl, lockUnlockEpoch := ul, lockSc := sc } := by
  cases o
  case setDeadline e =>
    obtain ⟨h1, h⟩ := peel_req h
    exact ⟨h1, e, _, _, (Option.some.inj h).symm⟩
  case setUnlock e =>
    obtain ⟨h1, h⟩ := peel_req h
    exact ⟨h1, _, e, _, (Option.some.inj h).symm⟩
  case setSc a =>
    obtain ⟨h1, h⟩ := peel_req h
    obtain ⟨_, h⟩ := peel_req h
    exact ⟨h1, _, _, _, (Option.some.inj h).symm⟩

theorem step_lock_spec {s s' : St} {ow : Bool} {o : LockOp} {out : Out}
    (h : step s (.lock ow o) = some (s', out)) :
    ∃ dl ul sc, s' = { s with lockDeadline := dl, lockUnlockEpoch := ul, lockSc := sc } := by
  obtain ⟨s1, h1, h2⟩ := Option.map_eq_some_iff.mp h
  obtain ⟨rfl, _⟩ := Prod.mk.inj h2
  exact (lockCfg_spec h1).2

theorem step_epoch_spec {s s' : St} {e : Nat} {out : Out}
    (h : step s (.epoch e) = some (s', out)) : s.epoch ≤ e ∧ s' = { s with epoch := e } := by
  simp only [step] at h
  split at h
  · rename_i hle
    exact ⟨hle, (Prod.mk.inj (Option.some.inj h)).1.symm⟩
  · cases h

/-- What an operation without tokens does.  `fees`: the fee percentages stay, or they are what
    `setFeePercents` has just checked. -/
structure AdminRun (s : St) (op : Op) (s' : St) (o : Out) : Prop where
  out : o = {}
  state : ∃ st t sp ds c wl x1 x2 rd dl ul sc ep, s' = { s with
    status := st, total := t, special := sp, dests := ds, cut := c, wl := wl,
    x1 := x1, x2 := x2, round := rd, lockDeadline := dl, lockUnlockEpoch := ul,
    lockSc := sc, epoch := ep }
  fees : (s'.total = s.total ∧ s'.special = s.special) ∨ (s'.special ≤ s'.total ∧ s'.total ≤ MAXFEE)
  status : isSetState op = false → s'.status = s.status
  round : s.round ≤ s'.round

theorem step_admin {s s' : St} {op : Op} {o : Out} (ha : isAdmin op = true)
    (h : step s op = some (s', o)) : AdminRun s op s' o := by
  cases op <;> cases ha
  case cfg c =>
    obtain ⟨s1, h1, h2⟩ := Option.map_eq_some_iff.mp h
    obtain ⟨rfl, rfl⟩ := Prod.mk.inj h2
    cases c
    case setFee t sp =>
      obtain ⟨hb, h1⟩ := peel_req h1
      obtain rfl := Option.some.inj h1
      exact ⟨rfl, ⟨_, _, _, _, _, _, _, _, _, _, _, _, _, rfl⟩, Or.inr hb, fun _ => rfl, Nat.le_refl _⟩
    case addDest w =>
      obtain rfl := Option.some.inj h1
      exact ⟨rfl, ⟨_, _, _, _, _, _, _, _, _, _, _, _, _, rfl⟩, Or.inl ⟨rfl, rfl⟩, fun _ => rfl, Nat.le_refl _⟩
    case removeDest i =>
      obtain ⟨_, h1⟩ := peel_req h1
      obtain rfl := Option.some.inj h1
      exact ⟨rfl, ⟨_, _, _, _, _, _, _, _, _, _, _, _, _, rfl⟩, Or.inl ⟨rfl, rfl⟩, fun _ => rfl, Nat.le_refl _⟩
    case setCollector c =>
      obtain ⟨_, h1⟩ := peel_req h1
      obtain rfl := Option.some.inj h1
      exact ⟨rfl, ⟨_, _, _, _, _, _, _, _, _, _, _, _, _, rfl⟩, Or.inl ⟨rfl, rfl⟩, fun _ => rfl, Nat.le_refl _⟩
    case setState st =>
      obtain rfl := Option.some.inj h1
      exact ⟨rfl, ⟨_, _, _, _, _, _, _, _, _, _, _, _, _, rfl⟩, Or.inl ⟨rfl, rfl⟩, nofun, Nat.le_refl _⟩
    case whitelist c =>
      obtain ⟨_, h1⟩ := peel_req h1
      obtain rfl := Option.some.inj h1
      exact ⟨rfl, ⟨_, _, _, _, _, _, _, _, _, _, _, _, _, rfl⟩, Or.inl ⟨rfl, rfl⟩, fun _ => rfl, Nat.le_refl _⟩
    case removeWhitelist c =>
      obtain ⟨_, h1⟩ := peel_req h1
      obtain rfl := Option.some.inj h1
      exact ⟨rfl, ⟨_, _, _, _, _, _, _, _, _, _, _, _, _, rfl⟩, Or.inl ⟨rfl, rfl⟩, fun _ => rfl, Nat.le_refl _⟩
    case setTrusted f x =>
      cases f <;> obtain rfl := Option.some.inj h1 <;>
        exact ⟨rfl, ⟨_, _, _, _, _, _, _, _, _, _, _, _, _, rfl⟩, Or.inl ⟨rfl, rfl⟩, fun _ => rfl, Nat.le_refl _⟩
  case advance r =>
    simp only [step] at h
    split at h
    · rename_i hle
      obtain ⟨rfl, rfl⟩ := Prod.mk.inj (Option.some.inj h)
      exact ⟨rfl, ⟨_, _, _, _, _, _, _, _, _, _, _, _, _, rfl⟩, Or.inl ⟨rfl, rfl⟩, fun _ => rfl, hle⟩
    · cases h
  case lock ow l =>
    obtain ⟨s1, h1, h2⟩ := Option.map_eq_some_iff.mp h
    obtain ⟨rfl, rfl⟩ := Prod.mk.inj h2
    obtain ⟨_, dl, ul, sc, rfl⟩ := lockCfg_spec h1
    exact ⟨rfl, ⟨_, _, _, _, _, _, _, _, _, _, _, _, _, rfl⟩, Or.inl ⟨rfl, rfl⟩, fun _ => rfl, Nat.le_refl _⟩
  case epoch e =>
    simp only [step] at h
    split at h
    · obtain ⟨rfl, rfl⟩ := Prod.mk.inj (Option.some.inj h)
      exact ⟨rfl, ⟨_, _, _, _, _, _, _, _, _, _, _, _, _, rfl⟩, Or.inl ⟨rfl, rfl⟩, fun _ => rfl, Nat.le_refl _⟩
    · cases h

/-- Case analysis over a successful `step`: five endpoints of their own, the two swap endpoints
    together (continue with `swap_spec`), and the operations without tokens together (continue
    with `step_admin`). -/
theorem step_cases {motive : Op → Prop} {s s' : St} {op : Op} {o : Out}
    (h : step s op = some (s', o))
    (addInitial : ∀ c a1 a2, addInitial s c a1 a2 = some (s', o) → motive (.addInitial c a1 a2))
    (addLiq : ∀ a1 a2 m1 m2, addLiq s a1 a2 m1 m2 = some (s', o) → motive (.addLiq a1 a2 m1 m2))
    (removeLiq : ∀ lp m1 m2, removeLiq s lp m1 m2 = some (s', o) → motive (.removeLiq lp m1 m2))
    (swap : ∀ op, isSwap op = true → step s op = some (s', o) → motive op)
    (swapNoFee : ∀ c d a, swapNoFee s c d a = some (s', o) → motive (.swapNoFee c d a))
    (buyback : ∀ c lp w, buyback s c lp w = some (s', o) → motive (.buyback c lp w))
    (admin : ∀ op, isAdmin op = true → step s op = some (s', o) → motive op) : motive op := by
  cases op
  case addInitial c a1 a2 => exact addInitial c a1 a2 h
  case addLiq a1 a2 m1 m2 => exact addLiq a1 a2 m1 m2 h
  case removeLiq lp m1 m2 => exact removeLiq lp m1 m2 h
  case swapIn d a m => exact swap _ rfl h
  case swapOut d mx out => exact swap _ rfl h
  case swapNoFee c d a => exact swapNoFee c d a h
  case buyback c lp w => exact buyback c lp w h
  case cfg c => exact admin _ rfl h
  case advance r => exact admin _ rfl h
  case lock ow l => exact admin _ rfl h
  case epoch e => exact admin _ rfl h

/-- without LP supply there is nothing to observe -/
theorem St.touch_sp_of_S_zero {s : St} (h : s.S = 0) : s.touch.sp = s.sp := by
  simp [St.touch, SP.update, h]

/-- What the endpoints that move tokens (all but `isAdmin`) have in common: fee percentages and round
    stay; the observation is recorded from the pre-operation values (`addInitialLiquidity` records
    none, and on a pool without LP supply there is none to record); the status stays, unless
    the pool has no LP supply yet (`addInitialLiquidity` leaves it PartialActive); an LP supply
    that is not zero stays so. -/
structure Kept (s s' : St) : Prop where
  fees : s'.total = s.total ∧ s'.special = s.special
  round : s'.round = s.round
  obs : s'.sp = s.touch.sp
  status : s'.status = s.status ∨ s.S = 0
  S_pos : 0 < s.S → 0 < s'.S

theorem SameCfg.kept {s s' : St} (h : SameCfg s.touch s') : Kept s s' :=
  ⟨h.fees, h.obs.1, h.obs.2, Or.inl h.status, fun hS => h.S ▸ hS⟩

theorem step_kept {s s' : St} {op : Op} {o : Out} (ha : isAdmin op = false)
    (h : step s op = some (s', o)) : Kept s s' := by
  have hM : MINLIQ = 1000 := rfl
  refine step_cases (motive := fun op => isAdmin op = false → Kept s s') h ?_ ?_ ?_ ?_ ?_ ?_ ?_ ha
  · intro _ _ _ h _
    obtain ⟨_, _, _, _, h5, _, _, rfl⟩ := addInitial_spec h
    exact ⟨⟨rfl, rfl⟩, rfl, (St.touch_sp_of_S_zero h5).symm, Or.inr h5, fun hS => absurd h5 (Nat.ne_of_gt hS)⟩
  · intro _ _ _ _ h _
    by_cases hS : s.S = 0
    · obtain ⟨_, _, _, _, _, _, rfl⟩ := addLiq_first_spec hS h
      exact ⟨⟨rfl, rfl⟩, rfl, rfl, Or.inl rfl, fun h => absurd hS (Nat.ne_of_gt h)⟩
    · obtain ⟨o1, o2, t⟩ := addLiq_spec hS h
      obtain rfl := t.state
      exact ⟨⟨rfl, rfl⟩, rfl, rfl, Or.inl rfl, fun h => Nat.add_pos_left h _⟩
  · intro lp _ _ h _
    have t := removeLiq_spec h
    have h5 := t.minliq
    obtain rfl := t.state
    exact ⟨⟨rfl, rfl⟩, rfl, rfl, Or.inl rfl, fun _ => show 0 < s.S - lp by omega⟩
  · intro op hsw h _
    obtain ⟨_, _, _, _, _, hc⟩ := swap_moved hsw h
    exact hc.kept
  · exact fun _ _ _ h _ => (swapNoFee_moved h).2.kept
  · intro _ lp _ h _
    obtain ⟨s2, _, _, t⟩ := buyback_spec h
    have h3 := t.minliq
    have hc := t.feeSlice1.2.trans t.feeSlice2.2
    exact ⟨hc.fees, hc.obs.1, hc.obs.2, Or.inl hc.status,
      fun _ => hc.S ▸ show 0 < s.S - lp by omega⟩
  · exact fun _ h1 _ h2 => Bool.noConfusion (h1.symm.trans h2)

end Mx.Pair
