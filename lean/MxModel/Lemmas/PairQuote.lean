/-
  What Props/C20Pair2 (quote ⇒ execution for every fee configuration) needs on top of the exact
  characterisations `swapIn_iff` / `swapOut_iff` of Lemmas/PairSpec.lean:

  * `FeeOK` (`special ≤ total ≤ MAXFEE`, what `setFeePercents` enforces) as an invariant of every
    history, and the facts that discharge three conjuncts of `SwapCore` from it and from `Inv`:
    `fee ≤ input` (`swapFee_bound`), the K check (`swapMid_kdir` of Lemmas/PairSpec.lean with
    `swapIn_k` / `swapOut_k`) and the balance guard of the final transfer (`swap_out_covered`);
  * `removeLiq_ok`, the converse of `removeLiq_spec`: an explicit list of guards under which
    `removeLiq` goes through, with the exact result.
-/
import MxModel.Lemmas.PairInv

namespace Mx.Pair

/-- `special_fee_percent ≤ total_fee_percent ≤ MAX_FEE_PERCENTAGE` -/
def FeeOK (s : St) : Prop := s.special ≤ s.total ∧ s.total ≤ MAXFEE

theorem FeeOK.of_same {s s' : St} (h : FeeOK s) (h1 : s'.total = s.total) (h2 : s'.special = s.special) :
    FeeOK s' := by
  unfold FeeOK at *; rw [h1, h2]; exact h

theorem step_total_special {s s' : St} {op : Op} {o : Out} (h : step s op = some (s', o)) :
    (s'.total = s.total ∧ s'.special = s.special) ∨ (s'.special ≤ s'.total ∧ s'.total ≤ MAXFEE) := by
  cases ha : isAdmin op
  · exact Or.inl (step_kept ha h).fees
  · exact (step_admin ha h).fees

theorem step_feeOK {s s' : St} {op : Op} {o : Out} (hf : FeeOK s) (h : step s op = some (s', o)) :
    FeeOK s' := by
  rcases step_total_special h with ⟨e1, e2⟩ | hb
  · exact hf.of_same e1 e2
  · exact hb

theorem run_feeOK (ops : List Op) {s : St} (hf : FeeOK s) : FeeOK (run s ops) :=
  run_induction step_feeOK ops hf

theorem feeOK_init {t sp : Nat} (ad : Option Nat) (cap : Nat) (h : sp ≤ t ∧ t ≤ MAXFEE) :
    FeeOK (init t sp ad cap) := h

theorem swapFee_bound {s : St} (hf : FeeOK s) (x : Nat) :
    swapFee s x ≤ x ∧ swapFee s x * M ≤ x * s.total := by
  have hM : M = 100000 := rfl
  have hX : MAXFEE = 5000 := rfl
  obtain ⟨h1, h2⟩ := hf
  unfold swapFee
  split
  · unfold specialFee
    have hd := Nat.div_mul_le_self (x * s.special) M
    have hle : x * s.special ≤ x * s.total := Nat.mul_le_mul_left _ h1
    refine ⟨?_, Nat.le_trans hd hle⟩
    apply Nat.div_le_of_le_mul
    have : x * s.special ≤ x * M := Nat.mul_le_mul_left _ (by omega)
    rw [Nat.mul_comm M x]
    exact this
  · exact ⟨Nat.zero_le _, by simp⟩

theorem FeeOK.total_lt {s : St} (hf : FeeOK s) : s.total < M :=
  Nat.lt_of_le_of_lt hf.2 (by decide)

theorem swap_out_covered {s s3 : St} {d : Dir} {charged fee out : Nat} {f : FeeSplit} (hi : Inv s)
    (hout : out ≤ s.rout d) (hr : Route d (swapMid s d charged fee out) s3 f) :
    out ≤ s3.balOut d := by
  have h1 := hr.1.out_same
  have h2 := hr.1.rout_le
  rw [swapMid_balOut, swapMid_rout] at h1
  rw [swapMid_rout] at h2
  have hb := (hi.dir d).2.1
  omega

theorem removeLiq_ok {s : St} {lp m1 m2 : Nat} (hi : Inv s)
    (hm1 : 0 < m1) (hm2 : 0 < m2) (hst : s.status = .active ∨ s.status = .partialActive)
    (hlp : 0 < lp) (hS : lp + MINLIQ ≤ s.S)
    (h1 : m1 ≤ lp * s.r1 / s.S) (h2 : m2 ≤ lp * s.r2 / s.S) :
    removeLiq s lp m1 m2 =
      some ({ s.touch with S := s.S - lp, r1 := s.r1 - lp * s.r1 / s.S, r2 := s.r2 - lp * s.r2 / s.S,
                           lpCirc := s.lpCirc - lp, bal1 := s.bal1 - lp * s.r1 / s.S,
                           bal2 := s.bal2 - lp * s.r2 / s.S },
            ⟨lp * s.r1 / s.S, lp * s.r2 / s.S, 0, false⟩) := by
  have hM : MINLIQ = 1000 := rfl
  have hSpos : 0 < s.S := by omega
  obtain ⟨hr1, hr2, _⟩ := hi.pos hSpos
  have lt1 : lp * s.r1 / s.S < s.r1 := by
    rw [Nat.div_lt_iff_lt_mul hSpos, Nat.mul_comm lp]
    exact Nat.mul_lt_mul_of_pos_left (by omega) hr1
  have lt2 : lp * s.r2 / s.S < s.r2 := by
    rw [Nat.div_lt_iff_lt_mul hSpos, Nat.mul_comm lp]
    exact Nat.mul_lt_mul_of_pos_left (by omega) hr2
  have p1 : 0 < lp * s.r1 / s.S := by omega
  have p2 : 0 < lp * s.r2 / s.S := by omega
  have hrem : amountsRemoved s lp m1 m2 = some (lp * s.r1 / s.S, lp * s.r2 / s.S) := by
    unfold amountsRemoved
    simp only [Option.bind_eq_bind, Option.pure_def]
    rw [req_pos hS, Option.bind_some, req_pos p1, Option.bind_some, req_pos h1, Option.bind_some,
      req_pos lt1, Option.bind_some, req_pos p2, Option.bind_some, req_pos h2, Option.bind_some,
      req_pos lt2, Option.bind_some]
  have hk : (s.r1 - lp * s.r1 / s.S) * (s.r2 - lp * s.r2 / s.S) ≤ s.r1 * s.r2 :=
    Nat.mul_le_mul (Nat.sub_le _ _) (Nat.sub_le _ _)
  have hc : lp ≤ s.lpCirc := by have := hi.supply; omega
  have hb1 : lp * s.r1 / s.S ≤ s.bal1 := by have := hi.back1; omega
  have hb2 : lp * s.r2 / s.S ≤ s.bal2 := by have := hi.back2; omega
  unfold removeLiq
  simp only [Option.bind_eq_bind, Option.pure_def]
  rw [req_pos (And.intro hm1 hm2), Option.bind_some, req_pos hst, Option.bind_some, req_pos hlp,
    Option.bind_some, hrem, Option.bind_some]
  simp only []
  rw [req_pos hk, Option.bind_some, sub?_pos hc, Option.bind_some, sub?_pos hb1, Option.bind_some,
    sub?_pos hb2, Option.bind_some]

end Mx.Pair
