/-
  The ledger view of the energy world: `St.led` is the part of the state the supply statements
  (C09 `base_supply_delta`, Props/C09Supply) read — the base-asset balances, the eleven counters
  and the burn percentage — and `LedStep` lists the nine things a transaction can do to it.  The loops of
  `claimUnlockedTokens` and `cancelUnbond` are characterised here on those fields.
-/
import MxModel.Lemmas.EnergySpec

namespace Mx.Energy

theorem unlockPays_total (ps : List (Nat × Nat)) {s s2 : St} {c : Nat} {e e2 : Entry} {tot : Nat}
    (h : unlockPays s c e ps = some (s2, e2, tot)) :
    tot = (ps.map (·.2)).sum ∧
    ∀ p ∈ ps, ∃ u, s.unlockOf p.1 = some u ∧ u ≤ s.epoch ∧ 0 < p.2 := by
  induction ps generalizing s e tot with
  | nil =>
    obtain ⟨-, -, rfl⟩ := Prod.mk.inj (Option.some.inj h) |>.imp_right Prod.mk.inj
    exact ⟨rfl, by simp⟩
  | cons p ps ih =>
    obtain ⟨u, s1, e1, tot', hu, hdeb, hle, hpos, -, hrec, rfl⟩ := unlockPays_cons h
    obtain ⟨b, rfl⟩ := debit_eq hdeb
    obtain ⟨ht, hall⟩ := ih hrec
    refine ⟨?_, ?_⟩
    · simp only [List.map_cons, List.sum_cons]; omega
    · intro p hp
      rcases List.mem_cons.mp hp with rfl | hin
      · exact ⟨u, hu, hle, hpos⟩
      · exact hall p hin

theorem claimEntries_supply (qs : List UEntry) {s s2 : St} {paid : Nat}
    (h : claimEntries s qs = some (s2, paid)) :
    s2.pendingPenalty + (qs.map (fun q => q.locked - q.unlocked)).sum = s.pendingPenalty ∧
    s2.penBurned = s.penBurned + (qs.map (fun q => (q.locked - q.unlocked) * s.burnPct / MAXPCT)).sum ∧
    s2.collected = s.collected + (qs.map (fun q => (q.locked - q.unlocked) -
        (q.locked - q.unlocked) * s.burnPct / MAXPCT)).sum ∧
    paid = (qs.map (·.unlocked)).sum ∧
    s2.base UNSTAKE + paid = s.base UNSTAKE ∧ (∀ a, a ≠ UNSTAKE → s2.base a = s.base a) ∧
    ∀ q ∈ qs, q.unlocked ≤ q.locked := by
  induction qs generalizing s paid with
  | nil =>
    obtain ⟨rfl, rfl⟩ := Prod.mk.inj (Option.some.inj h)
    simp
  | cons q qs ih =>
    obtain ⟨s1, paid', hdeb, hpen, hb, hpp, hrec, rfl⟩ := claimEntries_cons h
    obtain ⟨b, rfl⟩ := debit_eq hdeb
    obtain ⟨a1, a2, a3, a4, a5, a6, a7⟩ := ih hrec
    dsimp only at a1 a2 a3 a5 a6 hb hpp
    rw [upd_same] at a5
    simp only [List.map_cons, List.sum_cons]
    refine ⟨by omega, by omega, by omega, by omega, by omega, ?_, ?_⟩
    · intro a ha; rw [a6 a ha, upd_other _ _ ha]
    · intro x hx
      rcases List.mem_cons.mp hx with rfl | hin
      · exact hpen
      · exact a7 x hin

theorem cancelEntries_supply (qs : List UEntry) {s s2 : St} {c : Nat} {e e2 : Entry}
    (h : cancelEntries s c e qs = some (s2, e2)) :
    s2.baseSupply + (qs.map (·.unlocked)).sum = s.baseSupply ∧
    s2.burnCancel = s.burnCancel + (qs.map (·.unlocked)).sum ∧
    s2.circ = s.circ + (qs.map (·.locked)).sum ∧
    s2.pendingPenalty + (qs.map (fun q => q.locked - q.unlocked)).sum = s.pendingPenalty ∧
    s2.base UNSTAKE + (qs.map (·.unlocked)).sum = s.base UNSTAKE ∧
    (∀ a, a ≠ UNSTAKE → s2.base a = s.base a) ∧
    ∀ q ∈ qs, q.unlocked ≤ q.locked := by
  induction qs generalizing s e with
  | nil =>
    obtain ⟨rfl, -⟩ := Prod.mk.inj (Option.some.inj h)
    simp
  | cons q qs ih =>
    obtain ⟨u, s1, -, hdeb, hb, hbs, hpen, hpp, hrec⟩ := cancelEntries_cons h
    obtain ⟨b, rfl⟩ := debit_eq hdeb
    obtain ⟨a1, a2, a3, a4, a5, a6, a7⟩ := ih hrec
    dsimp only [St.credit] at a1 a2 a3 a4 a5 a6 hb hbs hpp
    rw [upd_same] at a5
    simp only [List.map_cons, List.sum_cons]
    refine ⟨by omega, by omega, by omega, by omega, by omega, ?_, ?_⟩
    · intro a ha; rw [a6 a ha, upd_other _ _ ha]
    · intro x hx
      rcases List.mem_cons.mp hx with rfl | hin
      · exact hpen
      · exact a7 x hin

theorem sum_sub_le (qs : List UEntry) (h : ∀ q ∈ qs, q.unlocked ≤ q.locked) :
    (qs.map (·.unlocked)).sum + (qs.map (fun q => q.locked - q.unlocked)).sum = (qs.map (·.locked)).sum := by
  induction qs with
  | nil => rfl
  | cons q qs ih =>
    simp only [List.map_cons, List.sum_cons]
    have := ih (fun x hx => h x (by simp [hx]))
    have := h q (by simp)
    omega

theorem burn_le (pen : Nat) {bp : Nat} (hbp : bp ≤ MAXPCT) : pen * bp / MAXPCT ≤ pen := by
  apply Nat.div_le_of_le_mul
  rw [Nat.mul_comm]
  exact Nat.mul_le_mul_right _ hbp

theorem sum_split (qs : List UEntry) (bp : Nat) (hbp : bp ≤ MAXPCT) :
    (qs.map (fun q => (q.locked - q.unlocked) * bp / MAXPCT)).sum +
      (qs.map (fun q => (q.locked - q.unlocked) - (q.locked - q.unlocked) * bp / MAXPCT)).sum =
    (qs.map (fun q => q.locked - q.unlocked)).sum := by
  induction qs with
  | nil => rfl
  | cons q qs ih =>
    simp only [List.map_cons, List.sum_cons]
    have h1 := burn_le (q.locked - q.unlocked) hbp
    generalize (q.locked - q.unlocked) * bp / MAXPCT = x at *
    omega


structure Led where
  base : Nat → Nat
  baseInit : Nat
  baseSupply : Nat
  circ : Nat
  pendingPenalty : Nat
  penBurned : Nat
  collected : Nat
  mintUnlock : Nat
  mintEarly : Nat
  burnLock : Nat
  burnCancel : Nat
  virtLocked : Nat
  burnPct : Nat

def St.led (s : St) : Led :=
  ⟨s.base, s.baseInit, s.baseSupply, s.circ, s.pendingPenalty, s.penBurned, s.collected, s.mintUnlock,
    s.mintEarly, s.burnLock, s.burnCancel, s.virtLocked, s.burnPct⟩

/-- the account an operation can pay base tokens to out of nothing: the caller of `unlockTokens`
    and of `claimUnlockedTokens` (early unlock pays token-unstake) -/
def Op.payee : Op → Option Nat
  | .unlock c _ => some c
  | .claim c => some c
  | _ => none

/-- the nine things a transaction can do to the ledger, indexed by the account it may pay out of
    nothing.  Value sits in five pots — base supply, locked tokens in circulation, penalties pending
    in the unbond queue, penalties burned, penalties sent to the collector — and only reward locking
    (`virt`) creates any: `lock` burns base asset into circulation, `unlock` mints it back, `early`
    mints `amt − pen` to token-unstake and leaves `pen` pending, `reduce` destroys `pen` of the
    circulation, `claim` destroys pending penalties `P` (burn share `B`, collector share `C`) and
    hands `paid` from token-unstake to the caller, `cancel` burns token-unstake's `U` and returns
    `U + P` to circulation.  Every change of the base supply is logged in a mint / burn counter and
    lands on one balance.
    The index is `op.payee` in `Stepped.led`, which `cases` cannot solve for: prove a fact for
    general `l p l'` first (as `LedStep.sinv`, `LedStep.base` do) and apply it. -/
inductive LedStep (l : Led) : Option Nat → Led → Prop
  | same : LedStep l none l
  | setBurn (p : Nat) (hp : p = l.burnPct ∨ p ≤ MAXPCT) : LedStep l none { l with burnPct := p }
  | lock (c amt : Nat) (h0 : 0 < amt) (h1 : amt ≤ l.base c) (h2 : amt ≤ l.baseSupply) :
      LedStep l none { l with base := upd l.base c (l.base c - amt), baseSupply := l.baseSupply - amt,
                              burnLock := l.burnLock + amt, circ := l.circ + amt }
  | unlock (c tot : Nat) (h : tot ≤ l.circ) :
      LedStep l (some c) { l with circ := l.circ - tot, base := upd l.base c (l.base c + tot),
                                  baseSupply := l.baseSupply + tot, mintUnlock := l.mintUnlock + tot }
  | early (amt pen : Nat) (h1 : pen < amt) (h2 : amt ≤ l.circ) :
      LedStep l none { l with circ := l.circ - amt,
                              base := upd l.base UNSTAKE (l.base UNSTAKE + (amt - pen)),
                              baseSupply := l.baseSupply + (amt - pen),
                              mintEarly := l.mintEarly + (amt - pen),
                              pendingPenalty := l.pendingPenalty + pen }
  | reduce (pen : Nat) (h : pen ≤ l.circ) :
      LedStep l none { l with circ := l.circ - pen,
                              penBurned := l.penBurned + pen * l.burnPct / MAXPCT,
                              collected := l.collected + (pen - pen * l.burnPct / MAXPCT) }
  | virt (amt : Nat) : LedStep l none { l with circ := l.circ + amt, virtLocked := l.virtLocked + amt }
  | claim (c paid P B C pp : Nat) (ba : Nat → Nat) (hpp : pp + P = l.pendingPenalty)
      (hs : l.burnPct ≤ MAXPCT → B + C = P) (hU : ba UNSTAKE + paid = l.base UNSTAKE)
      (hoth : ∀ a, a ≠ UNSTAKE → ba a = l.base a) :
      LedStep l (some c) { l with pendingPenalty := pp, penBurned := l.penBurned + B,
                                  collected := l.collected + C, base := upd ba c (ba c + paid) }
  | cancel (U P bs pp : Nat) (ba : Nat → Nat) (hbs : bs + U = l.baseSupply)
      (hpp : pp + P = l.pendingPenalty) (hU : ba UNSTAKE + U = l.base UNSTAKE)
      (hoth : ∀ a, a ≠ UNSTAKE → ba a = l.base a) :
      LedStep l none { l with baseSupply := bs, burnCancel := l.burnCancel + U,
                              circ := l.circ + (U + P), pendingPenalty := pp, base := ba }

end Mx.Energy
