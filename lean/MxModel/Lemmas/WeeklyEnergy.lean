/-
  Facts about `Energy`, depletion by whole weeks and claim progress (Core/Weekly.lean).
  No contract state here.
-/
import MxModel.Core.Weekly
import Mathlib.Tactic.Ring
import Mathlib.Tactic.Linarith

namespace Mx.Weekly

theorem toNat_sub_nat (x : Int) (n : Nat) : (x - (n : Int)).toNat = x.toNat - n :=
  Int.toNat_sub' x n

namespace Energy

theorem deplete_add_amount (e : Energy) (n : Nat) :
    (e.deplete (e.lastUpdateEpoch + n)).amount = e.amount - ((e.totalLocked * n : Nat) : Int) := by
  unfold deplete
  rcases Nat.eq_zero_or_pos n with rfl | hn
  · simp
  rw [if_neg (by omega), Nat.add_sub_cancel_left]
  rcases Nat.eq_zero_or_pos e.totalLocked with hT | hT
  · simp [hT]
  · exact if_pos ⟨hT, by omega⟩

@[simp] theorem deplete_locked (e : Energy) (x : Nat) : (e.deplete x).totalLocked = e.totalLocked := by
  unfold deplete; split <;> rfl

@[simp] theorem deplete_last (e : Energy) (x : Nat) : (e.deplete x).lastUpdateEpoch = x := by
  unfold deplete
  split
  · rename_i h; exact h
  · rfl

theorem deplete_add_last (e : Energy) (n : Nat) :
    (e.deplete (e.lastUpdateEpoch + n)).lastUpdateEpoch = e.lastUpdateEpoch + n :=
  deplete_last e _

/-- the entry after `k` whole weeks of decay (7 epochs each, counted from its own last update) -/
def after (e : Energy) (k : Nat) : Energy := e.deplete (e.lastUpdateEpoch + EPOCHS_IN_WEEK * k)

theorem after_amount (e : Energy) (k : Nat) :
    (e.after k).amount = e.amount - ((7 * e.totalLocked * k : Nat) : Int) := by
  unfold after
  rw [deplete_add_amount]
  have : e.totalLocked * (EPOCHS_IN_WEEK * k) = 7 * e.totalLocked * k := by
    simp only [EPOCHS_IN_WEEK]; ring
  rw [this]

@[simp] theorem after_locked (e : Energy) (k : Nat) : (e.after k).totalLocked = e.totalLocked := by
  simp [after]

@[simp] theorem after_last (e : Energy) (k : Nat) :
    (e.after k).lastUpdateEpoch = e.lastUpdateEpoch + 7 * k := by
  simp [after, EPOCHS_IN_WEEK]

theorem ext' {a b : Energy} (h1 : a.amount = b.amount) (h2 : a.lastUpdateEpoch = b.lastUpdateEpoch)
    (h3 : a.totalLocked = b.totalLocked) : a = b := by
  cases a; cases b; simp_all

@[simp] theorem after_zero (e : Energy) : e.after 0 = e := by
  unfold after deplete
  rw [Nat.mul_zero, Nat.add_zero, if_pos rfl]

theorem after_after (e : Energy) (j k : Nat) : (e.after j).after k = e.after (j + k) := by
  apply ext'
  · rw [after_amount, after_amount, after_amount, after_locked]
    push_cast; ring
  · simp; ring
  · simp

theorem after_getEnergyAmount (e : Energy) (k : Nat) :
    (e.after k).getEnergyAmount = (e.amount - ((7 * e.totalLocked * k : Nat) : Int)).toNat := by
  unfold getEnergyAmount; rw [after_amount]

theorem after_getEnergyAmount_le (e : Energy) (k : Nat) :
    (e.after k).getEnergyAmount ≤ e.getEnergyAmount := by
  rw [after_getEnergyAmount, toNat_sub_nat]
  exact Nat.sub_le _ _

end Energy

namespace ClaimProgress

theorem advanceWeek_eq (p : ClaimProgress) : p.advanceWeek = ⟨p.energy.after 1, p.week + 1⟩ := by
  simp [advanceWeek, Energy.after]

theorem advanceMultipleWeeks_eq (p : ClaimProgress) (n : Nat) :
    p.advanceMultipleWeeks n = ⟨p.energy.after n, p.week + n⟩ := by
  simp [advanceMultipleWeeks, Energy.after]

theorem iterate_advanceWeek (p : ClaimProgress) (n : Nat) :
    (advanceWeek^[n]) p = ⟨p.energy.after n, p.week + n⟩ := by
  induction n generalizing p with
  | zero => simp
  | succ n ih =>
    rw [Function.iterate_succ_apply, ih, advanceWeek_eq]
    simp only [Energy.after_after]
    congr 1
    · rw [Nat.add_comm]
    · omega

end ClaimProgress

theorem depletedPrev_eq (prev : Energy) (W lastActive : Nat) :
    depletedPrev prev W lastActive = prev.after (W - lastActive) := by
  unfold depletedPrev
  by_cases h : W = lastActive
  · subst h; simp
  · simp only [ne_eq, h, not_false_eq_true, if_true, Energy.after]
    congr 1
    rw [Nat.mul_comm]

end Mx.Weekly
