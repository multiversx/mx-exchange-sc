/-
  Liveness of the user endpoints of the farm beyond `exitFarm` (C05, last clause): in a state with
  the invariants (`Good`, Lemmas/FarmWeekLive.lean) every guard and every checked subtraction of
  `claim_rewards_base` / `compound_rewards_base` (`claimCore_ok`), `enter_farm_base`
  (`enterCore_ok`), `mergeFarmTokens` and `claimBoostedRewards` is discharged, whoever sends the
  payments and whichever user the call acts for.  What remains are conditions on the CALL: the
  transfer is accepted — for a caller paying out of his own account that is `payable` (amounts
  non-zero and covered, in order, by what he holds; `Good.pays`) —, the contract is active, the
  entered amount is non-zero, the caller of `claimBoostedRewards` has a recorded farm position,
  `compoundRewards` only in a minting farm whose farming token is the reward token.

  Each `X_ok` walks forward through the body of `X` (`isSome_bind`, Lemmas/OptionDo.lean).  Facts
  about the start state reach the state a guard is checked in because a helper leaves most of the
  views `xv`, `lv`, `av` alone (`*_xv`, `*_lv`, `*_av`); the weekly invariants travel as `WkV.Budget`
  along the helper-level moves of Lemmas/FarmWk.lean; that a reward is covered by the reserve is
  Lemmas/FarmCover.lean (`reward_le_reserve`, `boosted_le_reserve`, `boosted_le_of_cov`).
-/
import MxModel.Lemmas.FarmWeekLive

namespace Mx.Farm

/-- the call-side guard of `get_orig_caller_from_opt` -/
theorem origCaller_guard {s : St} {c o : Nat} {opt : Option Nat} (h : origCaller s c opt = some o) :
    opt = none ∨ c ∈ s.scWl := by
  rcases origCaller_spec h with ⟨e, _⟩ | ⟨_, hw⟩
  · exact Or.inl e
  · exact Or.inr hw

namespace Plain

open Mx.Weekly (upd upd_same upd_other Energy)

/-- the farm-token payments `(nonce, amount)` can be debited, in order, from an account whose holdings
    are `h`: every amount is non-zero and covered by what is left of that nonce -/
def payable (h : Nat → Nat) : List (Nat × Nat) → Bool
  | [] => true
  | (n, a) :: rest => (a != 0) && (decide (a ≤ h n) && payable (upd h n (h n - a)) rest)

theorem payable_cons {h : Nat → Nat} {n a : Nat} {rest : List (Nat × Nat)} :
    payable h ((n, a) :: rest) = true ↔ a ≠ 0 ∧ a ≤ h n ∧ payable (upd h n (h n - a)) rest = true := by
  simp [payable]

theorem takePayments_ok (l : List (Nat × Nat)) {s : St} {c : Nat}
    (hdom : ∀ n, s.hold c n ≠ 0 → (s.attrs n).isSome) (hp : payable (s.hold c) l = true) :
    (takePayments s c l).isSome = true := by
  rw [takePayments_eq, Option.isSome_map]
  generalize s.hold = hold at hdom hp ⊢
  induction l generalizing hold with
  | nil => rfl
  | cons p rest ih =>
    obtain ⟨n, a⟩ := p
    obtain ⟨ha, hle, hrest⟩ := payable_cons.mp hp
    simp only [takeHold, req, ha, ne_eq, not_false_eq_true, if_true, hdom n (by omega), sub?, hle,
      Option.bind_eq_bind, Option.bind_some]
    refine ih _ (fun m hm => hdom m fun h0 => hm ?_) (by rw [upd_same]; exact hrest)
    rw [upd_same]
    by_cases hmn : m = n
    · subst hmn; rw [upd_same]; omega
    · rw [upd_other _ _ hmn]; exact h0

theorem takePayments_accepted (l : List (Nat × Nat)) {s : St} {c : Nat}
    (h : (takePayments s c l).isSome = true) :
    payable (s.hold c) l = true ∧ ∀ p ∈ l, p.2 ≠ 0 ∧ (s.attrs p.1).isSome := by
  rw [takePayments_eq, Option.isSome_map] at h
  generalize s.hold = hold at h ⊢
  induction l generalizing hold with
  | nil => exact ⟨rfl, fun _ hp => nomatch hp⟩
  | cons q rest ih =>
    obtain ⟨n, a⟩ := q
    obtain ⟨x, hx⟩ := Option.isSome_iff_exists.mp h
    simp only [takeHold, Option.bind_eq_bind, Option.bind_eq_some_iff, req_eq_some, sub?_eq_some] at hx
    obtain ⟨_, h1, _, h2, _, ⟨h3, rfl⟩, h4⟩ := hx
    obtain ⟨hp, hm⟩ := ih _ (by rw [h4]; rfl)
    rw [upd_same] at hp
    refine ⟨payable_cons.mpr ⟨h1, h3, hp⟩, fun p hp' => ?_⟩
    rcases List.mem_cons.mp hp' with rfl | hp'
    · exact ⟨h1, h2⟩
    · exact hm p hp'

theorem checkAndUpdate_ok_p (l : List (Nat × Nat)) {s : St} (u : Nat)
    (hall : ∀ p ∈ l, (s.attrs p.1).isSome) : ∃ s', checkAndUpdate s u l = some s' := by
  rw [checkAndUpdate_eq]
  generalize s.userTotal = tot
  induction l generalizing tot with
  | nil => exact ⟨_, rfl⟩
  | cons p rest ih =>
    obtain ⟨n, a⟩ := p
    obtain ⟨att, hat⟩ := Option.isSome_iff_exists.mp (hall (n, a) (List.mem_cons_self ..))
    simp only [checkTotals, hat, Option.bind_eq_bind, Option.bind_some]
    exact ih (fun q hq => hall q (List.mem_cons_of_mem _ hq)) _

theorem mergeParts_ok_p : ∀ (l : List (Nat × Nat)) {s : St} (base : Attr),
    (∀ p ∈ l, p.2 ≠ 0 ∧ ∃ att, s.attrs p.1 = some att ∧ att.amt ≠ 0) →
    ∃ m, mergeParts s base l = some m := by
  intro l
  induction l with
  | nil => intro s base _; exact ⟨base, rfl⟩
  | cons p rest ih =>
    intro s base hall
    obtain ⟨n, a⟩ := p
    obtain ⟨ha, att, hat, hamt⟩ := hall (n, a) (List.mem_cons_self ..)
    obtain ⟨part, hpart⟩ := intoPart_ok a hamt
    have hpa : part.amt = a := intoPart_amt hpart
    have hne : base.amt + part.amt ≠ 0 := by rw [hpa]; omega
    simp only [mergeParts, hat, hpart, Attr.mergeWith, req, hne, ne_eq, not_false_eq_true, if_true,
      Option.bind_eq_bind, Option.bind_some, Option.pure_def]
    exact ih _ (fun q hq => hall q (List.mem_cons_of_mem _ hq))

theorem mergeAll_ok {s : St} {l : List (Nat × Nat)} (hne : l ≠ [])
    (hall : ∀ p ∈ l, p.2 ≠ 0 ∧ ∃ att, s.attrs p.1 = some att ∧ att.amt ≠ 0) :
    ∃ m, mergeAll s l = some m := by
  cases l with
  | nil => exact absurd rfl hne
  | cons p rest =>
    obtain ⟨n, a⟩ := p
    obtain ⟨ha, att, hat, hamt⟩ := hall (n, a) (List.mem_cons_self ..)
    obtain ⟨part, hpart⟩ := intoPart_ok a hamt
    simp only [mergeAll, hat, hpart, Option.bind_eq_bind, Option.bind_some]
    exact mergeParts_ok_p rest part (fun q hq => hall q (List.mem_cons_of_mem _ hq))

theorem paySum_pos {l : List (Nat × Nat)} (hne : l ≠ []) (hall : ∀ p ∈ l, p.2 ≠ 0) : paySum l ≠ 0 := by
  cases l with
  | nil => exact absurd rfl hne
  | cons p rest =>
    obtain ⟨n, a⟩ := p
    have := hall (n, a) (List.mem_cons_self ..)
    simp only [paySum]
    simp only at this
    omega

theorem createToken_ok {s : St} (dst : Nat) {a : Attr} (h : a.amt ≠ 0) :
    ∃ r : St × Nat, createToken s dst a = some r := by
  simp only [createToken, req, h, ne_eq, not_false_eq_true, if_true, Option.bind_eq_bind,
    Option.bind_some, Option.pure_def]
  exact ⟨_, rfl⟩

/-- the configuration cells no helper touches (`*_lv`): a guard on them is checked against the
    start state -/
structure LV where
  kind : Kind
  sameTok : Bool
  active : Bool
  pct : Nat
  epoch : Nat
  fws : Nat
  users : List Nat

def lv (s : St) : LV := ⟨s.kind, s.sameTok, s.active, s.pct, s.epoch, s.firstWeekStart, s.users⟩

theorem takePayments_lv {l : List (Nat × Nat)} {s s' : St} {c : Nat} (h : takePayments s c l = some s') :
    lv s' = lv s := by obtain ⟨_, rfl⟩ := takePayments_spec l h; rfl
theorem checkAndUpdate_lv {l : List (Nat × Nat)} {s s' : St} {c : Nat} (h : checkAndUpdate s c l = some s') :
    lv s' = lv s := by obtain ⟨_, rfl⟩ := checkAndUpdate_spec l h; rfl
theorem claimBoostedYields_lv {s s' : St} {u r : Nat} (h : claimBoostedYields s u = some (s', r)) :
    lv s' = lv s := by obtain ⟨_, _, rfl⟩ := claimBoostedYields_struct h; rfl
theorem setFarmSupplyWeek_lv {s s' : St} {v : Nat} (h : setFarmSupplyWeek s v = some s') :
    lv s' = lv s := by obtain ⟨_, _, rfl⟩ := setFarmSupplyWeek_spec h; rfl
theorem createToken_lv {s s' : St} {d n : Nat} {a : Attr} (h : createToken s d a = some (s', n)) :
    lv s' = lv s := by obtain ⟨_, _, rfl⟩ := createToken_spec h; rfl
theorem generate_lv {s s' : St} {c c' : Cache} (h : generate s c = some (s', c')) :
    lv s' = lv s := by obtain ⟨_, rfl, _⟩ := generate_spec h; rfl
theorem payReward_lv {s s' : St} {u b bo : Nat} (h : payReward s u b bo = some s') :
    lv s' = lv s := by obtain ⟨_, _, rfl, _⟩ := payReward_spec h; rfl
theorem payRewardIf_lv {s s' : St} {k : Kind} {u b bo : Nat} (h : payRewardIf s k u b bo = some s') :
    lv s' = lv s := by
  rcases payRewardIf_spec h with ⟨_, h⟩ | ⟨_, rfl⟩
  · exact payReward_lv h
  · rfl
theorem claimOnlyBoostedPayment_lv {s s' : St} {u r : Nat} (h : claimOnlyBoostedPayment s u = some (s', r)) :
    lv s' = lv s := by
  obtain ⟨s1, h1, _, rfl⟩ := claimOnlyBoostedPayment_spec h
  exact (claimBoostedYields_lv h1 : lv s1 = lv s)

theorem compoundMove_lv {s s' : St} {b bo : Nat} (h : compoundMove s b bo = some s') : lv s' = lv s := by
  obtain ⟨_, rfl⟩ := compoundMove_spec h; rfl

theorem generate_ok_lv {s t : St} (c : Cache) (hI : PoolInv s) (h : lv t = lv s) :
    ∃ r : St × Cache, generate t c = some r := by
  have he : t.epoch = s.epoch := congrArg LV.epoch h
  have hf : t.firstWeekStart = s.firstWeekStart := congrArg LV.fws h
  have hp : t.pct = s.pct := congrArg LV.pct h
  obtain ⟨s1, c1, h1⟩ := generate_ok (s := t) c (by rw [he, hf]; exact hI.time) (by rw [hp]; exact hI.pct)
  exact ⟨(s1, c1), h1⟩

theorem updateEnergyAndProgress_ok {s : St} {W : Nat} (hP : PM s W) (hWI : WInv s) (u : Nat) :
    ∃ s', updateEnergyAndProgress s u = some s' := by
  have hWk : s.week = some W := hP.week
  obtain ⟨g1, hg1⟩ := Option.isSome_iff_exists.mp
    (weekly_update_ok hP hWI u (Energy.queried (s.energy u) s.epoch))
  simp only [updateEnergyAndProgress, hWk, Weekly.updateEnergyAndProgress_iff.mpr ⟨g1, hg1, rfl⟩, Option.bind_eq_bind,
    Option.bind_some, Option.pure_def]
  exact ⟨_, rfl⟩

/-- `claim_only_boosted_payment` (enter, merge): `reward_reserve −= boosted` does not underflow.
    The accounting facts are three hypotheses, not `Acct s`: `enterCore_ok` has them for
    `addFarming s0 amt`, where `Acct.prin` fails -/
theorem claimOnly_ok {s : St} {W : Nat} (hI : PoolInv s) (hres : s.reserve + s.paid = s.generated)
    (hsplit : s.paid = s.paidBase + s.paidBoosted) (hpb : s.paidBase ≤ s.baseBudget)
    (hP : PM s W) (hWI : WInv s) (hWP : WeekPos s) (u : Nat) :
    ∃ r : St × Nat, claimOnlyBoostedPayment s u = some r := by
  obtain ⟨⟨s1, r⟩, hb⟩ := Option.isSome_iff_exists.mp (claimBoostedYields_ok hP hWI hWP u)
  have hle : r ≤ s.reserve := boosted_le_of_cov hI (cov_of_gen hI hres hsplit) hpb hb
  have e1 : av s1 = av s := claimBoostedYields_av hb
  have hr1 : s1.reserve = s.reserve := congrArg AV.reserve e1
  simp only [claimOnlyBoostedPayment, hb, Option.bind_eq_bind, Option.bind_some, Option.pure_def]
  split
  · exact ⟨_, rfl⟩
  · simp only [sub?_pos (hr1 ▸ hle), Option.bind_some]
    exact ⟨_, rfl⟩

theorem Good.dom {s : St} {W : Nat} (hG : Good s W) (u : Nat) :
    ∀ m, s.hold u m ≠ 0 → (s.attrs m).isSome := fun m hm => (hG.pos.dom u m hm).2.2

theorem Good.pays {s : St} {W u : Nat} {l : List (Nat × Nat)} (hG : Good s W)
    (h : payable (s.hold u) l = true) : (takePayments s u l).isSome = true :=
  takePayments_ok l (hG.dom u) h

theorem Good.payer {s : St} {W u : Nat} {pays : List (Nat × Nat)} (hG : Good s W) (hne : pays ≠ [])
    (h0 : (takePayments s u pays).isSome = true) : u ∈ s.users := by
  cases pays with
  | nil => exact absurd rfl hne
  | cons p rest =>
    obtain ⟨n, a⟩ := p
    obtain ⟨s0, h0⟩ := Option.isSome_iff_exists.mp h0
    obtain ⟨ha, _, hle⟩ := takePayments_cons h0
    exact (hG.pos.dom u n (by omega)).1

theorem Good.pays_single {s : St} {W u n a : Nat} (hG : Good s W) :
    (takePayments s u [(n, a)]).isSome = true ↔ a ≠ 0 ∧ a ≤ s.hold u n := by
  constructor
  · intro h
    obtain ⟨s0, h0⟩ := Option.isSome_iff_exists.mp h
    obtain ⟨ha, _, hle⟩ := takePayments_cons h0
    exact ⟨ha, hle⟩
  · rintro ⟨ha, hle⟩
    rw [takePayments_single ha (hG.dom u n (by omega)) hle]; rfl

theorem claimBoostedRewards_ok {s : St} {W u : Nat} {opt : Option Nat} (hG : Good s W)
    (hu : opt.getD u = u) (hact : s.active = true) (htot : s.userTotal u ≠ 0) :
    (claimBoostedRewards s u opt).isSome = true := by
  unfold claimBoostedRewards
  simp only [hu]
  refine isSome_bind (a := ()) (req_pos trivial) ?_
  refine isSome_bind (a := ()) (req_pos htot) ?_
  refine isSome_bind (a := ()) (req_pos hact) ?_
  refine isSome_bind' (generate_ok_lv (Cache.read s) hG.pool rfl) (fun r h1 => ?_)
  obtain ⟨s1, c1⟩ := r
  have b1 := (generate_move (d := 0) h1).1.budget hG.budget
  refine isSome_bind' (Option.isSome_iff_exists.mp (claimBoostedYields_ok b1.pm b1.wi b1.wp u)) (fun r h2 => ?_)
  obtain ⟨s2, boosted⟩ := r
  have hres := boosted_le_reserve hG.acct hG.pos hG.pot hG.pool hG.dsc h1 h2
  refine isSome_bind (sub?_pos hres) ?_
  have l2 : lv s2 = lv s := (claimBoostedYields_lv h2).trans (generate_lv h1)
  have x2 : xv s2 = xv s := (claimBoostedYields_xv h2).trans (generate_xv h1)
  refine isSome_bind' (setFarmSupplyWeek_ok (s := s2) _ ((claim_move (d := 0) h2).1.budget b1).week) (fun s3 h3 => ?_)
  have l3 : lv s3 = lv s := (setFarmSupplyWeek_lv h3).trans l2
  have x3 : xv s3 = xv s := (setFarmSupplyWeek_xv h3).trans x2
  have v3 : av s3 = av s1 := (setFarmSupplyWeek_av h3).trans (claimBoostedYields_av h2)
  have k3 : s3.kind = s.kind := congrArg LV.kind l3
  refine isSome_bind' (payReward_ok (s := s3) u 0 boosted (fun hk => ?_) ((congrArg XV.lockEpochs x3).trans hG.x.2.2))
    (fun s4 _ => rfl)
  have q3 : s3.balReward = s1.balReward := congrArg AV.balReward v3
  rw [q3, balReward_eq_reserve hG.acct (k3.symm.trans hk) h1, Nat.zero_add]
  exact hres

theorem pays_attrs {s t : St} (hX : XInv s) (hx : xv t = xv s) {l : List (Nat × Nat)}
    (hmem : ∀ p ∈ l, p.2 ≠ 0 ∧ (s.attrs p.1).isSome) :
    ∀ p ∈ l, p.2 ≠ 0 ∧ ∃ att, t.attrs p.1 = some att ∧ att.amt ≠ 0 := by
  intro p hp
  obtain ⟨h1, h2⟩ := hmem p hp
  obtain ⟨att, hat⟩ := Option.isSome_iff_exists.mp h2
  have : t.attrs = s.attrs := congrArg XV.attrs hx
  exact ⟨h1, att, by rw [this]; exact hat, (hX.1 _ att hat).1⟩

theorem pays_some {s t : St} (hx : xv t = xv s) {l : List (Nat × Nat)}
    (hmem : ∀ p ∈ l, p.2 ≠ 0 ∧ (s.attrs p.1).isSome) : ∀ p ∈ l, (t.attrs p.1).isSome := by
  intro p hp
  have : t.attrs = s.attrs := congrArg XV.attrs hx
  rw [this]; exact (hmem p hp).2

theorem payRewardIf_ok_p {s : St} (k : Kind) (u base boosted : Nat)
    (hbal : s.kind = .mint → s.kind = k → base + boosted ≤ s.balReward) (hl : s.lockEpochs = 360) :
    ∃ s', payRewardIf s k u base boosted = some s' := by
  unfold payRewardIf
  split
  · rename_i hk
    exact payReward_ok u base boosted (fun hm => hbal hm hk) hl
  · exact ⟨s, rfl⟩

/-- `c` sends the payments and receives the new token, `o` is the user the call acts for (the
    boosted claim and its payment are his) -/
theorem mergeFarmTokens_ok {s : St} {W c o : Nat} {opt : Option Nat} {pays : List (Nat × Nat)}
    (hG : Good s W) (ho : origCaller s c opt = some o) (hact : s.active = true) (hne : pays ≠ [])
    (hpay : (takePayments s c pays).isSome = true) : (mergeFarmTokens s c opt pays).isSome = true := by
  unfold mergeFarmTokens
  refine isSome_bind (a := ()) (req_pos hact) ?_
  refine isSome_bind ho ?_
  refine isSome_bind (a := ()) (req_pos hne) ?_
  refine isSome_bind' (Option.isSome_iff_exists.mp hpay) (fun s0 h0 => ?_)
  have hmem := (takePayments_accepted _ hpay).2
  have x0 : xv s0 = xv s := takePayments_xv h0
  have l0 : lv s0 = lv s := takePayments_lv h0
  have v0 : av s0 = av s := takePayments_av h0
  have e0 := takePayments_wk h0
  have b0 : (wk s0).Budget W := e0 ▸ hG.budget
  have i0 : PoolInv s0 := (e0 ▸ hG.pool.toD : (wk s0).Pool 0).toInv
  have hbb : s0.baseBudget = s.baseBudget := congrArg WkV.baseBudget e0
  have hA0 : Acct s0 := hG.acct.of_eq v0 (congrArg LV.kind l0)
  have hpb0 : s0.paidBase ≤ s0.baseBudget := by
    have e : s0.paidBase = s.paidBase := congrArg AV.paidBase v0
    rw [e, hbb]; exact hG.pot.paidBase_le hG.dsc
  refine isSome_bind' (claimOnly_ok i0 hA0.res hA0.split hpb0 b0.pm b0.wi b0.wp o) (fun r h1 => ?_)
  obtain ⟨s1, boosted⟩ := r
  obtain ⟨hle1, v1⟩ := claimOnlyBoostedPayment_av h1
  have x1 : xv s1 = xv s := (claimOnlyBoostedPayment_xv h1).trans x0
  have l1 : lv s1 = lv s := (claimOnlyBoostedPayment_lv h1).trans l0
  refine isSome_bind' (checkAndUpdate_ok_p pays o (pays_some x1 hmem)) (fun s2 h2 => ?_)
  have x2 : xv s2 = xv s := (checkAndUpdate_xv h2).trans x1
  have l2 : lv s2 = lv s := (checkAndUpdate_lv h2).trans l1
  have v2 : av s2 = av s1 := checkAndUpdate_av h2
  refine isSome_bind' (mergeAll_ok hne (pays_attrs hG.x x2 hmem)) (fun merged hm => ?_)
  have hma : merged.amt ≠ 0 := by
    rw [mergeAll_amt hm]; exact paySum_pos hne (fun p hp => (hmem p hp).1)
  refine isSome_bind' (createToken_ok (s := s2) c (a := { merged with owner := o }) hma) (fun r h3 => ?_)
  obtain ⟨s3, n3⟩ := r
  have x3l : s3.lockEpochs = s.lockEpochs :=
    (congrArg Fixed.lockEpochs (createToken_fixed h3)).trans (congrArg XV.lockEpochs x2)
  have l3 : lv s3 = lv s := (createToken_lv h3).trans l2
  have v3 : av s3 = av s1 := (createToken_av h3).trans v2
  have k3 : s3.kind = s.kind := congrArg LV.kind l3
  refine isSome_bind' (payReward_ok (s := s3) o 0 boosted (fun hk => ?_) (x3l.trans hG.x.2.2))
    (fun s4 _ => rfl)
  have q3 : s3.balReward = s0.balReward := congrArg AV.balReward (v3.trans v1)
  rw [Nat.zero_add, q3, hA0.bal ((congrArg LV.kind l0).trans (k3.symm.trans hk))]
  exact hle1

/-- any payer `c`, any user `o` the position is recorded for (the boosted claim on the way is his),
    any receiver `t` of the new token -/
theorem enterCore_ok {s : St} {W c o t amt : Nat} {extra : List (Nat × Nat)} (hG : Good s W)
    (hact : s.active = true) (hamt : amt ≠ 0) (hpay : (takePayments s c extra).isSome = true) :
    (enterCore s c o t amt extra).isSome = true := by
  unfold enterCore
  refine isSome_bind (a := ()) (req_pos hamt) ?_
  refine isSome_bind' (Option.isSome_iff_exists.mp hpay) (fun s0 h0 => ?_)
  have hmem := (takePayments_accepted _ hpay).2
  have x0 : xv s0 = xv s := takePayments_xv h0
  have l0 : lv s0 = lv s := takePayments_lv h0
  have v0 : av s0 = av s := takePayments_av h0
  have e0 := takePayments_wk h0
  have b0 : (wk (addFarming s0 amt)).Budget W := (e0 ▸ hG.budget : (wk s0).Budget W)
  have i0 : PoolInv (addFarming s0 amt) := WkV.Pool.toInv (e0 ▸ hG.pool.toD : (wk s0).Pool 0)
  have hbb : s0.baseBudget = s.baseBudget := congrArg WkV.baseBudget e0
  have hA0 : Acct s0 := hG.acct.of_eq v0 (congrArg LV.kind l0)
  have hpb0 : s0.paidBase ≤ s0.baseBudget := by
    have e : s0.paidBase = s.paidBase := congrArg AV.paidBase v0
    rw [e, hbb]; exact hG.pot.paidBase_le hG.dsc
  refine isSome_bind' (claimOnly_ok i0 hA0.res hA0.split hpb0 b0.pm b0.wi b0.wp o) (fun r h1 => ?_)
  obtain ⟨s1, boosted⟩ := r
  obtain ⟨hle1, v1⟩ := claimOnlyBoostedPayment_av h1
  have hle1' : boosted ≤ s0.reserve := hle1
  have x1 : xv s1 = xv s := (claimOnlyBoostedPayment_xv h1).trans (x0 : xv (addFarming s0 amt) = xv s)
  have l1 : lv s1 = lv s := (claimOnlyBoostedPayment_lv h1).trans (l0 : lv (addFarming s0 amt) = lv s)
  obtain ⟨m1, st1⟩ := claimOnly_move (d := 0) h1
  have b1 := m1.budget b0
  refine isSome_bind' (payRewardIf_ok_p (s := s1) .noMint o 0 boosted
    (fun hm hk => by rw [hm] at hk; cases hk) ((congrArg XV.lockEpochs x1).trans hG.x.2.2)) (fun s1' h1' => ?_)
  have x1' : xv s1' = xv s := (payRewardIf_xv h1').trans x1
  have l1' : lv s1' = lv s := (payRewardIf_lv h1').trans l1
  have b1' := (payRewardIf_move (d := 0) h1').budget b1
  refine isSome_bind (a := ()) (req_pos ((congrArg LV.active l1').trans hact)) ?_
  refine isSome_bind' (checkAndUpdate_ok_p extra o (pays_some x1' hmem)) (fun s2 h2 => ?_)
  have x2 : xv s2 = xv s := (checkAndUpdate_xv h2).trans x1'
  have l2 : lv s2 = lv s := (checkAndUpdate_lv h2).trans l1'
  have v2 : av s2 = av s1' := checkAndUpdate_av h2
  obtain ⟨m2, st2⟩ := checkAndUpdate_move (d := 0) (payRewardIf_settled st1 h1') h2
  have b3 := (increaseUser_move (d := 0) st2 amt).budget (m2.budget b1')
  refine isSome_bind' (generate_ok_lv (t := increaseUser s2 o amt) (Cache.read s1') hG.pool l2)
    (fun r h4 => ?_)
  obtain ⟨s4, c1⟩ := r
  have x4 : xv s4 = xv s := (generate_xv h4).trans (x2 : xv (increaseUser s2 o amt) = xv s)
  have l4 : lv s4 = lv s := (generate_lv h4).trans (l2 : lv (increaseUser s2 o amt) = lv s)
  have b4 := (generate_move (d := 0) h4).1.budget b3
  refine isSome_bind' (mergeParts_ok_p extra _ (pays_attrs hG.x x4 hmem)) (fun merged hm => ?_)
  have hma : merged.amt ≠ 0 := by
    rw [(mergeParts_amt extra hm).1]
    show amt + paySum extra ≠ 0
    omega
  refine isSome_bind' (createToken_ok (s := s4) t hma) (fun r h5 => ?_)
  obtain ⟨s5, n5⟩ := r
  have l5 : lv s5 = lv s := (createToken_lv h5).trans l4
  have lk5 : s5.lockEpochs = s.lockEpochs :=
    (congrArg Fixed.lockEpochs (createToken_fixed h5)).trans (congrArg XV.lockEpochs x4)
  have b5 : (wk s5).Budget W := createToken_wk h5 ▸ b4
  refine isSome_bind' (setFarmSupplyWeek_ok (s := s5) _ b5.week) (fun s6 h6 => ?_)
  have l6 : lv s6 = lv s := (setFarmSupplyWeek_lv h6).trans l5
  have lk6 : s6.lockEpochs = s.lockEpochs := (congrArg Fixed.lockEpochs (setFarmSupplyWeek_fixed h6)).trans lk5
  have b7 := (record_move (d := 0) h6 { c1 with supply := c1.supply + amt } rfl).budget b5
  have v6 : av s6 = av s4 := (setFarmSupplyWeek_av h6).trans (createToken_av h5)
  have v4 := (generate_av h4).1
  obtain ⟨xx, br, hxx, v1', hm1, hn1⟩ := payRewardIf_av h1'
  refine isSome_bind' (payRewardIf_ok_p (s := Cache.drop s6 _) .mint o 0 boosted (fun hk _ => ?_)
    (lk6.trans hG.x.2.2)) (fun s8 h8 => ?_)
  · -- the reward tokens that covered the reserve before the boosted part was taken out of it are
    -- still there: a minting farm pays nothing before this point
    have hk' : s6.kind = .mint := hk
    have hks : s.kind = .mint := (congrArg LV.kind l6).symm.trans hk'
    have hk1 : s1.kind = .mint := (congrArg LV.kind l1).trans hks
    have hk2 : (increaseUser s2 o amt).kind = .mint := (congrArg LV.kind l2).trans hks
    obtain ⟨_, hbr⟩ := hm1 hk1
    have hx0 : xx = 0 := by
      rcases hxx with ⟨_, hk⟩ | ⟨h, _⟩
      · rw [hk1] at hk; cases hk
      · exact h
    have q6 : s6.balReward = s4.balReward := congrArg AV.balReward v6
    have q4 : s4.balReward = s2.balReward + minted (increaseUser s2 o amt) := by
      have := congrArg AV.balReward v4
      simp only [av, if_pos hk2] at this
      exact this
    have q2 : s2.balReward = s1'.balReward := congrArg AV.balReward v2
    have q1' : s1'.balReward = br := congrArg AV.balReward v1'
    have q1 : s1.balReward = s0.balReward := congrArg AV.balReward v1
    show 0 + boosted ≤ s6.balReward
    rw [Nat.zero_add, q6, q4, q2, q1', hbr, hx0, Nat.sub_zero, q1, hA0.bal ((congrArg LV.kind l0).trans hks)]
    exact Nat.le_trans hle1' (Nat.le_add_right _ _)
  · have b8 := (payRewardIf_move (d := 0) h8).budget b7
    refine isSome_bind' (updateEnergyAndProgress_ok b8.pm b8.wi o) (fun s9 _ => rfl)

theorem compoundMove_ok {s : St} {b bo : Nat} (h : b + bo ≤ s.balReward) :
    ∃ s', compoundMove s b bo = some s' := by
  simp only [compoundMove, sub?_pos h, Option.bind_eq_bind, Option.bind_some, Option.pure_def]
  exact ⟨_, rfl⟩

/-- the common end of `claim_rewards_base` / `compound_rewards_base` (create the new position, record
    the week's farm supply, write the cache back, pay or compound the reward), shared by the two
    branches of `claimCore_ok` -/
theorem claim_finish {s s4 : St} {W c o base boosted : Nat} {merged : Attr} (c2 : Cache) {cmp : Bool}
    (l4 : lv s4 = lv s) (lk4 : s4.lockEpochs = 360) (b4 : (wk s4).Budget W)
    (hma : merged.amt ≠ 0) (hbal : s.kind = .mint → base + boosted ≤ s4.balReward)
    (hcmp : cmp = true → s.kind = .mint) :
    ∃ r : St × Nat, createToken s4 c merged = some r ∧
      ∃ s6, setFarmSupplyWeek r.1 c2.supply = some s6 ∧
        ∃ s8, claimTail (Cache.drop s6 c2) cmp o base boosted = some s8 := by
  obtain ⟨⟨s5, n5⟩, h5⟩ := createToken_ok (s := s4) c hma
  have l5 : lv s5 = lv s := (createToken_lv h5).trans l4
  have lk5 : s5.lockEpochs = 360 := (congrArg Fixed.lockEpochs (createToken_fixed h5)).trans lk4
  have b5 : (wk s5).Budget W := createToken_wk h5 ▸ b4
  obtain ⟨s6, h6⟩ := setFarmSupplyWeek_ok (s := s5) c2.supply b5.week
  have l6 : lv s6 = lv s := (setFarmSupplyWeek_lv h6).trans l5
  have lk6 : s6.lockEpochs = 360 := (congrArg Fixed.lockEpochs (setFarmSupplyWeek_fixed h6)).trans lk5
  have b7 := (record_move (d := 0) h6 c2 rfl).budget b5
  have v6 : av s6 = av s4 := (setFarmSupplyWeek_av h6).trans (createToken_av h5)
  have b6 : s6.balReward = s4.balReward := congrArg AV.balReward v6
  have k6 : s6.kind = s.kind := congrArg LV.kind l6
  refine ⟨(s5, n5), h5, s6, h6, ?_⟩
  cases cmp with
  | false =>
    exact payReward_ok (s := Cache.drop s6 c2) o base boosted
      (fun hk => by
        have hk' : s6.kind = .mint := hk
        show base + boosted ≤ s6.balReward
        rw [b6]; exact hbal (k6.symm.trans hk'))
      lk6
  | true =>
    have hks := hcmp rfl
    obtain ⟨s7, h7⟩ := compoundMove_ok (s := Cache.drop s6 c2) (b := base) (bo := boosted)
      (by show base + boosted ≤ s6.balReward; rw [b6]; exact hbal hks)
    have b8 := (compoundMove_move (d := 0) h7).budget b7
    obtain ⟨s8, h8⟩ := updateEnergyAndProgress_ok b8.pm b8.wi o
    refine ⟨s8, ?_⟩
    show (compoundMove (Cache.drop s6 c2) base boosted).bind (fun s1 => updateEnergyAndProgress s1 o) = some s8
    rw [h7]; exact h8

/-- `c` sends the payments and receives the new token, `o` is the user the rewards are computed for
    and paid to.  `hcmp`: `sameTok` is the `require!` of `compound_rewards_base`; `kind = .mint`
    because only dex/farm has the endpoint (`compoundRewards` checks it) -/
theorem claimCore_ok {s : St} {W c o n a : Nat} {rest : List (Nat × Nat)} {cmp : Bool} (hG : Good s W)
    (hact : s.active = true) (hpay : (takePayments s c ((n, a) :: rest)).isSome = true)
    (hcmp : cmp = true → s.sameTok = true ∧ s.kind = .mint) :
    (claimCore s c o ((n, a) :: rest) cmp).isSome = true := by
  unfold claimCore
  refine isSome_bind (a := (n, a)) rfl ?_
  refine isSome_bind' (Option.isSome_iff_exists.mp hpay) (fun s0 h0 => ?_)
  have hmem := (takePayments_accepted _ hpay).2
  obtain ⟨ha, hsome, hle⟩ := takePayments_cons h0
  obtain ⟨att, hat⟩ := Option.isSome_iff_exists.mp hsome
  have x0 : xv s0 = xv s := takePayments_xv h0
  have l0 : lv s0 = lv s := takePayments_lv h0
  have v0 : av s0 = av s := takePayments_av h0
  have hat0 : s0.attrs n = some att := by
    have : s0.attrs = s.attrs := congrArg XV.attrs x0
    rw [this]; exact hat
  refine isSome_bind (a := ()) (req_pos ((congrArg LV.active l0).trans hact)) ?_
  refine isSome_bind (a := ()) (req_pos (fun hc => (congrArg LV.sameTok l0).trans (hcmp hc).1)) ?_
  refine isSome_bind hat0 ?_
  refine isSome_bind' (generate_ok_lv (Cache.read s0) hG.pool l0) (fun r h1 => ?_)
  obtain ⟨s1, c1⟩ := r
  obtain ⟨hamt, _⟩ := hG.x.1 n att hat
  refine isSome_bind' (intoPart_ok a hamt) (fun part hpart => ?_)
  obtain ⟨p1, p2, _⟩ := intoPart_spec hpart
  have b1 := (generate_move (d := 0) h1).1.budget (takePayments_wk h0 ▸ hG.budget)
  refine isSome_bind' (Option.isSome_iff_exists.mp (claimBoostedYields_ok b1.pm b1.wi b1.wp o)) (fun r h2 => ?_)
  obtain ⟨s2, boosted⟩ := r
  have hres := reward_le_reserve hG.acct hG.pos hG.pot hG.pool hG.dsc h0 h1 hat h2
  rw [← p2] at hres
  generalize baseReward s1.dsc c1.rps a part.rps = B at hres ⊢
  refine isSome_bind (sub?_pos hres) ?_
  obtain ⟨m2, st2⟩ := claim_move (d := 0) h2
  have x2 : xv s2 = xv s := (claimBoostedYields_xv h2).trans ((generate_xv h1).trans x0)
  have l2 : lv s2 = lv s := (claimBoostedYields_lv h2).trans ((generate_lv h1).trans l0)
  refine isSome_bind' (checkAndUpdate_ok_p _ o (pays_some x2 hmem)) (fun s3 h3 => ?_)
  obtain ⟨m3, st3⟩ := checkAndUpdate_move (d := 0) st2 h3
  have b3 := m3.budget (m2.budget b1)
  have x3 : xv s3 = xv s := (checkAndUpdate_xv h3).trans x2
  have l3 : lv s3 = lv s := (checkAndUpdate_lv h3).trans l2
  have lk3 : s3.lockEpochs = 360 := (congrArg XV.lockEpochs x3).trans hG.x.2.2
  have hmem' : ∀ p ∈ rest, p.2 ≠ 0 ∧ (s.attrs p.1).isSome :=
    fun p hp => hmem p (List.mem_cons_of_mem _ hp)
  have v3 : av s3 = av s1 := (checkAndUpdate_av h3).trans (claimBoostedYields_av h2)
  have hbal : s.kind = .mint → B + boosted ≤ s3.balReward := by
    intro hk
    have k0 : s0.kind = s.kind := congrArg LV.kind l0
    have q3 : s3.balReward = s1.balReward := congrArg AV.balReward v3
    rw [q3, balReward_eq_reserve (hG.acct.of_eq v0 k0) (k0.trans hk) h1]
    exact hres
  refine isSome_bind' (mergeParts_ok_p rest _ (pays_attrs hG.x x3 hmem')) (fun merged hm => ?_)
  have hma := (mergeParts_amt rest hm).1
  have hpa : 0 < part.amt := by rw [p1]; exact Nat.pos_of_ne_zero ha
  cases cmp with
  | false =>
    have hma' : merged.amt ≠ 0 := by
      rw [hma]; exact Nat.ne_of_gt (Nat.lt_of_lt_of_le hpa (Nat.le_add_right part.amt _))
    obtain ⟨⟨s5, n5⟩, h5, s6, h6, s8, h8⟩ := claim_finish (s4 := s3) (c := c) (o := o) (base := B)
      (boosted := boosted) (cmp := false) ⟨c1.reserve - (B + boosted), c1.rps, c1.supply⟩ l3 lk3 b3
      hma' hbal (fun hc => by cases hc)
    refine isSome_bind h5 ?_
    refine isSome_bind h6 ?_
    refine isSome_bind h8 ?_
    rfl
  | true =>
    have hma' : merged.amt ≠ 0 := by
      rw [hma]
      exact Nat.ne_of_gt (Nat.lt_of_lt_of_le hpa (Nat.le_trans (Nat.le_add_right part.amt (B + boosted))
        (Nat.le_add_right _ _)))
    have b4 := (increaseUser_move (d := 0) st3 (B + boosted)).budget b3
    obtain ⟨⟨s5, n5⟩, h5, s6, h6, s8, h8⟩ := claim_finish (s4 := increaseUser s3 o (B + boosted)) (c := c)
      (o := o) (base := B) (boosted := boosted) (cmp := true)
      ⟨c1.reserve - (B + boosted), c1.rps, c1.supply + (B + boosted)⟩ l3 lk3 b4 hma' hbal
      (fun _ => (hcmp rfl).2)
    refine isSome_bind h5 ?_
    refine isSome_bind h6 ?_
    refine isSome_bind h8 ?_
    rfl

/-! ### the converse: a call that succeeds met the call-side guards (any state) -/

theorem enterCore_guards {s : St} {c o t amt : Nat} {extra : List (Nat × Nat)} {r : St × Out}
    (h : enterCore s c o t amt extra = some r) :
    s.active = true ∧ amt ≠ 0 ∧ (takePayments s c extra).isSome = true := by
  obtain ⟨_, _, _, _, _, _, _, x⟩ := enterCore_effect (o := r.2) h
  exact ⟨x.active, x.entered, by rw [takePayments_of_takeHold x.take]; rfl⟩

theorem claimCore_guards {s : St} {c o : Nat} {pays : List (Nat × Nat)} {cmp : Bool} {r : St × Out}
    (h : claimCore s c o pays cmp = some r) :
    s.active = true ∧ pays ≠ [] ∧ (takePayments s c pays).isSome = true ∧ (cmp = true → s.sameTok = true) := by
  obtain ⟨_, _, _, _, _, _, _, _, _, _, _, _, x⟩ := claimCore_effect (o := r.2) h
  refine ⟨x.active, ?_, by rw [takePayments_of_takeHold x.take]; rfl, x.sameTok⟩
  intro hn
  have hhead := x.head
  rw [hn] at hhead
  cases hhead

theorem exitFarm_guards {s : St} {c : Nat} {opt : Option Nat} {n a : Nat} {r : St × Out}
    (h : exitFarm s c opt n a = some r) :
    s.active = true ∧ a ≠ 0 ∧ a ≤ s.hold c n ∧ (opt = none ∨ c ∈ s.scWl) := by
  obtain ⟨_, _, _, _, _, _, _, _, _, x⟩ := exitFarm_effect (o := r.2) h
  obtain ⟨h1, _, h3⟩ := takePayments_cons (takePayments_of_takeHold x.take)
  exact ⟨x.active, h1, h3, origCaller_guard x.orig⟩

theorem mergeFarmTokens_guards {s : St} {c : Nat} {opt : Option Nat} {pays : List (Nat × Nat)}
    {r : St × Out} (h : mergeFarmTokens s c opt pays = some r) :
    s.active = true ∧ pays ≠ [] ∧ (takePayments s c pays).isSome = true ∧ (opt = none ∨ c ∈ s.scWl) := by
  obtain ⟨_, _, _, _, _, _, _, x⟩ := mergeFarmTokens_effect (o := r.2) h
  exact ⟨x.active, x.nonempty, by rw [takePayments_of_takeHold x.take]; rfl, origCaller_guard x.orig⟩

theorem claimBoostedRewards_guards {s : St} {c : Nat} {opt : Option Nat} {r : St × Out}
    (h : claimBoostedRewards s c opt = some r) :
    s.active = true ∧ opt.getD c = c ∧ s.userTotal c ≠ 0 := by
  obtain ⟨_, _, _, _, x⟩ := claimBoostedRewards_effect (o := r.2) h
  exact ⟨x.active, x.user, x.position⟩

end Plain
end Mx.Farm
