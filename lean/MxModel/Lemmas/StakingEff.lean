/-
  The accounting effect `Eff s s'` of one successful transaction of the staking model, proved
  for every endpoint.  All C12 / C05 accounting theorems are consequences of `Eff`.
-/
import MxModel.Lemmas.StakingSpec

namespace Mx.Staking

/-- What a successful transaction does to the accounting cells:
    * `tot` is accrued — either nothing, or exactly `genTot s` (one `generate` under the
      pre-state's configuration), of which `cut` goes to the boosted pool of the week and the
      rest raises the index by `inc = ⌊(tot − cut)·dsc/supply⌋` (nothing at zero supply); a
      `generate` moves `lastBlock` to the current block;
    * `pb` / `pbo` base / boosted rewards are paid out of the reserve (or compounded);
    * the capacity moves by an admin top-up `up` or a withdrawal `down` that fits into the
      capacity not yet accrued AFTER settling;
    * the contract's balance moves with principal, unbond tokens, capacity and payouts. -/
def Eff (s s' : St) : Prop :=
  ∃ tot cut inc pb pbo up down : Nat,
    ((tot = 0 ∧ cut = 0 ∧ inc = 0 ∧ (s'.lastBlock = s.lastBlock ∨ s'.lastBlock = s.block)) ∨
     (s.accumulated ≤ s.capacity ∧ tot = genTot s ∧ cut = genCut s tot ∧
        inc = rpsInc s.dsc (tot - cut) s.supply ∧ s'.lastBlock = max s.lastBlock s.block)) ∧
    cut ≤ tot ∧
    s'.accumulated = s.accumulated + tot ∧
    s'.baseBudget = s.baseBudget + (tot - cut) ∧
    s'.boostedBudget = s.boostedBudget + cut ∧
    s'.paidBase = s.paidBase + pb ∧
    s'.paidBoosted = s.paidBoosted + pbo ∧
    s'.reserve + pb + pbo = s.reserve + tot ∧
    s'.capacity + down = s.capacity + up ∧
    (down = 0 ∨ (up = 0 ∧ s.accumulated + tot + down ≤ s.capacity)) ∧
    (s'.bal : Int) + s'.virt - s'.supply - s'.unbondOut
      = (s.bal : Int) + s.virt - s.supply - s.unbondOut + up - down - pb - pbo ∧
    (s.boostedPct ≤ MAX_PERCENT → s'.boostedPct ≤ MAX_PERCENT) ∧
    s'.firstWeek = s.firstWeek ∧ s.epoch ≤ s'.epoch ∧
    s'.rps = s.rps + inc ∧ s'.dsc = s.dsc ∧ s.block ≤ s'.block

/-- a transaction that settles (`generate` under the pre-state configuration), pays `pb` base and
    `pbo` boosted rewards out of the reserve and withdraws `down` from the capacity; every cell is
    given by its own equation, and for a concrete endpoint most of them hold by `rfl` -/
theorem Eff.of_settle {s s' : St} (pb pbo down : Nat)
    (ha : s.accumulated ≤ s.capacity) (hc : genCut s (genTot s) ≤ genTot s)
    (hle : pb + pbo ≤ s.reserve + genTot s)
    (hbal : (s'.bal : Int) + s'.virt - s'.supply - s'.unbondOut
      = (s.bal : Int) + s.virt - s.supply - s.unbondOut - down - pb - pbo)
    (hdown : down = 0 ∨ s.accumulated + genTot s + down ≤ s.capacity := by exact Or.inl rfl)
    (hpct : s.boostedPct ≤ MAX_PERCENT → s'.boostedPct ≤ MAX_PERCENT := by exact id)
    (hres : s'.reserve = s.reserve + genTot s - (pb + pbo) := by rfl)
    (hcap : s'.capacity = s.capacity - down := by rfl)
    (hpb : s'.paidBase = s.paidBase + pb := by rfl)
    (hpbo : s'.paidBoosted = s.paidBoosted + pbo := by rfl)
    (hlast : s'.lastBlock = max s.lastBlock s.block := by rfl)
    (hacc : s'.accumulated = s.accumulated + genTot s := by rfl)
    (hbase : s'.baseBudget = s.baseBudget + (genTot s - genCut s (genTot s)) := by rfl)
    (hboost : s'.boostedBudget = s.boostedBudget + genCut s (genTot s) := by rfl)
    (hfw : s'.firstWeek = s.firstWeek := by rfl) (hep : s'.epoch = s.epoch := by rfl)
    (hrps : s'.rps = (genCache s s.cache).rps := by rfl) (hdsc : s'.dsc = s.dsc := by rfl)
    (hblk : s'.block = s.block := by rfl) : Eff s s' := by
  refine ⟨genTot s, genCut s (genTot s), rpsInc s.dsc (genTot s - genCut s (genTot s)) s.supply,
    pb, pbo, 0, down, Or.inr ⟨ha, rfl, rfl, rfl, hlast⟩, hc, hacc, hbase, hboost, hpb, hpbo, ?_, ?_, ?_, ?_,
    hpct, hfw, hep.ge, hrps, hdsc, hblk.ge⟩
  · rw [hres, Nat.add_assoc, Nat.sub_add_cancel hle]
  · rw [hcap]
    rcases hdown with rfl | h
    · rfl
    · exact Nat.sub_add_cancel (Nat.le_trans (Nat.le_add_left _ _) h)
  · rcases hdown with rfl | h
    · exact Or.inl rfl
    · exact Or.inr ⟨rfl, h⟩
  · rw [hbal]
    simp

/-- a transaction that does not settle: it pays `pbo` boosted rewards out of the reserve and tops
    the capacity up by `up` -/
theorem Eff.of_quiet {s s' : St} (pbo up : Nat) (hle : pbo ≤ s.reserve)
    (hbal : (s'.bal : Int) + s'.virt - s'.supply - s'.unbondOut
      = (s.bal : Int) + s.virt - s.supply - s.unbondOut + up - pbo)
    (hlast : s'.lastBlock = s.lastBlock ∨ s'.lastBlock = s.block := by exact Or.inl rfl)
    (hep : s.epoch ≤ s'.epoch := by exact Nat.le_refl _)
    (hblk : s.block ≤ s'.block := by exact Nat.le_refl _)
    (hres : s'.reserve = s.reserve - pbo := by rfl)
    (hcap : s'.capacity = s.capacity + up := by rfl)
    (hpbo : s'.paidBoosted = s.paidBoosted + pbo := by rfl)
    (hpb : s'.paidBase = s.paidBase := by rfl)
    (hacc : s'.accumulated = s.accumulated := by rfl)
    (hbase : s'.baseBudget = s.baseBudget := by rfl)
    (hboost : s'.boostedBudget = s.boostedBudget := by rfl)
    (hpct : s'.boostedPct = s.boostedPct := by rfl) (hfw : s'.firstWeek = s.firstWeek := by rfl)
    (hrps : s'.rps = s.rps := by rfl) (hdsc : s'.dsc = s.dsc := by rfl) : Eff s s' := by
  refine ⟨0, 0, 0, 0, pbo, up, 0, Or.inl ⟨rfl, rfl, rfl, hlast⟩, Nat.le_refl _, hacc, hbase, hboost,
    hpb, hpbo, ?_, hcap, Or.inl rfl, ?_, fun h => hpct ▸ h, hfw, hep, hrps, hdsc, hblk⟩
  · rw [hres]
    exact Nat.sub_add_cancel hle
  · rw [hbal]
    simp

theorem stakeCore_eff {s s' : St} {c orig amount : Nat} {v : Bool} {adds : List Pay} {o : Out}
    (h : stakeCore s c orig amount v adds = some (s', o)) : Eff s s' := by
  obtain ⟨hold0, r, ut1, merged, w2, t⟩ := stakeCore_trace h
  obtain rfl := t.state
  have hres := t.reserve
  have hbal := t.bal
  refine Eff.of_settle 0 r.2.2 0 t.capacity t.cut (by omega) ?_ (hres := ?_)
  · show (((if v then s.bal else s.bal + amount) - r.2.2 : Nat) : Int)
        + (if v then s.virt + (amount : Int) else s.virt) - ((s.supply + amount : Nat) : Int)
        - s.unbondOut = _
    cases v
    · rw [if_neg Bool.false_ne_true] at hbal
      simp only [Bool.false_eq_true, if_false]
      omega
    · simp only [if_true] at hbal ⊢
      omega
  · show s.reserve - r.2.2 + genTot s = s.reserve + genTot s - (0 + r.2.2)
    omega

theorem claimBase_spec {s : St} {c orig : Nat} {pays : List Pay} {m : ClaimMid}
    (h : claimBase s c orig pays = some m) :
    s.accumulated ≤ s.capacity ∧ genCut s (genTot s) ≤ genTot s ∧
    m.s1 = genSt s ∧ m.c1 = genCache s s.cache := by
  obtain ⟨_, _, _, _, _, _, _, b⟩ := claimBase_trace h
  obtain rfl := b.mid
  exact ⟨b.capacity, b.cut, rfl, rfl⟩

theorem claimCore_eff {s s' : St} {c orig : Nat} {pays : List Pay} {nv : Option Nat} {o : Out}
    (h : claimCore s c orig pays nv = some (s', o)) : Eff s s' := by
  obtain ⟨hold0, p, first, tok, r, ut1, merged, supply1, ut2, w2, t⟩ := claimCore_trace h
  obtain rfl := t.state
  have hbal := t.bal
  have hs := t.newSupply
  refine Eff.of_settle (baseReward (genCache s s.cache) s.dsc p.2 tok) r.2.2 0 t.capacity t.cut
    t.reserve ?_
  generalize baseReward (genCache s s.cache) s.dsc p.2 tok = base at hbal ⊢
  show ((s.bal - (base + r.2.2) : Nat) : Int)
      + (s.virt + ((nv.getD merged.amount : Nat) : Int) - (merged.amount : Int)) - (supply1 : Int)
      - s.unbondOut = _
  have := newSupply_spec hs
  omega

theorem unstakeCore_eff {s s' : St} {c orig : Nat} {pay : Pay} {x : Option Nat} {o : Out}
    (h : unstakeCore s c orig pay x = some (s', o)) : Eff s s' := by
  obtain ⟨hold0, attrs, tok, r, w2, t⟩ := unstakeCore_trace h
  obtain rfl := t.state
  have hsup := t.supply
  have hbal := t.bal
  refine Eff.of_settle (baseReward (genCache s s.cache) s.dsc pay.2 tok) r.2.2 0 t.capacity t.cut
    t.reserve ?_
  generalize baseReward (genCache s s.cache) s.dsc pay.2 tok = base at hbal ⊢
  show ((s.bal + x.getD 0 - (base + r.2.2) : Nat) : Int)
      + (if x.isSome then s.virt - (tok.amount : Int) else s.virt)
      - ((s.supply - tok.amount : Nat) : Int) - (s.unbondOut + ((x.getD tok.amount : Nat) : Int)) = _
  cases x with
  | none =>
    simp only [Option.getD_none, Option.isSome_none, Bool.false_eq_true, if_false] at hbal ⊢
    omega
  | some y =>
    simp only [Option.getD_some, Option.isSome_some, if_true] at hbal ⊢
    omega

theorem calcRewards_eff {s s' : St} {q : Bool} {amt : Nat} {t : Attrs} {v : Nat}
    (h : calcRewards s q amt t = some (s', v)) : Eff s s' := by
  obtain ⟨r, -, ha, hc, -, rfl, -⟩ := calcRewards_trace h
  refine Eff.of_settle 0 0 0 ha hc (Nat.zero_le _) ?_
  show (s.bal : Int) + s.virt - s.supply - s.unbondOut = _
  omega

theorem step_eff {s s' : St} {op : Op} {o : Out} (h : step s op = some (s', o)) : Eff s s' := by
  cases Step.of_step h with
  | stake _ _ h | stakeProxy _ _ h | stakeBehalf _ _ _ h => exact stakeCore_eff h
  | claim _ _ h | claimNew _ _ h | claimBehalf _ _ _ h => exact claimCore_eff h
  | compound _ h =>
    obtain ⟨hold0, p, first, tok, r, ut1, merged, t⟩ := compound_trace h
    obtain rfl := t.state
    refine Eff.of_settle (baseReward (genCache s s.cache) s.dsc p.2 tok) r.2.2 0 t.capacity t.cut
      t.reserve ?_
    generalize baseReward (genCache s s.cache) s.dsc p.2 tok = base
    show (s.bal : Int) + s.virt - ((s.supply + (base + r.2.2) : Nat) : Int) - s.unbondOut = _
    omega
  | unstake _ _ h | unstakeProxy _ _ h => exact unstakeCore_eff h
  | @unbond _ p _ _ _ _ _ _ _ hbal =>
    refine Eff.of_quiet 0 0 (Nat.zero_le _) ?_
    show ((s.bal - p.2 : Nat) : Int) + s.virt - s.supply - (s.unbondOut - (p.2 : Int)) = _
    omega
  | merge _ h =>
    obtain ⟨hold0, r, p, ut1, first, part, merged, t⟩ := mergeTokens_trace h
    obtain rfl := t.state
    have hbal := t.bal
    refine Eff.of_quiet r.2.2 0 t.reserve ?_
    show ((s.bal - r.2.2 : Nat) : Int) + s.virt - s.supply - s.unbondOut = _
    omega
  | claimBoosted _ h =>
    obtain ⟨r, t⟩ := claimBoostedRewards_trace h
    obtain rfl := t.state
    have hres := t.reserve
    have hbal := t.bal
    refine Eff.of_settle 0 r.2.2 0 t.capacity t.cut (by omega) ?_ (hres := by rw [Nat.zero_add])
    show ((s.bal - r.2.2 : Nat) : Int) + s.virt - s.supply - s.unbondOut = _
    omega
  | @withdraw x ha hc hrem hx hcap hbal =>
    refine Eff.of_settle 0 0 x ha hc (Nat.zero_le _) ?_ (Or.inr (by omega))
    show ((s.bal - x : Nat) : Int) + s.virt - s.supply - s.unbondOut = _
    omega
  | @topUp x _ =>
    refine Eff.of_quiet 0 x (Nat.zero_le _) ?_
    show ((s.bal + x : Nat) : Int) + s.virt - s.supply - s.unbondOut = _
    omega
  | setMaxApr _ ha hc | setPerBlock _ ha hc | endProduce ha hc =>
    refine Eff.of_settle 0 0 0 ha hc (Nat.zero_le _) ?_
    show (s.bal : Int) + s.virt - s.supply - s.unbondOut = _
    omega
  | setBoostedPct hp ha hc =>
    refine Eff.of_settle 0 0 0 ha hc (Nat.zero_le _) ?_ (hpct := fun _ => hp)
    show (s.bal : Int) + s.virt - s.supply - s.unbondOut = _
    omega
  | query | transfer | setEnergy | updateEnergy | setMinUnbond | setFactors | collectNone
  | collectSome | pause | resume | hubWhitelist | hubRemove =>
    refine Eff.of_quiet 0 0 (Nat.zero_le _) ?_
    show (s.bal : Int) + s.virt - s.supply - s.unbondOut = _
    omega
  | startProduce =>
    refine Eff.of_quiet 0 0 (Nat.zero_le _) ?_ (hlast := Or.inr rfl)
    show (s.bal : Int) + s.virt - s.supply - s.unbondOut = _
    omega
  | advance =>
    refine Eff.of_quiet 0 0 (Nat.zero_le _) ?_ (hep := Nat.le_add_right _ _)
      (hblk := Nat.le_add_right _ _)
    show (s.bal : Int) + s.virt - s.supply - s.unbondOut = _
    omega

end Mx.Staking
