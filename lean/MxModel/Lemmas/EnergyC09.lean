/-
  What the endpoints C09 talks about do, in observable terms: `unlockTokens`, the penalty view, the
  unbond queue.  For `cancelUnbond` the locked-token balances per nonce and the caller's energy
  record are given in closed form: the parts of the state that `cancelEntries_supply` and
  `cancelEntries_moved` do not describe exactly.  Last, the stored lock options stay admissible
  along every history, so that the penalty theorems of Props/C09 apply in every reachable state.
-/
import MxModel.Lemmas.EnergyAttrStep
import MxModel.Lemmas.EnergyOpts

namespace Mx.Energy

def paySum (ps : List (Nat × Nat)) : Nat := (ps.map (·.2)).sum

theorem unlockTokens_effect {s s' : St} {c : Nat} {ps : List (Nat × Nat)} {o : Out}
    (h : unlockTokens s c ps = some (s', o)) :
    (∀ p ∈ ps, ∃ u, s.unlockOf p.1 = some u ∧ u ≤ s.epoch ∧ 0 < p.2) ∧
    o = ⟨paySum ps, 0, 0⟩ ∧ s'.base c = s.base c + paySum ps ∧
    s'.baseSupply = s.baseSupply + paySum ps := by
  obtain ⟨s1, e, tot, -, -, hp, -, rfl, rfl⟩ := unlockTokens_spec h
  obtain ⟨rfl, hall⟩ := unlockPays_total ps hp
  obtain ⟨b, rfl⟩ := unlockPays_eq ps hp
  exact ⟨hall, rfl, upd_same _ _ _, rfl⟩

theorem penaltyAmount_spec {opts : List Opt} {amt prev new pen : Nat}
    (h : penaltyAmount opts amt prev new = some pen) :
    0 < prev ∧ new < prev ∧ opts ≠ [] ∧
    ∃ pct, (if new = 0 then pctFull opts prev else pctPartial opts prev new) = some pct ∧
      pen = amt * pct / MAXPCT := by
  unfold penaltyAmount at h
  obtain ⟨h1, h⟩ := peel_req h
  obtain ⟨h2, h⟩ := peel_req h
  obtain ⟨h3, h⟩ := peel_req h
  obtain ⟨pct, h4, h⟩ := peel h
  exact ⟨h1, h2, h3, pct, h4, (Option.some.inj h).symm⟩

theorem claimable_all (now : Nat) (q : List UEntry) : ∀ e ∈ claimable now q, e.unlock ≤ now :=
  fun e he => of_decide_eq_true (List.all_eq_true.mp List.all_takeWhile e (List.mem_of_mem_take he))

theorem claimable_length (now : Nat) (q : List UEntry) : (claimable now q).length ≤ MAXCLAIM := by
  unfold claimable
  rw [List.length_take]
  exact Nat.min_le_left _ _

theorem claimable_prefix (now : Nat) (q : List UEntry) :
    claimable now q ++ q.drop (claimable now q).length = q :=
  List.prefix_iff_eq_append.mp ((List.take_prefix _ _).trans (List.takeWhile_prefix _))

theorem claimUnlocked_effect {s s' : St} {c : Nat} {o : Out} (hc : c ≠ UNSTAKE)
    (h : claimUnlocked s c = some (s', o)) :
    claimable s.epoch (s.queue c) ≠ [] ∧
    s.queue c = claimable s.epoch (s.queue c) ++ s'.queue c ∧
    o = ⟨((claimable s.epoch (s.queue c)).map (·.unlocked)).sum, (claimable s.epoch (s.queue c)).length, 0⟩ ∧
    s'.base c = s.base c + ((claimable s.epoch (s.queue c)).map (·.unlocked)).sum ∧
    s'.baseSupply = s.baseSupply ∧
    s'.penBurned = s.penBurned +
      ((claimable s.epoch (s.queue c)).map (fun q => (q.locked - q.unlocked) * s.burnPct / MAXPCT)).sum ∧
    s'.collected = s.collected +
      ((claimable s.epoch (s.queue c)).map (fun q => (q.locked - q.unlocked) -
        (q.locked - q.unlocked) * s.burnPct / MAXPCT)).sum := by
  obtain ⟨s1, paid, hne, hp, rfl, rfl⟩ := claimUnlocked_spec h
  obtain ⟨-, a2, a3, rfl, -, a6, -⟩ := claimEntries_supply _ hp
  obtain ⟨b, ba, pp, pb, co, rfl⟩ := claimEntries_eq _ hp
  refine ⟨hne, ?_, rfl, ?_, rfl, a2, a3⟩
  · show s.queue c = _ ++ updO s.queue c _ c
    rw [updO_same]
    exact (claimable_prefix s.epoch (s.queue c)).symm
  · show upd ba c (ba c + _) c = _
    rw [upd_same, ← a6 c hc]


/-- locked tokens of nonce `n` held in a list of unbond entries -/
def lockedOf : List UEntry → Nat → Nat
  | [], _ => 0
  | q :: qs, n => (if q.nonce = n then q.locked else 0) + lockedOf qs n

/-- unlock epoch of a locked-token nonce, `0` for a nonce that does not exist -/
def unlockIn (nonces : List Nat) (n : Nat) : Nat := if n = 0 then 0 else (nonces[n - 1]?).getD 0

/-- the energy one cancelled entry gives back: `amt·(unlock − now)` while the token is still
    locked (`now ≤ unlock`), `−amt·(now − unlock)` once it is past its unlock epoch -/
def restoreDelta (now amt unlock : Nat) : Int :=
  if now ≤ unlock then ((amt * (unlock - now) : Nat) : Int) else - ((amt * (now - unlock) : Nat) : Int)

def restoreSum (now : Nat) (nonces : List Nat) : List UEntry → Int
  | [] => 0
  | q :: qs => restoreDelta now q.locked (unlockIn nonces q.nonce) + restoreSum now nonces qs

theorem unlockIn_of_unlockOf {s : St} {n u : Nat} (h : s.unlockOf n = some u) :
    unlockIn s.nonces n = u := by
  unfold St.unlockOf at h
  unfold unlockIn
  split at h
  · simp at h
  · rename_i hn; simp [hn, h]

theorem restoreCancel_fields (e : Entry) (amt unlock now : Nat) :
    (e.restoreCancel amt unlock now).E = e.E + restoreDelta now amt unlock ∧
    (e.restoreCancel amt unlock now).T = e.T + amt ∧
    (e.restoreCancel amt unlock now).last = e.last := by
  unfold Entry.restoreCancel restoreDelta
  by_cases h : now ≤ unlock
  · simp only [h, if_true, Entry.addAfterLock, Entry.add]
    by_cases h2 : unlock ≤ now
    · have : unlock - now = 0 := by omega
      simp [h2, this]
    · simp [h2]
  · rw [if_neg h, if_neg h]
    exact ⟨Int.sub_eq_add_neg, rfl, rfl⟩

theorem cancelEntries_bal (qs : List UEntry) {s s2 : St} {c : Nat} {e e2 : Entry} (hc : c ≠ UNSTAKE)
    (h : cancelEntries s c e qs = some (s2, e2)) :
    (∀ n, s2.bal c n = s.bal c n + lockedOf qs n) ∧
    (∀ n, s2.bal UNSTAKE n + lockedOf qs n = s.bal UNSTAKE n) ∧
    (∀ a, a ≠ c → a ≠ UNSTAKE → s2.bal a = s.bal a) := by
  induction qs generalizing s e with
  | nil =>
    obtain ⟨rfl, -⟩ := Prod.mk.inj (Option.some.inj h)
    simp [lockedOf]
  | cons q qs ih =>
    obtain ⟨u, s1, -, hdeb, -, -, -, -, hrec⟩ := cancelEntries_cons h
    obtain ⟨hle, rfl⟩ := debit_spec hdeb
    obtain ⟨a1, a2, a3⟩ := ih hrec
    have hU : UNSTAKE ≠ c := fun h => hc h.symm
    refine ⟨fun n => ?_, fun n => ?_, fun a hac haU => ?_⟩
    · rw [a1 n]
      simp only [St.credit, lockedOf]
      rw [upd2_same, upd2_other _ _ _ hc]
      by_cases hn : n = q.nonce
      · subst hn; rw [upd_same]; simp; omega
      · rw [upd_other _ _ hn]
        have : ¬ q.nonce = n := fun h => hn h.symm
        simp [this]
    · have := a2 n
      simp only [St.credit, lockedOf] at this ⊢
      rw [upd2_other _ _ _ hU, upd2_same] at this
      by_cases hn : n = q.nonce
      · subst hn; rw [upd_same] at this; simp; omega
      · rw [upd_other _ _ hn] at this
        have : ¬ q.nonce = n := fun h => hn h.symm
        simp [this]; omega
    · rw [a3 a hac haU]
      simp only [St.credit]
      rw [upd2_other _ _ _ hac, upd2_other _ _ _ haU]

theorem cancelEntries_energy (qs : List UEntry) {s s2 : St} {c : Nat} {e e2 : Entry}
    (h : cancelEntries s c e qs = some (s2, e2)) :
    e2.E = e.E + restoreSum s.epoch s.nonces qs ∧
    e2.T = e.T + (qs.map (·.locked)).sum ∧ e2.last = e.last := by
  induction qs generalizing s e with
  | nil =>
    obtain ⟨-, rfl⟩ := Prod.mk.inj (Option.some.inj h)
    simp [restoreSum]
  | cons q qs ih =>
    obtain ⟨u, s1, hu, hdeb, -, -, -, -, hrec⟩ := cancelEntries_cons h
    obtain ⟨_, rfl⟩ := debit_spec hdeb
    obtain ⟨a1, a2, a3⟩ := ih hrec
    obtain ⟨r1, r2, r3⟩ := restoreCancel_fields e q.locked u s.epoch
    have hu' := unlockIn_of_unlockOf hu
    refine ⟨?_, ?_, ?_⟩
    · rw [a1, r1]
      show e.E + restoreDelta s.epoch q.locked u + restoreSum s.epoch s.nonces qs =
        e.E + (restoreDelta s.epoch q.locked (unlockIn s.nonces q.nonce) + restoreSum s.epoch s.nonces qs)
      rw [hu']; omega
    · rw [a2, r2]; simp only [List.map_cons, List.sum_cons]; omega
    · rw [a3, r3]


theorem step_opts {s s' : St} {op : Op} {o : Out} (ha : Admissible s.opts)
    (h : step s op = some (s', o)) : Admissible s'.opts := by
  rcases (stepped h).opts with e | ⟨cf, rfl⟩
  · rw [e]; exact ha
  · exact cfg_opts (step_cfg h) ha

theorem run_opts (ops : List Op) {s : St} (ha : Admissible s.opts) : Admissible (run s ops).opts :=
  run_induction (P := fun s => Admissible s.opts) ops ha (fun _ _ _ _ _ ha h => step_opts ha h)

end Mx.Energy
