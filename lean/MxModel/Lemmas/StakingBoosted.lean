/-
  Boosted rewards of the staking model (C11, staking side): the weekly reward hook characterised
  completely; the boosted claim of a user on the cells of one week (`Cell`, `Hook`,
  `claimBoostedYields_cells`), which is what the invariants of the boosted storage read; the
  per-week pool bound.
-/
import MxModel.Lemmas.StakingSpec

namespace Mx.Staking

open Mx.Weekly

/-- per-week pool bound: what is still distributable plus what was paid never exceeds what was
    moved into the week's pool -/
def PoolOK (b : B) : Prop := ∀ k, b.remaining k + b.paid k ≤ b.collected k

theorem PoolOK.init : PoolOK B.init := by intro k; simp [B.init]

theorem PoolOK.of_eq {b b' : B} (h : PoolOK b) (h1 : b'.remaining = b.remaining) (h2 : b'.paid = b.paid)
    (h3 : b'.collected = b.collected) : PoolOK b' := by
  intro k; rw [h1, h2, h3]; exact h k

theorem collectBoosted_frame (c' : BCfg) (g : Weekly.St) (b : B) (week : Nat) :
    (collectAndGet (collectBoosted c') g b week).2.1.farmSupply = b.farmSupply ∧
    (collectAndGet (collectBoosted c') g b week).2.1.paid = b.paid := by
  rcases collectAndGet_cases (collectBoosted c') g b week with ⟨_, e⟩ | ⟨_, e⟩ <;> rw [e] <;>
    exact ⟨rfl, rfl⟩

theorem boostedAmount_zero (x : Factors) (f F e E : Nat) : boostedAmount x 0 f F e E = 0 := by
  simp [boostedAmount]

/-- the reward hook, completely.  Nothing happens: the week has no energy total or no recorded
    farm supply, or the user is below a minimum of the week's factors.  Or the week's pool is
    frozen (`cg`) and then either nothing is paid, because no entry was frozen or the formula gives
    0 on the frozen pool; or exactly `boostedAmount` of the frozen pool `R` is paid out of
    `remaining(week)`. -/
theorem boostedRewards_char {c' : BCfg} {userFarm : Nat} {g g' : Weekly.St} {b b' : B}
    {week e E : Nat} {r : List (Tok × Nat)}
    (h : boostedRewards c' userFarm g b week e E = some (g', b', r)) :
    (g' = g ∧ b' = b ∧ r = [] ∧
      (E = 0 ∨ b.farmSupply week = 0 ∨
        ∃ fac, c'.factorsForWeek week = some fac ∧ (e < fac.minE ∨ userFarm < fac.minF))) ∨
    (∃ fac cg, E ≠ 0 ∧ b.farmSupply week ≠ 0 ∧ c'.factorsForWeek week = some fac ∧
      fac.minE ≤ e ∧ fac.minF ≤ userFarm ∧
      cg = collectAndGet (collectBoosted c') g b week ∧ g' = cg.1 ∧
      ((b' = cg.2.1 ∧ r = [] ∧
          (cg.2.2 = [] ∨ ∃ t R, cg.2.2 = [(t, R)] ∧
            boostedAmount fac R userFarm (b.farmSupply week) e E = 0)) ∨
       (∃ t R x, cg.2.2 = [(t, R)] ∧ R ≠ 0 ∧ fac.cE + fac.cF ≠ 0 ∧
          x = boostedAmount fac R userFarm (b.farmSupply week) e E ∧ x ≠ 0 ∧
          x ≤ cg.2.1.remaining week ∧
          b' = { cg.2.1 with remaining := upd cg.2.1.remaining week (cg.2.1.remaining week - x)
                             paid := upd cg.2.1.paid week (cg.2.1.paid week + x) } ∧
          r = [(0, x)]))) := by
  unfold boostedRewards at h
  split at h
  · rename_i hEF
    obtain ⟨rfl, rfl, rfl⟩ : g = g' ∧ b = b' ∧ [] = r := by simpa using h
    exact Or.inl ⟨rfl, rfl, rfl, hEF.imp_right Or.inl⟩
  · rename_i hEF
    obtain ⟨fac, hfac, h⟩ := peel h
    split at h
    · rename_i hmin
      obtain ⟨rfl, rfl, rfl⟩ : g = g' ∧ b = b' ∧ [] = r := by simpa using h
      exact Or.inl ⟨rfl, rfl, rfl, Or.inr (Or.inr ⟨fac, hfac, hmin⟩)⟩
    · rename_i hmin
      refine Or.inr ⟨fac, _, fun h0 => hEF (Or.inl h0), fun h0 => hEF (Or.inr h0), hfac,
        by omega, by omega, rfl, ?_⟩
      generalize collectAndGet (collectBoosted c') g b week = cg at h ⊢
      obtain ⟨g1, b1, lst⟩ := cg
      match lst, h with
      | [], h =>
        obtain ⟨rfl, rfl, rfl⟩ : g1 = g' ∧ b1 = b' ∧ [] = r := by simpa using h
        exact ⟨rfl, Or.inl ⟨rfl, rfl, Or.inl rfl⟩⟩
      | [p], h =>
        dsimp only at h
        split at h
        · rename_i hR
          obtain ⟨rfl, rfl, rfl⟩ : g1 = g' ∧ b1 = b' ∧ [] = r := by simpa using h
          exact ⟨rfl, Or.inl ⟨rfl, rfl, Or.inr ⟨p.1, p.2, rfl, by rw [hR, boostedAmount_zero]⟩⟩⟩
        · rename_i hR
          obtain ⟨hc, h⟩ := peel_req h
          split at h
          · rename_i hx
            obtain ⟨rfl, rfl, rfl⟩ : g1 = g' ∧ b1 = b' ∧ [] = r := by simpa using h
            exact ⟨rfl, Or.inl ⟨rfl, rfl, Or.inr ⟨p.1, p.2, rfl, hx⟩⟩⟩
          · rename_i hx
            obtain ⟨hle, h⟩ := peel_sub h
            obtain ⟨rfl, h2⟩ := Prod.mk.inj (Option.some.inj h)
            obtain ⟨rfl, rfl⟩ := Prod.mk.inj h2
            exact ⟨rfl, Or.inr ⟨p.1, p.2, _, rfl, hR, hc, rfl, hx, hle, rfl, rfl⟩⟩
      | _ :: _ :: _, h => simp at h

theorem boostedRewards_frame (c' : BCfg) (f : Nat) : RwFrame (boostedRewards c' f) := by
  intro g b w e E g' b' r h
  rcases boostedRewards_char h with ⟨rfl, -, -⟩ | ⟨fac, cg, -, -, -, -, -, rfl, rfl, -⟩
  · exact FrameR.refl _
  · exact collectAndGet_frame (collectBoosted c') g b w

/-! ### the boosted claim on the cells of one week

  The boosted-yields storage and `totalRewardsForWeek` are families indexed by the week.  One call
  of the reward hook reads and writes the cells of its own week only, by a function of the cell
  (`Cell.freeze`, then `Cell.pay`), and the boosted claim of a user does that to every week of the
  user's claim window.  What an invariant needs of the claim is a fact about one cell. -/

/-- the cells of one week: `totalRewardsForWeek`, and of the boosted storage `accumulated`,
    `remaining`, `collected`, `paid` -/
structure Cell where
  tr : List (Tok × Nat)
  acc : Nat
  rem : Nat
  coll : Nat
  paid : Nat

def cell (g : Weekly.St) (b : B) (k : Nat) : Cell :=
  ⟨g.totalRewards k, b.accumulated k, b.remaining k, b.collected k, b.paid k⟩

/-- the first eligible claim of a week turns what was accumulated for it into its pool -/
def Cell.freeze (c : Cell) : Cell :=
  if c.tr.isEmpty then ⟨[(0, c.acc)], 0, c.acc, c.coll + c.acc, c.paid⟩ else c

def Cell.pay (c : Cell) (x : Nat) : Cell := { c with rem := c.rem - x, paid := c.paid + x }

/-- the frozen pool of a week, read off `totalRewardsForWeek` (one entry; 0 when nothing is frozen) -/
def rOf (l : List (Tok × Nat)) : Nat :=
  match l with
  | [p] => p.2
  | _ => 0

/-- what the reward hook owes for one week on the frozen pool `R` -/
def payOf (fa : Option Factors) (R f F e E : Nat) : Nat :=
  if E = 0 ∨ F = 0 then 0
  else match fa with
    | none => 0
    | some x => if e < x.minE ∨ f < x.minF then 0 else boostedAmount x R f F e E

/-- the factors in force for week `w` when the stored configuration is `cfg` and the current week
    is `W`: the configuration updated (in memory) to the current week, read at `w`; none without a
    configuration -/
def facOf (cfg : Option BCfg) (W w : Nat) : Option Factors :=
  match cfg with
  | none => none
  | some c => (c.update W none).bind fun c' => c'.factorsForWeek w

/-- One call of the reward hook on the cells of its week, `due R` being what the formula gives on
    the pool `R`: nothing is due whatever the pool, and nothing happens; or the week is frozen and
    what is due on its pool is paid out of `remaining`. -/
def Hook (due : Nat → Nat) (c c' : Cell) : Prop :=
  ((∀ R, due R = 0) ∧ c' = c) ∨
  (due (rOf c.freeze.tr) ≤ c.freeze.rem ∧ c' = c.freeze.pay (due (rOf c.freeze.tr)))

theorem Hook.of_pay {due : Nat → Nat} {c c' : Cell} {x : Nat} (hx : due (rOf c.freeze.tr) = x)
    (hle : x ≤ c.freeze.rem) (e : c' = c.freeze.pay x) : Hook due c c' :=
  Or.inr ⟨hx ▸ hle, hx ▸ e⟩

theorem Hook.paid {due : Nat → Nat} {c c' : Cell} (h : Hook due c c') :
    c'.paid = c.paid + due (rOf c'.tr) := by
  rcases h with ⟨h0, rfl⟩ | ⟨_, rfl⟩
  · rw [h0]; rfl
  · unfold Cell.pay Cell.freeze; split <;> rfl

theorem Hook.pool {due : Nat → Nat} {c c' : Cell} (h : Hook due c c')
    (hc : c.rem + c.paid ≤ c.coll) : c'.rem + c'.paid ≤ c'.coll := by
  rcases h with ⟨_, rfl⟩ | ⟨hle, rfl⟩
  · exact hc
  · revert hle
    unfold Cell.pay Cell.freeze
    split <;> intro hle <;> simp only at hle ⊢ <;> omega

/-- what is paid leaves `accumulated + remaining` -/
theorem Hook.le {due : Nat → Nat} {c c' : Cell} (h : Hook due c c') :
    c'.acc + c'.rem + (c'.paid - c.paid) ≤ c.acc + c.rem := by
  rcases h with ⟨_, rfl⟩ | ⟨hle, rfl⟩
  · omega
  · revert hle
    unfold Cell.pay Cell.freeze
    split <;> intro hle <;> simp only at hle ⊢ <;> omega

theorem collectAndGet_cell (c' : BCfg) (g : Weekly.St) (b : B) (week : Nat) :
    cell (collectAndGet (collectBoosted c') g b week).1 (collectAndGet (collectBoosted c') g b week).2.1 week
      = (cell g b week).freeze ∧
    (collectAndGet (collectBoosted c') g b week).2.2 = (cell g b week).freeze.tr ∧
    (∀ k, k ≠ week → cell (collectAndGet (collectBoosted c') g b week).1
      (collectAndGet (collectBoosted c') g b week).2.1 k = cell g b k) ∧
    (collectAndGet (collectBoosted c') g b week).2.1.farmSupply = b.farmSupply ∧
    ((collectAndGet (collectBoosted c') g b week).2.1.cfg = b.cfg ∨
      (collectAndGet (collectBoosted c') g b week).2.1.cfg = some c') := by
  rcases collectAndGet_cases (collectBoosted c') g b week with ⟨he, e⟩ | ⟨he, e⟩ <;> rw [e]
  · rw [show (cell g b week).freeze = ⟨[(0, b.accumulated week)], 0, b.accumulated week,
        b.collected week + b.accumulated week, b.paid week⟩ from if_pos he]
    refine ⟨?_, rfl, fun k hk => ?_, rfl, Or.inr rfl⟩
    · simp only [cell, collectBoosted, upd_same]
    · simp only [cell, collectBoosted, upd_other _ _ hk]
  · rw [show (cell g b week).freeze = cell g b week from if_neg he]
    exact ⟨rfl, rfl, fun _ _ => rfl, rfl, Or.inl rfl⟩

theorem boostedRewards_cell {c' : BCfg} {f : Nat} {g g' : Weekly.St} {b b' : B}
    {week e E : Nat} {r : List (Tok × Nat)}
    (h : boostedRewards c' f g b week e E = some (g', b', r)) :
    Hook (fun R => payOf (c'.factorsForWeek week) R f (b.farmSupply week) e E)
      (cell g b week) (cell g' b' week) ∧
    (∀ k, k ≠ week → cell g' b' k = cell g b k) ∧
    (r.map (·.2)).sum = b'.paid week - b.paid week ∧ b'.farmSupply = b.farmSupply ∧
    (b'.cfg = b.cfg ∨ b'.cfg = some c') := by
  obtain ⟨hcell, hlist, hoth, hfs, hcfg⟩ := collectAndGet_cell c' g b week
  rcases boostedRewards_char h with ⟨hg, hb, rfl, why⟩ |
    ⟨fac, cg, hE, hF, hfac, hmE, hmF, rfl, rfl, hcase⟩
  · rw [hg, hb]
    refine ⟨Or.inl ⟨fun R => ?_, rfl⟩, fun _ _ => rfl, (Nat.sub_self _).symm, rfl, Or.inl rfl⟩
    rcases why with h0 | h0 | ⟨fac, hfac, hmin⟩
    · simp [payOf, h0]
    · simp [payOf, h0]
    · by_cases hEF : E = 0 ∨ b.farmSupply week = 0
      · simp [payOf, hEF]
      · simp [payOf, hEF, hfac, hmin]
  · have hpay : ∀ R, payOf (c'.factorsForWeek week) R f (b.farmSupply week) e E =
        boostedAmount fac R f (b.farmSupply week) e E := fun R => by
      have hEF : ¬(E = 0 ∨ b.farmSupply week = 0) := fun h0 => h0.elim hE hF
      have hmin : ¬(e < fac.minE ∨ f < fac.minF) := by omega
      simp [payOf, hEF, hfac, hmin]
    have hpd : (cell g b week).freeze.paid = b.paid week := by
      unfold Cell.freeze; split <;> rfl
    rcases hcase with ⟨rfl, rfl, hl | ⟨t, R, hl, h0⟩⟩ | ⟨t, R, x, hl, -, -, hx, -, hle, rfl, rfl⟩
    · refine ⟨.of_pay (x := 0) ?_ (Nat.zero_le _) hcell, hoth, ?_, hfs, hcfg⟩
      · rw [hpay, ← hlist, hl]; exact boostedAmount_zero _ _ _ _ _
      · rw [← hpd, ← hcell]; exact (Nat.sub_self _).symm
    · refine ⟨.of_pay (x := 0) ?_ (Nat.zero_le _) hcell, hoth, ?_, hfs, hcfg⟩
      · rw [hpay, ← hlist, hl]; exact h0
      · rw [← hpd, ← hcell]; exact (Nat.sub_self _).symm
    · refine ⟨.of_pay (x := x) ?_ (hcell ▸ hle) ?_, fun k hk => ?_, ?_, hfs, hcfg⟩
      · rw [hpay, ← hlist, hl, hx]; rfl
      · rw [← hcell]
        simp only [cell, Cell.pay, upd_same]
      · rw [← hoth k hk]
        simp only [cell, upd_other _ _ hk]
      · show x + 0 = upd _ week _ week - b.paid week
        rw [upd_same, ← hpd, ← hcell]
        simp only [cell]
        omega

theorem claimBoostedYields_spec {s : St} {user farmAmt : Nat} {r : Weekly.St × B × Nat}
    (h : claimBoostedYields s user farmAmt = some r) :
    (s.b.cfg = none ∧ r.2.1 = s.b ∧ r.2.2 = 0 ∧
      updateEnergyAndProgress s.w user s.week (Energy.queried (s.energy user) s.epoch) = some r.1) ∨
    ∃ c c' r', s.b.cfg = some c ∧ c.update s.week none = some c' ∧
      claimMulti (boostedRewards c' farmAmt) s.w s.b user s.week
        (Energy.queried (s.energy user) s.epoch) = some r' ∧
      r = (r'.1, r'.2.1, (r'.2.2.map (·.2)).sum) := by
  unfold claimBoostedYields at h
  cases hc : s.b.cfg with
  | none =>
    rw [hc] at h
    obtain ⟨w, hw, rfl⟩ := Option.map_eq_some_iff.1 h
    exact Or.inl ⟨rfl, rfl, rfl, hw⟩
  | some c =>
    rw [hc] at h
    obtain ⟨c', hu, h⟩ := peel h
    obtain ⟨r', hr, h⟩ := peel h
    exact Or.inr ⟨c, c', r', rfl, hu, hr, (Option.some.inj h).symm⟩

theorem claimBoostedYields_step {s : St} {user f : Nat} {r : Weekly.St × B × Nat}
    (h : claimBoostedYields s user f = some r) :
    UserStep s.w r.1 user s.week (Energy.queried (s.energy user) s.epoch) := by
  rcases claimBoostedYields_spec h with ⟨_, _, _, hu⟩ | ⟨c, c', r', _, _, hr, rfl⟩
  · exact updateEnergyAndProgress_step hu
  · exact claimMulti_step (boostedRewards_frame _ _) hr

theorem cell_weekStep {g g1 : Weekly.St} {W : Nat} (st : WeekStep g g1 W) (b : B) (k : Nat) :
    cell g1 b k = cell g b k ∨ (k + 5 = W ∧ cell g1 b k = { cell g b k with tr := [] }) :=
  (st.rewards k).imp (fun e => by simp only [cell, e]) fun e => ⟨e.2, by simp only [cell, e.1]⟩

/-- **The boosted claim of `u`** (with or without a configuration), week by week.  A week of `u`'s
    claim window gets one `Hook`, with the factors in force, the position passed in, the week's
    recorded farm supply, `u`'s stored energy decayed to the week and the week's total energy.  The
    cells of any other week stay, but for the frozen list of week `current − 5`, which is cleared. -/
theorem claimBoostedYields_cells {s : St} {u f : Nat} {r : Weekly.St × B × Nat}
    (h : claimBoostedYields s u f = some r) :
    (∀ k, claimFrom (s.w.progress u) s.week ≤ k → k < s.week →
      Hook (fun R => payOf (facOf s.b.cfg s.week k) R f (s.b.farmSupply k) (eForP s.w.progress u k)
        (s.w.totalEnergy k)) (cell s.w s.b k) (cell r.1 r.2.1 k)) ∧
    (∀ k, (k < claimFrom (s.w.progress u) s.week ∨ s.week ≤ k) →
      cell r.1 r.2.1 k = cell s.w s.b k ∨
        (k + 5 = s.week ∧ cell r.1 r.2.1 k = { cell s.w s.b k with tr := [] })) ∧
    r.2.1.farmSupply = s.b.farmSupply ∧
    (r.2.1.cfg = s.b.cfg ∨
      ∃ c c', s.b.cfg = some c ∧ c.update s.week none = some c' ∧ r.2.1.cfg = some c') := by
  have hwin := le_claimFrom (s.w.progress u) s.week
  rcases claimBoostedYields_spec h with ⟨hc, e, -, hu⟩ | ⟨c, c', r', hc, hc', hr, rfl⟩
  · obtain ⟨g1, h1, hg⟩ := updateEnergyAndProgress_iff.mp hu
    have st := fun k => cell_weekStep (updateUser_weekStep h1) s.b k
    rw [e, hg]
    refine ⟨fun k hlo _ => Or.inl ⟨fun R => ?_, (st k).resolve_right fun e => by omega⟩,
      fun k _ => st k, rfl, Or.inl rfl⟩
    simp [facOf, payOf, hc]
  · obtain ⟨g1, g2, h1, hrun, hg⟩ := (claimMulti_run (boostedRewards_frame c' f)).mp hr
    have st := fun k => cell_weekStep (updateUser_weekStep h1) s.b k
    obtain ⟨out, ins⟩ := hrun.perWeek (fun g b k => (cell g b k, b.farmSupply k))
      fun _ _ _ _ _ _ _ _ hr k hk => by
        rw [(boostedRewards_cell hr).2.1 k hk, (boostedRewards_cell hr).2.2.2.1]
    have hfin : ∀ k, cell r'.1 r'.2.1 k = cell g2 r'.2.1 k := fun k => by rw [hg]; rfl
    refine ⟨fun k hlo hhi => ?_, fun k hk => ?_, ?_, ?_⟩
    · obtain ⟨ga, ba, gb, bb, rk, hcall, ea, eb⟩ := ins k hlo hhi
      have hk := (boostedRewards_cell hcall).1
      rw [show cell ga ba k = _ from congrArg Prod.fst ea,
        show ba.farmSupply k = _ from congrArg Prod.snd ea,
        show cell gb bb k = _ from congrArg Prod.fst eb,
        (st k).resolve_right fun e => by omega] at hk
      rw [show facOf s.b.cfg s.week k = c'.factorsForWeek k by
        simp only [facOf, hc, hc', Option.bind_some]]
      exact (hfin k) ▸ hk
    · rw [hfin k, show cell g2 r'.2.1 k = _ from congrArg Prod.fst (out k hk)]
      exact st k
    · exact hrun.pres (fun _ b => b.farmSupply = s.b.farmSupply)
        (fun _ _ _ _ _ _ _ _ hr hp => (boostedRewards_cell hr).2.2.2.1.trans hp) rfl
    · refine (hrun.pres (fun _ b => b.cfg = s.b.cfg ∨ b.cfg = some c')
        (fun _ _ _ _ _ _ _ _ hr hp => ?_) (Or.inl rfl)).imp_right fun e => ⟨c, c', hc, hc', e⟩
      rcases (boostedRewards_cell hr).2.2.2.2 with e | e
      · rw [e]; exact hp
      · exact Or.inr e

/-- `h` is what `claimBoostedYields_cells` says of a week outside the claim window -/
theorem Cell.same_pool {c c' : Cell} {p : Prop} (h : c' = c ∨ (p ∧ c' = { c with tr := [] })) :
    c'.acc = c.acc ∧ c'.rem = c.rem ∧ c'.coll = c.coll ∧ c'.paid = c.paid := by
  rcases h with rfl | ⟨_, rfl⟩ <;> exact ⟨rfl, rfl, rfl, rfl⟩

theorem claimBoostedYields_pool {s : St} {user farmAmt : Nat} {r : Weekly.St × B × Nat}
    (hb : PoolOK s.b) (h : claimBoostedYields s user farmAmt = some r) : PoolOK r.2.1 := by
  obtain ⟨ins, out, -⟩ := claimBoostedYields_cells h
  intro k
  by_cases hk : claimFrom (s.w.progress user) s.week ≤ k ∧ k < s.week
  · exact (ins k hk.1 hk.2).pool (hb k)
  · obtain ⟨-, e1, e2, e3⟩ := Cell.same_pool (out k (by omega))
    exact (show r.2.1.remaining k + r.2.1.paid k ≤ r.2.1.collected k by
      rw [show r.2.1.remaining k = _ from e1, show r.2.1.paid k = _ from e3,
        show r.2.1.collected k = _ from e2]; exact hb k)

end Mx.Staking
