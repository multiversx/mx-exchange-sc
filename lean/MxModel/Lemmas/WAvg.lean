/-
  `weighted_average_round_up` (Core/Arith.lean), the index of a merged position in the farm and in
  the farm-staking contract: it is a ceiling, so merging never raises an entitlement.
-/
import MxModel.Core.Arith

namespace Mx

theorem weightedAvgRoundUp_bounds (v1 w1 v2 w2 : Nat) (hw : 0 < w1 + w2) :
    v1 * w1 + v2 * w2 ≤ weightedAvgRoundUp v1 w1 v2 w2 * (w1 + w2) ∧
    weightedAvgRoundUp v1 w1 v2 w2 * (w1 + w2) < v1 * w1 + v2 * w2 + (w1 + w2) := by
  unfold weightedAvgRoundUp ceilDiv
  generalize v1 * w1 + v2 * w2 = S
  generalize w1 + w2 = W at hw ⊢
  have h1 := Nat.div_mul_le_self (S + W - 1) W
  have h2 := Nat.lt_div_mul_add (a := S + W - 1) hw
  generalize (S + W - 1) / W * W = q at h1 h2
  omega

/-- `w` the amounts and `v` the indices of two positions, `R` ANY index (truncated subtraction: also
    one below `v`): before the floor, the merged position earns at most what the two parts earn. -/
theorem merge_no_gain_arith (v1 w1 v2 w2 R : Nat) (hw : 0 < w1 + w2) :
    (w1 + w2) * (R - weightedAvgRoundUp v1 w1 v2 w2) ≤ w1 * (R - v1) + w2 * (R - v2) := by
  obtain ⟨hlo, _⟩ := weightedAvgRoundUp_bounds v1 w1 v2 w2 hw
  generalize weightedAvgRoundUp v1 w1 v2 w2 = r at hlo ⊢
  by_cases hR : R ≤ r
  · rw [Nat.sub_eq_zero_of_le hR, Nat.mul_zero]; exact Nat.zero_le _
  · have hR' : r ≤ R := by omega
    have e0 : (w1 + w2) * (R - r) + r * (w1 + w2) = (w1 + w2) * R := by
      rw [Nat.mul_comm r, ← Nat.mul_add, Nat.sub_add_cancel hR']
    have e1 : w1 * R ≤ w1 * (R - v1) + v1 * w1 := by
      rw [Nat.mul_comm v1, ← Nat.mul_add]; exact Nat.mul_le_mul_left _ (by omega)
    have e2 : w2 * R ≤ w2 * (R - v2) + v2 * w2 := by
      rw [Nat.mul_comm v2, ← Nat.mul_add]; exact Nat.mul_le_mul_left _ (by omega)
    have e3 : (w1 + w2) * R = w1 * R + w2 * R := Nat.add_mul _ _ _
    generalize (w1 + w2) * (R - r) = A at e0 ⊢
    generalize r * (w1 + w2) = B at e0 hlo
    generalize (w1 + w2) * R = C at e0 e3
    generalize w1 * R = D at e1 e3
    generalize w2 * R = E at e2 e3
    generalize w1 * (R - v1) = F at e1 ⊢
    generalize w2 * (R - v2) = G at e2 ⊢
    generalize v1 * w1 = H at e1 hlo
    generalize v2 * w2 = I at e2 hlo
    omega

end Mx
