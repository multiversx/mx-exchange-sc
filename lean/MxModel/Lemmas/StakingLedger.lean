/-
  History-level ledgers of the farm-staking model (C12; property theorems: Props/C12Ledger.lean).
  Sums over the SUCCESSFUL transactions of a history (`histSum`, `histSumI`) give two exact ledgers:
  `virt` = net stake registered through the proxy endpoints, `capacity` = top-ups − withdrawals.
  One unbond token over time (`run_unbond_token`, from `step_unbond_token` of
  Lemmas/StakingTrans.lean): its attributes never change, its outstanding units never grow, an
  `unbondFarm` lowers them by at least what it pays.  Unbond liveness (`unbond_ok`): the side
  condition `pay ≤ balance` of `unbondFarm` follows from the invariants.
-/
import MxModel.Lemmas.StakingVirt
import MxModel.Lemmas.StakingGate
import MxModel.Lemmas.StakingInv

namespace Mx.Staking

open Mx.Weekly

/-- `Σ f op` over the transactions of the history that succeed (executed from `s`) -/
def histSum (f : Op → Nat) : St → List Op → Nat
  | _, [] => 0
  | s, op :: ops =>
    match step s op with
    | some r => f op + histSum f r.1 ops
    | none => histSum f s ops

/-- the same with integer summands -/
def histSumI (f : Op → Int) : St → List Op → Int
  | _, [] => 0
  | s, op :: ops =>
    match step s op with
    | some r => f op + histSumI f r.1 ops
    | none => histSumI f s ops

theorem run_virt (ops : List Op) (s : St) : (run s ops).virt = s.virt + histSumI virtDelta s ops := by
  induction ops generalizing s with
  | nil => simp [run, histSumI]
  | cons op ops ih =>
    cases hst : step s op with
    | none => rw [run_cons_none ops hst, ih]; simp only [histSumI, hst]
    | some r =>
      obtain ⟨s1, o⟩ := r
      rw [run_cons_some ops hst, ih, (step_virt hst).1]
      simp only [histSumI, hst]
      omega

theorem run_capacity (ops : List Op) (s : St) :
    (run s ops).capacity + histSum capDown s ops = s.capacity + histSum capUp s ops := by
  induction ops generalizing s with
  | nil => simp [run, histSum]
  | cons op ops ih =>
    cases hst : step s op with
    | none => rw [run_cons_none ops hst]; simp only [histSum, hst]; exact ih s
    | some r =>
      obtain ⟨s1, o⟩ := r
      rw [run_cons_some ops hst]
      simp only [histSum, hst]
      have := ih s1
      have := (step_virt hst).2.2
      omega

theorem run_unbond_token (ops : List Op) {s : St} (hI : PosInv s) {n e : Nat}
    (hu : unbondOf s.md n = some e) (hn : n ≤ s.nonce) :
    unbondOf (run s ops).md n = some e ∧
      outst (run s ops).hold s.accts.dedup n + histSum (unbondPaidOf n) s ops
        ≤ outst s.hold s.accts.dedup n := by
  induction ops generalizing s with
  | nil => exact ⟨hu, by simp [run, histSum]⟩
  | cons op ops ih =>
    cases hst : step s op with
    | none =>
      rw [run_cons_none ops hst]
      simp only [histSum, hst]
      exact ih hI hu hn
    | some r =>
      obtain ⟨s1, o⟩ := r
      rw [run_cons_some ops hst]
      simp only [histSum, hst]
      obtain ⟨h1, h2, h3⟩ := step_unbond_token hI hst hu hn
      obtain ⟨i1, i2⟩ := ih (step_posInv hI hst) h1 h2
      rw [step_accts hst] at i2 h3
      exact ⟨i1, by omega⟩

theorem unstakeCore_outst {s s' : St} {c orig : Nat} {pay : Pay} {x : Option Nat} {o : Out}
    (hI : PosInv s) (hc : c ∈ s.accts) (h : unstakeCore s c orig pay x = some (s', o)) :
    PosInv s' ∧ unbondOf s'.md o.a = some (s.epoch + s.minUnbond) ∧ o.a ≤ s'.nonce ∧
      outst s'.hold s'.accts.dedup o.a = o.b := by
  have hI' : PosOK (pv s) := hI
  have hP' : PosInv s' := PosOK.trans hI (unstakeCore_ptrans hc h)
  obtain ⟨u1, u2, _, u4, u5, _, _, _⟩ := unstakeCore_unbond h
  obtain ⟨inc, base, hold0, attrs, tok, e, _, hd, _, ht, _, e'⟩ := unstakeCore_pv h
  obtain ⟨_, _, t3, _⟩ := intoPart_spec ht
  have hacc : s'.accts = s.accts := congrArg PV.raw e'
  have hhold : s'.hold = upd2 hold0 c (s.nonce + 1) (x.getD tok.amount) := congrArg PV.hold e'
  refine ⟨hP', ?_, ?_, ?_⟩
  · rw [u4]; exact unbondOf_eq_some.mpr u2
  · rw [u4, u1]
  · have hfresh : ∀ a, hold0 a (s.nonce + 1) = 0 := hI'.fresh hd
    have hnd : s.accts.dedup.Nodup := hI'.nodup
    rw [u4, u5, hacc, hhold, outst_mint (List.mem_dedup.mpr hc) hnd hfresh (s.nonce + 1), if_pos rfl, t3]

theorem hold_le_outst {s : St} (hP : PosInv s) {c n : Nat} (hne : s.hold c n ≠ 0) :
    s.hold c n ≤ outst s.hold s.accts.dedup n ∧ n < s.nonce + 1 := by
  have hP' : PosOK (pv s) := hP
  obtain ⟨hc, hn⟩ := hP'.dom c n hne
  exact ⟨le_usum (f := fun a => s.hold a n) hc, Nat.lt_succ_of_le hn⟩

theorem hold_le_wsum {s : St} (hP : PosInv s) {c n : Nat} {w : Nat → Nat} (hw : w n = 1)
    (hne : s.hold c n ≠ 0) : s.hold c n ≤ wsum s.hold s.accts.dedup (s.nonce + 1) w := by
  obtain ⟨h1, hn⟩ := hold_le_outst hP hne
  have h2 : w n * outst s.hold s.accts.dedup n ≤ wsum s.hold s.accts.dedup (s.nonce + 1) w :=
    le_usum (f := fun k => w k * outst s.hold s.accts.dedup k) (List.mem_range.mpr hn)
  rw [hw, Nat.one_mul] at h2
  exact Nat.le_trans h1 h2

theorem unbond_ok {P : List Nat} {s : St} (hInv : Inv s) (hP : PosInv s) (hU : UnbInv s)
    (hV : VirtOK P s) (hact : s.active = true) {c n e x : Nat} (hm : s.md n = some (.unbond e))
    (he : e ≤ s.epoch) (hx : 0 < x) (hh : x ≤ s.hold c n) :
    x ≤ s.bal ∧
    step s (.unbond c (n, x)) =
      some ({ s with hold := upd2 s.hold c n (s.hold c n - x), bal := s.bal - x,
                     unbondOut := s.unbondOut - (x : Int) }, ⟨0, x, 0⟩) := by
  have hP' : PosOK (pv s) := hP
  have hne : s.hold c n ≠ 0 := by omega
  obtain ⟨hc, _⟩ := hP'.dom c n hne
  have hc' : c ∈ s.accts := List.mem_dedup.mp hc
  -- the holding is part of the outstanding unbond units, which the balance covers as `virt ≤ supply`
  have h1 := hold_le_wsum hP (unbW_some (unbondOf_eq_some.mpr hm)) hne
  have h2 : s.unbondOut = ((wsum s.hold s.accts.dedup (s.nonce + 1) (unbW s.md) : Nat) : Int) := hU
  have h3 : s.virt = ((pv s).held P : Nat) := hV
  have h4 : (pv s).held P ≤ s.supply := hP'.held_le P
  have h5 := hInv.bal_eq
  have h6 := hInv.acc_le
  have hbal : x ≤ s.bal := by omega
  refine ⟨hbal, ?_⟩
  rw [step_eq_stepCore (op := .unbond c (n, x)) (decide_eq_true hc')]
  exact unbondFarm_iff.2 ⟨hx, hh, hact, ⟨e, hm, he⟩, hbal, rfl, rfl⟩

end Mx.Staking
