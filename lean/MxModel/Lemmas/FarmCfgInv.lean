/-
  The stored boosted-yields configuration of the farm model (Core/Farm.lean, `St.b.cfg`) over every
  transaction and every history (property C11).  One `Move` of a transaction can do three things to
  it (`CfgMove`; `Trans` adds the passing of time, which leaves it): leave it, create it
  (`BCfg.new W f`, only `setBoostedYieldsFactors`), or replace it by `cfg.update W new` for the
  current week `W` (`setBoostedYieldsFactors`: `new = some f`; the freeze of a week inside the
  boosted claim: `new = none`).  Both invariants are checked on these three: a stored config has
  its 5 slots and is not ahead of the current week (`CfgOK`: for all operations and arguments, no
  hypothesis on the users list), and what it recorded for a past week is what every later config
  answers while that week is inside the window (`Frozen`).
-/
import MxModel.Lemmas.FarmWk

namespace Mx.Farm

open Mx.Weekly (upd)

/-- the cells the config invariant reads -/
structure CfgV where
  cfg : Option BCfg
  epoch : Nat
  fws : Nat

def cfgv (s : St) : CfgV := ⟨s.b.cfg, s.epoch, s.firstWeekStart⟩

def CfgV.week (v : CfgV) : Option Nat := Weekly.weekOf v.epoch v.fws

theorem cv_week (s : St) : (cfgv s).week = s.week := rfl

inductive CfgMove (W : Option Nat) : Option BCfg → Option BCfg → Prop
  | same (o : Option BCfg) : CfgMove W o o
  | fresh (w : Nat) (f : Factors) : W = some w → CfgMove W none (some (BCfg.new w f))
  | upd {c c' : BCfg} (w : Nat) (new : Option Factors) : W = some w → c.update w new = some c' →
      CfgMove W (some c) (some c')

/-- one `Move` on the view: the clock stays, the config makes one `CfgMove` -/
structure Moves (v v' : CfgV) : Prop where
  epoch : v'.epoch = v.epoch
  fws : v'.fws = v.fws
  cfg : CfgMove v.week v.cfg v'.cfg

theorem Moves.of_eq {v v' : CfgV} (h : v' = v) : Moves v v' := by
  subst h
  exact ⟨rfl, rfl, .same _⟩

def WkV.cfgv (v : WkV) : CfgV := ⟨v.b.cfg, v.epoch, v.fws⟩

theorem Move.moves {v v' : WkV} {d d' : Nat} (m : Move v d v' d') : Moves v.cfgv v'.cfgv := by
  cases m with
  | gen _ hb => rcases hb with ⟨_, rfl⟩ | ⟨_, _, rfl⟩ <;> exact .of_eq rfl
  | @claim s s1 _ _ hv h =>
    subst hv
    refine ⟨rfl, rfl, ?_⟩
    show CfgMove s.week s.b.cfg s1.b.cfg
    rcases (claimBoostedYields_spec h).cfg with hc | ⟨cfg, W, mem, hc, hW, hm, hc'⟩
    · rw [hc]; exact .same _
    · rw [hc', hc]; exact .upd W none hW hm
  | @setFactors W f c' hW _ hc =>
    refine ⟨rfl, rfl, ?_⟩
    show CfgMove v.week v.b.cfg (some c')
    cases hcfg : v.b.cfg with
    | some cfg => rw [hcfg] at hc; exact .upd W (some f) hW hc
    | none => rw [hcfg] at hc; subst hc; exact .fresh W f hW
  | _ => exact .of_eq rfl

/-- what the invariants are checked against: one `Moves`, or the passing of time; a transaction is a chain of these -/
def Trans (v v' : CfgV) : Prop :=
  Moves v v' ∨ (v'.cfg = v.cfg ∧ v'.fws = v.fws ∧ v.epoch ≤ v'.epoch)

/-- stated as an induction principle: a predicate on the view kept by every `Trans` is kept by a successful
    operation (time passes, a collection, or a chain of `Moves`) -/
theorem step_trans {P : CfgV → Prop} {s s' : St} {op : Op} {o : Out} (h : step s op = some (s', o))
    (hP : ∀ {v v'}, Trans v v' → P v → P v') (h0 : P (cfgv s)) : P (cfgv s') := by
  rcases step_path h with ⟨b, e, he, rfl⟩ | ⟨_, _, W, hc⟩ | p
  · exact hP (v := cfgv s) (Or.inr ⟨rfl, rfl, he⟩) h0
  · obtain ⟨b', u, e, k⟩ := hc.weeks
    have : cfgv s' = cfgv s := by
      show (wk s').cfgv = _
      rw [e]
      exact congrArg (CfgV.mk · s.epoch s.firstWeekStart) k.cfg
    rw [this]; exact h0
  · exact p.inv (P := fun v _ => P v.cfgv) (fun m => hP (Or.inl m.moves)) h0

/-- a stored config has its 5 slots and was last updated in a week that is not after the current one
    (in particular the current week exists) -/
def CfgOK (v : CfgV) : Prop :=
  ∀ c, v.cfg = some c → WF c ∧ ∃ W, v.week = some W ∧ c.lastUpdateWeek ≤ W

theorem weekOf_later {e e' f W : Nat} (he : e ≤ e') (h : Weekly.weekOf e f = some W) :
    ∃ W', Weekly.weekOf e' f = some W' ∧ W ≤ W' :=
  have h' := Weekly.weekOf_eq_some.mpr ⟨Nat.le_trans (Weekly.weekOf_eq_some.mp h).1 he, rfl⟩
  ⟨_, h', Weekly.weekOf_mono he h h'⟩

theorem Moves.week {v v' : CfgV} (m : Moves v v') : v'.week = v.week := by
  unfold CfgV.week
  rw [m.epoch, m.fws]

theorem CfgMove.ok {W : Option Nat} {o o' : Option BCfg} (m : CfgMove W o o')
    (h : ∀ c, o = some c → WF c ∧ ∃ w, W = some w ∧ c.lastUpdateWeek ≤ w) :
    ∀ c, o' = some c → WF c ∧ ∃ w, W = some w ∧ c.lastUpdateWeek ≤ w := by
  cases m with
  | same => exact h
  | fresh w f hW =>
    intro c hc
    cases hc
    exact ⟨BCfg.new_wf w f, w, hW, Nat.le_refl _⟩
  | upd w new hW hu =>
    intro c hc
    cases hc
    obtain ⟨hwf, _⟩ := h _ rfl
    obtain ⟨h1, h2⟩ := BCfg.update_wf hwf hu
    exact ⟨h1, w, hW, by rw [h2]⟩

theorem Trans.ok {v v' : CfgV} (t : Trans v v') (h : CfgOK v) : CfgOK v' := by
  intro c' hc'
  rcases t with m | ⟨hcfg, hf, he⟩
  · have := m.cfg.ok h c' hc'
    rw [m.week]
    exact this
  · obtain ⟨hwf, W, hW, hle⟩ := h c' (hcfg ▸ hc')
    have hW0 : Weekly.weekOf v.epoch v.fws = some W := hW
    obtain ⟨W', hW', hWW⟩ := weekOf_later he hW0
    refine ⟨hwf, W', ?_, Nat.le_trans hle hWW⟩
    show Weekly.weekOf v'.epoch v'.fws = some W'
    rw [hf]
    exact hW'

theorem run_cfgOK (ops : List Op) {s : St} (hI : CfgOK (cfgv s)) : CfgOK (cfgv (run s ops)) :=
  run_induction (P := fun s => CfgOK (cfgv s)) ops hI fun hI hs => step_trans hs Trans.ok hI

theorem init_cfgOK (kind : Kind) (sameTok : Bool) (dsc perBlock : Nat) (produce : Bool)
    (users : List Nat) (e0 : Nat) : CfgOK (cfgv (init kind sameTok dsc perBlock produce users e0)) := by
  intro c hc
  cases hc

theorem reachable_cfgOK (kind : Kind) (sameTok : Bool) (dsc perBlock : Nat) (produce : Bool)
    (users : List Nat) (e0 : Nat) (ops : List Op) :
    CfgOK (cfgv (run (init kind sameTok dsc perBlock produce users e0) ops)) :=
  run_cfgOK ops (init_cfgOK kind sameTok dsc perBlock produce users e0)

/-- `c'` is a later version of the well-formed config `c`: still well formed, not older, and for every
    week that was already past for `c` and is still inside the 4-week window of `c'` it answers what
    `c` answered -/
structure Frozen (c c' : BCfg) : Prop where
  wf : WF c'
  mono : c.lastUpdateWeek ≤ c'.lastUpdateWeek
  keep : ∀ w, w < c.lastUpdateWeek → c'.lastUpdateWeek < w + 5 →
    c'.factorsForWeek w = c.factorsForWeek w

theorem Frozen.refl {c : BCfg} (h : WF c) : Frozen c c :=
  ⟨h, Nat.le_refl _, fun _ _ _ => rfl⟩

theorem Frozen.trans {a b c : BCfg} (h1 : Frozen a b) (h2 : Frozen b c) : Frozen a c := by
  refine ⟨h2.wf, Nat.le_trans h1.mono h2.mono, fun w hw hw' => ?_⟩
  have hb := h2.mono
  have ha := h1.mono
  rw [h2.keep w (by omega) hw', h1.keep w hw (by omega)]

theorem Frozen.of_update {c c' : BCfg} {W : Nat} {new : Option Factors} (hw : WF c)
    (h : c.update W new = some c') : Frozen c c' := by
  obtain ⟨h1, h2⟩ := BCfg.update_wf hw h
  refine ⟨h1, by rw [h2]; exact BCfg.update_le h, fun w hw1 hw2 => ?_⟩
  rw [h2] at hw2
  exact factorsForWeek_update_old hw h hw1 hw2

theorem CfgMove.frozen {W : Option Nat} {o' : Option BCfg} {c : BCfg} (m : CfgMove W (some c) o')
    (hw : WF c) : ∃ c', o' = some c' ∧ Frozen c c' := by
  cases m with
  | same => exact ⟨c, rfl, Frozen.refl hw⟩
  | upd w new hW hu => exact ⟨_, rfl, Frozen.of_update hw hu⟩

theorem Trans.frozen {v v' : CfgV} (t : Trans v v') {c : BCfg} (hc : v.cfg = some c) (hw : WF c) :
    ∃ c', v'.cfg = some c' ∧ Frozen c c' := by
  rcases t with m | ⟨hcfg, _, _⟩
  · have hm := m.cfg
    rw [hc] at hm
    exact hm.frozen hw
  · exact ⟨c, hcfg.trans hc, Frozen.refl hw⟩

theorem run_frozen (ops : List Op) : ∀ {s : St} {c : BCfg}, s.b.cfg = some c → WF c →
    ∃ c', (run s ops).b.cfg = some c' ∧ Frozen c c' := by
  induction ops with
  | nil => intro s c hc hw; exact ⟨c, hc, Frozen.refl hw⟩
  | cons op rest ih =>
    intro s c hc hw
    simp only [run, List.foldl_cons]
    cases hs : step s op with
    | none => exact ih hc hw
    | some r =>
      obtain ⟨c1, hc1, f1⟩ := step_trans (show step s op = some (r.1, r.2) from hs)
        (P := fun v => ∃ c', v.cfg = some c' ∧ Frozen c c')
        (fun t ⟨c1, h1, f1⟩ => (t.frozen h1 f1.wf).imp fun _ h => ⟨h.1, f1.trans h.2⟩)
        ⟨c, hc, Frozen.refl hw⟩
      obtain ⟨c2, hc2, f2⟩ := ih (s := r.1) hc1 f1.wf
      exact ⟨c2, hc2, f1.trans f2⟩

theorem factorsForWeek_defined {c : BCfg} {w : Nat} (hw : WF c) (h1 : w < c.lastUpdateWeek)
    (h2 : c.lastUpdateWeek < w + 5) : ∃ f, c.factorsForWeek w = some f := by
  rw [factorsForWeek_eq h1 h2]
  have : 4 - (c.lastUpdateWeek - w) < c.ring.length := by
    unfold WF at hw
    omega
  exact ⟨_, List.getElem?_eq_getElem this⟩

end Mx.Farm
