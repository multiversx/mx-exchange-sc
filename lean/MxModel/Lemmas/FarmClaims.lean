/-
  Farm: what an operation does, seen from the weekly-rewards module and the boosted-yields storage.
  Every operation with a claim user (enter, claim, compound, exit, merge, claimBoostedRewards and
  their on-behalf forms) is

      quiet part ; claimBoostedYields t u ; quiet part ; at most one further call for `u` into the
      weekly module

  (`Claims`), read off the closed forms of the endpoints (Lemmas/FarmEff.lean).  The paid log
  (Lemmas/FarmLog*.lean) needs "nothing the claim reads moved before it", which a `Path` of
  Lemmas/FarmWk.lean (moves in any order) cannot say.  `step_fx` sorts every successful operation
  into `Fx`; the paid log reads its per-operation facts off it (`step_eff`, Lemmas/FarmLog.lean;
  `step_amt`, Lemmas/FarmLogRun.lean).
-/
import MxModel.Lemmas.FarmEff

namespace Mx.Farm

open Mx.Weekly (upd)

/-- a part of an operation that does not call the weekly-rewards module: the module, the clock, the
    boosted configuration and the paid / remaining / collected cells stay, and of the per-week
    cells only those of the current week are written (a settlement cuts into its `accum`/`cutW`,
    `setFarmSupplyWeek` records its supply) -/
structure Quiet (a b : St) : Prop where
  w : b.w = a.w
  epoch : b.epoch = a.epoch
  fws : b.firstWeekStart = a.firstWeekStart
  cfg : b.b.cfg = a.b.cfg
  paidW : b.b.paidW = a.b.paidW
  remaining : b.b.remaining = a.b.remaining
  collW : b.b.collW = a.b.collW
  off : ∀ W, a.week = some W → ∀ w, w ≠ W →
    b.b.accum w = a.b.accum w ∧ b.b.cutW w = a.b.cutW w ∧ b.b.farmSupplyWeek w = a.b.farmSupplyWeek w

theorem Quiet.week {a b : St} (h : Quiet a b) : b.week = a.week := by
  unfold St.week; rw [h.epoch, h.fws]

theorem Quiet.of_eq {a b : St} (hw : b.w = a.w) (hb : b.b = a.b) (he : b.epoch = a.epoch)
    (hf : b.firstWeekStart = a.firstWeekStart) : Quiet a b :=
  ⟨hw, he, hf, by rw [hb], by rw [hb], by rw [hb], by rw [hb], fun _ _ _ _ => by rw [hb]; exact ⟨rfl, rfl, rfl⟩⟩

theorem Quiet.refl (a : St) : Quiet a a := .of_eq rfl rfl rfl rfl

theorem Quiet.trans {a b c : St} (h1 : Quiet a b) (h2 : Quiet b c) : Quiet a c :=
  ⟨h2.w.trans h1.w, h2.epoch.trans h1.epoch, h2.fws.trans h1.fws, h2.cfg.trans h1.cfg,
    h2.paidW.trans h1.paidW, h2.remaining.trans h1.remaining, h2.collW.trans h1.collW,
    fun W hW w hw => by
      obtain ⟨x1, x2, x3⟩ := h1.off W hW w hw
      obtain ⟨y1, y2, y3⟩ := h2.off W (h1.week.trans hW) w hw
      exact ⟨y1.trans x1, y2.trans x2, y3.trans x3⟩⟩

theorem Quiet.setFsw {a b : St} {W x : Nat} (hW : a.week = some W) (hw : b.w = a.w)
    (he : b.epoch = a.epoch) (hf : b.firstWeekStart = a.firstWeekStart)
    (hb : b.b = { a.b with farmSupplyWeek := upd a.b.farmSupplyWeek W x }) : Quiet a b := by
  refine ⟨hw, he, hf, by rw [hb], by rw [hb], by rw [hb], by rw [hb], fun W' hW' w hw => ?_⟩
  cases hW.symm.trans hW'
  rw [hb]
  exact ⟨rfl, rfl, Weekly.upd_other _ _ hw⟩

/-- `s0` apart from `a`: `enterCore` settles AFTER the boosted claim, and `enterCore_effect` writes
    that settlement's cut over the start state -/
theorem Quiet.addCut {a b : St} (s0 : St) (hwk : s0.week = a.week) (hw : b.w = a.w)
    (he : b.epoch = a.epoch) (hf : b.firstWeekStart = a.firstWeekStart) (hb : b.b = addCut s0 a.b) :
    Quiet a b := by
  unfold Farm.addCut at hb
  split at hb
  · exact .of_eq hw hb he hf
  · split at hb
    · rename_i W hW
      refine ⟨hw, he, hf, by rw [hb], by rw [hb], by rw [hb], by rw [hb], fun W' hW' w hw => ?_⟩
      cases (hwk.symm.trans hW).symm.trans hW'
      rw [hb]
      exact ⟨Weekly.upd_other _ _ hw, Weekly.upd_other _ _ hw, rfl⟩
    · exact .of_eq hw hb he hf

theorem genSt_quiet (s : St) : Quiet s (genSt s) := .addCut s rfl rfl rfl rfl rfl

theorem settle_quiet {s s' : St} (h : settle s = some s') : Quiet s s' := by
  obtain ⟨_, rfl⟩ := settle_eq h
  exact (genSt_quiet s).trans (.of_eq rfl rfl rfl rfl)

/-- the call for `u` into the weekly module that may close an operation: `update_energy_and_progress`
    (enter, compound), `clear_user_energy_if_needed` (exit) -/
inductive Tail (t s' : St) (u : Nat) : Prop
  | none (e : s' = t)
  | uep (h : updateEnergyAndProgress t u = some s')
  | clear (h : clearUserEnergyIfNeeded t u = some s')

/-- what an operation with claim user `u` does: a quiet part; the boosted claim of `u`; a quiet part;
    the closing call.  `tot`: the claim reads `userTotal u`, so the first part leaves it alone too -/
inductive Claims (s s' : St) (u : Nat) : Prop
  | mk {t t2 t3 : St} {r : Nat} (pre : Quiet s t) (tot : t.userTotal = s.userTotal)
      (claim : claimBoostedYields t u = some (t2, r)) (mid : Quiet t2 t3) (tail : Tail t3 s' u)

theorem claimTail_tail {s s' : St} {c : Bool} {u b bo : Nat} (h : claimTail s c u b bo = some s') :
    ∃ t3, Quiet s t3 ∧ Tail t3 s' u := by
  rcases claimTail_spec h with ⟨_, s1, h1, h2⟩ | ⟨_, h⟩
  · obtain ⟨_, rfl⟩ := compoundMove_spec h1
    refine ⟨_, ?_, .uep h2⟩
    exact .of_eq rfl rfl rfl rfl
  · obtain ⟨_, _, rfl, _⟩ := payReward_spec h
    refine ⟨_, ?_, .none rfl⟩
    exact .of_eq rfl rfl rfl rfl

theorem enterCore_claims {s s' : St} {caller orig tokenTo amt : Nat} {extra : List (Nat × Nat)} {o : Out}
    (h : enterCore s caller orig tokenTo amt extra = some (s', o)) : Claims s s' orig := by
  obtain ⟨h', t, boosted, ut, merged, W, e, x⟩ := enterCore_effect h
  obtain ⟨w2, b2, rfl⟩ := claimBoostedYields_struct x.claim
  refine .mk ?_ ?_ x.claim ?_ (.uep x.tail)
  · exact .of_eq rfl rfl rfl rfl
  · rfl
  · refine Quiet.trans (b := { ({ s with hold := h', balFarming := s.balFarming + amt } : St) with
      w := w2, b := addCut s b2 }) ?_ ?_
    · exact .addCut s rfl rfl rfl rfl rfl
    · exact .setFsw x.week rfl rfl rfl rfl

theorem claimCore_claims {s s' : St} {caller orig : Nat} {pays : List (Nat × Nat)} {cmp : Bool} {o : Out}
    (h : claimCore s caller orig pays cmp = some (s', o)) : Claims s s' orig := by
  obtain ⟨n1, a1, at1, part, h', t, boosted, ut, merged, W, B, R, x⟩ := claimCore_effect h
  obtain ⟨w2, b2, rfl⟩ := claimBoostedYields_struct x.claim
  obtain ⟨t3, q8, tl⟩ := claimTail_tail x.tail
  refine .mk ?_ ?_ x.claim (Quiet.trans ?_ q8) tl
  · exact Quiet.trans (b := { s with hold := h' }) (.of_eq rfl rfl rfl rfl) (genSt_quiet _)
  · rfl
  · exact .setFsw x.week rfl rfl rfl rfl

theorem exitFarm_claims {s s' : St} {caller : Nat} {opt : Option Nat} {n a : Nat} {o : Out}
    (h : exitFarm s caller opt n a = some (s', o)) :
    ∃ orig, origCaller s caller opt = some orig ∧ Claims s s' orig := by
  obtain ⟨orig, att, h', t, boosted, W, pen, e, B, x⟩ := exitFarm_effect h
  obtain ⟨w2, b2, rfl⟩ := claimBoostedYields_struct x.claim
  refine ⟨orig, x.orig, .mk ?_ ?_ x.claim ?_ (.clear x.tail)⟩
  · exact Quiet.trans (b := { s with hold := h' }) (.of_eq rfl rfl rfl rfl) (genSt_quiet _)
  · rfl
  · exact .setFsw x.week rfl rfl rfl rfl

theorem mergeFarmTokens_claims {s s' : St} {caller : Nat} {opt : Option Nat} {pays : List (Nat × Nat)}
    {o : Out} (h : mergeFarmTokens s caller opt pays = some (s', o)) :
    ∃ orig, origCaller s caller opt = some orig ∧ Claims s s' orig := by
  obtain ⟨orig, h', t, boosted, ut, merged, e, x⟩ := mergeFarmTokens_effect h
  obtain rfl := x.state
  obtain ⟨w2, b2, rfl⟩ := claimBoostedYields_struct x.claim
  refine ⟨orig, x.orig, .mk ?_ ?_ x.claim ?_ (.none rfl)⟩
  · exact .of_eq rfl rfl rfl rfl
  · rfl
  · exact .of_eq rfl rfl rfl rfl

theorem claimBoostedRewards_claims {s s' : St} {caller : Nat} {optUser : Option Nat} {o : Out}
    (h : claimBoostedRewards s caller optUser = some (s', o)) : Claims s s' (optUser.getD caller) := by
  obtain ⟨t, boosted, W, e, x⟩ := claimBoostedRewards_effect h
  obtain rfl := x.state
  obtain ⟨w2, b2, rfl⟩ := claimBoostedYields_struct x.claim
  rw [x.user]
  refine .mk (genSt_quiet s) rfl x.claim ?_ (.none rfl)
  exact .setFsw x.week rfl rfl rfl rfl

/-- what a successful operation is for the weekly module and the boosted-yields storage: the boosted
    claim of its claim user, `updateEnergyForUser`, quiet, or one of the three operations that write
    the boosted configuration, the pools of past weeks, the clock -/
inductive Fx (s : St) (op : Op) (s' : St) : Prop
  | claims {u : Nat} (hu : claimUser s op = some u) (k : Claims s s' u)
  | updateEnergy {u : Nat} (hu : claimUser s op = none) (h : updateEnergyForUser s u = some s')
  | quiet (hu : claimUser s op = none) (q : Quiet s s')
  | setFactors {cfg : BCfg} (hu : claimUser s op = none)
      (e : s' = { s with b := { s.b with cfg := some cfg } })
  | collect {first n last : Nat} (hu : claimUser s op = none)
      (e : s' = { s with b := (collectWeeks s.b s.undist first n).1
                         undist := (collectWeeks s.b s.undist first n).2, lastCollect := last })
  | advance {b e : Nat} (hu : claimUser s op = none) (he : s.epoch ≤ e)
      (e : s' = { s with block := b, epoch := e })

theorem step_fx {s s' : St} {op : Op} {o : Out} (h : step s op = some (s', o)) : Fx s op s' := by
  have hs := step_step h
  clear h
  cases hs with
  | enter hu _ h => exact .claims hu (enterCore_claims h)
  | claim hu _ _ h => exact .claims hu (claimCore_claims h)
  | exit hop _ h =>
    subst hop
    obtain ⟨orig, horig, k⟩ := exitFarm_claims h
    exact .claims horig k
  | merge hop _ h =>
    subst hop
    obtain ⟨orig, horig, k⟩ := mergeFarmTokens_claims h
    exact .claims horig k
  | claimBoosted hop _ h => subst hop; exact .claims rfl (claimBoostedRewards_claims h)
  | updateEnergy hop _ h => subst hop; exact .updateEnergy rfl h
  | transfer hop _ _ _ h =>
    subst hop
    obtain ⟨_, _, _, _, _, _, rfl⟩ := transfer_some h
    exact .quiet rfl (.of_eq rfl rfl rfl rfl)
  | settled hu _ h _ e => subst e; exact .quiet hu ((settle_quiet h).trans (.of_eq rfl rfl rfl rfl))
  | startProduce hop _ _ _ e => subst hop e; exact .quiet rfl (.of_eq rfl rfl rfl rfl)
  | setFactors hop _ _ _ _ _ e => subst hop; exact .setFactors rfl e
  | collect hop _ _ _ e =>
    subst hop e
    split
    · exact .quiet rfl (.refl _)
    · exact .collect rfl rfl
  | advance hop _ _ he e => subst hop; exact .advance rfl he e
  | config hu _ e _ => subst e; exact .quiet hu (.of_eq rfl rfl rfl rfl)

theorem step_claims {s s' : St} {op : Op} {o : Out} {u : Nat} (h : step s op = some (s', o))
    (hu : claimUser s op = some u) : Claims s s' u := by
  cases step_fx h with
  | claims hc k => cases hc.symm.trans hu; exact k
  | updateEnergy hc | quiet hc | setFactors hc | collect hc | advance hc => cases hc.symm.trans hu

end Mx.Farm
