/-
  What a successful call of each endpoint of the energy world implies: the guards that held and the
  helper calls with their intermediate states, in source order, then the answer and the final state
  as one record expression.  The invariant
  lemmas of the energy world (Lemmas/Energy*.lean) reason from these `_spec` / `_cons` statements,
  not from the endpoint bodies.  Also here: the unlock epochs the endpoints assign are month starts.
-/
import MxModel.Lemmas.OptionDo
import MxModel.Core.Energy

namespace Mx.Energy

theorem upd_same (f : Nat → Nat) (k v : Nat) : upd f k v k = v := by simp [upd]

theorem upd_other (f : Nat → Nat) {k x : Nat} (v : Nat) (h : x ≠ k) : upd f k v x = f x := by
  simp [upd, h]

theorem upd2_same (f : Nat → Nat → Nat) (a k v : Nat) : upd2 f a k v a = upd (f a) k v := by
  simp [upd2]

theorem upd2_other (f : Nat → Nat → Nat) {a x : Nat} (k v : Nat) (h : x ≠ a) :
    upd2 f a k v x = f x := by
  simp [upd2, h]

theorem updO_same {α : Type} (f : Nat → α) (k : Nat) (v : α) : updO f k v k = v := by simp [updO]

theorem updO_other {α : Type} (f : Nat → α) {k x : Nat} (v : α) (h : x ≠ k) : updO f k v x = f x := by
  simp [updO, h]

@[simp] theorem credit_epoch (s : St) (a n x : Nat) : (s.credit a n x).epoch = s.epoch := rfl
@[simp] theorem credit_nonces (s : St) (a n x : Nat) : (s.credit a n x).nonces = s.nonces := rfl
@[simp] theorem credit_energy (s : St) (a n x : Nat) : (s.credit a n x).energy = s.energy := rfl
@[simp] theorem credit_bal (s : St) (a n x : Nat) :
    (s.credit a n x).bal = upd2 s.bal a n (s.bal a n + x) := rfl
@[simp] theorem setEnergy_epoch (s : St) (a : Nat) (e : Entry) : (s.setEnergy a e).epoch = s.epoch := rfl
@[simp] theorem setEnergy_nonces (s : St) (a : Nat) (e : Entry) : (s.setEnergy a e).nonces = s.nonces := rfl
@[simp] theorem setEnergy_bal (s : St) (a : Nat) (e : Entry) : (s.setEnergy a e).bal = s.bal := rfl
@[simp] theorem setEnergy_energy (s : St) (a : Nat) (e : Entry) :
    (s.setEnergy a e).energy = updO s.energy a (some e) := rfl

theorem depleteAfterEarly_some {e e' : Entry} {amt unlock now : Nat}
    (h : e.depleteAfterEarly amt unlock now = some e') : amt ≤ e.T :=
  (peel_sub h).1


theorem debit_spec {s s1 : St} {a n amt : Nat} (h : s.debit a n amt = some s1) :
    amt ≤ s.bal a n ∧ s1 = { s with bal := upd2 s.bal a n (s.bal a n - amt) } := by
  obtain ⟨hle, h⟩ := peel_sub h
  exact ⟨hle, (Option.some.inj h).symm⟩

/-- rewriting with this makes every field of the result other than `nonces` and `bal` reduce to the
    field of `s` -/
theorem ensureNonce_eta (s : St) (u : Nat) :
    s.ensureNonce u = { s with nonces := (s.ensureNonce u).nonces, bal := (s.ensureNonce u).bal } := by
  unfold St.ensureNonce
  split <;> rfl

theorem ensureWNonce_eta (s : St) (n : Nat) :
    s.ensureWNonce n =
      { s with wnonces := (s.ensureWNonce n).wnonces, wbal := (s.ensureWNonce n).wbal } := by
  unfold St.ensureWNonce
  split <;> rfl


theorem unlockPays_cons {s s2 : St} {c n amt : Nat} {e e2 : Entry} {ps : List (Nat × Nat)} {tot : Nat}
    (h : unlockPays s c e ((n, amt) :: ps) = some (s2, e2, tot)) :
    ∃ u s1 e1 tot', s.unlockOf n = some u ∧ s.debit c n amt = some s1 ∧ u ≤ s.epoch ∧ 0 < amt ∧
      e.refundAfterUnlock amt u s.epoch = some e1 ∧ unlockPays s1 c e1 ps = some (s2, e2, tot') ∧
      tot = tot' + amt := by
  unfold unlockPays at h
  obtain ⟨u, hu, h⟩ := peel h
  obtain ⟨s1, hdeb, h⟩ := peel h
  obtain ⟨hle, h⟩ := peel_req h
  obtain ⟨hpos, h⟩ := peel_req h
  obtain ⟨e1, he, h⟩ := peel h
  obtain ⟨⟨s2', e2', tot'⟩, hrec, h⟩ := peel h
  obtain ⟨rfl, rfl, rfl⟩ := Prod.mk.inj (Option.some.inj h) |>.imp_right Prod.mk.inj
  exact ⟨u, s1, e1, tot', hu, hdeb, hle, hpos, he, hrec, rfl⟩

theorem mergePays_cons {s s2 : St} {c n amt accE accW accE' accW' : Nat} {e e2 : Entry}
    {ps : List (Nat × Nat)}
    (h : mergePays s c e accE accW ((n, amt) :: ps) = some (s2, e2, accE', accW')) :
    ∃ u s1 e1, s.unlockOf n = some u ∧ s.debit c n amt = some s1 ∧ s.epoch < u ∧
      e.afterUnlockAny amt u s.epoch = some e1 ∧ accW + amt ≠ 0 ∧
      mergePays s1 c e1 (weightedAvgRoundUp accE accW u amt) (accW + amt) ps =
        some (s2, e2, accE', accW') := by
  unfold mergePays at h
  obtain ⟨u, hu, h⟩ := peel h
  obtain ⟨s1, hdeb, h⟩ := peel h
  obtain ⟨hlt, h⟩ := peel_req h
  obtain ⟨e1, he, h⟩ := peel h
  obtain ⟨hne, h⟩ := peel_req h
  exact ⟨u, s1, e1, hu, hdeb, hlt, he, hne, h⟩

theorem deductPays_cons {s s2 : St} {esc c n amt : Nat} {e e2 : Entry} {ps : List (Nat × Nat)}
    (h : deductPays s esc c e ((n, amt) :: ps) = some (s2, e2)) :
    ∃ u s1 e1, s.unlockOf n = some u ∧ s.debit c n amt = some s1 ∧ s.epoch < u ∧
      e.depleteAfterEarly amt u s.epoch = some e1 ∧
      deductPays (s1.credit esc n amt) esc c e1 ps = some (s2, e2) := by
  unfold deductPays at h
  obtain ⟨u, hu, h⟩ := peel h
  obtain ⟨s1, hdeb, h⟩ := peel h
  obtain ⟨hlt, h⟩ := peel_req h
  obtain ⟨e1, he, h⟩ := peel h
  exact ⟨u, s1, e1, hu, hdeb, hlt, he, h⟩

theorem addPays_cons {s s2 : St} {esc u n amt : Nat} {e e2 : Entry} {ps : List (Nat × Nat)}
    (h : addPays s esc u e ((n, amt) :: ps) = some (s2, e2)) :
    ∃ unlock s1, s.unlockOf n = some unlock ∧ s.debit esc n amt = some s1 ∧
      addPays (s1.credit u n amt) esc u (e.addDest amt unlock s.epoch) ps = some (s2, e2) := by
  unfold addPays at h
  obtain ⟨unlock, hu, h⟩ := peel h
  obtain ⟨s1, hdeb, h⟩ := peel h
  exact ⟨unlock, s1, hu, hdeb, h⟩

theorem claimEntries_cons {s s2 : St} {q : UEntry} {qs : List UEntry} {paid : Nat}
    (h : claimEntries s (q :: qs) = some (s2, paid)) :
    ∃ s1 paid', s.debit UNSTAKE q.nonce q.locked = some s1 ∧ q.unlocked ≤ q.locked ∧
      q.unlocked ≤ s1.base UNSTAKE ∧ q.locked - q.unlocked ≤ s1.pendingPenalty ∧
      claimEntries { s1 with base := upd s1.base UNSTAKE (s1.base UNSTAKE - q.unlocked),
                             pendingPenalty := s1.pendingPenalty - (q.locked - q.unlocked),
                             penBurned := s1.penBurned + (q.locked - q.unlocked) * s.burnPct / MAXPCT,
                             collected := s1.collected + ((q.locked - q.unlocked) -
                               (q.locked - q.unlocked) * s.burnPct / MAXPCT) } qs = some (s2, paid') ∧
      paid = paid' + q.unlocked := by
  unfold claimEntries at h
  obtain ⟨s1, hdeb, h⟩ := peel h
  obtain ⟨hpen, h⟩ := peel_sub h
  obtain ⟨hb, h⟩ := peel_sub h
  obtain ⟨hpp, h⟩ := peel_sub h
  obtain ⟨⟨s2', paid'⟩, hrec, h⟩ := peel h
  obtain ⟨rfl, rfl⟩ := Prod.mk.inj (Option.some.inj h)
  exact ⟨s1, paid', hdeb, hpen, hb, hpp, hrec, rfl⟩

theorem cancelEntries_cons {s s2 : St} {c : Nat} {e e2 : Entry} {q : UEntry} {qs : List UEntry}
    (h : cancelEntries s c e (q :: qs) = some (s2, e2)) :
    ∃ unlock s1, s.unlockOf q.nonce = some unlock ∧ s.debit UNSTAKE q.nonce q.locked = some s1 ∧
      q.unlocked ≤ s1.base UNSTAKE ∧ q.unlocked ≤ s1.baseSupply ∧ q.unlocked ≤ q.locked ∧
      q.locked - q.unlocked ≤ s1.pendingPenalty ∧
      cancelEntries ({ s1 with base := upd s1.base UNSTAKE (s1.base UNSTAKE - q.unlocked),
                               baseSupply := s1.baseSupply - q.unlocked,
                               burnCancel := s1.burnCancel + q.unlocked,
                               circ := s1.circ + q.locked,
                               pendingPenalty := s1.pendingPenalty - (q.locked - q.unlocked) }.credit
                        c q.nonce q.locked)
        c (e.restoreCancel q.locked unlock s.epoch) qs = some (s2, e2) := by
  unfold cancelEntries at h
  obtain ⟨unlock, hu, h⟩ := peel h
  obtain ⟨s1, hdeb, h⟩ := peel h
  obtain ⟨hb, h⟩ := peel_sub h
  obtain ⟨hbs, h⟩ := peel_sub h
  obtain ⟨hpen, h⟩ := peel_sub h
  obtain ⟨hpp, h⟩ := peel_sub h
  exact ⟨unlock, s1, hu, hdeb, hb, hbs, hpen, hpp, h⟩


theorem debit_eq {s s1 : St} {a n amt : Nat} (h : s.debit a n amt = some s1) :
    ∃ b, s1 = { s with bal := b } :=
  ⟨_, (debit_spec h).2⟩

theorem unlockPays_eq (ps : List (Nat × Nat)) {s s2 : St} {c : Nat} {e e2 : Entry} {tot : Nat}
    (h : unlockPays s c e ps = some (s2, e2, tot)) : ∃ b, s2 = { s with bal := b } := by
  induction ps generalizing s e tot with
  | nil =>
    obtain ⟨rfl, -⟩ := Prod.mk.inj (Option.some.inj h)
    exact ⟨_, rfl⟩
  | cons p ps ih =>
    obtain ⟨u, s1, e1, tot', -, hdeb, -, -, -, hrec, -⟩ := unlockPays_cons h
    obtain ⟨b1, rfl⟩ := debit_eq hdeb
    obtain ⟨b, rfl⟩ := ih hrec
    exact ⟨b, rfl⟩

theorem mergePays_eq (ps : List (Nat × Nat)) {s s2 : St} {c : Nat} {e e2 : Entry}
    {accE accW accE' accW' : Nat}
    (h : mergePays s c e accE accW ps = some (s2, e2, accE', accW')) :
    ∃ b, s2 = { s with bal := b } := by
  induction ps generalizing s e accE accW with
  | nil =>
    obtain ⟨rfl, -⟩ := Prod.mk.inj (Option.some.inj h)
    exact ⟨_, rfl⟩
  | cons p ps ih =>
    obtain ⟨u, s1, e1, -, hdeb, -, -, -, hrec⟩ := mergePays_cons h
    obtain ⟨b1, rfl⟩ := debit_eq hdeb
    obtain ⟨b, rfl⟩ := ih hrec
    exact ⟨b, rfl⟩

theorem deductPays_eq (ps : List (Nat × Nat)) {s s2 : St} {esc c : Nat} {e e2 : Entry}
    (h : deductPays s esc c e ps = some (s2, e2)) : ∃ b, s2 = { s with bal := b } := by
  induction ps generalizing s e with
  | nil =>
    obtain ⟨rfl, -⟩ := Prod.mk.inj (Option.some.inj h)
    exact ⟨_, rfl⟩
  | cons p ps ih =>
    obtain ⟨u, s1, e1, -, hdeb, -, -, hrec⟩ := deductPays_cons h
    obtain ⟨b1, rfl⟩ := debit_eq hdeb
    obtain ⟨b, rfl⟩ := ih hrec
    exact ⟨b, rfl⟩

theorem addPays_eq (ps : List (Nat × Nat)) {s s2 : St} {esc c : Nat} {e e2 : Entry}
    (h : addPays s esc c e ps = some (s2, e2)) : ∃ b, s2 = { s with bal := b } := by
  induction ps generalizing s e with
  | nil =>
    obtain ⟨rfl, -⟩ := Prod.mk.inj (Option.some.inj h)
    exact ⟨_, rfl⟩
  | cons p ps ih =>
    obtain ⟨u, s1, -, hdeb, hrec⟩ := addPays_cons h
    obtain ⟨b1, rfl⟩ := debit_eq hdeb
    obtain ⟨b, rfl⟩ := ih hrec
    exact ⟨b, rfl⟩

theorem claimEntries_eq (qs : List UEntry) {s s2 : St} {paid : Nat}
    (h : claimEntries s qs = some (s2, paid)) :
    ∃ b ba pp pb co, s2 = { s with bal := b, base := ba, pendingPenalty := pp, penBurned := pb,
                                   collected := co } := by
  induction qs generalizing s paid with
  | nil =>
    obtain ⟨rfl, -⟩ := Prod.mk.inj (Option.some.inj h)
    exact ⟨_, _, _, _, _, rfl⟩
  | cons q qs ih =>
    obtain ⟨s1, paid', hdeb, -, -, -, hrec, -⟩ := claimEntries_cons h
    obtain ⟨b1, rfl⟩ := debit_eq hdeb
    obtain ⟨b, ba, pp, pb, co, rfl⟩ := ih hrec
    exact ⟨b, ba, pp, pb, co, rfl⟩

theorem cancelEntries_eq (qs : List UEntry) {s s2 : St} {c : Nat} {e e2 : Entry}
    (h : cancelEntries s c e qs = some (s2, e2)) :
    ∃ b ba bs bc ci pp, s2 = { s with bal := b, base := ba, baseSupply := bs, burnCancel := bc,
                                      circ := ci, pendingPenalty := pp } := by
  induction qs generalizing s e with
  | nil =>
    obtain ⟨rfl, -⟩ := Prod.mk.inj (Option.some.inj h)
    exact ⟨_, _, _, _, _, _, rfl⟩
  | cons q qs ih =>
    obtain ⟨u, s1, -, hdeb, -, -, -, -, hrec⟩ := cancelEntries_cons h
    obtain ⟨b1, rfl⟩ := debit_eq hdeb
    obtain ⟨b, ba, bs, bc, ci, pp, rfl⟩ := ih hrec
    exact ⟨b, ba, bs, bc, ci, pp, rfl⟩


/-- the unlock epoch `lockTokens` / `lockVirtual` / the period extension assign -/
def lockUnlock (s : St) (epochs : Nat) : Nat := startOfMonth (s.epoch + epochs)

theorem startOfMonth_facts (e : Nat) :
    startOfMonth e % MONTH = 0 ∧ startOfMonth e ≤ e ∧ e < startOfMonth e + MONTH := by
  have hM : MONTH = 30 := rfl
  unfold startOfMonth
  rw [hM]
  omega

theorem upperEstimate_cases (opts : List Opt) (now u : Nat) :
    (upperEstimate opts now u = startOfMonth u ∨ upperEstimate opts now u = startOfMonth u + MONTH) ∧
    (u % MONTH = 0 → upperEstimate opts now u = u) ∧ upperEstimate opts now u % MONTH = 0 := by
  have hM : MONTH = 30 := rfl
  have hs := startOfMonth_facts u
  refine ⟨?_, ?_, ?_⟩
  · unfold upperEstimate
    simp only []
    split
    · exact Or.inl rfl
    · split
      · exact Or.inr rfl
      · split
        · exact Or.inr rfl
        · exact Or.inl rfl
  · intro hu
    have : startOfMonth u = u := by unfold startOfMonth; omega
    unfold upperEstimate
    simp only [this, if_true]
  · unfold upperEstimate
    simp only []
    split
    · exact hs.1
    · split
      · rw [hM] at hs ⊢; omega
      · split
        · rw [hM] at hs ⊢; omega
        · exact hs.1

/-- all a transaction can do to the list of locked-token nonces -/
def Grown (ns ns' : List Nat) : Prop := ns' = ns ∨ ∃ u, u % MONTH = 0 ∧ ns' = ns ++ [u]

theorem ensureNonce_grown (s : St) {u : Nat} (hu : u % MONTH = 0) :
    Grown s.nonces (s.ensureNonce u).nonces := by
  unfold St.ensureNonce
  split
  · exact Or.inl rfl
  · exact Or.inr ⟨u, hu, rfl⟩

theorem lockTokens_spec {s s' : St} {c amt epochs dest : Nat} {o : Out}
    (h : lockTokens s c amt epochs dest = some (s', o)) :
    s.paused = false ∧ s.opts ≠ [] ∧ isListed s.opts epochs = true ∧
    s.epoch < lockUnlock s epochs ∧ 0 < amt ∧ amt ≤ s.base c ∧ amt ≤ s.baseSupply ∧
    o = ⟨s.nonceFor (lockUnlock s epochs), amt, 0⟩ ∧
    s' = (({ (s.ensureNonce (lockUnlock s epochs)) with
              base := upd s.base c (s.base c - amt), baseSupply := s.baseSupply - amt,
              burnLock := s.burnLock + amt, circ := s.circ + amt }.credit
            (if dest = 0 then c else dest) (s.nonceFor (lockUnlock s epochs)) amt).setEnergy
          (if dest = 0 then c else dest)
          ((s.view (if dest = 0 then c else dest)).addAfterLock amt (lockUnlock s epochs) s.epoch)) := by
  unfold lockTokens at h
  obtain ⟨h1, h⟩ := peel_req h
  obtain ⟨h2, h⟩ := peel_req h
  obtain ⟨h3, h⟩ := peel_req h
  obtain ⟨h4, h⟩ := peel_req h
  obtain ⟨h5, h⟩ := peel_req h
  obtain ⟨h6, h⟩ := peel_sub h
  obtain ⟨h7, h⟩ := peel_sub h
  obtain ⟨rfl, rfl⟩ := Prod.mk.inj (Option.some.inj h)
  exact ⟨h1, h2, h3, h4, h5, h6, h7, rfl, rfl⟩

theorem extendLock_spec {s s' : St} {c n amt epochs dest : Nat} {o : Out}
    (h : extendLock s c n amt epochs dest = some (s', o)) :
    ∃ old s0 e0, s.paused = false ∧ s.opts ≠ [] ∧ isListed s.opts epochs = true ∧
      s.epoch < lockUnlock s epochs ∧ (dest = 0 ∨ dest = c) ∧ s.unlockOf n = some old ∧
      s.debit c n amt = some s0 ∧ old < lockUnlock s epochs ∧
      (s.view c).afterUnlockAny amt old s.epoch = some e0 ∧ 0 < amt ∧
      o = ⟨s0.nonceFor (lockUnlock s epochs), amt, 0⟩ ∧
      s' = ((s0.ensureNonce (lockUnlock s epochs)).credit c (s0.nonceFor (lockUnlock s epochs)) amt).setEnergy
            c (e0.addAfterLock amt (lockUnlock s epochs) s.epoch) := by
  unfold extendLock at h
  obtain ⟨h1, h⟩ := peel_req h
  obtain ⟨h2, h⟩ := peel_req h
  obtain ⟨h3, h⟩ := peel_req h
  obtain ⟨h4, h⟩ := peel_req h
  obtain ⟨h5, h⟩ := peel_req h
  obtain ⟨old, hu, h⟩ := peel h
  obtain ⟨s0, hdeb, h⟩ := peel h
  obtain ⟨h6, h⟩ := peel_req h
  obtain ⟨e0, he, h⟩ := peel h
  obtain ⟨h7, h⟩ := peel_req h
  obtain ⟨rfl, rfl⟩ := Prod.mk.inj (Option.some.inj h)
  exact ⟨old, s0, e0, h1, h2, h3, h4, h5, hu, hdeb, h6, he, h7, rfl, rfl⟩

theorem unlockTokens_spec {s s' : St} {c : Nat} {ps : List (Nat × Nat)} {o : Out}
    (h : unlockTokens s c ps = some (s', o)) :
    ∃ s1 e tot, s.paused = false ∧ ps ≠ [] ∧ unlockPays s c (s.view c) ps = some (s1, e, tot) ∧
      tot ≤ s1.circ ∧ o = ⟨tot, 0, 0⟩ ∧
      s' = { s1 with circ := s1.circ - tot, base := upd s1.base c (s1.base c + tot),
                     baseSupply := s1.baseSupply + tot,
                     mintUnlock := s1.mintUnlock + tot }.setEnergy c e := by
  unfold unlockTokens at h
  obtain ⟨h1, h⟩ := peel_req h
  obtain ⟨h2, h⟩ := peel_req h
  obtain ⟨⟨s1, e, tot⟩, hp, h⟩ := peel h
  obtain ⟨h3, h⟩ := peel_sub h
  obtain ⟨rfl, rfl⟩ := Prod.mk.inj (Option.some.inj h)
  exact ⟨s1, e, tot, h1, h2, hp, h3, rfl, rfl⟩

/-! The long characterisations (`mergeTokens`, `unlockEarly`, `reduceLock`) state a structure `…Run`:
  its parameters after the endpoint's arguments are the results of the helper calls, and a field
  bears the name of the call or guard of the model's `do` block it records (`unpaused`: the pause
  check; `locked`: the token's unlock epoch is still ahead; `aligned` and `circ`: the bounds under
  which two checked subtractions went through, the one that aligns the new period to a month start
  and the one from `s.circ`). -/

structure MergeRun (s : St) (c orig : Nat) (ps : List (Nat × Nat)) (n1 a1 : Nat)
    (rest : List (Nat × Nat)) (u1 : Nat) (s1 : St) (e1 : Entry) (s2 : St) (e2 : Entry)
    (accE accW : Nat) (s' : St) (o : Out) : Prop where
  pays : ps = (n1, a1) :: rest
  unpaused : s.paused = false
  opts : s.opts ≠ []
  wl : orig = 0 ∨ c ∈ s.wl
  unlockOf : s.unlockOf n1 = some u1
  debit : s.debit c n1 a1 = some s1
  locked : s.epoch < u1
  afterUnlockAny : (s.view (if orig = 0 then c else orig)).afterUnlockAny a1 u1 s.epoch = some e1
  mergePays : mergePays s1 c e1 u1 a1 rest = some (s2, e2, accE, accW)
  accW_pos : 0 < accW
  unlock : s.epoch < upperEstimate s.opts s.epoch accE
  out : o = ⟨s2.nonceFor (upperEstimate s.opts s.epoch accE), accW, 0⟩
  state : s' = ((s2.ensureNonce (upperEstimate s.opts s.epoch accE)).credit c
              (s2.nonceFor (upperEstimate s.opts s.epoch accE)) accW).setEnergy
            (if orig = 0 then c else orig)
            (e2.addAfterLock accW (upperEstimate s.opts s.epoch accE) s.epoch)

theorem mergeTokens_spec {s s' : St} {c orig : Nat} {ps : List (Nat × Nat)} {o : Out}
    (h : mergeTokens s c orig ps = some (s', o)) :
    ∃ n1 a1 rest u1 s1 e1 s2 e2 accE accW,
      MergeRun s c orig ps n1 a1 rest u1 s1 e1 s2 e2 accE accW s' o := by
  cases ps with
  | nil => exact absurd h (by simp [mergeTokens])
  | cons p rest =>
    obtain ⟨n1, a1⟩ := p
    unfold mergeTokens at h
    obtain ⟨h1, h⟩ := peel_req h
    obtain ⟨h2, h⟩ := peel_req h
    obtain ⟨h3, h⟩ := peel_req h
    obtain ⟨u1, hu, h⟩ := peel h
    obtain ⟨s1, hdeb, h⟩ := peel h
    obtain ⟨h4, h⟩ := peel_req h
    obtain ⟨e1, he, h⟩ := peel h
    obtain ⟨⟨s2, e2, accE, accW⟩, hp, h⟩ := peel h
    obtain ⟨h5, h⟩ := peel_req h
    obtain ⟨h6, h⟩ := peel_req h
    obtain ⟨rfl, rfl⟩ := Prod.mk.inj (Option.some.inj h)
    exact ⟨n1, a1, rest, u1, s1, e1, s2, e2, accE, accW, rfl, h1, h2, h3, hu, hdeb, h4, he, hp, h5, h6,
      rfl, rfl⟩

structure EarlyRun (s : St) (c n amt u : Nat) (s1 : St) (e : Entry) (pen : Nat) (s' : St)
    (o : Out) : Prop where
  unpaused : s.paused = false
  unlockOf : s.unlockOf n = some u
  debit : s.debit c n amt = some s1
  locked : s.epoch < u
  depleteAfterEarly : (s.view c).depleteAfterEarly amt u s.epoch = some e
  penalty : penaltyAmount s.opts amt (u - s.epoch) 0 = some pen
  amt_pos : 0 < amt
  pen_lt : pen < amt
  circ : amt ≤ s.circ
  out : o = ⟨pen, amt - pen, 0⟩
  state : s' = { (s1.credit UNSTAKE n amt) with
              circ := s.circ - amt,
              base := upd s.base UNSTAKE (s.base UNSTAKE + (amt - pen)),
              baseSupply := s.baseSupply + (amt - pen),
              mintEarly := s.mintEarly + (amt - pen),
              pendingPenalty := s.pendingPenalty + pen,
              queue := updO s.queue c
                (s.queue c ++ [UEntry.mk (s.epoch + s.unbond) n amt (amt - pen)]) }.setEnergy c e

theorem unlockEarly_spec {s s' : St} {c n amt : Nat} {o : Out}
    (h : unlockEarly s c n amt = some (s', o)) :
    ∃ u s1 e pen, EarlyRun s c n amt u s1 e pen s' o := by
  unfold unlockEarly at h
  obtain ⟨h1, h⟩ := peel_req h
  obtain ⟨u, hu, h⟩ := peel h
  obtain ⟨s1, hdeb, h⟩ := peel h
  obtain ⟨h2, h⟩ := peel_req h
  obtain ⟨e, he, h⟩ := peel h
  obtain ⟨pen, hpen, h⟩ := peel h
  obtain ⟨h3, h⟩ := peel_req h
  obtain ⟨h4, h⟩ := peel_req h
  obtain ⟨h5, h⟩ := peel_sub h
  obtain ⟨rfl, rfl⟩ := Prod.mk.inj (Option.some.inj h)
  exact ⟨u, s1, e, pen, h1, hu, hdeb, h2, he, hpen, h3, h4, h5, rfl, rfl⟩

structure ReduceRun (s : St) (c n amt epochs u : Nat) (s1 : St) (e : Entry) (pen newEp : Nat)
    (s' : St) (o : Out) : Prop where
  unpaused : s.paused = false
  opts : s.opts ≠ []
  listed : isListed s.opts epochs = true
  unlockOf : s.unlockOf n = some u
  debit : s.debit c n amt = some s1
  locked : s.epoch < u
  aligned : (s.epoch + epochs) % MONTH ≤ epochs
  newEpochs : newEp = epochs - (s.epoch + epochs) % MONTH
  shorter : newEp < u - s.epoch
  depleteAfterEarly : (s.view c).depleteAfterEarly amt u s.epoch = some e
  penalty : penaltyAmount s.opts amt (u - s.epoch) newEp = some pen
  amt_pos : 0 < amt
  pen_lt : pen < amt
  newUnlock : s.epoch < s.epoch + newEp
  circ : pen ≤ s.circ
  out : o = ⟨s1.nonceFor (s.epoch + newEp), amt - pen, pen⟩
  state : s' = { ((s1.ensureNonce (s.epoch + newEp)).credit c (s1.nonceFor (s.epoch + newEp))
                (amt - pen)) with
              circ := s.circ - pen,
              penBurned := s.penBurned + pen * s.burnPct / MAXPCT,
              collected := s.collected + (pen - pen * s.burnPct / MAXPCT) }.setEnergy c
            (e.addAfterLock (amt - pen) (s.epoch + newEp) s.epoch)

theorem reduceLock_spec {s s' : St} {c n amt epochs : Nat} {o : Out}
    (h : reduceLock s c n amt epochs = some (s', o)) :
    ∃ u s1 e pen newEp, ReduceRun s c n amt epochs u s1 e pen newEp s' o := by
  unfold reduceLock at h
  obtain ⟨h1, h⟩ := peel_req h
  obtain ⟨h2, h⟩ := peel_req h
  obtain ⟨h3, h⟩ := peel_req h
  obtain ⟨u, hu, h⟩ := peel h
  obtain ⟨s1, hdeb, h⟩ := peel h
  obtain ⟨h4, h⟩ := peel_req h
  obtain ⟨h5, h⟩ := peel_sub h
  obtain ⟨h6, h⟩ := peel_req h
  obtain ⟨e, he, h⟩ := peel h
  obtain ⟨pen, hpen, h⟩ := peel h
  obtain ⟨h7, h⟩ := peel_req h
  obtain ⟨h8, h⟩ := peel_req h
  obtain ⟨h9, h⟩ := peel_req h
  obtain ⟨h10, h⟩ := peel_sub h
  obtain ⟨rfl, rfl⟩ := Prod.mk.inj (Option.some.inj h)
  exact ⟨u, s1, e, pen, _, h1, h2, h3, hu, hdeb, h4, h5, rfl, h6, he, hpen, h7, h8, h9, h10, rfl, rfl⟩

theorem lockVirtual_spec {s s' : St} {c amt epochs dest eaddr : Nat} {o : Out}
    (h : lockVirtual s c amt epochs dest eaddr = some (s', o)) :
    s.paused = false ∧ 0 < amt ∧ s.opts ≠ [] ∧ isListed s.opts epochs = true ∧ c ∈ s.wl ∧
    s.epoch < lockUnlock s epochs ∧ o = ⟨s.nonceFor (lockUnlock s epochs), amt, 0⟩ ∧
    s' = ({ (s.ensureNonce (lockUnlock s epochs)) with
              circ := s.circ + amt, virtLocked := s.virtLocked + amt }.credit dest
            (s.nonceFor (lockUnlock s epochs)) amt).setEnergy eaddr
          ((s.view eaddr).addAfterLock amt (lockUnlock s epochs) s.epoch) := by
  unfold lockVirtual at h
  obtain ⟨h1, h⟩ := peel_req h
  obtain ⟨h2, h⟩ := peel_req h
  obtain ⟨h3, h⟩ := peel_req h
  obtain ⟨h4, h⟩ := peel_req h
  obtain ⟨h5, h⟩ := peel_req h
  obtain ⟨h6, h⟩ := peel_req h
  obtain ⟨rfl, rfl⟩ := Prod.mk.inj (Option.some.inj h)
  exact ⟨h1, h2, h3, h4, h5, h6, rfl, rfl⟩

/-- what the factory reserves to `scWhitelistAddresses` (read by the access theorems, C19): naming an
    original caller in `mergeTokens`, and `lockVirtual` altogether -/
theorem mergeTokens_wl {s : St} {c orig : Nat} {ps : List (Nat × Nat)} {r : St × Out}
    (h : mergeTokens s c orig ps = some r) : orig = 0 ∨ c ∈ s.wl := by
  obtain ⟨_, _, _, _, _, _, _, _, _, _, t⟩ := mergeTokens_spec (o := r.2) h
  exact t.wl

theorem lockVirtual_wl {s : St} {c amt ep d ea : Nat} {r : St × Out}
    (h : lockVirtual s c amt ep d ea = some r) : c ∈ s.wl :=
  (lockVirtual_spec (o := r.2) h).2.2.2.2.1

theorem claimUnlocked_spec {s s' : St} {c : Nat} {o : Out} (h : claimUnlocked s c = some (s', o)) :
    ∃ s1 paid, claimable s.epoch (s.queue c) ≠ [] ∧
      claimEntries s (claimable s.epoch (s.queue c)) = some (s1, paid) ∧
      o = ⟨paid, (claimable s.epoch (s.queue c)).length, 0⟩ ∧
      s' = { s1 with base := upd s1.base c (s1.base c + paid),
                     queue := updO s1.queue c
                       ((s.queue c).drop (claimable s.epoch (s.queue c)).length) } := by
  unfold claimUnlocked at h
  obtain ⟨h1, h⟩ := peel_req h
  obtain ⟨⟨s1, paid⟩, hp, h⟩ := peel h
  obtain ⟨rfl, rfl⟩ := Prod.mk.inj (Option.some.inj h)
  exact ⟨s1, paid, h1, hp, rfl, rfl⟩

theorem cancelUnbond_spec {s s' : St} {c : Nat} {o : Out} (h : cancelUnbond s c = some (s', o)) :
    ∃ s1 e, s.queue c ≠ [] ∧ cancelEntries s c (s.view c) (s.queue c) = some (s1, e) ∧
      s.paused = false ∧ o = ⟨(s.queue c).length, 0, 0⟩ ∧
      s' = { s1 with queue := updO s1.queue c [] }.setEnergy c e := by
  unfold cancelUnbond at h
  obtain ⟨h1, h⟩ := peel_req h
  obtain ⟨⟨s1, e⟩, hp, h⟩ := peel h
  obtain ⟨h2, h⟩ := peel_req h
  obtain ⟨rfl, rfl⟩ := Prod.mk.inj (Option.some.inj h)
  exact ⟨s1, e, h1, hp, h2, rfl, rfl⟩

theorem lockFunds_spec {s s' : St} {c recv : Nat} {ps : List (Nat × Nat)} {o : Out}
    (h : lockFunds s c recv ps = some (s', o)) :
    ∃ s1 e, s.findXfer recv c = none ∧ cooldownOk s (s.sendLast c) = true ∧
      deductPays s TRANSFER c (s.view c) ps = some (s1, e) ∧ s.paused = false ∧ o = {} ∧
      s' = { s1 with xfers := s1.xfers ++ [Xfer.mk recv c s.epoch ps],
                     sendLast := updO s1.sendLast c (optEpoch s.epoch) }.setEnergy c e := by
  unfold lockFunds at h
  obtain ⟨h1, h⟩ := peel_req h
  obtain ⟨h2, h⟩ := peel_req h
  obtain ⟨⟨s1, e⟩, hp, h⟩ := peel h
  obtain ⟨h3, h⟩ := peel_req h
  obtain ⟨rfl, rfl⟩ := Prod.mk.inj (Option.some.inj h)
  exact ⟨s1, e, h1, h2, hp, h3, rfl, rfl⟩

theorem withdraw_spec {s s' : St} {c sender : Nat} {o : Out} (h : withdraw s c sender = some (s', o)) :
    ∃ x s1 e, cooldownOk s (s.recvLast c) = true ∧ s.findXfer c sender = some x ∧
      s.minLock < s.epoch - x.epoch ∧ addPays s TRANSFER c (s.view c) x.funds = some (s1, e) ∧
      s.paused = false ∧ o = {} ∧
      s' = { s1 with xfers := s.dropXfer c sender,
                     recvLast := updO s1.recvLast c (optEpoch s.epoch) }.setEnergy c e := by
  unfold withdraw at h
  obtain ⟨h1, h⟩ := peel_req h
  obtain ⟨x, hx, h⟩ := peel h
  obtain ⟨h2, h⟩ := peel_req h
  obtain ⟨⟨s1, e⟩, hp, h⟩ := peel h
  obtain ⟨h3, h⟩ := peel_req h
  obtain ⟨rfl, rfl⟩ := Prod.mk.inj (Option.some.inj h)
  exact ⟨x, s1, e, h1, hx, h2, hp, h3, rfl, rfl⟩

theorem cancelTransfer_spec {s s' : St} {sender recv : Nat} {o : Out}
    (h : cancelTransfer s sender recv = some (s', o)) :
    ∃ x s1 e, s.findXfer recv sender = some x ∧
      addPays s TRANSFER sender (s.view sender) x.funds = some (s1, e) ∧ s.paused = false ∧ o = {} ∧
      s' = { s1 with xfers := s.dropXfer recv sender,
                     sendLast := updO s1.sendLast sender none }.setEnergy sender e := by
  unfold cancelTransfer at h
  obtain ⟨x, hx, h⟩ := peel h
  obtain ⟨⟨s1, e⟩, hp, h⟩ := peel h
  obtain ⟨h1, h⟩ := peel_req h
  obtain ⟨rfl, rfl⟩ := Prod.mk.inj (Option.some.inj h)
  exact ⟨x, s1, e, hx, hp, h1, rfl, rfl⟩

theorem wrap_spec {s s' : St} {c n amt : Nat} {o : Out} (h : wrap s c n amt = some (s', o)) :
    ∃ s1 e, deductPays s WRAPPER c (s.view c) [(n, amt)] = some (s1, e) ∧ s.paused = false ∧
      o = ⟨s1.wnonceFor n, amt, 0⟩ ∧
      s' = { (s1.ensureWNonce n) with
              wbal := upd2 (s1.ensureWNonce n).wbal c (s1.wnonceFor n)
                ((s1.ensureWNonce n).wbal c (s1.wnonceFor n) + amt) }.setEnergy c e := by
  unfold wrap at h
  obtain ⟨⟨s1, e⟩, hp, h⟩ := peel h
  obtain ⟨h1, h⟩ := peel_req h
  obtain ⟨rfl, rfl⟩ := Prod.mk.inj (Option.some.inj h)
  exact ⟨s1, e, hp, h1, rfl, rfl⟩

theorem unwrap_spec {s s' : St} {c wn amt : Nat} {o : Out} (h : unwrap s c wn amt = some (s', o)) :
    ∃ n s1 e, s.lockedOfW wn = some n ∧ amt ≤ s.wbal c wn ∧
      addPays s WRAPPER c (s.view c) [(n, amt)] = some (s1, e) ∧ s.paused = false ∧
      o = ⟨n, amt, 0⟩ ∧
      s' = { s1 with wbal := upd2 s1.wbal c wn (s.wbal c wn - amt) }.setEnergy c e := by
  unfold unwrap at h
  obtain ⟨n, hn, h⟩ := peel h
  obtain ⟨h1, h⟩ := peel_sub h
  obtain ⟨⟨s1, e⟩, hp, h⟩ := peel h
  obtain ⟨h2, h⟩ := peel_req h
  obtain ⟨rfl, rfl⟩ := Prod.mk.inj (Option.some.inj h)
  exact ⟨n, s1, e, hn, h1, hp, h2, rfl, rfl⟩

theorem xferWrapped_spec {s s' : St} {c to wn amt : Nat} {o : Out}
    (h : xferWrapped s c to wn amt = some (s', o)) :
    0 < amt ∧ c ≠ to ∧ amt ≤ s.wbal c wn ∧ o = {} ∧
    s' = { s with wbal := upd2 (upd2 s.wbal c wn (s.wbal c wn - amt)) to wn (s.wbal to wn + amt) } := by
  unfold xferWrapped at h
  obtain ⟨h1, h⟩ := peel_req h
  obtain ⟨h2, h⟩ := peel_req h
  obtain ⟨h3, h⟩ := peel_sub h
  obtain ⟨rfl, rfl⟩ := Prod.mk.inj (Option.some.inj h)
  exact ⟨h1, h2, h3, rfl, rfl⟩

theorem addOptions_spec {s s' : St} {new : List Opt} (h : cfg s (.addOptions new) = some s') :
    s.opts.length + new.length ≤ MAXOPTS ∧ new.all (fun o => YEAR ≤ o.1 ∧ o.2 ≤ MAXPCT) = true ∧
    sortOpts (s.opts ++ new) ≠ [] ∧ noDupEpochs (sortOpts (s.opts ++ new)) = true ∧
    strictPcts (sortOpts (s.opts ++ new)) = true ∧ s' = { s with opts := sortOpts (s.opts ++ new) } := by
  unfold cfg at h
  obtain ⟨h1, h⟩ := peel_req h
  obtain ⟨h2, h⟩ := peel_req h
  obtain ⟨h3, h⟩ := peel_req h
  obtain ⟨h4, h⟩ := peel_req h
  obtain ⟨h5, h⟩ := peel_req h
  exact ⟨h1, h2, h3, h4, h5, (Option.some.inj h).symm⟩

theorem cfg_eq {s s' : St} {o : CfgOp} (h : cfg s o = some s') :
    ∃ os bp p wl, s' = { s with opts := os, burnPct := bp, paused := p, wl := wl } ∧
      (os = s.opts ∨ ∃ new, o = .addOptions new) ∧ (bp = s.burnPct ∨ bp ≤ MAXPCT) := by
  cases o
  case addOptions new =>
    obtain ⟨-, -, -, -, -, rfl⟩ := addOptions_spec h
    exact ⟨_, _, _, _, rfl, Or.inr ⟨new, rfl⟩, Or.inl rfl⟩
  case setBurnPct p =>
    unfold cfg at h
    obtain ⟨hp, h⟩ := peel_req h
    obtain rfl := Option.some.inj h
    exact ⟨_, _, _, _, rfl, Or.inl rfl, Or.inr hp⟩
  case pause b =>
    obtain rfl := Option.some.inj h
    exact ⟨_, _, _, _, rfl, Or.inl rfl, Or.inl rfl⟩
  case whitelist c =>
    unfold cfg at h
    obtain ⟨-, h⟩ := peel_req h
    obtain rfl := Option.some.inj h
    exact ⟨_, _, _, _, rfl, Or.inl rfl, Or.inl rfl⟩
  case unwhitelist c =>
    unfold cfg at h
    obtain ⟨-, h⟩ := peel_req h
    obtain rfl := Option.some.inj h
    exact ⟨_, _, _, _, rfl, Or.inl rfl, Or.inl rfl⟩

theorem step_cfg {s s' : St} {cf : CfgOp} {o : Out} (h : step s (.cfg cf) = some (s', o)) :
    cfg s cf = some s' := by
  obtain ⟨s1, h1, h2⟩ := Option.map_eq_some_iff.mp h
  rw [h1, (Prod.mk.inj h2).1]

theorem step_advance {s s' : St} {e : Nat} {o : Out} (h : step s (.advance e) = some (s', o)) :
    s.epoch ≤ e ∧ s' = { s with epoch := e } := by
  simp only [step] at h
  split at h
  · rename_i hle
    exact ⟨hle, (Prod.mk.inj (Option.some.inj h)).1.symm⟩
  · exact absurd h (by simp)

theorem run_induction {P : St → Prop} (ops : List Op) {s : St} (h0 : P s)
    (hstep : ∀ s s' op o, op ∈ ops → P s → step s op = some (s', o) → P s') : P (run s ops) := by
  induction ops generalizing s with
  | nil => exact h0
  | cons op ops ih =>
    have hrest : ∀ s s' op' o, op' ∈ ops → P s → step s op' = some (s', o) → P s' :=
      fun s s' op' o hm => hstep s s' op' o (List.mem_cons_of_mem _ hm)
    show P (run (match step s op with | some (s', _) => s' | none => s) ops)
    cases hst : step s op with
    | none => exact ih h0 hrest
    | some r => exact ih (hstep s r.1 op r.2 (List.mem_cons_self ..) h0 hst) hrest

end Mx.Energy
