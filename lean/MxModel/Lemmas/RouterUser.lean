/-
  Spec lemmas of the router's `EnableSwapByUserModule` (configEnableByUserParameters,
  add/removeCommonTokensForUserPairs, setSwapEnabledByUser) and of the simple-lock operations the
  router world contains.
-/
import MxModel.Core.Router

namespace Mx.Router

theorem updL_apply (f : Addr → LTok → Nat) (a : Addr) (k : LTok) (v : Nat) (x : Addr) (y : LTok) :
    updL f a k v x y = if x = a ∧ y = k then v else f x y := rfl

theorem xfer_spec {l l1 : Addr → LTok → Nat} {src dst : Addr} {k : LTok} {amt : Nat}
    (h : xfer l src dst k amt = some l1) :
    amt ≤ l src k ∧
    l1 = updL (updL l src k (l src k - amt)) dst k
          (updL l src k (l src k - amt) dst k + amt) := by
  simp only [xfer, Option.bind_eq_bind, Option.bind_eq_some_iff, sub?_eq_some, Option.pure_def,
    Option.some.injEq] at h
  obtain ⟨b, ⟨hle, rfl⟩, rfl⟩ := h
  exact ⟨hle, rfl⟩

theorem xfer_ok (l : Addr → LTok → Nat) (src dst : Addr) (k : LTok) {amt : Nat}
    (h : amt ≤ l src k) : ∃ l1, xfer l src dst k amt = some l1 := by
  simp only [xfer, Option.bind_eq_bind, Option.bind_eq_some_iff, sub?_eq_some, Option.pure_def,
    Option.some.injEq]
  exact ⟨_, _, ⟨h, rfl⟩, rfl⟩

theorem xfer_dst_ge {l l1 : Addr → LTok → Nat} {src dst : Addr} {k : LTok} {amt : Nat}
    (h : xfer l src dst k amt = some l1) : amt ≤ l1 dst k := by
  obtain ⟨_, rfl⟩ := xfer_spec h
  simp only [updL_apply, and_self, if_true]
  exact Nat.le_add_left _ _

theorem xfer_back {l l1 l2 : Addr → LTok → Nat} {a b : Addr} {k : LTok} {amt : Nat}
    (h1 : xfer l a b k amt = some l1) (h2 : xfer l1 b a k amt = some l2) : l2 = l := by
  obtain ⟨hle, rfl⟩ := xfer_spec h1
  obtain ⟨_, rfl⟩ := xfer_spec h2
  funext x y
  by_cases hy : y = k
  · subst hy
    by_cases hab : a = b
    · subst hab
      by_cases hx : x = a
      · subst hx; simp [updL_apply]; omega
      · simp [updL_apply, hx]
    · have hba : b ≠ a := fun e => hab e.symm
      by_cases hx : x = a
      · subst hx; simp [updL_apply, hab, hba]; omega
      · by_cases hxb : x = b
        · subst hxb; simp [updL_apply, hab, hba]
        · simp [updL_apply, hx, hxb]
  · simp [updL_apply, hy]

theorem configEnable_spec {s s' : St} {c : Addr} {common locked : Tok} {mv mp : Nat} {o : Out}
    (h : configEnable s c common locked mv mp = some (s', o)) :
    c = s.owner ∧ validTok common ∧ validTok locked ∧ common ∈ s.commonToks ∧
    s' = { s with enableCfg := upd s.enableCfg common (some ⟨locked, mv, mp⟩) } := by
  simp only [configEnable, Option.bind_eq_bind, Option.bind_eq_some_iff, req_eq_some,
    Option.pure_def, Option.some.injEq, Prod.mk.injEq] at h
  obtain ⟨_, h1, _, h2, _, h3, _, h4, rfl, _⟩ := h
  exact ⟨h1, h2, h3, h4, rfl⟩

theorem addCommon_spec {s s' : St} {c : Addr} {toks : List Tok} {o : Out}
    (h : addCommon s c toks = some (s', o)) :
    c = s.owner ∧ (∀ t ∈ toks, validTok t) ∧
    s' = { s with commonToks := toks.foldl setInsert s.commonToks } := by
  simp only [addCommon, Option.bind_eq_bind, Option.bind_eq_some_iff, req_eq_some,
    Option.pure_def, Option.some.injEq, Prod.mk.injEq] at h
  obtain ⟨_, h1, _, h2, rfl, _⟩ := h
  exact ⟨h1, h2, rfl⟩

theorem removeCommon_spec {s s' : St} {c : Addr} {toks : List Tok} {o : Out}
    (h : removeCommon s c toks = some (s', o)) :
    c = s.owner ∧ s' = { s with commonToks := toks.foldl setSwapRemove s.commonToks } := by
  simp only [removeCommon, Option.bind_eq_bind, Option.bind_eq_some_iff, req_eq_some,
    Option.pure_def, Option.some.injEq, Prod.mk.injEq] at h
  obtain ⟨_, h1, rfl, _⟩ := h
  exact ⟨h1, rfl⟩

/-- how the router values LP tokens: in the first pool token if that is whitelisted, else in the
    second if that is, with the amounts of the pair's own `getTokensForGivenPosition` -/
theorem lpValue_spec {wl : List Tok} {p : PairRec} {amount : Nat} {cv : Tok × Nat}
    (h : lpValue wl p amount = some cv) :
    (p.t1 ∈ wl ∧ cv = (p.t1, (Mx.Pair.viewTokensForPosition p.st amount).1)) ∨
    (p.t1 ∉ wl ∧ p.t2 ∈ wl ∧ cv = (p.t2, (Mx.Pair.viewTokensForPosition p.st amount).2)) := by
  unfold lpValue at h
  simp only at h
  by_cases h1 : p.t1 ∈ wl
  · rw [if_pos h1] at h
    exact Or.inl ⟨h1, (Option.some.inj h).symm⟩
  · rw [if_neg h1] at h
    by_cases h2 : p.t2 ∈ wl
    · rw [if_pos h2] at h
      exact Or.inr ⟨h1, h2, (Option.some.inj h).symm⟩
    · rw [if_neg h2] at h
      cases h

/-- the pair state after `setSwapEnabledByUser`: `setFeePercents(USER_DEFINED_TOTAL_FEE_PERCENT,
    DEFAULT_SPECIAL_FEE_PERCENT)` then `resume()` -/
def enabledSt (st : Mx.Pair.St) : Mx.Pair.St :=
  { st with total := USER_TOTAL, special := DEFAULT_SPECIAL, status := .active }

/-! The characterisation of `enableByUser` states a structure `…Run`: its parameters are the
  endpoint's arguments, the results of the helper calls, the final state and the output, and a
  field bears the name of the guard or call of the model's `do` block it records (`lbal`: the
  bound under which the first transfer went through). -/

structure EnableByUserRun (s : St) (c a : Addr) (k : LTok) (amount : Nat) (p : PairRec)
    (cv : Tok × Nat) (cfg : EnableCfg) (s' : St) (o : Out) : Prop where
  amount_pos : 0 < amount
  lbal : amount ≤ s.lbal c k
  active : s.active = true
  checkIsPairSc : checkIsPairSc s.pairMap s.pairs a = some ()
  pairs : s.pairs a = some p
  status : p.st.status = .partialActive
  orig : k.orig = a
  lpValue : lpValue s.commonToks p amount = some cv
  enableCfg : s.enableCfg cv.1 = some cfg
  coll : k.coll = cfg.lockedTok
  minValue : cfg.minValue ≤ cv.2
  minPeriod : cfg.minPeriod ≤ lockedEpochs s.epoch k.unlock
  adder : p.st.adder = some c
  out : o = { back := some (k, amount) }
  state : s' = { s with pairs := setPairSt s.pairs a p (enabledSt p.st) }

theorem enableByUser_spec {s s' : St} {c a : Addr} {k : LTok} {amount : Nat} {o : Out}
    (h : enableByUser s c a k amount = some (s', o)) :
    ∃ p cv cfg, EnableByUserRun s c a k amount p cv cfg s' o := by
  simp only [enableByUser, Option.bind_eq_bind, Option.bind_eq_some_iff, req_eq_some,
    Mx.Pair.cfg, Option.pure_def, Option.some.injEq, Prod.mk.injEq] at h
  obtain ⟨_, h0, l1, hl1, _, h1, u, hc, p, hp, _, h2, _, h3, cv, hcv, cfg, hcfg, _, h4, _, h5,
    _, h6, _, h7, st1, ⟨_, _, rfl⟩, st2, rfl, l2, hl2, rfl, rfl⟩ := h
  cases u
  -- the router takes the LOCKED LP payment and sends it straight back: the ledger ends as it began
  have hback := xfer_back hl1 hl2
  subst hback
  exact ⟨p, cv, cfg, h0, (xfer_spec hl1).1, h1, hc, hp, h2, h3, hcv, hcfg, h4, h5, h6, h7, rfl, rfl⟩

/-- the guards of `enableByUser_spec` are also sufficient -/
theorem enableByUser_complete {s : St} {c a : Addr} {k : LTok} {amount : Nat} {p : PairRec}
    {cv : Tok × Nat} {cfg : EnableCfg}
    (h0 : 0 < amount) (hb : amount ≤ s.lbal c k) (h1 : s.active = true)
    (hc : checkIsPairSc s.pairMap s.pairs a = some ()) (hp : s.pairs a = some p)
    (h2 : p.st.status = .partialActive) (h3 : k.orig = a)
    (hcv : lpValue s.commonToks p amount = some cv) (hcfg : s.enableCfg cv.1 = some cfg)
    (h4 : k.coll = cfg.lockedTok) (h5 : cfg.minValue ≤ cv.2)
    (h6 : cfg.minPeriod ≤ lockedEpochs s.epoch k.unlock) (h7 : p.st.adder = some c) :
    ∃ r, enableByUser s c a k amount = some r := by
  obtain ⟨l1, hl1⟩ := xfer_ok s.lbal c s.self k hb
  obtain ⟨l2, hl2⟩ := xfer_ok l1 s.self c k (xfer_dst_ge hl1)
  have hfee : DEFAULT_SPECIAL ≤ USER_TOTAL ∧ USER_TOTAL ≤ Mx.Pair.MAXFEE := by decide
  simp only [enableByUser, Option.bind_eq_bind, Option.bind_eq_some_iff, req_eq_some,
    Mx.Pair.cfg, Option.pure_def, Option.some.injEq]
  exact ⟨_, ⟨(), h0, l1, hl1, (), h1, (), hc, p, hp, (), h2, (), h3, cv, hcv, cfg, hcfg, (), h4,
    (), h5, (), h6, (), h7, _, ⟨(), hfee, rfl⟩, _, rfl, l2, hl2, rfl⟩⟩

theorem lockTokens_spec {s s' : St} {u : Addr} {coll : Tok} {orig amount unlock : Nat} {o : Out}
    (h : lockTokens s u coll orig amount unlock = some (s', o)) :
    (coll = LOCK_A ∨ coll = LOCK_B) ∧ 0 < amount ∧ amount ≤ s.ubal u orig ∧
    ((unlock ≤ s.epoch ∧ s' = s ∧ o = { pays := [(orig, amount)] }) ∨
     (s.epoch < unlock ∧ o = { back := some (⟨coll, orig, unlock⟩, amount) } ∧
      s' = { s with ubal := upd2 s.ubal u orig (s.ubal u orig - amount),
                    lbal := updL s.lbal u ⟨coll, orig, unlock⟩
                              (s.lbal u ⟨coll, orig, unlock⟩ + amount),
                    lkeys := if (⟨coll, orig, unlock⟩ : LTok) ∈ s.lkeys then s.lkeys
                             else s.lkeys ++ [⟨coll, orig, unlock⟩] })) := by
  simp only [lockTokens, Option.bind_eq_bind, Option.bind_eq_some_iff, req_eq_some,
    sub?_eq_some] at h
  obtain ⟨_, h1, _, h2, b, ⟨h3, rfl⟩, h4⟩ := h
  refine ⟨h1, h2, h3, ?_⟩
  by_cases he : unlock ≤ s.epoch
  · rw [if_pos he] at h4
    simp only [Option.pure_def, Option.some.injEq, Prod.mk.injEq] at h4
    exact Or.inl ⟨he, h4.1.symm, h4.2.symm⟩
  · rw [if_neg he] at h4
    simp only [Option.pure_def, Option.some.injEq, Prod.mk.injEq] at h4
    exact Or.inr ⟨Nat.lt_of_not_le he, h4.2.symm, h4.1.symm⟩

theorem unlockTokens_spec {s s' : St} {u : Addr} {k : LTok} {amount : Nat} {o : Out}
    (h : unlockTokens s u k amount = some (s', o)) :
    0 < amount ∧ amount ≤ s.lbal u k ∧ k.unlock ≤ s.epoch ∧
    o = { pays := [(k.orig, amount)] } ∧
    s' = { s with lbal := updL s.lbal u k (s.lbal u k - amount),
                  ubal := upd2 s.ubal u k.orig (s.ubal u k.orig + amount) } := by
  simp only [unlockTokens, Option.bind_eq_bind, Option.bind_eq_some_iff, req_eq_some,
    sub?_eq_some, Option.pure_def, Option.some.injEq, Prod.mk.injEq] at h
  obtain ⟨_, h1, b, ⟨h2, rfl⟩, _, h3, rfl, rfl⟩ := h
  exact ⟨h1, h2, h3, rfl, rfl⟩

theorem advance_spec {s s' : St} {e : Nat} {o : Out} (h : advance s e = some (s', o)) :
    s.epoch ≤ e ∧ s' = { s with epoch := e } := by
  simp only [advance, Option.bind_eq_bind, Option.bind_eq_some_iff, req_eq_some,
    Option.pure_def, Option.some.injEq, Prod.mk.injEq] at h
  obtain ⟨_, h1, rfl, _⟩ := h
  exact ⟨h1, rfl⟩

end Mx.Router
