/-
  The binary search of `price_observation_by_binary_search` (`bsLoop`) on a segment of the physical
  observation vector whose rounds strictly increase: a statement about the model's loop alone, without the
  ring invariant.
-/
import MxModel.Core.SafePrice

namespace Mx.SafePrice
open Mx Mx.Pair

/-- element at 1-based physical index `i` (total; `Obs.zero` outside the vector) -/
def nth (p : SP) (i : Nat) : Obs := p.obs.getD (i - 1) Obs.zero

theorem get?_some {p : SP} {i : Nat} (h1 : 1 ≤ i) (h2 : i ≤ p.obs.length) :
    get? p i = some (nth p i) := by
  unfold get? nth
  rw [if_pos ⟨h1, h2⟩, List.getD_eq_getElem?_getD, List.getElem?_eq_getElem (by omega)]
  rfl

theorem get?_none {p : SP} {i : Nat} (h : ¬ (1 ≤ i ∧ i ≤ p.obs.length)) : get? p i = none := by
  unfold get?
  rw [if_neg h]

def SortedSeg (p : SP) (lo hi : Nat) : Prop :=
  ∀ i j, lo ≤ i → i < j → j ≤ hi → (nth p i).round < (nth p j).round

/-- result of the search loop on a miss: on an empty segment the index passed in; otherwise the
    last probed index `si'`, which lies in `[l, r]`, does not hold round `q`, and splits the
    segment: everything before it is older than `q`, everything after it is newer -/
def Miss (p : SP) (q l r si si' : Nat) : Prop :=
  (r < l ∧ si' = si) ∨
  (l ≤ si' ∧ si' ≤ r ∧ (nth p si').round ≠ q ∧
    (∀ i, l ≤ i → i < si' → (nth p i).round < q) ∧
    (∀ i, si' < i → i ≤ r → q < (nth p i).round))

theorem bsLoop_spec (p : SP) (q : Nat) :
    ∀ (fuel l r si : Nat), 1 ≤ l → r ≤ p.obs.length → r + 1 - l ≤ fuel → SortedSeg p l r →
      ∃ o si', bsLoop p q fuel l r si = some (o, si') ∧
        ((o = nth p si' ∧ o.round = q ∧ l ≤ si' ∧ si' ≤ r) ∨ (o = Obs.zero ∧ Miss p q l r si si')) := by
  intro fuel
  induction fuel with
  | zero =>
    intro l r si _ _ h4 _
    have hlr : ¬ l ≤ r := by omega
    exact ⟨Obs.zero, si, by simp only [bsLoop, hlr, if_false],
      Or.inr ⟨rfl, Or.inl ⟨Nat.lt_of_not_le hlr, rfl⟩⟩⟩
  | succ fuel ih =>
    intro l r si h1 h2 h4 hsort
    by_cases hlr : l ≤ r
    · have hmid1 : l ≤ (l + r) / 2 := by omega
      have hmid2 : (l + r) / 2 ≤ r := by omega
      generalize hmid : (l + r) / 2 = mid at hmid1 hmid2
      have hget : get? p mid = some (nth p mid) :=
        get?_some (Nat.le_trans h1 hmid1) (Nat.le_trans hmid2 h2)
      simp only [bsLoop, hlr, if_true, hmid, hget, Option.bind_eq_bind, Option.bind_some,
        Option.pure_def]
      by_cases heq : (nth p mid).round = q
      · rw [if_pos heq]
        exact ⟨_, _, rfl, Or.inl ⟨rfl, heq, hmid1, hmid2⟩⟩
      · rw [if_neg heq]
        by_cases hlt : (nth p mid).round < q
        · -- the probe is older than `q`, and so is everything before it: go right
          rw [if_pos hlt]
          have hold : ∀ i, l ≤ i → i ≤ mid → (nth p i).round < q := fun i a b => by
            rcases Nat.lt_or_eq_of_le b with b | b
            · exact Nat.lt_trans (hsort i mid a b hmid2) hlt
            · exact b ▸ hlt
          obtain ⟨o, si', he, hres⟩ := ih (mid + 1) r mid (Nat.succ_pos _) h2 (by omega)
            (fun i j a b c => hsort i j (Nat.le_trans hmid1 (Nat.le_of_succ_le a)) b c)
          refine ⟨o, si', he, ?_⟩
          rcases hres with ⟨e1, e2, e3, e4⟩ | ⟨e1, ⟨hr, rfl⟩ | ⟨a, b, c, d, e⟩⟩
          · exact Or.inl ⟨e1, e2, Nat.le_trans hmid1 (Nat.le_of_succ_le e3), e4⟩
          · exact Or.inr ⟨e1, Or.inr ⟨hmid1, hmid2, heq, fun i x y => hold i x (Nat.le_of_lt y),
              fun i x y => absurd y (Nat.not_le_of_lt (Nat.lt_of_lt_of_le hr x))⟩⟩
          · refine Or.inr ⟨e1, Or.inr ⟨Nat.le_trans hmid1 (Nat.le_of_succ_le a), b, c,
              fun i x y => ?_, e⟩⟩
            by_cases hi : i ≤ mid
            · exact hold i x hi
            · exact d i (Nat.lt_of_not_le hi) y
        · -- the probe is newer than `q`, and so is everything after it: go left
          rw [if_neg hlt]
          have hgt : q < (nth p mid).round :=
            Nat.lt_of_le_of_ne (Nat.le_of_not_lt hlt) (Ne.symm heq)
          have hpred : mid - 1 ≤ r := Nat.le_trans (Nat.sub_le _ _) hmid2
          have hnew : ∀ i, mid ≤ i → i ≤ r → q < (nth p i).round := fun i a b => by
            rcases Nat.lt_or_eq_of_le a with a | a
            · exact Nat.lt_trans hgt (hsort mid i hmid1 a b)
            · exact a ▸ hgt
          obtain ⟨o, si', he, hres⟩ := ih l (mid - 1) mid h1 (Nat.le_trans hpred h2) (by omega)
            (fun i j a b c => hsort i j a b (Nat.le_trans c hpred))
          refine ⟨o, si', he, ?_⟩
          rcases hres with ⟨e1, e2, e3, e4⟩ | ⟨e1, ⟨hl, rfl⟩ | ⟨a, b, c, d, e⟩⟩
          · exact Or.inl ⟨e1, e2, e3, Nat.le_trans e4 hpred⟩
          · exact Or.inr ⟨e1, Or.inr ⟨hmid1, hmid2, heq,
              fun i x y => absurd x (Nat.not_le_of_lt (Nat.lt_of_le_of_lt (Nat.le_sub_one_of_lt y) hl)),
              fun i x y => hnew i (Nat.le_of_lt x) y⟩⟩
          · refine Or.inr ⟨e1, Or.inr ⟨a, Nat.le_trans b hpred, c, d, fun i x y => ?_⟩⟩
            by_cases hi : mid ≤ i
            · exact hnew i hi y
            · exact e i x (Nat.le_sub_one_of_lt (Nat.lt_of_not_le hi))
    · exact ⟨Obs.zero, si, by simp only [bsLoop, hlr, if_false],
        Or.inr ⟨rfl, Or.inl ⟨Nat.lt_of_not_le hlr, rfl⟩⟩⟩

end Mx.SafePrice
