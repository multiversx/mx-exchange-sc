/-
  Farm: the paid log of boosted rewards over whole histories (definitions + `paidLog_once_from`,
  `paidLog_sum_from`) and the amount of its entries (`stepLog_amount`).  Per-operation facts come
  from `step_eff` (Lemmas/FarmLog.lean) and `step_claims` (Lemmas/FarmClaims.lean); no state
  invariant is needed.
-/
import MxModel.Lemmas.FarmLog
import MxModel.Lemmas.ListSum

namespace Mx.Farm

open Mx.Weekly (upd_same upd_other)

def next (s : St) (op : Op) : St :=
  match step s op with
  | some r => r.1
  | none => s

theorem run_cons (s : St) (op : Op) (ops : List Op) : run s (op :: ops) = run (next s op) ops := rfl

theorem next_of_some {s : St} {op : Op} {r : St × Out} (h : step s op = some r) : next s op = r.1 := by
  unfold next; rw [h]

theorem next_of_none {s : St} {op : Op} (h : step s op = none) : next s op = s := by
  unfold next; rw [h]

/-- one boosted payment: `user` received `amount` out of the pool of week `week` -/
structure Entry where
  user : Nat
  week : Nat
  amount : Nat
  deriving DecidableEq, Repr

/-- the boosted payments of one successful operation with claim user `u`: for every completed week
    whose paid ghost grew, that growth -/
def entriesOf (u : Nat) (s s' : St) : List Entry :=
  (List.range (curWeek s)).filterMap fun w =>
    if s'.b.paidW w ≠ s.b.paidW w then some ⟨u, w, s'.b.paidW w - s.b.paidW w⟩ else none

def stepLog (s : St) (op : Op) : List Entry :=
  match claimUser s op, step s op with
  | some u, some r => entriesOf u s r.1
  | _, _ => []

/-- the paid log: every boosted payment of the history `ops` from `s`, in order (a failed transaction
    logs nothing) -/
def paidLog (s : St) : List Op → List Entry
  | [] => []
  | op :: ops => stepLog s op ++ paidLog (next s op) ops

theorem mem_entriesOf {u : Nat} {s s' : St} {e : Entry} (h : e ∈ entriesOf u s s') :
    e.user = u ∧ e.week < curWeek s ∧ s'.b.paidW e.week ≠ s.b.paidW e.week ∧
    e.amount = s'.b.paidW e.week - s.b.paidW e.week := by
  simp only [entriesOf, List.mem_filterMap, List.mem_range] at h
  obtain ⟨w, hw, hsome⟩ := h
  split at hsome
  · rename_i hne
    simp only [Option.some.injEq] at hsome
    subst hsome
    exact ⟨rfl, hw, hne, rfl⟩
  · cases hsome

theorem stepLog_cases {s : St} {op : Op} {e : Entry} (h : e ∈ stepLog s op) :
    ∃ u r, claimUser s op = some u ∧ step s op = some r ∧ e ∈ entriesOf u s r.1 := by
  unfold stepLog at h
  split at h
  · rename_i u r hu hs
    exact ⟨u, r, hu, hs, h⟩
  · cases h

theorem stepLog_of_none {s : St} {op : Op} (h : step s op = none) : stepLog s op = [] := by
  unfold stepLog; rw [h]; split <;> first | rfl | (rename_i h1 h2; cases h2)

theorem stepLog_window {s : St} {op : Op} {e : Entry} (h : e ∈ stepLog s op) :
    claimUser s op = some e.user ∧ curWeek s ≤ e.week + 4 ∧ e.week < curWeek s ∧
    ∃ p, s.w.progress e.user = some p ∧ p.week ≤ e.week := by
  obtain ⟨u, r, hu, hs, hm⟩ := stepLog_cases h
  obtain ⟨heu, hwk, hne, _⟩ := mem_entriesOf hm
  subst heu
  rcases step_eff (s' := r.1) (o := r.2) hs with hq | ⟨u', W, eff, hcu⟩
  · exact absurd (congrFun hq.1 e.week) hne
  · have := hcu e.week hne
    rw [hu] at this
    simp only [Option.some.injEq] at this
    subst this
    obtain ⟨h1, h2, hp⟩ := eff.window e.week hne
    rw [← week_curWeek eff.week]
    exact ⟨hu, h1, h2, hp⟩

def sameKey (e e' : Entry) : Prop := e.user = e'.user ∧ e.week = e'.week

/-- the invariant of the once-only induction: every logged week is completed and lies below its
    user's stored progress week (if any); an operation pays no week below its claim user's
    progress (`OpEff.window`), so it logs no key a second time -/
def LogOk (s : St) (l : List Entry) : Prop :=
  ∀ e ∈ l, e.week < curWeek s ∧ ∀ p, s.w.progress e.user = some p → e.week < p.week

theorem stepLog_pairwise (s : St) (op : Op) : (stepLog s op).Pairwise (fun e e' => ¬ sameKey e e') := by
  unfold stepLog
  split
  · rename_i u r _ _
    unfold entriesOf
    rw [List.pairwise_filterMap]
    refine (List.pairwise_lt_range (n := curWeek s)).imp ?_
    intro w1 w2 hlt b hb b' hb' hk
    split at hb
    · split at hb'
      · simp only [Option.some.injEq] at hb hb'
        subst hb; subst hb'
        have := hk.2
        simp only at this
        omega
      · cases hb'
    · cases hb
  · exact List.Pairwise.nil

theorem stepLog_fresh {s : St} {l : List Entry} (hO : LogOk s l) {op : Op} :
    ∀ a ∈ l, ∀ b ∈ stepLog s op, ¬ sameKey a b := by
  intro a ha b hb hk
  obtain ⟨_, _, _, p, hp, hple⟩ := stepLog_window hb
  have := (hO a ha).2 p (by rw [hk.1]; exact hp)
  have := hk.2
  omega

theorem next_LogOk {s : St} {l : List Entry} (hO : LogOk s l) (op : Op) :
    LogOk (next s op) (l ++ stepLog s op) := by
  cases hs : step s op with
  | none => rw [next_of_none hs, stepLog_of_none hs, List.append_nil]; exact hO
  | some r =>
    rw [next_of_some hs]
    obtain ⟨hfw, hep⟩ := step_clock (s' := r.1) (o := r.2) hs
    rcases step_eff (s' := r.1) (o := r.2) hs with hq | ⟨u, W, eff, hcu⟩
    · -- nothing paid, no progress moved: the operation logs nothing
      have hnil : stepLog s op = [] := by
        cases hl : stepLog s op with
        | nil => rfl
        | cons e es =>
          exfalso
          have he : e ∈ stepLog s op := by rw [hl]; exact List.mem_cons_self
          obtain ⟨u, r', hu, hs', hm⟩ := stepLog_cases he
          rw [hs] at hs'
          simp only [Option.some.injEq] at hs'
          subst hs'
          exact (mem_entriesOf hm).2.2.1 (congrFun hq.1 e.week)
      rw [hnil, List.append_nil]
      have hmono := curWeek_mono hfw hep
      intro e he
      refine ⟨Nat.lt_of_lt_of_le (hO e he).1 hmono, fun p hp => ?_⟩
      rw [hq.2] at hp
      exact (hO e he).2 p hp
    · have hWc := week_curWeek eff.week
      have hcw : curWeek r.1 = curWeek s := by unfold curWeek; rw [hfw, eff.epoch]
      obtain ⟨o, ho, hprog⟩ := eff.prog
      intro e he
      rw [hcw]
      have hwk : e.week < curWeek s := by
        rcases List.mem_append.mp he with he | he
        · exact (hO e he).1
        · exact (stepLog_window he).2.2.1
      refine ⟨hwk, fun p hp => ?_⟩
      rw [hprog] at hp
      by_cases heu : e.user = u
      · rw [heu, upd_same] at hp
        rw [ho p hp, hWc]; exact hwk
      · rw [upd_other _ _ heu] at hp
        rcases List.mem_append.mp he with he | he
        · exact (hO e he).2 p hp
        · exfalso
          obtain ⟨hcu', _, _, _⟩ := stepLog_window he
          obtain ⟨u', r', hu', hs', hm⟩ := stepLog_cases he
          rw [hs] at hs'
          simp only [Option.some.injEq] at hs'
          subst hs'
          have := hcu e.week (mem_entriesOf hm).2.2.1
          rw [hcu'] at this
          simp only [Option.some.injEq] at this
          exact heu this

/-- no (user, week) twice; `pre`, the entries logged before `s`, generalises the start state for
    the induction -/
theorem paidLog_once_from (ops : List Op) : ∀ {s : St} {pre : List Entry}
    (_ : LogOk s pre) (_ : pre.Pairwise (fun e e' => ¬ sameKey e e')),
    (pre ++ paidLog s ops).Pairwise (fun e e' => ¬ sameKey e e') := by
  induction ops with
  | nil => intro s pre _ hP; simpa [paidLog] using hP
  | cons op ops ih =>
    intro s pre hO hP
    simp only [paidLog]
    rw [← List.append_assoc]
    refine ih (next_LogOk hO op) ?_
    rw [List.pairwise_append]
    exact ⟨hP, stepLog_pairwise s op, stepLog_fresh hO⟩

def logSum (l : List Entry) (w : Nat) : Nat := (l.map fun e => if e.week = w then e.amount else 0).sum

theorem exists_of_logSum_pos {l : List Entry} {w : Nat} (h : 0 < logSum l w) :
    ∃ e ∈ l, e.week = w ∧ 0 < e.amount := by
  obtain ⟨e, he, hp⟩ := exists_of_sum_map_pos h
  split at hp
  · exact ⟨e, he, ‹_›, hp⟩
  · cases hp

theorem stepLog_pos {s : St} {op : Op} {e : Entry} (h : e ∈ stepLog s op) : 0 < e.amount := by
  obtain ⟨u, r, hu, hs, hm⟩ := stepLog_cases h
  obtain ⟨_, _, hne, hamt⟩ := mem_entriesOf hm
  rcases step_eff (s' := r.1) (o := r.2) hs with hq | ⟨u', W, eff, _⟩
  · exact absurd (congrFun hq.1 e.week) hne
  · have := eff.mono e.week
    omega

theorem logSum_append (l1 l2 : List Entry) (w : Nat) : logSum (l1 ++ l2) w = logSum l1 w + logSum l2 w := by
  unfold logSum; rw [List.map_append, List.sum_append]

theorem logSum_entriesOf (u : Nat) (s s' : St) (w : Nat) :
    logSum (entriesOf u s s') w =
      if w < curWeek s ∧ s'.b.paidW w ≠ s.b.paidW w then s'.b.paidW w - s.b.paidW w else 0 := by
  unfold entriesOf
  generalize curWeek s = K
  induction K with
  | zero => simp [logSum]
  | succ K ih =>
    rw [List.range_succ, List.filterMap_append, logSum_append, ih]
    by_cases hw : w = K
    · subst hw
      by_cases hne : s'.b.paidW w ≠ s.b.paidW w
      · simp [logSum, hne]
      · simp [logSum, hne]
    · have h1 : (w < K + 1) ↔ (w < K) := by omega
      by_cases hne : s'.b.paidW K ≠ s.b.paidW K
      · simp [logSum, hne, h1, Ne.symm hw]
      · simp [logSum, hne, h1]

theorem logSum_stepLog_of_eq {s : St} {op : Op} {r : St × Out} {w : Nat} (hs : step s op = some r)
    (he : r.1.b.paidW w = s.b.paidW w) : logSum (stepLog s op) w = 0 := by
  unfold stepLog
  rw [hs]
  split
  · rename_i u r' _ hr
    cases hr
    rw [logSum_entriesOf]
    simp [he]
  · rfl

theorem stepLog_sum (s : St) (op : Op) (w : Nat) :
    (next s op).b.paidW w = s.b.paidW w + logSum (stepLog s op) w := by
  cases hs : step s op with
  | none => rw [next_of_none hs, stepLog_of_none hs]; rfl
  | some r =>
    rw [next_of_some hs]
    rcases step_eff (s' := r.1) (o := r.2) hs with hq | ⟨u, W, eff, hcu⟩
    · rw [logSum_stepLog_of_eq hs (congrFun hq.1 w), congrFun hq.1 w]; rfl
    · have hmono := eff.mono w
      by_cases hne : r.1.b.paidW w = s.b.paidW w
      · rw [logSum_stepLog_of_eq hs hne, hne]; rfl
      · have hcu' := hcu w hne
        have hlog : stepLog s op = entriesOf u s r.1 := by unfold stepLog; rw [hcu', hs]
        obtain ⟨_, hlt, _⟩ := eff.window w hne
        have hlt' : w < curWeek s := by rw [← week_curWeek eff.week]; exact hlt
        rw [hlog, logSum_entriesOf, if_pos ⟨hlt', hne⟩]
        omega

theorem paidLog_sum_from (ops : List Op) : ∀ (s : St) (w : Nat),
    (run s ops).b.paidW w = s.b.paidW w + logSum (paidLog s ops) w := by
  induction ops with
  | nil => intro s w; simp [run, paidLog, logSum]
  | cons op ops ih =>
    intro s w
    rw [run_cons, ih (next s op) w, stepLog_sum s op w]
    simp only [paidLog, logSum_append]
    omega

theorem step_amt {s s' : St} {op : Op} {o : Out} {u : Nat} (h : step s op = some (s', o))
    (hu : claimUser s op = some u) : AmtEff s s' u := (step_claims h hu).amt

theorem step_paid_of_no_claimUser {s s' : St} {op : Op} {o : Out} (h : step s op = some (s', o))
    (hu : claimUser s op = none) : s'.b.paidW = s.b.paidW := by
  rcases step_eff h with hq | ⟨u, W, _, hcu⟩
  · exact hq.1
  · funext w
    by_cases hne : s'.b.paidW w = s.b.paidW w
    · exact hne
    · have := hcu w hne
      rw [hu] at this
      cases this

/-- the amount of a log entry is the formula of C11: being positive (`stepLog_pos`) it is, by
    `duePay_pos`, `boostedAmount` with non-zero denominators and the user at or above the week's
    minima; every input but the pool is read BEFORE the operation (`AmtEff`) -/
theorem stepLog_amount {s : St} {op : Op} {e : Entry} (h : e ∈ stepLog s op) :
    e.amount = duePay s e.user e.week (rOf ((next s op).w.totalRewards e.week)) := by
  obtain ⟨u, r, hu, hs, hm⟩ := stepLog_cases h
  obtain ⟨heu, _, _, hamt⟩ := mem_entriesOf hm
  subst heu
  have := step_amt (s' := r.1) (o := r.2) hs hu e.week
  rw [next_of_some hs, hamt, this]
  omega

/-- the clause of C11 "zero below the configured minimum energy or minimum position":
    `duePay_zero_of_below` gives `hz` -/
theorem stepLog_none_of_duePay_zero {s : St} {op : Op} {u w : Nat} (hu : claimUser s op = some u)
    (hz : duePay s u w (rOf ((next s op).w.totalRewards w)) = 0) :
    ∀ e ∈ stepLog s op, e.week ≠ w := by
  intro e he hw
  have h1 := stepLog_amount he
  have h2 := stepLog_pos he
  have h3 := (stepLog_window he).1
  rw [hu] at h3
  simp only [Option.some.injEq] at h3
  rw [← h3, hw, hz] at h1
  omega

end Mx.Farm
