/-
  Sums over the explicit user list (`Weekly.St.users`) and the share-sum bound.
  Core lemmas only (no `BigOperators`).
-/
import MxModel.Core.Weekly
import Mathlib.Tactic.Ring
import Mathlib.Tactic.Linarith

namespace Mx.Weekly

def usum (l : List Nat) (f : Nat → Nat) : Nat := (l.map f).sum

@[simp] theorem usum_nil (f : Nat → Nat) : usum [] f = 0 := rfl
@[simp] theorem usum_cons (a : Nat) (l : List Nat) (f : Nat → Nat) :
    usum (a :: l) f = f a + usum l f := by simp [usum]

theorem usum_append (l1 l2 : List Nat) (f : Nat → Nat) :
    usum (l1 ++ l2) f = usum l1 f + usum l2 f := by
  simp [usum, List.sum_append]

theorem usum_add (l : List Nat) (f g : Nat → Nat) :
    usum l (fun u => f u + g u) = usum l f + usum l g := by
  induction l with
  | nil => simp
  | cons a l ih => simp only [usum_cons, ih]; omega

theorem usum_mul (l : List Nat) (c : Nat) (f : Nat → Nat) :
    usum l (fun u => c * f u) = c * usum l f := by
  induction l with
  | nil => simp
  | cons a l ih => simp only [usum_cons, ih]; ring

theorem usum_congr {l : List Nat} {f g : Nat → Nat} (h : ∀ u ∈ l, f u = g u) :
    usum l f = usum l g :=
  congrArg List.sum (List.map_congr_left h)

theorem usum_zero {l : List Nat} {f : Nat → Nat} (h : ∀ u ∈ l, f u = 0) : usum l f = 0 := by
  induction l with
  | nil => rfl
  | cons a l ih => rw [usum_cons, h a (by simp), ih fun u hu => h u (by simp [hu])]

theorem usum_le {l : List Nat} {f g : Nat → Nat} (h : ∀ u ∈ l, f u ≤ g u) :
    usum l f ≤ usum l g := by
  induction l with
  | nil => simp
  | cons a l ih =>
    simp only [usum_cons]
    exact Nat.add_le_add (h a (by simp)) (ih fun u hu => h u (by simp [hu]))

theorem le_usum {l : List Nat} {f : Nat → Nat} {u : Nat} (hu : u ∈ l) : f u ≤ usum l f := by
  induction l with
  | nil => simp at hu
  | cons a l ih =>
    simp only [usum_cons]
    rcases List.mem_cons.mp hu with rfl | h
    · omega
    · have := ih h; omega

theorem usum_update {l : List Nat} (hnd : l.Nodup) {u0 : Nat} (hu : u0 ∈ l) {f g : Nat → Nat}
    (h : ∀ u ∈ l, u ≠ u0 → g u = f u) : usum l g + f u0 = usum l f + g u0 := by
  induction l with
  | nil => simp at hu
  | cons a l ih =>
    simp only [usum_cons]
    have hnd' := (List.nodup_cons.mp hnd)
    rcases List.mem_cons.mp hu with rfl | hmem
    · have : usum l g = usum l f := usum_congr (fun u hu' => h u (by simp [hu']) (by
        rintro rfl; exact hnd'.1 hu'))
      omega
    · have ha : a ≠ u0 := by rintro rfl; exact hnd'.1 hmem
      have := h a (by simp) ha
      have := ih hnd'.2 hmem (fun u hu' hne => h u (by simp [hu']) hne)
      omega

theorem share_le (total e E : Nat) (h : e ≤ E) : share total e E ≤ total :=
  Nat.div_le_of_le_mul (Nat.mul_comm E total ▸ Nat.mul_le_mul_left total h)

theorem div_add_div_le (a b E : Nat) : a / E + b / E ≤ (a + b) / E := by
  rcases Nat.eq_zero_or_pos E with rfl | hE
  · simp
  · rw [Nat.le_div_iff_mul_le hE, Nat.add_mul]
    exact Nat.add_le_add (Nat.div_mul_le_self a E) (Nat.div_mul_le_self b E)

theorem usum_share_le (l : List Nat) (total E : Nat) (e : Nat → Nat) :
    usum l (fun u => share total (e u) E) ≤ share total (usum l e) E := by
  induction l with
  | nil => simp [share]
  | cons a l ih =>
    simp only [usum_cons]
    unfold share at *
    have := div_add_div_le (total * e a) (total * usum l e) E
    rw [← Nat.mul_add] at this
    omega

/-- the arithmetic core of C10's week-sum bound: claimers whose energies for a week sum to at most
    the week's total energy get shares of a reward amount that sum to at most that amount -/
theorem usum_share_le_total (l : List Nat) (total E : Nat) (e : Nat → Nat)
    (h : usum l e ≤ E) : usum l (fun u => share total (e u) E) ≤ total :=
  Nat.le_trans (usum_share_le l total E e) (share_le total _ E h)

theorem usum_le_of_move {users : List Nat} {u : Nat} {φ ψ : Nat → Nat}
    (hoth : ∀ x, x ≠ u → ψ x = φ x) (hle : ψ u ≤ φ u) : usum users ψ ≤ usum users φ :=
  usum_le fun x _ => by
    by_cases hx : x = u
    · subst hx; exact hle
    · rw [hoth x hx]

/-- a total rewritten at `u` against what is taken in and handed out there -/
theorem upd_ite_add {f : Nat → Nat} {u z a b : Nat} (h : z + a = f u + b) (o : Nat) :
    upd f u z o + (if o = u then a else 0) = f o + (if o = u then b else 0) := by
  by_cases ho : o = u
  · subst ho; simp only [upd_same, if_true]; exact h
  · simp only [upd_other _ _ ho, if_neg ho]

/-- over a duplicate-free list at most one index matches -/
theorem usum_indicator_le : ∀ (L : List Nat), L.Nodup → ∀ (c : Option Nat) (x : Nat),
    usum L (fun o => if c = some o then x else 0) ≤ x := by
  intro L
  induction L with
  | nil => intro _ c x; simp
  | cons a L ih =>
    intro hnd c x
    rw [List.nodup_cons] at hnd
    rw [usum_cons]
    by_cases hc : c = some a
    · have hz : usum L (fun o => if c = some o then x else 0) = 0 := by
        apply usum_zero
        intro o ho
        have : c ≠ some o := by
          rw [hc]; intro e
          simp only [Option.some.injEq] at e
          subst e; exact hnd.1 ho
        simp [this]
      simp only [hc, if_true] at hz ⊢
      omega
    · have := ih hnd.2 c x
      simp only [hc, if_false]
      omega

end Mx.Weekly
