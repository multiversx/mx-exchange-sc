/-
  The two sums of C08 — Σ amount·(unlock − now) and Σ amount over the nonces of one row — and how
  every primitive of energy.rs moves an entry that tracks them.

  A row is either a balance row `f : nonce → Nat` or a signed attribution row `g : nonce → Int`
  (a trusted proxy can make an account spend tokens whose energy was booked on somebody else, see
  Props/C08Attr).  The lemmas are proved once, for signed rows; a row of naturals is tracked iff
  its cast is (`tracksZ_cast`).  Every primitive moves an entry by `d·(unlock − now)` / `d` for a
  signed amount `d` (`Moves`), independently of what the entry tracked before.
-/
import MxModel.Lemmas.EnergySpec
import Mathlib.Tactic.Linarith
import Mathlib.Tactic.Ring

namespace Mx.Energy

/-- Σ_{i} f(k+i) over the nonces `k, k+1, …` whose unlock epochs are listed -/
def sumT (f : Nat → Nat) : Nat → List Nat → Nat
  | _, [] => 0
  | k, _ :: es => f k + sumT f (k + 1) es

/-- Σ_{i} f(k+i)·(unlock_i − now), in `Int` (expired tokens count negatively) -/
def sumE (f : Nat → Nat) (now : Nat) : Nat → List Nat → Int
  | _, [] => 0
  | k, e :: es => (f k : Int) * ((e : Int) - (now : Int)) + sumE f now (k + 1) es

def sumTZ (g : Nat → Int) : Nat → List Nat → Int
  | _, [] => 0
  | k, _ :: es => g k + sumTZ g (k + 1) es

def sumEZ (g : Nat → Int) (now : Nat) : Nat → List Nat → Int
  | _, [] => 0
  | k, e :: es => g k * ((e : Int) - (now : Int)) + sumEZ g now (k + 1) es

theorem sumEZ_add (g d : Nat → Int) (now k : Nat) (ns : List Nat) :
    sumEZ (fun n => g n + d n) now k ns = sumEZ g now k ns + sumEZ d now k ns := by
  induction ns generalizing k with
  | nil => simp [sumEZ]
  | cons x xs ih => simp only [sumEZ, ih (k + 1)]; ring

theorem sumEZ_zero (d : Nat → Int) (now k : Nat) (ns : List Nat) (h : ∀ m, k ≤ m → d m = 0) :
    sumEZ d now k ns = 0 := by
  induction ns generalizing k with
  | nil => rfl
  | cons x xs ih =>
    simp only [sumEZ]
    rw [h k (Nat.le_refl k), ih (k + 1) (fun m hm => h m (by omega))]
    simp

theorem sumEZ_single (d : Nat → Int) (now n k u : Nat) (ns : List Nat) (hk : k ≤ n)
    (hget : ns[n - k]? = some u) (h0 : ∀ m, m ≠ n → d m = 0) :
    sumEZ d now k ns = d n * ((u : Int) - (now : Int)) := by
  induction ns generalizing k with
  | nil => simp at hget
  | cons x xs ih =>
    simp only [sumEZ]
    rcases Nat.eq_or_lt_of_le hk with heq | hlt
    · subst heq
      rw [sumEZ_zero d now (k + 1) xs (fun m hm => h0 m (by omega))]
      have : x = u := by simpa using hget
      subst this
      simp
    · have h' : xs[n - (k + 1)]? = some u := by
        have : n - k = (n - (k + 1)) + 1 := by omega
        rw [this] at hget
        simpa using hget
      rw [h0 k (by omega), ih (k + 1) (by omega) h']
      simp

theorem sumEZ_append (g : Nat → Int) (now k e : Nat) (ns : List Nat) :
    sumEZ g now k (ns ++ [e]) =
      sumEZ g now k ns + g (k + ns.length) * ((e : Int) - (now : Int)) := by
  induction ns generalizing k with
  | nil => simp [sumEZ]
  | cons x xs ih =>
    simp only [List.cons_append, sumEZ, ih (k + 1), List.length_cons]
    have : k + 1 + xs.length = k + (xs.length + 1) := by omega
    rw [this]; ring

/-- the plain sum is the weighted sum with all weights 1, so its lemmas are those of `sumEZ` -/
theorem sumTZ_eq (g : Nat → Int) (k : Nat) (ns : List Nat) :
    sumTZ g k ns = sumEZ g 0 k (ns.map fun _ => 1) := by
  induction ns generalizing k with
  | nil => rfl
  | cons x xs ih => simp only [List.map_cons, sumTZ, sumEZ, ih (k + 1)]; simp

theorem sumTZ_add (g d : Nat → Int) (k : Nat) (ns : List Nat) :
    sumTZ (fun n => g n + d n) k ns = sumTZ g k ns + sumTZ d k ns := by
  simp only [sumTZ_eq, sumEZ_add]

theorem sumTZ_zero (d : Nat → Int) (k : Nat) (ns : List Nat) (h : ∀ m, k ≤ m → d m = 0) :
    sumTZ d k ns = 0 := by
  rw [sumTZ_eq]; exact sumEZ_zero d 0 k _ h

theorem sumTZ_single (d : Nat → Int) (n k u : Nat) (ns : List Nat) (hk : k ≤ n)
    (hget : ns[n - k]? = some u) (h0 : ∀ m, m ≠ n → d m = 0) : sumTZ d k ns = d n := by
  rw [sumTZ_eq, sumEZ_single d 0 n k 1 _ hk (by rw [List.getElem?_map, hget]; rfl) h0]
  simp

theorem sumTZ_append (g : Nat → Int) (k e : Nat) (ns : List Nat) :
    sumTZ g k (ns ++ [e]) = sumTZ g k ns + g (k + ns.length) := by
  rw [sumTZ_eq, sumTZ_eq, List.map_append, List.map_singleton, sumEZ_append, List.length_map]
  simp

theorem sumEZ_shift (g : Nat → Int) (now d k : Nat) (ns : List Nat) :
    sumEZ g (now + d) k ns = sumEZ g now k ns - (d : Int) * sumTZ g k ns := by
  induction ns generalizing k with
  | nil => simp [sumEZ, sumTZ]
  | cons x xs ih =>
    simp only [sumEZ, sumTZ, ih (k + 1)]
    push_cast
    ring

theorem sumT_cast (f : Nat → Nat) (k : Nat) (ns : List Nat) :
    ((sumT f k ns : Nat) : Int) = sumTZ (fun n => (f n : Int)) k ns := by
  induction ns generalizing k with
  | nil => simp [sumT, sumTZ]
  | cons x xs ih => simp only [sumT, sumTZ, ← ih (k + 1)]; push_cast; ring

theorem sumE_cast (f : Nat → Nat) (now k : Nat) (ns : List Nat) :
    sumE f now k ns = sumEZ (fun n => (f n : Int)) now k ns := by
  induction ns generalizing k with
  | nil => simp [sumE, sumEZ]
  | cons x xs ih => simp only [sumE, sumEZ, ih (k + 1)]

theorem sums_grow (g : Nat → Int) (now : Nat) {ns ns' : List Nat}
    (hn : ns' = ns ∨ ∃ u, ns' = ns ++ [u]) (h0 : g (ns.length + 1) = 0) :
    sumEZ g now 1 ns' = sumEZ g now 1 ns ∧ sumTZ g 1 ns' = sumTZ g 1 ns := by
  rcases hn with rfl | ⟨u, rfl⟩
  · exact ⟨rfl, rfl⟩
  · rw [sumEZ_append, sumTZ_append, Nat.add_comm 1, h0]
    simp

theorem grown_length {ns ns' : List Nat} (hn : ns' = ns ∨ ∃ u, ns' = ns ++ [u]) :
    ns.length ≤ ns'.length := by
  rcases hn with rfl | ⟨u, rfl⟩
  · exact Nat.le_refl _
  · rw [List.length_append]; exact Nat.le_add_right _ _

theorem sumE_shift (f : Nat → Nat) (now d k : Nat) (ns : List Nat) :
    sumE f (now + d) k ns = sumE f now k ns - (d : Int) * (sumT f k ns : Int) := by
  rw [sumE_cast, sumE_cast, sumT_cast, sumEZ_shift]


theorem cast_mul_sub (amt a b : Nat) (h : b ≤ a) :
    ((amt * (a - b) : Nat) : Int) = (amt : Int) * ((a : Int) - (b : Int)) := by
  obtain ⟨d, rfl⟩ := Nat.exists_eq_add_of_le h
  have : b + d - b = d := by omega
  rw [this]
  push_cast
  ring

/-- `e` (already depleted to `now`) is exactly the pair of sums of the row `f` -/
def Tracks (e : Entry) (f : Nat → Nat) (ns : List Nat) (now : Nat) : Prop :=
  e.E = sumE f now 1 ns ∧ e.T = sumT f 1 ns ∧ e.last = now

def TracksZ (e : Entry) (g : Nat → Int) (ns : List Nat) (now : Nat) : Prop :=
  e.E = sumEZ g now 1 ns ∧ (e.T : Int) = sumTZ g 1 ns ∧ e.last = now

theorem tracksZ_cast {e : Entry} {f : Nat → Nat} {ns : List Nat} {now : Nat} :
    TracksZ e (fun n => (f n : Int)) ns now ↔ Tracks e f ns now := by
  unfold TracksZ Tracks
  rw [← sumE_cast, ← sumT_cast]
  constructor
  · rintro ⟨h1, h2, h3⟩; exact ⟨h1, by exact_mod_cast h2, h3⟩
  · rintro ⟨h1, h2, h3⟩; exact ⟨h1, by exact_mod_cast h2, h3⟩

theorem TracksZ.deplete {e : Entry} {g : Nat → Int} {ns : List Nat} {now now' : Nat}
    (h : TracksZ e g ns now) (hle : now ≤ now') : TracksZ (e.deplete now') g ns now' := by
  obtain ⟨hE, hT, hl⟩ := h
  obtain ⟨d, rfl⟩ := Nat.exists_eq_add_of_le hle
  unfold Entry.deplete
  split
  · rename_i heq
    have : d = 0 := by omega
    subst this
    exact ⟨hE, hT, hl⟩
  · rename_i hne
    refine ⟨?_, ?_, rfl⟩
    · rw [sumEZ_shift]
      split
      · rename_i hpos
        simp only [Entry.subtract, hl]
        have : ¬ now + d ≤ now := by omega
        simp only [this, if_false]
        rw [cast_mul_sub e.T (now + d) now (by omega), hE, hT]
        push_cast
        ring
      · rename_i hz
        have h0 : e.T = 0 := by omega
        simp only
        rw [hE, ← hT, h0]
        simp
    · split
      · simp only [Entry.subtract]; split <;> exact hT
      · exact hT

theorem Tracks.deplete {e : Entry} {f : Nat → Nat} {ns : List Nat} {now now' : Nat}
    (h : Tracks e f ns now) (hle : now ≤ now') : Tracks (e.deplete now') f ns now' :=
  tracksZ_cast.mp ((tracksZ_cast.mpr h).deplete hle)

theorem TracksZ.congr {e : Entry} {g g' : Nat → Int} {ns : List Nat} {now : Nat}
    (h : TracksZ e g ns now) (hg : ∀ n, g' n = g n) : TracksZ e g' ns now := by
  have : g' = g := funext hg
  rw [this]; exact h

theorem tracksZ_grow {e : Entry} {g : Nat → Int} {ns ns' : List Nat} {now : Nat}
    (h : TracksZ e g ns now) (hn : ns' = ns ∨ ∃ u, ns' = ns ++ [u]) (h0 : g (ns.length + 1) = 0) :
    TracksZ e g ns' now := by
  obtain ⟨g1, g2⟩ := sums_grow g now hn h0
  exact ⟨h.1.trans g1.symm, h.2.1.trans g2.symm, h.2.2⟩

theorem tracks_of_nonces {e : Entry} {f : Nat → Nat} {ns ns' : List Nat} {now : Nat}
    (h : Tracks e f ns now) (hn : ns' = ns ∨ ∃ u, ns' = ns ++ [u]) (h0 : f (ns.length + 1) = 0) :
    Tracks e f ns' now :=
  tracksZ_cast.mp (tracksZ_grow (tracksZ_cast.mpr h) hn (by rw [h0]; rfl))


/-- `e'` is `e` after booking the signed amount `d` of a token with unlock epoch `u` -/
def Moves (e e' : Entry) (d : Int) (u now : Nat) : Prop :=
  e'.E = e.E + d * ((u : Int) - (now : Int)) ∧ (e'.T : Int) = (e.T : Int) + d ∧ e'.last = e.last

theorem moves_addAfterLock (e : Entry) {amt u now : Nat} (hu : now ≤ u) :
    Moves e (e.addAfterLock amt u now) (amt : Int) u now := by
  refine ⟨?_, ?_, ?_⟩
  · simp only [Entry.addAfterLock, Entry.add]
    split
    · have : u = now := by omega
      subst this
      simp
    · rw [cast_mul_sub amt u now hu]
  · simp only [Entry.addAfterLock]; push_cast; ring
  · simp only [Entry.addAfterLock, Entry.add]
    split <;> rfl

theorem moves_addExpired (e : Entry) {amt u now : Nat} (hu : u ≤ now) :
    Moves e (e.addExpired amt u now) (amt : Int) u now := by
  refine ⟨?_, ?_, rfl⟩
  · simp only [Entry.addExpired]
    rw [cast_mul_sub amt now u hu]
    ring
  · simp only [Entry.addExpired]; push_cast; ring

theorem moves_restoreCancel (e : Entry) (amt u now : Nat) :
    Moves e (e.restoreCancel amt u now) (amt : Int) u now := by
  unfold Entry.restoreCancel
  split
  · rename_i hle; exact moves_addAfterLock e hle
  · rename_i hgt; exact moves_addExpired e (by omega)

theorem moves_addDest (e : Entry) (amt u now : Nat) :
    Moves e (e.addDest amt u now) (amt : Int) u now := by
  unfold Entry.addDest
  split
  · rename_i hlt; exact moves_addAfterLock e (by omega)
  · rename_i hge; exact moves_addExpired e (by omega)

theorem moves_refund {e e' : Entry} {amt u now : Nat} (hu : u ≤ now)
    (hr : e.refundAfterUnlock amt u now = some e') : Moves e e' (-(amt : Int)) u now := by
  obtain ⟨hle, hr⟩ := peel_sub hr
  obtain rfl := Option.some.inj hr
  refine ⟨?_, ?_, ?_⟩
  · simp only [Entry.add]
    split
    · have : u = now := by omega
      subst this
      simp
    · rw [cast_mul_sub amt now u hu]
      ring
  · simp only []
    rw [Int.ofNat_sub hle]; ring
  · simp only [Entry.add]
    split <;> rfl

theorem moves_early {e e' : Entry} {amt u now : Nat} (hu : now ≤ u)
    (hr : e.depleteAfterEarly amt u now = some e') : Moves e e' (-(amt : Int)) u now := by
  obtain ⟨hle, hr⟩ := peel_sub hr
  obtain rfl := Option.some.inj hr
  refine ⟨?_, ?_, ?_⟩
  · simp only [Entry.subtract]
    split
    · have : u = now := by omega
      subst this
      simp
    · rw [cast_mul_sub amt u now hu]
      ring
  · simp only []
    rw [Int.ofNat_sub hle]; ring
  · simp only [Entry.subtract]
    split <;> rfl

theorem moves_unlockAny {e e' : Entry} {amt u now : Nat}
    (hr : e.afterUnlockAny amt u now = some e') : Moves e e' (-(amt : Int)) u now := by
  unfold Entry.afterUnlockAny at hr
  split at hr
  · rename_i hlt; exact moves_refund (by omega) hr
  · rename_i hge; exact moves_early (by omega) hr


def IsNonce (ns : List Nat) (n u : Nat) : Prop := 1 ≤ n ∧ ns[n - 1]? = some u

theorem sums_point {g g' : Nat → Int} {ns : List Nat} {n u : Nat} {d : Int} (now : Nat)
    (hn : IsNonce ns n u) (hg : ∀ m, g' m = g m + if m = n then d else 0) :
    sumEZ g' now 1 ns = sumEZ g now 1 ns + d * ((u : Int) - (now : Int)) ∧
    sumTZ g' 1 ns = sumTZ g 1 ns + d := by
  obtain ⟨h1, hget⟩ := hn
  have hz : ∀ m, m ≠ n → (if m = n then d else 0) = 0 := fun m hm => if_neg hm
  rw [funext hg, sumEZ_add, sumTZ_add, sumEZ_single _ now n 1 u ns h1 hget hz,
    sumTZ_single _ n 1 u ns h1 hget hz, if_pos rfl]
  exact ⟨rfl, rfl⟩

theorem Tracks.move {e e' : Entry} {f : Nat → Nat} {ns : List Nat} {now n u v : Nat} {d : Int}
    (h : Tracks e f ns now) (hn : IsNonce ns n u) (hm : Moves e e' d u now)
    (hv : (v : Int) = (f n : Int) + d) : Tracks e' (upd f n v) ns now := by
  obtain ⟨hE, hT, hl⟩ := tracksZ_cast.mpr h
  obtain ⟨m1, m2, m3⟩ := hm
  have hrow : ∀ m, ((upd f n v m : Nat) : Int) = (f m : Int) + if m = n then d else 0 := by
    intro m
    by_cases hmn : m = n
    · subst hmn; rw [upd_same, if_pos rfl, hv]
    · rw [upd_other _ _ hmn, if_neg hmn, Int.add_zero]
  obtain ⟨p1, p2⟩ := sums_point now hn hrow
  exact tracksZ_cast.mp ⟨by rw [p1, m1, hE], by rw [p2, m2, hT], m3.trans hl⟩

theorem Tracks.refund {e e' : Entry} {f : Nat → Nat} {ns : List Nat} {now n u amt : Nat}
    (h : Tracks e f ns now) (hn : IsNonce ns n u) (hu : u ≤ now) (ha : amt ≤ f n)
    (hr : e.refundAfterUnlock amt u now = some e') :
    Tracks e' (upd f n (f n - amt)) ns now :=
  h.move hn (moves_refund hu hr) (by rw [Int.ofNat_sub ha]; rfl)

end Mx.Energy
