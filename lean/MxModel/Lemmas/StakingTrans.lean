/-
  Every endpoint of the farm-staking model characterised on the position view (`PTrans`, see
  Lemmas/StakingPos.lean), hence: every transaction and every history keeps the position-token
  invariant `PosInv` (C07: supply = Σ outstanding positions, owner totals exact); one unbond token
  through one transaction (`step_unbond_token`).
  Lemmas/StakingPot.lean derives the potential-function bound (C06 / C05) from the same `PTrans`.
-/
import MxModel.Lemmas.StakingPos

namespace Mx.Staking

open Mx.Weekly

theorem stakeCore_pv {s s' : St} {c orig amount : Nat} {v : Bool} {adds : List Pay} {o : Out}
    (h : stakeCore s c orig amount v adds = some (s', o)) :
    ∃ inc base hold0 ut1 merged,
      s.supply * inc ≤ s.dsc * base ∧
      debit s.hold c adds = some hold0 ∧
      checkAndUpdate s.md orig s.userTotal adds = some ut1 ∧
      mergeParts s.md ⟨s.rps + inc, 0, amount, orig⟩ adds = some merged ∧
      pv s' = ((pv s).gen inc base).remint c hold0 merged (upd ut1 orig (ut1 orig + amount))
        (s.supply + amount) 0 := by
  obtain ⟨hold0, r, ut1, merged, w2, t⟩ := stakeCore_trace h
  obtain rfl := t.state
  exact ⟨_, _, hold0, ut1, merged, rpsInc_mul_le s.dsc (genTot s - genCut s (genTot s)) s.supply,
    t.debit, t.checkAndUpdate, t.mergeParts, rfl⟩

theorem stakeCore_ptrans {s s' : St} {c orig amount : Nat} {v : Bool} {adds : List Pay} {o : Out}
    (hc : c ∈ s.accts) (h : stakeCore s c orig amount v adds = some (s', o)) :
    PTrans (pv s) (pv s') := by
  obtain ⟨inc, base, hold0, ut1, merged, hib, hd, hk, hm, e⟩ := stakeCore_pv h
  obtain ⟨m1, m2⟩ := mergeParts_amount hm
  have m3 := mergeParts_pot s.md (s.rps + inc) adds _ merged hm
  simp only [Nat.sub_self, Nat.mul_zero, Nat.zero_add] at m1 m2 m3
  refine ⟨inc, base, hib, Or.inr (Or.inl ⟨c, orig, adds, hold0, ut1, _, merged, _, 0, List.mem_dedup.mpr hc, hd, hk, m2, ?_, ?_, ?_, e⟩)⟩
  · dsimp only [pv]
    omega
  · exact upd_ite_add (by omega)
  · dsimp only [pv]
    simpa using m3

theorem claimCore_pv {s s' : St} {c orig : Nat} {pays : List Pay} {nv : Option Nat} {o : Out}
    (h : claimCore s c orig pays nv = some (s', o)) :
    ∃ inc base p first tok hold0 ut1 merged ut2 supply2,
      s.supply * inc ≤ s.dsc * base ∧ pays.head? = some p ∧ posOf s.md p.1 = some first ∧
      first.intoPart p.2 = some tok ∧
      debit s.hold c pays = some hold0 ∧
      checkAndUpdate s.md orig s.userTotal pays = some ut1 ∧
      mergeParts s.md ⟨s.rps + inc, tok.compounded, tok.amount, orig⟩ pays.tail = some merged ∧
      newSupply s.supply merged.amount nv = some supply2 ∧
      newUserTotal ut1 orig merged.amount nv = some ut2 ∧
      pv s' = ((pv s).gen inc base).remint c hold0 { merged with amount := nv.getD merged.amount }
        ut2 supply2 (baseAmt (s.rps + inc) s.dsc p.2 tok.rps) := by
  obtain ⟨hold0, p, first, tok, r, ut1, merged, supply1, ut2, w2, t⟩ := claimCore_trace h
  obtain rfl := t.state
  exact ⟨_, _, p, first, tok, hold0, ut1, merged, ut2, supply1,
    rpsInc_mul_le s.dsc (genTot s - genCut s (genTot s)) s.supply, t.head, t.posOf, t.intoPart,
    t.debit, t.checkAndUpdate, t.mergeParts, t.newSupply, t.newUserTotal, rfl⟩

theorem head_tail {pays : List Pay} {p : Pay} (h : pays.head? = some p) : pays = p :: pays.tail := by
  cases pays with
  | nil => cases h
  | cons q qs => cases h; rfl

/-- what the re-issuing endpoints that read the first payment (claim, compound, merge) share: the
    first payment split off the sums, and the rounded base reward of the first payment against
    its un-rounded entitlement -/
theorem first_payment {md : Nat → Option Meta} {pays : List Pay} {p : Pay} {first tok : Attrs}
    (hp : pays.head? = some p) (hf : posOf md p.1 = some first) (ht : first.intoPart p.2 = some tok)
    (R dsc : Nat) :
    payTot pays = p.2 + payTot pays.tail ∧
    payW (potW md R) pays = (R - first.rps) * p.2 + payW (potW md R) pays.tail ∧
    dsc * baseAmt R dsc p.2 tok.rps ≤ (R - first.rps) * p.2 ∧
    tok.rps = first.rps ∧ tok.amount = p.2 := by
  obtain ⟨t1, _, t3, _⟩ := intoPart_spec ht
  have hb : dsc * baseAmt R dsc p.2 tok.rps ≤ (R - first.rps) * p.2 := by
    rw [← t1, Nat.mul_comm (R - tok.rps)]
    exact baseAmt_le R dsc p.2 tok.rps
  rw [head_tail hp]
  exact ⟨rfl, by simp only [payW, potW_some hf, List.tail_cons], hb, t1, t3⟩

/-- `claimRewards` in all its forms.  A new farming value (proxy) comes with exactly one payment
    in every endpoint that passes one. -/
theorem claimCore_ptrans {s s' : St} {c orig : Nat} {pays : List Pay} {nv : Option Nat} {o : Out}
    (hc : c ∈ s.accts) (hnv : nv = none ∨ pays.tail = [])
    (h : claimCore s c orig pays nv = some (s', o)) : PTrans (pv s) (pv s') := by
  obtain ⟨inc, base, p, first, tok, hold0, ut1, merged, ut2, supply2, hib, hp, hf, ht, hd, hk, hm,
    hs, hu, e⟩ := claimCore_pv h
  obtain ⟨m1, m2⟩ := mergeParts_amount hm
  obtain ⟨hpt, hpw, hb, _, t3⟩ := first_payment hp hf ht (s.rps + inc) s.dsc
  have hma : merged.amount = payTot pays := by rw [hpt, ← t3]; exact m1
  refine ⟨inc, base, hib, Or.inr (Or.inl ⟨c, orig, pays, hold0, ut1, ut2,
    { merged with amount := nv.getD merged.amount }, supply2, _, List.mem_dedup.mpr hc, hd, hk, m2, ?_, ?_, ?_, e⟩)⟩
  · show supply2 + payTot pays = s.supply + nv.getD merged.amount
    rw [← hma]
    exact newSupply_spec hs
  · rw [← hma]
    exact newUserTotal_spec hu
  · dsimp only [pv]
    have m3 := mergeParts_pot s.md (s.rps + inc) pays.tail _ merged hm
    simp only [Nat.sub_self, Nat.mul_zero, Nat.zero_add] at m3
    rw [hpw]
    rcases hnv with rfl | htl
    · simp only [Option.getD_none]; omega
    · rw [htl] at hm
      obtain rfl := Option.some.inj hm
      simp only [Nat.sub_self, Nat.mul_zero, Nat.zero_add]
      omega

theorem compound_pv {s s' : St} {c : Nat} {pays : List Pay} {o : Out}
    (h : compound s c pays = some (s', o)) :
    ∃ inc base p first tok hold0 ut1 merged boosted,
      s.supply * inc ≤ s.dsc * base ∧ pays.head? = some p ∧ posOf s.md p.1 = some first ∧
      first.intoPart p.2 = some tok ∧
      debit s.hold c pays = some hold0 ∧
      checkAndUpdate s.md c s.userTotal pays = some ut1 ∧
      mergeParts s.md ⟨s.rps + inc, tok.compounded + (baseAmt (s.rps + inc) s.dsc p.2 tok.rps + boosted),
        tok.amount + (baseAmt (s.rps + inc) s.dsc p.2 tok.rps + boosted), c⟩ pays.tail = some merged ∧
      pv s' = ((pv s).gen inc base).remint c hold0 merged
        (upd ut1 c (ut1 c + (baseAmt (s.rps + inc) s.dsc p.2 tok.rps + boosted)))
        (s.supply + (baseAmt (s.rps + inc) s.dsc p.2 tok.rps + boosted))
        (baseAmt (s.rps + inc) s.dsc p.2 tok.rps) := by
  obtain ⟨hold0, p, first, tok, r, ut1, merged, t⟩ := compound_trace h
  obtain rfl := t.state
  exact ⟨_, _, p, first, tok, hold0, ut1, merged, r.2.2,
    rpsInc_mul_le s.dsc (genTot s - genCut s (genTot s)) s.supply, t.head, t.posOf, t.intoPart,
    t.debit, t.checkAndUpdate, t.mergeParts, rfl⟩

theorem unstakeCore_pv {s s' : St} {c orig : Nat} {pay : Pay} {x : Option Nat} {o : Out}
    (h : unstakeCore s c orig pay x = some (s', o)) :
    ∃ inc base hold0 attrs tok e,
      s.supply * inc ≤ s.dsc * base ∧
      debit s.hold c [pay] = some hold0 ∧ posOf s.md pay.1 = some attrs ∧
      attrs.intoPart pay.2 = some tok ∧ tok.amount ≤ s.supply ∧
      pv s' = ((pv s).gen inc base).burn c hold0 e (x.getD tok.amount)
        (decreaseUT s.userTotal attrs.owner pay.2) (s.supply - tok.amount)
        (baseAmt (s.rps + inc) s.dsc pay.2 tok.rps) := by
  obtain ⟨hold0, attrs, tok, r, w2, t⟩ := unstakeCore_trace h
  obtain rfl := t.state
  exact ⟨_, _, hold0, attrs, tok, _,
    rpsInc_mul_le s.dsc (genTot s - genCut s (genTot s)) s.supply, t.debit, t.posOf, t.intoPart,
    t.supply, rfl⟩

theorem unstakeCore_ptrans {s s' : St} {c orig : Nat} {pay : Pay} {x : Option Nat} {o : Out}
    (hc : c ∈ s.accts) (h : unstakeCore s c orig pay x = some (s', o)) : PTrans (pv s) (pv s') := by
  obtain ⟨inc, base, hold0, attrs, tok, e, hib, hd, ha, ht, hle, e'⟩ := unstakeCore_pv h
  obtain ⟨t1, _, t3, _⟩ := intoPart_spec ht
  have hb := baseAmt_le (s.rps + inc) s.dsc pay.2 tok.rps
  rw [t1] at hb e'
  refine ⟨inc, base, hib, Or.inr (Or.inr (Or.inl ⟨c, pay, hold0, attrs, e, _, _, _, List.mem_dedup.mpr hc, hd, ha, ?_, hb, e'⟩))⟩
  dsimp only [pv]
  omega

theorem mergeTokens_pv {s s' : St} {c : Nat} {pays : List Pay} {o : Out}
    (h : mergeTokens s c pays = some (s', o)) :
    ∃ p first part hold0 ut1 merged,
      pays.head? = some p ∧ posOf s.md p.1 = some first ∧ first.intoPart p.2 = some part ∧
      debit s.hold c pays = some hold0 ∧
      checkAndUpdate s.md c s.userTotal pays = some ut1 ∧
      mergeParts s.md part pays.tail = some merged ∧
      pv s' = ((pv s).gen 0 0).remint c hold0 { merged with owner := c } ut1 s.supply 0 := by
  obtain ⟨hold0, r, p, ut1, first, part, merged, t⟩ := mergeTokens_trace h
  obtain rfl := t.state
  exact ⟨p, first, part, hold0, ut1, merged, t.head, t.posOf, t.intoPart, t.debit, t.checkAndUpdate,
    t.mergeParts, rfl⟩

/-- endpoints that only settle -/
theorem gen_ptrans (s : St) :
    PTrans (pv s) ((pv s).gen (rpsInc s.dsc (genTot s - genCut s (genTot s)) s.supply)
      (genTot s - genCut s (genTot s))) :=
  ⟨_, _, rpsInc_mul_le s.dsc (genTot s - genCut s (genTot s)) s.supply, Or.inl rfl⟩

theorem step_ptrans {s s' : St} {op : Op} {o : Out} (h : step s op = some (s', o)) :
    PTrans (pv s) (pv s') := by
  cases Step.of_step h with
  | stake hc _ h => exact stakeCore_ptrans hc h
  | stakeProxy hc _ h => exact stakeCore_ptrans hc h
  | stakeBehalf hc _ _ h => exact stakeCore_ptrans hc h
  | claim hc _ h => exact claimCore_ptrans hc (Or.inl rfl) h
  | claimNew hc _ h => exact claimCore_ptrans hc (Or.inr rfl) h
  | claimBehalf hc _ _ h => exact claimCore_ptrans hc (Or.inl rfl) h
  | @compound c pays _ _ hc h =>
    obtain ⟨inc, base, p, first, tok, hold0, ut1, merged, boosted, hib, hp, hf, ht, hd, hk, hm, e⟩ :=
      compound_pv h
    obtain ⟨m1, m2⟩ := mergeParts_amount hm
    obtain ⟨hpt, hpw, hb, _, t3⟩ := first_payment hp hf ht (s.rps + inc) s.dsc
    generalize baseAmt (s.rps + inc) s.dsc p.2 tok.rps = B at *
    have hma : merged.amount = B + boosted + payTot pays := by
      rw [hpt, ← t3, Nat.add_comm (B + boosted), Nat.add_right_comm]; exact m1
    refine ⟨inc, base, hib, Or.inr (Or.inl ⟨c, c, pays, hold0, ut1, _, merged, _, _, List.mem_dedup.mpr hc, hd, hk, m2, ?_, ?_, ?_, e⟩)⟩
    · dsimp only [pv]
      omega
    · exact upd_ite_add (by omega)
    · dsimp only [pv]
      have m3 := mergeParts_pot s.md (s.rps + inc) pays.tail _ merged hm
      simp only [Nat.sub_self, Nat.mul_zero, Nat.zero_add] at m3
      rw [hpw]; omega
  | unstake hc _ h => exact unstakeCore_ptrans hc h
  | unstakeProxy hc _ h => exact unstakeCore_ptrans hc h
  | @unbond c pay hold0 unlock hc hd _ hu =>
    refine ⟨0, 0, by simp, Or.inr (Or.inr (Or.inr (Or.inl ⟨c, [pay], hold0, List.mem_dedup.mpr hc, hd, ?_, rfl⟩)))⟩
    intro p hp
    rw [List.mem_singleton.mp hp]
    exact ⟨unlock, hu⟩
  | @merge c pays _ _ hc h =>
    obtain ⟨p, first, part, hold0, ut1, merged, hp, hf, ht, hd, hk, hm, e⟩ := mergeTokens_pv h
    obtain ⟨m1, _⟩ := mergeParts_amount hm
    have m3 := mergeParts_pot s.md s.rps pays.tail _ merged hm
    obtain ⟨hpt, hpw, _, t1, t3⟩ := first_payment hp hf ht s.rps s.dsc
    rw [t1, t3, Nat.mul_comm p.2] at m3
    rw [t3] at m1
    refine ⟨0, 0, by simp, Or.inr (Or.inl ⟨c, c, pays, hold0, ut1, ut1, { merged with owner := c },
      s.supply, 0, List.mem_dedup.mpr hc, hd, hk, rfl, ?_, ?_, ?_, e⟩)⟩
    · dsimp only [pv]
      omega
    · intro o'
      dsimp only
      split <;> omega
    · simp only [pv, Nat.add_zero, Nat.mul_zero]
      rw [hpw]; exact m3
  | claimBoosted _ h =>
    obtain ⟨r, t⟩ := claimBoostedRewards_trace h
    obtain rfl := t.state
    exact gen_ptrans s
  | @transfer a b p hold0 ha hb hd =>
    exact ⟨0, 0, by simp, Or.inr (Or.inr (Or.inr (Or.inr
      ⟨a, b, p, hold0, List.mem_dedup.mpr ha, List.mem_dedup.mpr hb, hd, rfl⟩)))⟩
  | withdraw | setMaxApr | setPerBlock | endProduce | setBoostedPct => exact gen_ptrans s
  | query | setEnergy | updateEnergy | topUp | startProduce | setMinUnbond | setFactors
  | collectNone | collectSome | pause | resume | hubWhitelist | hubRemove | advance =>
    exact PTrans.refl _

/-- C07, history level (sums over the distinct accounts `s.accts.dedup`): only accounts of the world
    hold farm-token SFTs; `supply = Σ_{position nonces} outstanding units`;
    `userTotal o = Σ_{positions recorded as o's} outstanding units` -/
def PosInv (s : St) : Prop := PosOK (pv s)

theorem posInv_init (epoch block dsc maxApr minUnbond perBlock : Nat) (accts wl : List Nat) :
    PosInv (init epoch block dsc maxApr minUnbond perBlock accts wl) :=
  ⟨List.nodup_dedup _, fun _ _ hne => absurd rfl hne, (wsum_hold_zero (fun _ _ => rfl)).symm,
    fun _ => (wsum_hold_zero (fun _ _ => rfl)).symm⟩

theorem step_posInv {s s' : St} {op : Op} {o : Out} (hI : PosInv s) (h : step s op = some (s', o)) :
    PosInv s' :=
  PosOK.trans hI (step_ptrans h)

theorem run_posInv (ops : List Op) {s : St} (hI : PosInv s) : PosInv (run s ops) :=
  run_induction step_posInv ops hI

theorem step_accts {s s' : St} {op : Op} {o : Out} (h : step s op = some (s', o)) :
    s'.accts = s.accts := (step_ptrans h).const.1

theorem run_dsc (ops : List Op) {s : St} : (run s ops).dsc = s.dsc :=
  run_induction (P := fun t => t.dsc = s.dsc) (fun hI h => (step_ptrans h).const.2.1.trans hI) ops rfl

/-- what an operation pays out for the unbond token `n` (when it succeeds) -/
def unbondPaidOf (n : Nat) : Op → Nat
  | .unbond _ p => if p.1 = n then p.2 else 0
  | _ => 0

theorem step_unbond_token {s s' : St} {op : Op} {o : Out} (hI : PosInv s)
    (h : step s op = some (s', o)) {n e : Nat} (hu : unbondOf s.md n = some e) (hn : n ≤ s.nonce) :
    unbondOf s'.md n = some e ∧ n ≤ s'.nonce ∧
      outst s'.hold s'.accts.dedup n + unbondPaidOf n op ≤ outst s.hold s.accts.dedup n := by
  obtain ⟨hle, ⟨hmd, h3⟩ | ⟨rfl, _⟩⟩ := PTrans.nonce_cases hI (step_ptrans h) n
  · have hmd' : s'.md n = s.md n := hmd
    refine ⟨by unfold unbondOf at hu ⊢; rw [hmd']; exact hu, Nat.le_trans hn hle, ?_⟩
    cases op with
    | unbond c p =>
      cases Step.of_step h with
      | unbond hc hd =>
        have hI' : PosOK (pv s) := hI
        have := outst_debit hd (List.mem_dedup.mpr hc) hI'.nodup n
        rw [paidOf_single] at this
        exact Nat.le_of_eq this
    | _ => exact h3
  · exact absurd hn (Nat.not_succ_le_self _)

/-- the ghost ledger `unbondOut` equals the outstanding unbond-token units -/
def UnbInv (s : St) : Prop := UnbOK (pv s)

theorem unbInv_init (epoch block dsc maxApr minUnbond perBlock : Nat) (accts wl : List Nat) :
    UnbInv (init epoch block dsc maxApr minUnbond perBlock accts wl) :=
  congrArg Nat.cast (wsum_hold_zero (fun _ _ => rfl)).symm

theorem run_unbInv (ops : List Op) {s : St} (hI : PosInv s) (hU : UnbInv s) : UnbInv (run s ops) :=
  (run_induction (P := fun t => PosInv t ∧ UnbInv t)
    (fun hP h => ⟨step_posInv hP.1 h, UnbOK.trans hP.1 hP.2 (step_ptrans h)⟩) ops ⟨hI, hU⟩).2

/-- units of all outstanding unbond tokens -/
def unbondUnits (s : St) : Nat :=
  ((List.range (s.nonce + 1)).map fun n =>
    match s.md n with
    | some (.unbond _) => (s.accts.dedup.map fun a => s.hold a n).sum
    | _ => 0).sum

theorem UnbInv.explicit {s : St} (h : UnbInv s) : s.unbondOut = (unbondUnits s : Nat) := by
  refine Eq.trans h (congrArg Nat.cast (wsum_explicit _ (fun n => ?_)))
  simp only [pv, unbW, unbondOf]
  cases s.md n with
  | none => simp
  | some m => cases m <;> simp

/-- the recorded owner's total contains every unit the caller pays in, so the saturating
    subtractions of the totals never saturate -/
theorem PosOK.owner_covers {v : PV} (hI : PosOK v) {c : Nat} {pay : Pay} {h0 : Nat → Nat → Nat}
    {a : Attrs} (hc : c ∈ v.accts) (hd : debit v.hold c [pay] = some h0)
    (ha : posOf v.md pay.1 = some a) : pay.2 ≤ v.ut a.owner := by
  have h1 := wsum_debit (ownW v.md a.owner) hd hc hI.nodup (hI.pay_lt hd)
  simp only [payW, ownW_some ha, if_true, Nat.one_mul, Nat.add_zero] at h1
  rw [hI.own a.owner]
  omega

theorem wsum_posW_explicit (hold : Nat → Nat → Nat) (accts : List Nat) (N : Nat) (md : Nat → Option Meta) :
    wsum hold accts N (posW md) =
      ((List.range N).map fun n =>
        match md n with
        | some (.pos _) => (accts.map fun a => hold a n).sum
        | _ => 0).sum := by
  refine wsum_explicit N (fun n => ?_)
  simp only [posW, posOf]
  cases md n with
  | none => simp
  | some m => cases m <;> simp

theorem PosInv.supply_eq {s : St} (h : PosInv s) :
    s.supply =
      ((List.range (s.nonce + 1)).map fun n =>
        match s.md n with
        | some (.pos _) => (s.accts.dedup.map fun a => s.hold a n).sum
        | _ => 0).sum := by
  rw [← wsum_posW_explicit]; exact h.sup

theorem PosInv.owner_eq {s : St} (h : PosInv s) (o : Nat) :
    s.userTotal o =
      ((List.range (s.nonce + 1)).map fun n =>
        match s.md n with
        | some (.pos a) => if a.owner = o then (s.accts.dedup.map fun u => s.hold u n).sum else 0
        | _ => 0).sum := by
  refine (h.own o).trans (wsum_explicit _ (fun n => ?_))
  simp only [pv, ownW, posOf]
  cases s.md n with
  | none => simp
  | some m =>
    cases m with
    | pos a => by_cases h : a.owner = o <;> simp [h]
    | unbond e => simp

theorem PosInv.domain {s : St} (h : PosInv s) {a n : Nat} (hne : s.hold a n ≠ 0) :
    a ∈ s.accts ∧ n ≤ s.nonce := by
  obtain ⟨h1, h2⟩ := h.dom a n hne
  exact ⟨List.mem_dedup.mp h1, h2⟩

end Mx.Staking
