/-
  The boosted-POOL invariant of the farm model holds in every reachable state:
  every week's pool obeys `accum + remaining + paidW + collW = cutW` (life cycle of a week's
  boosted cut: accumulated → frozen into `remaining` → paid out / collected as undistributed),
  nothing is accumulated for future weeks, and the three ghost sums tie the per-week ghosts to the
  global counters: `Σ cutW + baseBudget = generated`, `Σ paidW = paidBoosted`, `Σ collW = undist`.

  Technique: the invariant is stated on the view `wk s` with the amount `d` that is claimed but not
  booked yet (`WkV.Pool v d`): `claimBoostedYields` raises `Σ paidW` by `r` before `payReward` /
  `compoundMove` adds `r` to `paidBoosted`; `PoolInv s ↔ (wk s).Pool 0`.  It is kept by every `Move`
  (`Move.pool`) and when time passes (`Pool.advance`).
-/
import MxModel.Lemmas.FarmWk
import MxModel.Lemmas.FarmArith

namespace Mx.Farm

open Mx.Weekly (upd)

def weekSum (f : Nat → Nat) (W : Nat) : Nat := ((List.range (W + 1)).map f).sum

theorem weekSum_zero (f : Nat → Nat) : weekSum f 0 = f 0 := by simp [weekSum]

theorem weekSum_succ (f : Nat → Nat) (W : Nat) : weekSum f (W + 1) = weekSum f W + f (W + 1) := by
  unfold weekSum
  rw [List.range_succ, List.map_append, List.sum_append]
  simp

/-! `weekSum f W` is `Weekly.usum (List.range (W + 1)) f` by unfolding, so the `usum` lemmas apply as they are -/

theorem weekSum_congr {f g : Nat → Nat} {W : Nat} (h : ∀ w, w ≤ W → f w = g w) :
    weekSum f W = weekSum g W :=
  Weekly.usum_congr fun w hw => h w (Nat.le_of_lt_succ (List.mem_range.mp hw))

theorem weekSum_le {f g : Nat → Nat} {W : Nat} (h : ∀ w, w ≤ W → f w ≤ g w) :
    weekSum f W ≤ weekSum g W :=
  Weekly.usum_le fun w hw => h w (Nat.le_of_lt_succ (List.mem_range.mp hw))

theorem weekSum_add (f g : Nat → Nat) (W : Nat) :
    weekSum (fun w => f w + g w) W = weekSum f W + weekSum g W :=
  Weekly.usum_add _ f g

theorem weekSum_extend {f : Nat → Nat} {W W' : Nat} (hz : ∀ w, W < w → f w = 0) (h : W ≤ W') :
    weekSum f W' = weekSum f W := by
  induction W' with
  | zero => rw [Nat.le_zero.mp h]
  | succ k ih =>
    by_cases hk : W = k + 1
    · rw [hk]
    · rw [weekSum_succ, hz (k + 1) (by omega), ih (by omega), Nat.add_zero]

theorem weekSum_upd_add (f : Nat → Nat) {k W : Nat} (x : Nat) (h : k ≤ W) :
    weekSum (upd f k (f k + x)) W = weekSum f W + x := by
  have := Weekly.usum_update List.nodup_range (List.mem_range.mpr (Nat.lt_add_one_of_le h)) (f := f)
    (g := upd f k (f k + x)) fun w _ hw => Weekly.upd_other _ _ hw
  rw [Weekly.upd_same] at this
  show Weekly.usum _ _ = Weekly.usum _ f + x
  omega

theorem weekSum_window (d : Nat → Nat) (a n W : Nat) (hz : ∀ w, (w < a ∨ a + n ≤ w) → d w = 0)
    (h : a + n ≤ W + 1) : weekSum d W = ((List.range n).map fun i => d (a + i)).sum := by
  have := sum_window d a n 0 (W + 1) hz (Nat.zero_le _) (by omega)
  simp only [Nat.zero_add] at this
  exact this

/-- the pool invariant with `d` boosted rewards claimed out of the weekly pools but not yet
    booked in `paidBoosted` (only non-zero in the middle of an endpoint) -/
structure WkV.Pool (v : WkV) (d : Nat) : Prop where
  time : v.fws ≤ v.epoch
  rem : ∀ W w, v.week = some W → W ≤ w + 4 → RemOk v.w v.b w
  week : ∀ w, v.b.accum w + v.b.remaining w + v.b.paidW w + v.b.collW w = v.b.cutW w
  fut : ∀ W w, v.week = some W → W < w → v.b.cutW w = 0
  cut : ∀ W, v.week = some W → weekSum v.b.cutW W + v.baseBudget = v.generated
  paid : ∀ W, v.week = some W → weekSum v.b.paidW W = v.paidBoosted + d
  coll : ∀ W, v.week = some W → weekSum v.b.collW W = v.undist
  pct : v.pct ≤ MAXPCT

/-- `WkV.Pool` with `d = 0`, on the state: the form the Props statements speak of (`toD`, `toInv`) -/
structure PoolInv (s : St) : Prop where
  /-- so `s.week = some W` always -/
  time : s.firstWeekStart ≤ s.epoch
  rem : RemInv s
  week : ∀ w, s.b.accum w + s.b.remaining w + s.b.paidW w + s.b.collW w = s.b.cutW w
  fut : ∀ W w, s.week = some W → W < w → s.b.cutW w = 0
  cut : ∀ W, s.week = some W → weekSum s.b.cutW W + s.baseBudget = s.generated
  paid : ∀ W, s.week = some W → weekSum s.b.paidW W = s.paidBoosted
  coll : ∀ W, s.week = some W → weekSum s.b.collW W = s.undist
  pct : s.pct ≤ MAXPCT

theorem PoolInv.toD {s : St} (h : PoolInv s) : (wk s).Pool 0 :=
  ⟨h.time, h.rem, h.week, h.fut, h.cut, h.paid, h.coll, h.pct⟩

theorem WkV.Pool.toInv {s : St} (h : (wk s).Pool 0) : PoolInv s :=
  ⟨h.time, h.rem, h.week, h.fut, h.cut, h.paid, h.coll, h.pct⟩

theorem week_eq_some {s : St} {W : Nat} :
    s.week = some W ↔ s.firstWeekStart ≤ s.epoch ∧ W = (s.epoch - s.firstWeekStart) / 7 + 1 :=
  Weekly.weekOf_eq_some

theorem week_of_time {s : St} (h : s.firstWeekStart ≤ s.epoch) : ∃ W, s.week = some W :=
  ⟨_, week_eq_some.mpr ⟨h, rfl⟩⟩

/-- the current week as a total function of the state -/
def curWeek (s : St) : Nat := (s.epoch - s.firstWeekStart) / Weekly.EPOCHS_IN_WEEK + 1

theorem week_curWeek {s : St} {W : Nat} (h : s.week = some W) : W = curWeek s :=
  (week_eq_some.mp h).2

theorem curWeek_mono {s s' : St} (hf : s'.firstWeekStart = s.firstWeekStart) (he : s.epoch ≤ s'.epoch) :
    curWeek s ≤ curWeek s' := by
  unfold curWeek
  rw [hf]
  simp only [Weekly.EPOCHS_IN_WEEK]
  have : (s.epoch - s.firstWeekStart) / 7 ≤ (s'.epoch - s.firstWeekStart) / 7 :=
    Nat.div_le_div_right (by omega)
  omega

namespace WkV.Pool

/-- the invariant only reads the clock, `pct`, the emission and payment counters, the five pool
    components of `b`, and `totalRewardsForWeek` — the latter not for week `W − 5`, which the weekly
    update clears -/
theorem congr {v v' : WkV} {d : Nat} (hI : v.Pool d)
    (he : v'.epoch = v.epoch) (hf : v'.fws = v.fws) (hp : v'.pct = v.pct)
    (hg : v'.generated = v.generated) (hbb : v'.baseBudget = v.baseBudget)
    (hpb : v'.paidBoosted = v.paidBoosted) (hu : v'.undist = v.undist)
    (h1 : v'.b.accum = v.b.accum) (h2 : v'.b.remaining = v.b.remaining) (h3 : v'.b.paidW = v.b.paidW)
    (h4 : v'.b.collW = v.b.collW) (h5 : v'.b.cutW = v.b.cutW)
    (hr : ∀ W, v.week = some W → ∀ w, w + 5 ≠ W → v'.w.totalRewards w = v.w.totalRewards w) :
    v'.Pool d := by
  have hwk : v'.week = v.week := by unfold WkV.week; rw [he, hf]
  refine ⟨by rw [he, hf]; exact hI.time, ?_, by rw [h1, h2, h3, h4, h5]; exact hI.week,
    by rw [h5, hwk]; exact hI.fut, by rw [h5, hwk, hbb, hg]; exact hI.cut,
    by rw [h3, hwk, hpb]; exact hI.paid, by rw [h4, hwk, hu]; exact hI.coll, by rw [hp]; exact hI.pct⟩
  intro W w hW hw
  have hW' : v.week = some W := hwk ▸ hW
  have := hI.rem W w hW' hw
  unfold RemOk at this ⊢
  rw [hr W hW' w (by omega), h2]
  exact this

theorem gen {v : WkV} {d M C W : Nat} {b' : BSt} (hI : v.Pool d) (hle : C ≤ M)
    (hb : (C = 0 ∧ b' = v.b) ∨ (0 < C ∧ v.week = some W ∧
      b' = { v.b with accum := upd v.b.accum W (v.b.accum W + C)
                      cutW := upd v.b.cutW W (v.b.cutW W + C) })) :
    WkV.Pool { v with b := b', generated := v.generated + M, baseBudget := v.baseBudget + (M - C) } d := by
  rcases hb with ⟨hC, rfl⟩ | ⟨_, hW, rfl⟩
  · refine ⟨hI.time, hI.rem, hI.week, hI.fut, ?_, hI.paid, hI.coll, hI.pct⟩
    intro W hW
    show weekSum v.b.cutW W + (v.baseBudget + (M - C)) = v.generated + M
    have := hI.cut W hW
    omega
  · have hwk : ∀ W', v.week = some W' → W' = W := fun W' hW' => Option.some.inj (hW'.symm.trans hW)
    refine ⟨hI.time, hI.rem, ?_, ?_, ?_, hI.paid, hI.coll, hI.pct⟩
    · intro w
      show upd v.b.accum W (v.b.accum W + C) w + v.b.remaining w + v.b.paidW w + v.b.collW w =
        upd v.b.cutW W (v.b.cutW W + C) w
      have := hI.week w
      by_cases hw : w = W
      · subst hw; simp only [Weekly.upd_same]; omega
      · simp only [Weekly.upd_other _ _ hw]; exact this
    · intro W' w hW' hw
      obtain rfl := hwk W' hW'
      show upd v.b.cutW W' (v.b.cutW W' + C) w = 0
      rw [Weekly.upd_other _ _ (by omega)]
      exact hI.fut W' w hW hw
    · intro W' hW'
      obtain rfl := hwk W' hW'
      show weekSum (upd v.b.cutW W' (v.b.cutW W' + C)) W' + (v.baseBudget + (M - C)) = v.generated + M
      rw [weekSum_upd_add _ _ (Nat.le_refl _)]
      have := hI.cut W' hW
      omega

theorem claim {s s' : St} {u r d : Nat} (hI : (wk s).Pool d)
    (h : claimBoostedYields s u = some (s', r)) : (wk s').Pool (d + r) := by
  have e := claimBoostedYields_spec h
  obtain ⟨hrem', hpool⟩ := claimBoostedYields_remInv h hI.rem
  obtain ⟨W, hW⟩ := week_of_time hI.time
  have hwk : ∀ W', (wk s').week = some W' → s.week = some W' := fun W' hW' => by
    rw [claim_wk h] at hW'; exact hW'
  refine ⟨by rw [claim_wk h]; exact hI.time, hrem', fun w => ?_, fun W' w hW' hw => ?_, fun W' hW' => ?_,
    fun W' hW' => ?_, fun W' hW' => ?_, by rw [claim_wk h]; exact hI.pct⟩
  · have h1 := hpool.cons w
    have h2 : s.b.accum w + s.b.remaining w + s.b.paidW w + s.b.collW w = s.b.cutW w := hI.week w
    show s'.b.accum w + s'.b.remaining w + s'.b.paidW w + s'.b.collW w = s'.b.cutW w
    rw [hpool.cutW, hpool.collW]
    omega
  · show s'.b.cutW w = 0
    rw [hpool.cutW]
    exact hI.fut W' w (hwk W' hW') hw
  · show weekSum s'.b.cutW W' + (wk s').baseBudget = (wk s').generated
    rw [hpool.cutW, claim_wk h]
    exact hI.cut W' (hwk W' hW')
  · obtain rfl : W = W' := Option.some.inj (hW.symm.trans (hwk W' hW'))
    have hsplit : weekSum s'.b.paidW W =
        weekSum s.b.paidW W + weekSum (fun w => s'.b.paidW w - s.b.paidW w) W := by
      rw [← weekSum_add]
      exact weekSum_congr (fun w _ => by have := hpool.mono w; omega)
    have hdelta : weekSum (fun w => s'.b.paidW w - s.b.paidW w) W = r := by
      rw [← weekSum_extend (W' := W + 4)
        (fun w hw => by rw [(e.outside W hW w (Or.inr (by omega))).2.2]; exact Nat.sub_self _)
        (by omega)]
      rw [weekSum_window _ (W - 4) 4 (W + 4)
        (fun w hw => by rw [(e.outside W hW w (by omega)).2.2]; exact Nat.sub_self _) (by omega)]
      exact (e.result W hW).symm
    have h2 : weekSum s.b.paidW W = s.paidBoosted + d := hI.paid W hW
    show weekSum s'.b.paidW W = (wk s').paidBoosted + (d + r)
    rw [hsplit, hdelta, h2, claim_wk h]
    show _ = s.paidBoosted + (d + r)
    omega
  · show weekSum s'.b.collW W' = (wk s').undist
    rw [hpool.collW, claim_wk h]
    exact hI.coll W' (hwk W' hW')

theorem collect {v v' : WkV} {d W : Nat} (hI : v.Pool d) (h : Collects v v' W) : v'.Pool d := by
  obtain ⟨b', u', rfl, k⟩ := h.weeks
  have hW := k.week
  have hm := k.marker
  have hwk : ∀ W', v.week = some W' → W' = W := fun W' hW' => Option.some.inj (hW'.symm.trans hW)
  refine ⟨hI.time, ?_, ?_, ?_, ?_, ?_, ?_, hI.pct⟩
  · intro W' w hW' hw
    obtain rfl := hwk W' hW'
    have := hI.rem W' w hW hw
    unfold RemOk at this ⊢
    show (v.w.totalRewards w).isEmpty → b'.remaining w = 0
    rw [(k.other w (Or.inr (by omega))).1]
    exact this
  · intro w
    show b'.accum w + b'.remaining w + b'.paidW w + b'.collW w = b'.cutW w
    rw [k.accum, k.cutW, k.paidW]
    have := hI.week w
    by_cases hw : v.lastCollect < w ∧ w ≤ W - 5
    · obtain ⟨j1, j2⟩ := k.passed w hw.1 hw.2
      rw [j1, j2]; omega
    · obtain ⟨j1, j2⟩ := k.other w (by omega)
      rw [j1, j2]; exact this
  · intro W' w hW' hw
    show b'.cutW w = 0
    rw [k.cutW]; exact hI.fut W' w hW' hw
  · intro W' hW'
    show weekSum b'.cutW W' + v.baseBudget = v.generated
    rw [k.cutW]; exact hI.cut W' hW'
  · intro W' hW'
    show weekSum b'.paidW W' = v.paidBoosted + d
    rw [k.paidW]; exact hI.paid W' hW'
  · intro W' hW'
    obtain rfl := hwk W' hW'
    show weekSum b'.collW W' = u'
    have hsplit : weekSum b'.collW W' = weekSum v.b.collW W' +
        weekSum (fun w => if v.lastCollect < w ∧ w ≤ W' - 5 then v.b.remaining w else 0) W' := by
      rw [← weekSum_add]
      apply weekSum_congr
      intro w _
      by_cases hw : v.lastCollect < w ∧ w ≤ W' - 5
      · rw [(k.passed w hw.1 hw.2).2, if_pos hw]
      · rw [(k.other w (by omega)).2, if_neg hw, Nat.add_zero]
    rw [hsplit, k.undist, hI.coll W' hW, weekSum_window _ (v.lastCollect + 1) (W' - 5 - v.lastCollect) W'
      (fun w hw => if_neg (by omega)) (by omega)]
    congr 2
    apply List.map_congr_left
    intro i hi
    have := List.mem_range.mp hi
    exact if_pos ⟨by omega, by omega⟩

/-- time only moves forward: a later week only extends the sums by empty weeks -/
theorem advance {v : WkV} {d : Nat} (hI : v.Pool d) {e : Nat} (he : v.epoch ≤ e) :
    WkV.Pool { v with epoch := e } d := by
  have hW : v.week = some ((v.epoch - v.fws) / 7 + 1) := Weekly.weekOf_eq_some.mpr ⟨hI.time, rfl⟩
  generalize (v.epoch - v.fws) / 7 + 1 = W at hW
  have hWe := (Weekly.weekOf_eq_some.mp hW).2
  have htime := hI.time
  have hle : ∀ W', WkV.week { v with epoch := e } = some W' → W ≤ W' := by
    intro W' hW'
    have := (Weekly.weekOf_eq_some.mp hW').2
    dsimp only at this
    omega
  have hpz : ∀ w, W < w → v.b.paidW w = 0 ∧ v.b.collW w = 0 := by
    intro w hw
    have := hI.week w
    rw [hI.fut W w hW hw] at this
    omega
  refine ⟨Nat.le_trans hI.time he, ?_, hI.week, ?_, ?_, ?_, ?_, hI.pct⟩
  · intro W' w hW' hw
    have := hle W' hW'
    exact hI.rem W w hW (by omega)
  · intro W' w hW' hw
    have := hle W' hW'
    exact hI.fut W w hW (by omega)
  · intro W' hW'
    show weekSum v.b.cutW W' + v.baseBudget = v.generated
    rw [weekSum_extend (fun w hw => hI.fut W w hW hw) (hle W' hW')]
    exact hI.cut W hW
  · intro W' hW'
    show weekSum v.b.paidW W' = v.paidBoosted + d
    rw [weekSum_extend (fun w hw => (hpz w hw).1) (hle W' hW')]
    exact hI.paid W hW
  · intro W' hW'
    show weekSum v.b.collW W' = v.undist
    rw [weekSum_extend (fun w hw => (hpz w hw).2) (hle W' hW')]
    exact hI.coll W hW

end WkV.Pool

theorem Move.pool {v v' : WkV} {d d' : Nat} (m : Move v d v' d') (hI : v.Pool d) : v'.Pool d' := by
  cases m with
  | gen hle hb => exact hI.gen hle hb
  | claim hv h =>
    subst hv
    rw [← claim_wk h]
    exact hI.claim h
  | pay hd =>
    subst hd
    refine ⟨hI.time, hI.rem, hI.week, hI.fut, hI.cut, fun W hW => ?_, hI.coll, hI.pct⟩
    show weekSum v.b.paidW W = v.paidBoosted + _ + _
    rw [hI.paid W hW]; omega
  | totals => exact hI.congr rfl rfl rfl rfl rfl rfl rfl rfl rfl rfl rfl rfl fun _ _ _ _ => rfl
  | touch hW h =>
    refine hI.congr rfl rfl rfl rfl rfl rfl rfl rfl rfl rfl rfl rfl fun W' hW' w hw => ?_
    cases hW.symm.trans hW'
    exact h.totalRewards w hw
  | record => exact hI.congr rfl rfl rfl rfl rfl rfl rfl rfl rfl rfl rfl rfl fun _ _ _ _ => rfl
  | setPct hp => exact ⟨hI.time, hI.rem, hI.week, hI.fut, hI.cut, hI.paid, hI.coll, hp⟩
  | setFactors => exact hI.congr rfl rfl rfl rfl rfl rfl rfl rfl rfl rfl rfl rfl fun _ _ _ _ => rfl

theorem weekSum_const_zero (W : Nat) : weekSum (fun _ => 0) W = 0 :=
  sum_map_zero _ _ fun _ _ => rfl

theorem init_poolInv (kind : Kind) (sameTok : Bool) (dsc perBlock : Nat) (produce : Bool)
    (users : List Nat) (e0 : Nat) : PoolInv (init kind sameTok dsc perBlock produce users e0) :=
  ⟨Nat.le_refl _, fun _ _ _ _ _ => rfl, fun _ => rfl, fun _ _ _ _ => rfl,
   fun W _ => by show weekSum (fun _ => 0) W + 0 = 0; rw [weekSum_const_zero],
   fun W _ => weekSum_const_zero W, fun W _ => weekSum_const_zero W, Nat.zero_le _⟩

theorem step_poolInv {s s' : St} {op : Op} {o : Out} (hI : PoolInv s)
    (h : step s op = some (s', o)) : PoolInv s' := by
  rcases step_path h with ⟨b, e, he, rfl⟩ | ⟨_, _, _, hc⟩ | p
  · exact (hI.toD.advance he).toInv
  · exact (hI.toD.collect hc).toInv
  · exact (p.inv Move.pool hI.toD).toInv

theorem run_poolInv (ops : List Op) {s : St} (hI : PoolInv s) : PoolInv (run s ops) :=
  run_induction ops hI step_poolInv

theorem reachable_poolInv (kind : Kind) (sameTok : Bool) (dsc perBlock : Nat) (produce : Bool)
    (users : List Nat) (e0 : Nat) (ops : List Op) :
    PoolInv (run (init kind sameTok dsc perBlock produce users e0) ops) :=
  run_poolInv ops (init_poolInv kind sameTok dsc perBlock produce users e0)

/-- where every generated reward is: in a weekly pool (accumulated, or frozen and not yet paid), collected as
    undistributed, paid as boosted reward, or in the base share -/
theorem pools_eq {s : St} (hI : PoolInv s) {W : Nat} (hW : s.week = some W) :
    weekSum (fun w => s.b.accum w + s.b.remaining w) W + s.undist + s.paidBoosted + s.baseBudget =
      s.generated := by
  have h1 : weekSum s.b.cutW W =
      weekSum (fun w => s.b.accum w + s.b.remaining w) W + weekSum s.b.paidW W +
        weekSum s.b.collW W := by
    rw [← weekSum_add, ← weekSum_add]
    exact weekSum_congr (fun w _ => (hI.week w).symm)
  have := hI.cut W hW
  rw [h1, hI.paid W hW, hI.coll W hW] at this
  omega

end Mx.Farm
