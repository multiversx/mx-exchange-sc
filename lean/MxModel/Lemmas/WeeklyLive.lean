/-
  LIVENESS of the weekly-rewards-splitting module's global energy bookkeeping — the counterpart of
  `GInv` (Lemmas/WeeklyGlobal.lean, WeeklyUpdate.lean, which say "IF the update succeeds the lot relation
  holds again"): under the invariant, `update_user_energy_for_current_week` CANNOT abort.

  Its checked subtractions
    * `shift_buckets_and_update_tokens_energy`:  `total_tokens −= bucket.tokens`      (per shifted week)
    * `reallocate_bucket_after_energy_update`:   `bucket.tokens −= prev.tokens`, `bucket.surplus −= surplus(prev)`
    * `update_…_total_tokens_…`:                 `total_locked (+ cur) −= depleted_prev.tokens`
    * `update_…_total_energy_…`:                 `total_energy −= depleted_prev.energy`
  are all discharged from the lot relation: every bucket / total is a SUM over the users' lots that
  contains the lot being removed.  Of the two model guards that stand for `usize` subtractions of the
  code, `user_last_active_week ≤ current_week` follows from the relation (`PRel.pos`);
  `last_global_update_week ≤ current_week` is a hypothesis.

  Hypotheses: `GInv g`, `1 ≤ W`, and `g.lastGlobalUpdateWeek ≤ W` (time does not run backwards — a
  state invariant of every contract embedding the module).
-/
import MxModel.Lemmas.WeeklyInv

namespace Mx.Weekly

theorem shiftOnce_ok {prog : Nat → Option ClaimProgress} {users : List Nat} {g : St} {t : Totals}
    {W orph : Nat}
    (hL : LRel prog users g.firstBucketId g.buckets W t.energy t.tokens orph) :
    ∃ r, shiftOnce g t = some r := by
  have hb0 := hL.bTok 0
  simp only [Nat.add_zero, if_true] at hb0
  have hT := hL.tokens
  have hle : usum users (fun u => (lotAt (prog u) W).bTok 0) ≤
      usum users (fun u => (lotAt (prog u) W).tok) :=
    usum_le (fun u _ => Lot.bTok_le_tok _ 0)
  have hsub : (g.buckets g.firstBucketId).tokens ≤ t.tokens := by omega
  simp only [shiftOnce, Option.bind_eq_bind, Option.pure_def]
  rw [sub?_eq_some.mpr ⟨hsub, rfl⟩]
  exact ⟨_, rfl⟩

theorem shiftN_ok {prog : Nat → Option ClaimProgress} {users : List Nat} :
    ∀ (n : Nat) {g : St} {t : Totals} {W orph : Nat}, PRel prog users W →
    LRel prog users g.firstBucketId g.buckets W t.energy t.tokens orph →
    ∃ r, shiftN n g t = some r
  | 0, _, _, _, _, _, _ => ⟨_, rfl⟩
  | n + 1, _, _, W, _, hP, hL => by
    obtain ⟨⟨g1, t1⟩, h1⟩ := shiftOnce_ok hL
    obtain ⟨r, hr⟩ := shiftN_ok n (hP.mono (Nat.le_succ W)) (shiftOnce_LRel h1 hP hL)
    exact ⟨r, by rw [shiftN, h1]; exact hr⟩

theorem performWeeklyUpdate_ok {g : St} {W : Nat} (hI : GInv g) (hle : g.lastGlobalUpdateWeek ≤ W) :
    ∃ g1, performWeeklyUpdate g W = some g1 := by
  unfold performWeeklyUpdate
  by_cases hsame : g.lastGlobalUpdateWeek = W
  · exact ⟨g, if_pos hsame⟩
  rw [if_neg hsame]
  by_cases hzero : g.lastGlobalUpdateWeek = 0
  · exact ⟨_, if_pos hzero⟩
  rw [if_neg hzero]
  rcases hI with hp | ⟨o, hr⟩
  · exact absurd hp.lgw hzero
  obtain ⟨r, hs⟩ := shiftN_ok (W - g.lastGlobalUpdateWeek)
    (g := { g with lastGlobalUpdateWeek := W,
                   totalLocked := upd g.totalLocked g.lastGlobalUpdateWeek 0 })
    (t := ⟨g.totalLocked g.lastGlobalUpdateWeek, g.totalEnergy g.lastGlobalUpdateWeek⟩)
    hr.p hr.l
  simp only [Option.bind_eq_bind, req, hle, if_true, Option.bind_some, hs, Option.pure_def]
  split <;> exact ⟨_, rfl⟩

theorem bucketRemove_ok {g : St} {id : Nat} {orig : Energy}
    (h1 : orig.totalLocked ≤ (g.buckets id).tokens) (h2 : surplusFor orig ≤ (g.buckets id).surplus) :
    ∃ g1, bucketRemove g id orig = some g1 := by
  simp only [bucketRemove, Option.bind_eq_bind, Option.pure_def]
  rw [sub?_eq_some.mpr ⟨h1, rfl⟩, Option.bind_some, sub?_eq_some.mpr ⟨h2, rfl⟩]
  exact ⟨_, rfl⟩

theorem reallocate_ok {g : St} {orig dep cur : Energy}
    (h : ∀ id, bucketIdFor g.firstBucketId dep = some id →
      orig.totalLocked ≤ (g.buckets id).tokens ∧ surplusFor orig ≤ (g.buckets id).surplus) :
    ∃ r, reallocate g orig dep cur = some r := by
  unfold reallocate
  cases hb : bucketIdFor g.firstBucketId dep with
  | none => simp only [Option.bind_eq_bind, Option.bind_some, Option.pure_def]; exact ⟨_, rfl⟩
  | some id0 =>
    obtain ⟨a1, a2⟩ := h id0 hb
    obtain ⟨g1, hg1⟩ := bucketRemove_ok a1 a2
    simp only [hg1, Option.bind_eq_bind, Option.bind_some, Option.pure_def]
    exact ⟨_, rfl⟩

theorem updateTotalTokens_ok {g : St} {W : Nat} {bp : BucketPair} {dep cur : Energy}
    (h : bp.prev.isSome → dep.totalLocked ≤ g.totalLocked W) :
    ∃ g1, updateTotalTokens g W bp dep cur = some g1 := by
  unfold updateTotalTokens
  cases hp : bp.prev with
  | none => cases hc : bp.cur <;> exact ⟨_, rfl⟩
  | some i =>
    have hle := h (by rw [hp]; rfl)
    cases hc : bp.cur with
    | none =>
      simp only [Option.bind_eq_bind, Option.pure_def]
      rw [sub?_eq_some.mpr ⟨hle, rfl⟩]; exact ⟨_, rfl⟩
    | some j =>
      simp only [Option.bind_eq_bind, Option.pure_def]
      rw [sub?_eq_some.mpr ⟨(by omega : dep.totalLocked ≤ g.totalLocked W + cur.totalLocked), rfl⟩]
      exact ⟨_, rfl⟩

theorem updateTotalEnergy_ok {g : St} {W : Nat} {dep cur : Energy}
    (h : dep.getEnergyAmount ≤ g.totalEnergy W) : ∃ g1, updateTotalEnergy g W dep cur = some g1 := by
  simp only [updateTotalEnergy, Option.bind_eq_bind, Option.pure_def]
  rw [sub?_eq_some.mpr ⟨h, rfl⟩]; exact ⟨_, rfl⟩

theorem bucketIdFor_ge {F id : Nat} {e : Energy} (h : bucketIdFor F e = some id) :
    ∃ d, id = F + d := by
  unfold bucketIdFor at h
  split at h
  · cases h
  split at h
  · cases h
  · cases h
    exact ⟨_, Nat.add_comm _ _⟩

theorem updateUser_ok {g : St} {W u0 : Nat} (cur : Energy) (hW : 1 ≤ W) (hI : GInv g)
    (hle : g.lastGlobalUpdateWeek ≤ W) :
    ∃ g', updateUserEnergyForCurrentWeek g W cur (g.progress u0) = some g' := by
  rw [updateUserEnergyForCurrentWeek_eq]
  obtain ⟨g1, h1⟩ := performWeeklyUpdate_ok hI hle
  obtain ⟨⟨o, hR⟩, hlgw, _, _⟩ := performWeeklyUpdate_GRel hW hI h1
  have hP := hR.p
  have hL := hR.l
  rw [hlgw] at hP hL
  have hla : (prevOf (g.progress u0)).1 ≤ W := by
    cases hq : g.progress u0 with
    | none => exact Nat.zero_le _
    | some p => exact (hP.pos u0 p hq).2
  obtain ⟨a0, a1, a2⟩ :=
    prev_bridge (g.progress u0) W g1.firstBucketId (fun p hp => (hP.pos u0 p hp).2)
  generalize (prevOf (g.progress u0)).2 = prev at *
  generalize hdep : depletedPrev prev W (prevOf (g.progress u0)).1 = dep at *
  -- the user's lot is one of the summands (an absent entry is the empty lot)
  have nl0 : ¬ (Lot.Live ⟨0, 0, W⟩) := fun h => Nat.lt_irrefl 0 h.1
  have hsum : ∀ (f : Lot → Nat), f ⟨0, 0, W⟩ = 0 →
      f (lotAt (g.progress u0) W) ≤ usum g.users (fun u => f (lotAt (g.progress u) W)) := by
    intro f hf
    cases hq : g.progress u0 with
    | none => exact hf ▸ Nat.zero_le _
    | some p =>
      have := le_usum (f := fun u => f (lotAt (g.progress u) W))
        (hP.mem u0 (by rw [hq]; exact Option.some_ne_none p))
      rwa [hq] at this
  -- reallocate: the old lot's tokens and surplus are in the bucket it is found in
  obtain ⟨⟨g2, bp⟩, hre⟩ := reallocate_ok (g := g1) (orig := prev) (dep := dep) (cur := cur) (by
    intro id hid
    obtain ⟨d, rfl⟩ := bucketIdFor_ge hid
    have s1 := hsum (fun l => l.bTok d) (by simp [Lot.bTok, nl0])
    have s2 := hsum (fun l => l.bSur d) (by simp [Lot.bSur, nl0])
    have q1 := hL.bTok d
    have q2 := hL.bSur d
    obtain ⟨b1, b2⟩ := a2 d
    rw [if_pos hid] at b1 b2
    constructor
    · rw [q1]
      exact Nat.le_trans (Nat.le_trans (b1 ▸ Nat.le_add_right _ _) s1) (Nat.le_add_right _ _)
    · rw [q2, b2]
      exact s2)
  obtain ⟨hbp, _, hfr, _⟩ := reallocate_spec hre
  obtain ⟨g3, htk⟩ := updateTotalTokens_ok (g := g2) (W := W) (bp := bp) (dep := dep) (cur := cur) (by
    intro hsome
    rw [hbp] at hsome
    rw [if_pos hsome] at a1
    have s1 := hsum Lot.tok (by simp [Lot.tok, nl0])
    have q := hL.tokens
    rw [hfr.totalLocked]
    omega)
  obtain ⟨_, _, _, t4, _⟩ := updateTotalTokens_spec htk
  obtain ⟨g4, hen⟩ := updateTotalEnergy_ok (g := g3) (W := W) (dep := dep) (cur := cur) (by
    have s1 := hsum Lot.contrib (by simp [Lot.contrib])
    have q := hL.energy
    rw [t4, hfr.totalEnergy, a0]
    omega)
  simp only [updateGlobal, h1, Option.bind_eq_bind, Option.bind_some, req, hla, if_true, hdep, hre, htk]
  exact ⟨g4, hen⟩

end Mx.Weekly
