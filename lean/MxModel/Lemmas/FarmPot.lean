/-
  Potential-function invariant of the farm model (C06 `total_base_bound`, base part of C05
  `reserve_covers`):

      Σ_n outstanding(n) · (rps − entryRps(n))  +  dsc · paidBase  ≤  dsc · baseBudget

  i.e. what has been paid as base rewards plus everything the outstanding positions can still claim
  never exceeds the base share of the emission.  Truncated subtraction throughout.  The potential is
  the weighted sum with weight `potW` (Lemmas/FarmPos.lean); the bound is checked on the four
  transitions `PTrans`.
-/
import MxModel.Lemmas.FarmPos

namespace Mx.Farm

open Mx.Weekly (upd upd_same)
open Mx.Staking (wsum payW wsum_reissue wsum_debit wsum_explicit wsum_congr wsum_hold_zero wsum_le
  wsum_add_mul)

def rpsOf (s : St) (n : Nat) : Nat := match s.attrs n with | some a => a.rps | none => 0
def potential (s : St) : Nat := ((nonceList s).map fun n => heldBy s n * (s.rps - rpsOf s n)).sum
def PotInv (s : St) : Prop := potential s + s.dsc * s.paidBase ≤ s.dsc * s.baseBudget

def PV.pot (v : PV) (R : Nat) : Nat := wsum v.hold v.users (v.lastNonce + 1) (potW v.attrs R)

theorem potential_eq (s : St) : potential s = (pv s).pot s.rps :=
  (wsum_explicit _ fun _ => Nat.mul_comm _ _).symm

theorem pot_explicit (s : St) (R : Nat) :
    (pv s).pot R = ((nonceList s).map fun n => heldBy s n * (R - rpsA s.attrs n)).sum :=
  wsum_explicit _ fun _ => Nat.mul_comm _ _

theorem potInv_iff (s : St) :
    PotInv s ↔ (pv s).pot (cv s).rps + (cv s).dsc * (cv s).paidBase ≤ (cv s).dsc * (cv s).baseBudget := by
  rw [PotInv, potential_eq]; rfl

theorem PV.pot_mono (v : PV) (R δ : Nat) : v.pot (R + δ) ≤ v.pot R + δ * v.totalHeld := by
  rw [PV.totalHeld_eq, PV.pot, PV.pot, ← wsum_add_mul]
  exact wsum_le fun n _ => by simp only [potW]; omega

theorem PotInv.settled {s : St} (hP : PotInv s) (hI : PosInv s) {δ B : Nat} (hδ : δ * s.supply ≤ B * s.dsc) :
    (pv s).pot (s.rps + δ) + s.dsc * s.paidBase ≤ s.dsc * s.baseBudget + s.dsc * B := by
  have h1 := PV.pot_mono (pv s) s.rps δ
  have h2 : (pv s).pot s.rps + s.dsc * s.paidBase ≤ s.dsc * s.baseBudget := (potInv_iff s).mp hP
  have hsup : (pv s).totalHeld = s.supply := hI.sup.symm
  rw [hsup] at h1
  rw [Nat.mul_comm B] at hδ
  omega

theorem PotInv.trans {s s' : St} (hI : PosInv s) (hP : PotInv s) (h : PTrans s s') : PotInv s' := by
  obtain ⟨δ, B, hδ, h⟩ := h
  have hG := hP.settled hI hδ
  rw [potInv_iff]
  rcases h with ⟨e, k⟩ | ⟨c, dst, user, pays, h0, t1, t2, tok, sp, paid, hc, hdst, hd, _, _, _, _, hpot, e, k⟩ |
    ⟨c, n, a, h0, att, paid, hc, hd, hat, _, hpot, e, k⟩ | ⟨src, dst, n, a, hs, hdst, _, hle, e, k⟩
  · rw [e, k, Nat.mul_add]; exact hG
  · have hfr : ∀ u, s.hold u (s.lastNonce + 1) = 0 := fun u =>
      PV.fresh_hold (v := pv s) hI.dom u (Nat.lt_succ_self _)
    have hf0 : h0 dst (s.lastNonce + 1) = 0 := Nat.le_zero.mp (hfr dst ▸ Staking.debit_le hd dst _)
    have h1 := wsum_reissue hI.nodup hc hdst hd hfr (hI.pay_lt hd) tok.amt (potW s.attrs (s.rps + δ))
      (potW (upd s.attrs (s.lastNonce + 1) (some tok)) (s.rps + δ)) (fun m hm => potW_upd_lt s.attrs _ _ hm)
    have hw : potW (upd s.attrs (s.lastNonce + 1) (some tok)) (s.rps + δ) (s.lastNonce + 1)
        = s.rps + δ - tok.rps := by rw [potW, rpsA_some (upd_same _ _ _)]
    rw [hw, Nat.mul_comm _ tok.amt] at h1
    rw [e, k, hf0, Nat.zero_add]
    dsimp only [PV.pot, pv] at hG ⊢
    rw [Nat.mul_add, Nat.mul_add]
    omega
  · have h1 := wsum_debit (potW s.attrs (s.rps + δ)) hd hc hI.nodup (hI.pay_lt hd)
    have hw : potW s.attrs (s.rps + δ) n = s.rps + δ - att.rps := by rw [potW, rpsA_some hat]
    simp only [payW, hw, Nat.add_zero] at h1
    rw [Nat.mul_comm _ a] at h1
    rw [e, k]
    dsimp only [PV.pot, pv] at hG ⊢
    rw [Nat.mul_add, Nat.mul_add]
    omega
  · rw [e, k]
    have hout := PV.outst_transfer (v := pv s) hI.nodup hs hdst hle
    refine Nat.le_trans (Nat.le_of_eq ?_) ((potInv_iff s).mp hP)
    exact congrArg (· + _) (wsum_congr (fun m _ => hout m) (fun _ _ => rfl))

theorem init_potInv (kind : Kind) (sameTok : Bool) (dsc perBlock : Nat) (produce : Bool) (users : List Nat)
    (e0 : Nat) : PotInv (init kind sameTok dsc perBlock produce users e0) :=
  (potInv_iff _).mpr (Nat.le_of_eq (congrArg (· + dsc * 0) (wsum_hold_zero fun _ _ => rfl)))

theorem step_potInv {s s' : St} {op : Op} {o : Out} (hP : PosInv s) (hK : PotInv s)
    (h : step s op = some (s', o)) : PotInv s' := hK.trans hP (step_ptrans h)

theorem step_dsc {s s' : St} {op : Op} {o : Out} (hP : PosInv s) (hK : PotInv s)
    (h : step s op = some (s', o)) : s'.dsc = s.dsc :=
  congrArg Fixed.dsc (step_fixed h)

theorem run_potInv' (ops : List Op) {s : St} (hP : PosInv s) (hK : PotInv s) :
    PosInv (run s ops) ∧ PotInv (run s ops) ∧ (run s ops).dsc = s.dsc :=
  run_induction (P := fun s' => PosInv s' ∧ PotInv s' ∧ s'.dsc = s.dsc) ops ⟨hP, hK, rfl⟩
    fun ⟨a1, a2, a3⟩ hs => ⟨step_posInv a1 hs, step_potInv a1 a2 hs, (step_dsc a1 a2 hs).trans a3⟩

theorem run_potInv (ops : List Op) {s : St} (hP : PosInv s) (hK : PotInv s) : PotInv (run s ops) :=
  (run_potInv' ops hP hK).2.1

/-- the base rewards all outstanding positions could claim right now (without a further settlement), floored per nonce -/
def claimableBase (s : St) : Nat :=
  ((nonceList s).map fun n => baseReward s.dsc s.rps (heldBy s n) (rpsOf s n)).sum

theorem PotInv.claimable_le {s : St} (hK : PotInv s) (hd : s.dsc ≠ 0) :
    claimableBase s + s.paidBase ≤ s.baseBudget := by
  have hK' : potential s + s.dsc * s.paidBase ≤ s.dsc * s.baseBudget := hK
  have hsum : s.dsc * claimableBase s ≤ potential s :=
    (Weekly.usum_mul (nonceList s) s.dsc _).symm.trans_le (Weekly.usum_le fun n _ => by
      rw [Nat.mul_comm]; exact baseReward_mul_le' _ _ _ _)
  apply Nat.le_of_mul_le_mul_left _ (Nat.pos_of_ne_zero hd)
  rw [Nat.mul_add]
  omega

theorem PotInv.paidBase_le {s : St} (hK : PotInv s) (hd : s.dsc ≠ 0) : s.paidBase ≤ s.baseBudget := by
  have := hK.claimable_le hd
  omega

theorem total_base_bound (kind : Kind) (sameTok : Bool) (dsc perBlock : Nat) (produce : Bool)
    (users : List Nat) (e0 : Nat) (hnd : users.Nodup) (hd : dsc ≠ 0) (ops : List Op) :
    (run (init kind sameTok dsc perBlock produce users e0) ops).paidBase
      ≤ (run (init kind sameTok dsc perBlock produce users e0) ops).baseBudget := by
  obtain ⟨_, hK, hdsc⟩ := run_potInv' ops (init_posInv kind sameTok dsc perBlock produce users e0 hnd)
    (init_potInv kind sameTok dsc perBlock produce users e0)
  exact hK.paidBase_le ((hdsc : _ = dsc) ▸ hd)

theorem payW_potW_explicit (atr : Nat → Option Attr) (R : Nat) : ∀ l : List (Nat × Nat),
    payW (potW atr R) l =
      (l.map fun p => p.2 * (R - (match atr p.1 with | some a => a.rps | none => 0))).sum
  | [] => rfl
  | p :: l => by
    rw [payW, payW_potW_explicit atr R l, List.map_cons, List.sum_cons, Nat.mul_comm]; rfl

theorem mergeAll_pot {s : St} {l : List (Nat × Nat)} {m : Attr} (R : Nat) (h : mergeAll s l = some m) :
    m.amt * (R - m.rps) ≤ payW (potW s.attrs R) l := by
  obtain ⟨n, a, rest, att, part, rfl, hat, hp, hm⟩ := mergeAll_spec h
  obtain ⟨f1, _, f3⟩ := first_payment (rest := rest) hat hp R 0
  rw [f1, ← f3]
  exact mergeParts_pot rest R hm

theorem claimable_le (kind : Kind) (sameTok : Bool) (dsc perBlock : Nat) (produce : Bool)
    (users : List Nat) (e0 : Nat) (hnd : users.Nodup) (hd : dsc ≠ 0) (ops : List Op) :
    let s := run (init kind sameTok dsc perBlock produce users e0) ops
    ((nonceList s).map fun n => baseReward s.dsc s.rps (heldBy s n) (rpsOf s n)).sum + s.paidBase
      ≤ s.baseBudget := by
  intro s
  obtain ⟨_, hK, hdsc⟩ := run_potInv' ops (init_posInv kind sameTok dsc perBlock produce users e0 hnd)
    (init_potInv kind sameTok dsc perBlock produce users e0)
  exact hK.claimable_le ((hdsc : s.dsc = dsc) ▸ hd)

end Mx.Farm
