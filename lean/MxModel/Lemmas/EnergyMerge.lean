/-
  What the energy factory MODEL (Core/Energy.lean) answers to the two calls the proxy-dex makes:
  `mergeTokens(original_caller)` (token_merging.rs) and the period extension
  (`extend_new_token_period` of extend_lock.rs, reached in the model through `extendLock`).
  Amount of the answer, unlock epoch of the answer (the pairwise rounded-up weighted average, then
  `unlock_epoch_to_start_of_month_upper_estimate`), and the token the caller ends up holding.
  The bounds `lo ≤ unl ≤ hi` on the merged epoch need the inputs' epochs to be month starts, which
  they are in every reachable state (`run_aligned`).
  Used by Props/C16Compose.lean to discharge `FactoryMergeOK` (Lemmas/ProxyDexNetOps.lean).
-/
import MxModel.Lemmas.EnergyC09

namespace Mx.Energy

/- kept folded: when two states are compared the unifier would otherwise unfold the `if` inside -/
attribute [local irreducible] St.ensureNonce


theorem weightedAvgRoundUp_between (v1 w1 v2 w2 lo hi : Nat) (hw : w1 + w2 ≠ 0)
    (h1 : lo ≤ v1 ∧ v1 ≤ hi) (h2 : lo ≤ v2 ∧ v2 ≤ hi) :
    lo ≤ weightedAvgRoundUp v1 w1 v2 w2 ∧ weightedAvgRoundUp v1 w1 v2 w2 ≤ hi := by
  have hW : 0 < w1 + w2 := Nat.pos_of_ne_zero hw
  have hlo : lo * (w1 + w2) ≤ v1 * w1 + v2 * w2 := by
    rw [Nat.mul_add]
    exact Nat.add_le_add (Nat.mul_le_mul_right _ h1.1) (Nat.mul_le_mul_right _ h2.1)
  have hhi : v1 * w1 + v2 * w2 ≤ hi * (w1 + w2) := by
    rw [Nat.mul_add]
    exact Nat.add_le_add (Nat.mul_le_mul_right _ h1.2) (Nat.mul_le_mul_right _ h2.2)
  unfold weightedAvgRoundUp ceilDiv
  generalize v1 * w1 + v2 * w2 = S at hlo hhi
  generalize w1 + w2 = W at hW hlo hhi
  constructor
  · rw [Nat.le_div_iff_mul_le hW]; omega
  · have : (S + W - 1) / W < hi + 1 := by
      rw [Nat.div_lt_iff_lt_mul hW, Nat.add_mul]; omega
    omega

theorem startOfMonth_mono {a b : Nat} (h : a ≤ b) : startOfMonth a ≤ startOfMonth b := by
  have hM : MONTH = 30 := rfl
  unfold startOfMonth
  rw [hM]
  omega

theorem upperEstimate_between (opts : List Opt) (now u lo hi : Nat) (hlo : lo % MONTH = 0)
    (hhi : hi % MONTH = 0) (h : lo ≤ u ∧ u ≤ hi) :
    lo ≤ upperEstimate opts now u ∧ upperEstimate opts now u ≤ hi := by
  have hM : MONTH = 30 := rfl
  obtain ⟨hc, hal, _⟩ := upperEstimate_cases opts now u
  have hs := startOfMonth_facts u
  by_cases hu : u % MONTH = 0
  · rw [hal hu]; exact h
  · rw [hM] at hlo hhi hu hs
    have hlt : u < hi := by
      rcases Nat.lt_or_ge u hi with h1 | h1
      · exact h1
      · have : u = hi := by omega
        subst this; exact (hu hhi).elim
    rcases hc with hc | hc <;> rw [hc] <;> (try rw [hM]) <;> omega

theorem ensureNonce_unlockOf (s : St) (u : Nat) :
    (s.ensureNonce u).unlockOf (s.nonceFor u) = some u := by
  obtain ⟨h1, h2⟩ := ensureNonce_isNonce s u
  unfold St.unlockOf
  rw [if_neg (by omega)]
  exact h2

theorem ensureNonce_unlockOf_old (s : St) (u : Nat) {n v : Nat} (h : s.unlockOf n = some v) :
    (s.ensureNonce u).unlockOf n = some v := by
  have hN := unlockOf_isNonce h
  unfold St.unlockOf
  rw [if_neg (by have := hN.1; omega)]
  rcases ensureNonce_nonces s u with e | e <;> rw [e]
  · exact hN.2
  · exact (hN.append u).2


/-- the bound on the merged epoch is stated for every interval `[lo, hi]` that contains the epochs
    merged so far: that is the form the induction over the payments carries -/
theorem mergePays_answer (ps : List (Nat × Nat)) {s s2 : St} {c : Nat} {e e2 : Entry}
    {accE accW accE' accW' : Nat}
    (h : mergePays s c e accE accW ps = some (s2, e2, accE', accW')) :
    accW' = accW + paySum ps ∧
    (∀ p ∈ ps, ∃ u, s.unlockOf p.1 = some u ∧ s.epoch < u) ∧
    (∀ lo hi, lo ≤ accE ∧ accE ≤ hi →
      (∀ p ∈ ps, ∀ u, s.unlockOf p.1 = some u → lo ≤ u ∧ u ≤ hi) → lo ≤ accE' ∧ accE' ≤ hi) := by
  induction ps generalizing s e accE accW with
  | nil =>
    obtain ⟨-, -, rfl, rfl⟩ := Prod.mk.inj (Option.some.inj h) |>.imp_right
      (fun h => Prod.mk.inj h |>.imp_right Prod.mk.inj)
    exact ⟨by simp [paySum], fun p hp => (nomatch hp), fun lo hi hb _ => hb⟩
  | cons p ps ih =>
    obtain ⟨n, amt⟩ := p
    obtain ⟨u, s1, e1, hu, hdeb, hlt, -, hne, hrec⟩ := mergePays_cons h
    -- the debit leaves nonce list and epoch alone, so the facts about `s1` are facts about `s`
    obtain ⟨b1, rfl⟩ := debit_eq hdeb
    obtain ⟨hW, hall, hB⟩ := ih hrec
    refine ⟨?_, ?_, ?_⟩
    · rw [hW]; simp only [paySum, List.map_cons, List.sum_cons]; omega
    · intro p hp
      rcases List.mem_cons.mp hp with rfl | hp
      · exact ⟨u, hu, hlt⟩
      · exact hall p hp
    · intro lo hi hb hps
      exact hB lo hi (weightedAvgRoundUp_between accE accW u amt lo hi hne hb
          (hps (n, amt) (List.mem_cons_self ..) u hu))
        (fun p hp v hv => hps p (List.mem_cons_of_mem _ hp) v hv)

/-- the factory's answer to `mergeTokens`, whoever calls (a user for himself, `orig = 0`, or a
    whitelisted contract on behalf of `orig`) with any list of payments: ONE locked token carrying the
    sum of the merged amounts.  Its unlock epoch `unl` is `upperEstimate` of the running weighted
    average, hence within a month of every interval `[lo, hi]` that contains the merged epochs, and
    inside it when `lo` and `hi` are month starts. -/
theorem mergeTokens_answer {s s' : St} {c orig : Nat} {ps : List (Nat × Nat)} {o : Out}
    (h : mergeTokens s c orig ps = some (s', o)) :
    o.v2 = paySum ps ∧ 0 < o.v2 ∧ (orig = 0 ∨ c ∈ s.wl) ∧
    (∀ p ∈ ps, ∃ u, s.unlockOf p.1 = some u ∧ s.epoch < u) ∧
    (∃ unl, s'.unlockOf o.v1 = some unl ∧ s.epoch < unl ∧ unl % MONTH = 0 ∧
      (∀ lo hi, (∀ p ∈ ps, ∀ u, s.unlockOf p.1 = some u → lo ≤ u ∧ u ≤ hi) →
        startOfMonth lo ≤ unl ∧ unl ≤ startOfMonth hi + MONTH ∧
        (lo % MONTH = 0 → hi % MONTH = 0 → lo ≤ unl ∧ unl ≤ hi))) ∧
    (∀ n v, s.unlockOf n = some v → s'.unlockOf n = some v) ∧ s'.epoch = s.epoch := by
  obtain ⟨n1, a1, rest, u1, s1, e1, s2, e2, accE, accW, t⟩ := mergeTokens_spec h
  obtain rfl := t.pays
  obtain rfl := t.out
  obtain rfl := t.state
  obtain ⟨b1, rfl⟩ := debit_eq t.debit
  obtain ⟨hW, hall, hB⟩ := mergePays_answer rest t.mergePays
  obtain ⟨b2, rfl⟩ := mergePays_eq rest t.mergePays
  refine ⟨?_, t.accW_pos, t.wl, ?_, ?_, fun n v hv => ensureNonce_unlockOf_old _ _ hv,
    ensureNonce_epoch _ _⟩
  · show accW = _
    rw [hW]; simp only [paySum, List.map_cons, List.sum_cons]
  · intro p hp'
    rcases List.mem_cons.mp hp' with rfl | hp'
    · exact ⟨u1, t.unlockOf, t.locked⟩
    · exact hall p hp'
  · refine ⟨upperEstimate s.opts s.epoch accE, ensureNonce_unlockOf _ _, t.unlock,
      (upperEstimate_cases _ _ _).2.2, fun lo hi hps => ?_⟩
    have hacc : lo ≤ accE ∧ accE ≤ hi :=
      hB lo hi (hps (n1, a1) (List.mem_cons_self ..) u1 t.unlockOf)
        (fun p hp' v hv => hps p (List.mem_cons_of_mem _ hp') v hv)
    obtain ⟨hc, _, _⟩ := upperEstimate_cases s.opts s.epoch accE
    have m1 := startOfMonth_mono hacc.1
    have m2 := startOfMonth_mono hacc.2
    refine ⟨?_, ?_, fun hlo hhi => upperEstimate_between _ _ _ _ _ hlo hhi hacc⟩
    · rcases hc with hc | hc <;> rw [hc]
      · exact m1
      · exact Nat.le_trans m1 (Nat.le_add_right _ _)
    · rcases hc with hc | hc <;> rw [hc]
      · exact Nat.le_trans m2 (Nat.le_add_right _ _)
      · exact Nat.add_le_add_right m2 _

theorem mergeTokens_credited {s s' : St} {c orig : Nat} {ps : List (Nat × Nat)} {o : Out}
    (h : mergeTokens s c orig ps = some (s', o)) : o.v2 ≤ s'.bal c o.v1 := by
  obtain ⟨n1, a1, rest, u1, s1, e1, s2, e2, accE, accW, t⟩ := mergeTokens_spec h
  obtain rfl := t.out
  obtain rfl := t.state
  show accW ≤ upd2 _ c _ (_ + accW) c _
  rw [upd2_same, upd_same]
  omega


def MonthAligned (ns : List Nat) : Prop := ∀ u ∈ ns, u % MONTH = 0

theorem MonthAligned.unlockOf {s : St} (ha : MonthAligned s.nonces) {n u : Nat}
    (h : s.unlockOf n = some u) : u % MONTH = 0 :=
  ha u (List.mem_of_getElem? (unlockOf_isNonce h).2)

/-- nonces are only created by `lockTokens` / `lockVirtual` / the period extension
    (`unlock_epoch_to_start_of_month`), by `mergeTokens`
    (`unlock_epoch_to_start_of_month_upper_estimate`) and by `reduceLockPeriod`
    (`now + epochs − (now + epochs) mod 30`): `Stepped.nonces` -/
theorem step_nonces {s s' : St} {op : Op} {o : Out} (ha : MonthAligned s.nonces)
    (h : step s op = some (s', o)) : MonthAligned s'.nonces := by
  rcases (stepped h).nonces with e | ⟨u, hu, e⟩ <;> rw [e]
  · exact ha
  · intro v hv
    rcases List.mem_append.mp hv with hv | hv
    · exact ha v hv
    · rw [List.mem_singleton.mp hv]; exact hu

theorem run_aligned (ops : List Op) {s : St} (ha : MonthAligned s.nonces) :
    MonthAligned (run s ops).nonces :=
  run_induction (P := fun s => MonthAligned s.nonces) ops ha (fun _ _ _ _ _ ha h => step_nonces ha h)

theorem init_aligned (c : Cfg) : MonthAligned (init c).nonces := by
  intro u hu; cases hu


/-- `extendLockPeriod(lock_epochs, user)` of energy-factory/src/lib.rs — the endpoint proxy-dex calls
    for `increaseProxy…TokenEnergy` — transcribed here, OUTSIDE the tied model: Core/Energy.lean has
    no such operation, so no correspondence run exercises this definition.  It is the model's
    `extendLock` (= `lockTokens` paid with a locked token; both run `extend_new_token_period`) with
    the energy entry of `user` instead of the caller's (`extendLock_eq`).  The endpoint's caller
    check (`token_transfer_whitelist`, not part of the model state) only restricts who may call and
    is left out: it cannot change the answer of a successful call. -/
def extendPeriodFor (s : St) (c user n amt epochs : Nat) : Option (St × Out) := do
  req (s.paused = false)
  req (s.opts ≠ [])
  req (isListed s.opts epochs = true)
  let unlock := startOfMonth (s.epoch + epochs)
  req (s.epoch < unlock)
  let old ← s.unlockOf n
  let s0 ← s.debit c n amt
  req (old < unlock)
  let e0 ← (s.view user).afterUnlockAny amt old s.epoch
  let e := e0.addAfterLock amt unlock s.epoch
  req (0 < amt)
  let s1 := s0.ensureNonce unlock
  let nn := s0.nonceFor unlock
  pure ((s1.credit c nn amt).setEnergy user e, ⟨nn, amt, 0⟩)

theorem extendLock_eq (s : St) (c n amt epochs dest : Nat) (hd : dest = 0 ∨ dest = c) :
    extendLock s c n amt epochs dest = extendPeriodFor s c c n amt epochs := by
  unfold extendLock extendPeriodFor
  simp only [req, hd, if_true]
  rfl

theorem extendPeriodFor_answer {s s' : St} {c user n amt epochs : Nat} {o : Out}
    (h : extendPeriodFor s c user n amt epochs = some (s', o)) :
    o.v2 = amt ∧ 0 < amt ∧ isListed s.opts epochs = true ∧ amt ≤ s'.bal c o.v1 ∧
    ∃ old, s.unlockOf n = some old ∧ old < startOfMonth (s.epoch + epochs) ∧
      s.epoch < startOfMonth (s.epoch + epochs) ∧
      s'.unlockOf o.v1 = some (startOfMonth (s.epoch + epochs)) ∧
      (∀ m v, s.unlockOf m = some v → s'.unlockOf m = some v) := by
  unfold extendPeriodFor at h
  obtain ⟨-, h⟩ := peel_req h
  obtain ⟨-, h⟩ := peel_req h
  obtain ⟨hl, h⟩ := peel_req h
  obtain ⟨hnow, h⟩ := peel_req h
  obtain ⟨old, hold, h⟩ := peel h
  obtain ⟨s0, hdeb, h⟩ := peel h
  obtain ⟨hlt, h⟩ := peel_req h
  obtain ⟨e0, -, h⟩ := peel h
  obtain ⟨hpos, h⟩ := peel_req h
  obtain ⟨rfl, rfl⟩ := Prod.mk.inj (Option.some.inj h)
  obtain ⟨b0, rfl⟩ := debit_eq hdeb
  refine ⟨rfl, hpos, hl, ?_, old, hold, hlt, hnow, ensureNonce_unlockOf _ _,
    fun m v hv => ensureNonce_unlockOf_old _ _ hv⟩
  show amt ≤ upd2 _ c _ (_ + amt) c _
  rw [upd2_same, upd_same]
  omega

end Mx.Energy
