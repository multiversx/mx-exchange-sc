/-
  Sums over round intervals `(a, b]` (`rsum`) and the arithmetic kernel of the safe-price view's linear
  interpolation (`interp_kernel`).  No contract state here.
-/
import Mathlib.Tactic.Ring

namespace Mx.SafePrice

/-- `rsum f a b = Σ_{k ∈ (a, b]} f k` -/
def rsum (f : Nat → Nat) (a : Nat) : Nat → Nat
  | 0 => 0
  | b + 1 => if a < b + 1 then rsum f a b + f (b + 1) else 0

theorem rsum_of_le (f : Nat → Nat) {a b : Nat} (h : b ≤ a) : rsum f a b = 0 := by
  induction b with
  | zero => rfl
  | succ b ih => simp only [rsum]; rw [if_neg (by omega)]

theorem rsum_succ (f : Nat → Nat) {a b : Nat} (h : a ≤ b) :
    rsum f a (b + 1) = rsum f a b + f (b + 1) := by
  simp only [rsum]; rw [if_pos (by omega)]

theorem rsum_split (f : Nat → Nat) {a m b : Nat} (h1 : a ≤ m) (h2 : m ≤ b) :
    rsum f a b = rsum f a m + rsum f m b := by
  induction b with
  | zero =>
    have : m = 0 := by omega
    subst this
    simp [rsum_of_le]
  | succ b ih =>
    by_cases hm : m = b + 1
    · subst hm; simp [rsum_of_le]
    · rw [rsum_succ f (by omega), rsum_succ f (by omega), ih (by omega)]; omega

theorem rsum_const (f : Nat → Nat) {a b c : Nat} (h : ∀ k, a < k → k ≤ b → f k = c) :
    rsum f a b = (b - a) * c := by
  induction b with
  | zero => simp [rsum]
  | succ b ih =>
    by_cases hab : a ≤ b
    · rw [rsum_succ f hab, ih (fun k h1 h2 => h k h1 (by omega)), h (b + 1) (by omega) (by omega)]
      rw [Nat.succ_sub hab, Nat.succ_mul]
    · rw [rsum_of_le f (by omega)]
      have : b + 1 - a = 0 := by omega
      simp [this]

theorem rsum_congr (f g : Nat → Nat) {a b : Nat} (h : ∀ k, a < k → k ≤ b → f k = g k) :
    rsum f a b = rsum g a b := by
  induction b with
  | zero => rfl
  | succ b ih =>
    by_cases hab : a ≤ b
    · rw [rsum_succ f hab, rsum_succ g hab, ih (fun k h1 h2 => h k h1 (by omega)),
        h (b + 1) (by omega) (by omega)]
    · rw [rsum_of_le f (by omega), rsum_of_le g (by omega)]

theorem rsum_ge_len (f : Nat → Nat) {a b : Nat} (h : ∀ k, a < k → k ≤ b → 0 < f k) :
    b - a ≤ rsum f a b := by
  induction b with
  | zero => simp
  | succ b ih =>
    by_cases hab : a ≤ b
    · rw [rsum_succ f hab]
      have := ih (fun k h1 h2 => h k h1 (by omega))
      have := h (b + 1) (by omega) (by omega)
      omega
    · omega

/-- the interpolation of the contract, `(lw·A + rw·B)/(lw+rw)` with `lw = b − q`, `rw = q − a`,
    between accumulators that grow by `x` per round (`B = A + (b−a)·x`) is EXACTLY the
    accumulator at round `q` — no rounding is lost -/
theorem interp_kernel (A x a q b : Nat) (h1 : a < q) (h2 : q < b) :
    ((b - q) * A + (q - a) * (A + (b - a) * x)) / ((b - q) + (q - a)) = A + (q - a) * x := by
  obtain ⟨u, rfl⟩ := Nat.exists_eq_add_of_lt h1
  obtain ⟨v, rfl⟩ := Nat.exists_eq_add_of_lt h2
  have e1 : a + u + 1 + v + 1 - (a + u + 1) = v + 1 := by omega
  have e2 : a + u + 1 - a = u + 1 := by omega
  have e3 : a + u + 1 + v + 1 - a = (v + 1) + (u + 1) := by omega
  rw [e1, e2, e3]
  have : (v + 1) * A + (u + 1) * (A + ((v + 1) + (u + 1)) * x)
      = ((v + 1) + (u + 1)) * (A + (u + 1) * x) := by ring
  rw [this, Nat.mul_div_cancel_left _ (by omega)]

end Mx.SafePrice
