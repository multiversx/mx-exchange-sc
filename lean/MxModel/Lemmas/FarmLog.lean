/-
  Farm (dex/farm, farm-with-locked-rewards): what one operation does to the PAID LOG of boosted
  rewards — one entry `(user, week, amount)` per week pool a successful operation paid out of
  (`amount` = growth of the ghost `paidW week`), the user being the operation's claim user
  (original caller / recorded owner / `claimBoostedRewards` user).

  One statement per operation with a claim user `u` (`Booked`, from `Claims`): the clock stands,
  `u`'s progress ends at the current week (or is cleared), nobody else's moves, and for EVERY week
  `paidW' w = paidW w + duePay s u w R_w`.  That the ledger moves only for weeks `W−4 ≤ w < W` not
  before `u`'s stored progress, and only upwards (`OpEff`, `step_eff`), is read off `duePay`.  The log
  itself and the history-level facts are in Lemmas/FarmLogRun.lean.
-/
import MxModel.Lemmas.FarmLogAmt

namespace Mx.Farm

/-- `W1` is free because callers get it from an existential; the clock stands, so it is `W` -/
theorem Touched.trans {s s1 s2 : St} {u W W1 : Nat} (h1 : Touched s s1 u W) (h2 : Touched s1 s2 u W1) :
    Touched s s2 u W := by
  cases h2.week.symm.trans (h1.week_eq.trans h1.week)
  obtain ⟨o1, _, e1⟩ := h1.prog
  obtain ⟨o2, ho2, e2⟩ := h2.prog
  exact ⟨h1.week, h2.epoch.trans h1.epoch, h2.fws.trans h1.fws, o2, ho2, by rw [e2, e1, Weekly.upd_upd]⟩

theorem Touched.quiet_left {s t s' : St} {u W : Nat} (h : Touched t s' u W) (q : Quiet s t) :
    Touched s s' u W :=
  ⟨q.week.symm.trans h.week, h.epoch.trans q.epoch, h.fws.trans q.fws, by rw [← q.w]; exact h.prog⟩

theorem Touched.quiet {s t s' : St} {u W : Nat} (h : Touched s t u W) (q : Quiet t s') : Touched s s' u W :=
  ⟨h.week, q.epoch.trans h.epoch, q.fws.trans h.fws, by rw [q.w]; exact h.prog⟩

/-- what an operation with claim user `u` does to the log, in week `W`: `u` is touched, and the
    boosted ledger of EVERY week grows by exactly what `u` is due for it -/
structure Booked (s s' : St) (u W : Nat) : Prop extends Touched s s' u W where
  paid : AmtEff s s' u

theorem Claims.booked {s s' : St} {u : Nat} (k : Claims s s' u) : ∃ W, Booked s s' u W := by
  have amt := k.amt
  obtain ⟨pre, _, claim, mid, tail⟩ := k
  obtain ⟨W, tc⟩ := claimBoostedYields_touched claim
  have t3 := (tc.quiet_left pre).quiet mid
  refine ⟨W, ?_, amt⟩
  cases tail with
  | none e => exact e ▸ t3
  | uep h =>
    obtain ⟨W9, t9, _⟩ := updateEnergyAndProgress_touched h
    exact t3.trans t9
  | clear h =>
    rcases clearUserEnergyIfNeeded_some h with ⟨_, rfl⟩ | ⟨_, W', _, g, _, hW', _, hg, rfl⟩
    · exact t3
    · rcases Weekly.clearUserEnergy_step hg with rfl | hs
      · exact t3
      · exact t3.trans ⟨hW', rfl, rfl, _, newOf_settled _ W', hs.move.1⟩

/-- what the once-only and window facts of the log read of an operation that touches `u` in week
    `W`: a `Booked` one, or `updateEnergyForUser`, which books nothing -/
structure OpEff (s s' : St) (u W : Nat) : Prop extends Touched s s' u W where
  window : ∀ w, s'.b.paidW w ≠ s.b.paidW w → W ≤ w + 4 ∧ w < W ∧ ∃ p, s.w.progress u = some p ∧ p.week ≤ w
  mono : ∀ w, s.b.paidW w ≤ s'.b.paidW w

theorem Booked.opEff {s s' : St} {u W : Nat} (k : Booked s s' u W) : OpEff s s' u W := by
  refine ⟨k.toTouched, fun w hne => ?_, fun w => Nat.le.intro (k.paid w).symm⟩
  have hd : duePay s u w (rOf (s'.w.totalRewards w)) ≠ 0 := fun h0 => hne (by rw [k.paid w, h0]; rfl)
  obtain ⟨W', p, _, hW', hp, hple, hlt, h4, _⟩ := duePay_pos hd
  cases k.week.symm.trans hW'
  exact ⟨h4, hlt, p, hp, hple⟩

theorem Touched.opEff {s s' : St} {u W : Nat} (k : Touched s s' u W) (hb : s'.b = s.b) : OpEff s s' u W :=
  ⟨k, fun w hne => absurd (by rw [hb]) hne, fun w => by rw [hb]⟩

/-- what one successful operation does to the log: either the boosted ledger and all progress
    entries are untouched, or the operation touches ONE user `u` in the current week `W` (`OpEff`).
    `u` is the operation's claim user `cu` only if the ledger moved: `updateEnergyForUser` touches a
    user and has no claim user -/
def LogEff (s s' : St) (cu : Option Nat) : Prop :=
  (s'.b.paidW = s.b.paidW ∧ s'.w.progress = s.w.progress) ∨
  ∃ u W, OpEff s s' u W ∧ ∀ w, s'.b.paidW w ≠ s.b.paidW w → cu = some u

theorem LogEff.quiet {s s' : St} {cu : Option Nat} (q : Quiet s s') : LogEff s s' cu :=
  Or.inl ⟨q.paidW, by rw [q.w]⟩

theorem step_eff {s s' : St} {op : Op} {o : Out} (h : step s op = some (s', o)) :
    LogEff s s' (claimUser s op) := by
  cases step_fx h with
  | claims hu k =>
    obtain ⟨W, b⟩ := k.booked
    exact Or.inr ⟨_, W, b.opEff, fun _ _ => hu⟩
  | updateEnergy _ h =>
    obtain ⟨W, t, hb⟩ := updateEnergyForUser_touched h
    exact Or.inr ⟨_, W, t.opEff hb, fun w hne => absurd (by rw [hb]) hne⟩
  | quiet _ q => exact LogEff.quiet q
  | setFactors _ e => subst e; exact Or.inl ⟨rfl, rfl⟩
  | collect _ e =>
    subst e
    exact Or.inl ⟨(collectWeeks_spec _ s.b s.undist _).paidW, rfl⟩
  | advance _ _ e => subst e; exact Or.inl ⟨rfl, rfl⟩

end Mx.Farm
