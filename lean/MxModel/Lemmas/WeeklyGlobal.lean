/-
  The global bookkeeping of weekly-rewards-splitting as a multiset of lots (DESIGN.md C10):
  relation between the per-user claim progress entries and the global totals / buckets, and
  its preservation by the weekly shift (`shiftOnce`, `shiftN`, `performWeeklyUpdate`).
-/
import MxModel.Lemmas.OptionDo
import MxModel.Lemmas.WeeklyLot
import MxModel.Lemmas.WeeklySum
import MxModel.Lemmas.WeeklyEnergy

namespace Mx.Weekly

/-- the lot a progress entry stands for in week `W` (an absent entry is an empty lot) -/
def lotAt (o : Option ClaimProgress) (W : Nat) : Lot :=
  match o with
  | some p => ⟨p.energy.getEnergyAmount, p.energy.totalLocked, W - p.week⟩
  | none => ⟨0, 0, W⟩

/-- well-formedness of the progress table w.r.t. the user list and the week `W` -/
structure PRel (prog : Nat → Option ClaimProgress) (users : List Nat) (W : Nat) : Prop where
  nodup : users.Nodup
  mem : ∀ u, prog u ≠ none → u ∈ users
  pos : ∀ u p, prog u = some p → 0 < p.energy.amount ∧ p.week ≤ W

/-- the totals `(tE, tT)` of week `W` and the buckets from `F` on are exactly the lots of the
    progress table, plus `orph` tokens of zero-energy orphan lots in the first bucket -/
structure LRel (prog : Nat → Option ClaimProgress) (users : List Nat) (F : Nat)
    (buckets : Nat → Bucket) (W tE tT orph : Nat) : Prop where
  energy : tE = usum users fun u => (lotAt (prog u) W).contrib
  tokens : tT = usum users (fun u => (lotAt (prog u) W).tok) + orph
  bTok : ∀ d, (buckets (F + d)).tokens =
    usum users (fun u => (lotAt (prog u) W).bTok d) + (if d = 0 then orph else 0)
  bSur : ∀ d, (buckets (F + d)).surplus = usum users (fun u => (lotAt (prog u) W).bSur d)

theorem PRel.mono {prog users W W'} (h : PRel prog users W) (hw : W ≤ W') : PRel prog users W' :=
  ⟨h.nodup, h.mem, fun u p hp => ⟨(h.pos u p hp).1, Nat.le_trans (h.pos u p hp).2 hw⟩⟩

theorem lotAt_succ {prog : Nat → Option ClaimProgress} {users W} (hP : PRel prog users W) (u : Nat) :
    lotAt (prog u) (W + 1) = (lotAt (prog u) W).next := by
  unfold lotAt Lot.next
  cases hp : prog u with
  | none => simp
  | some p =>
    have := (hP.pos u p hp).2
    simp only [Lot.mk.injEq, true_and]
    omega

theorem lotAt_ha {prog : Nat → Option ClaimProgress} {users W} (hP : PRel prog users W) (u : Nat) :
    (lotAt (prog u) W).T = 0 ∨ 0 < (lotAt (prog u) W).a := by
  unfold lotAt
  cases hp : prog u with
  | none => simp
  | some p =>
    have := (hP.pos u p hp).1
    right
    simp only [Energy.getEnergyAmount]
    omega

theorem lotAt_contrib (p : ClaimProgress) (W : Nat) :
    (lotAt (some p) W).contrib = (p.energy.after (W - p.week)).getEnergyAmount := by
  rw [Energy.after_getEnergyAmount, toNat_sub_nat]
  rfl

theorem shiftOnce_spec {g g' : St} {t t' : Totals} (h : shiftOnce g t = some (g', t')) :
    (g.buckets g.firstBucketId).tokens ≤ t.tokens ∧
    g' = { g with buckets := upd g.buckets g.firstBucketId Bucket.empty,
                  firstBucketId := g.firstBucketId + 1 } ∧
    t' = ⟨t.tokens - (g.buckets g.firstBucketId).tokens,
          safeSub t.energy ((t.tokens - (g.buckets g.firstBucketId).tokens) * EPOCHS_IN_WEEK +
            (g.buckets g.firstBucketId).surplus)⟩ := by
  obtain ⟨tk, h1, h⟩ := peel h
  obtain ⟨hle, rfl⟩ := sub?_eq_some.mp h1
  cases h
  exact ⟨hle, rfl, rfl⟩

theorem shiftN_frame : ∀ (n : Nat) {g g' : St} {t t' : Totals}, shiftN n g t = some (g', t') →
    ∃ F b, g' = { g with firstBucketId := F, buckets := b }
  | 0, g, _, _, _, h => by
    cases h
    exact ⟨g.firstBucketId, g.buckets, rfl⟩
  | n + 1, _, _, _, _, h => by
    obtain ⟨⟨g1, t1⟩, h1, h2⟩ := peel h
    obtain ⟨_, rfl, _⟩ := shiftOnce_spec h1
    obtain ⟨F, b, rfl⟩ := shiftN_frame n h2
    exact ⟨F, b, rfl⟩

/-- the totals after one shift: `bt`, `bs` are the first bucket (`b0` live tokens, the orphans,
    surplus `s0`), `k'` the tokens and `c'` the energy that stay.  The `+ 0` is the orphan term of
    `LRel.tokens`, which is 0 after a shift; stated so that the result is the `LRel` field as is. -/
theorem shift_arith {E T bt bs c' k' s0 K b0 orph : Nat} (hE : E = c' + 7 * k' + s0)
    (hT : T = K + orph) (hK : K = k' + b0) (hb : bt = b0 + orph) (hs : bs = s0) :
    E - ((T - bt) * 7 + bs) = c' ∧ T - bt = k' + 0 := by
  subst hE hT hK hb hs
  rw [Nat.add_assoc k', Nat.add_sub_cancel, Nat.mul_comm k', Nat.add_assoc c', Nat.add_sub_cancel]
  exact ⟨rfl, rfl⟩

/-- the final `0`: the orphans sat in the first bucket, which the shift drops -/
theorem shiftOnce_LRel {prog : Nat → Option ClaimProgress} {users : List Nat} {g g' : St}
    {t t' : Totals} {W orph : Nat} (h : shiftOnce g t = some (g', t')) (hP : PRel prog users W)
    (hL : LRel prog users g.firstBucketId g.buckets W t.energy t.tokens orph) :
    LRel prog users g'.firstBucketId g'.buckets (W + 1) t'.energy t'.tokens 0 := by
  obtain ⟨hle, rfl, rfl⟩ := shiftOnce_spec h
  have hb0 := hL.bTok 0
  have hs0 := hL.bSur 0
  rw [Nat.add_zero] at hb0 hs0
  rw [if_pos rfl] at hb0
  -- per-user shift facts, summed
  have htok : usum users (fun u => (lotAt (prog u) W).tok) =
      usum users (fun u => (lotAt (prog u) (W + 1)).tok) +
      usum users (fun u => (lotAt (prog u) W).bTok 0) := by
    rw [← usum_add]
    exact usum_congr (fun u _ => by rw [lotAt_succ hP u]; exact Lot.tok_shift _)
  have hcon : usum users (fun u => (lotAt (prog u) W).contrib) =
      usum users (fun u => (lotAt (prog u) (W + 1)).contrib) +
      7 * usum users (fun u => (lotAt (prog u) (W + 1)).tok) +
      usum users (fun u => (lotAt (prog u) W).bSur 0) := by
    rw [← usum_mul, ← usum_add, ← usum_add]
    exact usum_congr (fun u _ => by
      rw [lotAt_succ hP u]; exact Lot.contrib_shift _ (lotAt_ha hP u))
  have har := shift_arith (hL.energy.trans hcon) hL.tokens htok hb0 hs0
  have hnext : ∀ d, upd g.buckets g.firstBucketId Bucket.empty (g.firstBucketId + 1 + d) =
      g.buckets (g.firstBucketId + (d + 1)) := fun d => by
    rw [Nat.add_assoc, Nat.add_comm 1 d]
    exact upd_other _ _ (by omega)
  refine ⟨har.1, har.2, fun d => ?_, fun d => ?_⟩
  · simp only [hnext]
    rw [hL.bTok (d + 1), if_neg (Nat.succ_ne_zero d), ite_self, Nat.add_zero, Nat.add_zero]
    exact usum_congr (fun u _ => by rw [lotAt_succ hP u]; exact ((Lot.bucket_shift _ d).1).symm)
  · simp only [hnext]
    rw [hL.bSur (d + 1)]
    exact usum_congr (fun u _ => by rw [lotAt_succ hP u]; exact ((Lot.bucket_shift _ d).2).symm)

theorem shiftN_LRel {prog : Nat → Option ClaimProgress} {users : List Nat} :
    ∀ (n : Nat) {g g' : St} {t t' : Totals} {W orph : Nat}, shiftN n g t = some (g', t') →
    PRel prog users W → LRel prog users g.firstBucketId g.buckets W t.energy t.tokens orph →
    ∃ orph', LRel prog users g'.firstBucketId g'.buckets (W + n) t'.energy t'.tokens orph'
  | 0, _, _, _, _, _, orph, h, _, hL => by
    cases h
    exact ⟨orph, hL⟩
  | n + 1, _, _, _, _, W, _, h, hP, hL => by
    obtain ⟨⟨g1, t1⟩, h1, h2⟩ := peel h
    have := shiftN_LRel n h2 (hP.mono (Nat.le_succ W)) (shiftOnce_LRel h1 hP hL)
    rwa [Nat.add_right_comm W 1 n] at this

/-- nothing has ever been recorded -/
structure Pristine (g : St) : Prop where
  lgw : g.lastGlobalUpdateWeek = 0
  noProgress : ∀ u, g.progress u = none
  noUsers : g.users = []
  energy : ∀ w, g.totalEnergy w = 0
  locked : ∀ w, g.totalLocked w = 0
  buckets : ∀ id, g.buckets id = Bucket.empty

/-- the global structure matches a progress table `prog` (which is `g.progress` between
    transactions, and the table with the caller's entry already replaced inside `claim_multi`) -/
structure GRel (prog : Nat → Option ClaimProgress) (users : List Nat) (g : St) (orph : Nat) : Prop where
  weekPos : 1 ≤ g.lastGlobalUpdateWeek
  p : PRel prog users g.lastGlobalUpdateWeek
  l : LRel prog users g.firstBucketId g.buckets g.lastGlobalUpdateWeek
        (g.totalEnergy g.lastGlobalUpdateWeek) (g.totalLocked g.lastGlobalUpdateWeek) orph
  fut : ∀ w, g.lastGlobalUpdateWeek < w → g.totalEnergy w = 0 ∧ g.totalLocked w = 0

/-- the global energy invariant: either nothing was ever recorded, or the totals of the last
    updated week and all buckets are exactly the lots of the recorded claim progress entries. -/
def GInv (g : St) : Prop := Pristine g ∨ ∃ orph, GRel g.progress g.users g orph

theorem Pristine.init : Pristine St.init :=
  ⟨rfl, fun _ => rfl, rfl, fun _ => rfl, fun _ => rfl, fun _ => rfl⟩

theorem LRel.of_empty {users : List Nat} {F : Nat} {buckets : Nat → Bucket} {W : Nat}
    (hb : ∀ id, buckets id = Bucket.empty) :
    LRel (fun _ => none) users F buckets W 0 0 0 := by
  have hz : ∀ (f : Lot → Nat), f ⟨0, 0, W⟩ = 0 → usum users (fun _ => f (lotAt none W)) = 0 :=
    fun f hf => usum_zero (fun _ _ => by simp [lotAt, hf])
  refine ⟨?_, ?_, ?_, ?_⟩
  · exact (hz Lot.contrib (by simp [Lot.contrib])).symm
  · rw [hz Lot.tok (by simp [Lot.tok, Lot.Live])]
  · intro d
    rw [hb, hz (fun l => l.bTok d) (by simp [Lot.bTok, Lot.Live])]
    simp [Bucket.empty]
  · intro d
    rw [hb, hz (fun l => l.bSur d) (by simp [Lot.bSur, Lot.Live])]
    simp [Bucket.empty]

theorem performWeeklyUpdate_cases {g g1 : St} {W : Nat} (h : performWeeklyUpdate g W = some g1) :
    (g.lastGlobalUpdateWeek = W ∧ g1 = g) ∨
    (g.lastGlobalUpdateWeek = 0 ∧ g1 = { g with lastGlobalUpdateWeek := W }) ∨
    (g.lastGlobalUpdateWeek ≠ 0 ∧ g.lastGlobalUpdateWeek < W ∧ ∃ g2 t2,
      shiftN (W - g.lastGlobalUpdateWeek)
        { g with lastGlobalUpdateWeek := W,
                 totalLocked := upd g.totalLocked g.lastGlobalUpdateWeek 0 }
        ⟨g.totalLocked g.lastGlobalUpdateWeek, g.totalEnergy g.lastGlobalUpdateWeek⟩ =
          some (g2, t2) ∧
      g1 = { g with
        lastGlobalUpdateWeek := W, firstBucketId := g2.firstBucketId, buckets := g2.buckets,
        totalLocked := upd (upd g.totalLocked g.lastGlobalUpdateWeek 0) W t2.tokens,
        totalEnergy :=
          if USER_MAX_CLAIM_WEEKS + 1 < W then
            upd (upd g.totalEnergy W t2.energy) (W - USER_MAX_CLAIM_WEEKS - 1) 0
          else upd g.totalEnergy W t2.energy,
        totalRewards :=
          if USER_MAX_CLAIM_WEEKS + 1 < W then
            upd g.totalRewards (W - USER_MAX_CLAIM_WEEKS - 1) []
          else g.totalRewards }) := by
  unfold performWeeklyUpdate at h
  by_cases hsame : g.lastGlobalUpdateWeek = W
  · rw [if_pos hsame] at h
    cases h
    exact Or.inl ⟨hsame, rfl⟩
  rw [if_neg hsame] at h
  by_cases hzero : g.lastGlobalUpdateWeek = 0
  · rw [if_pos hzero] at h
    cases h
    exact Or.inr (Or.inl ⟨hzero, rfl⟩)
  rw [if_neg hzero] at h
  obtain ⟨_, hle, h⟩ := peel h
  obtain ⟨⟨g2, t2⟩, hs, h⟩ := peel h
  have hle := (req_eq_some _).mp hle
  obtain ⟨F, b, rfl⟩ := shiftN_frame _ hs
  refine Or.inr (Or.inr ⟨hzero, Nat.lt_of_le_of_ne hle hsame, _, t2, hs, ?_⟩)
  by_cases hbig : USER_MAX_CLAIM_WEEKS + 1 < W
  · rw [if_pos hbig] at h
    cases h
    simp only [if_pos hbig]
  · rw [if_neg hbig] at h
    cases h
    simp only [if_neg hbig]

theorem clearedEnergy_same {E : Nat → Nat} {W x : Nat} :
    (if USER_MAX_CLAIM_WEEKS + 1 < W then upd (upd E W x) (W - USER_MAX_CLAIM_WEEKS - 1) 0
      else upd E W x) W = x := by
  split
  · rename_i hbig
    have hne : W ≠ W - USER_MAX_CLAIM_WEEKS - 1 := by
      simp only [USER_MAX_CLAIM_WEEKS] at hbig ⊢
      omega
    rw [upd_other _ _ hne, upd_same]
  · exact upd_same _ _ _

theorem clearedEnergy_other {E : Nat → Nat} {W x w : Nat} (hw : w ≠ W) :
    (if USER_MAX_CLAIM_WEEKS + 1 < W then upd (upd E W x) (W - USER_MAX_CLAIM_WEEKS - 1) 0
      else upd E W x) w = E w ∨
    ((if USER_MAX_CLAIM_WEEKS + 1 < W then upd (upd E W x) (W - USER_MAX_CLAIM_WEEKS - 1) 0
      else upd E W x) w = 0 ∧ w + 5 = W) := by
  split
  · rename_i hbig
    simp only [USER_MAX_CLAIM_WEEKS] at hbig ⊢
    by_cases h5 : w = W - 4 - 1
    · right
      exact ⟨by rw [h5, upd_same], by omega⟩
    · left
      rw [upd_other _ _ h5, upd_other _ _ hw]
  · left
    exact upd_other _ _ hw

theorem performWeeklyUpdate_frame {g g1 : St} {W : Nat} (h : performWeeklyUpdate g W = some g1) :
    g1.progress = g.progress ∧ g1.users = g.users ∧ g1.lastGlobalUpdateWeek = W ∧
    g.lastGlobalUpdateWeek ≤ W ∧
    ∀ w, w ≠ W → g1.totalEnergy w = g.totalEnergy w ∨ (g1.totalEnergy w = 0 ∧ w + 5 = W) := by
  rcases performWeeklyUpdate_cases h with ⟨hsame, rfl⟩ | ⟨hzero, rfl⟩ | ⟨_, hlt, g2, t2, _, rfl⟩
  · exact ⟨rfl, rfl, hsame, Nat.le_of_eq hsame, fun _ _ => Or.inl rfl⟩
  · exact ⟨rfl, rfl, rfl, hzero ▸ Nat.zero_le W, fun _ _ => Or.inl rfl⟩
  · exact ⟨rfl, rfl, rfl, Nat.le_of_lt hlt, fun _ hw => clearedEnergy_other hw⟩

/-- `hW`: weeks start at 1 (`weekOf`) -/
theorem performWeeklyUpdate_GRel {g g1 : St} {W : Nat} (hW : 1 ≤ W)
    (hI : GInv g) (h : performWeeklyUpdate g W = some g1) :
    (∃ orph, GRel g.progress g.users g1 orph) ∧ g1.lastGlobalUpdateWeek = W ∧
    g1.progress = g.progress ∧ g1.users = g.users := by
  rcases performWeeklyUpdate_cases h with ⟨hsame, rfl⟩ | ⟨hzero, rfl⟩ | ⟨hnz, hlt, g2, t2, hs, rfl⟩
  · rcases hI with hp | hr
    · rw [hp.lgw] at hsame; omega
    · exact ⟨hr, hsame, rfl, rfl⟩
  · rcases hI with hp | ⟨o, hr⟩
    · refine ⟨⟨0, hW, ⟨?_, ?_, ?_⟩, ?_, ?_⟩, rfl, rfl, rfl⟩
      · rw [hp.noUsers]; exact List.nodup_nil
      · intro u hu; exact absurd (hp.noProgress u) hu
      · intro u p hu; rw [hp.noProgress u] at hu; cases hu
      · simp only [hp.energy, hp.locked]
        rw [funext hp.noProgress]
        exact LRel.of_empty hp.buckets
      · intro w _; exact ⟨hp.energy w, hp.locked w⟩
    · have := hr.weekPos; omega
  · rcases hI with hp | ⟨o, hr⟩
    · exact absurd hp.lgw hnz
    obtain ⟨o', hL⟩ := shiftN_LRel _ hs hr.p hr.l
    rw [Nat.add_sub_cancel' (Nat.le_of_lt hlt)] at hL
    refine ⟨⟨o', hW, hr.p.mono (Nat.le_of_lt hlt), ?_, ?_⟩, rfl, rfl, rfl⟩
    · simp only [clearedEnergy_same, upd_same]
      exact hL
    · intro w hw
      have h2 : w ≠ W := Nat.ne_of_gt hw
      have h3 : w ≠ g.lastGlobalUpdateWeek := by simp only at hw; omega
      have hf := hr.fut w (by simp only at hw; omega)
      simp only [upd_other _ _ h2, upd_other _ _ h3]
      rcases clearedEnergy_other (E := g.totalEnergy) (x := t2.energy) h2 with e | ⟨e, _⟩
      · exact ⟨e.trans hf.1, hf.2⟩
      · exact ⟨e, hf.2⟩

end Mx.Weekly
