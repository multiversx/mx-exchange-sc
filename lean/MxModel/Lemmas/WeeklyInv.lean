/-
  The entry points of the weekly-rewards-splitting module — `update_energy_and_progress`,
  `updateEnergyForUser`, `clear_user_energy` (each a `Touch`, by an `iff` of its own) and `claim_multi`
  for any reward hook that leaves the module's bookkeeping alone — have one trace in common,
  `UserStep`, and `GInv` (the global energy invariant in its lots formulation) is kept along it.
-/
import MxModel.Lemmas.WeeklyClaim

namespace Mx.Weekly

theorem GRel.frame {prog : Nat → Option ClaimProgress} {users : List Nat} {g g' : St} {o : Nat}
    (h : GRel prog users g o) (f : FrameR g' g) : GRel prog users g' o := by
  refine ⟨by rw [f.lgw]; exact h.weekPos, by rw [f.lgw]; exact h.p, ?_, ?_⟩
  · rw [f.lgw, f.fb, f.buckets, f.totalEnergy, f.totalLocked]; exact h.l
  · intro w hw; rw [f.lgw] at hw; rw [f.totalEnergy, f.totalLocked]; exact h.fut w hw

theorem GInv.init : GInv St.init := Or.inl Pristine.init

theorem GInv.nodup {g : St} (hI : GInv g) : g.users.Nodup := by
  rcases hI with hp | ⟨o, hr⟩
  · rw [hp.noUsers]; exact List.nodup_nil
  · exact hr.p.nodup

theorem GInv.mem_users {g : St} (hI : GInv g) {u : Nat} {p : ClaimProgress} (h : g.progress u = some p) :
    u ∈ g.users := by
  rcases hI with hp | ⟨o, hr⟩
  · rw [hp.noProgress u] at h; cases h
  · exact hr.p.mem u (by rw [h]; exact Option.some_ne_none p)

/-- an entry point without reward hook: the global update for `user` with current energy `cur`, then
    the progress write -/
def Touch (g g' : St) (user W : Nat) (cur : Energy) : Prop :=
  ∃ g1, updateUserEnergyForCurrentWeek g W cur (g.progress user) = some g1 ∧
    g' = setProgress g1 user (newOf cur W)

theorem updateEnergyAndProgress_iff {g g' : St} {user W : Nat} {cur : Energy} :
    updateEnergyAndProgress g user W cur = some g' ↔ Touch g g' user W cur := by
  constructor
  · intro h
    obtain ⟨g1, h1, h⟩ := peel h
    exact ⟨g1, h1, (Option.some.inj h).symm⟩
  · rintro ⟨g1, h1, rfl⟩
    simp only [updateEnergyAndProgress, h1, Option.bind_eq_bind, Option.bind_some]
    rfl

theorem updateEnergyForUser_iff {g g' : St} {user W : Nat} {cur : Energy} :
    updateEnergyForUser g user W cur = some g' ↔
      (∀ p, g.progress user = some p → p.week = W) ∧ Touch g g' user W cur := by
  rw [← updateEnergyAndProgress_iff]
  unfold updateEnergyForUser
  cases g.progress user with
  | none => simp
  | some p =>
    by_cases hp : p.week = W
    · simp [req, hp]
    · simp [req, hp]

theorem clearUserEnergy_iff {g g' : St} {user W epoch remaining minFarm : Nat} :
    clearUserEnergy g user W epoch remaining minFarm = some g' ↔
      (minFarm ≤ remaining ∧ g' = g) ∨
      (remaining < minFarm ∧ Touch g g' user W (Energy.newZero epoch)) := by
  unfold clearUserEnergy
  by_cases h : minFarm ≤ remaining
  · simp [h, eq_comm]
  · rw [if_neg h]
    constructor
    · intro h'
      obtain ⟨g1, h1, h'⟩ := peel h'
      exact Or.inr ⟨Nat.lt_of_not_le h, g1, h1, (Option.some.inj h').symm⟩
    · rintro (⟨h', _⟩ | ⟨_, g1, h1, rfl⟩)
      · exact absurd h' h
      · simp only [h1, Option.bind_eq_bind, Option.bind_some]
        rfl

/-- what every entry point does to the module state: the global update for `user` with current
    energy `cur`, then steps that touch `totalRewards` only, then the progress write -/
def UserStep (g g' : St) (user W : Nat) (cur : Energy) : Prop :=
  ∃ g1 g2, updateUserEnergyForCurrentWeek g W cur (g.progress user) = some g1 ∧ FrameR g2 g1 ∧
    g' = setProgress g2 user (newOf cur W)

theorem Touch.userStep {g g' : St} {user W : Nat} {cur : Energy} (h : Touch g g' user W cur) :
    UserStep g g' user W cur := by
  obtain ⟨g1, h1, e⟩ := h
  exact ⟨g1, g1, h1, FrameR.refl g1, e⟩

theorem updateEnergyAndProgress_step {g g' : St} {user W : Nat} {cur : Energy}
    (h : updateEnergyAndProgress g user W cur = some g') : UserStep g g' user W cur :=
  (updateEnergyAndProgress_iff.mp h).userStep

theorem updateEnergyForUser_step {g g' : St} {user W : Nat} {cur : Energy}
    (h : updateEnergyForUser g user W cur = some g') : UserStep g g' user W cur :=
  (updateEnergyForUser_iff.mp h).2.userStep

theorem clearUserEnergy_step {g g' : St} {user W epoch remaining minFarm : Nat}
    (h : clearUserEnergy g user W epoch remaining minFarm = some g') :
    g' = g ∨ UserStep g g' user W (Energy.newZero epoch) :=
  (clearUserEnergy_iff.mp h).imp And.right fun ht => ht.2.userStep

theorem claimMulti_step {σ : Type} {rw : RewardFn σ} (hrw : RwFrame rw) {g g' : St} {c c' : σ}
    {user W : Nat} {cur : Energy} {r : List (Tok × Nat)}
    (h : claimMulti rw g c user W cur = some (g', c', r)) : UserStep g g' user W cur := by
  obtain ⟨g1, g2, h1, hrun, e⟩ := (claimMulti_run hrw).mp h
  exact ⟨g1, g2, h1, hrun.frame hrw, e⟩

theorem UserStep.ginv {g g' : St} {user W : Nat} {cur : Energy} (hW : 1 ≤ W) (hI : GInv g)
    (h : UserStep g g' user W cur) : GInv g' := by
  obtain ⟨g1, g2, h1, fr, rfl⟩ := h
  obtain ⟨⟨o, hR⟩, _, hp, hu⟩ := updateUser_GRel hW hI h1
  have hR := hR.frame fr
  rw [← fr.progress.trans hp, ← fr.users.trans hu] at hR
  exact Or.inr ⟨o, hR.weekPos, hR.p, hR.l, hR.fut⟩

theorem UserStep.lgw {g g' : St} {user W : Nat} {cur : Energy} (h : UserStep g g' user W cur) :
    g'.lastGlobalUpdateWeek = W := by
  obtain ⟨g1, g2, h1, fr, rfl⟩ := h
  exact fr.lgw.trans (updateUser_weekStep h1).lgw

theorem UserStep.move {g g' : St} {u W : Nat} {cur : Energy} (h : UserStep g g' u W cur) :
    g'.progress = upd g.progress u (newOf cur W) ∧ g'.users = usersAfter g.users u (newOf cur W) := by
  obtain ⟨g1, g2, h1, fr, rfl⟩ := h
  have st := updateUser_weekStep h1
  exact ⟨by rw [← st.progress, ← fr.progress]; rfl, by rw [← st.users, ← fr.users]; rfl⟩

theorem UserStep.progress {g g' : St} {user W : Nat} {cur : Energy}
    (h : UserStep g g' user W cur) :
    g'.progress user = newOf cur W ∧ ∀ u, u ≠ user → g'.progress u = g.progress u := by
  rw [h.move.1]
  exact ⟨upd_same _ _ _, fun u hu => upd_other _ _ hu⟩

theorem claimMulti_GInv {σ : Type} {rw : RewardFn σ} (hrw : RwFrame rw) {g g' : St} {c c' : σ}
    {user W : Nat} {cur : Energy} {r : List (Tok × Nat)} (hW : 1 ≤ W) (hI : GInv g)
    (h : claimMulti rw g c user W cur = some (g', c', r)) : GInv g' :=
  (claimMulti_step hrw h).ginv hW hI

theorem claimMulti_progress {σ : Type} {rw : RewardFn σ} (hrw : RwFrame rw) {g g' : St} {c c' : σ}
    {user W : Nat} {cur : Energy} {r : List (Tok × Nat)}
    (h : claimMulti rw g c user W cur = some (g', c', r)) :
    g'.progress user = newOf cur W ∧ ∀ u, u ≠ user → g'.progress u = g.progress u :=
  (claimMulti_step hrw h).progress

/-- `hw`: week `W − 5` is the one whose `totalRewardsForWeek` the weekly update clears -/
theorem Touch.totalRewards {g g' : St} {u W : Nat} {cur : Energy} (h : Touch g g' u W cur)
    (w : Nat) (hw : w + 5 ≠ W) : g'.totalRewards w = g.totalRewards w := by
  obtain ⟨g1, h1, rfl⟩ := h
  exact ((updateUser_weekStep h1).rewards w).resolve_right fun e => hw e.2

theorem claimMulti_same_week {σ : Type} {rw : RewardFn σ} {g g' : St} {c c' : σ}
    {u W : Nat} {cur : Energy} {r : List (Tok × Nat)}
    (h : claimMulti rw g c u W cur = some (g', c', r))
    (hp : ∀ p, g.progress u = some p → p.week = W) : r = [] ∧ c' = c := by
  obtain ⟨g1, a, _, _, ha, _, hc', hr⟩ := claimMulti_spec h
  have hwk : (startProgress (g.progress u) cur W).week = W := by
    cases hq : g.progress u with
    | none => rfl
    | some p => exact hp p hq
  have hlen : loopLen (startProgress (g.progress u) cur W) W = 0 := by
    unfold loopLen
    rw [hwk, Nat.sub_self, Nat.zero_min]
  rw [hlen] at ha
  simp only [claimLoop, Option.some.injEq] at ha
  subst ha
  exact ⟨hr, hc'⟩

theorem claimMulti_progress_week {σ : Type} {rw : RewardFn σ} (hrw : RwFrame rw)
    {g g' : St} {c c' : σ} {u W : Nat} {cur : Energy} {r : List (Tok × Nat)}
    (h : claimMulti rw g c u W cur = some (g', c', r)) :
    ∀ p, g'.progress u = some p → p.week = W := by
  intro p hp
  rw [(claimMulti_progress hrw h).1] at hp
  exact newOf_week p hp

end Mx.Weekly
