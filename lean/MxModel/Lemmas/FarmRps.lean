/-
  The reward index of the farm model (C06): which operations move `reward_per_share` /
  `last_reward_block_nonce`, by how much, and under which configuration.
  The emission view `rv` of every endpoint's result is read off its closed form (FarmEff.lean).
-/
import MxModel.Lemmas.FarmEff

namespace Mx.Farm

/-- the emission view: index, supply, schedule and configuration -/
structure RV where
  rps : Nat
  supply : Nat
  lastBlock : Nat
  block : Nat
  produce : Bool
  perBlock : Nat
  pct : Nat
  dsc : Nat
  deriving DecidableEq

def rv (s : St) : RV := ⟨s.rps, s.supply, s.lastBlock, s.block, s.produce, s.perBlock, s.pct, s.dsc⟩

theorem minted_congr {s t : St} (h : rv s = rv t) : minted s = minted t := by
  simp only [rv, RV.mk.injEq] at h
  obtain ⟨_, _, h3, h4, h5, h6, _, _⟩ := h
  simp only [minted, h3, h4, h5, h6]

theorem cutOf_congr {s t : St} (h : rv s = rv t) : cutOf s = cutOf t := by
  have hm := minted_congr h
  simp only [rv, RV.mk.injEq] at h
  obtain ⟨_, _, _, _, _, _, h7, _⟩ := h
  simp only [cutOf, hm, h7]

theorem rpsIncr_congr {s t : St} (h : rv s = rv t) : rpsIncr s = rpsIncr t := by
  have hm := minted_congr h
  have hc := cutOf_congr h
  simp only [rv, RV.mk.injEq] at h
  obtain ⟨_, h2, _, _, _, _, _, h8⟩ := h
  simp only [rpsIncr, baseShare, hm, hc, h2, h8]

/-- what a settlement does to the view -/
def settledRV (s : St) : RV :=
  ⟨s.rps + rpsIncr s, s.supply, (if s.lastBlock < s.block then s.block else s.lastBlock), s.block,
   s.produce, s.perBlock, s.pct, s.dsc⟩

theorem settle_rv {s s' : St} (h : settle s = some s') : rv s' = settledRV s := by
  obtain ⟨_, rfl⟩ := settle_eq h; rfl

theorem enterCore_rv {s s' : St} {caller orig tokenTo amt : Nat} {extra : List (Nat × Nat)} {o : Out}
    (h : enterCore s caller orig tokenTo amt extra = some (s', o)) :
    rv s' = { settledRV s with supply := s.supply + amt } := by
  obtain ⟨_, _, _, _, _, _, _, x⟩ := enterCore_effect h
  obtain ⟨_, rfl⟩ := updateEnergyAndProgress_spec x.tail
  rfl

theorem enterCore_created {s s' : St} {caller orig dst amt : Nat} {extra : List (Nat × Nat)} {o : Out}
    (h : enterCore s caller orig dst amt extra = some (s', o)) :
    ∃ a, mergeParts s { rps := s'.rps, epoch := s.epoch, comp := 0, amt := amt, owner := orig } extra = some a ∧
      s'.attrs o.nonce = some a ∧ o.amt = a.amt := by
  obtain ⟨_, _, _, _, merged, _, _, x⟩ := enterCore_effect h
  obtain rfl := x.out
  obtain ⟨_, rfl⟩ := updateEnergyAndProgress_spec x.tail
  exact ⟨merged, x.merge, Weekly.upd_same _ _ _, rfl⟩

theorem claimCore_rv {s s' : St} {caller orig : Nat} {pays : List (Nat × Nat)} {cmp : Bool} {o : Out}
    (h : claimCore s caller orig pays cmp = some (s', o)) :
    ∃ n1 a1 att, pays.head? = some (n1, a1) ∧ s.attrs n1 = some att ∧
      o.base = baseReward s.dsc (s.rps + rpsIncr s) a1 att.rps ∧ o.rew = o.base + o.boosted ∧
      rv s' = { settledRV s with supply := if cmp then s.supply + o.rew else s.supply } := by
  obtain ⟨n1, a1, at1, _, _, _, _, _, _, _, _, _, x⟩ := claimCore_effect h
  obtain rfl := x.out
  obtain rfl := x.base
  obtain rfl := x.rew
  obtain ⟨-, _, _, rfl⟩ := claimTail_flat x.tail
  exact ⟨n1, a1, at1, x.head, x.attr, rfl, rfl, rfl⟩

theorem exitFarm_rv {s s' : St} {caller : Nat} {opt : Option Nat} {n a : Nat} {o : Out}
    (h : exitFarm s caller opt n a = some (s', o)) :
    ∃ att, s.attrs n = some att ∧ a ≤ s.supply ∧
      o.base = baseReward s.dsc (s.rps + rpsIncr s) a att.rps ∧ o.rew = o.base + o.boosted ∧
      rv s' = { settledRV s with supply := s.supply - a } := by
  obtain ⟨_, att, _, _, _, _, _, _, _, x⟩ := exitFarm_effect h
  obtain rfl := x.out
  obtain rfl := x.base
  obtain ⟨_, rfl⟩ := clearUserEnergyIfNeeded_spec x.tail
  exact ⟨att, x.attr, x.supply, rfl, rfl, rfl⟩

theorem mergeFarmTokens_rv {s s' : St} {caller : Nat} {opt : Option Nat} {pays : List (Nat × Nat)} {o : Out}
    (h : mergeFarmTokens s caller opt pays = some (s', o)) : rv s' = rv s := by
  obtain ⟨_, _, _, _, _, _, _, x⟩ := mergeFarmTokens_effect h
  obtain rfl := x.state
  rfl

theorem claimBoostedRewards_rv {s s' : St} {caller : Nat} {optUser : Option Nat} {o : Out}
    (h : claimBoostedRewards s caller optUser = some (s', o)) : rv s' = settledRV s := by
  obtain ⟨_, _, _, _, x⟩ := claimBoostedRewards_effect h
  obtain rfl := x.state
  rfl

/-- what an operation can do to the index and the last reward block: nothing, exactly one settlement,
    or (`startProduce`) the block alone moves to the current one -/
inductive RpsMove (s s' : St) : Prop
  | same (h1 : s'.rps = s.rps) (h2 : s'.lastBlock = s.lastBlock)
  | settled (h1 : s'.rps = s.rps + rpsIncr s)
      (h2 : s'.lastBlock = if s.lastBlock < s.block then s.block else s.lastBlock)
  | started (h1 : s'.rps = s.rps) (h2 : s'.lastBlock = s.block)

theorem RpsMove.of_rv {s s' : St} (h : rv s' = rv s) : RpsMove s s' :=
  .same (congrArg RV.rps h) (congrArg RV.lastBlock h)

/-- `v` is `settledRV s` up to the supply, which the endpoints move as well -/
theorem RpsMove.of_settled {s s' : St} {v : RV} (h : rv s' = v) (h1 : v.rps = s.rps + rpsIncr s)
    (h2 : v.lastBlock = if s.lastBlock < s.block then s.block else s.lastBlock) : RpsMove s s' :=
  .settled ((congrArg RV.rps h).trans h1) ((congrArg RV.lastBlock h).trans h2)

theorem step_rpsMove {s s' : St} {op : Op} {o : Out} (h : step s op = some (s', o)) : RpsMove s s' := by
  have hs := step_step h
  clear h
  cases hs with
  | enter _ _ h => exact .of_settled (enterCore_rv h) rfl rfl
  | claim _ _ _ h => obtain ⟨_, _, _, _, _, _, _, e⟩ := claimCore_rv h; exact .of_settled e rfl rfl
  | exit _ _ h => obtain ⟨_, _, _, _, _, e⟩ := exitFarm_rv h; exact .of_settled e rfl rfl
  | merge _ _ h => exact .of_rv (mergeFarmTokens_rv h)
  | claimBoosted _ _ h => exact .of_settled (claimBoostedRewards_rv h) rfl rfl
  | updateEnergy _ _ h => obtain ⟨_, rfl⟩ := updateEnergyForUser_spec h; exact .of_rv rfl
  | transfer _ _ _ _ h => obtain ⟨_, _, _, _, _, _, rfl⟩ := transfer_some h; exact .of_rv rfl
  | settled _ _ h _ e => subst e; obtain ⟨_, rfl⟩ := settle_eq h; exact .settled rfl rfl
  | startProduce _ _ _ _ e => subst e; exact .started rfl rfl
  | setFactors _ _ _ _ _ _ e => subst e; exact .of_rv rfl
  | collect _ _ _ _ e => subst e; split <;> exact .of_rv rfl
  | advance _ _ _ _ e => subst e; exact .same rfl rfl
  | config _ _ e _ => subst e; exact .of_rv rfl

end Mx.Farm
