/-
  Arithmetic of the farm model (Core/Farm.lean), and the list and ring helpers it is done on (these read
  the attribute table or the boosted storage, no other part of the state): the rounding of `merge_with`
  (index average rounded UP, so a merged position is never entitled to more than its parts) and
  of `into_part` (rule of three rounded DOWN, so splitting never creates compounded reward), the
  amount of a merged token (the sum of what went in), the base reward formula, the 5-slot ring
  of boosted-yields factors (`BoostedYieldsConfig::update`, `get_factors_for_week`) on top of
  Lemmas/FactorRing.lean, and the loop of `collect_undistributed_boosted_rewards`.
-/
import MxModel.Lemmas.FarmSpec
import MxModel.Lemmas.FactorRing
import MxModel.Lemmas.WAvg
import Mathlib.Tactic.Ring

namespace Mx.Farm

open Mx.Weekly (upd upd_same upd_other)

theorem wavgUp_le_max (v1 w1 v2 w2 R : Nat) (hw : w1 + w2 ≠ 0) (h1 : v1 ≤ R) (h2 : v2 ≤ R) :
    weightedAvgRoundUp v1 w1 v2 w2 ≤ R := by
  have hpos : 0 < w1 + w2 := Nat.pos_of_ne_zero hw
  obtain ⟨_, hb⟩ := weightedAvgRoundUp_bounds v1 w1 v2 w2 hpos
  have e1 : v1 * w1 ≤ R * w1 := Nat.mul_le_mul_right _ h1
  have e2 : v2 * w2 ≤ R * w2 := Nat.mul_le_mul_right _ h2
  have hlt : weightedAvgRoundUp v1 w1 v2 w2 * (w1 + w2) < (R + 1) * (w1 + w2) := by
    have : (R + 1) * (w1 + w2) = R * w1 + R * w2 + (w1 + w2) := by ring
    omega
  exact Nat.lt_succ_iff.mp (Nat.lt_of_mul_lt_mul_right hlt)

theorem wavgUp_ge_min (v1 w1 v2 w2 : Nat) (hw : w1 + w2 ≠ 0) :
    min v1 v2 ≤ weightedAvgRoundUp v1 w1 v2 w2 := by
  have hpos : 0 < w1 + w2 := Nat.pos_of_ne_zero hw
  obtain ⟨ha, _⟩ := weightedAvgRoundUp_bounds v1 w1 v2 w2 hpos
  have e1 : min v1 v2 * w1 ≤ v1 * w1 := Nat.mul_le_mul_right _ (Nat.min_le_left _ _)
  have e2 : min v1 v2 * w2 ≤ v2 * w2 := Nat.mul_le_mul_right _ (Nat.min_le_right _ _)
  have hle : min v1 v2 * (w1 + w2) ≤ weightedAvgRoundUp v1 w1 v2 w2 * (w1 + w2) := by
    have : min v1 v2 * (w1 + w2) = min v1 v2 * w1 + min v1 v2 * w2 := by ring
    omega
  exact Nat.le_of_mul_le_mul_right hle hpos

theorem merge_index_ceil {a b m : Attr} (h : a.mergeWith b = some m) :
    a.rps * a.amt + b.rps * b.amt ≤ m.rps * (a.amt + b.amt) ∧
    m.rps * (a.amt + b.amt) < a.rps * a.amt + b.rps * b.amt + (a.amt + b.amt) := by
  obtain ⟨hne, _, _, _, _, hr⟩ := mergeWith_spec h
  rw [hr]
  exact weightedAvgRoundUp_bounds _ _ _ _ (Nat.pos_of_ne_zero hne)

/-- `R - rps` is the truncated subtraction of `calculate_rewards` (nothing for a token whose index is
    not below `R`), so the inequality holds for every current index `R`, also one below a part's index -/
theorem merge_no_gain {a b m : Attr} (h : a.mergeWith b = some m) (R : Nat) :
    m.amt * (R - m.rps) ≤ a.amt * (R - a.rps) + b.amt * (R - b.rps) := by
  obtain ⟨hne, hamt, _, _, _, hr⟩ := mergeWith_spec h
  rw [hamt, hr]
  exact merge_no_gain_arith _ _ _ _ R (Nat.pos_of_ne_zero hne)

theorem intoPart_full (a : Attr) : a.intoPart a.amt = some a := by
  simp [Attr.intoPart]

/-- the full-amount branch of `into_part` agrees with the rule of three of the other branch -/
theorem intoPart_comp_eq {a p : Attr} {x : Nat} (h : a.intoPart x = some p) (ha : a.amt ≠ 0) :
    p.comp = a.comp * x / a.amt := by
  obtain ⟨_, _, _, _, hc, _⟩ := intoPart_spec h
  rw [hc]
  split
  · next hx => rw [hx, Nat.mul_div_cancel _ (Nat.pos_of_ne_zero ha)]
  · rfl

theorem intoPart_comp_le {a p : Attr} {x : Nat} (h : a.intoPart x = some p) (hx : x ≤ a.amt) :
    p.comp ≤ a.comp := by
  obtain ⟨_, _, _, _, hc, hz⟩ := intoPart_spec h
  rw [hc]
  split
  · exact Nat.le_refl _
  · next hne =>
    have hpos : 0 < a.amt := Nat.pos_of_ne_zero (hz hne)
    calc a.comp * x / a.amt ≤ a.comp * a.amt / a.amt :=
          Nat.div_le_div_right (Nat.mul_le_mul_left _ hx)
      _ = a.comp := Nat.mul_div_cancel _ hpos

theorem split_compounded_floor {a p q : Attr} {x y : Nat} (hp : a.intoPart x = some p)
    (hq : a.intoPart y = some q) (hxy : x + y ≤ a.amt) (hx : x ≠ 0) (_hy : y ≠ 0) :
    p.comp + q.comp ≤ a.comp := by
  have ha : a.amt ≠ 0 := fun h0 => hx (by omega)
  have hpos : 0 < a.amt := Nat.pos_of_ne_zero ha
  rw [intoPart_comp_eq hp ha, intoPart_comp_eq hq ha]
  have e1 := Nat.div_mul_le_self (a.comp * x) a.amt
  have e2 := Nat.div_mul_le_self (a.comp * y) a.amt
  have e3 : a.comp * (x + y) ≤ a.comp * a.amt := Nat.mul_le_mul_left _ hxy
  have e4 : a.comp * (x + y) = a.comp * x + a.comp * y := by ring
  have e5 : (a.comp * x / a.amt + a.comp * y / a.amt) * a.amt =
      a.comp * x / a.amt * a.amt + a.comp * y / a.amt * a.amt := by ring
  have : (a.comp * x / a.amt + a.comp * y / a.amt) * a.amt ≤ a.comp * a.amt := by omega
  exact Nat.le_of_mul_le_mul_right this hpos

theorem split_compounded_floor_list {a : Attr} {xs : List Nat} {ps : List Attr}
    (h : List.Forall₂ (fun x p => a.intoPart x = some p) xs ps) (hnz : ∀ x ∈ xs, x ≠ 0)
    (hs : xs.sum ≤ a.amt) : (ps.map (·.comp)).sum ≤ a.comp := by
  by_cases ha : a.amt = 0
  · cases h with
    | nil => simp
    | cons h1 h2 =>
      rename_i x p xs' ps'
      have := hnz x (by simp)
      simp only [List.sum_cons] at hs
      omega
  · have hpos : 0 < a.amt := Nat.pos_of_ne_zero ha
    have key : (ps.map (·.comp)).sum * a.amt ≤ a.comp * xs.sum := by
      clear hnz hs
      induction h with
      | nil => simp
      | cons h1 h2 ih =>
        rename_i x p xs' ps'
        simp only [List.map_cons, List.sum_cons]
        rw [intoPart_comp_eq h1 ha]
        have e1 := Nat.div_mul_le_self (a.comp * x) a.amt
        rw [Nat.add_mul, Nat.mul_add]
        omega
    have e3 : a.comp * xs.sum ≤ a.comp * a.amt := Nat.mul_le_mul_left _ hs
    exact Nat.le_of_mul_le_mul_right (Nat.le_trans key e3) hpos

/-- Σ of the payment amounts (a payment is `(nonce, amount)`) -/
def paySum : List (Nat × Nat) → Nat
  | [] => 0
  | (_, a) :: rest => a + paySum rest

theorem paySum_eq_sum : ∀ l : List (Nat × Nat), paySum l = (l.map (·.2)).sum
  | [] => rfl
  | (_, a) :: rest => by rw [paySum, List.map_cons, List.sum_cons, paySum_eq_sum rest]

theorem intoPart_amt {a p : Attr} {x : Nat} (h : a.intoPart x = some p) : p.amt = x :=
  (intoPart_spec h).1

/-- one payment of a merge: its stored attributes, cut to the amount paid (`intoPart`), merged into the base -/
theorem mergeParts_cons {s : St} {base m : Attr} {n a : Nat} {rest : List (Nat × Nat)} :
    mergeParts s base ((n, a) :: rest) = some m ↔
      ∃ att part m1, s.attrs n = some att ∧ att.intoPart a = some part ∧ base.mergeWith part = some m1 ∧
        mergeParts s m1 rest = some m := by
  simp only [mergeParts, Option.bind_eq_bind, Option.bind_eq_some_iff, exists_and_left]

theorem mergeParts_amt : ∀ (l : List (Nat × Nat)) {s : St} {base m : Attr},
    mergeParts s base l = some m → m.amt = base.amt + paySum l ∧ m.owner = base.owner
  | [], _, _, _, h => by obtain rfl := Option.some.inj h; exact ⟨rfl, rfl⟩
  | (n, a) :: rest, s, base, m, h => by
    obtain ⟨att, part, m1, _, hp, hm1, h⟩ := mergeParts_cons.mp h
    obtain ⟨e1, e2⟩ := mergeParts_amt rest h
    obtain ⟨_, e3, _, _, e4, _⟩ := mergeWith_spec hm1
    rw [e1, e2, e3, e4, intoPart_amt hp]
    exact ⟨by simp only [paySum]; omega, rfl⟩

theorem mergeAll_spec {s : St} {l : List (Nat × Nat)} {m : Attr} (h : mergeAll s l = some m) :
    ∃ n a rest att part, l = (n, a) :: rest ∧ s.attrs n = some att ∧ att.intoPart a = some part ∧
      mergeParts s part rest = some m := by
  cases l with
  | nil => cases h
  | cons p rest =>
    obtain ⟨att, hat, h⟩ := peel h
    obtain ⟨part, hp, h⟩ := peel h
    exact ⟨p.1, p.2, rest, att, part, rfl, hat, hp, h⟩

theorem mergeAll_amt {s : St} {l : List (Nat × Nat)} {m : Attr} (h : mergeAll s l = some m) :
    m.amt = paySum l := by
  obtain ⟨n, a, rest, att, part, rfl, _, hp, hm⟩ := mergeAll_spec h
  rw [(mergeParts_amt rest hm).1, intoPart_amt hp]; rfl

theorem baseReward_eq (dsc rps a r : Nat) :
    baseReward dsc rps a r = if r < rps then a * (rps - r) / dsc else 0 := rfl

theorem baseReward_same (dsc rps a : Nat) : baseReward dsc rps a rps = 0 := by
  simp [baseReward]

theorem baseReward_mono_rps {dsc a r rps1 rps2 : Nat} (h : rps1 ≤ rps2) :
    baseReward dsc rps1 a r ≤ baseReward dsc rps2 a r := by
  unfold baseReward
  by_cases h1 : r < rps1
  · have h2 : r < rps2 := Nat.lt_of_lt_of_le h1 h
    rw [if_pos h1, if_pos h2]
    exact Nat.div_le_div_right (Nat.mul_le_mul_left _ (Nat.sub_le_sub_right h r))
  · rw [if_neg h1]; exact Nat.zero_le _

theorem baseReward_mul_le' (dsc rps a r : Nat) : baseReward dsc rps a r * dsc ≤ a * (rps - r) := by
  unfold baseReward
  split
  · exact Nat.div_mul_le_self _ _
  · simp

theorem baseReward_mul_le (dsc rps a r : Nat) (_hd : dsc ≠ 0) :
    baseReward dsc rps a r * dsc ≤ a * (rps - r) := baseReward_mul_le' dsc rps a r

/-- well-formed config: the ring has its 5 slots -/
def WF (c : BCfg) : Prop := c.ring.length = 5

theorem WF.exists_ring {c : BCfg} (hw : WF c) :
    ∃ L f0 f1 f2 f3 f4, c = ⟨L, [f0, f1, f2, f3, f4]⟩ := by
  obtain ⟨L, ring⟩ := c
  unfold WF at hw
  simp only at hw
  match ring, hw with
  | [f0, f1, f2, f3, f4], _ => exact ⟨L, f0, f1, f2, f3, f4, rfl⟩

theorem WF.latest {c : BCfg} (hw : WF c) : c.ring[4]? = some c.latest := by
  obtain ⟨L, f0, f1, f2, f3, f4, rfl⟩ := hw.exists_ring
  rfl

theorem BCfg.update_shift {c c' : BCfg} {W : Nat} {new : Option Factors} (h : c.update W new = some c') :
    c.lastUpdateWeek ≤ W ∧
      c' = ⟨if min (W - c.lastUpdateWeek) 5 = 0 then c.lastUpdateWeek else W,
        Ring.shift c.ring (min (W - c.lastUpdateWeek) 5) c.latest new⟩ := by
  obtain ⟨hle, h⟩ := peel_req h
  refine ⟨hle, ?_⟩
  unfold Ring.shift
  dsimp only [RING] at h
  by_cases hd : min (W - c.lastUpdateWeek) 5 = 0
  · rw [if_pos hd] at h
    rw [if_pos hd, if_pos hd]
    cases new <;> exact (Option.some.inj h).symm
  · rw [if_neg hd] at h
    rw [if_neg hd, if_neg hd]
    exact (Option.some.inj h).symm

theorem BCfg.update_defined (c : BCfg) {W : Nat} (new : Option Factors) (h : c.lastUpdateWeek ≤ W) :
    ∃ c', c.update W new = some c' := by
  unfold BCfg.update
  simp only [req, h, if_true, Option.bind_eq_bind, Option.bind_some, Option.pure_def]
  split
  · cases new <;> exact ⟨_, rfl⟩
  · exact ⟨_, rfl⟩

theorem BCfg.update_le {c c' : BCfg} {W : Nat} {new : Option Factors}
    (h : c.update W new = some c') : c.lastUpdateWeek ≤ W := (BCfg.update_shift h).1

theorem BCfg.new_wf (W : Nat) (f : Factors) : WF (BCfg.new W f) := by
  simp [WF, BCfg.new, RING]

theorem BCfg.update_wf {c c' : BCfg} {W : Nat} {new : Option Factors} (hw : WF c)
    (h : c.update W new = some c') : WF c' ∧ c'.lastUpdateWeek = W := by
  obtain ⟨hle, rfl⟩ := BCfg.update_shift h
  exact ⟨Ring.shift_length hw hw.latest (Nat.min_le_right _ _) new, by dsimp only; split <;> omega⟩

theorem BCfg.new_latest (W : Nat) (f : Factors) : (BCfg.new W f).latest = f := rfl

theorem BCfg.new_lastUpdateWeek (W : Nat) (f : Factors) : (BCfg.new W f).lastUpdateWeek = W := rfl

theorem BCfg.update_lastUpdateWeek {c c' : BCfg} {W : Nat} {new : Option Factors} (hw : WF c)
    (h : c.update W new = some c') : c'.lastUpdateWeek = max c.lastUpdateWeek W := by
  rw [(BCfg.update_wf hw h).2]
  have := BCfg.update_le h
  omega

theorem update_latest' {c c' : BCfg} {W : Nat} {new : Option Factors} (hw : WF c)
    (h : c.update W new = some c') : c'.latest = new.getD c.latest := by
  obtain ⟨_, rfl⟩ := BCfg.update_shift h
  have := Ring.shift_latest hw hw.latest (d := min (W - c.lastUpdateWeek) 5) (Nat.min_le_right _ _) new
  show (Ring.shift c.ring _ c.latest new).getD 4 default = _
  rw [List.getD_eq_getElem?_getD, this]
  rfl

theorem update_latest {c c' : BCfg} {W : Nat} {f : Factors} (hw : WF c)
    (h : c.update W (some f) = some c') : c'.latest = f := update_latest' hw h

theorem update_none_latest {c c' : BCfg} {W : Nat} (hw : WF c)
    (h : c.update W none = some c') : c'.latest = c.latest := update_latest' hw h

theorem factorsForWeek_window {c : BCfg} {w : Nat} {f : Factors}
    (h : c.factorsForWeek w = some f) : w < c.lastUpdateWeek ∧ c.lastUpdateWeek < w + 5 := by
  obtain ⟨h1, h⟩ := peel_req h
  obtain ⟨h2, _⟩ := peel_req h
  have hR : RING = 5 := rfl
  omega

theorem factorsForWeek_eq {c : BCfg} {w : Nat} (h1 : w < c.lastUpdateWeek)
    (h2 : c.lastUpdateWeek < w + 5) :
    c.factorsForWeek w = c.ring[4 - (c.lastUpdateWeek - w)]? := by
  have h3 : c.lastUpdateWeek - w < 5 := by omega
  simp [BCfg.factorsForWeek, RING, req, h1, h3]

theorem factorsForWeek_new (W w : Nat) (f : Factors) (h1 : w < W) (h2 : W < w + 5) :
    (BCfg.new W f).factorsForWeek w = some f := by
  rw [factorsForWeek_eq (c := BCfg.new W f) h1 h2]
  simp only [BCfg.new, RING]
  rw [List.getElem?_replicate, if_pos (by omega)]

theorem factorsForWeek_update_old {c c' : BCfg} {W w : Nat} {new : Option Factors} (hw : WF c)
    (h : c.update W new = some c') (h1 : w < c.lastUpdateWeek) (h2 : W < w + 5) :
    c'.factorsForWeek w = c.factorsForWeek w := by
  have hL := (BCfg.update_wf hw h).2
  obtain ⟨hle, rfl⟩ := BCfg.update_shift h
  rw [factorsForWeek_eq (by rw [hL]; omega) (by rw [hL]; exact h2), factorsForWeek_eq h1 (by omega), hL]
  exact Ring.shift_old hw hw.latest hle new h1 (by omega)

theorem factorsForWeek_update_gap {c c' : BCfg} {W w : Nat} {new : Option Factors} (hw : WF c)
    (h : c.update W new = some c') (h1 : c.lastUpdateWeek ≤ w) (h2 : w < W) (h3 : W < w + 5) :
    c'.factorsForWeek w = some c.latest := by
  have hL := (BCfg.update_wf hw h).2
  obtain ⟨hle, rfl⟩ := BCfg.update_shift h
  rw [factorsForWeek_eq (by rw [hL]; exact h2) (by rw [hL]; exact h3), hL]
  exact Ring.shift_gap hw hw.latest new h1 h2 (by omega)

/-- what `collectWeeks b u first n` returns (`r`): the pools of the weeks `first ≤ w < first + n` are emptied
    into those weeks' collected ghosts and added to the counter `u`; nothing else is written -/
structure WeeksCollected (b : BSt) (u first n : Nat) (r : BSt × Nat) : Prop where
  passed : ∀ w, first ≤ w → w < first + n →
    r.1.remaining w = 0 ∧ r.1.collW w = b.collW w + b.remaining w
  other : ∀ w, (w < first ∨ first + n ≤ w) →
    r.1.remaining w = b.remaining w ∧ r.1.collW w = b.collW w
  accum : r.1.accum = b.accum
  farmSupplyWeek : r.1.farmSupplyWeek = b.farmSupplyWeek
  cfg : r.1.cfg = b.cfg
  cutW : r.1.cutW = b.cutW
  paidW : r.1.paidW = b.paidW
  undist : r.2 = u + ((List.range n).map (fun i => b.remaining (first + i))).sum

theorem collectWeeks_spec (n : Nat) : ∀ (b : BSt) (u first : Nat),
    WeeksCollected b u first n (collectWeeks b u first n) := by
  induction n with
  | zero =>
    intro b u first
    refine ⟨fun w h1 h2 => by omega, fun w _ => ⟨rfl, rfl⟩, rfl, rfl, rfl, rfl, rfl, ?_⟩
    simp [collectWeeks]
  | succ n ih =>
    intro b u first
    obtain ⟨i1, i2, i3, i4, i5, i6, i7, i8⟩ :=
      ih { b with remaining := upd b.remaining first 0
                  collW := upd b.collW first (b.collW first + b.remaining first) }
        (u + b.remaining first) (first + 1)
    simp only [collectWeeks]
    refine ⟨?_, ?_, i3, i4, i5, i6, i7, ?_⟩
    · intro w h1 h2
      by_cases hw : w = first
      · subst hw
        obtain ⟨j1, j2⟩ := i2 w (Or.inl (Nat.lt_succ_self w))
        rw [j1, j2]
        simp only [upd_same, and_self]
      · obtain ⟨j1, j2⟩ := i1 w (by omega) (by omega)
        rw [j1, j2]
        simp only [upd_other _ _ hw, and_self]
    · intro w h
      have hw : w ≠ first := by omega
      obtain ⟨j1, j2⟩ := i2 w (by omega)
      rw [j1, j2]
      simp only [upd_other _ _ hw, and_self]
    · rw [i8, List.range_succ_eq_map, List.map_cons, List.sum_cons, List.map_map]
      have : (List.range n).map (fun i => upd b.remaining first 0 (first + 1 + i)) =
          (List.range n).map ((fun i => b.remaining (first + i)) ∘ Nat.succ) := by
        apply List.map_congr_left
        intro i _
        have : first + 1 + i ≠ first := by omega
        simp only [Function.comp, upd_other _ _ this]
        congr 1; omega
      rw [this]
      simp only [Nat.add_zero]
      omega

end Mx.Farm
