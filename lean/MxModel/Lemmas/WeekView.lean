/-
  The week-position view `WV`: claim progress and key list of the weekly-rewards module, the users'
  total farm positions, `farmSupplyForWeek`, the farm-token supply and the clock, with the POSITION
  half of the week budget as an invariant `WV.Inv` on it:

      for every completed week w:   farmSupplyForWeek(w) = 0
                                  ∨ Σ_{v : progress(v).week ≤ w} userTotalFarmPosition(v) ≤ farmSupplyForWeek(w)

  i.e. the users who can still claim week `w`, with their CURRENT total farm positions, fit into the
  farm supply recorded for that week; the counterpart of `Weekly.EB` (Lemmas/WeeklyHist.lean, the
  ENERGY half `Σ e ≤ E`).  The farm (`Farm.wv`, Lemmas/FarmWeekPos.lean) and the farm-staking model
  (`Staking.wv`, Lemmas/StakingWeekPos.lean) both instantiate the view: the Rust module
  `farm-boosted-yields` is shared.  Nothing here mentions a world; the names stand in `Mx.Farm`.
  The invariant is inductive because
    * a call into the weekly-rewards module for a user sets that user's progress to the CURRENT week
      or clears it: the claimers of a completed week only leave (`Inv.move`);
    * a total only decreases, unless its user's progress is at the current week already
      (`Inv.setTotal`);
    * `farmSupplyForWeek` is written for the running week `W` only, with the supply
      (`Inv.record`): `fsw W = 0 ∨ fsw W = supply`, later weeks 0, completed weeks never again;
    * when the week ends, `Σ_v total(v) ≤ supply` gives its bound (`Inv.advance`).
-/
import MxModel.Lemmas.WeeklyClaim

namespace Mx.Farm

open Mx.Weekly (upd upd_same upd_other ClaimProgress usum usum_le usersAfter)

/-- the cells the week-position invariant reads -/
structure WV where
  progress : Nat → Option ClaimProgress
  wusers : List Nat
  total : Nat → Nat
  fsw : Nat → Nat
  supply : Nat
  epoch : Nat
  fws : Nat

/-- the position user `u` can still claim week `w` with: its current total if its claim progress has
    not passed `w`, else nothing -/
def fFor (prog : Nat → Option ClaimProgress) (tot : Nat → Nat) (u w : Nat) : Nat :=
  match prog u with
  | some p => if p.week ≤ w then tot u else 0
  | none => 0

theorem fFor_upd_other (prog : Nat → Option ClaimProgress) (tot : Nat → Nat) (u0 : Nat)
    (o : Option ClaimProgress) {u : Nat} (h : u ≠ u0) (w : Nat) :
    fFor (upd prog u0 o) tot u w = fFor prog tot u w := by
  unfold fFor; rw [upd_other _ _ h]

theorem fFor_settled {prog : Nat → Option ClaimProgress} {tot : Nat → Nat} {u w W : Nat}
    (hs : ∀ p, prog u = some p → W ≤ p.week) (hw : w < W) : fFor prog tot u w = 0 := by
  unfold fFor
  cases hp : prog u with
  | none => rfl
  | some p =>
    have := hs p hp
    have hn : ¬ p.week ≤ w := by omega
    simp only [hn, if_false]

theorem fFor_setTotal_le {prog : Nat → Option ClaimProgress} {tot t : Nat → Nat} {x w W : Nat}
    (ht : t x ≤ tot x ∨ ∀ p, prog x = some p → W ≤ p.week) (hw : w < W) :
    fFor prog t x w ≤ fFor prog tot x w := by
  rcases ht with hle | hs
  · unfold fFor
    cases prog x with
    | none => exact Nat.le_refl _
    | some p =>
      simp only
      split
      · exact hle
      · exact Nat.le_refl _
  · rw [fFor_settled hs hw]; exact Nat.zero_le _

namespace WV

def week (v : WV) : Option Nat := Weekly.weekOf v.epoch v.fws

def psum (v : WV) (w : Nat) : Nat := usum v.wusers (fun u => fFor v.progress v.total u w)

/-- a weekly-module call for `u`: progress entry replaced, key list extended -/
def move (v : WV) (u : Nat) (o : Option ClaimProgress) : WV :=
  { v with progress := upd v.progress u o, wusers := usersAfter v.wusers u o }
def setTotal (v : WV) (t : Nat → Nat) : WV := { v with total := t }
def setFsw (v : WV) (W x : Nat) : WV := { v with fsw := upd v.fsw W x }
def setSupply (v : WV) (x : Nat) : WV := { v with supply := x }

@[simp] theorem move_fsw (v : WV) (u : Nat) (o : Option ClaimProgress) : (v.move u o).fsw = v.fsw := rfl
@[simp] theorem move_supply (v : WV) (u : Nat) (o : Option ClaimProgress) : (v.move u o).supply = v.supply := rfl
@[simp] theorem move_week (v : WV) (u : Nat) (o : Option ClaimProgress) : (v.move u o).week = v.week := rfl
@[simp] theorem setTotal_fsw (v : WV) (t : Nat → Nat) : (v.setTotal t).fsw = v.fsw := rfl
@[simp] theorem setTotal_supply (v : WV) (t : Nat → Nat) : (v.setTotal t).supply = v.supply := rfl
@[simp] theorem setTotal_week (v : WV) (t : Nat → Nat) : (v.setTotal t).week = v.week := rfl
@[simp] theorem setTotal_total (v : WV) (t : Nat → Nat) : (v.setTotal t).total = t := rfl
@[simp] theorem setTotal_progress (v : WV) (t : Nat → Nat) : (v.setTotal t).progress = v.progress := rfl
@[simp] theorem setFsw_fsw (v : WV) (W x : Nat) : (v.setFsw W x).fsw = upd v.fsw W x := rfl
@[simp] theorem setFsw_supply (v : WV) (W x : Nat) : (v.setFsw W x).supply = v.supply := rfl
@[simp] theorem setFsw_week (v : WV) (W x : Nat) : (v.setFsw W x).week = v.week := rfl
@[simp] theorem setSupply_fsw (v : WV) (x : Nat) : (v.setSupply x).fsw = v.fsw := rfl
@[simp] theorem setSupply_supply (v : WV) (x : Nat) : (v.setSupply x).supply = x := rfl
@[simp] theorem setSupply_week (v : WV) (x : Nat) : (v.setSupply x).week = v.week := rfl
@[simp] theorem move_progress_same (v : WV) (u : Nat) (o : Option ClaimProgress) :
    (v.move u o).progress u = o := upd_same _ _ _

structure Inv (v : WV) : Prop where
  time : v.fws ≤ v.epoch
  nodup : v.wusers.Nodup
  past : ∀ W, v.week = some W → ∀ w, w < W → v.fsw w = 0 ∨ v.psum w ≤ v.fsw w
  cur : ∀ W, v.week = some W → v.fsw W = 0 ∨ v.fsw W = v.supply
  fut : ∀ W, v.week = some W → ∀ w, W < w → v.fsw w = 0

/-- the `f ≤ F` of `boostedAmount_le` (Lemmas/FarmWeekSafe.lean), for one claimer of a completed week -/
theorem Inv.claimer_le {v : WV} (h : v.Inv) {W w u : Nat} {p : ClaimProgress} (hW : v.week = some W)
    (hw : w < W) (hu : u ∈ v.wusers) (hp : v.progress u = some p) (hpw : p.week ≤ w)
    (hF : v.fsw w ≠ 0) : v.total u ≤ v.fsw w := by
  refine Nat.le_trans ?_ ((h.past W hW w hw).resolve_left hF)
  have := Weekly.le_usum (f := fun x => fFor v.progress v.total x w) hu
  have e : fFor v.progress v.total u w = v.total u := by
    unfold fFor; rw [hp]; simp only [hpw, if_true]
  rwa [e] at this

theorem Inv.keep {v v' : WV} {W : Nat} (h : v.Inv) (hW : v.week = some W) (he : v'.epoch = v.epoch)
    (hf : v'.fws = v.fws) (hnd : v'.wusers.Nodup) (hs : ∀ w, w < W → v'.psum w ≤ v.psum w)
    (hF : ∀ w, w ≠ W → v'.fsw w = v.fsw w) (hc : v'.fsw W = 0 ∨ v'.fsw W = v'.supply) : v'.Inv := by
  have hwk : ∀ W', v'.week = some W' → W' = W := fun W' hW' => by
    unfold week at hW' hW; rw [he, hf, hW] at hW'; exact (Option.some.inj hW').symm
  refine ⟨by rw [he, hf]; exact h.time, hnd, fun W' hW' w hw => ?_, fun W' hW' => ?_, fun W' hW' w hw => ?_⟩
  all_goals obtain rfl := hwk W' hW'
  · rw [hF w (Nat.ne_of_lt hw)]
    exact (h.past W' hW w hw).imp_right (Nat.le_trans (hs w hw))
  · exact hc
  · rw [hF w (Nat.ne_of_gt hw)]
    exact h.fut W' hW w hw

theorem Inv.move {v : WV} {W : Nat} (h : v.Inv) (hW : v.week = some W) (u : Nat)
    {o : Option ClaimProgress} (ho : ∀ p, o = some p → W ≤ p.week) : (v.move u o).Inv :=
  h.keep hW rfl rfl (Weekly.nodup_usersAfter h.nodup u o)
    (fun w hw => Weekly.usum_move_le (fun _ hx => fFor_upd_other _ _ _ _ hx w)
      (fFor_settled (fun p hp => ho p ((move_progress_same v u o).symm.trans hp)) hw))
    (fun _ _ => rfl) (h.cur W hW)

theorem Inv.setTotal {v : WV} {W : Nat} (h : v.Inv) (hW : v.week = some W) {t : Nat → Nat}
    (ht : ∀ x, t x ≤ v.total x ∨ ∀ p, v.progress x = some p → W ≤ p.week) : (v.setTotal t).Inv :=
  h.keep hW rfl rfl h.nodup (fun _ hw => usum_le fun x _ => fFor_setTotal_le (ht x) hw)
    (fun _ _ => rfl) (h.cur W hW)

theorem Inv.record {v : WV} {W : Nat} (h : v.Inv) (hW : v.week = some W) (x : Nat) :
    ((v.setFsw W x).setSupply x).Inv :=
  h.keep hW rfl rfl h.nodup (fun _ _ => Nat.le_refl _) (fun _ hw => upd_other _ _ hw)
    (Or.inr (upd_same _ _ _))

/-- time passes: the running week becomes a completed week (bounded by the supply, which bounds the
    totals of any set of users), the weeks in between have nothing recorded -/
theorem Inv.advance {v : WV} (h : v.Inv) (hsum : usum v.wusers v.total ≤ v.supply) {e : Nat}
    (he : v.epoch ≤ e) : ({ v with epoch := e } : WV).Inv := by
  have ht : v.fws ≤ e := Nat.le_trans h.time he
  obtain ⟨W, hW⟩ : ∃ W, v.week = some W := ⟨_, Weekly.weekOf_eq_some.mpr ⟨h.time, rfl⟩⟩
  refine ⟨ht, h.nodup, fun W' hW' w hw => ?_, fun W' hW' => ?_, fun W' hW' w hw => ?_⟩
  all_goals have hmono : W ≤ W' := Weekly.weekOf_mono he hW hW'
  · rcases Nat.lt_trichotomy w W with hlt | heq | hgt
    · exact h.past W hW w hlt
    · subst heq
      rcases h.cur w hW with hz | hs
      · exact Or.inl hz
      · right
        show v.psum w ≤ v.fsw w
        rw [hs]
        refine Nat.le_trans ?_ hsum
        apply usum_le
        intro x _
        unfold fFor
        cases v.progress x with
        | none => exact Nat.zero_le _
        | some p => simp only; split <;> omega
    · exact Or.inl (h.fut W hW w hgt)
  · rcases Nat.eq_or_lt_of_le hmono with heq | hlt
    · subst heq; exact h.cur W hW
    · exact Or.inl (h.fut W hW W' hlt)
  · exact h.fut W hW w (by omega)

end WV

end Mx.Farm
