/-
  Potential-function invariant of the farm-staking model (C06 `total_base_bound`, base part of
  C05 `reserve_covers`):

      Σ_n outstanding(n) · (rps − entryRps(n))  +  dsc · paidBase  ≤  dsc · baseBudget

  i.e. what has been paid (or compounded) as base rewards plus everything the outstanding
  positions can still claim never exceeds the base share of the emission.  Saturating
  subtraction throughout (an entry index is never above the current index anyway).

  Every transaction is one of the five transitions `PTrans` of the position view
  (Lemmas/StakingPos.lean, Lemmas/StakingTrans.lean); the potential bound is checked on those.
-/
import MxModel.Lemmas.StakingTrans

namespace Mx.Staking

open Mx.Weekly

/-- Σ over the nonces of outstanding units × (current index − entry index) -/
def PV.pot (v : PV) : Nat := wsum v.hold v.accts (v.nonce + 1) (potW v.md v.rps)

def PotOK (v : PV) : Prop := v.pot + v.dsc * v.paidBase ≤ v.dsc * v.baseBudget

theorem pot_gen {v : PV} (hI : PosOK v) (inc base : Nat) :
    (v.gen inc base).pot ≤ v.pot + inc * v.supply := by
  dsimp only [PV.pot, PV.gen]
  rw [hI.sup, ← wsum_add_mul]
  apply wsum_le
  intro n _
  simp only [potW, posW]
  split <;> omega

theorem PotOK.gen {v : PV} (hI : PosOK v) (hP : PotOK v) {inc base : Nat}
    (hib : v.supply * inc ≤ v.dsc * base) : PotOK (v.gen inc base) := by
  have h1 := pot_gen hI inc base
  unfold PotOK at hP ⊢
  dsimp only [PV.gen] at h1 ⊢
  rw [Nat.mul_add]
  rw [Nat.mul_comm inc] at h1
  omega

theorem PotOK.remint {v : PV} (hI : PosOK v) (hP : PotOK v) {c : Nat} {pays : List Pay}
    {h0 : Nat → Nat → Nat} {tok : Attrs} (ut2 : Nat → Nat) (supply2 : Nat) {paid : Nat}
    (hc : c ∈ v.accts) (hd : debit v.hold c pays = some h0)
    (hpot : tok.amount * (v.rps - tok.rps) + v.dsc * paid ≤ payW (potW v.md v.rps) pays) :
    PotOK (v.remint c h0 tok ut2 supply2 paid) := by
  have h1 := hI.wsum_reissue hc hd tok.amount (potW v.md v.rps)
    (potW (upd v.md (v.nonce + 1) (some (.pos tok))) v.rps) (fun n hn => potW_upd_lt v.md _ _ hn)
  rw [potW_some (posOf_upd_pos _ _ _), Nat.mul_comm (v.rps - tok.rps)] at h1
  dsimp only [PotOK, PV.pot, PV.remint] at hP ⊢
  rw [Nat.mul_add]
  omega

theorem PotOK.burn {v : PV} (hI : PosOK v) (hP : PotOK v) {c : Nat} {pay : Pay}
    {h0 : Nat → Nat → Nat} {attrs : Attrs} (e x : Nat) (ut2 : Nat → Nat) (supply2 : Nat) {paid : Nat}
    (hc : c ∈ v.accts) (hd : debit v.hold c [pay] = some h0) (ha : posOf v.md pay.1 = some attrs)
    (hpot : v.dsc * paid ≤ pay.2 * (v.rps - attrs.rps)) :
    PotOK (v.burn c h0 e x ut2 supply2 paid) := by
  have h1 := hI.wsum_reissue hc hd x (potW v.md v.rps)
    (potW (upd v.md (v.nonce + 1) (some (.unbond e))) v.rps) (fun n hn => potW_upd_lt v.md _ _ hn)
  rw [potW_none (posOf_upd_unbond _ _ _), Nat.zero_mul] at h1
  simp only [payW, potW_some ha, Nat.add_zero] at h1
  dsimp only [PotOK, PV.pot, PV.burn] at hP ⊢
  rw [Nat.mul_add]
  rw [Nat.mul_comm pay.2] at hpot
  omega

theorem PotOK.transfer {v : PV} (hI : PosOK v) (hP : PotOK v) {src dst : Nat} {pay : Pay}
    {h0 : Nat → Nat → Nat} (hs : src ∈ v.accts) (hdst : dst ∈ v.accts)
    (hd : debit v.hold src [pay] = some h0) :
    PotOK (v.setHold (upd2 h0 dst pay.1 (h0 dst pay.1 + pay.2))) := by
  dsimp only [PotOK, PV.pot, PV.setHold]
  rw [wsum_congr (fun n _ => outst_transfer hI hs hdst hd n) (fun _ _ => rfl)]
  exact hP

theorem PotOK.trans {v v' : PV} (hI : PosOK v) (hP : PotOK v) (h : PTrans v v') : PotOK v' := by
  obtain ⟨inc, base, hib, h⟩ := h
  have hG := hI.gen inc base
  have hPG := hP.gen hI hib
  rcases h with rfl | ⟨c, user, pays, h0, ut1, ut2, tok, supply2, paid, hc, hd, _, _, _, _, hpot, rfl⟩ |
    ⟨c, pay, h0, attrs, e, x, supply2, paid, hc, hd, ha, _, hpot, rfl⟩ |
    ⟨c, pays, h0, hc, hd, _, rfl⟩ | ⟨src, dst, pay, h0, hs, hdst, hd, rfl⟩
  · exact hPG
  · exact hPG.remint hG ut2 supply2 hc hd hpot
  · exact hPG.burn hG e x _ supply2 hc hd ha hpot
  · have h1 := wsum_debit (potW v.md (v.rps + inc)) hd hc hI.nodup (hI.pay_lt hd)
    dsimp only [PotOK, PV.pot, PV.redeem, PV.gen] at hPG ⊢
    omega
  · exact hPG.transfer hG hs hdst hd

def PotInv (s : St) : Prop := PotOK (pv s)

theorem potInv_init (epoch block dsc maxApr minUnbond perBlock : Nat) (accts wl : List Nat) :
    PotInv (init epoch block dsc maxApr minUnbond perBlock accts wl) :=
  Nat.le_of_eq (congrArg (· + dsc * 0) (wsum_hold_zero (fun _ _ => rfl)))

theorem step_potInv {s s' : St} {op : Op} {o : Out} (hI : PosInv s) (hP : PotInv s)
    (h : step s op = some (s', o)) : PotInv s' :=
  PotOK.trans hI hP (step_ptrans h)

theorem run_potInv (ops : List Op) {s : St} (hI : PosInv s) (hP : PotInv s) : PotInv (run s ops) :=
  (run_induction (P := fun t => PosInv t ∧ PotInv t)
    (fun hP h => ⟨step_posInv hP.1 h, step_potInv hP.1 hP.2 h⟩) ops ⟨hI, hP⟩).2

theorem usum_div_le (l : List Nat) (f : Nat → Nat) (d : Nat) :
    usum l (fun n => f n / d) ≤ usum l f / d := by
  induction l with
  | nil => simp
  | cons a l ih =>
    simp only [usum_cons]
    have := div_add_div_le (f a) (usum l f) d
    omega

theorem pot_explicit (s : St) :
    (pv s).pot =
      ((List.range (s.nonce + 1)).map fun n =>
        match s.md n with
        | some (.pos a) => (s.accts.dedup.map fun u => s.hold u n).sum * (s.rps - a.rps)
        | _ => 0).sum := by
  refine wsum_explicit (hold := s.hold) (accts := s.accts.dedup) (w := potW s.md s.rps)
    (s.nonce + 1) (fun n => ?_)
  simp only [potW, posOf]
  cases s.md n with
  | none => simp
  | some m => cases m <;> simp [Nat.mul_comm]

/-- claimable base rewards, nonce by nonce (each nonce's outstanding units claimed at once:
    the largest the floors can add up to) -/
def claimableBase (s : St) : Nat :=
  ((List.range (s.nonce + 1)).map fun n =>
    match s.md n with
    | some (.pos a) => (s.accts.dedup.map fun u => s.hold u n).sum * (s.rps - a.rps) / s.dsc
    | _ => 0).sum

theorem claimableBase_le (s : St) : claimableBase s ≤ (pv s).pot / s.dsc := by
  rw [pot_explicit]
  refine Nat.le_trans (Nat.le_of_eq ?_) (usum_div_le (List.range (s.nonce + 1)) _ s.dsc)
  unfold claimableBase usum
  congr 1
  apply List.map_congr_left
  intro n _
  cases s.md n with
  | none => simp
  | some m => cases m <;> simp

/-- claimable base rewards, holding by holding (every account claims what it holds of every
    position separately: what the harness oracle `reserve_covers` adds up) -/
def claimableHoldings (s : St) : Nat :=
  ((List.range (s.nonce + 1)).map fun n =>
    match s.md n with
    | some (.pos a) => (s.accts.dedup.map fun u => s.hold u n * (s.rps - a.rps) / s.dsc).sum
    | _ => 0).sum

theorem sum_map_mul_div_le (l : List Nat) (h : Nat → Nat) (x d : Nat) :
    (l.map fun u => h u * x / d).sum ≤ (l.map h).sum * x / d := by
  have h1 := usum_div_le l (fun u => h u * x) d
  have h2 : usum l (fun u => h u * x) = usum l h * x := by
    have := usum_mul l x h
    simp only [Nat.mul_comm x] at this
    exact this
  rw [h2] at h1
  exact h1

theorem claimableHoldings_le (s : St) : claimableHoldings s ≤ claimableBase s := by
  refine usum_le (l := List.range (s.nonce + 1)) (fun n _ => ?_)
  cases s.md n with
  | none => exact Nat.le_refl _
  | some m =>
    cases m with
    | pos a => exact sum_map_mul_div_le _ _ _ _
    | unbond e => exact Nat.le_refl _

theorem PotInv.paid_le {s : St} (h : PotInv s) (hd : 0 < s.dsc) : s.paidBase ≤ s.baseBudget := by
  have h1 : (pv s).pot + s.dsc * s.paidBase ≤ s.dsc * s.baseBudget := h
  exact Nat.le_of_mul_le_mul_left (by omega) hd

theorem PotInv.claimable_le {s : St} (h : PotInv s) (hd : 0 < s.dsc) :
    claimableBase s + s.paidBase ≤ s.baseBudget := by
  have h1 : (pv s).pot + s.dsc * s.paidBase ≤ s.dsc * s.baseBudget := h
  have h2 := claimableBase_le s
  have h3 : (pv s).pot / s.dsc + s.paidBase ≤ s.baseBudget := by
    have : ((pv s).pot + s.dsc * s.paidBase) / s.dsc ≤ s.baseBudget :=
      Nat.div_le_of_le_mul h1
    rw [Nat.add_mul_div_left _ _ hd] at this
    exact this
  omega

theorem PotInv.holdings_explicit {s : St} (h : PotInv s) (hd : 0 < s.dsc) :
    ((List.range (s.nonce + 1)).map fun n =>
        match s.md n with
        | some (.pos a) => (s.accts.dedup.map fun u => s.hold u n * (s.rps - a.rps) / s.dsc).sum
        | _ => 0).sum
      ≤ s.baseBudget - s.paidBase := by
  have h1 : claimableBase s + s.paidBase ≤ s.baseBudget := h.claimable_le hd
  have h2 : claimableHoldings s ≤ claimableBase s := claimableHoldings_le s
  unfold claimableHoldings at h2
  omega

theorem PotInv.explicit {s : St} (h : PotInv s) :
    ((List.range (s.nonce + 1)).map fun n =>
        match s.md n with
        | some (.pos a) => (s.accts.dedup.map fun u => s.hold u n).sum * (s.rps - a.rps)
        | _ => 0).sum
      + s.dsc * s.paidBase ≤ s.dsc * s.baseBudget := by
  have h' : (pv s).pot + s.dsc * s.paidBase ≤ s.dsc * s.baseBudget := h
  rw [pot_explicit] at h'
  exact h'

end Mx.Staking
