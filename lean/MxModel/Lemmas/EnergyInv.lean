/-
  The C08 invariant of the `energy` world, and what the nonce list and the reported entry
  (`St.view`) do under the building blocks of the endpoints.
-/
import MxModel.Lemmas.EnergySum

namespace Mx.Energy

/-- C08 as a state invariant.  For every user account (addresses below `SCBASE`):
    the entry the factory reports (`getEnergyEntryForUser`) is exactly
    (Σ amount·(unlock − now), Σ amount) over the locked tokens the account holds;
    no address from `SCBASE` up (the contracts) has an entry at all.  Carried along to make it
    inductive: no stored entry is dated after the current epoch (`last`), and user balances are
    zero outside the nonce range (`dom`). -/
structure Inv (s : St) : Prop where
  track : ∀ a, a < SCBASE → Tracks (s.view a) (s.bal a) s.nonces s.epoch
  last : ∀ a e, s.energy a = some e → e.last ≤ s.epoch
  dom : ∀ a n, a < SCBASE → (n = 0 ∨ s.nonces.length < n) → s.bal a n = 0
  sc : ∀ a, SCBASE ≤ a → s.energy a = none

theorem unlockOf_isNonce {s : St} {n u : Nat} (h : s.unlockOf n = some u) : IsNonce s.nonces n u := by
  unfold St.unlockOf at h
  split at h
  · simp at h
  · exact ⟨by omega, h⟩

theorem unlockOf_congr {s s1 : St} (h : s1.nonces = s.nonces) (n : Nat) :
    s1.unlockOf n = s.unlockOf n := by
  unfold St.unlockOf; rw [h]

theorem IsNonce.append {ns : List Nat} {n u : Nat} (h : IsNonce ns n u) (x : Nat) :
    IsNonce (ns ++ [x]) n u := by
  obtain ⟨h1, h2⟩ := h
  refine ⟨h1, ?_⟩
  have hlt := (List.getElem?_eq_some_iff.mp h2).1
  rw [List.getElem?_append_left hlt]
  exact h2

theorem idxOf_le (e : Nat) (ns : List Nat) : idxOf e ns ≤ ns.length := by
  induction ns with
  | nil => simp [idxOf]
  | cons x xs ih => unfold idxOf; split <;> (simp; try omega)

theorem idxOf_mem {e : Nat} {ns : List Nat} (h : e ∈ ns) : ns[idxOf e ns]? = some e := by
  induction ns with
  | nil => simp at h
  | cons x xs ih =>
    unfold idxOf
    split
    · rename_i heq; simp [heq]
    · rename_i hne
      have : e ∈ xs := by
        rcases List.mem_cons.mp h with h1 | h1
        · exact (hne h1.symm).elim
        · exact h1
      simpa using ih this

theorem idxOf_not_mem {e : Nat} {ns : List Nat} (h : e ∉ ns) : idxOf e ns = ns.length := by
  induction ns with
  | nil => rfl
  | cons x xs ih =>
    unfold idxOf
    have hx : x ≠ e := fun h1 => h (by simp [h1])
    have : e ∉ xs := fun h1 => h (by simp [h1])
    simp [hx, ih this]

theorem ensureNonce_nonces (s : St) (u : Nat) :
    (s.ensureNonce u).nonces = s.nonces ∨ (s.ensureNonce u).nonces = s.nonces ++ [u] := by
  unfold St.ensureNonce; split
  · exact Or.inl rfl
  · exact Or.inr rfl

theorem ensureNonce_isNonce (s : St) (u : Nat) :
    IsNonce (s.ensureNonce u).nonces (s.nonceFor u) u := by
  unfold St.ensureNonce St.nonceFor
  split
  · rename_i hm
    exact ⟨by omega, by simpa using idxOf_mem hm⟩
  · rename_i hm
    refine ⟨by omega, ?_⟩
    rw [idxOf_not_mem hm]
    simp

theorem ensureNonce_bal_ne (s : St) (u : Nat) {a : Nat} (ha : a ≠ FACTORY) :
    (s.ensureNonce u).bal a = s.bal a := by
  unfold St.ensureNonce; split
  · rfl
  · exact upd2_other _ _ _ ha

@[simp] theorem ensureNonce_epoch (s : St) (u : Nat) : (s.ensureNonce u).epoch = s.epoch := by
  unfold St.ensureNonce; split <;> rfl

@[simp] theorem ensureNonce_energy (s : St) (u : Nat) : (s.ensureNonce u).energy = s.energy := by
  unfold St.ensureNonce; split <;> rfl

theorem view_of_some {s : St} {a : Nat} {e : Entry} (h : s.energy a = some e) (hl : e.last = s.epoch) :
    s.view a = e := by
  simp [St.view, h, Entry.deplete, hl]

theorem view_congr {s s' : St} {a : Nat} (he : s'.energy a = s.energy a) (hp : s'.epoch = s.epoch) :
    s'.view a = s.view a := by
  simp [St.view, he, hp]

theorem view_last (s : St) (a : Nat) : (s.view a).last = s.epoch := by
  unfold St.view
  split
  · unfold Entry.deplete; split
    · rename_i h; exact h
    · rfl
  · rfl

theorem deplete_deplete (x : Entry) {a b : Nat} (h1 : x.last ≤ a) (h2 : a ≤ b) :
    (x.deplete a).deplete b = x.deplete b := by
  obtain ⟨E, l, T⟩ := x
  simp only at h1
  by_cases hla : l = a
  · subst hla; simp [Entry.deplete]
  · by_cases hab : a = b
    · subst hab; simp [Entry.deplete, hla]
    · have hlb : l ≠ b := by omega
      by_cases hT : 0 < T
      · have c1 : ¬ a ≤ l := by omega
        have c2 : ¬ b ≤ a := by omega
        have c3 : ¬ b ≤ l := by omega
        simp only [Entry.deplete, hla, hab, hlb, hT, if_true, if_false, Entry.subtract, c1, c2, c3,
          Entry.mk.injEq, and_true]
        rw [cast_mul_sub T a l h1, cast_mul_sub T b a h2, cast_mul_sub T b l (by omega)]
        ring
      · simp [Entry.deplete, hla, hab, hlb, hT]

theorem view_advance {s : St} {e : Nat} (a : Nat)
    (hl : ∀ x, s.energy a = some x → x.last ≤ s.epoch) (hle : s.epoch ≤ e) :
    St.view { s with epoch := e } a = (s.view a).deplete e := by
  unfold St.view
  show (match s.energy a with | some x => x.deplete e | none => Entry.zero e) = _
  cases hea : s.energy a with
  | none =>
    unfold Entry.deplete Entry.zero
    by_cases h : s.epoch = e <;> simp [h]
  | some x => exact (deplete_deplete x (hl x hea) hle).symm

end Mx.Energy
