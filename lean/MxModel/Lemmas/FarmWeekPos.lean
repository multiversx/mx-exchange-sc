/-
  The POSITION half of the week budget (Lemmas/FarmWeekSafe.lean `WeekBudget`, finding F6) in the
  farm: `WeekPos s`, the invariant `WV.Inv` of Lemmas/WeekView.lean on the farm's cells `wv s`.
  What makes it inductive, in the farm's terms:
    * `farmSupplyForWeek(w)` of a completed week is never written again (`set_farm_supply_for_current_week`);
    * every call into the weekly-rewards module for a user (`claim_multi`, `update_energy_and_progress`,
      `updateEnergyForUser`, `clear_user_energy`) sets that user's progress to the CURRENT week or clears
      it: the claimers of a completed week only leave;
    * `userTotalFarmPosition(v)` of a user `v ≠ orig` only decreases (`decrease_user_farm_position`), and
      every increase of `userTotalFarmPosition(orig)` happens AFTER `claim_boosted_yields_rewards(orig)`
      in the same transaction — which moves `orig`'s progress to the current week also when no
      boosted-yields config exists (`claimBoostedYields_userStep` has no config hypothesis; without
      the `None`-branch update, finding F6, this clause fails);
    * the running week `W` has `farmSupplyForWeek(W) = 0 ∨ farmSupplyForWeek(W) = farm_token_supply`,
      later weeks 0; when the week ends, `Σ_v userTotal(v) ≤ supply` (`PosInv`, C07) gives its bound.
  Kept by every `Move` (`Move.weekPos`) and, with `PosInv`, when time passes.
-/
import MxModel.Lemmas.FarmPool
import MxModel.Lemmas.FarmPos
import MxModel.Lemmas.WeekView

namespace Mx.Farm

open Mx.Weekly (upd upd_same upd_other Energy ClaimProgress usum usum_le usum_zero usum_add usersAfter newOf)

theorem usum_owned_le (s : St) (L : List Nat) (hnd : L.Nodup) : ∀ (N : List Nat),
    usum L (fun o => (N.map fun n => if ownerOf s n = some o then heldBy s n else 0).sum) ≤
      (N.map (heldBy s)).sum := by
  intro N
  induction N with
  | nil =>
    simp only [List.map_nil, List.sum_nil]
    exact Nat.le_of_eq (usum_zero (fun _ _ => rfl))
  | cons n N ih =>
    simp only [List.map_cons, List.sum_cons]
    rw [usum_add]
    have := Weekly.usum_indicator_le L hnd (ownerOf s n) (heldBy s n)
    omega

theorem PosInv.usum_total_le {s : St} (hP : PosInv s) {L : List Nat} (hnd : L.Nodup) :
    usum L s.userTotal ≤ s.supply := by
  rw [hP.sup]
  have e : usum L s.userTotal = usum L (ownedBy s) := Weekly.usum_congr (fun u _ => hP.own u)
  rw [e]
  exact usum_owned_le s L hnd (nonceList s)

def wv (s : St) : WV :=
  ⟨s.w.progress, s.w.users, s.userTotal, s.b.farmSupplyWeek, s.supply, s.epoch, s.firstWeekStart⟩

def WeekPos (s : St) : Prop := (wv s).Inv

def WkV.wv (v : WkV) : WV := ⟨v.w.progress, v.w.users, v.total, v.b.farmSupplyWeek, v.supply, v.epoch, v.fws⟩

theorem WeekPos.week {s : St} (h : WeekPos s) : ∃ W, s.week = some W := week_of_time h.time

/-- `b'` arbitrary up to `farmSupplyWeek`: the boosted claim also moves the pools -/
theorem WkV.wv_userStep {v : WkV} {g : Weekly.St} {b' : BSt} {u W : Nat} {cur : Energy}
    (hs : Weekly.UserStep v.w g u W cur) (hb : b'.farmSupplyWeek = v.b.farmSupplyWeek) :
    WkV.wv { v with w := g, b := b' } = v.wv.move u (newOf cur W) := by
  obtain ⟨hp, hu⟩ := hs.move
  show (⟨_, _, v.total, _, v.supply, v.epoch, v.fws⟩ : WV) = _
  rw [hp, hu, hb]; rfl

theorem Move.weekPos {v v' : WkV} {d d' : Nat} (m : Move v d v' d') (hI : v.wv.Inv) : v'.wv.Inv := by
  cases m with
  | gen _ hb => rcases hb with ⟨_, rfl⟩ | ⟨_, _, rfl⟩ <;> exact hI
  | @claim s _ u _ hv h =>
    subst hv
    obtain ⟨W, cur, hW, hs⟩ := claimBoostedYields_userStep h
    exact WkV.wv_userStep (v := wk s) hs (claimBoostedYields_spec h).fsw ▸
      WV.Inv.move hI hW u fun p hp => Nat.le_of_eq (Weekly.newOf_week p hp).symm
  | totals hW ht => exact WV.Inv.setTotal hI hW ht
  | @touch u W cur g hW h =>
    exact WkV.wv_userStep (b' := v.b) h.userStep rfl ▸
      WV.Inv.move hI hW u fun p hp => Nat.le_of_eq (Weekly.newOf_week p hp).symm
  | record x hW => exact WV.Inv.record hI hW x
  | _ => exact hI

theorem init_weekPos (kind : Kind) (sameTok : Bool) (dsc perBlock : Nat) (produce : Bool) (users : List Nat)
    (e0 : Nat) : WeekPos (init kind sameTok dsc perBlock produce users e0) :=
  ⟨Nat.le_refl _, List.nodup_nil, fun _ _ _ _ => Or.inl rfl, fun _ _ => Or.inl rfl, fun _ _ _ _ => rfl⟩

theorem step_weekPos {s s' : St} {op : Op} {o : Out} (hP : PosInv s) (hI : WeekPos s)
    (h : step s op = some (s', o)) : WeekPos s' := by
  rcases step_path h with ⟨b, e, he, rfl⟩ | ⟨_, _, _, hc⟩ | p
  · exact WV.Inv.advance hI (hP.usum_total_le hI.nodup) he
  · obtain ⟨b', u, e, k⟩ := hc.weeks
    show (wk s').wv.Inv
    rw [e]
    show WV.Inv ⟨_, _, s.userTotal, b'.farmSupplyWeek, s.supply, s.epoch, s.firstWeekStart⟩
    rw [k.farmSupplyWeek]; exact hI
  · exact p.inv (P := fun v _ => v.wv.Inv) Move.weekPos hI

theorem run_weekPos (ops : List Op) {s : St} (hP : PosInv s) (hI : WeekPos s) : WeekPos (run s ops) :=
  (run_induction (P := fun s => PosInv s ∧ WeekPos s) ops ⟨hP, hI⟩
    fun h hs => ⟨step_posInv h.1 hs, step_weekPos h.1 h.2 hs⟩).2

theorem reachable_weekPos (kind : Kind) (sameTok : Bool) (dsc perBlock : Nat) (produce : Bool)
    (users : List Nat) (e0 : Nat) (hnd : users.Nodup) (ops : List Op) :
    WeekPos (run (init kind sameTok dsc perBlock produce users e0) ops) :=
  run_weekPos ops (init_posInv kind sameTok dsc perBlock produce users e0 hnd)
    (init_weekPos kind sameTok dsc perBlock produce users e0)

end Mx.Farm
