/-
  C05, last clause, for EVERY legitimate caller.

  In Lemmas/FarmLivePlain.lean the account `c` that sends the payments (and receives the new position
  token) and the user `o` the endpoint acts for (boosted claim, reward payment / energy address, owner
  of the new token) are separate arguments of `claimCore_ok` / `enterCore_ok`; in Lemmas/FarmWeekLive.lean
  likewise for `exitFarm_gen_always`.  Here the ways a caller may legitimately act for a user are put
  in front of them: `opt_orig_caller` from a whitelisted contract (`claimRewards`, `enterFarm`) and the
  hub-authorised agent (`claimRewardsOnBehalf`, `enterFarmOnBehalf`); then all user calls are put under
  one statement: `step s op` succeeds exactly when the call-side guard `CallOk s op` holds
  (`callOk_of_isSome` in any state, `isSome_of_callOk` / `step_isSome_iff` in a state with the invariants).
-/
import MxModel.Lemmas.FarmLivePlain
import MxModel.Lemmas.AccessModelsFarm

namespace Mx.Farm

open Plain

theorem origCaller_some {s : St} {c o : Nat} (h : c ∈ s.scWl) : origCaller s c (some o) = some o := by
  simp [origCaller, req, h]

theorem origCaller_none (s : St) (c : Nat) : origCaller s c none = some c := rfl

theorem origCaller_ok {s : St} {c : Nat} {opt : Option Nat} (h : opt = none ∨ c ∈ s.scWl) :
    ∃ o, origCaller s c opt = some o := by
  cases opt with
  | none => exact ⟨c, rfl⟩
  | some o =>
    rcases h with h | h
    · cases h
    · exact ⟨o, origCaller_some h⟩

theorem known_isSome {s : St} {c : Nat} {r : Option (St × Out)} :
    (known s c r).isSome = true ↔ c ∈ s.users ∧ r.isSome = true := by
  unfold known; split <;> simp [*]

theorem known_ok {s : St} {c : Nat} {r : Option (St × Out)} (hu : c ∈ s.users) (h : r.isSome = true) :
    (known s c r).isSome = true := known_isSome.mpr ⟨hu, h⟩

theorem claimRewards_list_always {s : St} {W c : Nat} {opt : Option Nat} {pays : List (Nat × Nat)}
    (hG : Good s W) (ho : opt = none ∨ c ∈ s.scWl) (hact : s.active = true) (hne : pays ≠ [])
    (h0 : (takePayments s c pays).isSome = true) : (claimRewards s c opt pays).isSome = true := by
  obtain ⟨o, ho⟩ := origCaller_ok ho
  unfold claimRewards
  refine isSome_bind ho ?_
  cases pays with
  | nil => exact absurd rfl hne
  | cons p l => exact claimCore_ok (cmp := false) hG hact h0 (fun h => by cases h)

theorem claimRewardsOnBehalf_list_always {s : St} {W c u : Nat} {pays : List (Nat × Nat)}
    (hG : Good s W) (hown : claimOwner s pays = some u) (hhub : hubAllows s u c = true)
    (hact : s.active = true) (h0 : (takePayments s c pays).isSome = true) :
    (claimRewardsOnBehalf s c pays).isSome = true := by
  unfold claimRewardsOnBehalf
  refine isSome_bind' (Option.isSome_iff_exists.mp h0) (fun _ _ => ?_)
  refine isSome_bind hown ?_
  refine isSome_bind (a := ()) (req_pos hhub) ?_
  cases pays with
  | nil => cases hown
  | cons p l => exact claimCore_ok (cmp := false) hG hact h0 (fun h => by cases h)

theorem enterFarm_always {s : St} {W c amt : Nat} {opt : Option Nat} {extra : List (Nat × Nat)}
    (hG : Good s W) (ho : opt = none ∨ c ∈ s.scWl) (hact : s.active = true) (ha : amt ≠ 0)
    (h0 : (takePayments s c extra).isSome = true) : (enterFarm s c opt amt extra).isSome = true := by
  obtain ⟨o, ho⟩ := origCaller_ok ho
  unfold enterFarm
  exact isSome_bind ho (enterCore_ok hG hact ha h0)

theorem enterFarmOnBehalf_always {s : St} {W c u amt : Nat} {extra : List (Nat × Nat)}
    (hG : Good s W) (hhub : hubAllows s u c = true) (hown : allOwnedBy s u extra = true)
    (hact : s.active = true) (ha : amt ≠ 0) (h0 : (takePayments s c extra).isSome = true) :
    (enterFarmOnBehalf s c u amt extra).isSome = true := by
  unfold enterFarmOnBehalf
  refine isSome_bind (a := ()) (req_pos hhub) ?_
  refine isSome_bind (a := ()) (req_pos hown) ?_
  exact enterCore_ok hG hact ha h0

/-- the call-side guard of a user operation: what the caller has to get right.  Every conjunct is a
    `require!` of the endpoint or the transfer the VM would refuse (`takePayments`: amounts non-zero
    and covered, in order, by what the caller holds), but for two: `kind = .mint` (only dex/farm has
    `compoundRewards`) and `c ∈ s.users` (the `known` of `step`), a conjunct only of the calls that
    need no position token: whoever holds one is known (`Good.payer`, `PosInv.dom`).  An on-behalf
    call is by an agent the user (the recorded owner of the payments) authorised in the hub.
    `False` for the operations that are not user calls. -/
def CallOk (s : St) : Op → Prop
  | .enter c opt amt extra => c ∈ s.users ∧ s.active = true ∧ amt ≠ 0 ∧
      (takePayments s c extra).isSome = true ∧ (opt = none ∨ c ∈ s.scWl)
  | .enterOB c u amt extra => c ∈ s.users ∧ s.active = true ∧ amt ≠ 0 ∧
      (takePayments s c extra).isSome = true ∧ allOwnedBy s u extra = true ∧ c ∉ s.hubBl ∧ (u, c) ∈ s.hubWl
  | .claim c opt pays => s.active = true ∧ pays ≠ [] ∧ (takePayments s c pays).isSome = true ∧
      (opt = none ∨ c ∈ s.scWl)
  | .claimOB c pays => s.active = true ∧ (takePayments s c pays).isSome = true ∧
      ∃ u, claimOwner s pays = some u ∧ c ∉ s.hubBl ∧ (u, c) ∈ s.hubWl
  | .compound c opt pays => s.kind = .mint ∧ s.sameTok = true ∧ s.active = true ∧ pays ≠ [] ∧
      (takePayments s c pays).isSome = true ∧ (opt = none ∨ c ∈ s.scWl)
  | .exit c opt n a => s.active = true ∧ a ≠ 0 ∧ a ≤ s.hold c n ∧ (opt = none ∨ c ∈ s.scWl)
  | .merge c opt pays => s.active = true ∧ pays ≠ [] ∧ (takePayments s c pays).isSome = true ∧
      (opt = none ∨ c ∈ s.scWl)
  | .claimBoosted c u => c ∈ s.users ∧ s.active = true ∧ u.getD c = c ∧ s.userTotal c ≠ 0
  | _ => False

/-- the user calls; for any other operation `CallOk` is `False` though `step` may succeed, hence
    `hop` below -/
def Op.isCall : Op → Bool
  | .enter .. | .enterOB .. | .claim .. | .claimOB .. | .compound .. | .exit .. | .merge ..
  | .claimBoosted .. => true
  | _ => false

theorem callOk_of_isSome (s : St) (op : Op) (hop : op.isCall = true) (h : (step s op).isSome = true) :
    CallOk s op := by
  cases op
  case enter c opt amt extra =>
    obtain ⟨hu, h⟩ := known_isSome.mp h
    obtain ⟨r, hr⟩ := Option.isSome_iff_exists.mp h
    obtain ⟨orig, ho, hc⟩ := enterFarm_spec hr
    obtain ⟨h1, h2, h3⟩ := enterCore_guards hc
    exact ⟨hu, h1, h2, h3, origCaller_guard ho⟩
  case enterOB c u amt extra =>
    obtain ⟨hu, h⟩ := known_isSome.mp h
    obtain ⟨r, hr⟩ := Option.isSome_iff_exists.mp h
    obtain ⟨hh, hown, hc⟩ := enterFarmOnBehalf_spec hr
    obtain ⟨h1, h2, h3⟩ := enterCore_guards hc
    exact ⟨hu, h1, h2, h3, hown, (hubAllows_iff s u c).mp hh⟩
  case claim c opt pays =>
    obtain ⟨r, hr⟩ := Option.isSome_iff_exists.mp (known_isSome.mp h).2
    obtain ⟨orig, ho, hc⟩ := claimRewards_spec hr
    obtain ⟨h1, h2, h3, _⟩ := claimCore_guards hc
    exact ⟨h1, h2, h3, origCaller_guard ho⟩
  case claimOB c pays =>
    obtain ⟨r, hr⟩ := Option.isSome_iff_exists.mp (known_isSome.mp h).2
    obtain ⟨u, hu, hh, hc⟩ := claimRewardsOnBehalf_spec hr
    obtain ⟨h1, _, h3, _⟩ := claimCore_guards hc
    exact ⟨h1, h3, u, hu, (hubAllows_iff s u c).mp hh⟩
  case compound c opt pays =>
    obtain ⟨r, hr⟩ := Option.isSome_iff_exists.mp (known_isSome.mp h).2
    obtain ⟨hk, orig, ho, hc⟩ := compoundRewards_spec hr
    obtain ⟨h1, h2, h3, h4⟩ := claimCore_guards hc
    exact ⟨hk, h4 rfl, h1, h2, h3, origCaller_guard ho⟩
  case exit c opt n a =>
    obtain ⟨r, hr⟩ := Option.isSome_iff_exists.mp (known_isSome.mp h).2
    exact exitFarm_guards hr
  case merge c opt pays =>
    obtain ⟨r, hr⟩ := Option.isSome_iff_exists.mp (known_isSome.mp h).2
    exact mergeFarmTokens_guards hr
  case claimBoosted c u =>
    obtain ⟨hu, h⟩ := known_isSome.mp h
    obtain ⟨r, hr⟩ := Option.isSome_iff_exists.mp h
    exact ⟨hu, claimBoostedRewards_guards hr⟩
  all_goals cases hop

theorem isSome_of_callOk {s : St} {W : Nat} (hG : Good s W) (op : Op) (hop : op.isCall = true)
    (h : CallOk s op) : (step s op).isSome = true := by
  cases op
  case enter c opt amt extra =>
    obtain ⟨hu, hact, ha, h0, ho⟩ := h
    exact known_ok hu (enterFarm_always hG ho hact ha h0)
  case enterOB c u amt extra =>
    obtain ⟨hu, hact, ha, h0, hown, hbl, hwl⟩ := h
    exact known_ok hu (enterFarmOnBehalf_always hG ((hubAllows_iff s u c).mpr ⟨hbl, hwl⟩) hown hact ha h0)
  case claim c opt pays =>
    obtain ⟨hact, hne, h0, ho⟩ := h
    exact known_ok (hG.payer hne h0) (claimRewards_list_always hG ho hact hne h0)
  case claimOB c pays =>
    obtain ⟨hact, h0, u, hown, hbl, hwl⟩ := h
    exact known_ok (hG.payer (by rintro rfl; cases hown) h0)
      (claimRewardsOnBehalf_list_always hG hown ((hubAllows_iff s u c).mpr ⟨hbl, hwl⟩) hact h0)
  case compound c opt pays =>
    obtain ⟨hk, hst, hact, hne, h0, ho⟩ := h
    obtain ⟨o, ho⟩ := origCaller_ok ho
    refine known_ok (hG.payer hne h0) ?_
    unfold compoundRewards
    refine isSome_bind (a := ()) (req_pos hk) (isSome_bind ho ?_)
    cases pays with
    | nil => exact absurd rfl hne
    | cons p l => exact claimCore_ok (cmp := true) hG hact h0 (fun _ => ⟨hst, hk⟩)
  case exit c opt n a =>
    obtain ⟨hact, ha, hle, ho⟩ := h
    obtain ⟨o, ho⟩ := origCaller_ok ho
    exact known_ok (hG.pos.dom c n (by omega)).1
      (exitFarm_gen_always hG ho hact ha hle)
  case merge c opt pays =>
    obtain ⟨hact, hne, h0, ho⟩ := h
    obtain ⟨o, ho⟩ := origCaller_ok ho
    exact known_ok (hG.payer hne h0) (mergeFarmTokens_ok hG ho hact hne h0)
  case claimBoosted c u =>
    obtain ⟨hu, hact, hself, ht⟩ := h
    exact known_ok hu (claimBoostedRewards_ok hG hself hact ht)
  all_goals cases hop

theorem step_isSome_iff {s : St} {W : Nat} (hG : Good s W) (op : Op) (hop : op.isCall = true) :
    (step s op).isSome = true ↔ CallOk s op :=
  ⟨callOk_of_isSome s op hop, isSome_of_callOk hG op hop⟩

end Mx.Farm
