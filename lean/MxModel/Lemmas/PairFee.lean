/-
  What a trade does to a pair, said once: the relation `Moved` (the twelve direction-read numbers
  of the pair before and after, every change the addition of one of the trade's amounts), its
  composition, and fee routing (`send_fee`, `send_fee_slice`) as an instance of it (`Route`).
-/
import MxModel.Lemmas.OptionDo
import MxModel.Lemmas.PairArith

namespace Mx.Pair

def St.burnIn (s : St) : Dir → Nat
  | .ab => s.burn1
  | .ba => s.burn2
def St.burnOut (s : St) : Dir → Nat
  | .ab => s.burn2
  | .ba => s.burn1
def St.collIn (s : St) : Dir → Nat
  | .ab => s.coll1
  | .ba => s.coll2
def St.collOut (s : St) : Dir → Nat
  | .ab => s.coll2
  | .ba => s.coll1
def St.extIn (s : St) : Dir → Nat
  | .ab => s.ext1
  | .ba => s.ext2
def St.extOut (s : St) : Dir → Nat
  | .ab => s.ext2
  | .ba => s.ext1

/-- fields that fee routing never touches (nor does the credit of simple-lock's holdings that
    follows it in a swap: `slk1/slk2` are deliberately not listed) -/
def SameCfg (s s' : St) : Prop :=
  s'.S = s.S ∧ s'.lpCirc = s.lpCirc ∧ s'.lpOwn = s.lpOwn ∧ s'.status = s.status ∧
  s'.total = s.total ∧ s'.special = s.special ∧ s'.dests = s.dests ∧ s'.cut = s.cut ∧
  s'.adder = s.adder ∧ s'.wl = s.wl ∧ s'.round = s.round ∧ s'.sp = s.sp ∧
  s'.lockDeadline = s.lockDeadline ∧ s'.lockUnlockEpoch = s.lockUnlockEpoch ∧
  s'.lockSc = s.lockSc ∧ s'.epoch = s.epoch

/-- `dir_simp [h, …] at …` abbreviates `simp only` with the direction-generic getters and setters
    of `St`, the facts given and `SameCfg`, for use after `cases d`: what is left is arithmetic on
    plain fields.  Without facts it is `dir_simp [and_self]`.  (Closing such goals by `rfl` instead
    makes the unifier compare the nested record updates field by field, which is far dearer.) -/
syntax "dir_simp" (" [" Lean.Parser.Tactic.simpLemma,* "]")? (Lean.Parser.Tactic.location)? : tactic
macro_rules
  | `(tactic| dir_simp [$ls,*] $[$loc]?) =>
    `(tactic| simp only [St.rin, St.rout, St.balIn, St.balOut, St.burnIn, St.burnOut, St.collIn,
      St.collOut, St.extIn, St.extOut, St.slkIn, St.slkOut, St.xIn, St.xOut, St.setR, St.setBal,
      St.addBurnIn, St.addBurnOut, St.addCollIn, St.addExtIn, St.addExtOut, St.addSlkOut,
      St.setXIn, St.setXOut, St.touch, St.lockOn, St.locksOut, Dir.flip, SameCfg, Nat.add_zero,
      eq_self, and_self, $ls,*] $[$loc]?)
  | `(tactic| dir_simp $[$loc]?) => `(tactic| dir_simp [and_self] $[$loc]?)

theorem SameCfg.refl (s : St) : SameCfg s s :=
  ⟨rfl, rfl, rfl, rfl, rfl, rfl, rfl, rfl, rfl, rfl, rfl, rfl, rfl, rfl, rfl, rfl⟩

theorem SameCfg.trans {a b c : St} (h1 : SameCfg a b) (h2 : SameCfg b c) : SameCfg a c := by
  obtain ⟨a1, a2, a3, a4, a5, a6, a7, a8, a9, a10, a11, a12, a13, a14, a15, a16⟩ := h1
  obtain ⟨b1, b2, b3, b4, b5, b6, b7, b8, b9, b10, b11, b12, b13, b14, b15, b16⟩ := h2
  exact ⟨b1.trans a1, b2.trans a2, b3.trans a3, b4.trans a4, b5.trans a5, b6.trans a6,
    b7.trans a7, b8.trans a8, b9.trans a9, b10.trans a10, b11.trans a11, b12.trans a12,
    b13.trans a13, b14.trans a14, b15.trans a15, b16.trans a16⟩

theorem SameCfg.S {s s' : St} (h : SameCfg s s') : s'.S = s.S := h.1
theorem SameCfg.lpCirc {s s' : St} (h : SameCfg s s') : s'.lpCirc = s.lpCirc := h.2.1
theorem SameCfg.lpOwn {s s' : St} (h : SameCfg s s') : s'.lpOwn = s.lpOwn := h.2.2.1
theorem SameCfg.status {s s' : St} (h : SameCfg s s') : s'.status = s.status := h.2.2.2.1
theorem SameCfg.fees {s s' : St} (h : SameCfg s s') : s'.total = s.total ∧ s'.special = s.special :=
  ⟨h.2.2.2.2.1, h.2.2.2.2.2.1⟩
theorem SameCfg.obs {s s' : St} (h : SameCfg s s') : s'.round = s.round ∧ s'.sp = s.sp :=
  ⟨h.2.2.2.2.2.2.2.2.2.2.1, h.2.2.2.2.2.2.2.2.2.2.2.1⟩
theorem SameCfg.lockSc {s s' : St} (h : SameCfg s s') : s'.lockSc = s.lockSc :=
  h.2.2.2.2.2.2.2.2.2.2.2.2.2.2.1

theorem lock_congr {s s' : St} (h1 : s'.epoch = s.epoch) (h2 : s'.lockDeadline = s.lockDeadline)
    (h3 : s'.lockUnlockEpoch = s.lockUnlockEpoch) :
    s'.lockOn = s.lockOn ∧ s'.locksOut = s.locksOut := by
  simp only [St.lockOn, St.locksOut, h1, h2, h3, and_self]

theorem SameCfg.lockOn {s s' : St} (h : SameCfg s s') : s'.lockOn = s.lockOn :=
  (lock_congr h.2.2.2.2.2.2.2.2.2.2.2.2.2.2.2 h.2.2.2.2.2.2.2.2.2.2.2.2.1
    h.2.2.2.2.2.2.2.2.2.2.2.2.2.1).1
theorem SameCfg.locksOut {s s' : St} (h : SameCfg s s') : s'.locksOut = s.locksOut :=
  (lock_congr h.2.2.2.2.2.2.2.2.2.2.2.2.2.2.2 h.2.2.2.2.2.2.2.2.2.2.2.2.1
    h.2.2.2.2.2.2.2.2.2.2.2.2.2.1).2

/-- Effect of routing `spent` units of the input token of direction `d` away from the
    slack between balance and reserve: either the balance drops (burn / collector / trusted
    pair) or the reserve rises (local swap, whose output leaves balance and reserve alike). -/
structure FeeRel (d : Dir) (s s' : St) (spent : Nat) : Prop where
  inSide : s.balIn d + s'.rin d = s'.balIn d + s.rin d + spent
  outSide : s.balOut d + s'.rout d = s'.balOut d + s.rout d
  rinMono : s.rin d ≤ s'.rin d
  routAnti : s'.rout d ≤ s.rout d
  routPos : 0 < s.rout d → 0 < s'.rout d
  balInLe : s'.balIn d ≤ s.balIn d
  balOutLe : s'.balOut d ≤ s.balOut d
  kMono : s.rin d * s.rout d ≤ s'.rin d * s'.rout d
  same : SameCfg s s'

theorem FeeRel.status {d : Dir} {a b : St} {x : Nat} (h : FeeRel d a b x) : b.status = a.status :=
  h.same.2.2.2.1

/-- where a routed fee went: input token to the collector / burned / forwarded to a trusted pair /
    put into the input reserve by a local swap; the output token those local swaps bought, burned /
    forwarded -/
structure FeeSplit where
  coll : Nat := 0
  burnI : Nat := 0
  extI : Nat := 0
  loc : Nat := 0
  burnO : Nat := 0
  extO : Nat := 0

/-- what left the slack between input balance and input reserve -/
def FeeSplit.spent (f : FeeSplit) : Nat := f.coll + f.burnI + f.extI + f.loc

instance : Add FeeSplit :=
  ⟨fun f g => ⟨f.coll + g.coll, f.burnI + g.burnI, f.extI + g.extI, f.loc + g.loc,
    f.burnO + g.burnO, f.extO + g.extO⟩⟩

theorem FeeSplit.add_def (f g : FeeSplit) : f + g = ⟨f.coll + g.coll, f.burnI + g.burnI, f.extI + g.extI,
    f.loc + g.loc, f.burnO + g.burnO, f.extO + g.extO⟩ := rfl

theorem FeeSplit.spent_add (f g : FeeSplit) : (f + g).spent = f.spent + g.spent := by
  simp only [FeeSplit.spent, FeeSplit.add_def]
  omega

theorem FeeSplit.add_zero (f : FeeSplit) : f + {} = f := rfl

theorem FeeSplit.zero_add (f : FeeSplit) : {} + f = f := by
  simp only [FeeSplit.add_def, Nat.zero_add]

/-- What a trade in direction `d` does to the pair, read in that direction: reserves, real
    balances, the burn / collector / trusted-pair counters and simple-lock's holdings of the input
    and of the output token.  `pay` is what the caller's payment leaves on the input balance and
    `res` what of it enters the input reserve (`charged` and `charged − special fee` in a swap);
    `outR` leaves the output reserve and `outB` the output balance for the caller, `lk` of it
    through simple-lock as the backing of LOCKED tokens; `f` is what `send_fee` did with the fee.
    The product of the reserves does not fall (the contract's K check, and `noFee_k` for local fee
    swaps).  A swap is `Moved d s s' charged (charged − fee) out out locked f` (`SwapCore.moved`),
    `swapNoFeeAndForward` and fee routing alone (`Route`) are other instances.
    Every change is written as an addition, using the guard that makes the contract's checked
    subtraction succeed: trades then compose by adding amounts (`Moved.trans`), and no truncated
    subtraction appears before a consumer's own statement asks for one. -/
structure Moved (d : Dir) (s s' : St) (pay res outR outB lk : Nat) (f : FeeSplit) : Prop where
  rin : s'.rin d = s.rin d + res + f.loc
  rout : s'.rout d + outR + f.burnO + f.extO = s.rout d
  balIn : s'.balIn d + f.coll + f.burnI + f.extI = s.balIn d + pay
  balOut : s'.balOut d + outB + f.burnO + f.extO = s.balOut d
  burnIn : s'.burnIn d = s.burnIn d + f.burnI
  collIn : s'.collIn d = s.collIn d + f.coll
  extIn : s'.extIn d = s.extIn d + f.extI
  burnOut : s'.burnOut d = s.burnOut d + f.burnO
  extOut : s'.extOut d = s.extOut d + f.extO
  collOut : s'.collOut d = s.collOut d
  slkOut : s'.slkOut d = s.slkOut d + lk
  slkIn : s'.slkIn d = s.slkIn d
  k : s.rin d * s.rout d ≤ s'.rin d * s'.rout d

/-- `Moved` as one conjunction, so that one `simp only` can check an explicit state against it -/
theorem moved_iff {d : Dir} {s s' : St} {pay res outR outB lk : Nat} {f : FeeSplit} :
    Moved d s s' pay res outR outB lk f ↔
      s'.rin d = s.rin d + res + f.loc ∧ s'.rout d + outR + f.burnO + f.extO = s.rout d ∧
      s'.balIn d + f.coll + f.burnI + f.extI = s.balIn d + pay ∧
      s'.balOut d + outB + f.burnO + f.extO = s.balOut d ∧
      s'.burnIn d = s.burnIn d + f.burnI ∧ s'.collIn d = s.collIn d + f.coll ∧
      s'.extIn d = s.extIn d + f.extI ∧ s'.burnOut d = s.burnOut d + f.burnO ∧
      s'.extOut d = s.extOut d + f.extO ∧ s'.collOut d = s.collOut d ∧
      s'.slkOut d = s.slkOut d + lk ∧ s'.slkIn d = s.slkIn d ∧
      s.rin d * s.rout d ≤ s'.rin d * s'.rout d :=
  ⟨fun ⟨a1, a2, a3, a4, a5, a6, a7, a8, a9, a10, a11, a12, a13⟩ =>
      ⟨a1, a2, a3, a4, a5, a6, a7, a8, a9, a10, a11, a12, a13⟩,
    fun ⟨a1, a2, a3, a4, a5, a6, a7, a8, a9, a10, a11, a12, a13⟩ =>
      ⟨a1, a2, a3, a4, a5, a6, a7, a8, a9, a10, a11, a12, a13⟩⟩

theorem Moved.refl (d : Dir) (s : St) : Moved d s s 0 0 0 0 0 {} :=
  ⟨rfl, rfl, rfl, rfl, rfl, rfl, rfl, rfl, rfl, rfl, rfl, rfl, Nat.le_refl _⟩

theorem eq_add_trans {x y z a b : Nat} (h1 : y = x + a) (h2 : z = y + b) : z = x + (a + b) := by omega

theorem eq_add₂_trans {x y z a b c e : Nat} (h1 : y = x + a + b) (h2 : z = y + c + e) :
    z = x + (a + c) + (b + e) := by omega

theorem sum_eq_trans {x y z p q a b c a' b' c' : Nat} (h1 : y + a + b + c = x + p)
    (h2 : z + a' + b' + c' = y + q) : z + (a + a') + (b + b') + (c + c') = x + (p + q) := by omega

theorem Moved.trans {d : Dir} {a b c : St} {p1 r1 o1 q1 k1 p2 r2 o2 q2 k2 : Nat} {f g : FeeSplit}
    (h1 : Moved d a b p1 r1 o1 q1 k1 f) (h2 : Moved d b c p2 r2 o2 q2 k2 g) :
    Moved d a c (p1 + p2) (r1 + r2) (o1 + o2) (q1 + q2) (k1 + k2) (f + g) :=
  ⟨eq_add₂_trans h1.rin h2.rin, sum_eq_trans (p := 0) (q := 0) h1.rout h2.rout, sum_eq_trans h1.balIn h2.balIn,
    sum_eq_trans (p := 0) (q := 0) h1.balOut h2.balOut, eq_add_trans h1.burnIn h2.burnIn,
    eq_add_trans h1.collIn h2.collIn, eq_add_trans h1.extIn h2.extIn, eq_add_trans h1.burnOut h2.burnOut,
    eq_add_trans h1.extOut h2.extOut, h2.collOut.trans h1.collOut, eq_add_trans h1.slkOut h2.slkOut,
    h2.slkIn.trans h1.slkIn, Nat.le_trans h1.k h2.k⟩

/-! what the equations say when the routed amounts are not of interest -/

section
variable {d : Dir} {s s' : St} {pay res outR outB lk : Nat} {f : FeeSplit}

theorem Moved.balIn_le (h : Moved d s s' pay res outR outB lk f) : s'.balIn d ≤ s.balIn d + pay := by
  have := h.balIn
  omega

theorem Moved.balIn_ge (h : Moved d s s' pay res outR outB lk f) :
    s.balIn d + pay ≤ s'.balIn d + f.spent := by
  have := h.balIn
  unfold FeeSplit.spent
  omega

theorem Moved.rin_ge (h : Moved d s s' pay res outR outB lk f) : s.rin d + res ≤ s'.rin d := by
  rw [h.rin]
  exact Nat.le_add_right _ _

theorem Moved.rin_le (h : Moved d s s' pay res outR outB lk f) :
    s'.rin d ≤ s.rin d + res + f.spent := by
  rw [h.rin]
  unfold FeeSplit.spent
  omega

theorem Moved.rout_le (h : Moved d s s' pay res outR outB lk f) : s'.rout d + outR ≤ s.rout d := by
  have := h.rout
  omega

/-- what leaves the output reserve beyond `outR` leaves the output balance beyond `outB` -/
theorem Moved.out_same (h : Moved d s s' pay res outR outB lk f) :
    s'.balOut d + outB + (s.rout d - s'.rout d) = s.balOut d + outR := by
  have := h.rout
  have := h.balOut
  omega

theorem Moved.unrouted (h : Moved d s s' pay res outR outB lk {}) :
    s'.rin d = s.rin d + res ∧ s'.rout d + outR = s.rout d ∧ s'.balIn d = s.balIn d + pay ∧
    s'.balOut d + outB = s.balOut d ∧ s'.burnIn d = s.burnIn d ∧ s'.collIn d = s.collIn d ∧
    s'.extIn d = s.extIn d ∧ s'.burnOut d = s.burnOut d ∧ s'.extOut d = s.extOut d :=
  ⟨h.rin, h.rout, h.balIn, h.balOut, h.burnIn, h.collIn, h.extIn, h.burnOut, h.extOut⟩

end

/-- fee routing: `f` leaves the slack between input balance and input reserve, nothing else moves -/
def Route (d : Dir) (s s' : St) (f : FeeSplit) : Prop := Moved d s s' 0 0 0 0 0 f ∧ SameCfg s s'

theorem Route.refl (d : Dir) (s : St) : Route d s s {} := ⟨.refl d s, .refl s⟩

theorem Route.trans {d : Dir} {a b c : St} {f g : FeeSplit} (h1 : Route d a b f) (h2 : Route d b c g) :
    Route d a c (f + g) := ⟨h1.1.trans h2.1, h1.2.trans h2.2⟩

theorem debitIn_spec {s s' : St} {d : Dir} {x : Nat} (h : s.debitIn d x = some s') :
    x ≤ s.balIn d ∧ s' = s.setBal d (s.balIn d - x) (s.balOut d) := by
  obtain ⟨hle, h⟩ := peel_sub h
  exact ⟨hle, (Option.some.inj h).symm⟩

theorem debitOut_spec {s s' : St} {d : Dir} {x : Nat} (h : s.debitOut d x = some s') :
    x ≤ s.balOut d ∧ s' = s.setBal d (s.balIn d) (s.balOut d - x) := by
  obtain ⟨hle, h⟩ := peel_sub h
  exact ⟨hle, (Option.some.inj h).symm⟩

theorem localSwap_spec {s s' : St} {d : Dir} {a out : Nat}
    (h : s.localSwap d a = some (s', out)) :
    s.rin d ≠ 0 ∧ out = amountOutNoFee a (s.rin d) (s.rout d) ∧ out < s.rout d ∧ out ≠ 0 ∧
    s' = s.setR d (s.rin d + a) (s.rout d - out) := by
  obtain ⟨h0, h⟩ := peel_req h
  obtain ⟨⟨h1, h2⟩, h⟩ := peel_req h
  obtain ⟨rfl, rfl⟩ := Prod.mk.inj (Option.some.inj h)
  exact ⟨h0, rfl, h1, h2, rfl⟩

theorem feeSlice_spec {s s' : St} {d : Dir} {slice : Nat} {w : Want}
    (h : s.feeSlice d slice w = some s') : ∃ f, f.spent = slice ∧ Route d s s' f := by
  unfold St.feeSlice at h
  split at h
  · -- burn
    obtain ⟨s1, h1, h⟩ := peel h
    obtain ⟨hb, rfl⟩ := debitIn_spec h1
    obtain rfl := Option.some.inj h
    refine ⟨{ burnI := slice }, Nat.zero_add _, ?_⟩
    cases d <;> dir_simp at hb <;> dir_simp [Route, moved_iff, Nat.sub_add_cancel hb, Nat.le_refl]
  · split at h
    · -- local swap, burn the output
      obtain ⟨⟨s1, out⟩, hl, h⟩ := peel h
      obtain ⟨_, ho, hlt, _, rfl⟩ := localSwap_spec hl
      obtain ⟨s2, h2, h⟩ := peel h
      obtain ⟨hb, rfl⟩ := debitOut_spec h2
      obtain rfl := Option.some.inj h
      have hk := noFee_k slice _ _ (ho ▸ Nat.le_of_lt hlt)
      rw [← ho] at hk
      refine ⟨{ loc := slice, burnO := out }, Nat.zero_add _, ?_⟩
      cases d <;> dir_simp at hb hlt hk <;>
        dir_simp [Route, moved_iff, Nat.sub_add_cancel hb, Nat.sub_add_cancel (Nat.le_of_lt hlt), hk]
    · split at h
      · -- trusted pair for the input token
        obtain ⟨x', _, h⟩ := peel h
        obtain ⟨s1, h1, h⟩ := peel h
        obtain ⟨hb, rfl⟩ := debitIn_spec h1
        obtain rfl := Option.some.inj h
        refine ⟨{ extI := slice }, Nat.zero_add _, ?_⟩
        cases d <;> dir_simp at hb <;>
          dir_simp [Route, moved_iff, Nat.sub_add_cancel hb, Nat.le_refl]
      · split at h
        · -- local swap then trusted pair for the output token
          obtain ⟨⟨s1, out⟩, hl, h⟩ := peel h
          obtain ⟨_, ho, hlt, _, rfl⟩ := localSwap_spec hl
          obtain ⟨x', _, h⟩ := peel h
          obtain ⟨s2, h2, h⟩ := peel h
          obtain ⟨hb, rfl⟩ := debitOut_spec h2
          obtain rfl := Option.some.inj h
          have hk := noFee_k slice _ _ (ho ▸ Nat.le_of_lt hlt)
          rw [← ho] at hk
          refine ⟨{ loc := slice, extO := out }, Nat.zero_add _, ?_⟩
          cases d <;> dir_simp at hb hlt hk <;>
            dir_simp [Route, moved_iff, Nat.sub_add_cancel hb, Nat.sub_add_cancel (Nat.le_of_lt hlt), hk]
        · cases h

theorem feeSlices_spec {d : Dir} {slice : Nat} (ws : List Want) {s s' : St}
    (h : s.feeSlices d slice ws = some s') : ∃ f, f.spent = slice * ws.length ∧ Route d s s' f := by
  induction ws generalizing s with
  | nil =>
    obtain rfl := Option.some.inj h
    exact ⟨{}, rfl, .refl d s⟩
  | cons w ws ih =>
    obtain ⟨s1, h1, h2⟩ := peel h
    obtain ⟨f, hf, r1⟩ := feeSlice_spec h1
    obtain ⟨g, hg, r2⟩ := ih h2
    exact ⟨f + g, by rw [FeeSplit.spent_add, hf, hg, List.length_cons, Nat.mul_succ, Nat.add_comm],
      r1.trans r2⟩

theorem collectorCut_spec {s s' : St} {d : Dir} {fee rem : Nat}
    (h : s.collectorCut d fee = some (s', rem)) :
    ∃ f, f.spent + rem = fee ∧ Route d s s' f := by
  unfold St.collectorCut at h
  split at h
  · generalize fee * _ / M = cutAmt at h
    obtain ⟨hle, h⟩ := peel_sub h
    split at h
    · obtain ⟨s1, h1, h⟩ := peel h
      obtain ⟨hb, rfl⟩ := debitIn_spec h1
      obtain ⟨rfl, rfl⟩ := Prod.mk.inj (Option.some.inj h)
      refine ⟨{ coll := cutAmt }, Nat.add_sub_cancel' hle, ?_⟩
      cases d <;> dir_simp at hb <;> dir_simp [Route, moved_iff, Nat.sub_add_cancel hb, Nat.le_refl]
    · obtain ⟨rfl, rfl⟩ := Prod.mk.inj (Option.some.inj h)
      exact ⟨{}, by show 0 + (fee - cutAmt) = fee; omega, .refl d s⟩
  · obtain ⟨rfl, rfl⟩ := Prod.mk.inj (Option.some.inj h)
    exact ⟨{}, Nat.zero_add _, .refl d s⟩

/-- `≤`, not `=`: each destination gets `rem / n`, and the remainder of that division (all of `rem` when
    there is no destination or the slice rounds to 0) stays in the slack between balance and reserve,
    as in `send_fee` -/
theorem sendFee_spec {s s' : St} {d : Dir} {fee : Nat} (h : s.sendFee d fee = some s') :
    ∃ f, f.spent ≤ fee ∧ (fee = 0 → f = {}) ∧ Route d s s' f := by
  unfold St.sendFee at h
  split at h
  · obtain rfl := Option.some.inj h
    exact ⟨{}, Nat.zero_le _, fun _ => rfl, .refl d s⟩
  · rename_i hne
    obtain ⟨⟨s1, rem⟩, hc, h⟩ := peel h
    obtain ⟨f, hf, r1⟩ := collectorCut_spec hc
    dsimp only at h
    split at h
    · obtain rfl := Option.some.inj h
      exact ⟨f, by omega, fun h0 => absurd h0 hne, r1⟩
    · split at h
      · obtain rfl := Option.some.inj h
        exact ⟨f, by omega, fun h0 => absurd h0 hne, r1⟩
      · obtain ⟨g, hg, r2⟩ := feeSlices_spec _ h
        refine ⟨f + g, ?_, fun h0 => absurd h0 hne, r1.trans r2⟩
        have := Nat.div_mul_le_self rem s1.dests.length
        rw [FeeSplit.spent_add]
        omega

/-- a zero fee (the fee switch is off, or the special fee rounds to 0) routes nothing -/
theorem sendFee_zero (s : St) (d : Dir) : s.sendFee d 0 = some s := if_pos rfl

end Mx.Pair
