/-
  The calls of the farm into the weekly-rewards module cannot abort in a state with the invariants.
  All of them go through `update_user_energy_for_current_week`, which needs `GInv` and
  `lastGlobalUpdateWeek ≤ current week` (`Weekly.updateUser_ok`, Lemmas/WeeklyLive.lean; both are
  parts of the farm's invariants); that the reward loop of the boosted claim cannot abort either is
  `claimBoostedYields_total` (Lemmas/FarmWeekPaid.lean).  With the building blocks of
  Lemmas/FarmLive.lean this gives `exitFarm_gen_always`: a forward walk through the body of
  `exitFarm` in a state with all the invariants (`Plain.Good`; every reachable state,
  `Plain.reachable_good`).  The walk carries the bundle `WkV.Budget` along the helper-level moves
  (`generate_move`, `claim_move`, …, Lemmas/FarmWk.lean), so that each weekly call finds its
  invariants in the intermediate state it runs in.
-/
import MxModel.Lemmas.FarmWeekPaid
import MxModel.Lemmas.WeeklyLive
import MxModel.Lemmas.FarmLive
import MxModel.Lemmas.FarmCover

namespace Mx.Farm

open Mx.Weekly (upd Energy)

theorem weekly_update_ok {s : St} {W : Nat} (hP : PM s W) (hWI : WInv s) (u : Nat) (cur : Energy) :
    (Weekly.updateUserEnergyForCurrentWeek s.w W cur (s.w.progress u)).isSome = true := by
  have hWk : s.week = some W := hP.week
  obtain ⟨g', hg'⟩ := Weekly.updateUser_ok (u0 := u) cur (week_pos hWk) hWI.1 hP.lgw
  rw [hg']; rfl

theorem claimBoostedYields_ok {s : St} {W : Nat} (hP : PM s W) (hWI : WInv s) (hWP : WeekPos s) (u : Nat) :
    (claimBoostedYields s u).isSome = true :=
  claimBoostedYields_total hP hWI hWP (weekly_update_ok hP hWI u _)

theorem clearUserEnergyIfNeeded_ok {s : St} {W : Nat} (hP : PM s W) (hWI : WInv s) (u : Nat) :
    (clearUserEnergyIfNeeded s u).isSome = true := by
  have hWk : s.week = some W := hP.week
  unfold clearUserEnergyIfNeeded
  cases hc : s.b.cfg with
  | none => rfl
  | some cfg =>
    obtain ⟨hWF, hL, _⟩ := hP.wf cfg hc
    obtain ⟨mem, hmem⟩ := cfg.update_defined none hL
    simp only [hWk, hmem, Option.bind_eq_bind, Option.bind_some, Option.pure_def]
    by_cases hm : mem.latest.minF ≤ s.userTotal u
    · rw [Weekly.clearUserEnergy_iff.mpr (Or.inl ⟨hm, rfl⟩)]; rfl
    · obtain ⟨g1, hg1⟩ := Option.isSome_iff_exists.mp
        (weekly_update_ok hP hWI u (Energy.newZero s.epoch))
      rw [Weekly.clearUserEnergy_iff.mpr (Or.inr ⟨Nat.lt_of_not_le hm, g1, hg1, rfl⟩)]; rfl

/-! `Plain`: liveness of the user endpoints.  The name is that of the plain user calls of Props/C05Live.lean
(the caller acts for itself: no `opt_orig_caller`, no on-behalf variant), for which the theorems were first
stated; the `X_ok` lemmas of Lemmas/FarmLivePlain.lean hold for any payer and any original caller. -/
namespace Plain

/-- The state invariants the liveness walks read, `W` the current week: accounting, positions, potential,
    pools, attributes, the paid budget and the two weekly invariants.  Not in the bundle, because no walk needs
    them: `AccInv`, `MarkInv` (Lemmas/FarmFrozen.lean), `CollInv` (FarmColl), `EQ` (FarmClose). -/
structure Good (s : St) (W : Nat) : Prop where
  acct : Acct s
  pos : PosInv s
  pot : PotInv s
  pool : PoolInv s
  x : XInv s
  dsc : s.dsc ≠ 0
  pm : PM s W
  wi : WInv s
  wp : WeekPos s

theorem reachable_good (kind : Kind) (same : Bool) (dsc pb : Nat) (produce : Bool) (users : List Nat)
    (e0 : Nat) (hnd : users.Nodup) (hd : dsc ≠ 0) (ops : List Op) :
    ∃ W, Good (run (init kind same dsc pb produce users e0) ops) W := by
  obtain ⟨hA, hP, hK, hI, hdsc⟩ := reachable_invs kind same dsc pb produce users e0 hnd ops
  have hWP := reachable_weekPos kind same dsc pb produce users e0 hnd ops
  obtain ⟨W, hW⟩ := hWP.week
  exact ⟨W, hA, hP, hK, hI, reachable_xinv kind same dsc pb produce users e0 ops,
    by rw [hdsc]; exact hd, reachable_paidInv kind same dsc pb produce users e0 hnd ops W hW,
    reachable_winv kind same dsc pb produce users e0 ops, hWP⟩

theorem Good.budget {s : St} {W : Nat} (hG : Good s W) : (wk s).Budget W :=
  ⟨hG.pm.week, hG.wi, hG.wp, hG.pm⟩

end Plain

/-- `c` holds the position, `o` is the user the endpoint acts for, and the walk keeps them apart:
    the boosted claim, the payment and the closing call are `o`'s, the owner total that shrinks is
    the recorded owner's -/
theorem exitFarm_gen_always {s : St} {W c o n a : Nat} {opt : Option Nat} (hG : Plain.Good s W)
    (ho : origCaller s c opt = some o) (hact : s.active = true) (ha : a ≠ 0) (hle : a ≤ s.hold c n) :
    (exitFarm s c opt n a).isSome = true := by
  obtain ⟨hA, hPos, hK, hI, hX, hd, hP, hWI, hWP⟩ := hG
  obtain ⟨_, _, hsome⟩ := hPos.dom c n (by omega)
  obtain ⟨att, hat⟩ := Option.isSome_iff_exists.mp hsome
  obtain ⟨hamt, hep⟩ := hX.1 n att hat
  have hheld := held_le_supply hPos ha hle
  have h0 := takePayments_single ha hsome hle
  generalize upd s.hold c (upd (s.hold c) n (s.hold c n - a)) = h' at h0
  unfold exitFarm
  refine isSome_bind ho (isSome_bind h0 (isSome_bind (a := ()) (req_pos hact) (isSome_bind hat ?_)))
  obtain ⟨s1, c1, h1⟩ := generate_ok (s := { s with hold := h' }) (Cache.read { s with hold := h' })
    hI.time hI.pct
  refine isSome_bind h1 ?_
  refine isSome_bind' (intoPart_ok a hamt) (fun part hpart => ?_)
  obtain ⟨p1, p2, p3, _⟩ := intoPart_spec hpart
  have b1 := (generate_move (d := 0) h1).1.budget (v := wk { s with hold := h' }) ⟨hP.week, hWI, hWP, hP⟩
  refine isSome_bind' (Option.isSome_iff_exists.mp (claimBoostedYields_ok b1.pm b1.wi b1.wp o)) (fun r h2 => ?_)
  obtain ⟨s2, boosted⟩ := r
  have hres := reward_le_reserve hA hPos hK hI hd h0 h1 hat h2
  rw [← p2] at hres
  refine isSome_bind (sub?_pos hres) ?_
  have hsup : part.amt ≤ c1.supply := by rw [p1, (generate_eq h1).2.2]; exact hheld
  refine isSome_bind (sub?_pos hsup) ?_
  obtain ⟨m2, st2⟩ := claim_move (d := 0) h2
  have b3 := (totals_move (d := 0 + boosted) (t := upd s2.userTotal att.owner (s2.userTotal att.owner - a)) st2
    fun _ _ => Weekly.upd_sub_le _ _ _ _).budget (m2.budget b1)
  refine isSome_bind' (setFarmSupplyWeek_ok (s := decreaseOwner s2 att.owner a) _ b3.week) (fun s4 h4 => ?_)
  have b4 := (record_move (d := 0 + boosted) h4 ⟨c1.reserve - _, c1.rps, c1.supply - part.amt⟩ rfl).budget b3
  have x4 : xv s4 = xv s :=
    (setFarmSupplyWeek_xv h4).trans ((claimBoostedYields_xv h2).trans ((generate_xv h1).trans (rfl : xv ({ s with hold := h' } : St) = xv s)))
  have fx4 : fixed s4 = fixed s :=
    (setFarmSupplyWeek_fixed h4).trans ((claimBoostedYields_fixed h2).trans ((generate_fixed h1).trans (rfl : fixed ({ s with hold := h' } : St) = fixed s)))
  have v4 : av s4 = av s1 := (setFarmSupplyWeek_av h4).trans (claimBoostedYields_av h2 : av s2 = av s1)
  have e4 : s4.epoch = s.epoch := congrArg XV.epoch x4
  have e4p : s4.penaltyPct = s.penaltyPct := congrArg XV.penaltyPct x4
  obtain ⟨pen, hpen, hpl⟩ := exitPenalty_ok (s := s4) part.amt part.epoch (by rw [p3, e4]; exact hep)
    (by rw [e4p]; exact hX.2.1)
  refine isSome_bind hpen (isSome_bind (sub?_pos hpl) ?_)
  have hbf : part.amt ≤ s4.balFarming := by
    have b4 : s4.balFarming = s1.balFarming := congrArg AV.balFarming v4
    have b1 : s1.balFarming = s.balFarming := congrArg AV.balFarming (generate_av h1).1
    rw [b4, b1, p1, hA.prin]; exact hheld
  refine isSome_bind' (removeFarming_ok pen hbf) (fun s6 h6 => ?_)
  have x6 : xv s6 = xv s := (removeFarming_xv h6).trans x4
  have k6 : s6.kind = s.kind := congrArg Fixed.kind ((removeFarming_fixed h6).trans fx4)
  refine isSome_bind' (payReward_ok o _ boosted (fun hk => ?_) ((congrArg XV.lockEpochs x6).trans hX.2.2))
    (fun s7 h7 => ?_)
  · -- a minting farm holds its settled reserve in reward tokens
    have q6 : s6.balReward = s4.balReward := congrArg AV.balReward (removeFarming_av h6).2
    have q4 : s4.balReward = s1.balReward := congrArg AV.balReward v4
    rw [q6, q4, balReward_eq_reserve (s := { s with hold := h' }) (hA.of_eq rfl rfl) (k6.symm.trans hk) h1]
    exact hres
  · obtain ⟨_, rfl⟩ := removeFarming_spec h6
    have b7 := (payReward_move (d := 0) h7).budget b4
    exact isSome_bind' (Option.isSome_iff_exists.mp (clearUserEnergyIfNeeded_ok b7.pm b7.wi o)) (fun _ _ => rfl)

end Mx.Farm
