/-
  The pair invariant `Inv` (C01) and its preservation.  Every trading endpoint is a `Moved` and goes
  through `Moved.inv`; the liquidity endpoints are `omega` on their spec.  `run_induction` is the one
  induction over histories of the pair world.
-/
import MxModel.Lemmas.PairSpec

namespace Mx.Pair

/-- C01's invariant: reported reserves are backed by real balances, the reported LP supply
    is the circulating LP, and once liquidity exists both reserves stay positive and the
    pair itself holds the 1000 locked LP units. -/
structure Inv (s : St) : Prop where
  back1 : s.r1 ≤ s.bal1
  back2 : s.r2 ≤ s.bal2
  supply : s.S = s.lpCirc
  pos : 0 < s.S → 0 < s.r1 ∧ 0 < s.r2 ∧ MINLIQ ≤ s.S
  ownPos : 0 < s.S → s.lpOwn = MINLIQ
  ownZero : s.S = 0 → s.lpOwn = 0

theorem inv_init (t sp : Nat) (ad : Option Nat) (cap : Nat) : Inv (init t sp ad cap) := by
  constructor <;> simp [init]

theorem Inv.dir {s : St} (hi : Inv s) (d : Dir) :
    s.rin d ≤ s.balIn d ∧ s.rout d ≤ s.balOut d ∧ (0 < s.S → 0 < s.rin d ∧ 0 < s.rout d) := by
  cases d
  · exact ⟨hi.back1, hi.back2, fun h => ⟨(hi.pos h).1, (hi.pos h).2.1⟩⟩
  · exact ⟨hi.back2, hi.back1, fun h => ⟨(hi.pos h).2.1, (hi.pos h).1⟩⟩

theorem Inv.of_dir {s s' : St} (hi : Inv s) (d : Dir) (hS : s'.S = s.S)
    (hC : s'.lpCirc = s.lpCirc) (hO : s'.lpOwn = s.lpOwn) (h1 : s'.rin d ≤ s'.balIn d)
    (h2 : s'.rout d ≤ s'.balOut d) (hp : 0 < s.S → 0 < s'.rin d ∧ 0 < s'.rout d) : Inv s' := by
  have hpos : 0 < s'.S → 0 < s'.r1 ∧ 0 < s'.r2 ∧ MINLIQ ≤ s'.S := by
    rw [hS]
    intro h
    have := hp h
    cases d
    · exact ⟨this.1, this.2, (hi.pos h).2.2⟩
    · exact ⟨this.2, this.1, (hi.pos h).2.2⟩
  have hb : s'.r1 ≤ s'.bal1 ∧ s'.r2 ≤ s'.bal2 := by
    cases d
    · exact ⟨h1, h2⟩
    · exact ⟨h2, h1⟩
  exact ⟨hb.1, hb.2, by rw [hS, hC]; exact hi.supply, hpos, by rw [hS, hO]; exact hi.ownPos,
    by rw [hS, hO]; exact hi.ownZero⟩

theorem pos_of_k {a b a' b' : Nat} (hk : a * b ≤ a' * b') (ha : 0 < a) (hb : 0 < b) :
    0 < a' ∧ 0 < b' := by
  have h := Nat.lt_of_lt_of_le (Nat.mul_pos ha hb) hk
  exact ⟨Nat.pos_of_mul_pos_right h, Nat.pos_of_mul_pos_left h⟩

/-- `hin` is `s'.rin d ≤ s'.balIn d` written over `s`: the input balance with the payment covers the
    reserve, what enters it and all that fee routing takes (`f.spent`).  `hout`: the output balance
    loses no more than the output reserve. -/
theorem Moved.inv {s s' : St} {d : Dir} {pay res outR outB lk : Nat} {f : FeeSplit} (hi : Inv s)
    (h : Moved d s s' pay res outR outB lk f) (hS : s'.S = s.S) (hC : s'.lpCirc = s.lpCirc)
    (hO : s'.lpOwn = s.lpOwn) (hin : s.rin d + res + f.spent ≤ s.balIn d + pay)
    (hout : outB ≤ outR) : Inv s' := by
  obtain ⟨_, b2, bp⟩ := hi.dir d
  have e1 := h.rin
  have e2 := h.rout
  have e3 := h.balIn
  have e4 := h.balOut
  unfold FeeSplit.spent at hin
  exact hi.of_dir d hS hC hO (by omega) (by omega) fun hp => pos_of_k h.k (bp hp).1 (bp hp).2

theorem swap_inv {s s' : St} {d : Dir} {c out : Nat} (hi : Inv s) (hout : out < s.rout d)
    (h : SwapCore s d c out s') : Inv s' := by
  obtain ⟨f, hf, -, hm, hc⟩ := h.moved (Nat.le_of_lt hout)
  have := h.1
  have := (hi.dir d).1
  exact hm.inv hi hc.S hc.lpCirc hc.lpOwn (by omega) (Nat.le_refl _)

theorem addInitial_inv {s s' : St} {c a1 a2 : Nat} {o : Out} (hi : Inv s)
    (h : addInitial s c a1 a2 = some (s', o)) : Inv s' := by
  obtain ⟨_, h1, h2, _, h4, h5, _, rfl⟩ := addInitial_spec h
  obtain ⟨b1, b2, sup, pos, own, own0⟩ := hi
  have hM : MINLIQ = 1000 := rfl
  have := own0 h4
  constructor <;> simp only [] <;> omega

theorem addLiq_inv {s s' : St} {a1 a2 m1 m2 : Nat} {o : Out} (hi : Inv s)
    (h : addLiq s a1 a2 m1 m2 = some (s', o)) : Inv s' := by
  obtain ⟨b1, b2, sup, pos, own, own0⟩ := hi
  have hM : MINLIQ = 1000 := rfl
  by_cases hS : s.S = 0
  · obtain ⟨h1, h2, _, _, h5, _, rfl⟩ := addLiq_first_spec hS h
    have := own0 hS
    simp only [St.touch] at *
    constructor <;> simp only [] <;> omega
  · obtain ⟨o1, o2, t⟩ := addLiq_spec hS h
    obtain rfl := t.state
    have h10 := t.liq_pos
    have := pos (by omega)
    have := own (by omega)
    simp only [St.touch] at *
    constructor <;> simp only [] <;> omega

theorem removeLiq_inv {s s' : St} {lp m1 m2 : Nat} {o : Out} (hi : Inv s)
    (h : removeLiq s lp m1 m2 = some (s', o)) : Inv s' := by
  obtain ⟨b1, b2, sup, pos, own, own0⟩ := hi
  have hM : MINLIQ = 1000 := rfl
  have t := removeLiq_spec h
  obtain rfl := t.state
  have := t.lp_pos
  have := t.minliq
  have := t.x1_pos
  have := t.x1_lt
  have := t.x2_pos
  have := t.x2_lt
  have := t.lpCirc
  have := t.bal1
  have := t.bal2
  have := pos (by omega)
  have := own (by omega)
  simp only [St.touch] at *
  constructor <;> simp only [] <;> omega

theorem swapNoFee_inv {s s' : St} {c : Nat} {d : Dir} {a : Nat} {o : Out} (hi : Inv s)
    (h : swapNoFee s c d a = some (s', o)) : Inv s' := by
  obtain ⟨hm, hc⟩ := swapNoFee_moved h
  have := (hi.dir d).1
  exact hm.inv hi hc.S hc.lpCirc hc.lpOwn (by show _ + _ + (0 + 0 + 0 + 0) ≤ _; omega) (Nat.le_refl _)

theorem buyback_inv {s s' : St} {c lp : Nat} {w : Want} {o : Out} (hi : Inv s)
    (h : buyback s c lp w = some (s', o)) : Inv s' := by
  obtain ⟨s2, f1, f2, t⟩ := buyback_spec h
  obtain rfl := t.out
  have h2 := t.lp_pos
  have h3 := t.minliq
  have h5 := t.x1_pos
  have h6 := t.x1_lt
  have h7 := t.x2_pos
  have h8 := t.x2_lt
  have h9 := t.lpCirc
  have e1 := t.spent1
  have e2 := t.spent2
  obtain ⟨m1, c1⟩ := t.feeSlice1
  obtain ⟨m2, c2⟩ := t.feeSlice2
  have hM : MINLIQ = 1000 := rfl
  have hp := hi.pos (by omega)
  have ho := hi.ownPos (by omega)
  have hb1 := hi.back1
  have hb2 := hi.back2
  have hs := hi.supply
  simp only at h5 h6 h7 h8 e1 e2 m1 c1
  generalize lp * s.r1 / s.S = x1 at *
  generalize lp * s.r2 / s.S = x2 at *
  -- the removal takes `x1`, `x2` out of the reserves and leaves the balances: the state between
  -- satisfies `Inv` with exactly `x1`, `x2` of slack
  have hi1 : Inv { s.touch with
      S := s.S - lp, r1 := s.r1 - x1, r2 := s.r2 - x2, lpCirc := s.lpCirc - lp } :=
    ⟨show s.r1 - x1 ≤ s.bal1 by omega, show s.r2 - x2 ≤ s.bal2 by omega,
      show s.S - lp = s.lpCirc - lp by omega,
      fun _ => ⟨show 0 < s.r1 - x1 by omega, show 0 < s.r2 - x2 by omega,
        show MINLIQ ≤ s.S - lp by omega⟩,
      fun _ => ho, fun h0 => absurd (show s.S - lp = 0 from h0) (by omega)⟩
  -- each slice is then routed out of that slack (`spent1`, `spent2`): a `Moved` without payment,
  -- whose `hin` is the slack
  have hi2 : Inv s2 := m1.inv hi1 c1.S c1.lpCirc c1.lpOwn
    (show s.r1 - x1 + 0 + f1.spent ≤ s.bal1 + 0 by omega) (Nat.le_refl _)
  have k1 := m1.rout
  have k2 := m1.balOut
  simp only [St.rout, St.balOut, St.touch] at k1 k2
  exact m2.inv hi2 c2.S c2.lpCirc c2.lpOwn (show s2.r2 + 0 + f2.spent ≤ s2.bal2 + 0 by omega)
    (Nat.le_refl _)

theorem step_inv {s s' : St} {op : Op} {o : Out} (hi : Inv s) (h : step s op = some (s', o)) :
    Inv s' := by
  refine step_cases (motive := fun _ => Inv s') h ?_ ?_ ?_ ?_ ?_ ?_ ?_
  · exact fun _ _ _ h => addInitial_inv hi h
  · exact fun _ _ _ _ h => addLiq_inv hi h
  · exact fun _ _ _ h => removeLiq_inv hi h
  · intro op hsw h
    obtain ⟨_, hlt, _, hc⟩ := swap_spec hsw h
    exact swap_inv hi hlt hc
  · exact fun _ _ _ h => swapNoFee_inv hi h
  · exact fun _ _ _ h => buyback_inv hi h
  · intro op ha h
    obtain ⟨_, _, _, _, _, _, _, _, _, _, _, _, _, rfl⟩ := (step_admin ha h).state
    exact ⟨hi.back1, hi.back2, hi.supply, hi.pos, hi.ownPos, hi.ownZero⟩

theorem run_induction {P : St → Prop}
    (hstep : ∀ {s s' : St} {op : Op} {o : Out}, P s → step s op = some (s', o) → P s')
    (ops : List Op) {s : St} (h : P s) : P (run s ops) := by
  induction ops generalizing s with
  | nil => exact h
  | cons op ops ih =>
    simp only [run, List.foldl_cons]
    cases hst : step s op with
    | none => exact ih h
    | some r => exact ih (hstep h hst)

theorem run_inv (ops : List Op) {s : St} (hi : Inv s) : Inv (run s ops) :=
  run_induction step_inv ops hi

theorem step_S_pos {s s' : St} {op : Op} {o : Out} (hS : 0 < s.S)
    (h : step s op = some (s', o)) : 0 < s'.S := by
  cases ha : isAdmin op
  · exact (step_kept ha h).S_pos hS
  · obtain ⟨_, _, _, _, _, _, _, _, _, _, _, _, _, rfl⟩ := (step_admin ha h).state
    exact hS

theorem run_S_pos (ops : List Op) {s : St} (hS : 0 < s.S) : 0 < (run s ops).S :=
  run_induction step_S_pos ops hS

theorem run_append (s : St) (a b : List Op) : run s (a ++ b) = run (run s a) b := by
  simp [run, List.foldl_append]

end Mx.Pair
