/-
  Characterisation ("spec") lemmas of the metastaking-proxy model (Core/DualYield.lean):
  what a successful `part` / `release` / `releaseAll` / `stake` / `claim` / `unstake` / `xfer`
  implies.  Property theorems (Props/C15) are proved from these, never by unfolding `step`.
-/
import MxModel.Core.DualYield

namespace Mx.DualYield

@[simp] theorem upd_same (m : Nat → Nat) (k v : Nat) : upd m k v k = v := by simp [upd]
theorem upd_other (m : Nat → Nat) {k i : Nat} (v : Nat) (h : i ≠ k) : upd m k v i = m i := by
  simp [upd, h]
theorem upd_apply (m : Nat → Nat) (k v i : Nat) : upd m k v i = if i = k then v else m i := rfl

@[simp] theorem upd2_same (m : Nat → Nat → Nat) (a b v : Nat) : upd2 m a b v a b = v := by
  simp [upd2]
theorem upd2_apply (m : Nat → Nat → Nat) (a b v i j : Nat) :
    upd2 m a b v i j = if i = a ∧ j = b then v else m i j := rfl

theorem through_eq (bal x : Nat) : through bal x = some bal := by
  simp [through, sub?]

theorem part_eq_some {t : Tok} {x p : Nat} :
    part t x = some p ↔
      (x = t.stA ∧ p = t.lpA) ∨ (x ≠ t.stA ∧ t.stA ≠ 0 ∧ p = t.lpA * x / t.stA ∧ p ≠ 0) := by
  unfold part
  split
  · rename_i h
    simp [h, eq_comm]
  · rename_i h
    simp only [Option.bind_eq_bind, Option.bind_eq_some_iff, req_eq_some, Option.pure_def,
      Option.some.injEq, exists_const]
    constructor
    · rintro ⟨h1, h2, rfl⟩
      exact Or.inr ⟨h, h1, rfl, h2⟩
    · rintro (⟨h1, _⟩ | ⟨_, h1, rfl, h2⟩)
      · exact absurd h1 h
      · exact ⟨h1, h2, rfl⟩

theorem part_mul_le {t : Tok} {x p : Nat} (h : part t x = some p) : p * t.stA ≤ t.lpA * x := by
  rcases part_eq_some.1 h with ⟨rfl, rfl⟩ | ⟨_, _, rfl, _⟩
  · exact Nat.le_refl _
  · exact Nat.div_mul_le_self _ _

/-- the table entry of a nonce after `x` units of it were paid in and the LP-farm part `p` released -/
def relTok (t : Tok) (x p : Nat) : Tok := { t with out := t.out - x, rel := t.rel + p }

/-- The facts of a successful `release`, each under the name of the guard or call of the model's
    `do` block it records (`user`, `out`, `holdLp`, `holdSt`: the bound under which that checked
    subtraction went through). -/
structure ReleaseRun (s : St) (u d x : Nat) (t : Tok) (p : Nat) (s' : St) : Prop where
  d_ne : d ≠ 0
  lookup : s.toks[d - 1]? = some t
  x_ne : x ≠ 0
  user : x ≤ s.user u d
  part : part t x = some p
  out : x ≤ t.out
  holdLp : p ≤ s.holdLp t.lpN
  holdSt : x ≤ s.holdSt t.stN
  state : s' = { s with
                 toks := s.toks.set (d - 1) (relTok t x p),
                 holdLp := upd s.holdLp t.lpN (s.holdLp t.lpN - p),
                 holdSt := upd s.holdSt t.stN (s.holdSt t.stN - x),
                 user := upd2 s.user u d (s.user u d - x) }

theorem release_spec {s s' : St} {u d x p : Nat} (h : release s u d x = some (s', p)) :
    ∃ t, ReleaseRun s u d x t p s' := by
  simp only [release, Option.bind_eq_bind, Option.bind_eq_some_iff, req_eq_some, sub?_eq_some,
    Option.pure_def, Option.some.injEq, Prod.mk.injEq, exists_const] at h
  obtain ⟨hd, t, ht, hx, bal, ⟨hb, rfl⟩, p', hp, out', ⟨ho, rfl⟩, hl, ⟨hhl, rfl⟩, hs, ⟨hhs, rfl⟩,
    rfl, rfl⟩ := h
  exact ⟨t, hd, ht, hx, hb, hp, ho, hhl, hhs, rfl⟩

theorem release_pass {s s' : St} {u d x p : Nat} (h : release s u d x = some (s', p)) :
    s'.pass = s.pass := by
  obtain ⟨t, r⟩ := release_spec h
  obtain rfl := r.state
  rfl

theorem release_length {s s' : St} {u d x p : Nat} (h : release s u d x = some (s', p)) :
    s'.toks.length = s.toks.length := by
  obtain ⟨t, r⟩ := release_spec h
  obtain rfl := r.state
  simp

theorem releaseAll_nil (s : St) (u : Nat) : releaseAll s u [] = some (s, 0, 0) := rfl

theorem releaseAll_cons {s : St} {u d x : Nat} {ms : List (Nat × Nat)} {q : St × Nat × Nat}
    (h : releaseAll s u ((d, x) :: ms) = some q) :
    ∃ s1 p q1, release s u d x = some (s1, p) ∧ releaseAll s1 u ms = some q1 ∧
      q = (q1.1, p + q1.2.1, x + q1.2.2) := by
  simp only [releaseAll, Option.bind_eq_bind, Option.bind_eq_some_iff, Option.pure_def,
    Option.some.injEq] at h
  obtain ⟨⟨s1, p⟩, h1, q1, h2, rfl⟩ := h
  exact ⟨s1, p, q1, h1, h2, rfl⟩

theorem releaseAll_induct {P : St → Prop}
    (hP : ∀ {s s' u d x p}, P s → release s u d x = some (s', p) → P s') {u : Nat} :
    ∀ {ms : List (Nat × Nat)} {s : St} {q : St × Nat × Nat},
      P s → releaseAll s u ms = some q → P q.1
  | [], s, q, hs, h => by
      cases h
      exact hs
  | (d, x) :: ms, s, q, hs, h => by
      obtain ⟨s1, p, q1, h1, h2, rfl⟩ := releaseAll_cons h
      exact (releaseAll_induct hP (hP hs h1) h2 : P q1.1)

/-- the token a mint appends -/
def newTok (lpN lpA stN stA : Nat) : Tok := ⟨lpN, lpA, stN, stA, stA, 0⟩

theorem mint_fst (s : St) (u lpN lpA stN stA : Nat) :
    (mint s u lpN lpA stN stA).1 =
      { s with toks := s.toks ++ [newTok lpN lpA stN stA],
               holdLp := upd s.holdLp lpN (s.holdLp lpN + lpA),
               holdSt := upd s.holdSt stN (s.holdSt stN + stA),
               user := upd2 s.user u (s.toks.length + 1) (s.user u (s.toks.length + 1) + stA) } := rfl

theorem mint_snd (s : St) (u lpN lpA stN stA : Nat) :
    (mint s u lpN lpA stN stA).2 = s.toks.length + 1 := rfl

/-- the LP-farm token a stake records: the payment itself, or the farm's merge result -/
def stakeLp (lpN a : Nat) (ms : List (Nat × Nat)) (r : StakeResp) : Nat × Nat :=
  (if ms.isEmpty then lpN else r.lpN, if ms.isEmpty then a else r.lpA)

theorem stake_spec {s s' : St} {c lpN a : Nat} {auth : Bool} {ms : List (Nat × Nat)}
    {r : StakeResp} {o : Out} (h : stake s c auth lpN a ms r = some (s', o)) :
    ∃ q, auth = true ∧ a ≠ 0 ∧ releaseAll s c ms = some q ∧ r.safe ≠ 0 ∧
      s' = (mint q.1 c (stakeLp lpN a ms r).1 (stakeLp lpN a ms r).2 r.stN r.stA).1 ∧
      o = { dyN := q.1.toks.length + 1, dyA := r.stA, o1 := r.boosted,
            o2 := if ms.isEmpty then 0 else r.lpBoosted, toStaking := r.safe,
            lpReleased := q.2.1, stReleased := q.2.2 } := by
  simp only [stake, through_eq, Option.bind_eq_bind, Option.bind_eq_some_iff, req_eq_some,
    Option.pure_def, Option.some.injEq, Prod.mk.injEq, exists_const] at h
  obtain ⟨ha, hz, q, hq, hsafe, ride, rfl, locked, rfl, rfl, rfl⟩ := h
  exact ⟨q, ha, hz, hq, hsafe, rfl, rfl⟩

theorem claim_spec {s s' : St} {c d x : Nat} {auth : Bool} {r : ClaimResp} {o : Out}
    (h : claim s c auth d x r = some (s', o)) :
    ∃ s1 p, auth = true ∧ release s c d x = some (s1, p) ∧ r.safe ≠ 0 ∧
      s' = (mint s1 c r.lpN r.lpA r.stN r.stA).1 ∧
      o = { dyN := s1.toks.length + 1, dyA := r.stA, o1 := r.lpRew, o2 := r.stRew,
            toStaking := r.safe, lpReleased := p, stReleased := x } := by
  simp only [claim, through_eq, Option.bind_eq_bind, Option.bind_eq_some_iff, req_eq_some,
    Option.pure_def, Option.some.injEq, Prod.mk.injEq, exists_const] at h
  obtain ⟨ha, ⟨s1, p⟩, hq, hsafe, locked, rfl, ride, rfl, rfl, rfl⟩ := h
  exact ⟨s1, p, ha, hq, hsafe, rfl, rfl⟩

theorem unstake_spec {s s' : St} {c d x : Nat} {r : UnstakeResp} {o : Out}
    (h : unstake s c d x r = some (s', o)) :
    ∃ s1 p, release s c d x = some (s1, p) ∧ s' = s1 ∧
      o = { o1 := r.other, o2 := r.lpRew, o3 := r.stRew, unN := r.unN, unA := r.unA,
            toStaking := r.stk, lpReleased := p, stReleased := x } := by
  simp only [unstake, through_eq, Option.bind_eq_bind, Option.bind_eq_some_iff,
    Option.pure_def, Option.some.injEq, Prod.mk.injEq] at h
  obtain ⟨⟨s1, p⟩, hq, lp, rfl, locked, rfl, ride1, rfl, other, rfl, ride, rfl, unbond, rfl, rfl, rfl⟩ := h
  exact ⟨s1, p, hq, rfl, rfl⟩

theorem xfer_spec {s s' : St} {u v d x : Nat} {o : Out} (h : xfer s u v d x = some (s', o)) :
    u ≠ v ∧ x ≠ 0 ∧ x ≤ s.user u d ∧ o = {} ∧
      s' = { s with user := upd2 (upd2 s.user u d (s.user u d - x)) v d (s.user v d + x) } := by
  simp only [xfer, Option.bind_eq_bind, Option.bind_eq_some_iff, req_eq_some, sub?_eq_some,
    Option.pure_def, Option.some.injEq, Prod.mk.injEq, exists_const] at h
  obtain ⟨huv, hx, bal, ⟨hb, rfl⟩, rfl, rfl⟩ := h
  exact ⟨huv, hx, hb, rfl, rfl⟩

/-- the staking-farm amount for which a stake / claim mints its new dual-yield token -/
def Op.minted : Op → Option Nat
  | .stake _ _ _ _ _ r => some r.stA
  | .claim _ _ _ _ r => some r.stA
  | _ => none

/-- Every operation is a sequence of releases followed by at most one mint, or a transfer: a
    property kept by these three is kept by every accepted transaction.  `M` is what `hmint` may
    assume of the minted amount. -/
theorem step_induct {P : St → Prop} {M : Nat → Prop}
    (hrel : ∀ {s s' u d x p}, P s → release s u d x = some (s', p) → P s')
    (hmint : ∀ {s} u lpN lpA stN {stA}, P s → M stA → P (mint s u lpN lpA stN stA).1)
    (hxfer : ∀ {s s' u v d x o}, P s → xfer s u v d x = some (s', o) → P s')
    {s s' : St} {op : Op} {o : Out} (hs : P s) (hm : ∀ a ∈ op.minted, M a)
    (h : step s op = some (s', o)) : P s' := by
  cases op with
  | stake c auth lpN a ms r =>
      obtain ⟨q, -, -, hq, -, rfl, -⟩ := stake_spec h
      exact hmint _ _ _ _ (releaseAll_induct hrel hs hq) (hm _ rfl)
  | claim c auth d x r =>
      obtain ⟨s1, p, -, hq, -, rfl, -⟩ := claim_spec h
      exact hmint _ _ _ _ (hrel hs hq) (hm _ rfl)
  | unstake c d x r =>
      obtain ⟨s1, p, hq, rfl, -⟩ := unstake_spec h
      exact hrel hs hq
  | xfer u v d x => exact hxfer hs h
  | env =>
      cases h
      exact hs
  | bad => cases h

/-- `G`: what is assumed of the callee answers of every transaction of the history -/
theorem run_induct {P : St → Prop} {G : Op → Prop}
    (hP : ∀ {s op s' o}, P s → G op → step s op = some (s', o) → P s') :
    ∀ {ops : List Op} {s : St}, P s → (∀ op ∈ ops, G op) → P (run s ops)
  | [], _, hs, _ => hs
  | op :: ops, s, hs, hg => by
    have hg' : ∀ op' ∈ ops, G op' := fun op' h' => hg op' (List.mem_cons_of_mem _ h')
    show P (run (match step s op with | some (s', _) => s' | none => s) ops)
    cases h : step s op with
    | none => exact run_induct hP hs hg'
    | some r => exact run_induct hP (hP hs (hg op List.mem_cons_self) h) hg'

end Mx.DualYield
