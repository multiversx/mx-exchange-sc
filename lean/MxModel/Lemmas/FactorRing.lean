/-
  The 5-slot ring of `BoostedYieldsConfig` as a plain list (slot 4 = the week of the last update,
  slot `4 − k` = `k` weeks earlier): what `update` does to the slots, for both models that store
  such a ring (Core/Farm.lean, Core/Staking.lean).
-/
import Mathlib.Tactic.Common

namespace Mx.Ring

variable {α : Type}

/-- What `BoostedYieldsConfig::update` does to `factors_per_week`: `d` = its `week_diff` (already
    capped at 5), `last` = the old slot 4 (its `current_last_factors`), `new` = `opt_new_boost_factors`. -/
def shift (l : List α) (d : Nat) (last : α) (new : Option α) : List α :=
  if d = 0 then
    match new with
    | some x => l.set 4 x
    | none => l
  else l.drop d ++ List.replicate (d - 1) last ++ [new.getD last]

variable {l : List α} (hl : l.length = 5) {last : α} (hlast : l[4]? = some last)
include hl hlast

theorem shift_length {d : Nat} (hd : d ≤ 5) (new : Option α) : (shift l d last new).length = 5 := by
  unfold shift
  split
  · cases new <;> simp [hl]
  · simp [hl]; omega

theorem shift_latest {d : Nat} (hd : d ≤ 5) (new : Option α) :
    (shift l d last new)[4]? = some (new.getD last) := by
  unfold shift
  split
  · cases new
    · exact hlast
    · simp [hl]
  · have hlen : (List.drop d l ++ List.replicate (d - 1) last).length = 4 := by simp [hl]; omega
    rw [← hlen, List.getElem?_concat_length]

theorem shift_slot (d : Nat) (new : Option α) {i : Nat} (hi : i < 4) :
    (shift l d last new)[i]? = l[min (i + d) 4]? := by
  unfold shift
  split
  · rename_i hd
    subst hd
    rw [Nat.add_zero, Nat.min_eq_left (by omega)]
    cases new
    · rfl
    · simp only [List.getElem?_set, show 4 ≠ i by omega, if_false]
  · rw [List.append_assoc, List.getElem?_append, List.length_drop, hl]
    by_cases h : i + d < 5
    · rw [if_pos (by omega), List.getElem?_drop, Nat.min_eq_left (by omega), Nat.add_comm]
    · rw [if_neg (by omega), List.getElem?_append_left (by rw [List.length_replicate]; omega),
        List.getElem?_replicate, if_pos (by omega), Nat.min_eq_right (by omega), hlast]

/-- `L`, `W` the weeks of the last and of this update: a week `w` already past at the last update and
    still inside the window of this one keeps its entry. -/
theorem shift_old {L W w : Nat} (hle : L ≤ W) (new : Option α) (h1 : w < L) (h2 : W - w < 5) :
    (shift l (min (W - L) 5) last new)[4 - (W - w)]? = l[4 - (L - w)]? := by
  rw [shift_slot hl hlast _ _ (by omega)]
  congr 1
  omega

/-- a week between the two updates gets the entry that was the latest one -/
theorem shift_gap {L W w : Nat} (new : Option α) (h1 : L ≤ w) (h2 : w < W) (h3 : W - w < 5) :
    (shift l (min (W - L) 5) last new)[4 - (W - w)]? = some last := by
  rw [shift_slot hl hlast _ _ (by omega), ← hlast]
  congr 1
  omega

omit hl in
theorem mem_shift {d : Nat} {new : Option α} {x : α} (h : x ∈ shift l d last new) :
    x ∈ l ∨ new = some x := by
  have hm : last ∈ l := List.mem_of_getElem? hlast
  unfold shift at h
  split at h
  · cases new with
    | none => exact Or.inl h
    | some y => exact (List.mem_or_eq_of_mem_set h).imp_right fun e => congrArg some e.symm
  · simp only [List.mem_append, List.mem_replicate, List.mem_singleton] at h
    rcases h with (h | ⟨_, rfl⟩) | rfl
    · exact Or.inl (List.mem_of_mem_drop h)
    · exact Or.inl hm
    · cases new with
      | none => exact Or.inl hm
      | some y => exact Or.inr rfl

end Mx.Ring
