/-
  The energy bound for EVERY week (not only the last updated one):

      totalEnergyForWeek(w) = 0   ∨   Σ_{u : progress(u).week ≤ w} energy of u decayed to w  ≤  totalEnergyForWeek(w)

  i.e. the hypothesis of the week-sum bound holds for all the users that can still claim week `w`.
  It is inductive next to `GInv`: a completed week's total never changes (it can only be
  cleared), and a user who touches the contract moves its progress to the current week and so
  drops out of the sums of all earlier weeks.
-/
import MxModel.Lemmas.WeeklyInv

namespace Mx.Weekly

/-- the bound for every week, relative to a progress table -/
def EBrel (prog : Nat → Option ClaimProgress) (users : List Nat) (g : St) : Prop :=
  ∀ w, g.totalEnergy w = 0 ∨ usum users (fun u => eForP prog u w) ≤ g.totalEnergy w

def EB (g : St) : Prop := EBrel g.progress g.users g

theorem eForP_eq_contrib {prog : Nat → Option ClaimProgress} {users : List Nat} {W : Nat}
    (hP : PRel prog users W) (u : Nat) : eForP prog u W = (lotAt (prog u) W).contrib := by
  unfold eForP
  cases hp : prog u with
  | none => simp [lotAt, Lot.contrib]
  | some p =>
    rw [lotAt_contrib]
    exact if_pos (hP.pos u p hp).2

/-- as in `updateUser_GRel`: relative to the table with the user's entry already replaced -/
theorem updateUser_EB {g g' : St} {W u0 : Nat} {cur : Energy} (hW : 1 ≤ W) (hI : GInv g)
    (hE : EB g) (h : updateUserEnergyForCurrentWeek g W cur (g.progress u0) = some g') :
    EBrel (upd g.progress u0 (newOf cur W)) (usersAfter g.users u0 (newOf cur W)) g' := by
  obtain ⟨⟨o, hR⟩, hlgw, _, _⟩ := updateUser_GRel hW hI h
  intro w
  rcases Nat.lt_trichotomy w W with hlt | rfl | hgt
  · -- a completed week: its total is kept or cleared, and the user drops out of its sum
    rcases ((updateUser_weekStep h).energy w (Nat.ne_of_lt hlt)).imp_right And.left with hsame | hzero
    · rw [hsame]
      refine (hE w).imp_right (Nat.le_trans ?_)
      have h0 := eForP_newOf g.progress u0 cur hlt
      rw [usum_usersAfter, h0, ite_self, Nat.add_zero]
      refine usum_le fun u _ => ?_
      by_cases hu : u = u0
      · rw [hu, h0]
        exact Nat.zero_le _
      · rw [eForP_upd_other _ _ _ hu]
    · exact Or.inl hzero
  · -- the current week: equality from the lot relation
    have hP := hR.p
    have hL := hR.l.energy
    rw [hlgw] at hP hL
    rw [hL]
    exact Or.inr (Nat.le_of_eq (usum_congr fun u _ => eForP_eq_contrib hP u))
  · exact Or.inl (hR.fut w (hlgw ▸ hgt)).1

theorem eForP_upd_le {prog : Nat → Option ClaimProgress} {u0 W : Nat} {o : Option ClaimProgress}
    (h : ∀ w, w < W → eForP (upd prog u0 o) u0 w ≤ eForP prog u0 w) (u : Nat) {w : Nat} (hw : w < W) :
    eForP (upd prog u0 o) u w ≤ eForP prog u w := by
  by_cases hu : u = u0
  · subst hu; exact h w hw
  · rw [eForP_upd_other _ _ _ hu]

/-- the all-weeks bound after the global update, for any table that claims no more than the stored one -/
theorem EB.after_update {g g1 : St} {W : Nat} (hE : EB g) (st : WeekStep g g1 W)
    {prog : Nat → Option ClaimProgress}
    (hle : ∀ u w, w < W → eForP prog u w ≤ eForP g.progress u w) (w : Nat) (hw : w < W) :
    g1.totalEnergy w = 0 ∨ usum g.users (fun u => eForP prog u w) ≤ g1.totalEnergy w := by
  rcases st.energy w (Nat.ne_of_lt hw) with e | ⟨e, _⟩
  · rw [e]
    exact (hE w).imp_right (Nat.le_trans (usum_le fun u _ => hle u w hw))
  · exact Or.inl e

theorem EBrel.frame {prog : Nat → Option ClaimProgress} {users : List Nat} {g g' : St}
    (h : EBrel prog users g) (f : FrameR g' g) : EBrel prog users g' := by
  intro w; rw [f.totalEnergy]; exact h w

theorem EB.init : EB St.init := fun _ => Or.inl rfl

theorem UserStep.eb {g g' : St} {user W : Nat} {cur : Energy} (hW : 1 ≤ W) (hI : GInv g)
    (hE : EB g) (h : UserStep g g' user W cur) : EB g' := by
  obtain ⟨g1, g2, h1, fr, rfl⟩ := h
  obtain ⟨_, _, hp, hu⟩ := updateUser_GRel hW hI h1
  have hB := (updateUser_EB hW hI hE h1).frame fr
  rw [← fr.progress.trans hp, ← fr.users.trans hu] at hB
  exact hB

/-- whatever amount is split for week `w`, the shares of all users that can still claim that week
    sum to at most that amount -/
theorem EB.shares_le {g : St} (hE : EB g) (w total : Nat) :
    usum g.users (fun u => share total (eForP g.progress u w) (g.totalEnergy w)) ≤ total := by
  rcases hE w with hz | hb
  · rw [hz]
    exact (usum_zero fun _ _ => Nat.div_zero _).trans_le (Nat.zero_le _)
  · exact usum_share_le_total _ _ _ _ hb

end Mx.Weekly
