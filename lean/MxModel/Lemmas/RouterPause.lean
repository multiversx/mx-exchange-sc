/-
  A pair contract that is Inactive (paused) and holds liquidity stays Inactive under every
  operation of the router world except the owner's `resume` of that pair — in particular under
  `setSwapEnabledByUser` by anybody with any payment.
-/
import MxModel.Lemmas.RouterInv

namespace Mx.Router

/-- "Inactive, with liquidity" -/
def Paused (w : Pairs) (a : Addr) : Prop :=
  ∃ p, w a = some p ∧ p.st.status = .inactive ∧ p.st.S ≠ 0

theorem Paused.other {w : Pairs} {a x : Addr} (h : Paused w a) (p' : PairRec) (hx : a ≠ x) :
    Paused (upd w x (some p')) a := by
  obtain ⟨p, hp, h1, h2⟩ := h
  exact ⟨p, by rw [upd_other _ _ hx]; exact hp, h1, h2⟩

/-- a hop never goes through a paused pair, so a multi-hop swap leaves it alone -/
theorem hopTrace_paused {m : Reg} (hops : List Hop) {w w' : Pairs} {tok : Tok} {amt : Nat}
    {rs : List (Nat × Nat)} (h : hopTrace (pairResp m) hops w tok amt = some (w', rs))
    {x : Addr} (hx : Paused w x) : Paused w' x := by
  refine hopTrace_induction (P := fun v => Paused v x) hops (fun g _ v _ _ r hr hv => ?_) h hx
  obtain ⟨_, p, d, hp, _, hk⟩ := pairResp_spec hr
  by_cases hne : x = g.pair
  · -- the hop would be a swap on the paused pair itself
    obtain ⟨q, hq, hst, _⟩ := hv
    rw [hne, hp] at hq
    cases hq
    rcases hk with ⟨_, st', o, hs', _⟩ | ⟨_, st', o, hs', _⟩
    · have := Mx.Pair.swapIn_active hs'
      rw [hst] at this; cases this
    · have := Mx.Pair.swapOut_active hs'
      rw [hst] at this; cases this
  · rcases hk with ⟨_, st', o, _, _, _, e⟩ | ⟨_, st', o, _, _, _, e⟩
    · rw [e]; exact hv.other _ hne
    · rw [e]; exact hv.other _ hne

/-- `a < s.nextAddr`: `createPair` writes the record of the pair it deploys at `nextAddr`, over whatever
    stands there, and no invariant says `s.pairs a = none` for `a ≥ s.nextAddr` (`init` installs the foreign
    pairs from address 900 upwards, any number of them, and starts `nextAddr` at 1000) -/
theorem step_paused {s s' : St} {op : Op} {o : Out} {a : Addr}
    (hlt : a < s.nextAddr) (hpa : Paused s.pairs a)
    (h : step s op = some (s', o)) (hop : op ≠ .resume s.owner a) : Paused s'.pairs a := by
  cases (step_eff h).1 with
  | create _ _ _ _ _ _ q h =>
    simp only [Prod.mk.injEq] at h
    rw [h.2.2.2]; exact hpa.other _ (Nat.ne_of_lt hlt)
  | remove _ _ _ _ h =>
    simp only [Prod.mk.injEq] at h
    rw [h.2.2.2]; exact hpa
  | own h =>
    simp only [Prod.mk.injEq] at h
    rw [h.2.2.2.2.2.1]; exact hpa
  | pair x q q' hq _ _ hp _ keep =>
    rw [hp]
    by_cases hx : a = x
    · subst hx
      obtain ⟨p, hp', hst, hS⟩ := hpa
      rw [hq] at hp'; cases hp'
      rcases keep ⟨hst, hS⟩ with k | k
      · exact ⟨q', upd_same _ _ _, k.1, k.2⟩
      · exact absurd k hop
    · exact hpa.other _ hx
  | hops hs tok amt rs htr => exact hopTrace_paused hs htr hpa

/-- by its own induction: the step fact needs `op ≠ .resume …` of the operations OF THIS history, and
    `run_induction` takes a step fact about every operation -/
theorem run_paused (ops : List Op) {s : St} {a : Addr} (hlt : a < s.nextAddr)
    (hpa : Paused s.pairs a) (hno : Op.resume s.owner a ∉ ops) : Paused (run s ops).pairs a := by
  induction ops generalizing s with
  | nil => exact hpa
  | cons op ops ih =>
    simp only [run, List.foldl_cons]
    have hno1 : op ≠ .resume s.owner a := fun e => hno (e ▸ List.mem_cons_self)
    have hno2 : Op.resume s.owner a ∉ ops := fun e => hno (List.mem_cons_of_mem _ e)
    cases h : step s op with
    | none => exact ih hlt hpa hno2
    | some r =>
      have hs : step s op = some (r.1, r.2) := by rw [h]
      obtain ⟨hown, _, hnext⟩ := (step_eff hs).1.kept
      exact ih (Nat.lt_of_lt_of_le hlt hnext) (step_paused hlt hpa hs hno1) (by rw [hown]; exact hno2)

/-- for a registered pair the invariant gives `a < s.nextAddr` -/
theorem Inv.run_paused {s : St} (hi : Inv s) (ops : List Op) {a : Addr} (hreg : a ∈ s.pairMap.map Prod.snd)
    (hpa : Paused s.pairs a) (hno : Op.resume s.owner a ∉ ops) : Paused (run s ops).pairs a := by
  obtain ⟨e, he, rfl⟩ := List.mem_map.mp hreg
  exact Router.run_paused ops (hi.lt e he).2 hpa hno

end Mx.Router
