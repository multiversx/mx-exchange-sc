/-
  Every operation of the proxy-dex model preserves the backing invariant `Backed`, for
  arbitrary callee responses; hence every reachable state is backed.
-/
import MxModel.Lemmas.ProxyDexInv

namespace Mx.ProxyDex

/-- `enterFarmProxy` with wrapped LP and nothing to merge: the wrapped LP moves from the user's hands
    into the proxy together with the wrapped farm token that records it -/
theorem enterW_plain_backed {s : St} {w a : Nat} {r : WLp} (farm fn fa : Nat) (hb : Backed s)
    (hr : s.wl[w]? = some r) (ha : a ≤ r.circ) :
    Backed (newF (setW s w { r with circ := r.circ - a, held := r.held + a }) farm fn fa .wlp w a).1 := by
  have hH := hb.hw w
  rw [heldOf_of_get hr] at hH
  have h0 : WOk r := hb.pt.1 r (List.mem_of_getElem? hr)
  have hb1 : Backed (setW s w { r with circ := r.circ - a, held := r.held + a }) := by
    refine setW_backed (lk := s.lk) hb hr rfl ?_ (Nat.le_trans hH (Nat.le_add_right _ _))
      (Nat.le_refl _) (fun κ => Nat.le_add_right _ _)
    unfold WOk at *
    show r.locked * (r.circ - a + (r.held + a)) ≤ r.rem * r.total
    rwa [show r.circ - a + (r.held + a) = r.circ + r.held by omega]
  refine newF_backed _ _ _ _ _ _ hb1 (fun h => nomatch h) (fun _ => ?_)
  rw [heldOf_set s w w r _ hr, if_pos rfl]
  exact Nat.add_le_add_right hH a

theorem step_backed {s s' : St} {op : Op} {o : Out} (hb : Backed s)
    (h : step s op = some (s', o)) : Backed s' := by
  cases op with
  | lock t =>
    cases h; exact learn_backed t hb
  | advance e =>
    cases h; exact Backed.congr (s := s) rfl rfl rfl rfl hb
  | noop =>
    cases h; exact hb
  | addLiq k la oa merge lp ul uo mk =>
    obtain ⟨s0, -, -, -, -, hs0, h⟩ := addLiq_spec h
    have hb0 : Backed s0 := hs0 ▸ Backed.congr (s := s) rfl rfl rfl rfl hb
    rcases h with ⟨_, rfl, _⟩ | ⟨_, _, t, s1, sx, _, _, _, h1, rfl, _⟩
    · exact newW_backed _ _ _ _ hb0
    · exact newW_backed _ _ _ _ (learn_backed t (takeWs_backed hb0 h1))
  | removeLiq w x rb ro =>
    obtain ⟨s1, r, p, h1, -, rfl, -⟩ := removeLiq_trace h
    exact Backed.congr (s := s1) rfl rfl rfl rfl (takeW_backed hb h1)
  | enterL farm k a merge ft rew m stray =>
    obtain ⟨s0, -, hs0, h⟩ := enterL_spec h
    have hb0 : Backed s0 := hs0 ▸ learnOpt_backed rew (Backed.congr (s := s) rfl rfl rfl rfl hb)
    rcases h with ⟨_, rfl, _⟩ | ⟨_, _, mf, t, s1, sp, _, _, h1, rfl, _⟩
    · exact recL_backed _ _ _ _ _ hb0
    · exact addStray_backed _ (recL_backed _ _ _ _ _ (learn_backed t (takeFs_backed hb0 h1)))
  | enterW farm w a merge ft rew m stray =>
    obtain ⟨r, q, hr, -, hc, -, -, h⟩ := enterW_spec h
    rcases h with ⟨_, rfl, _⟩ | ⟨_, _, mf, t, s0, r0, q0, s1, sp, _, _, h0, h1, rfl, _⟩
    · have := enterW_plain_backed farm ft.1 ft.2 hb hr hc
      refine Backed.congr ?_ ?_ ?_ ?_ this <;> cases rew <;> rfl
    · have hb0 : Backed (learnOpt { s0 with lp := s.lp - a } rew) :=
        learnOpt_backed rew (Backed.congr (s := s0) rfl rfl rfl rfl (takeW_backed hb h0))
      exact addStray_backed _ (recW_backed _ _ _ _ _ _ (learn_backed t (takeFs_backed hb0 h1)))
  | exitFarm farm f x farming rew =>
    obtain ⟨s1, t, s2, -, h1, hs2, h⟩ := exitFarm_spec (farm := farm) h
    have hb2 : Backed s2 := hs2 ▸ Backed.congr (s := s1) rfl rfl rfl rfl (takeF_backed hb h1)
    rcases h with ⟨_, rfl, _⟩ | ⟨_, _, _, rfl, _⟩ | ⟨rw, qN, _, _, _, _, _, _, rfl, _⟩
    · exact learnOpt_backed rew hb2
    · exact learnOpt_backed rew (burnLocked_backed _ _ hb2)
    · exact learnOpt_backed rew (newW_backed _ _ _ _ (burnLocked_backed _ _ hb2))
  | claim farm f x ft rew =>
    -- the proxy-farming part stays where it is and is recorded again by the new token
    obtain ⟨s1, t, h1, rfl, -⟩ := claim_spec (farm := farm) h
    obtain ⟨s0, h0, hs⟩ := takeF_spec h1
    obtain ⟨rfl, -, -⟩ := settle_keep hs
    obtain ⟨hb1, hL, hW⟩ := takeF0_backed hb h0
    rw [learnOpt_eq]
    exact newF_backed _ _ _ _ _ _ (Backed.congr (s := s1) rfl rfl rfl rfl hb1) hL hW
  | mergeLp l t =>
    obtain ⟨s1, sx, -, h1, rfl, -⟩ := mergeLp_spec h
    exact newW_backed _ _ _ _ (learn_backed t (takeWs_backed hb h1))
  | mergeFarm farm l mf t rew stray =>
    obtain ⟨o1, h1, -⟩ := mergeFarm_spec h
    obtain ⟨f0, x0, r0, s1, sp, -, -, -, h1, h⟩ := mergeFarmCore_spec h1
    have hb1 := learn_backed t (takeFs_backed (learnOpt_backed rew hb) h1)
    rcases h with ⟨_, rfl, _⟩ | ⟨_, rfl, _⟩
    · exact addStray_backed _ (recL_backed _ _ _ _ _ hb1)
    · exact addStray_backed _ (recW_backed _ _ _ _ _ _ hb1)
  | incLp w x t =>
    obtain ⟨s1, r, p, h1, rfl, -⟩ := incLp_spec h
    exact newW_backed _ _ _ _ (learn_backed t (takeW_backed hb h1))
  | incFarm f x t =>
    obtain ⟨s1, tk, h1, h⟩ := incFarm_spec h
    have hb1 := learn_backed t (takeF_backed hb h1)
    rcases h with ⟨_, rfl, _⟩ | ⟨_, rfl, _⟩
    · exact recL_backed _ _ _ _ _ hb1
    · exact recW_backed _ _ _ _ _ _ hb1

theorem run_backed {s : St} (ops : List Op) (hb : Backed s) : Backed (run s ops) :=
  run_induct (G := fun _ _ => True) (fun _ => trivial) (fun hb _ h => step_backed hb h) hb trivial

end Mx.ProxyDex
