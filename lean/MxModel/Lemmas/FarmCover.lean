/-
  The reward reserve COVERS everything that can still be claimed (C05 `reserve_covers`) and the
  reserve-side checked subtractions of claim / exit / compound / claimBoosted / enter / merge cannot
  underflow (C05 `no_underflow`, the reserve-side counters; the weekly pool subtraction is in
  Lemmas/FarmWeekSafe.lean).

  Assembled from the state invariants `Acct` (FarmAcct), `PosInv` (FarmPos), `PotInv` (FarmPot) and
  `PoolInv` (FarmPool), through the exact decomposition (no subtraction, so no side condition)
      reserve + paidBase = baseBudget + Σ_{w ≤ W} (accum w + remaining w) + undist.
-/
import MxModel.Lemmas.FarmPot
import MxModel.Lemmas.FarmAcct
import MxModel.Lemmas.FarmPool
import MxModel.Lemmas.FarmSafe

namespace Mx.Farm


/-- what is still in week `w`'s boosted pool: accumulated (not frozen yet) + remaining (frozen, unpaid) -/
def poolOf (s : St) (w : Nat) : Nat := s.b.accum w + s.b.remaining w

def poolsUpTo (s : St) (W : Nat) : Nat := weekSum (poolOf s) W

/-- `res` (the reserve, in storage or in a live cache) together with the ghosts of `s` obeys the
    decomposition -/
def Cov (res : Nat) (s : St) : Prop :=
  ∀ W, s.week = some W → res + s.paidBase = s.baseBudget + poolsUpTo s W + s.undist

theorem cov_of_gen {s : St} {res : Nat} (hI : PoolInv s) (hres : res + s.paid = s.generated)
    (hsplit : s.paid = s.paidBase + s.paidBoosted) : Cov res s := by
  intro W hW
  have h := pools_eq hI hW
  show res + s.paidBase = s.baseBudget + weekSum (fun w => s.b.accum w + s.b.remaining w) W + s.undist
  omega

theorem reserve_decomp {s : St} (hA : Acct s) (hI : PoolInv s) : Cov s.reserve s :=
  cov_of_gen hI hA.res hA.split

theorem pool_future_zero {s : St} (hI : PoolInv s) {W w : Nat} (hW : s.week = some W) (hw : W < w) :
    poolOf s w = 0 := by
  have h1 := hI.week w
  have h2 := hI.fut W w hW hw
  unfold poolOf
  omega

theorem poolsUpTo_extend {s : St} (hI : PoolInv s) {W W' : Nat} (hW : s.week = some W) (h : W ≤ W') :
    poolsUpTo s W' = poolsUpTo s W :=
  weekSum_extend (fun _ hw => pool_future_zero hI hW hw) h

/-- C05 `reserve_covers` on a state with the invariants -/
theorem reserve_covers_state {s : St} (hA : Acct s) (hK : PotInv s) (hI : PoolInv s) (hd : s.dsc ≠ 0)
    {W : Nat} (hW : s.week = some W) :
    claimableBase s + poolsUpTo s W + s.undist ≤ s.reserve ∧
    s.reserve = (s.baseBudget - s.paidBase) + poolsUpTo s W + s.undist ∧ s.paidBase ≤ s.baseBudget := by
  have h1 := reserve_decomp hA hI W hW
  have h2 := hK.claimable_le hd
  omega

theorem held_pot_le {s : St} (hP : PosInv s) {u n a : Nat} {att : Attr} (ha : a ≠ 0)
    (h : a ≤ s.hold u n) (hat : s.attrs n = some att) (R : Nat) :
    a * (R - att.rps) ≤ (pv s).pot R := by
  have hne : s.hold u n ≠ 0 := by omega
  obtain ⟨hu, hn, _⟩ := hP.dom u n hne
  have h1 : a ≤ heldBy s n := Nat.le_trans h (hold_le_heldBy s hu n)
  have h2 : heldBy s n * (R - rpsA s.attrs n) ≤ (pv s).pot R := by
    rw [pot_explicit]
    exact Weekly.le_usum (f := fun m => heldBy s m * (R - rpsA s.attrs m)) (mem_nonceList hn)
  rw [rpsA_some hat] at h2
  exact Nat.le_trans (Nat.mul_le_mul_right _ h1) h2

/-- `s` has the invariants; `s0` is the state the endpoint settles: `s`, or `s` after `takePayments`, which differs
    from `s` in `hold` only (`hcv`; `hav`, `hpl` in `cov_after_generate`) -/
theorem pot_after_generate {s s0 s1 : St} {c1 : Cache} (hP : PosInv s) (hK : PotInv s)
    (hcv : cv s0 = cv s) (h1 : generate s0 (Cache.read s0) = some (s1, c1)) :
    (pv s).pot c1.rps + s.dsc * s1.paidBase ≤ s.dsc * s1.baseBudget ∧ s1.dsc = s.dsc := by
  obtain ⟨B, δ, k1, hr, _, hδ⟩ := generate_cv h1
  have hr' : c1.rps = (cv s0).rps + δ := hr
  have hδ' : δ * (cv s0).supply ≤ B * (cv s0).dsc := hδ
  rw [hcv] at k1 hr' hδ'
  have e1 : s1.paidBase = s.paidBase := congrArg CV.paidBase k1
  have e2 : s1.baseBudget = s.baseBudget + B := congrArg CV.baseBudget k1
  have e3 : s1.dsc = s.dsc := congrArg CV.dsc k1
  refine ⟨?_, e3⟩
  have hr'' : c1.rps = s.rps + δ := hr'
  have hδ'' : δ * s.supply ≤ B * s.dsc := hδ'
  rw [hr'', e1, e2, Nat.mul_add]
  exact hK.settled hP hδ''

theorem base_le_budget {s s0 s1 : St} {c1 : Cache} {u n a : Nat} {att : Attr}
    (hP : PosInv s) (hK : PotInv s) (hd : s.dsc ≠ 0) (hcv : cv s0 = cv s)
    (h1 : generate s0 (Cache.read s0) = some (s1, c1))
    (ha : a ≠ 0) (h : a ≤ s.hold u n) (hat : s.attrs n = some att) :
    baseReward s1.dsc c1.rps a att.rps + s1.paidBase ≤ s1.baseBudget := by
  obtain ⟨h2, h3⟩ := pot_after_generate hP hK hcv h1
  have h4 := held_pot_le hP ha h hat c1.rps
  have h5 := baseReward_mul_le' s1.dsc c1.rps a att.rps
  rw [h3] at h5 ⊢
  apply Nat.le_of_mul_le_mul_left _ (Nat.pos_of_ne_zero hd)
  rw [Nat.mul_add, Nat.mul_comm s.dsc (baseReward _ _ _ _)]
  omega

theorem claimBoostedYields_pools {s s' : St} {u r W : Nat} (hI : PoolInv s)
    (h : claimBoostedYields s u = some (s', r)) (hW : s.week = some W) :
    poolsUpTo s' W + r = poolsUpTo s W ∧ s'.week = some W := by
  have e := claimBoostedYields_spec h
  have i1 := hI.toD.claim h
  obtain ⟨w', b', hs'⟩ := e.struct
  have hwk : s'.week = s.week := by rw [hs']; rfl
  have hpb : s'.paidBoosted = s.paidBoosted := by rw [hs']
  have hW' : s'.week = some W := hwk.trans hW
  refine ⟨?_, hW'⟩
  have p1 : weekSum s'.b.paidW W = s'.paidBoosted + (0 + r) := i1.paid W hW'
  have p0 := hI.paid W hW
  rw [hpb] at p1
  have hsum : poolsUpTo s' W + weekSum s'.b.paidW W = poolsUpTo s W + weekSum s.b.paidW W := by
    unfold poolsUpTo
    rw [← weekSum_add, ← weekSum_add]
    apply weekSum_congr
    intro w _
    have a1 : s'.b.accum w + s'.b.remaining w + s'.b.paidW w + s'.b.collW w = s'.b.cutW w := i1.week w
    have a0 := hI.week w
    rw [e.cutW, e.collW] at a1
    unfold poolOf
    omega
  omega

theorem claimBoostedYields_le_pools {s s' : St} {u r W : Nat} (hI : PoolInv s)
    (h : claimBoostedYields s u = some (s', r)) (hW : s.week = some W) : r ≤ poolsUpTo s W := by
  have := (claimBoostedYields_pools hI h hW).1
  omega

theorem boosted_le_of_cov {s s' : St} {u r res : Nat} (hI : PoolInv s) (hC : Cov res s)
    (hb : s.paidBase ≤ s.baseBudget) (h : claimBoostedYields s u = some (s', r)) : r ≤ res := by
  obtain ⟨W, hW⟩ := week_of_time hI.time
  have h1 := claimBoostedYields_le_pools hI h hW
  have h2 := hC W hW
  omega

/-- `claim_only_boosted_payment` (enter, merge): `reserve -= reward` on the stored `reward_reserve` cannot underflow -/
theorem claimOnly_reserve_ok {s s' : St} {u r : Nat} (hA : Acct s) (hK : PotInv s) (hI : PoolInv s)
    (hd : s.dsc ≠ 0) (h : claimBoostedYields s u = some (s', r)) : r ≤ s.reserve :=
  boosted_le_of_cov hI (reserve_decomp hA hI) (hK.paidBase_le hd) h

theorem cov_after_generate {s s0 s1 : St} {c1 : Cache} (hA : Acct s) (hI : PoolInv s)
    (hav : av s0 = av s) (hpl : wk s0 = wk s)
    (h1 : generate s0 (Cache.read s0) = some (s1, c1)) : Cov c1.reserve s1 ∧ PoolInv s1 := by
  have i1 := ((generate_move h1).1.pool (hpl ▸ hI.toD)).toInv
  obtain ⟨e1, hc1⟩ := generate_av h1
  refine ⟨cov_of_gen i1 ?_ ?_, i1⟩
  · have hr : c1.reserve = s0.reserve + minted s0 := by rw [hc1]; rfl
    simp only [av, AV.mk.injEq] at e1 hav
    have := hA.res
    omega
  · simp only [av, AV.mk.injEq] at e1 hav
    have := hA.split
    omega

/-- claim / compound / exit: `reward_reserve -= reward` (base + boosted) cannot underflow.
    `s0` = the state after the payments were taken, `(s1, c1)` = after the settlement,
    `(n, a)` = the first payment, `att` its attributes. -/
theorem reward_le_reserve {s s0 s1 s2 : St} {c1 : Cache} {caller orig n a boosted : Nat}
    {l : List (Nat × Nat)} {att : Attr}
    (hA : Acct s) (hP : PosInv s) (hK : PotInv s) (hI : PoolInv s) (hd : s.dsc ≠ 0)
    (h0 : takePayments s caller ((n, a) :: l) = some s0)
    (h1 : generate s0 (Cache.read s0) = some (s1, c1))
    (hat : s.attrs n = some att)
    (h2 : claimBoostedYields s1 orig = some (s2, boosted)) :
    baseReward s1.dsc c1.rps a att.rps + boosted ≤ c1.reserve := by
  obtain ⟨ha, _, hle⟩ := takePayments_cons h0
  have hb := base_le_budget hP hK hd (takePayments_cv h0) h1 ha hle hat
  obtain ⟨hC, i1⟩ := cov_after_generate hA hI (takePayments_av h0) (takePayments_wk h0) h1
  obtain ⟨W, hW⟩ := week_of_time i1.time
  have h3 := claimBoostedYields_le_pools i1 h2 hW
  have h4 := hC W hW
  omega

/-- `claimBoostedRewards`: `reward_reserve -= boosted_rewards` (on the live cache) cannot underflow -/
theorem boosted_le_reserve {s s1 s2 : St} {c1 : Cache} {u boosted : Nat}
    (hA : Acct s) (hP : PosInv s) (hK : PotInv s) (hI : PoolInv s) (hd : s.dsc ≠ 0)
    (h1 : generate s (Cache.read s) = some (s1, c1))
    (h2 : claimBoostedYields s1 u = some (s2, boosted)) : boosted ≤ c1.reserve := by
  obtain ⟨hC, i1⟩ := cov_after_generate hA hI rfl rfl h1
  obtain ⟨h3, h4⟩ := pot_after_generate hP hK rfl h1
  have hb : s1.paidBase ≤ s1.baseBudget := by
    apply Nat.le_of_mul_le_mul_left _ (Nat.pos_of_ne_zero hd)
    omega
  exact boosted_le_of_cov i1 hC hb h2

theorem reachable_invs (kind : Kind) (same : Bool) (dsc pb : Nat) (produce : Bool) (users : List Nat)
    (e0 : Nat) (hnd : users.Nodup) (ops : List Op) :
    let s := run (init kind same dsc pb produce users e0) ops
    Acct s ∧ PosInv s ∧ PotInv s ∧ PoolInv s ∧ s.dsc = dsc := by
  intro s
  obtain ⟨hP, hK, hd⟩ := run_potInv' ops (init_posInv kind same dsc pb produce users e0 hnd)
    (init_potInv kind same dsc pb produce users e0)
  exact ⟨run_acct ops (init_acct kind same dsc pb produce users e0), hP, hK,
    reachable_poolInv kind same dsc pb produce users e0 ops, hd⟩

end Mx.Farm
