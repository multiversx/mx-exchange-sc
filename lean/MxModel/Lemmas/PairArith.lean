/-
  Arithmetic of the AMM formulas, without contract state.  The two K checks `swapIn_k`, `swapOut_k` go
  through `k_core` and `net_of_fee`, which speak of a variable scale `M`: the contract's
  `MAX_PERCENTAGE = 100000` enters only as `0 < M`.
-/
import MxModel.Core.Pair
import Mathlib.Tactic.Linarith
import Mathlib.Tactic.Ring

namespace Mx.Pair

theorem noFee_k (a rin rout : Nat) (h : amountOutNoFee a rin rout ≤ rout) :
    rin * rout ≤ (rin + a) * (rout - amountOutNoFee a rin rout) := by
  unfold amountOutNoFee at *
  have h1 : (rin + a) * (a * rout / (rin + a)) ≤ a * rout := Nat.mul_div_le _ _
  generalize a * rout / (rin + a) = out at *
  obtain ⟨t, rfl⟩ := Nat.exists_eq_add_of_le h
  rw [Nat.add_sub_cancel_left]
  linarith

/-- `r₁r₂/S² ≤ (r₁+o₁)(r₂+o₂)/(S+L)²`, cross-multiplied: a mint of at most both pro-rata floors does
    not dilute -/
theorem addLiq_share (r1 r2 S o1 o2 L : Nat) (h1 : 0 < r1) (h2 : 0 < r2)
    (hL1 : L ≤ o1 * S / r1) (hL2 : L ≤ o2 * S / r2) :
    r1 * r2 * (S + L) ^ 2 ≤ (r1 + o1) * (r2 + o2) * S ^ 2 := by
  have e1 : L * r1 ≤ o1 * S := (Nat.le_div_iff_mul_le h1).mp hL1
  have e2 : L * r2 ≤ o2 * S := (Nat.le_div_iff_mul_le h2).mp hL2
  have f1 : r1 * (S + L) ≤ (r1 + o1) * S := by linarith
  have f2 : r2 * (S + L) ≤ (r2 + o2) * S := by linarith
  calc r1 * r2 * (S + L) ^ 2 = (r1 * (S + L)) * (r2 * (S + L)) := by ring
    _ ≤ ((r1 + o1) * S) * ((r2 + o2) * S) := Nat.mul_le_mul f1 f2
    _ = (r1 + o1) * (r2 + o2) * S ^ 2 := by ring

/-- one token's side of `removeLiq_share`, with `S = lp + t` -/
theorem remove_side (r lp t : Nat) : r * t ≤ (r - lp * r / (lp + t)) * (lp + t) := by
  have e : lp * r / (lp + t) * (lp + t) ≤ lp * r := Nat.div_mul_le_self _ _
  rw [Nat.sub_mul]
  have : r * (lp + t) = lp * r + r * t := by ring
  omega

theorem removeLiq_share (r1 r2 S lp : Nat) (hS : 0 < S) (hlp : lp ≤ S) :
    r1 * r2 * (S - lp) ^ 2 ≤ (r1 - lp * r1 / S) * (r2 - lp * r2 / S) * S ^ 2 := by
  obtain ⟨t, rfl⟩ := Nat.exists_eq_add_of_le hlp
  rw [Nat.add_sub_cancel_left]
  calc r1 * r2 * t ^ 2 = (r1 * t) * (r2 * t) := by ring
    _ ≤ ((r1 - lp * r1 / (lp + t)) * (lp + t)) * ((r2 - lp * r2 / (lp + t)) * (lp + t)) :=
        Nat.mul_le_mul (remove_side r1 lp t) (remove_side r2 lp t)
    _ = (r1 - lp * r1 / (lp + t)) * (r2 - lp * r2 / (lp + t)) * (lp + t) ^ 2 := by ring

theorem add_remove_le (r S o L : Nat) (hr : 0 < r) (hL : L ≤ o * S / r) :
    L * (r + o) / (S + L) ≤ o := by
  have e : L * r ≤ o * S := (Nat.le_div_iff_mul_le hr).mp hL
  apply Nat.div_le_of_le_mul
  linarith

theorem swapOut_sufficient (total out rin rout : Nat) (ht : total < M) (ho : out < rout) :
    out ≤ amountOut total (amountIn total out rin rout) rin rout := by
  unfold amountOut amountIn
  have hd : 0 < (rout - out) * (M - total) := Nat.mul_pos (by omega) (by omega)
  have hlt := Nat.lt_mul_div_succ (rin * out * M) hd
  generalize rin * out * M / ((rout - out) * (M - total)) + 1 = ain at *
  generalize M - total = g at *
  obtain ⟨t, rfl⟩ := Nat.exists_eq_add_of_le (Nat.le_of_lt ho)
  rw [Nat.add_sub_cancel_left] at hlt hd
  have hden : 0 < rin * M + ain * g := by
    rcases Nat.eq_zero_or_pos (ain * g) with h | h
    · rw [Nat.mul_assoc t g ain, Nat.mul_comm g ain, h] at hlt
      omega
    · omega
  rw [Nat.le_div_iff_mul_le hden]
  linarith

/-- the step shared by both K checks: `out` leaves the reserve and `b` enters it, `t` remains;
    the floor in the swap formula gives `rin·out·M ≤ x·t`, the fee bound gives `x ≤ b·M` -/
theorem k_core {M x b rin out t : Nat} (hM : 0 < M) (h1 : rin * out * M ≤ x * t)
    (h2 : x ≤ b * M) : rin * (out + t) ≤ (rin + b) * t := by
  have h3 : rin * out * M ≤ b * t * M :=
    calc rin * out * M ≤ x * t := h1
      _ ≤ b * M * t := Nat.mul_le_mul_right t h2
      _ = b * t * M := Nat.mul_right_comm b M t
  have h4 : rin * out ≤ b * t := Nat.le_of_mul_le_mul_right h3 hM
  linarith

/-- `fee` is whatever part of the total fee `⌊a·total/M⌋` stays out of the reserve; `g` is `M - total`
    in additive form -/
theorem net_of_fee {M total g a fee : Nat} (hg : M = total + g) (hfee : fee * M ≤ a * total) :
    a * g ≤ (a - fee) * M := by
  subst hg
  rcases Nat.le_total a fee with h | h
  · have := Nat.mul_le_mul_right (total + g) h
    rw [Nat.mul_add] at this
    have : a * g = 0 := by omega
    omega
  · obtain ⟨b, rfl⟩ := Nat.exists_eq_add_of_le h
    rw [Nat.add_sub_cancel_left]
    linarith

/-- the K check of a fixed-input swap, for ANY part `fee` of the total fee kept out of the reserve: the
    floor in the output pays for it -/
theorem swapIn_k (total a rin rout fee : Nat) (ht : total ≤ M) (hfee : fee * M ≤ a * total)
    (ho : amountOut total a rin rout ≤ rout) :
    rin * rout ≤ (rin + (a - fee)) * (rout - amountOut total a rin rout) := by
  unfold amountOut at *
  have hg : M = total + (M - total) := by omega
  generalize M - total = g at *
  have h1 := Nat.div_mul_le_self (a * g * rout) (rin * M + a * g)
  generalize a * g * rout / (rin * M + a * g) = out at *
  obtain ⟨t, rfl⟩ := Nat.exists_eq_add_of_le ho
  rw [Nat.add_sub_cancel_left]
  refine k_core (x := a * g) (by decide : 0 < M) ?_ (net_of_fee hg hfee)
  linarith

/-- the K check of a fixed-output swap: the `+1` in the charge more than pays for whatever part of the
    total fee is kept out of the reserve -/
theorem swapOut_k (total out rin rout fee : Nat) (ht : total < M) (ho : out < rout)
    (hfee : fee * M ≤ amountIn total out rin rout * total) :
    rin * rout ≤ (rin + (amountIn total out rin rout - fee)) * (rout - out) := by
  unfold amountIn at *
  have hg : M = total + (M - total) := by omega
  have hd : 0 < (rout - out) * (M - total) := Nat.mul_pos (by omega) (by omega)
  have hlt := Nat.lt_mul_div_succ (rin * out * M) hd
  generalize rin * out * M / ((rout - out) * (M - total)) + 1 = ain at *
  generalize M - total = g at *
  obtain ⟨t, rfl⟩ := Nat.exists_eq_add_of_le (Nat.le_of_lt ho)
  rw [Nat.add_sub_cancel_left] at hlt ⊢
  refine k_core (x := ain * g) (by decide : 0 < M) ?_ (net_of_fee hg hfee)
  linarith

end Mx.Pair
