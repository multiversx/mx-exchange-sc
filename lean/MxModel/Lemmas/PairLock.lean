/-
  Output locking of the pair (locking_wrapper.rs, `build_swap_output_payments`): what every
  operation does to simple-lock's holdings of the two pool tokens (`slk1`, `slk2`).
  Only swaps move them, and only by the LOCKED amount they deliver to their caller.
-/
import MxModel.Lemmas.PairStepFlow

namespace Mx.Pair

/-- LOCKED tokens (wrapping the first, the second pool token) a successful operation delivers
    to its caller -/
def lockedFlow (op : Op) (o : Out) : Nat × Nat :=
  match op with
  | .swapIn .ab _ _ => (0, o.lockedAmt)
  | .swapIn .ba _ _ => (o.lockedAmt, 0)
  | .swapOut .ab _ _ => (0, o.lockedAmt)
  | .swapOut .ba _ _ => (o.lockedAmt, 0)
  | _ => (0, 0)

theorem swap_slk_step {s s' : St} {op : Op} {o : Out} (hsw : isSwap op = true)
    (h : step s op = some (s', o)) :
    s'.slkOut (swapDir op) = s.slkOut (swapDir op) + o.lockedAmt ∧
    s'.slkIn (swapDir op) = s.slkIn (swapDir op) := by
  obtain ⟨_, _, _, _, hm, _⟩ := swap_moved hsw h
  exact ⟨hm.slkOut, hm.slkIn⟩

theorem move_lockedFlow (op : Op) (o : Out) :
    (PairLedger.move op o).getLkA = (lockedFlow op o).1 ∧
    (PairLedger.move op o).getLkB = (lockedFlow op o).2 := by
  cases op with
  | swapIn d _ _ => cases d <;> exact ⟨rfl, rfl⟩
  | swapOut d _ _ => cases d <;> exact ⟨rfl, rfl⟩
  | swapNoFee _ d _ => cases d <;> exact ⟨rfl, rfl⟩
  | _ => exact ⟨rfl, rfl⟩

theorem step_slk {s s' : St} {op : Op} {o : Out} (h : step s op = some (s', o)) :
    s'.slk1 = s.slk1 + (lockedFlow op o).1 ∧ s'.slk2 = s.slk2 + (lockedFlow op o).2 := by
  have t := PairLedger.step_stepFlow h
  obtain ⟨e1, e2⟩ := move_lockedFlow op o
  exact ⟨e1 ▸ t.tokA.slk, e2 ▸ t.tokB.slk⟩

/-- run a history, accumulating the LOCKED tokens (first, second) delivered to callers;
    failed transactions deliver nothing -/
def runLocked : St → List Op → St × Nat × Nat
  | s, [] => (s, 0, 0)
  | s, op :: ops =>
    match step s op with
    | some (s1, o) =>
      ((runLocked s1 ops).1, (lockedFlow op o).1 + (runLocked s1 ops).2.1,
        (lockedFlow op o).2 + (runLocked s1 ops).2.2)
    | none => runLocked s ops

theorem runLocked_fst (s : St) (ops : List Op) : (runLocked s ops).1 = run s ops := by
  induction ops generalizing s with
  | nil => rfl
  | cons op ops ih =>
    simp only [runLocked, run, List.foldl_cons]
    cases h : step s op with
    | none => simpa [run] using ih s
    | some r => obtain ⟨s1, o⟩ := r; simpa [run] using ih s1

theorem run_slk (ops : List Op) (s : St) :
    (run s ops).slk1 = s.slk1 + (runLocked s ops).2.1 ∧
    (run s ops).slk2 = s.slk2 + (runLocked s ops).2.2 := by
  induction ops generalizing s with
  | nil => simp [run, runLocked]
  | cons op ops ih =>
    simp only [runLocked, run, List.foldl_cons]
    cases h : step s op with
    | none => simpa [run] using ih s
    | some r =>
      obtain ⟨s1, o⟩ := r
      have h1 := step_slk h
      have h2 := ih s1
      simp only [run] at h2
      simp only []
      omega

end Mx.Pair
