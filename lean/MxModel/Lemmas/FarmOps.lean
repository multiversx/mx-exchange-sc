/-
  Farm: what a successful operation is, keeping track of the user it claims boosted rewards for.

  `step` dispatches 28 operations, but an invariant tells far fewer apart: the five bodies that run a
  boosted claim for a user, `updateEnergyForUser`, a transfer, the three admin operations that settle
  first, the start of production, the two that write the boosted-yields storage, time, and the
  rest, which only overwrite whole cells.  `step_step` sorts a successful `step` into these classes
  once (`Step`), with what the operation has checked; the per-invariant step lemmas start from it.
-/
import MxModel.Lemmas.FarmSpec

namespace Mx.Farm

open Mx.Weekly (Energy)

/-- the user whose boosted rewards an operation claims: the original caller of enter / claim /
    compound / exit / merge, the on-behalf user, the recorded owner of the payments of
    `claimRewardsOnBehalf`, the user of `claimBoostedRewards`; `none` for every other operation -/
def claimUser (s : St) : Op → Option Nat
  | .enter c o _ _ => origCaller s c o
  | .enterOB _ u _ _ => some u
  | .claim c o _ => origCaller s c o
  | .claimOB _ p => claimOwner s p
  | .compound c o _ => origCaller s c o
  | .exit c o _ _ => origCaller s c o
  | .merge c o _ => origCaller s c o
  | .claimBoosted c u => some (u.getD c)
  | _ => none

/-- The ways `step s op` can return `(s', o)`.  A class carries what the invariants need of what the operation
    has checked, not every guard: no class keeps `isAdmin`; `.settled` forgets which of `setPerBlock`,
    `endProduce`, `setPct` it was (and `x ≠ 0` of `setPerBlock`), `.enter` drops `hubAllows` / `allOwnedBy`,
    `.config` the bound of `setMinEpochs`.  A fact that needs one of these, or the operation's identity, starts
    from `step_some` (`step_budget`, `step_flow`, `step_active` do). -/
inductive Step (s : St) (op : Op) (s' : St) (o : Out) : Prop
  /-- `enterFarm`, `enterFarmOnBehalf` -/
  | enter {c u a : Nat} {e : List (Nat × Nat)} (hu : claimUser s op = some u) (hc : c ∈ s.users)
      (h : enterCore s c u c a e = some (s', o))
  /-- `claimRewards`, `claimRewardsOnBehalf`, `compoundRewards` (the last only in a minting farm) -/
  | claim {c u : Nat} {p : List (Nat × Nat)} {cmp : Bool} (hu : claimUser s op = some u) (hc : c ∈ s.users)
      (hk : cmp = true → s.kind = .mint) (h : claimCore s c u p cmp = some (s', o))
  | exit {c : Nat} {oo : Option Nat} {n a : Nat} (hop : op = .exit c oo n a) (hc : c ∈ s.users)
      (h : exitFarm s c oo n a = some (s', o))
  | merge {c : Nat} {oo : Option Nat} {p : List (Nat × Nat)} (hop : op = .merge c oo p) (hc : c ∈ s.users)
      (h : mergeFarmTokens s c oo p = some (s', o))
  | claimBoosted {c : Nat} {ou : Option Nat} (hop : op = .claimBoosted c ou) (hc : c ∈ s.users)
      (h : claimBoostedRewards s c ou = some (s', o))
  | updateEnergy {u : Nat} (hop : op = .updateEnergy u) (ho : o = {}) (h : updateEnergyForUser s u = some s')
  | transfer {a b n x : Nat} (hop : op = .transfer a b n x) (ho : o = {}) (ha : a ∈ s.users) (hb : b ∈ s.users)
      (h : Farm.transfer s a b n x = some s')
  /-- `setPerBlock`, `endProduce`, `setPct`: a settlement under the configuration in force, then the change -/
  | settled {s1 : St} {perBlock : Nat} {produce : Bool} {pct : Nat} (hu : claimUser s op = none)
      (ho : o = {}) (h : settle s = some s1) (hp : pct = s.pct ∨ pct ≤ MAXPCT)
      (e : s' = { s1 with perBlock := perBlock, produce := produce, pct := pct })
  | startProduce {c : Nat} (hop : op = .startProduce c) (ho : o = {}) (hp : s.perBlock ≠ 0) (hn : s.produce = false)
      (e : s' = { s with produce := true, lastBlock := s.block })
  /-- the stored config becomes `c'`: the stored one moved to the current week with `f` in its last
      slot, or, where none is stored, `BCfg.new` -/
  | setFactors {c W : Nat} {f : Factors} {c' : BCfg} (hop : op = .setFactors c f) (ho : o = {}) (hW : s.week = some W)
      (hm : 0 < f.minE ∧ 0 < f.minF) (hf : 0 < f.cE ∨ 0 < f.cF)
      (hc : match s.b.cfg with
        | some cfg => cfg.update W (some f) = some c'
        | none => c' = BCfg.new W f)
      (e : s' = { s with b := { s.b with cfg := some c' } })
  | collect {c W : Nat} (hop : op = .collect c) (ho : o = {}) (hW : s.week = some W)
      (hlt : Weekly.USER_MAX_CLAIM_WEEKS + 1 < W)
      (e : s' = (if W - (Weekly.USER_MAX_CLAIM_WEEKS + 1) < s.lastCollect + 1 then s
            else { s with
              b := (collectWeeks s.b s.undist (s.lastCollect + 1)
                      (W - (Weekly.USER_MAX_CLAIM_WEEKS + 1) + 1 - (s.lastCollect + 1))).1
              undist := (collectWeeks s.b s.undist (s.lastCollect + 1)
                      (W - (Weekly.USER_MAX_CLAIM_WEEKS + 1) + 1 - (s.lastCollect + 1))).2
              lastCollect := W - (Weekly.USER_MAX_CLAIM_WEEKS + 1) }))
  | advance {b e : Nat} (hop : op = .advance b e) (ho : o = {}) (hb : s.block ≤ b) (he : s.epoch ≤ e)
      (e : s' = { s with block := b, epoch := e })
  /-- the energy factory, pause / resume, penalty and minimum farming epochs, the permissions hub
      and the SC whitelist: whole cells overwritten, nothing else -/
  | config {energy : Nat → Option Energy} {active : Bool} {penaltyPct minFarmingEpochs : Nat}
      {hubWl : List (Nat × Nat)} {hubBl scWl : List Nat} (hu : claimUser s op = none) (ho : o = {})
      (e : s' = { s with energy := energy, active := active, penaltyPct := penaltyPct,
                         minFarmingEpochs := minFarmingEpochs, hubWl := hubWl, hubBl := hubBl, scWl := scWl })
      (hp : penaltyPct = s.penaltyPct ∨ penaltyPct < MAXPCT)

theorem settle_pct {s s1 : St} (h : settle s = some s1) : s1.pct = s.pct := by
  obtain ⟨_, _, hg, rfl⟩ := settle_some h
  obtain ⟨_, rfl, _⟩ := generate_spec hg
  rfl

/-- Use as `have hs := step_step h; clear h; cases hs with | settled _ _ h _ e => subst e; …`.  Without the
    `clear`, a `subst` in an arm re-introduces the outer `h : step s op = …` after the constructor's `h` and
    shadows it. -/
theorem step_step {s s' : St} {op : Op} {o : Out} (h : step s op = some (s', o)) : Step s op s' o := by
  have hs := step_some h
  clear h
  cases op
  case enter =>
    obtain ⟨_, ho, h⟩ := enterFarm_spec hs.2
    exact .enter ho hs.1 h
  case enterOB => exact .enter rfl hs.1 (enterFarmOnBehalf_spec hs.2).2.2
  case claim =>
    obtain ⟨_, ho, h⟩ := claimRewards_spec hs.2
    exact .claim ho hs.1 (fun hh => Bool.noConfusion hh) h
  case claimOB =>
    obtain ⟨_, hu, _, h⟩ := claimRewardsOnBehalf_spec hs.2
    exact .claim hu hs.1 (fun hh => Bool.noConfusion hh) h
  case compound =>
    obtain ⟨hk, _, ho, h⟩ := compoundRewards_spec hs.2
    exact .claim ho hs.1 (fun _ => hk) h
  case exit => exact .exit rfl hs.1 hs.2
  case merge => exact .merge rfl hs.1 hs.2
  case claimBoosted => exact .claimBoosted rfl hs.1 hs.2
  case transfer => exact .transfer rfl hs.2.2.2 hs.1 hs.2.1 hs.2.2.1
  case setEnergy =>
    obtain ⟨rfl, ho⟩ := hs
    exact .config rfl ho rfl (Or.inl rfl)
  case updateEnergy => exact .updateEnergy rfl hs.2 hs.1
  case setPerBlock =>
    obtain ⟨_, _, _, h1, rfl⟩ := setPerBlock_some hs.1
    exact .settled rfl hs.2 h1 (Or.inl (settle_pct h1)) rfl
  case startProduce =>
    obtain ⟨_, hp, hn, rfl⟩ := startProduce_some hs.1
    exact .startProduce rfl hs.2 hp hn rfl
  case endProduce =>
    obtain ⟨_, _, h1, rfl⟩ := endProduce_some hs.1
    exact .settled rfl hs.2 h1 (Or.inl (settle_pct h1)) rfl
  case setPct =>
    obtain ⟨_, hp, _, h1, rfl⟩ := setPct_some hs.1
    exact .settled rfl hs.2 h1 (Or.inr hp) rfl
  case setFactors =>
    obtain ⟨_, hm, hf, _, _, hW, hc, rfl⟩ := setFactors_some hs.1
    exact .setFactors rfl hs.2 hW hm hf hc rfl
  case collect =>
    obtain ⟨_, _, hW, hlt, rfl⟩ := collectUndistributed_some hs.1
    exact .collect rfl hs.2 hW hlt rfl
  case pause =>
    obtain ⟨_, rfl⟩ := setActive_some hs.1
    exact .config rfl hs.2 rfl (Or.inl rfl)
  case resume =>
    obtain ⟨_, rfl⟩ := setActive_some hs.1
    exact .config rfl hs.2 rfl (Or.inl rfl)
  case setPenalty =>
    obtain ⟨_, hp, rfl⟩ := setPenalty_some hs.1
    exact .config rfl hs.2 rfl (Or.inr hp)
  case setMinEpochs =>
    obtain ⟨_, _, rfl⟩ := setMinEpochs_some hs.1
    exact .config rfl hs.2 rfl (Or.inl rfl)
  case hubWhitelist =>
    obtain ⟨_, rfl, ho⟩ := hs
    exact .config rfl ho rfl (Or.inl rfl)
  case hubRemove =>
    obtain ⟨_, rfl, ho⟩ := hs
    exact .config rfl ho rfl (Or.inl rfl)
  case hubBlacklist =>
    obtain ⟨rfl, ho⟩ := hs
    exact .config rfl ho rfl (Or.inl rfl)
  case scWhitelist =>
    obtain ⟨_, rfl, ho⟩ := hs
    exact .config rfl ho rfl (Or.inl rfl)
  case scUnwhitelist =>
    obtain ⟨_, rfl, ho⟩ := hs
    exact .config rfl ho rfl (Or.inl rfl)
  case advance =>
    obtain ⟨hbe, rfl, ho⟩ := hs
    exact .advance rfl ho hbe.1 hbe.2 rfl
  case bad => exact hs.elim

end Mx.Farm
