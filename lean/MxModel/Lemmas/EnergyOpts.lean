/-
  `addLockOptions`: whatever it stores is an admissible option set (sorted, strictly increasing
  in both components, at least a year, at most 100 %).
-/
import MxModel.Lemmas.EnergyArith
import MxModel.Lemmas.EnergySpec

namespace Mx.Energy

/-- what `sortOpts` alone gives; the `noDupEpochs` check then makes it strict (`schain_of_checks`) -/
def AdjLe : List Opt → Prop
  | a :: b :: rest => a.1 ≤ b.1 ∧ AdjLe (b :: rest)
  | _ => True

theorem insertOpt_adjLe (o : Opt) (l : List Opt) (h : AdjLe l) : AdjLe (insertOpt o l) := by
  induction l with
  | nil => trivial
  | cons x xs ih =>
    unfold insertOpt
    split
    · rename_i hle
      exact ⟨hle, h⟩
    · rename_i hgt
      cases xs with
      | nil =>
        show AdjLe [x, o]
        exact ⟨by omega, trivial⟩
      | cons y ys =>
        obtain ⟨hxy, hrest⟩ := h
        have ih' := ih hrest
        unfold insertOpt at ih' ⊢
        split
        · rename_i hoy
          exact ⟨by omega, hoy, hrest⟩
        · rename_i hoy
          simp only [hoy, if_false] at ih'
          exact ⟨hxy, ih'⟩

theorem sortOpts_adjLe (l : List Opt) : AdjLe (sortOpts l) := by
  induction l with
  | nil => trivial
  | cons x xs ih => exact insertOpt_adjLe x _ ih

theorem mem_insertOpt {x o : Opt} {l : List Opt} : x ∈ insertOpt o l ↔ x = o ∨ x ∈ l := by
  induction l with
  | nil => simp [insertOpt]
  | cons y ys ih =>
    unfold insertOpt
    split
    · simp
    · simp only [List.mem_cons, ih]
      constructor
      · rintro (h | h | h)
        · exact Or.inr (Or.inl h)
        · exact Or.inl h
        · exact Or.inr (Or.inr h)
      · rintro (h | h | h)
        · exact Or.inr (Or.inl h)
        · exact Or.inl h
        · exact Or.inr (Or.inr h)

theorem mem_sortOpts {x : Opt} {l : List Opt} : x ∈ sortOpts l ↔ x ∈ l := by
  induction l with
  | nil => simp [sortOpts]
  | cons y ys ih =>
    simp only [sortOpts, mem_insertOpt, ih, List.mem_cons]

theorem schain_of_checks (a : Opt) (rest : List Opt) (h1 : AdjLe (a :: rest))
    (h2 : noDupEpochs (a :: rest) = true) (h3 : strictPcts (a :: rest) = true)
    (h4 : ∀ o ∈ rest, o.2 ≤ MAXPCT) : SChain a.1 a.2 rest := by
  induction rest generalizing a with
  | nil => trivial
  | cons b bs ih =>
    obtain ⟨hab, hr⟩ := h1
    simp only [noDupEpochs, Bool.and_eq_true, decide_eq_true_eq] at h2
    simp only [strictPcts, Bool.and_eq_true, decide_eq_true_eq] at h3
    refine ⟨by omega, h3.1, h4 b (by simp), ?_⟩
    exact ih b hr h2.2 h3.2 (fun o ho => h4 o (by simp [ho]))

theorem SChain.bounds {e0 p0 : Nat} {l : List Opt} (h : SChain e0 p0 l) :
    ∀ o ∈ l, e0 < o.1 ∧ o.2 ≤ MAXPCT := by
  induction l generalizing e0 p0 with
  | nil => simp
  | cons x xs ih =>
    obtain ⟨e1, p1⟩ := x
    obtain ⟨a, _, c, d⟩ := h
    intro o ho
    rcases List.mem_cons.mp ho with rfl | hin
    · exact ⟨a, c⟩
    · have := ih d o hin
      exact ⟨by omega, this.2⟩

theorem Admissible.bounds {l : List Opt} (h : Admissible l) :
    ∀ o ∈ l, YEAR ≤ o.1 ∧ o.2 ≤ MAXPCT := by
  cases l with
  | nil => exact h.elim
  | cons x xs =>
    obtain ⟨e1, p1⟩ := x
    obtain ⟨a, b, c⟩ := h
    intro o ho
    rcases List.mem_cons.mp ho with rfl | hin
    · exact ⟨a, b⟩
    · have := c.bounds o hin
      exact ⟨by omega, this.2⟩

/-- `hold` allows an empty stored list: a world deployed with `Cfg.opts = []` -/
theorem addOptions_admissible {s s' : St} {new : List Opt}
    (hold : s.opts = [] ∨ Admissible s.opts) (h : cfg s (.addOptions new) = some s') :
    Admissible s'.opts ∧ s' = { s with opts := sortOpts (s.opts ++ new) } := by
  obtain ⟨-, hall, hne, hnd, hsp, rfl⟩ := addOptions_spec h
  refine ⟨?_, rfl⟩
  show Admissible (sortOpts (s.opts ++ new))
  have hb : ∀ o ∈ sortOpts (s.opts ++ new), YEAR ≤ o.1 ∧ o.2 ≤ MAXPCT := by
    intro o ho
    rw [mem_sortOpts, List.mem_append] at ho
    rcases ho with ho | ho
    · rcases hold with he | ha
      · rw [he] at ho; simp at ho
      · exact ha.bounds o ho
    · rw [List.all_eq_true] at hall
      simpa using hall o ho
  have hs := sortOpts_adjLe (s.opts ++ new)
  generalize sortOpts (s.opts ++ new) = l at *
  cases l with
  | nil => exact (hne rfl).elim
  | cons a rest =>
    obtain ⟨e1, p1⟩ := a
    have h0 := hb (e1, p1) (by simp)
    exact ⟨h0.1, h0.2, schain_of_checks (e1, p1) rest hs hnd hsp (fun o ho => (hb o (by simp [ho])).2)⟩

theorem cfg_opts {s s' : St} {o : CfgOp} (h : cfg s o = some s')
    (hold : Admissible s.opts) : Admissible s'.opts := by
  obtain ⟨os, bp, p, wl, hs', hos, -⟩ := cfg_eq h
  rcases hos with rfl | ⟨new, rfl⟩
  · rw [hs']; exact hold
  · exact (addOptions_admissible (Or.inr hold) h).1

end Mx.Energy
