/-
  C11 on the farm-staking model, history level: a (user, week) boosted reward is paid at most once,
  and a week's leftover is collected at most once.  No ghost field is needed: everything is read
  off `b.paid`, `b.remaining`, `lastCollectWeek`, `undistributed` and the claim progress of the
  weekly module.  The boosted claim of a user writes the pool cells (`paid`, `remaining`,
  `collected`) of week `k` only when `k` is in the user's claim window
  `progress(user).week ≤ k < current week ≤ k + 4`, and every operation is (`Fx`) the boosted claim
  of ONE user (`claimerOf`), the undistributed collection, or leaves the pools alone.
-/
import MxModel.Lemmas.StakingWeekPos
import MxModel.Lemmas.StakingPool

namespace Mx.Staking

open Mx.Weekly

def PoolEq (b' b : B) (k : Nat) : Prop :=
  b'.paid k = b.paid k ∧ b'.remaining k = b.remaining k ∧ b'.collected k = b.collected k

theorem PoolEq.refl (b : B) (k : Nat) : PoolEq b b k := ⟨rfl, rfl, rfl⟩

theorem PoolEq.trans {a b c : B} {k : Nat} (h1 : PoolEq a b k) (h2 : PoolEq b c k) : PoolEq a c k :=
  ⟨h1.1.trans h2.1, h1.2.1.trans h2.2.1, h1.2.2.trans h2.2.2⟩

/-- week `k` is in the claim window of a user whose stored progress is `prog`, in week `W`:
    there IS a stored progress, it has not passed `k`, `k` is a completed week, and it is one of
    the last four -/
def InWindow (prog : Option ClaimProgress) (W k : Nat) : Prop :=
  ∃ p, prog = some p ∧ p.week ≤ k ∧ k < W ∧ W ≤ k + 4

theorem not_window {o : Option ClaimProgress} {W k : Nat} (hk : ¬ InWindow o W k) :
    k < claimFrom o W ∨ W ≤ k :=
  (Nat.lt_or_ge k (claimFrom o W)).imp_right fun h1 =>
    Nat.le_of_not_lt fun h2 => hk (mem_window.mp ⟨h1, h2⟩)

theorem claimBoostedYields_other {s : St} {u f : Nat} {r : Weekly.St × B × Nat}
    (h : claimBoostedYields s u f = some r) {k : Nat}
    (hk : ¬ InWindow (s.w.progress u) s.week k) : PoolEq r.2.1 s.b k := by
  obtain ⟨-, e1, e2, e3⟩ := Cell.same_pool ((claimBoostedYields_cells h).2.1 k (not_window hk))
  exact ⟨e3, e1, e2⟩

theorem claimBoostedYields_paid_mono {s : St} {u f : Nat} {r : Weekly.St × B × Nat}
    (h : claimBoostedYields s u f = some r) (k : Nat) : s.b.paid k ≤ r.2.1.paid k := by
  by_cases hk : InWindow (s.w.progress u) s.week k
  · exact Nat.le.intro
      ((claimBoostedYields_cells h).1 k (mem_window.mpr hk).1 (mem_window.mpr hk).2).paid.symm
  · exact Nat.le_of_eq (claimBoostedYields_other h hk).1.symm

/-- what an endpoint that runs `claim_boosted_yields_rewards(u)` does to the cells C11 talks about:
    pools outside `u`'s claim window untouched, only `u`'s progress moves (to the current week, or
    cleared), the collection marker, the undistributed total and the clock stay. -/
structure ClaimFx (s s' : St) (u : Nat) : Prop where
  pools : ∀ k, ¬ InWindow (s.w.progress u) s.week k → PoolEq s'.b s.b k
  mono : ∀ k, s.b.paid k ≤ s'.b.paid k
  prog : ∃ o, (∀ p, o = some p → p.week = s.week) ∧ s'.w.progress = upd s.w.progress u o
  lcw : s'.lastCollectWeek = s.lastCollectWeek
  und : s'.undistributed = s.undistributed
  ep : s'.epoch = s.epoch
  fw : s'.firstWeek = s.firstWeek

theorem Claims.same {s s1 s2 t : St} {u : Nat} {r1 r2 : Weekly.St × B × Nat}
    (k1 : Claims s s1 u t r1) (k2 : Claims s s2 u t r2) :
    r1 = r2 ∧ s1.b.paid = s2.b.paid ∧ s1.b.remaining = s2.b.remaining ∧
      s1.paidBoosted = s2.paidBoosted := by
  cases k1.claim.symm.trans k2.claim
  exact ⟨rfl, k1.pools.1.trans k2.pools.1.symm, k1.pools.2.1.trans k2.pools.2.1.symm,
    k1.paid.trans k2.paid.symm⟩

theorem ClaimFx.of_claim {s s' t : St} {u : Nat} {r : Weekly.St × B × Nat}
    (h : Claims s s' u t r) : ClaimFx s s' u := by
  obtain ⟨ew, ek, e1, e2, e3, _⟩ := h.entry_frame
  have eb := h.pools
  obtain ⟨o1, ho1, hp1, _, _⟩ := claimBoostedYields_move h.claim
  rw [ew] at hp1
  rw [ek] at ho1
  refine ⟨fun k hk => ?_, fun k => ?_, ?_, h.lcw, h.und, h.epoch, h.firstWeek⟩
  · unfold PoolEq
    rw [eb.1, eb.2.1, eb.2.2.1, ← e1, ← e2, ← e3]
    exact claimBoostedYields_other h.claim (by rw [ew, ek]; exact hk)
  · rw [eb.1, ← e1]; exact claimBoostedYields_paid_mono h.claim k
  · rcases h.w with e | ⟨cur, hw⟩
    · exact ⟨o1, ho1, by rw [e]; exact hp1⟩
    · exact ⟨_, newOf_week, by rw [(Weekly.updateEnergyAndProgress_step hw).move.1, hp1, upd_upd]⟩

/-- an operation that leaves the pools, the collection marker and the undistributed total alone;
    time may pass; at most one user's progress moves to the current week -/
structure QuietFx (s s' : St) : Prop where
  paid : s'.b.paid = s.b.paid
  rem : s'.b.remaining = s.b.remaining
  coll : s'.b.collected = s.b.collected
  lcw : s'.lastCollectWeek = s.lastCollectWeek
  und : s'.undistributed = s.undistributed
  ep : s.epoch ≤ s'.epoch
  fw : s'.firstWeek = s.firstWeek
  prog : s'.w.progress = s.w.progress ∨
    ∃ u o, (∀ p, o = some p → p.week = s.week) ∧ s'.w.progress = upd s.w.progress u o

/-- the undistributed collection: the weekly module and the clock are untouched -/
structure CollectFx (s s' : St) : Prop where
  spec : ∃ o, collectUndistributed s = some (s', o)
  w : s'.w = s.w
  ep : s'.epoch = s.epoch
  fw : s'.firstWeek = s.firstWeek

inductive Fx (s : St) (op : Op) (s' : St) : Prop
  | claim (u : Nat) (hc : claimerOf s op = some u) (h : ClaimFx s s' u)
  | collect (hop : op = .collectUndistributed) (h : CollectFx s s')
  | quiet (hc : claimerOf s op = none) (h : QuietFx s s')

theorem QuietFx.refl (s : St) : QuietFx s s :=
  ⟨rfl, rfl, rfl, rfl, rfl, Nat.le_refl _, rfl, Or.inl rfl⟩

theorem QuietFx.of_wb {s s₀ s' : St} (e : wb s' = wb s₀) (q : QuietFx s s₀) : QuietFx s s' := by
  obtain ⟨ew, eb, eu, el, -, -, -, -, ee, ef⟩ := WB.mk.inj e
  exact ⟨eb ▸ q.paid, eb ▸ q.rem, eb ▸ q.coll, el ▸ q.lcw, eu ▸ q.und, ee ▸ q.ep, ef ▸ q.fw, ew ▸ q.prog⟩

theorem step_fx {s s' : St} {op : Op} {o : Out} (h : step s op = some (s', o)) : Fx s op s' := by
  cases step_kind h with
  | claim hc k => exact .claim _ hc (.of_claim k)
  | same hc e | settle hc e | factors hc _ e =>
    exact .quiet hc (.of_wb e ⟨rfl, rfl, rfl, rfl, rfl, Nat.le_refl _, rfl, Or.inl rfl⟩)
  | tick hc d e =>
    exact .quiet hc (.of_wb e ⟨rfl, rfl, rfl, rfl, rfl, Nat.le_add_right _ d, rfl, Or.inl rfl⟩)
  | energy hc hg e =>
    exact .quiet hc (.of_wb e ⟨rfl, rfl, rfl, rfl, rfl, Nat.le_refl _, rfl, Or.inr ⟨_, _, newOf_week,
      (Weekly.updateEnergyAndProgress_step hg).move.1⟩⟩)
  | sweep hop h e =>
    exact .collect hop ⟨⟨_, h⟩, congrArg (·.w) e, congrArg (·.epoch) e, congrArg (·.firstWeek) e⟩

theorem Fx.week_le {s s' : St} {op : Op} (h : Fx s op s') : s.week ≤ s'.week := by
  cases h with
  | claim u _ h => exact Nat.le_of_eq (week_eq h.fw h.ep).symm
  | collect _ h => exact Nat.le_of_eq (week_eq h.fw h.ep).symm
  | quiet _ h => exact week_mono h.fw h.ep

theorem Fx.progress {s s' : St} {op : Op} (h : Fx s op s') (v : Nat) :
    s'.w.progress v = s.w.progress v ∨ s'.w.progress v = none ∨
      ∃ p, s'.w.progress v = some p ∧ p.week = s.week := by
  have key : ∀ u o, (∀ p, o = some p → p.week = s.week) → s'.w.progress = upd s.w.progress u o →
      s'.w.progress v = s.w.progress v ∨ s'.w.progress v = none ∨
        ∃ p, s'.w.progress v = some p ∧ p.week = s.week := by
    intro u o ho hp
    rw [hp]
    by_cases hv : v = u
    · subst hv
      rw [upd_same]
      cases o with
      | none => exact Or.inr (Or.inl rfl)
      | some p => exact Or.inr (Or.inr ⟨p, rfl, ho p rfl⟩)
    · rw [upd_other _ _ hv]; exact Or.inl rfl
  cases h with
  | claim u _ h => obtain ⟨o, ho, hp⟩ := h.prog; exact key u o ho hp
  | collect _ h => rw [h.w]; exact Or.inl rfl
  | quiet _ h =>
    rcases h.prog with hp | ⟨u, o, ho, hp⟩
    · rw [hp]; exact Or.inl rfl
    · exact key u o ho hp

theorem Fx.paid_gate {s s' : St} {op : Op} (h : Fx s op s') {w : Nat} (hne : s'.b.paid w ≠ s.b.paid w) :
    ∃ u p, claimerOf s op = some u ∧ s.w.progress u = some p ∧ p.week ≤ w ∧ w < s.week ∧
      s.week ≤ w + 4 ∧ s.b.paid w < s'.b.paid w ∧ s'.week = s.week ∧
      (s'.w.progress u = none ∨ ∃ p', s'.w.progress u = some p' ∧ p'.week = s.week) := by
  cases h with
  | claim u hc h =>
    by_cases hin : InWindow (s.w.progress u) s.week w
    · obtain ⟨p, hp, h1, h2, h3⟩ := hin
      obtain ⟨o, ho, hpr⟩ := h.prog
      refine ⟨u, p, hc, hp, h1, h2, h3, ?_, week_eq h.fw h.ep, ?_⟩
      · have := h.mono w; omega
      · rw [hpr, upd_same]
        cases o with
        | none => exact Or.inl rfl
        | some p' => exact Or.inr ⟨p', rfl, ho p' rfl⟩
    · exact absurd (h.pools w hin).1 hne
  | collect _ h =>
    obtain ⟨o, hs⟩ := h.spec
    obtain ⟨_, ⟨_, rfl⟩ | ⟨_, _, _, _, hp, _⟩⟩ := collectUndistributed_spec hs
    · exact absurd rfl hne
    · exact absurd (congrFun hp w) hne
  | quiet _ h => exact absurd (congrFun h.paid w) hne

/-- 1 if the operation succeeds, runs the boosted claim of `u`, and changes `paid(w)` -/
def debitStep (s : St) (op : Op) (u w : Nat) : Nat :=
  match step s op with
  | some r => if claimerOf s op = some u ∧ r.1.b.paid w ≠ s.b.paid w then 1 else 0
  | none => 0

/-- the number of operations of the history `ops` (run from `s`) that debit the pool of week `w`
    through a boosted claim of user `u` -/
def debits : St → List Op → Nat → Nat → Nat
  | _, [], _, _ => 0
  | s, op :: ops, u, w => debitStep s op u w + debits (next s op) ops u w

/-- week `w` is closed for user `u`: it is over and `u`'s stored progress (if any) is beyond it -/
def Closed (s : St) (u w : Nat) : Prop :=
  w < s.week ∧ ∀ p, s.w.progress u = some p → w < p.week

theorem closed_next {s : St} {u w : Nat} (h : Closed s u w) (op : Op) : Closed (next s op) u w := by
  refine next_ind (P := fun t => Closed t u w) op h fun {s' _} hs => ?_
  have fx := step_fx hs
  refine ⟨Nat.lt_of_lt_of_le h.1 fx.week_le, fun p hp => ?_⟩
  rcases fx.progress u with e | e | ⟨p', e, hw⟩
  · rw [e] at hp; exact h.2 p hp
  · rw [e] at hp; cases hp
  · rw [e] at hp; cases hp; rw [hw]; exact h.1

theorem closed_debitStep {s : St} {u w : Nat} (h : Closed s u w) (op : Op) : debitStep s op u w = 0 := by
  unfold debitStep
  cases hs : step s op with
  | none => rfl
  | some r =>
    have fx := step_fx (s := s) (s' := r.1) (o := r.2) hs
    show (if claimerOf s op = some u ∧ r.1.b.paid w ≠ s.b.paid w then 1 else 0) = 0
    rw [if_neg]
    rintro ⟨hc, hne⟩
    obtain ⟨u', p, hc', hp, hle, _⟩ := fx.paid_gate hne
    rw [hc] at hc'
    cases hc'
    have := h.2 p hp
    omega

theorem closed_debits {u w : Nat} : ∀ (ops : List Op) {s : St}, Closed s u w → debits s ops u w = 0
  | [], _, _ => rfl
  | op :: ops, s, h => by
    show debitStep s op u w + debits (next s op) ops u w = 0
    rw [closed_debitStep h op, closed_debits ops (closed_next h op)]

theorem debitStep_closes {s : St} {op : Op} {u w : Nat} (h : debitStep s op u w ≠ 0) :
    Closed (next s op) u w := by
  unfold debitStep at h
  unfold next
  cases hs : step s op with
  | none => rw [hs] at h; exact absurd rfl h
  | some r =>
    rw [hs] at h
    have fx := step_fx (s := s) (s' := r.1) (o := r.2) hs
    have hc : claimerOf s op = some u ∧ r.1.b.paid w ≠ s.b.paid w := by
      by_contra hn
      simp only [hn, if_false] at h
      exact h rfl
    obtain ⟨u', p, hc', hp, hle, hlt, _, _, hwk, hafter⟩ := fx.paid_gate hc.2
    rw [hc.1] at hc'
    cases hc'
    refine ⟨by show w < r.1.week; rw [hwk]; exact hlt, fun q hq => ?_⟩
    change r.1.w.progress u = some q at hq
    rcases hafter with e | ⟨p', e, hw⟩
    · rw [e] at hq; cases hq
    · rw [e] at hq; cases hq; rw [hw]; exact hlt

theorem debitStep_le_one (s : St) (op : Op) (u w : Nat) : debitStep s op u w ≤ 1 := by
  unfold debitStep
  split
  · split <;> omega
  · omega

/-- paid at most once, from ANY state along ANY history: a debit of `(u, w)` closes the week for `u`
    (`debitStep_closes`), and a closed week is not debited again (`closed_debits`) -/
theorem debits_le_one (u w : Nat) : ∀ (ops : List Op) (s : St), debits s ops u w ≤ 1
  | [], _ => Nat.zero_le _
  | op :: ops, s => by
    show debitStep s op u w + debits (next s op) ops u w ≤ 1
    by_cases h0 : debitStep s op u w = 0
    · rw [h0, Nat.zero_add]; exact debits_le_one u w ops _
    · rw [closed_debits ops (debitStep_closes h0)]
      exact debitStep_le_one s op u w

theorem Fx.claimer_closes {s s' : St} {op : Op} (h : Fx s op s') {u : Nat}
    (hu : claimerOf s op = some u) {w : Nat} (hw : w < s.week) : Closed s' u w := by
  cases h with
  | claim u' hc h =>
    rw [hu] at hc
    cases hc
    obtain ⟨o, ho, hp⟩ := h.prog
    refine ⟨by rw [week_eq h.fw h.ep]; exact hw, fun p hq => ?_⟩
    rw [hp, upd_same] at hq
    rw [ho p hq]; exact hw
  | collect hop _ => rw [hop] at hu; cases hu
  | quiet hc _ => rw [hu] at hc; cases hc

/-- the collection marker is 0 (nothing collected yet) or at least five weeks behind, and every
    collected week's pool is empty -/
structure CollInv (s : St) : Prop where
  marker : s.lastCollectWeek = 0 ∨ s.lastCollectWeek + 5 ≤ s.week
  zero : ∀ w, 1 ≤ w → w ≤ s.lastCollectWeek → s.b.remaining w = 0

theorem collInv_init (epoch block dsc maxApr minUnbond perBlock : Nat) (accts wl : List Nat) :
    CollInv (init epoch block dsc maxApr minUnbond perBlock accts wl) :=
  ⟨Or.inl rfl, fun _ _ _ => rfl⟩

/-- a collected week (`1 ≤ w ≤ lastCollectWeek`) is outside every claim window: no operation
    writes its pool again -/
theorem Fx.collected_frozen {s s' : St} {op : Op} (h : Fx s op s') (hI : CollInv s) {w : Nat}
    (h1 : 1 ≤ w) (h2 : w ≤ s.lastCollectWeek) :
    s'.b.paid w = s.b.paid w ∧ s'.b.remaining w = s.b.remaining w ∧ s'.b.collected w = s.b.collected w := by
  have hm : s.lastCollectWeek + 5 ≤ s.week := by
    rcases hI.marker with h0 | h0
    · omega
    · exact h0
  cases h with
  | claim u _ h =>
    apply h.pools w
    rintro ⟨p, _, _, _, h5⟩
    omega
  | collect _ h =>
    obtain ⟨o, hs⟩ := h.spec
    obtain ⟨_, ⟨_, rfl⟩ | ⟨_, _, hr, _, hp, hc, _⟩⟩ := collectUndistributed_spec hs
    · exact ⟨rfl, rfl, rfl⟩
    · refine ⟨congrFun hp w, ?_, congrFun hc w⟩
      rw [hr w, if_neg (by omega)]
  | quiet _ h => exact ⟨congrFun h.paid w, congrFun h.rem w, congrFun h.coll w⟩

theorem CollInv.of_frame {s s' : St} (hI : CollInv s)
    (hl : s'.lastCollectWeek = s.lastCollectWeek) (hw : s.week ≤ s'.week)
    (hr : ∀ w, 1 ≤ w → w ≤ s.lastCollectWeek → s'.b.remaining w = s.b.remaining w) : CollInv s' := by
  refine ⟨?_, fun w h1 h2 => ?_⟩
  · rw [hl]; exact hI.marker.imp id fun h0 => Nat.le_trans h0 hw
  · rw [hl] at h2
    rw [hr w h1 h2]; exact hI.zero w h1 h2

theorem Fx.collInv {s s' : St} {op : Op} (h : Fx s op s') (hI : CollInv s) : CollInv s' := by
  have hwk := h.week_le
  have hfr := fun w h1 h2 => (h.collected_frozen hI (w := w) h1 h2).2.1
  cases h with
  | claim u _ h => exact hI.of_frame h.lcw hwk hfr
  | collect _ h =>
    obtain ⟨o, hs⟩ := h.spec
    obtain ⟨h5, ⟨_, rfl⟩ | ⟨hlt, hl, hr, _, _, _, _, hw⟩⟩ := collectUndistributed_spec hs
    · exact hI
    · refine ⟨Or.inr (by rw [hl, hw]; omega), ?_⟩
      intro w h1 h2
      rw [hl] at h2
      rw [hr w]
      by_cases hk : s.lastCollectWeek + 1 ≤ w ∧ w ≤ s.week - 5
      · rw [if_pos hk]
      · rw [if_neg hk]; exact hI.zero w h1 (by omega)
  | quiet _ h => exact hI.of_frame h.lcw hwk hfr

theorem collInv_next {s : St} (hI : CollInv s) (op : Op) : CollInv (next s op) :=
  next_ind op hI fun hs => (step_fx hs).collInv hI

theorem run_collInv (ops : List Op) {s : St} (h : CollInv s) : CollInv (run s ops) :=
  run_induction (fun hI hs => (step_fx hs).collInv hI) ops h

/-- what one step does to the marker and the undistributed total (no invariant needed) -/
theorem Fx.marker {s s' : St} {op : Op} (h : Fx s op s') :
    s.lastCollectWeek ≤ s'.lastCollectWeek ∧
    (op ≠ .collectUndistributed →
      s'.lastCollectWeek = s.lastCollectWeek ∧ s'.undistributed = s.undistributed) ∧
    s'.undistributed = s.undistributed +
      ((List.range (s'.lastCollectWeek - s.lastCollectWeek)).map
        fun i => s.b.remaining (s.lastCollectWeek + 1 + i)).sum ∧
    (∀ k, s.lastCollectWeek < k → k ≤ s'.lastCollectWeek → s'.b.remaining k = 0 ∧ k + 5 ≤ s.week) ∧
    (op = .collectUndistributed → ∀ k, ¬(s.lastCollectWeek < k ∧ k ≤ s'.lastCollectWeek) →
      s'.b.remaining k = s.b.remaining k) ∧
    (op = .collectUndistributed → s'.b.paid = s.b.paid ∧ s'.b.collected = s.b.collected) := by
  have same : s'.lastCollectWeek = s.lastCollectWeek → s'.undistributed = s.undistributed →
      s'.undistributed = s.undistributed +
        ((List.range (s'.lastCollectWeek - s.lastCollectWeek)).map
          fun i => s.b.remaining (s.lastCollectWeek + 1 + i)).sum := by
    intro e1 e2
    rw [e1, e2, Nat.sub_self]; rfl
  cases h with
  | claim u hc h =>
    refine ⟨Nat.le_of_eq h.lcw.symm, fun _ => ⟨h.lcw, h.und⟩, same h.lcw h.und, ?_, ?_, ?_⟩
    · intro k h1 h2; rw [h.lcw] at h2; omega
    · intro hop; rw [hop] at hc; cases hc
    · intro hop; rw [hop] at hc; cases hc
  | collect hop h =>
    obtain ⟨o, hs⟩ := h.spec
    obtain ⟨h5, ⟨_, rfl⟩ | ⟨hlt, hl, hr, hu, hp, hc, _, hw⟩⟩ := collectUndistributed_spec hs
    · refine ⟨Nat.le_refl _, fun _ => ⟨rfl, rfl⟩, same rfl rfl, ?_, fun _ _ _ => rfl, fun _ => ⟨rfl, rfl⟩⟩
      intro k h1 h2; omega
    · refine ⟨by omega, fun hne => absurd hop hne, by rw [hl]; exact hu, ?_, ?_, fun _ => ⟨hp, hc⟩⟩
      · intro k h1 h2
        rw [hl] at h2
        rw [hr k, if_pos (by omega)]
        exact ⟨rfl, by omega⟩
      · intro _ k hk
        rw [hl] at hk
        rw [hr k, if_neg (by omega)]
  | quiet _ h =>
    refine ⟨Nat.le_of_eq h.lcw.symm, fun _ => ⟨h.lcw, h.und⟩, same h.lcw h.und, ?_, ?_, ?_⟩
    · intro k h1 h2; rw [h.lcw] at h2; omega
    · intro _ k _; exact congrFun h.rem k
    · intro _; exact ⟨h.paid, h.coll⟩

theorem run_collected_frozen {w : Nat} (h1 : 1 ≤ w) : ∀ (ops : List Op) {s : St}, CollInv s →
    w ≤ s.lastCollectWeek →
    (run s ops).b.paid w = s.b.paid w ∧ (run s ops).b.remaining w = 0 ∧
      (run s ops).b.collected w = s.b.collected w ∧ w ≤ (run s ops).lastCollectWeek
  | [], s, hI, h2 => ⟨rfl, hI.zero w h1 h2, rfl, h2⟩
  | op :: ops, s, hI, h2 => by
    rw [run_cons]
    have hn : (next s op).b.paid w = s.b.paid w ∧ (next s op).b.collected w = s.b.collected w ∧
        s.lastCollectWeek ≤ (next s op).lastCollectWeek :=
      next_ind (P := fun t => t.b.paid w = s.b.paid w ∧ t.b.collected w = s.b.collected w ∧
          s.lastCollectWeek ≤ t.lastCollectWeek) op ⟨rfl, rfl, Nat.le_refl _⟩ fun hs =>
        have fx := step_fx hs
        ⟨(fx.collected_frozen hI h1 h2).1, (fx.collected_frozen hI h1 h2).2.2, fx.marker.1⟩
    obtain ⟨a1, a2, a3, a4⟩ := run_collected_frozen h1 ops (collInv_next hI op) (Nat.le_trans h2 hn.2.2)
    exact ⟨a1.trans hn.1, a2, a3.trans hn.2.1, a4⟩

/-- 1 if the operation succeeds and moves the collection marker across week `w` -/
def crossStep (s : St) (op : Op) (w : Nat) : Nat :=
  match step s op with
  | some r => if s.lastCollectWeek < w ∧ w ≤ r.1.lastCollectWeek then 1 else 0
  | none => 0

/-- the number of operations of the history at which week `w` is collected -/
def crossings : St → List Op → Nat → Nat
  | _, [], _ => 0
  | s, op :: ops, w => crossStep s op w + crossings (next s op) ops w

theorem next_marker_le (s : St) (op : Op) : s.lastCollectWeek ≤ (next s op).lastCollectWeek :=
  next_ind (P := fun t => s.lastCollectWeek ≤ t.lastCollectWeek) op (Nat.le_refl _)
    fun hs => (step_fx hs).marker.1

theorem crossings_zero {w : Nat} : ∀ (ops : List Op) {s : St}, w ≤ s.lastCollectWeek →
    crossings s ops w = 0
  | [], _, _ => rfl
  | op :: ops, s, h => by
    show crossStep s op w + crossings (next s op) ops w = 0
    rw [crossings_zero ops (Nat.le_trans h (next_marker_le s op))]
    unfold crossStep
    split
    · rw [if_neg (by omega)]
    · rfl

/-- collected at most once, from ANY state along ANY history: the marker only moves forward, so once
    past `w` it does not cross it again (`crossings_zero`) -/
theorem crossings_le_one (w : Nat) : ∀ (ops : List Op) (s : St), crossings s ops w ≤ 1
  | [], _ => Nat.zero_le _
  | op :: ops, s => by
    show crossStep s op w + crossings (next s op) ops w ≤ 1
    unfold crossStep
    cases hs : step s op with
    | none =>
      have := crossings_le_one w ops (next s op)
      simpa using this
    | some r =>
      by_cases hc : s.lastCollectWeek < w ∧ w ≤ r.1.lastCollectWeek
      · rw [next_of_some hs, crossings_zero ops hc.2]
        simp only [hc, and_self, if_true]
        exact Nat.le_refl _
      · simp only [hc, if_false, Nat.zero_add]
        exact crossings_le_one w ops _

end Mx.Staking
