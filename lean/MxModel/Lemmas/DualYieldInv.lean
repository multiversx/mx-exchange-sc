/-
  The backing invariant of the metastaking proxy and its preservation by every operation.

  `Inv s`:
    * per dual-yield nonce: released ≤ whole, outstanding ≤ minted, and the LP-farm amount not yet
      released covers the outstanding share  `lpA·out ≤ (lpA − rel)·stA`;
    * per LP-farm nonce the proxy holds exactly  Σ (lpA − rel)  over the dual-yield nonces that
      record it; per staking-farm nonce exactly  Σ out;
    * every pass-through balance is 0.
-/
import MxModel.Lemmas.DualYieldSpec
import MxModel.Lemmas.ListSum

namespace Mx.DualYield

/-- a ledger `hold n = Σ (g t  for the entries with key n)` stays exact when entry `i` keeps its key
    while its `g` and the ledger at that key both drop by `d` -/
theorem keyed_set (key g : Tok → Nat) {l : List Tok} {i : Nat} {t : Tok} (t' : Tok)
    (ht : l[i]? = some t) (hk : key t' = key t) (d : Nat) (hg : g t' + d = g t) {hold : Nat → Nat}
    (h : ∀ n, hold n = (l.map fun a => if key a = n then g a else 0).sum) (n : Nat) :
    upd hold (key t) (hold (key t) - d) n =
      ((l.set i t').map fun a => if key a = n then g a else 0).sum := by
  have e : ((l.set i t').map fun a => if key a = n then g a else 0).sum +
      (if key t = n then d else 0) = (l.map fun a => if key a = n then g a else 0).sum :=
    sum_map_set_keyed (fun a => key a = n) g l i t t' ht (by rw [hk]) d hg
  have hn := h n
  have ht' := h (key t)
  rw [upd_apply]
  split
  · rename_i hnn; subst hnn; rw [if_pos rfl] at e; omega
  · rename_i hnn; rw [if_neg (Ne.symm hnn)] at e; omega

/-- … and when a new entry arrives together with its `g` -/
theorem keyed_append (key g : Tok → Nat) {l : List Tok} (a : Tok) {hold : Nat → Nat}
    (h : ∀ n, hold n = (l.map fun a => if key a = n then g a else 0).sum) (n : Nat) :
    upd hold (key a) (hold (key a) + g a) n =
      ((l ++ [a]).map fun a => if key a = n then g a else 0).sum := by
  rw [List.map_append, List.sum_append, ← h n, upd_apply, List.map_singleton, List.sum_singleton]
  by_cases hnn : n = key a
  · subst hnn
    rw [if_pos rfl, if_pos rfl]
  · rw [if_neg hnn, if_neg (Ne.symm hnn), Nat.add_zero]

/-- what one dual-yield nonce still claims of LP-farm nonce `n` -/
def lpTerm (n : Nat) (t : Tok) : Nat := if t.lpN = n then t.lpA - t.rel else 0
/-- what one dual-yield nonce still claims of staking-farm nonce `n` -/
def stTerm (n : Nat) (t : Tok) : Nat := if t.stN = n then t.out else 0

/-- LP-farm tokens of nonce `n` not yet released, over all dual-yield nonces -/
def owedLp (ts : List Tok) (n : Nat) : Nat := (ts.map (lpTerm n)).sum
/-- staking-farm tokens of nonce `n` recorded by outstanding dual-yield tokens -/
def owedSt (ts : List Tok) (n : Nat) : Nat := (ts.map (stTerm n)).sum

structure TokOk (t : Tok) : Prop where
  /-- the parts released so far never exceed the whole -/
  rel_le : t.rel ≤ t.lpA
  out_le : t.out ≤ t.stA
  /-- what is left covers the outstanding share (cross-multiplied `(lpA−rel)/lpA ≥ out/stA`) -/
  share : t.lpA * t.out ≤ (t.lpA - t.rel) * t.stA

structure Inv (s : St) : Prop where
  toks : ∀ t ∈ s.toks, TokOk t
  lp : ∀ n, s.holdLp n = owedLp s.toks n
  st : ∀ n, s.holdSt n = owedSt s.toks n
  pass : s.pass = ⟨0, 0, 0, 0, 0⟩

theorem inv_init : Inv init :=
  ⟨(by intro t h; simp [init] at h), fun _ => rfl, fun _ => rfl, rfl⟩

theorem tokOk_new (lpN lpA stN stA : Nat) : TokOk (newTok lpN lpA stN stA) :=
  ⟨Nat.zero_le _, Nat.le_refl _, by simp [newTok]⟩

theorem tokOk_rel {t : Tok} {x p : Nat} (hk : TokOk t) (hx : x ≠ 0) (hp : part t x = some p)
    (ho : x ≤ t.out) : p ≤ t.lpA - t.rel ∧ TokOk (relTok t x p) := by
  obtain ⟨h1, h2, h3⟩ := hk
  have hq : p * t.stA ≤ t.lpA * x := part_mul_le hp
  have hxo : t.lpA * x ≤ t.lpA * t.out := Nat.mul_le_mul_left _ ho
  have hpl : p ≤ t.lpA - t.rel :=
    Nat.le_of_mul_le_mul_right (Nat.le_trans hq (Nat.le_trans hxo h3)) (by omega)
  refine ⟨hpl, ?_, ?_, ?_⟩
  · show t.rel + p ≤ t.lpA
    omega
  · show t.out - x ≤ t.stA
    omega
  · show t.lpA * (t.out - x) ≤ (t.lpA - (t.rel + p)) * t.stA
    rw [Nat.mul_sub, Nat.sub_add_eq, Nat.sub_mul]
    omega

theorem release_inv {s s' : St} {u d x p : Nat} (hi : Inv s) (h : release s u d x = some (s', p)) :
    Inv s' := by
  obtain ⟨t, r⟩ := release_spec h
  obtain rfl := r.state
  have ht := r.lookup
  have ho := r.out
  obtain ⟨hpl, hk'⟩ := tokOk_rel (hi.toks t (List.mem_of_getElem? ht)) r.x_ne r.part ho
  refine ⟨fun a ha => ?_, ?_, ?_, hi.pass⟩
  · rcases List.mem_or_eq_of_mem_set ha with ha | rfl
    · exact hi.toks a ha
    · exact hk'
  · exact keyed_set (·.lpN) (fun a => a.lpA - a.rel) (relTok t x p) ht rfl p
      (by show t.lpA - (t.rel + p) + p = t.lpA - t.rel; omega) hi.lp
  · exact keyed_set (·.stN) (·.out) (relTok t x p) ht rfl x (Nat.sub_add_cancel ho) hi.st

theorem mint_inv {s : St} (u lpN lpA stN stA : Nat) (hi : Inv s) :
    Inv (mint s u lpN lpA stN stA).1 := by
  refine ⟨fun a ha => ?_, ?_, ?_, hi.pass⟩
  · rcases List.mem_append.1 ha with ha | ha
    · exact hi.toks a ha
    · rw [List.mem_singleton.1 ha]
      exact tokOk_new _ _ _ _
  · exact keyed_append (·.lpN) (fun a => a.lpA - a.rel) (newTok lpN lpA stN stA) hi.lp
  · exact keyed_append (·.stN) (·.out) (newTok lpN lpA stN stA) hi.st

theorem step_inv {s s' : St} {op : Op} {o : Out} (hi : Inv s) (h : step s op = some (s', o)) :
    Inv s' :=
  step_induct (M := fun _ => True) release_inv (fun u lpN lpA stN _ hi _ => mint_inv u lpN lpA stN _ hi)
    (fun hi h => by
      obtain ⟨-, -, -, -, rfl⟩ := xfer_spec h
      exact ⟨hi.toks, hi.lp, hi.st, hi.pass⟩)
    hi (fun _ _ => trivial) h

theorem run_inv {s : St} (ops : List Op) (hi : Inv s) : Inv (run s ops) :=
  run_induct (G := fun _ => True) (fun hi _ h => step_inv hi h) hi (fun _ _ => trivial)

theorem run_append (s : St) (a b : List Op) : run s (a ++ b) = run (run s a) b := by
  simp [run, List.foldl_append]

/-- the share of the LP-farm amount that the outstanding supply of one nonce is entitled to,
    rounded UP (what the proxy must at least hold for it) -/
def shareCeil (t : Tok) : Nat := if t.stA = 0 then 0 else (t.lpA * t.out + t.stA - 1) / t.stA

theorem shareCeil_le {t : Tok} (hk : TokOk t) : shareCeil t ≤ t.lpA - t.rel := by
  unfold shareCeil
  split
  · exact Nat.zero_le _
  · rename_i hs
    have hpos : 0 < t.stA := Nat.pos_of_ne_zero hs
    have h3 := hk.share
    apply Nat.le_of_lt_succ
    rw [Nat.div_lt_iff_lt_mul hpos, Nat.succ_mul]
    omega

/-- Σ of the rounded-up shares recorded against LP-farm nonce `n` -/
def needLp (ts : List Tok) (n : Nat) : Nat :=
  (ts.map fun t => if t.lpN = n then shareCeil t else 0).sum

theorem needLp_le_owedLp : ∀ {ts : List Tok} (n : Nat), (∀ t ∈ ts, TokOk t) → needLp ts n ≤ owedLp ts n
  | [], n, _ => Nat.le_refl _
  | a :: ts, n, h => by
      have ih := needLp_le_owedLp (ts := ts) n (fun t ht => h t (List.mem_cons_of_mem _ ht))
      have ha := shareCeil_le (h a (List.mem_cons_self ..))
      unfold needLp owedLp at *
      simp only [List.map_cons, List.sum_cons, lpTerm]
      split <;> omega

/-- under `Inv` the proxy's holdings never block a release: the debits of `holdLp` and `holdSt` cannot
    fail once the caller holds `x ≤ out` units and `into_part` succeeds -/
theorem release_ok {s : St} {u d x p : Nat} {t : Tok} (hi : Inv s) (hd : d ≠ 0)
    (ht : s.toks[d - 1]? = some t) (hx : x ≠ 0) (hu : x ≤ s.user u d) (ho : x ≤ t.out)
    (hp : part t x = some p) : ∃ s', release s u d x = some (s', p) := by
  obtain ⟨hpl, -⟩ := tokOk_rel (hi.toks t (List.mem_of_getElem? ht)) hx hp ho
  have h1 : p ≤ s.holdLp t.lpN := by
    have := le_sum_map_of_getElem? (lpTerm t.lpN) s.toks (d - 1) t ht
    rw [lpTerm, if_pos rfl] at this
    rw [hi.lp]; exact Nat.le_trans hpl this
  have h2 : x ≤ s.holdSt t.stN := by
    have := le_sum_map_of_getElem? (stTerm t.stN) s.toks (d - 1) t ht
    rw [stTerm, if_pos rfl] at this
    rw [hi.st]; exact Nat.le_trans ho this
  exact ⟨_, by
    simp only [release, Option.bind_eq_bind, req, hd, ne_eq, not_false_eq_true, if_true, ht, hx, sub?,
      hu, hp, ho, h1, h2, Option.bind_some, Option.pure_def]
    rfl⟩

end Mx.DualYield
