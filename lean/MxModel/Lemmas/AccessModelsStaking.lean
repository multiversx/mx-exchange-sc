/-
  Access / pause facts about the EXECUTABLE farm-staking model (Core/Staking.lean): what the
  building blocks that `Staking.Step` (Lemmas/StakingSpec.lean) names for each operation check
  first.  Read by Props/C19Models.lean.
-/
import MxModel.Lemmas.StakingMerge

namespace Mx.Staking

open Mx.Weekly

/-! Every user endpoint that moves funds needs `state == Active`. -/

theorem stakeCore_needs_active {s : St} {caller orig amount : Nat} {v : Bool} {adds : List Pay}
    {r : St × Out} (h : stakeCore s caller orig amount v adds = some r) : s.active = true := by
  obtain ⟨s', o⟩ := r
  obtain ⟨_, _, _, _, _, t⟩ := stakeCore_trace h
  exact t.active

theorem claimCore_needs_active {s : St} {caller orig : Nat} {pays : List Pay} {nv : Option Nat}
    {r : St × Out} (h : claimCore s caller orig pays nv = some r) : s.active = true := by
  obtain ⟨s', o⟩ := r
  obtain ⟨_, _, _, _, _, _, _, _, _, _, t⟩ := claimCore_trace h
  exact t.active

theorem compound_needs_active {s : St} {caller : Nat} {pays : List Pay} {r : St × Out}
    (h : compound s caller pays = some r) : s.active = true := by
  obtain ⟨s', o⟩ := r
  obtain ⟨_, _, _, _, _, _, _, t⟩ := compound_trace h
  exact t.active

theorem unstakeCore_needs_active {s : St} {caller orig : Nat} {pay : Pay} {x : Option Nat}
    {r : St × Out} (h : unstakeCore s caller orig pay x = some r) : s.active = true := by
  obtain ⟨s', o⟩ := r
  obtain ⟨_, _, _, _, _, t⟩ := unstakeCore_trace h
  exact t.active

theorem mergeTokens_needs_active {s : St} {caller : Nat} {pays : List Pay} {r : St × Out}
    (h : mergeTokens s caller pays = some r) : s.active = true := by
  obtain ⟨s', o⟩ := r
  obtain ⟨_, _, _, _, _, _, _, t⟩ := mergeTokens_trace h
  exact t.active

theorem claimBoostedRewards_needs {s : St} {caller : Nat} {user : Option Nat} {r : St × Out}
    (h : claimBoostedRewards s caller user = some r) :
    s.active = true ∧ (user = none ∨ user = some caller) := by
  obtain ⟨s', o⟩ := r
  obtain ⟨_, t⟩ := claimBoostedRewards_trace h
  exact ⟨t.active, t.user⟩

theorem stakeProxy_spec {s : St} {caller orig amount : Nat} {adds : List Pay} {r : St × Out}
    (h : stakeProxy s caller orig amount adds = some r) :
    caller ∈ s.whitelist ∧ stakeCore s caller orig amount true adds = some r :=
  peel_req h

theorem claimNewValue_spec {s : St} {caller orig nv : Nat} {pay : Pay} {r : St × Out}
    (h : claimNewValue s caller orig nv pay = some r) :
    caller ∈ s.whitelist ∧ claimCore s caller orig [pay] (some nv) = some r :=
  peel_req h

theorem allOwnedBy_all : ∀ (pays : List Pay) {m : Nat → Option Meta} {user : Nat},
    allOwnedBy m user pays = some () → ∀ p ∈ pays, ∃ a, posOf m p.1 = some a ∧ a.owner = user := by
  intro pays
  induction pays with
  | nil => intro m user _ p hp; cases hp
  | cons q rest ih =>
    intro m user h p hp
    simp only [allOwnedBy, Option.bind_eq_bind, Option.bind_eq_some_iff, req_eq_some] at h
    obtain ⟨a, ha, _, ho, hrest⟩ := h
    rcases List.mem_cons.mp hp with rfl | hp
    · exact ⟨a, ha, ho⟩
    · exact ih hrest p hp

/-- `get_claim_original_owner` -/
theorem claimOwner_spec {m : Nat → Option Meta} {pays : List Pay} {user : Nat} (h : claimOwner m pays = some user) :
    user ≠ 0 ∧ pays ≠ [] ∧ ∀ p ∈ pays, ∃ a, posOf m p.1 = some a ∧ a.owner = user := by
  simp only [claimOwner, Option.bind_eq_bind, Option.bind_eq_some_iff, req_eq_some, Option.pure_def,
    Option.some.injEq] at h
  obtain ⟨p, hp, a, ha, _, hne, _, hall, rfl⟩ := h
  refine ⟨hne, ?_, allOwnedBy_all pays hall⟩
  intro hnil; rw [hnil] at hp; cases hp

theorem unstakeProxy_spec {s : St} {caller orig x : Nat} {pay : Pay} {r : St × Out}
    (h : unstakeProxy s caller orig x pay = some r) :
    caller ∈ s.whitelist ∧ unstakeCore s caller orig pay (some x) = some r :=
  peel_req h

/-- the position created by a claim records `orig` as owner and is credited to the CALLER's
    account; the reward `o.c` is `base + boosted` where `boosted` is what `claimBoostedYields`
    computes for `orig` (its weekly entitlement, its energy) -/
theorem claimCore_payee {s s' : St} {caller orig : Nat} {pays : List Pay} {o : Out}
    (h : claimCore s caller orig pays none = some (s', o)) :
    ∃ m : ClaimMid, claimBase s caller orig pays = some m ∧
      claimBoostedYields m.s1 orig (m.s1.userTotal orig) = some (m.w1, m.b1, m.boosted) ∧
      o.c = m.base + m.boosted ∧ m.merged.owner = orig ∧
      s'.md o.a = some (.pos m.merged) ∧ s'.hold caller o.a = m.merged.amount := by
  obtain ⟨m, hm, hf⟩ := peel (show (claimBase s caller orig pays >>= fun m => claimFinish m caller orig none)
    = some (s', o) from h)
  obtain ⟨hold0, p, first, tok, r, ut1, merged, b⟩ := claimBase_trace hm
  obtain rfl := b.mid
  obtain ⟨supply1, ut2, w2, f⟩ := claimFinish_trace hf
  obtain rfl := f.state
  obtain rfl := f.out
  refine ⟨_, hm, b.claimBoostedYields, rfl, (mergeParts_spec _ _ _ _ b.mergeParts).2.1,
    upd_same _ _ _, ?_⟩
  show upd2 hold0 caller (s.nonce + 1) merged.amount caller (s.nonce + 1) = merged.amount
  simp [upd2]

end Mx.Staking
