/-
  Payment FLOW of every operation of the farm model, stated on the farm's own counters
  (`paid`, `balFarming`, `penaltyBurned`) and the operation's `Out` record — the facts the wallet
  ledger (`Core/FarmLedger.lean`) needs: what `moveF` hands to the accounts is exactly what the farm
  books as paid / received.
  The flow view `fv` of every endpoint's result is read off its closed form (FarmEff.lean).
-/
import MxModel.Core.FarmLedger
import MxModel.Lemmas.FarmAcct

namespace Mx.FarmLedger
open Mx.Farm

/-- what the wallet ledger reads of the farm state -/
structure FV where
  paid : Nat
  balFarming : Nat
  burned : Nat
  users : List Nat

def fv (s : St) : FV := ⟨s.paid, s.balFarming, s.penaltyBurned, s.users⟩

def FV.pay (v : FV) (x : Nat) : FV := { v with paid := v.paid + x }
def FV.addF (v : FV) (x : Nat) : FV := { v with balFarming := v.balFarming + x }
def FV.remF (v : FV) (x p : Nat) : FV := { v with balFarming := v.balFarming - x, burned := v.burned + p }

theorem FV.pay_zero (v : FV) : v.pay 0 = v := rfl

theorem settle_fv {s s' : St} (h : settle s = some s') : fv s' = fv s := by
  obtain ⟨_, rfl⟩ := settle_eq h; rfl

theorem enterCore_fv {s s' : St} {caller orig tokenTo amt : Nat} {extra : List (Nat × Nat)} {o : Out}
    (h : enterCore s caller orig tokenTo amt extra = some (s', o)) :
    fv s' = ((fv s).addF amt).pay o.rew := by
  obtain ⟨_, _, _, _, _, _, _, x⟩ := enterCore_effect h
  obtain rfl := x.out
  obtain ⟨_, rfl⟩ := updateEnergyAndProgress_spec x.tail
  rfl

theorem claimCore_fv {s s' : St} {caller orig : Nat} {pays : List (Nat × Nat)} {cmp : Bool} {o : Out}
    (h : claimCore s caller orig pays cmp = some (s', o)) :
    (fv s' = if cmp then ((fv s).pay o.rew).addF o.rew else (fv s).pay o.rew) ∧
    (cmp = true → s.sameTok = true) := by
  obtain ⟨_, _, _, _, _, _, _, _, _, _, _, _, x⟩ := claimCore_effect h
  obtain rfl := x.out
  obtain rfl := x.rew
  obtain ⟨-, _, _, rfl⟩ := claimTail_flat x.tail
  exact ⟨by cases cmp <;> rfl, x.sameTok⟩

theorem exitFarm_fv {s s' : St} {caller : Nat} {opt : Option Nat} {n a : Nat} {o : Out}
    (h : exitFarm s caller opt n a = some (s', o)) :
    ∃ X P, X ≤ s.balFarming ∧ P + o.farming = X ∧ fv s' = ((fv s).remF X P).pay o.rew := by
  obtain ⟨_, _, _, _, _, _, pen, _, _, x⟩ := exitFarm_effect h
  obtain rfl := x.out
  obtain ⟨_, rfl⟩ := clearUserEnergyIfNeeded_spec x.tail
  exact ⟨a, pen, x.farming, Nat.add_sub_of_le x.penLe, rfl⟩

theorem mergeFarmTokens_fv {s s' : St} {caller : Nat} {opt : Option Nat} {pays : List (Nat × Nat)} {o : Out}
    (h : mergeFarmTokens s caller opt pays = some (s', o)) : fv s' = (fv s).pay o.rew := by
  obtain ⟨_, _, _, _, _, _, _, x⟩ := mergeFarmTokens_effect h
  obtain rfl := x.state
  obtain rfl := x.out
  rfl

theorem claimBoostedRewards_fv {s s' : St} {caller : Nat} {optUser : Option Nat} {o : Out}
    (h : claimBoostedRewards s caller optUser = some (s', o)) : fv s' = (fv s).pay o.rew := by
  obtain ⟨_, _, _, _, x⟩ := claimBoostedRewards_effect h
  obtain rfl := x.state
  obtain rfl := x.out
  rfl

/-- what a compound adds to the principal without any transfer -/
def compAmt : Op → Out → Nat
  | .compound _ _ _, o => o.rew
  | _, _ => 0

/-- the flow of one successful operation, in the vocabulary of `moveF` -/
structure Flow (s s' : St) (op : Op) (o : Out) : Prop where
  users : s'.users = s.users
  /-- the farm books as paid exactly what `moveF` hands out (plus what a compound keeps inside) -/
  paid : s'.paid = s.paid + (moveF s op o).rew + compAmt op o
  burned : s.penaltyBurned ≤ s'.penaltyBurned
  /-- farming tokens: in (plus what a compound keeps inside) − out − burned = growth of the farm's
      farming balance, in additive form -/
  farming : s'.balFarming + (moveF s op o).getFarming + (s'.penaltyBurned - s.penaltyBurned)
      = s.balFarming + (moveF s op o).payFarming + compAmt op o
  /-- farming tokens only move between the farm and the caller, an account of the world -/
  payer : (moveF s op o).payer ∈ s.users ∨ ((moveF s op o).payFarming = 0 ∧ (moveF s op o).getFarming = 0)
  /-- a compound needs farming token = reward token in a minting farm -/
  comp : compAmt op o ≠ 0 → sameCol s = true

theorem Flow.of_same {s s' : St} {op : Op} {o : Out} (h : fv s' = fv s)
    (hm : moveF s op o = {}) (hc : compAmt op o = 0) : Flow s s' op o := by
  simp only [fv, FV.mk.injEq] at h
  obtain ⟨a1, a2, a3, a4⟩ := h
  refine ⟨a4, ?_, by omega, ?_, Or.inr ?_, fun hh => absurd hc hh⟩
  · rw [hm, hc]; exact a1
  · rw [hm, hc, a2, a3]; simp
  · rw [hm]; exact ⟨rfl, rfl⟩

theorem Flow.of_pay {s s' : St} {op : Op} {o : Out} (h : fv s' = (fv s).pay o.rew)
    (hm : (moveF s op o).rew = o.rew ∧ (moveF s op o).payFarming = 0 ∧ (moveF s op o).getFarming = 0)
    (hcomp : compAmt op o = 0) : Flow s s' op o := by
  simp only [fv, FV.pay, FV.mk.injEq] at h
  obtain ⟨a1, a2, a3, a4⟩ := h
  obtain ⟨m1, m2, m3⟩ := hm
  refine ⟨a4, ?_, by omega, ?_, Or.inr ⟨m2, m3⟩, fun hh => absurd hcomp hh⟩
  · rw [m1, hcomp]; exact a1
  · rw [m2, m3, hcomp, a2, a3]; simp

theorem Flow.of_enter {s s' : St} {op : Op} {o : Out} {c a : Nat} (hc : c ∈ s.users)
    (h : fv s' = ((fv s).addF a).pay o.rew)
    (hm : (moveF s op o).rew = o.rew ∧ (moveF s op o).payFarming = a ∧ (moveF s op o).getFarming = 0 ∧
      (moveF s op o).payer = c)
    (hcomp : compAmt op o = 0) : Flow s s' op o := by
  simp only [fv, FV.pay, FV.addF, FV.mk.injEq] at h
  obtain ⟨a1, a2, a3, a4⟩ := h
  obtain ⟨m1, m2, m3, m4⟩ := hm
  refine ⟨a4, ?_, by omega, ?_, Or.inl (m4 ▸ hc), fun hh => absurd hcomp hh⟩
  · rw [m1, hcomp]; exact a1
  · rw [m2, m3, hcomp, a2, a3]; simp

theorem step_flow {s s' : St} {op : Op} {o : Out} (h : step s op = some (s', o)) : Flow s s' op o := by
  cases op <;> have hs := step_some h
  case enter =>
    obtain ⟨_, _, h'⟩ := enterFarm_spec hs.2
    exact Flow.of_enter hs.1 (enterCore_fv h') ⟨rfl, rfl, rfl, rfl⟩ rfl
  case enterOB =>
    exact Flow.of_enter hs.1 (enterCore_fv (enterFarmOnBehalf_spec hs.2).2.2) ⟨rfl, rfl, rfl, rfl⟩ rfl
  case claim =>
    obtain ⟨_, _, h'⟩ := claimRewards_spec hs.2
    exact Flow.of_pay (claimCore_fv h').1 ⟨rfl, rfl, rfl⟩ rfl
  case claimOB =>
    obtain ⟨_, _, _, h'⟩ := claimRewardsOnBehalf_spec hs.2
    exact Flow.of_pay (claimCore_fv h').1 ⟨rfl, rfl, rfl⟩ rfl
  case compound =>
    obtain ⟨hk, _, _, h'⟩ := compoundRewards_spec hs.2
    obtain ⟨e, hsame⟩ := claimCore_fv h'
    simp only [if_true, fv, FV.pay, FV.addF, FV.mk.injEq] at e
    obtain ⟨a1, a2, a3, a4⟩ := e
    refine ⟨a4, by simp only [moveF, compAmt]; omega, by omega, by simp only [moveF, compAmt]; omega,
      Or.inl hs.1, fun _ => ?_⟩
    simp [sameCol, hsame rfl, hk]
  case exit =>
    obtain ⟨X, P, hX, hP, e⟩ := exitFarm_fv hs.2
    simp only [fv, FV.pay, FV.remF, FV.mk.injEq] at e
    obtain ⟨a1, a2, a3, a4⟩ := e
    exact ⟨a4, by simp only [moveF, compAmt]; omega, by omega, by simp only [moveF, compAmt]; omega,
      Or.inl hs.1, fun hh => absurd rfl hh⟩
  case merge => exact Flow.of_pay (mergeFarmTokens_fv hs.2) ⟨rfl, rfl, rfl⟩ rfl
  case claimBoosted => exact Flow.of_pay (claimBoostedRewards_fv hs.2) ⟨rfl, rfl, rfl⟩ rfl
  case transfer =>
    obtain ⟨_, _, _, _, _, _, rfl⟩ := transfer_some hs.2.2.1
    exact Flow.of_same rfl rfl rfl
  case setEnergy =>
    rw [hs.1]
    exact Flow.of_same rfl rfl rfl
  case updateEnergy =>
    obtain ⟨_, rfl⟩ := updateEnergyForUser_spec hs.1
    exact Flow.of_same rfl rfl rfl
  case setPerBlock =>
    obtain ⟨_, _, s1, h1, rfl⟩ := setPerBlock_some hs.1
    exact Flow.of_same (settle_fv h1 : fv s1 = fv s) rfl rfl
  case startProduce =>
    obtain ⟨_, _, _, rfl⟩ := startProduce_some hs.1
    exact Flow.of_same rfl rfl rfl
  case endProduce =>
    obtain ⟨_, s1, h1, rfl⟩ := endProduce_some hs.1
    exact Flow.of_same (settle_fv h1 : fv s1 = fv s) rfl rfl
  case setPct =>
    obtain ⟨_, _, s1, h1, rfl⟩ := setPct_some hs.1
    exact Flow.of_same (settle_fv h1 : fv s1 = fv s) rfl rfl
  case setFactors =>
    obtain ⟨_, _, _, _, _, _, _, rfl⟩ := setFactors_some hs.1
    exact Flow.of_same rfl rfl rfl
  case collect =>
    obtain ⟨_, _, _, _, rfl⟩ := collectUndistributed_some hs.1
    refine Flow.of_same ?_ rfl rfl
    split <;> rfl
  case pause =>
    obtain ⟨_, rfl⟩ := setActive_some hs.1
    exact Flow.of_same rfl rfl rfl
  case resume =>
    obtain ⟨_, rfl⟩ := setActive_some hs.1
    exact Flow.of_same rfl rfl rfl
  case setPenalty =>
    obtain ⟨_, _, rfl⟩ := setPenalty_some hs.1
    exact Flow.of_same rfl rfl rfl
  case setMinEpochs =>
    obtain ⟨_, _, rfl⟩ := setMinEpochs_some hs.1
    exact Flow.of_same rfl rfl rfl
  case hubWhitelist => rw [hs.2.1]; exact Flow.of_same rfl rfl rfl
  case hubRemove => rw [hs.2.1]; exact Flow.of_same rfl rfl rfl
  case hubBlacklist => rw [hs.1]; exact Flow.of_same rfl rfl rfl
  case scWhitelist => rw [hs.2.1]; exact Flow.of_same rfl rfl rfl
  case scUnwhitelist => rw [hs.2.1]; exact Flow.of_same rfl rfl rfl
  case advance => rw [hs.2.1]; exact Flow.of_same rfl rfl rfl
  case bad => exact hs.elim

theorem step_sameCol {s s' : St} {op : Op} {o : Out} (h : step s op = some (s', o)) :
    sameCol s' = sameCol s := by
  simp only [sameCol, step_sameTok h, step_kind h]

end Mx.FarmLedger
