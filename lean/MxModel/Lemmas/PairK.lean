/-
  K/S² monotonicity of every pair operation (C02), from the spec lemmas; and what the caller of
  one swap nets against what the reserves lose (`swap_conservation`, `swap_flow_step`).
-/
import MxModel.Lemmas.PairInv

namespace Mx.Pair
open Mx.PairLedger (chargedOf)

/-- `r₁r₂/S²` of `s` is at most that of `s'` (cross-multiplied, so no division) -/
def ShareLe (s s' : St) : Prop := s.r1 * s.r2 * s'.S ^ 2 ≤ s'.r1 * s'.r2 * s.S ^ 2

theorem ShareLe.refl (s : St) : ShareLe s s := Nat.le_refl _

theorem ShareLe.trans {a b c : St} (hb : 0 < b.S) (h1 : ShareLe a b) (h2 : ShareLe b c) :
    ShareLe a c := by
  unfold ShareLe at *
  have hb2 : 0 < b.S ^ 2 := Nat.pow_pos hb
  apply Nat.le_of_mul_le_mul_right _ hb2
  calc a.r1 * a.r2 * c.S ^ 2 * b.S ^ 2 = (a.r1 * a.r2 * b.S ^ 2) * c.S ^ 2 := by ring
    _ ≤ (b.r1 * b.r2 * a.S ^ 2) * c.S ^ 2 := Nat.mul_le_mul_right _ h1
    _ = (b.r1 * b.r2 * c.S ^ 2) * a.S ^ 2 := by ring
    _ ≤ (c.r1 * c.r2 * b.S ^ 2) * a.S ^ 2 := Nat.mul_le_mul_right _ h2
    _ = c.r1 * c.r2 * a.S ^ 2 * b.S ^ 2 := by ring

theorem ShareLe.of_k {s s' : St} (hS : s'.S = s.S) (hk : s.r1 * s.r2 ≤ s'.r1 * s'.r2) :
    ShareLe s s' := by
  unfold ShareLe
  rw [hS]
  exact Nat.mul_le_mul_right _ hk

theorem Moved.share {s s' : St} {d : Dir} {pay res outR outB lk : Nat} {f : FeeSplit}
    (h : Moved d s s' pay res outR outB lk f) (hS : s'.S = s.S) : ShareLe s s' :=
  .of_k hS (k_of_dir s d ▸ k_of_dir s' d ▸ h.k)

theorem step_share {s s' : St} {op : Op} {o : Out} (hi : Inv s) (hS : 0 < s.S)
    (h : step s op = some (s', o)) : ShareLe s s' := by
  have hpos := hi.pos hS
  refine step_cases (motive := fun _ => ShareLe s s') h ?_ ?_ ?_ ?_ ?_ ?_ ?_
  · intro _ _ _ h
    obtain ⟨_, _, _, _, h4, _⟩ := addInitial_spec h
    omega
  · intro a1 a2 m1 m2 h
    obtain ⟨o1, o2, t⟩ := addLiq_spec (by omega) h
    obtain rfl := t.out
    obtain rfl := t.state
    exact addLiq_share s.r1 s.r2 s.S o1 o2 _ hpos.1 hpos.2.1 (Nat.min_le_left _ _)
      (Nat.min_le_right _ _)
  · intro lp m1 m2 h
    have t := removeLiq_spec h
    obtain rfl := t.out
    obtain rfl := t.state
    have h5 := t.minliq
    exact removeLiq_share s.r1 s.r2 s.S lp hS (by omega)
  · intro op hsw h
    obtain ⟨_, _, _, _, hm, hc⟩ := swap_moved hsw h
    exact hm.share hc.S
  · intro c d a h
    exact (swapNoFee_moved h).1.share (swapNoFee_moved h).2.S
  · intro c lp w h
    obtain ⟨s2, _, _, t⟩ := buyback_spec h
    obtain rfl := t.out
    have h3 := t.minliq
    have r1 := t.feeSlice1
    have r2 := t.feeSlice2
    have hM : MINLIQ = 1000 := rfl
    have k1 := r1.1.k
    have k2 := r2.1.k
    rw [k_of_dir] at k1 k2
    rw [k_of_dir] at k1 k2
    have hrem := removeLiq_share s.r1 s.r2 s.S lp hS (by omega)
    have hS' : s'.S = s.S - lp := r2.2.S.trans r1.2.S
    unfold ShareLe
    rw [hS']
    exact Nat.le_trans hrem (Nat.mul_le_mul_right _ (Nat.le_trans k1 k2))
  · intro op ha h
    obtain ⟨_, _, _, _, _, _, _, _, _, _, _, _, _, rfl⟩ := (step_admin ha h).state
    exact ShareLe.refl s

theorem run_share (ops : List Op) {s : St} (hi : Inv s) (hS : 0 < s.S) : ShareLe s (run s ops) :=
  (run_induction (P := fun s' => Inv s' ∧ 0 < s'.S ∧ ShareLe s s')
    (fun h hst => ⟨step_inv h.1 hst, step_S_pos h.2.1 hst,
      .trans h.2.1 h.2.2 (step_share h.1 h.2.1 hst)⟩) ops ⟨hi, hS, .refl s⟩).2.2

/-! ### what swapping users collectively gain (for the no-round-trip-profit statement) -/

/-- signed amounts of (first, second) token the caller of a successful swap nets -/
def flowOf (op : Op) (o : Out) : Int × Int :=
  match op with
  | .swapIn .ab a _ => (-(a : Int), (o.v1 : Int))
  | .swapIn .ba a _ => ((o.v1 : Int), -(a : Int))
  | .swapOut .ab _ _ => (-(o.v2 : Int), (o.v1 : Int))
  | .swapOut .ba _ _ => ((o.v1 : Int), -(o.v2 : Int))
  | _ => (0, 0)

/-- run a history, accumulating what the swappers netted; failed transactions net nothing -/
def runFlow : St → List Op → St × Int × Int
  | s, [] => (s, 0, 0)
  | s, op :: ops =>
    match step s op with
    | some (s1, o) =>
      ((runFlow s1 ops).1, (flowOf op o).1 + (runFlow s1 ops).2.1,
        (flowOf op o).2 + (runFlow s1 ops).2.2)
    | none => runFlow s ops

theorem swap_conservation {s s' : St} {d : Dir} {c out : Nat} (hout : out < s.rout d)
    (h : SwapCore s d c out s') :
    s'.balIn d ≤ s.balIn d + c ∧ s.balIn d + c ≤ s'.balIn d + swapFee s c ∧
    swapFee s c ≤ c * s.special / M ∧
    s.rin d + (c - swapFee s c) ≤ s'.rin d ∧ s'.rin d ≤ s.rin d + c ∧
    s'.balOut d + (s.rout d - s'.rout d) = s.balOut d ∧ s'.rout d + out ≤ s.rout d := by
  obtain ⟨f, hf, -, hm, -⟩ := h.moved (Nat.le_of_lt hout)
  have hfee := h.1
  have h5 := hm.rin_le
  have h6 := hm.out_same
  exact ⟨hm.balIn_le, Nat.le_trans hm.balIn_ge (Nat.add_le_add_left hf _), swapFee_le s c, hm.rin_ge,
    by omega, by omega, hm.rout_le⟩

theorem swap_flow_step {s s' : St} {op : Op} {o : Out} (hsw : isSwap op = true)
    (h : step s op = some (s', o)) :
    (flowOf op o).1 ≤ (s.r1 : Int) - s'.r1 ∧ (flowOf op o).2 ≤ (s.r2 : Int) - s'.r2 := by
  obtain ⟨_, hlt, _, hc⟩ := swap_spec hsw h
  obtain ⟨-, -, -, -, g1, -, g2⟩ := swap_conservation hlt hc
  cases op <;> cases hsw
  case swapIn d a m =>
    cases d <;> simp only [swapDir, chargedOf, St.rin, St.rout] at g1 g2 <;>
      simp only [flowOf] <;> omega
  case swapOut d mx out =>
    cases d <;> simp only [swapDir, chargedOf, St.rin, St.rout] at g1 g2 <;>
      simp only [flowOf] <;> omega

end Mx.Pair
