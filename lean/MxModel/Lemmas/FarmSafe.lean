/-
  "No internal counter goes negative" (C05 `no_underflow`), the part that follows from the position
  invariant: whoever holds part of a position can take it out of the supply and out of the recorded
  owner's total — the checked / saturating subtractions of `exitFarm` and
  `decrease_user_farm_position` are exact.
-/
import MxModel.Lemmas.FarmPos

namespace Mx.Farm

theorem hold_le_heldBy (s : St) {u : Nat} (hu : u ∈ s.users) (n : Nat) : s.hold u n ≤ heldBy s n :=
  Weekly.le_usum (f := fun u => s.hold u n) hu

theorem mem_nonceList {s : St} {n : Nat} (h : n ≤ s.lastNonce) : n ∈ nonceList s := by
  unfold nonceList; exact List.mem_range.mpr (by omega)

theorem held_le_supply {s : St} (hI : PosInv s) {u n a : Nat} (ha : a ≠ 0) (h : a ≤ s.hold u n) :
    a ≤ s.supply := by
  have hne : s.hold u n ≠ 0 := by omega
  obtain ⟨hu, hn, _⟩ := hI.dom u n hne
  have h1 := hold_le_heldBy s hu n
  have h2 : heldBy s n ≤ totalHeld s := Weekly.le_usum (f := heldBy s) (mem_nonceList hn)
  rw [hI.sup]; omega

/-- `decrease_user_farm_position` saturates at 0 (it clears the cell); under this bound it subtracts
    exactly -/
theorem held_le_ownerTotal {s : St} (hI : PosInv s) {u n a : Nat} {att : Attr} (ha : a ≠ 0)
    (h : a ≤ s.hold u n) (hat : s.attrs n = some att) : a ≤ s.userTotal att.owner := by
  have hne : s.hold u n ≠ 0 := by omega
  obtain ⟨hu, hn, _⟩ := hI.dom u n hne
  have h1 := hold_le_heldBy s hu n
  have h2 : (if ownerOf s n = some att.owner then heldBy s n else 0) ≤ ownedBy s att.owner :=
    Weekly.le_usum (f := fun n => if ownerOf s n = some att.owner then heldBy s n else 0) (mem_nonceList hn)
  have h3 : ownerOf s n = some att.owner := by simp [ownerOf, hat]
  rw [h3, if_pos rfl] at h2
  rw [hI.own]; omega

end Mx.Farm
