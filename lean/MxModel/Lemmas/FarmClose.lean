/-
  Farm (dex/farm, farm-with-locked-rewards): the DENOMINATOR of a closed week at run level.
  The farm's `totalEnergyForWeek` is the shared weekly module's; `Weekly.EStep` / `CloseInv`
  (Lemmas/WeeklyClose.lean) are instantiated for `Farm.step`: every successful operation is an
  `EStep` (`step_EStep`), hence `totalEnergyForWeek(w) = closeSum w …` unless cleared five weeks
  later (`closeSum_exact_from`), `closeSum` a function of the history.

  An endpoint touches the weekly module up to twice (boosted claim, then `update_energy_and_progress`
  / `clear_user_energy`), both in the same week `W`; `EStep` composes because the first touch leaves
  `lastGlobalUpdateWeek = W` (`EStep.trans_same`): `EQ` carries this along the moves of `step_path`
  (Lemmas/FarmWk.lean).  No state invariant is needed for it.
-/
import MxModel.Lemmas.FarmLogRun
import MxModel.Lemmas.WeeklyClose

namespace Mx.Farm

open Mx.Weekly (Energy EStep)

/-- inside an operation started with weekly state `g0`, on the view of Lemmas/FarmWk.lean: the
    energy totals moved by an `EStep`, and either the weekly module is untouched so far or it was
    touched in the current week (so a further touch in the same week composes) -/
structure EQ (g0 : Weekly.St) (v : WkV) : Prop where
  est : EStep g0 v.w
  at_ : v.w = g0 ∨ ∃ W, v.week = some W ∧ v.w.lastGlobalUpdateWeek = W

theorem EQ.touch {g0 g : Weekly.St} {v : WkV} {u W : Nat} {cur : Energy} (h : EQ g0 v)
    (hW : v.week = some W) (hs : Weekly.UserStep v.w g u W cur) : EQ g0 { v with w := g } := by
  refine ⟨?_, Or.inr ⟨W, hW, hs.lgw⟩⟩
  rcases h.at_ with e | ⟨W', hW', hl'⟩
  · rw [← e]; exact hs.estep
  · cases hW.symm.trans hW'
    exact h.est.trans_same hs.estep (hs.lgw.trans hl'.symm)

theorem Move.eq {g0 : Weekly.St} {v v' : WkV} {d d' : Nat} (m : Move v d v' d') (q : EQ g0 v) :
    EQ g0 v' := by
  cases m with
  | claim hv h =>
    subst hv
    obtain ⟨W, cur, hW, hs⟩ := claimBoostedYields_userStep h
    exact ⟨(q.touch hW hs).est, (q.touch hW hs).at_⟩
  | touch hW h => exact q.touch hW h.userStep
  | _ => exact ⟨q.est, q.at_⟩

theorem step_EQ {s s' : St} {op : Op} {o : Out} (h : step s op = some (s', o)) : EQ s.w (wk s') := by
  have q0 : EQ s.w (wk s) := ⟨EStep.refl _, Or.inl rfl⟩
  rcases step_path h with ⟨b, e, _, rfl⟩ | ⟨_, _, _, _, _, _, e⟩ | p
  · exact ⟨q0.est, Or.inl rfl⟩
  · rw [e]; exact ⟨q0.est, Or.inl rfl⟩
  · exact p.inv (P := fun v _ => EQ s.w v) Move.eq q0

theorem step_EStep {s s' : St} {op : Op} {o : Out} (h : step s op = some (s', o)) : EStep s.w s'.w :=
  (step_EQ h).est

theorem step_energy_window {s s' : St} {op : Op} {o : Out} (h : step s op = some (s', o))
    {W : Nat} (hW : s'.week = some W) (w : Nat) (h1 : w < W) (h2 : W ≤ w + 4) :
    s'.w.totalEnergy w = s.w.totalEnergy w := by
  have q := step_EQ h
  rcases q.at_ with e | ⟨W', hW', hl⟩
  · exact congrArg (·.totalEnergy w) e
  · cases hW.symm.trans hW'
    rcases q.est.frame w (by omega) with e | ⟨_, e5⟩
    · exact e
    · omega

/-- the denominator a logged payment is computed with (`stepLog_amount` reads it BEFORE the
    operation) is the one the operation leaves, of which `closeSum_exact_from` speaks -/
theorem stepLog_energy_kept {s : St} {op : Op} {e : Entry} (he : e ∈ stepLog s op) :
    (next s op).w.totalEnergy e.week = s.w.totalEnergy e.week := by
  obtain ⟨u, r, _, hs, hm⟩ := stepLog_cases he
  obtain ⟨_, h4, hlt, _⟩ := stepLog_window he
  have hne := (mem_entriesOf hm).2.2.1
  have hs' : step s op = some (r.1, r.2) := hs
  rw [next_of_some hs]
  rcases step_eff hs' with hq | ⟨u', W, eff, _⟩
  · exact absurd (congrFun hq.1 e.week) hne
  · have hWc := week_curWeek eff.week
    have hW' : r.1.week = some W := eff.week_eq.trans eff.week
    exact step_energy_window hs' hW' e.week (by omega) (by omega)

theorem next_EStep (s : St) (op : Op) : EStep s.w (next s op).w := by
  cases hs : step s op with
  | none => rw [next_of_none hs]; exact EStep.refl _
  | some r => rw [next_of_some hs]; exact step_EStep (o := r.2) hs

theorem next_winv {s : St} (hI : WInv s) (op : Op) : WInv (next s op) := by
  cases hs : step s op with
  | none => rw [next_of_none hs]; exact hI
  | some r => rw [next_of_some hs]; exact step_winv (o := r.2) hI hs

/-- Σ of the recorded energies decayed to week `w`, taken in the last state of the history
    (started in `s`) in which `w` was the last globally updated week; `acc` if there is none -/
def closeSum (w : Nat) : St → List Op → Nat → Nat
  | s, [], acc => Weekly.closeAcc s.w acc w
  | s, op :: ops, acc => closeSum w (next s op) ops (Weekly.closeAcc s.w acc w)

theorem closeSum_exact_from (w : Nat) (ops : List Op) : ∀ {s : St} {acc : Nat},
    WInv s → Weekly.CloseInv s.w acc w →
    (run s ops).w.totalEnergy w = closeSum w s ops acc ∨
      ((run s ops).w.totalEnergy w = 0 ∧ w + 4 < (run s ops).w.lastGlobalUpdateWeek) := by
  induction ops with
  | nil => intro s acc hI hC; exact hC.read hI.1
  | cons op ops ih =>
    intro s acc hI hC
    rw [run_cons]
    simp only [closeSum]
    exact ih (next_winv hI op) (hC.step hI.1 (next_EStep s op))

theorem init_CloseInv (kind : Kind) (sameTok : Bool) (dsc perBlock : Nat) (produce : Bool)
    (users : List Nat) (e0 : Nat) (w : Nat) :
    Weekly.CloseInv (init kind sameTok dsc perBlock produce users e0).w 0 w :=
  ⟨fun _ => rfl, fun h => absurd h (Nat.not_lt_zero _)⟩

end Mx.Farm
