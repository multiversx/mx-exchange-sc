/-
  The observation ring of the pair against a ghost log of the reserves each round started with: two
  neighbouring observations are `Link`ed when the younger accumulated exactly the logged reserves of the
  rounds between them.  `RingInv` says this of the whole ring; `update_cases` is what one
  `SP.update` (`update_safe_price`) does to it.
-/
import MxModel.Lemmas.PairInv

namespace Mx.SafePrice
open Mx Mx.Pair

structure Res where
  r1 : Nat
  r2 : Nat
  S : Nat
  deriving DecidableEq, Repr

/-- `log k` = reserves and LP supply in effect when round `k` started -/
abbrev Log := Nat → Res

/-- a pair state together with the log of start-of-round reserves of its history -/
structure G where
  s : St
  log : Log

/-- one transaction on the ghost state: when the clock moves from round `a` to round `b`
    every round in `(a, b]` starts with the reserves of that moment; nothing else touches the log -/
def gstep (g : G) (op : Op) : G :=
  match step g.s op with
  | some (s', _) =>
      ⟨s', fun k => if g.s.round < k ∧ k ≤ s'.round then ⟨g.s.r1, g.s.r2, g.s.S⟩ else g.log k⟩
  | none => g

def grun (g : G) (ops : List Op) : G := ops.foldl gstep g

def ginit (total special : Nat) (adder : Option Nat) (cap : Nat) : G :=
  ⟨init total special adder cap, fun _ => ⟨0, 0, 0⟩⟩

theorem grun_s (g : G) (ops : List Op) : (grun g ops).s = run g.s ops := by
  induction ops generalizing g with
  | nil => rfl
  | cons op ops ih =>
    simp only [grun, run, List.foldl_cons] at *
    rw [ih]
    congr 1
    unfold gstep
    cases h : step g.s op with
    | none => rfl
    | some r => rfl

/-- `b` was recorded right after `a`: the weight is the round distance, and every round in
    between started with the same (positive) reserves, which `b` accumulated -/
def Link (log : Log) (a b : Obs) : Prop :=
  a.round < b.round ∧ b.w = a.w + (b.round - a.round) ∧
  ∀ k, a.round < k → k ≤ b.round →
    0 < (log k).r1 ∧ 0 < (log k).r2 ∧ 0 < (log k).S ∧
    b.acc1 = a.acc1 + (b.round - a.round) * (log k).r1 ∧
    b.acc2 = a.acc2 + (b.round - a.round) * (log k).r2 ∧
    b.accS = a.accS + (b.round - a.round) * (log k).S

def Linked (log : Log) : List Obs → Prop
  | [] => True
  | [_] => True
  | a :: b :: t => Link log a b ∧ Linked log (b :: t)

/-- the retained observations, oldest first: physical positions `cur+1 … len`, then `1 … cur` -/
def logical (p : SP) : List Obs := p.obs.drop p.cur ++ p.obs.take p.cur

/-- shapes `update_safe_price` can produce -/
structure Shape (p : SP) : Prop where
  capPos : 1 ≤ p.cap
  lenLe : p.obs.length ≤ p.cap
  curLe : p.cur ≤ p.obs.length
  curPos : p.obs ≠ [] → 1 ≤ p.cur
  notFull : p.obs.length < p.cap → p.cur = p.obs.length

/-- what holds of the observation buffer after every history -/
structure RingInv (g : G) : Prop where
  pair : Pair.Inv g.s
  shape : Shape g.s.sp
  linked : Linked g.log (logical g.s.sp)
  roundBnd : ∀ o ∈ g.s.sp.obs, 1 ≤ o.round ∧ o.round ≤ g.s.round
  accPos : ∀ o ∈ g.s.sp.obs, 0 < o.accS
  lastLe : g.s.sp.last.round ≤ g.s.round
  live : g.s.sp.obs ≠ [] → 0 < g.s.r1 ∧ 0 < g.s.r2 ∧ 0 < g.s.S
  current : g.s.sp.obs ≠ [] →
    ∀ k, g.s.sp.last.round < k → k ≤ g.s.round → g.log k = ⟨g.s.r1, g.s.r2, g.s.S⟩

/-- overwriting the first slot of the rotation `drop c ++ take c` and rotating one further is
    dropping the head and appending the new element -/
theorem rot_set {α} (l : List α) (c : Nat) (n : α) (h : c < l.length) :
    (l.set c n).drop (c + 1) ++ (l.set c n).take (c + 1) = (l.drop c ++ l.take c).tail ++ [n] := by
  rw [List.drop_set_of_lt (by omega), List.take_succ_eq_append_getElem (by simpa using h),
    List.take_set_of_le (Nat.le_refl _), List.getElem_set_self]
  have e := List.drop_eq_getElem_cons h
  rw [e]
  simp only [List.cons_append, List.tail_cons, List.append_assoc]

theorem Linked.tail {log : Log} : ∀ {l : List Obs}, Linked log l → Linked log l.tail
  | [], _ => trivial
  | [_], _ => trivial
  | _ :: _ :: _, h => h.2

theorem Linked.snoc {log : Log} (n : Obs) :
    ∀ {l : List Obs}, Linked log l → (∀ a, l.getLast? = some a → Link log a n) →
      Linked log (l ++ [n])
  | [], _, _ => trivial
  | [a], _, h => ⟨h a rfl, trivial⟩
  | a :: b :: t, hl, h => by
    refine ⟨hl.1, ?_⟩
    have := Linked.snoc n (l := b :: t) hl.2 (fun x hx => h x (by simpa using hx))
    simpa using this

theorem Linked.congr {log log' : Log} (bound : Nat) (hlog : ∀ k, k ≤ bound → log' k = log k) :
    ∀ {l : List Obs}, (∀ o ∈ l, o.round ≤ bound) → Linked log l → Linked log' l
  | [], _, _ => trivial
  | [_], _, _ => trivial
  | a :: b :: t, hb, h => by
    refine ⟨?_, Linked.congr bound hlog (fun o ho => hb o (List.mem_cons_of_mem _ ho)) h.2⟩
    obtain ⟨h1, h2, h3⟩ := h.1
    refine ⟨h1, h2, fun k hk1 hk2 => ?_⟩
    have hbb : b.round ≤ bound := hb b (by simp)
    rw [hlog k (by omega)]
    exact h3 k hk1 hk2

theorem last_eq {p : SP} (hs : Shape p) (hne : p.obs ≠ []) :
    ∃ h : p.cur - 1 < p.obs.length, p.last = p.obs[p.cur - 1] := by
  have h1 := hs.curPos hne
  have h2 := hs.curLe
  refine ⟨by omega, ?_⟩
  unfold SP.last
  have : p.obs.isEmpty = false := by
    cases h : p.obs with
    | nil => exact absurd h hne
    | cons a t => rfl
  rw [this]
  simp only [Bool.false_eq_true, if_false, List.getD_eq_getElem?_getD]
  rw [List.getElem?_eq_getElem (by omega)]
  rfl

theorem last_mem {p : SP} (hs : Shape p) (hne : p.obs ≠ []) : p.last ∈ p.obs := by
  obtain ⟨h, e⟩ := last_eq hs hne
  rw [e]
  exact List.getElem_mem h

theorem logical_getLast {p : SP} (hs : Shape p) (hne : p.obs ≠ []) :
    (logical p).getLast? = some p.last := by
  obtain ⟨h, e⟩ := last_eq hs hne
  have h1 := hs.curPos hne
  unfold logical
  rw [List.getLast?_append, List.getLast?_take, if_neg (by omega),
    List.getElem?_eq_getElem h, e]
  simp

theorem last_empty {p : SP} (h : p.obs = []) : p.last = Obs.zero := by
  unfold SP.last
  simp [h]

theorem logical_empty {p : SP} (h : p.obs = []) : logical p = [] := by
  simp [logical, h]

theorem mem_logical {p : SP} {o : Obs} : o ∈ logical p ↔ o ∈ p.obs := by
  unfold logical
  rw [List.mem_append]
  constructor
  · rintro (h | h)
    · exact List.mem_of_mem_drop h
    · exact List.mem_of_mem_take h
  · intro h
    rw [← List.take_append_drop p.cur p.obs, List.mem_append] at h
    exact h.symm

theorem update_cases {p : SP} (hs : Shape p) (now r1 r2 S : Nat)
    (hpos : 0 < r1 ∧ 0 < r2 ∧ 0 < S) :
    (p.last.round = now ∧ p.update now r1 r2 S = p) ∨
    (p.last.round ≠ now ∧
      Shape (p.update now r1 r2 S) ∧ (p.update now r1 r2 S).cap = p.cap ∧
      (p.update now r1 r2 S).last = p.last.next now r1 r2 S ∧
      (p.update now r1 r2 S).obs ≠ [] ∧
      logical (p.update now r1 r2 S) =
        (if p.obs.length = p.cap then (logical p).tail else logical p) ++
          [p.last.next now r1 r2 S] ∧
      (∀ o ∈ (p.update now r1 r2 S).obs, o ∈ p.obs ∨ o = p.last.next now r1 r2 S)) := by
  obtain ⟨capPos, lenLe, curLe, curPos, notFull⟩ := hs
  unfold SP.update
  rw [if_neg (by omega)]
  by_cases hr : p.last.round = now
  · left
    simp only [hr, if_true, and_self]
  · right
    refine ⟨hr, ?_⟩
    simp only [hr, if_false]
    generalize p.last.next now r1 r2 S = n
    by_cases hfull : p.obs.length = p.cap
    · -- full ring: overwrite the oldest slot
      simp only [hfull, if_true]
      have hne : p.obs ≠ [] := by
        intro h; rw [h] at hfull; simp at hfull; omega
      have hemp : p.obs.isEmpty = false := by
        cases h : p.obs with
        | nil => exact absurd h hne
        | cons a t => rfl
      have hc1 := curPos hne
      simp only [hemp, Bool.false_eq_true, if_false, Nat.add_sub_cancel]
      -- the slot overwritten is `c = cur mod cap`; the logical order starts there
      have hlg : logical p = p.obs.drop (p.cur % p.cap) ++ p.obs.take (p.cur % p.cap) := by
        unfold logical
        by_cases hc : p.cur < p.cap
        · rw [Nat.mod_eq_of_lt hc]
        · have hce : p.cur = p.obs.length := by omega
          rw [hce, hfull, Nat.mod_self, ← hfull]
          simp
      have hclt : p.cur % p.cap < p.obs.length := by rw [hfull]; exact Nat.mod_lt _ capPos
      generalize p.cur % p.cap = c at hlg hclt
      refine ⟨⟨capPos, by simp [hfull], by simp; omega, fun _ => by simp, fun h => ?_⟩, trivial, ?_, ?_,
        ?_, ?_⟩
      · simp at h; omega
      · unfold SP.last
        simp only [List.isEmpty_iff, List.set_eq_nil_iff, hne, if_false, Nat.add_sub_cancel,
          List.getD_eq_getElem?_getD]
        rw [List.getElem?_set_self hclt]
        rfl
      · simpa using hne
      · rw [hlg]
        exact rot_set p.obs c n hclt
      · intro o ho
        rcases List.mem_or_eq_of_mem_set ho with h | h
        · exact Or.inl h
        · exact Or.inr h
    · -- room left: push
      simp only [hfull, if_false]
      have hlt : p.obs.length < p.cap := by omega
      have hcur := notFull hlt
      have hidx : (if p.obs.isEmpty = true then 1 else p.cur % p.cap + 1) = p.obs.length + 1 := by
        cases h : p.obs with
        | nil => simp
        | cons a t =>
          simp only [List.isEmpty_cons, Bool.false_eq_true, if_false]
          rw [hcur, Nat.mod_eq_of_lt hlt, h]
      rw [hidx]
      refine ⟨⟨capPos, by simp; omega, by simp, fun _ => by simp, fun _ => by simp⟩, trivial, ?_, ?_,
        ?_, ?_⟩
      · unfold SP.last
        simp only [List.isEmpty_iff, List.append_eq_nil_iff, List.cons_ne_self, and_false, if_false,
          Nat.add_sub_cancel, List.getD_eq_getElem?_getD]
        rw [List.getElem?_append_right (Nat.le_refl _)]
        simp
      · simp
      · unfold logical
        simp only [hcur]
        simp [List.take_of_length_le]
      · intro o ho
        simp only [List.mem_append, List.mem_singleton] at ho
        exact ho

end Mx.SafePrice
