/-
  Position tokens of the farm model (C07, C06 `total_base_bound`, base part of C05): the farm-token
  supply is the sum of all outstanding position amounts, `userTotalFarmPosition(o)` the sum of the
  outstanding positions whose recorded original owner is `o`, and what the outstanding positions can
  still claim plus what was paid as base rewards stays within the base share of the emission.

  All three are weighted sums over the holdings table (Lemmas/Holdings.lean: weight 1, weight
  "recorded owner is `o`", weight "index − entry index").  A transaction does one of four things to
  the cells they read (`PTrans`): settle; take payments in and issue one token; take a position part
  in without issuing one (exit); move units between two accounts.  Every endpoint is put into that
  form once (`step_ptrans`); the invariants are checked on the four forms (`PosInv.trans` here,
  `PotInv.trans` in Lemmas/FarmPot.lean).
-/
import MxModel.Lemmas.FarmArith
import MxModel.Lemmas.FarmEff
import MxModel.Lemmas.Holdings

namespace Mx.Farm

open Mx.Weekly (upd upd_same upd_other upd_ite_add)
open Mx.Staking (upd2 upd2_ne_zero debit outst wsum payW payTot payW_one wsum_reissue
  wsum_debit wsum_explicit wsum_congr wsum_hold_zero debit_le debit_held)

def heldBy (s : St) (n : Nat) : Nat := (s.users.map fun u => s.hold u n).sum
def nonceList (s : St) : List Nat := List.range (s.lastNonce + 1)
def totalHeld (s : St) : Nat := ((nonceList s).map (heldBy s)).sum
def ownerOf (s : St) (n : Nat) : Option Nat := (s.attrs n).map (·.owner)
def ownedBy (s : St) (o : Nat) : Nat :=
  ((nonceList s).map fun n => if ownerOf s n = some o then heldBy s n else 0).sum

/-- C07's invariant: `farm_token_supply` (`sup`) and `getUserTotalFarmPosition(o)` (`own`) are the sums of the
    outstanding positions — all of them; those whose `original_owner` is `o`. -/
structure PosInv (s : St) : Prop where
  nodup : s.users.Nodup
  dom : ∀ u n, s.hold u n ≠ 0 → u ∈ s.users ∧ n ≤ s.lastNonce ∧ (s.attrs n).isSome
  fresh : ∀ n, s.lastNonce < n → s.attrs n = none
  sup : s.supply = totalHeld s
  own : ∀ o, s.userTotal o = ownedBy s o

/-- the cells `PosInv` reads -/
structure PV where
  users : List Nat
  hold : Nat → Nat → Nat
  attrs : Nat → Option Attr
  lastNonce : Nat
  userTotal : Nat → Nat
  supply : Nat

def pv (s : St) : PV := ⟨s.users, s.hold, s.attrs, s.lastNonce, s.userTotal, s.supply⟩

theorem paySum_eq : ∀ l : List (Nat × Nat), paySum l = payTot l
  | [] => rfl
  | (_, a) :: rest => congrArg (a + ·) (paySum_eq rest)

/-- weight "nonce `n` records `o` as original owner" -/
def ownW (atr : Nat → Option Attr) (o n : Nat) : Nat := if (atr n).map (·.owner) = some o then 1 else 0

theorem ownW_some {atr : Nat → Option Attr} {n : Nat} {a : Attr} (h : atr n = some a) (o : Nat) :
    ownW atr o n = if a.owner = o then 1 else 0 := by
  simp only [ownW, h, Option.map_some, Option.some.injEq]

theorem ownW_upd_lt (atr : Nat → Option Attr) (o : Nat) {N n : Nat} (x : Option Attr) (h : n < N) :
    ownW (upd atr N x) o n = ownW atr o n := by
  simp only [ownW, upd_other _ _ (Nat.ne_of_lt h)]

theorem upd_upd2 (h : Nat → Nat → Nat) (c n x : Nat) : upd h c (upd (h c) n x) = upd2 h c n x := by
  funext a m
  simp only [upd, upd2]
  by_cases ha : a = c
  · subst ha; by_cases hm : m = n <;> simp [hm]
  · simp [ha]

namespace PV

/-! The five sums again, on the view `PV`: the C07 statements speak of the state-level ones above, the
step proofs run on the view `pv s`, where the two agree by `rfl` (`PosInv.toPV`, `PosInv.ofPV`). -/

def heldBy (v : PV) (n : Nat) : Nat := (v.users.map fun u => v.hold u n).sum
def nonceList (v : PV) : List Nat := List.range (v.lastNonce + 1)
def totalHeld (v : PV) : Nat := (v.nonceList.map v.heldBy).sum
def ownerOf (v : PV) (n : Nat) : Option Nat := (v.attrs n).map (·.owner)
def ownedBy (v : PV) (o : Nat) : Nat :=
  (v.nonceList.map fun n => if v.ownerOf n = some o then v.heldBy n else 0).sum

/-- the invariant on the view, with a per-owner surplus `X` of `userTotal` over the owned positions;
    the supply clause is kept separate.  Stands for its own sake (`InvA.create`, `InvA.supply`: the moment
    between the debit and the new token); the step theorems below use `Inv` only. -/
structure InvA (v : PV) (X : Nat → Nat) : Prop where
  nodup : v.users.Nodup
  dom : ∀ u n, v.hold u n ≠ 0 → u ∈ v.users ∧ n ≤ v.lastNonce ∧ (v.attrs n).isSome
  fresh : ∀ n, v.lastNonce < n → v.attrs n = none
  own : ∀ o, v.userTotal o = v.ownedBy o + X o

/-- `PosInv` on the view -/
structure Inv (v : PV) : Prop where
  nodup : v.users.Nodup
  dom : ∀ u n, v.hold u n ≠ 0 → u ∈ v.users ∧ n ≤ v.lastNonce ∧ (v.attrs n).isSome
  fresh : ∀ n, v.lastNonce < n → v.attrs n = none
  sup : v.supply = v.totalHeld
  own : ∀ o, v.userTotal o = v.ownedBy o

def setHold (v : PV) (c n x : Nat) : PV := { v with hold := upd v.hold c (upd (v.hold c) n x) }

def create (v : PV) (dst : Nat) (a : Attr) : PV :=
  { v with lastNonce := v.lastNonce + 1, attrs := upd v.attrs (v.lastNonce + 1) (some a)
           hold := upd v.hold dst (upd (v.hold dst) (v.lastNonce + 1)
             (v.hold dst (v.lastNonce + 1) + a.amt)) }

theorem totalHeld_eq (v : PV) : v.totalHeld = wsum v.hold v.users (v.lastNonce + 1) (fun _ => 1) :=
  (wsum_explicit _ fun _ => Nat.one_mul _).symm

theorem ownedBy_eq (v : PV) (o : Nat) :
    v.ownedBy o = wsum v.hold v.users (v.lastNonce + 1) (ownW v.attrs o) := by
  refine (wsum_explicit _ fun n => ?_).symm
  show (if _ then 1 else 0) * _ = if (v.attrs n).map (·.owner) = some o then _ else 0
  split
  · exact Nat.one_mul _
  · exact Nat.zero_mul _

theorem fresh_hold {v : PV} (hd : ∀ u n, v.hold u n ≠ 0 → u ∈ v.users ∧ n ≤ v.lastNonce ∧ (v.attrs n).isSome)
    (a : Nat) {n : Nat} (hn : v.lastNonce < n) : v.hold a n = 0 := by
  by_contra hne
  have := (hd a n hne).2.1
  omega

theorem setHold_eq (v : PV) (c n x : Nat) : v.setHold c n x = { v with hold := upd2 v.hold c n x } :=
  congrArg (fun h => { v with hold := h }) (upd_upd2 v.hold c n x)

theorem outst_transfer {v : PV} (hnd : v.users.Nodup) {src dst n a : Nat} (hs : src ∈ v.users)
    (hd : dst ∈ v.users) (hle : a ≤ v.hold src n) (m : Nat) :
    outst ((v.setHold src n (v.hold src n - a)).setHold dst n
      ((v.setHold src n (v.hold src n - a)).hold dst n + a)).hold v.users m = outst v.hold v.users m := by
  rw [setHold_eq, setHold_eq]
  exact Staking.outst_shift hnd hs hd hle m

theorem Inv.transfer {v : PV} {src dst n a : Nat} (hI : Inv v) (hs : src ∈ v.users)
    (hd : dst ∈ v.users) (hsome : (v.attrs n).isSome) (hle : a ≤ v.hold src n) :
    Inv ((v.setHold src n (v.hold src n - a)).setHold dst n
      ((v.setHold src n (v.hold src n - a)).hold dst n + a)) := by
  have hout := outst_transfer hI.nodup hs hd hle
  have hn : n ≤ v.lastNonce := by
    by_contra hlt
    rw [hI.fresh n (by omega)] at hsome
    cases hsome
  refine ⟨hI.nodup, fun u m hne => ?_, hI.fresh, ?_, fun o => ?_⟩
  · rw [setHold_eq, setHold_eq] at hne
    rcases upd2_ne_zero hne with ⟨rfl, rfl⟩ | hne
    · exact ⟨hd, hn, hsome⟩
    · rcases upd2_ne_zero hne with ⟨rfl, rfl⟩ | hne
      · exact ⟨hs, hn, hsome⟩
      · exact hI.dom u m hne
  · rw [totalHeld_eq]
    exact (hI.sup.trans (totalHeld_eq v)).trans (wsum_congr (fun m _ => hout m) (fun _ _ => rfl)).symm
  · rw [ownedBy_eq]
    exact ((hI.own o).trans (ownedBy_eq v o)).trans (wsum_congr (fun m _ => hout m) (fun _ _ => rfl)).symm

/-- a new token of amount `a.amt` for `dst` absorbs `a.amt` of its recorded owner's surplus -/
theorem InvA.create {v : PV} {X X' : Nat → Nat} (hI : InvA v X) {dst : Nat} {a : Attr}
    (hd : dst ∈ v.users) (hX : ∀ o, X o = X' o + (if a.owner = o then a.amt else 0)) :
    InvA (v.create dst a) X' ∧ (v.create dst a).totalHeld = v.totalHeld + a.amt := by
  have hfr : ∀ u, v.hold u (v.lastNonce + 1) = 0 := fun u => fresh_hold hI.dom u (Nat.lt_succ_self _)
  have e : v.create dst a = ⟨v.users, upd2 v.hold dst (v.lastNonce + 1) a.amt,
      upd v.attrs (v.lastNonce + 1) (some a), v.lastNonce + 1, v.userTotal, v.supply⟩ := by
    show PV.mk _ _ _ _ _ _ = _
    rw [upd_upd2, hfr dst, Nat.zero_add]
  have mint := fun w w' hw => Staking.wsum_mint (A := a.amt) w w' hd hI.nodup hfr hw
  rw [e]
  refine ⟨⟨hI.nodup, fun u m hne => ?_, fun m hm => ?_, fun o => ?_⟩, ?_⟩
  · rcases upd2_ne_zero (f := v.hold) hne with ⟨rfl, rfl⟩ | hne
    · exact ⟨hd, Nat.le_refl _, by show (upd v.attrs _ _ _).isSome = true; rw [upd_same]; rfl⟩
    · obtain ⟨d1, d2, d3⟩ := hI.dom u m hne
      exact ⟨d1, Nat.le_succ_of_le d2, by
        show (upd v.attrs _ _ m).isSome = true
        rw [upd_other _ _ (by omega)]; exact d3⟩
  · show upd v.attrs _ _ m = none
    have hm' : v.lastNonce + 1 < m := hm
    rw [upd_other _ _ (by omega)]; exact hI.fresh m (by omega)
  · rw [ownedBy_eq]
    have h1 := mint (ownW v.attrs o) (ownW (upd v.attrs (v.lastNonce + 1) (some a)) o)
      (fun m hm => ownW_upd_lt v.attrs o _ hm)
    rw [ownW_some (upd_same _ _ _)] at h1
    have h2 := (hI.own o).trans (congrArg (· + X o) (ownedBy_eq v o))
    have h3 := hX o
    dsimp only
    split at h1 <;> rename_i hao <;> simp only [hao, if_true, if_false, Nat.one_mul, Nat.zero_mul] at h1 h3 <;> omega
  · rw [totalHeld_eq, totalHeld_eq]
    have h1 := mint (fun _ => 1) (fun _ => 1) (fun _ _ => rfl)
    rw [Nat.one_mul] at h1
    exact h1

theorem InvA.supply {v : PV} {X : Nat → Nat} (hI : InvA v X) (sp : Nat) :
    InvA { v with supply := sp } X := ⟨hI.nodup, hI.dom, hI.fresh, hI.own⟩

end PV

theorem takeHold_debit : ∀ (l : List (Nat × Nat)) {attrs : Nat → Option Attr} {hold h' : Nat → Nat → Nat} {c : Nat},
    takeHold attrs hold c l = some h' → debit hold c l = some h' ∧ ∀ p ∈ l, (attrs p.1).isSome
  | [], _, _, _, _, h => ⟨h, fun _ hp => nomatch hp⟩
  | (n, a) :: rest, attrs, hold, h', c, h => by
    obtain ⟨_, ha, h⟩ := peel h
    obtain ⟨_, hsome, h⟩ := peel h
    obtain ⟨hle, h⟩ := peel_sub h
    rw [upd_upd2] at h
    obtain ⟨hd, hat⟩ := takeHold_debit rest h
    refine ⟨?_, fun p hp => ?_⟩
    · simp only [debit, req_pos (Nat.pos_of_ne_zero ((req_eq_some _).mp ha)), req_pos hle,
        Option.bind_eq_bind, Option.bind_some]
      exact hd
    · rcases List.mem_cons.mp hp with rfl | hp
      · exact (req_eq_some _).mp hsome
      · exact hat p hp

/-- `check_and_update_user_farm_position`: every payment recorded for somebody else moves from that
    owner's total to `user`'s; the truncated subtraction is exact because the owner's total
    contains the payment -/
theorem checkTotals_total : ∀ (l : List (Nat × Nat)) {attrs : Nat → Option Attr} {tot t Y : Nat → Nat} {user : Nat},
    checkTotals attrs tot user l = some t → (∀ o, tot o = Y o + payW (ownW attrs o) l) →
    ∀ o, t o = Y o + (if o = user then payTot l else 0)
  | [], _, tot, t, Y, user, h, hY => by
    obtain rfl := Option.some.inj h
    intro o; rw [hY o]; simp [payW, payTot]
  | (n, a) :: rest, attrs, tot, t, Y, user, h, hY => by
    obtain ⟨att, hat, h⟩ := peel h
    have hY' : ∀ o, tot o = Y o + (if att.owner = o then a else 0) + payW (ownW attrs o) rest := by
      intro o
      rw [hY o]
      simp only [payW, ownW_some hat]
      split <;> omega
    have key : ∀ tot1 : Nat → Nat,
        (∀ o, tot1 o + (if att.owner = o then a else 0) = tot o + (if o = user then a else 0)) →
        checkTotals attrs tot1 user rest = some t →
        ∀ o, t o = Y o + (if o = user then payTot ((n, a) :: rest) else 0) := by
      intro tot1 hmove h1 o
      rw [checkTotals_total rest (Y := fun o => Y o + (if o = user then a else 0)) h1
        (fun o => by have := hmove o; have := hY' o; omega) o]
      simp only [payTot]; split <;> omega
    by_cases ho : att.owner = user
    · rw [if_neg (by simpa using ho)] at h
      exact key tot (fun o => by rw [ho]; simp only [eq_comm]) h
    · rw [if_pos ho] at h
      refine key _ (fun o => ?_) h
      have hle : a ≤ tot att.owner := by have := hY' att.owner; rw [if_pos rfl] at this; omega
      simp only [upd]
      by_cases h1 : o = user
      · subst h1; simp only [↓reduceIte, ho, Ne.symm ho, Nat.add_zero]
      · by_cases h2 : o = att.owner
        · subst h2; simp only [↓reduceIte, h1]; omega
        · simp only [↓reduceIte, h1, h2, Ne.symm h2]

/-- the cells of the base budget -/
structure CV where
  rps : Nat
  supply : Nat
  dsc : Nat
  paidBase : Nat
  baseBudget : Nat

def cv (s : St) : CV := ⟨s.rps, s.supply, s.dsc, s.paidBase, s.baseBudget⟩

def rpsA (atr : Nat → Option Attr) (n : Nat) : Nat := match atr n with | some a => a.rps | none => 0

theorem rpsA_some {atr : Nat → Option Attr} {n : Nat} {a : Attr} (h : atr n = some a) :
    rpsA atr n = a.rps := by simp only [rpsA, h]

/-- weight "what one unit of nonce `n` can still claim at index `R`" -/
def potW (atr : Nat → Option Attr) (R n : Nat) : Nat := R - rpsA atr n

theorem potW_upd_lt (atr : Nat → Option Attr) (R : Nat) {N n : Nat} (x : Option Attr) (h : n < N) :
    potW (upd atr N x) R n = potW atr R n := by
  simp only [potW, rpsA, upd_other _ _ (Nat.ne_of_lt h)]

/-- What ONE successful transaction does to the position view and the budget cells: rewards are
    generated first (index `+ δ`, base budget `+ B`; both 0 when the endpoint does not settle), then
    * nothing else (admin endpoints, `claimBoostedRewards`, …), or
    * payments `pays` of `c` are taken in, their recorded totals move to `user`, and one token `tok`
      for `user` is issued to `dst` (enter, claim, compound, merge), `paid` being paid as base reward, or
    * a part `a` of position `n` is taken in and nothing issued (exit), or
    * units move between two accounts. -/
def PTrans (s s' : St) : Prop :=
  ∃ δ B, δ * s.supply ≤ B * s.dsc ∧
    ((pv s' = pv s ∧ cv s' = ⟨s.rps + δ, s.supply, s.dsc, s.paidBase, s.baseBudget + B⟩) ∨
     (∃ (c dst user : Nat) (pays : List (Nat × Nat)) (h0 : Nat → Nat → Nat) (t1 t2 : Nat → Nat)
        (tok : Attr) (sp paid : Nat),
        c ∈ s.users ∧ dst ∈ s.users ∧ debit s.hold c pays = some h0 ∧
        (∀ Y : Nat → Nat, (∀ o, s.userTotal o = Y o + payW (ownW s.attrs o) pays) →
          ∀ o, t1 o = Y o + (if o = user then payTot pays else 0)) ∧
        tok.owner = user ∧ sp + payTot pays = s.supply + tok.amt ∧
        (∀ o, t2 o + (if o = user then payTot pays else 0) = t1 o + (if o = user then tok.amt else 0)) ∧
        tok.amt * (s.rps + δ - tok.rps) + s.dsc * paid ≤ payW (potW s.attrs (s.rps + δ)) pays ∧
        pv s' = ⟨s.users, upd2 h0 dst (s.lastNonce + 1) (h0 dst (s.lastNonce + 1) + tok.amt),
          upd s.attrs (s.lastNonce + 1) (some tok), s.lastNonce + 1, t2, sp⟩ ∧
        cv s' = ⟨s.rps + δ, sp, s.dsc, s.paidBase + paid, s.baseBudget + B⟩) ∨
     (∃ (c n a : Nat) (h0 : Nat → Nat → Nat) (att : Attr) (paid : Nat),
        c ∈ s.users ∧ debit s.hold c [(n, a)] = some h0 ∧ s.attrs n = some att ∧ a ≤ s.supply ∧
        s.dsc * paid ≤ a * (s.rps + δ - att.rps) ∧
        pv s' = ⟨s.users, h0, s.attrs, s.lastNonce,
          upd s.userTotal att.owner (s.userTotal att.owner - a), s.supply - a⟩ ∧
        cv s' = ⟨s.rps + δ, s.supply - a, s.dsc, s.paidBase + paid, s.baseBudget + B⟩) ∨
     (∃ (src dst n a : Nat),
        src ∈ s.users ∧ dst ∈ s.users ∧ (s.attrs n).isSome ∧ a ≤ s.hold src n ∧
        pv s' = ((pv s).setHold src n (s.hold src n - a)).setHold dst n
          (((pv s).setHold src n (s.hold src n - a)).hold dst n + a) ∧ cv s' = cv s))

theorem PTrans.of_eq {s s' : St} (h1 : pv s' = pv s) (h2 : cv s' = cv s) : PTrans s s' :=
  ⟨0, 0, by simp, Or.inl ⟨h1, h2⟩⟩

theorem PosInv.toPV {s : St} (h : PosInv s) : (pv s).Inv := ⟨h.nodup, h.dom, h.fresh, h.sup, h.own⟩
theorem PosInv.ofPV {s : St} (h : (pv s).Inv) : PosInv s := ⟨h.nodup, h.dom, h.fresh, h.sup, h.own⟩

theorem PosInv.of_pv {s s' : St} (hI : PosInv s) (h : pv s' = pv s) : PosInv s' :=
  PosInv.ofPV (h ▸ hI.toPV)

theorem PosInv.sup' {s : St} (hI : PosInv s) :
    s.supply = wsum s.hold s.users (s.lastNonce + 1) (fun _ => 1) :=
  hI.sup.trans (PV.totalHeld_eq (pv s))

theorem PosInv.own' {s : St} (hI : PosInv s) (o : Nat) :
    s.userTotal o = wsum s.hold s.users (s.lastNonce + 1) (ownW s.attrs o) :=
  (hI.own o).trans (PV.ownedBy_eq (pv s) o)

theorem PosInv.pay_lt {s : St} (hI : PosInv s) {c : Nat} {pays : List (Nat × Nat)} {h0 : Nat → Nat → Nat}
    (hd : debit s.hold c pays = some h0) : ∀ p ∈ pays, p.1 < s.lastNonce + 1 :=
  fun p hp => Nat.lt_succ_of_le (hI.dom c p.1 (debit_held hd hp)).2.1

theorem PosInv.dom_debit {s : St} (hI : PosInv s) {c : Nat} {pays : List (Nat × Nat)} {h0 : Nat → Nat → Nat}
    (hd : debit s.hold c pays = some h0) {a n : Nat} (hne : h0 a n ≠ 0) :
    a ∈ s.users ∧ n ≤ s.lastNonce ∧ (s.attrs n).isSome :=
  hI.dom a n (by have := debit_le hd a n; omega)

theorem PosInv.trans {s s' : St} (hI : PosInv s) (h : PTrans s s') : PosInv s' := by
  obtain ⟨δ, B, _, h⟩ := h
  have hfr : ∀ a, s.hold a (s.lastNonce + 1) = 0 := fun a =>
    PV.fresh_hold (v := pv s) hI.dom a (Nat.lt_succ_self _)
  rcases h with ⟨e, _⟩ | ⟨c, dst, user, pays, h0, t1, t2, tok, sp, paid, hc, hdst, hd, hk, ho, hs, hu, _, e, _⟩ |
    ⟨c, n, a, h0, att, paid, hc, hd, hat, _, _, e, _⟩ | ⟨src, dst, n, a, hs, hdst, hsome, hle, e, _⟩
  · exact hI.of_pv e
  · have hlt := hI.pay_lt hd
    have hf0 : h0 dst (s.lastNonce + 1) = 0 :=
      Nat.le_zero.mp (hfr dst ▸ debit_le hd dst _)
    have re := fun w w' hw => wsum_reissue hI.nodup hc hdst hd hfr hlt
      tok.amt w w' hw
    have k1 := hk (fun o => wsum h0 s.users (s.lastNonce + 1) (ownW s.attrs o)) (fun o => by
      rw [hI.own' o, ← wsum_debit (ownW s.attrs o) hd hc hI.nodup hlt])
    apply PosInv.ofPV
    rw [e, hf0, Nat.zero_add]
    refine ⟨hI.nodup, fun u m hne => ?_, fun m hm => ?_, ?_, fun o => ?_⟩
    · rcases upd2_ne_zero (f := h0) hne with ⟨rfl, rfl⟩ | hne
      · exact ⟨hdst, Nat.le_refl _, by show (upd s.attrs _ _ _).isSome = true; rw [upd_same]; rfl⟩
      · obtain ⟨d1, d2, d3⟩ := hI.dom_debit hd hne
        exact ⟨d1, Nat.le_succ_of_le d2, by
          show (upd s.attrs _ _ m).isSome = true
          rw [upd_other _ _ (by omega)]; exact d3⟩
    · show upd s.attrs _ _ m = none
      have hm' : s.lastNonce + 1 < m := hm
      rw [upd_other _ _ (by omega)]; exact hI.fresh m (by omega)
    · have h1 := re (fun _ => 1) (fun _ => 1) (fun _ _ => rfl)
      rw [payW_one (w := fun _ => 1) (fun _ _ => rfl), ← hI.sup', Nat.one_mul] at h1
      rw [PV.totalHeld_eq]
      exact Nat.add_right_cancel (hs.trans h1.symm)
    · have h1 := re (ownW s.attrs o) (ownW (upd s.attrs (s.lastNonce + 1) (some tok)) o)
        (fun m hm => ownW_upd_lt s.attrs o _ hm)
      rw [ownW_some (upd_same _ _ _), ho] at h1
      rw [PV.ownedBy_eq]
      dsimp only
      have h2 := k1 o
      have h3 := hu o
      have h4 := wsum_debit (ownW s.attrs o) hd hc hI.nodup hlt
      show t2 o = wsum _ s.users (s.lastNonce + 1 + 1) _
      by_cases hou : o = user
      · simp only [if_pos hou, if_pos hou.symm, Nat.one_mul] at h1 h2 h3; omega
      · simp only [if_neg hou, if_neg (Ne.symm hou), Nat.zero_mul] at h1 h2 h3; omega
  · have hlt := hI.pay_lt hd
    apply PosInv.ofPV
    rw [e]
    refine ⟨hI.nodup, fun u m hne => hI.dom_debit hd hne, hI.fresh, ?_, fun o => ?_⟩
    · have h1 := wsum_debit (fun _ => 1) hd hc hI.nodup hlt
      simp only [payW, Nat.one_mul, Nat.add_zero] at h1
      rw [PV.totalHeld_eq]
      have := hI.sup'
      show s.supply - a = wsum h0 s.users (s.lastNonce + 1) _
      omega
    · have h1 := wsum_debit (ownW s.attrs o) hd hc hI.nodup hlt
      simp only [payW, ownW_some hat, Nat.add_zero] at h1
      rw [PV.ownedBy_eq]
      have := hI.own' o
      dsimp only
      by_cases hoo : o = att.owner
      · subst hoo; rw [upd_same]; simp only [if_true, Nat.one_mul] at h1; omega
      · rw [upd_other _ _ hoo]; rw [if_neg (fun e => hoo e.symm), Nat.zero_mul] at h1; omega
  · exact PosInv.ofPV (e ▸ hI.toPV.transfer hs hdst hsome hle)

def CV.bud (x : CV) (B : Nat) : CV := ⟨x.rps, x.supply, x.dsc, x.paidBase, x.baseBudget + B⟩

theorem takePayments_cv {l : List (Nat × Nat)} {s s' : St} {c : Nat} (h : takePayments s c l = some s') :
    cv s' = cv s := by obtain ⟨_, rfl⟩ := takePayments_spec l h; rfl

theorem generate_cv {s s' : St} {c c' : Cache} (h : generate s c = some (s', c')) :
    ∃ B δ, cv s' = (cv s).bud B ∧ c'.rps = c.rps + δ ∧
      c'.supply = c.supply ∧ δ * c.supply ≤ B * s.dsc := by
  obtain ⟨_, rfl, _, rfl, _⟩ := generate_spec h
  refine ⟨minted s - cutOf s, _, rfl, rfl, rfl, ?_⟩
  split
  · simp
  · exact Nat.div_mul_le_self _ _

/-- `merge_no_gain` along the list: a merge rounds the entry index UP (`weighted_average_round_up`), so the merged
    token can claim no more than the base and the parts could -/
theorem mergeParts_pot : ∀ (l : List (Nat × Nat)) {s : St} {base m : Attr} (R : Nat),
    mergeParts s base l = some m →
    m.amt * (R - m.rps) ≤ base.amt * (R - base.rps) + payW (potW s.attrs R) l
  | [], _, _, _, R, h => by obtain rfl := Option.some.inj h; simp [payW]
  | (n, a) :: rest, s, base, m, R, h => by
    obtain ⟨att, part, m1, hat, hp, hm1, h⟩ := mergeParts_cons.mp h
    have e1 := mergeParts_pot rest R h
    have e2 := merge_no_gain hm1 R
    obtain ⟨e4, e3, -⟩ := intoPart_spec hp
    rw [e3, e4] at e2
    simp only [payW, potW, rpsA_some hat]
    rw [Nat.mul_comm (R - att.rps) a]
    omega

theorem first_payment {s : St} {n a : Nat} {rest : List (Nat × Nat)} {att part : Attr}
    (hat : s.attrs n = some att) (hp : att.intoPart a = some part) (R dsc : Nat) :
    payW (potW s.attrs R) ((n, a) :: rest) = a * (R - part.rps) + payW (potW s.attrs R) rest ∧
    baseReward dsc R a part.rps * dsc ≤ a * (R - part.rps) ∧ part.amt = a := by
  obtain ⟨e2, e1, -⟩ := intoPart_spec hp
  exact ⟨by simp only [payW, potW, rpsA_some hat, e1, Nat.mul_comm], baseReward_mul_le' _ _ _ _, e2⟩

theorem claimCore_ptrans {s s' : St} {caller orig : Nat} {pays : List (Nat × Nat)} {cmp : Bool} {o : Out}
    (hc : caller ∈ s.users) (h : claimCore s caller orig pays cmp = some (s', o)) : PTrans s s' := by
  obtain ⟨n1, a1, at1, part, h', _, boosted, ut, merged, _, B, R, x⟩ := claimCore_effect h
  obtain ⟨-, _, _, rfl⟩ := claimTail_flat x.tail
  obtain ⟨rest, rfl⟩ := List.head?_eq_some_iff.mp x.head
  obtain ⟨m1, m2⟩ := mergeParts_amt _ x.merge
  rw [paySum_eq] at m1
  have mp := mergeParts_pot _ (s.rps + rpsIncr s) x.merge
  obtain ⟨f1, f2, -⟩ := first_payment (rest := rest) x.attr x.intoPart (s.rps + rpsIncr s) s.dsc
  rw [(intoPart_spec x.intoPart).2.1, ← x.base] at f2
  rw [(intoPart_spec x.intoPart).2.1] at f1
  refine ⟨rpsIncr s, baseShare s, rpsIncr_mul_le s, Or.inr (Or.inl ⟨caller, caller, orig, _, h', ut,
    if cmp then upd ut orig (ut orig + R) else ut, merged, if cmp then s.supply + R else s.supply, B, hc, hc,
    (takeHold_debit _ x.take).1, fun Y hY => checkTotals_total _ x.totals hY, ?_, ?_, ?_, ?_, ?_, rfl⟩)⟩
  all_goals cases cmp
  all_goals simp only [Bool.false_eq_true, if_false, if_true, List.tail_cons, Nat.sub_self, Nat.mul_zero,
    Nat.zero_add] at m1 m2 mp ⊢
  · exact m2
  · exact m2
  · rw [m1]; rfl
  · rw [m1]; simp only [payTot]; omega
  · intro o; rw [m1]; rfl
  · intro o; rw [m1]; exact upd_ite_add (by simp only [payTot]; omega) o
  · rw [f1, Nat.mul_comm s.dsc]; omega
  · rw [f1, Nat.mul_comm s.dsc]; omega
  · simp only [pv, upd_upd2]
  · simp only [pv, upd_upd2]

theorem enterCore_ptrans {s s' : St} {caller orig tokenTo amt : Nat} {extra : List (Nat × Nat)} {o : Out}
    (hc : caller ∈ s.users) (ht : tokenTo ∈ s.users)
    (h : enterCore s caller orig tokenTo amt extra = some (s', o)) : PTrans s s' := by
  obtain ⟨h', _, _, ut, merged, _, _, x⟩ := enterCore_effect h
  obtain ⟨_, rfl⟩ := updateEnergyAndProgress_spec x.tail
  obtain ⟨m1, m2⟩ := mergeParts_amt _ x.merge
  rw [paySum_eq] at m1
  have mp := mergeParts_pot _ (s.rps + rpsIncr s) x.merge
  simp only [Nat.sub_self, Nat.mul_zero, Nat.zero_add] at m1 m2 mp
  refine ⟨rpsIncr s, baseShare s, rpsIncr_mul_le s, Or.inr (Or.inl ⟨caller, tokenTo, orig, _, h', ut,
    upd ut orig (ut orig + amt), merged, s.supply + amt, 0, hc, ht, (takeHold_debit _ x.take).1,
    fun Y hY => checkTotals_total _ x.totals hY, m2, ?_, fun o => ?_, ?_, ?_, rfl⟩)⟩
  · rw [m1]; omega
  · rw [m1]; exact upd_ite_add (Nat.add_assoc _ _ _) o
  · rw [Nat.mul_zero, Nat.add_zero]; exact mp
  · simp only [pv, upd_upd2]

theorem exitFarm_ptrans {s s' : St} {caller : Nat} {opt : Option Nat} {n a : Nat} {o : Out}
    (hc : caller ∈ s.users) (h : exitFarm s caller opt n a = some (s', o)) : PTrans s s' := by
  obtain ⟨_, att, h', _, _, _, _, _, B, x⟩ := exitFarm_effect h
  obtain ⟨_, rfl⟩ := clearUserEnergyIfNeeded_spec x.tail
  have f2 := baseReward_mul_le' s.dsc (s.rps + rpsIncr s) a att.rps
  rw [← x.base, Nat.mul_comm] at f2
  exact ⟨rpsIncr s, baseShare s, rpsIncr_mul_le s, Or.inr (Or.inr (Or.inl ⟨caller, n, a, h', att, B, hc,
    (takeHold_debit _ x.take).1, x.attr, x.supply, f2, rfl, rfl⟩))⟩

theorem mergeFarmTokens_ptrans {s s' : St} {caller : Nat} {opt : Option Nat} {pays : List (Nat × Nat)} {o : Out}
    (hc : caller ∈ s.users) (h : mergeFarmTokens s caller opt pays = some (s', o)) : PTrans s s' := by
  obtain ⟨orig, h', _, _, ut, merged, _, x⟩ := mergeFarmTokens_effect h
  obtain rfl := x.state
  obtain ⟨n1, a1, rest, att, part, rfl, hat, hp, hmp⟩ := mergeAll_spec x.merge
  obtain ⟨m1, _⟩ := mergeParts_amt _ hmp
  rw [paySum_eq] at m1
  have mp := mergeParts_pot _ s.rps hmp
  obtain ⟨f1, _, f3⟩ := first_payment (rest := rest) hat hp s.rps s.dsc
  rw [f3] at m1 mp
  refine ⟨0, 0, by simp, Or.inr (Or.inl ⟨caller, caller, orig, _, h', ut, ut, { merged with owner := orig }, s.supply,
    0, hc, hc, (takeHold_debit _ x.take).1, fun Y hY => checkTotals_total _ x.totals hY, rfl, ?_, fun o => ?_, ?_, ?_, rfl⟩)⟩
  · show _ = _ + merged.amt; rw [m1]; rfl
  · show _ = _ + if o = orig then merged.amt else 0; rw [m1]; rfl
  · show merged.amt * (s.rps + 0 - merged.rps) + s.dsc * 0 ≤ _
    rw [Nat.add_zero, f1]; exact mp
  · simp only [pv, upd_upd2]

theorem settle_ptrans {s s1 s' : St} (h : settle s = some s1) (h1 : pv s' = pv s1) (h2 : cv s' = cv s1) :
    PTrans s s' := by
  obtain ⟨_, rfl⟩ := settle_eq h
  simp only [pv, cv, settleSt, genSt] at h1 h2
  exact ⟨rpsIncr s, baseShare s, rpsIncr_mul_le s, Or.inl ⟨h1, h2⟩⟩

theorem claimBoostedRewards_ptrans {s s' : St} {caller : Nat} {optUser : Option Nat} {o : Out}
    (h : claimBoostedRewards s caller optUser = some (s', o)) : PTrans s s' := by
  obtain ⟨_, _, _, _, x⟩ := claimBoostedRewards_effect h
  obtain rfl := x.state
  exact ⟨rpsIncr s, baseShare s, rpsIncr_mul_le s, Or.inl ⟨rfl, rfl⟩⟩

theorem transfer_ptrans {s s' : St} {src dst n a : Nat} (hs : src ∈ s.users) (hd : dst ∈ s.users)
    (h : transfer s src dst n a = some s') : PTrans s s' := by
  obtain ⟨_, _, hsome, hle, _, rfl, rfl⟩ := transfer_some h
  exact ⟨0, 0, by simp, Or.inr (Or.inr (Or.inr ⟨src, dst, n, a, hs, hd, hsome, hle, rfl, rfl⟩))⟩

theorem step_ptrans {s s' : St} {op : Op} {o : Out} (h : step s op = some (s', o)) : PTrans s s' := by
  have hs := step_step h
  clear h
  cases hs with
  | enter _ hc h => exact enterCore_ptrans hc hc h
  | claim _ hc _ h => exact claimCore_ptrans hc h
  | exit _ hc h => exact exitFarm_ptrans hc h
  | merge _ hc h => exact mergeFarmTokens_ptrans hc h
  | claimBoosted _ _ h => exact claimBoostedRewards_ptrans h
  | updateEnergy _ _ h => obtain ⟨_, rfl⟩ := updateEnergyForUser_spec h; exact .of_eq rfl rfl
  | transfer _ _ ha hb h => exact transfer_ptrans ha hb h
  | settled _ _ h _ e => subst e; exact settle_ptrans h rfl rfl
  | startProduce _ _ _ _ e => subst e; exact .of_eq rfl rfl
  | setFactors _ _ _ _ _ _ e => subst e; exact .of_eq rfl rfl
  | collect _ _ _ _ e => subst e; split <;> exact .of_eq rfl rfl
  | advance _ _ _ _ e => subst e; exact .of_eq rfl rfl
  | config _ _ e _ => subst e; exact .of_eq rfl rfl

theorem init_posInv (kind : Kind) (sameTok : Bool) (dsc perBlock : Nat) (produce : Bool) (users : List Nat)
    (e0 : Nat) (hnd : users.Nodup) : PosInv (init kind sameTok dsc perBlock produce users e0) :=
  PosInv.ofPV ⟨hnd, fun u n h => absurd rfl h, fun _ _ => rfl,
    ((PV.totalHeld_eq _).trans (wsum_hold_zero fun _ _ => rfl)).symm,
    fun o => ((PV.ownedBy_eq _ o).trans (wsum_hold_zero fun _ _ => rfl)).symm⟩

theorem step_posInv {s s' : St} {op : Op} {o : Out} (hI : PosInv s) (h : step s op = some (s', o)) :
    PosInv s' := hI.trans (step_ptrans h)

theorem run_posInv (ops : List Op) {s : St} (hI : PosInv s) : PosInv (run s ops) :=
  run_induction ops hI step_posInv

theorem reachable_posInv (kind : Kind) (sameTok : Bool) (dsc perBlock : Nat) (produce : Bool)
    (users : List Nat) (e0 : Nat) (hnd : users.Nodup) (ops : List Op) :
    PosInv (run (init kind sameTok dsc perBlock produce users e0) ops) :=
  run_posInv ops (init_posInv kind sameTok dsc perBlock produce users e0 hnd)

end Mx.Farm
