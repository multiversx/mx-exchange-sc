/-
  The farm reward view `calculateRewardsForGivenPosition` (`calcRewards`) against `claimRewards` /
  `compoundRewards` / `exitFarm` (C20, farm clause).

  The operations take the payments out of the caller's account first (only `hold` changes), then do
  exactly what the view does: `generate` on a fresh cache, the base reward of (amount, token index)
  at the settled index, and the boosted claim of the user.  A settlement is a function of the
  state that does not look at `hold` (`genSt`), and `claimBoostedYields` does not read it either
  (`claimBoostedYields_hold`), so both see the same numbers.
-/
import MxModel.Lemmas.FarmEff

namespace Mx.Farm

open Mx.Weekly (Energy)

theorem claimBoostedYields_hold (s : St) (u : Nat) (h : Nat → Nat → Nat) :
    claimBoostedYields { s with hold := h } u =
      (claimBoostedYields s u).map (fun r => ({ r.1 with hold := h }, r.2)) := by
  unfold claimBoostedYields
  cases hc : s.b.cfg with
  | none =>
    simp only [updateEnergyAndProgress, St.week]
    cases Weekly.weekOf s.epoch s.firstWeekStart with
    | none => rfl
    | some W =>
      simp only [Option.bind_eq_bind, Option.bind_some]
      cases Weekly.updateEnergyAndProgress s.w u W (Energy.queried (s.energy u) s.epoch) with
      | none => rfl
      | some g => rfl
  | some cfg =>
    simp only [St.week]
    cases Weekly.weekOf s.epoch s.firstWeekStart with
    | none => rfl
    | some W =>
      simp only [Option.bind_eq_bind, Option.bind_some]
      cases cfg.update W none with
      | none => rfl
      | some mem =>
        simp only [Option.bind_some]
        cases Weekly.claimMulti (boostedRewards mem (s.userTotal u)) s.w s.b u W
            (Energy.queried (s.energy u) s.epoch) with
        | none => rfl
        | some x => rfl

/-- `{ s with hold := h' }` is the state after the payments were taken, the one the closed forms run
    the boosted claim on -/
theorem claim_pullback {s t : St} {h' : Nat → Nat → Nat} {orig boosted : Nat}
    (h : claimBoostedYields (genSt { s with hold := h' }) orig = some (t, boosted)) :
    ∃ s2, claimBoostedYields (genSt s) orig = some (s2, boosted) := by
  rw [show genSt { s with hold := h' } = { genSt s with hold := h' } from rfl, claimBoostedYields_hold,
    Option.map_eq_some_iff] at h
  obtain ⟨⟨s2, b'⟩, hb, he⟩ := h
  exact ⟨s2, (Prod.mk.inj he).2 ▸ hb⟩

/-- The conclusion is the right-hand side of `calcRewards_eq_some` for `(orig, a, att.rps)` with `(n, a)`
    the FIRST payment: the view's answer in the state the operation started in.  `exitFarm_reward` has
    the same shape. -/
theorem claimCore_reward {s s' : St} {caller orig n a : Nat} {rest : List (Nat × Nat)} {cmp : Bool}
    {o : Out} (h : claimCore s caller orig ((n, a) :: rest) cmp = some (s', o)) :
    ∃ att s1 c1 s2 boosted, s.attrs n = some att ∧ generate s (Cache.read s) = some (s1, c1) ∧
      claimBoostedYields s1 orig = some (s2, boosted) ∧
      o.base = baseReward s1.dsc c1.rps a att.rps ∧ o.boosted = boosted ∧
      o.rew = baseReward s1.dsc c1.rps a att.rps + boosted := by
  obtain ⟨_, _, att, _, _, _, boosted, _, _, _, _, _, x⟩ := claimCore_effect h
  obtain rfl := x.out
  obtain rfl := x.base
  obtain rfl := x.rew
  obtain ⟨rfl, rfl⟩ := Prod.mk.inj (Option.some.inj x.head)
  obtain ⟨s2, hb⟩ := claim_pullback x.claim
  exact ⟨att, _, _, s2, boosted, x.attr, generate_of_ok x.gen _, hb, rfl, rfl, rfl⟩

theorem exitFarm_reward {s s' : St} {caller : Nat} {opt : Option Nat} {n a : Nat} {o : Out}
    (h : exitFarm s caller opt n a = some (s', o)) :
    ∃ orig att s1 c1 s2 boosted, origCaller s caller opt = some orig ∧ s.attrs n = some att ∧
      generate s (Cache.read s) = some (s1, c1) ∧
      claimBoostedYields s1 orig = some (s2, boosted) ∧
      o.base = baseReward s1.dsc c1.rps a att.rps ∧ o.boosted = boosted ∧
      o.rew = baseReward s1.dsc c1.rps a att.rps + boosted := by
  obtain ⟨orig, att, _, _, boosted, _, _, _, _, x⟩ := exitFarm_effect h
  obtain rfl := x.out
  obtain rfl := x.base
  obtain ⟨s2, hb⟩ := claim_pullback x.claim
  exact ⟨orig, att, _, _, s2, boosted, x.orig, x.attr, generate_of_ok x.gen _, hb, rfl, rfl, rfl⟩

theorem calcRewards_eq_some {s : St} {user amount rpsTok q : Nat} :
    calcRewards s user amount rpsTok = some q ↔
      ∃ s1 c1 s2 boosted, generate s (Cache.read s) = some (s1, c1) ∧
        claimBoostedYields s1 user = some (s2, boosted) ∧
        q = baseReward s1.dsc c1.rps amount rpsTok + boosted := by
  refine ⟨calcRewards_some, ?_⟩
  rintro ⟨s1, c1, s2, boosted, hg, hb, rfl⟩
  simp only [calcRewards, hg, hb, Option.bind_eq_bind, Option.bind_some, Option.pure_def]

end Mx.Farm
