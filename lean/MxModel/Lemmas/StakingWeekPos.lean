/-
  The POSITION half of the week budget for the farm-staking model (the staking counterpart of
  Lemmas/FarmWeekPos.lean; same shared Rust module `farm-boosted-yields`, same repair of finding F6:
  the `None` branch of the boosted claim updates the progress too):

      for every completed week w:   farmSupplyForWeek(w) = 0
                                  ∨ Σ_{v : progress(v).week ≤ w} userTotalFarmPosition(v) ≤ farmSupplyForWeek(w)

  in every reachable state of Core/Staking.lean.  The invariant, its view (`Farm.WV`) and the generic
  view lemmas (`Inv.move`, `Inv.setTotal`, `Inv.record`, `Inv.advance`) are those of
  Lemmas/WeekView.lean, which the farm instantiates too; here every endpoint of the staking model is
  characterised on the view:

    * every boosted claim (`claimBoostedYields`, with or WITHOUT a boosted-yields config),
      `update_energy_and_progress`, `updateEnergyForUser`, `clear_user_energy` set the
      user's progress to the current week or clear it (`claimBoostedYields_move`, …);
    * `check_and_update_user_farm_position` only raises the total of the (already settled) claimer,
      `decrease_user_farm_position` only lowers a total (`Claims.ut`);
    * every endpoint that changes the farm-token supply records it as `farmSupplyForWeek(current)`
      (`Claims.fs`);
    * `Σ_{o ∈ L} userTotal(o) ≤ supply` for distinct `L` (C07's `PosInv`) when the week ends.
-/
import MxModel.Lemmas.StakingTrans
import MxModel.Lemmas.StakingBoosted
import MxModel.Lemmas.WeekView

namespace Mx.Staking

open Mx.Weekly

theorem usum_ownW_le (md : Nat → Option Meta) (X : Nat → Nat) (L : List Nat) (hnd : L.Nodup) (n : Nat) :
    usum L (fun o => ownW md o n * X n) ≤ posW md n * X n := by
  cases hp : posOf md n with
  | none =>
    have : usum L (fun o => ownW md o n * X n) = 0 :=
      usum_zero (fun o _ => by rw [ownW_none hp, Nat.zero_mul])
    rw [this]; exact Nat.zero_le _
  | some a =>
    rw [posW_some hp, Nat.one_mul]
    have e : usum L (fun o => ownW md o n * X n) =
        usum L (fun o => if some a.owner = some o then X n else 0) := by
      apply usum_congr
      intro o _
      rw [ownW_some hp]
      by_cases h : a.owner = o
      · simp [h]
      · have : ¬ (some a.owner = some o) := fun e => h (Option.some.inj e)
        simp [h, this]
    rw [e]
    exact usum_indicator_le L hnd (some a.owner) (X n)

theorem usum_wsum_ownW_le (hold : Nat → Nat → Nat) (accts : List Nat) (md : Nat → Option Meta)
    (L : List Nat) (hnd : L.Nodup) : ∀ (NL : List Nat),
    usum L (fun o => usum NL (fun n => ownW md o n * outst hold accts n)) ≤
      usum NL (fun n => posW md n * outst hold accts n) := by
  intro NL
  induction NL with
  | nil => simp only [usum_nil]; exact Nat.le_of_eq (usum_zero (fun _ _ => rfl))
  | cons n NL ih =>
    simp only [usum_cons]
    rw [usum_add]
    have := usum_ownW_le md (outst hold accts) L hnd n
    omega

/-- C07 consequence: the recorded totals of any set of distinct addresses fit into the farm-token supply -/
theorem PosInv.usum_total_le {s : St} (hP : PosInv s) {L : List Nat} (hnd : L.Nodup) :
    usum L s.userTotal ≤ s.supply := by
  have h : PosOK (pv s) := hP
  have hs : s.supply = wsum s.hold s.accts.dedup (s.nonce + 1) (posW s.md) := h.sup
  have ho : ∀ o, s.userTotal o = wsum s.hold s.accts.dedup (s.nonce + 1) (ownW s.md o) := h.own
  rw [hs, usum_congr (fun o _ => ho o)]
  exact usum_wsum_ownW_le s.hold s.accts.dedup s.md L hnd (List.range (s.nonce + 1))

def wv (s : St) : Farm.WV :=
  ⟨s.w.progress, s.w.users, s.userTotal, s.b.farmSupply, s.supply, s.epoch, s.firstWeek⟩

def WeekPos (s : St) : Prop := (wv s).Inv

theorem wv_week {s : St} (ht : s.firstWeek ≤ s.epoch) : (wv s).week = some s.week := by
  simp [Farm.WV.week, wv, weekOf, req, ht, St.week]

theorem WeekPos.of_wv {s s' : St} (hI : WeekPos s) (h : wv s' = wv s) : WeekPos s' := by
  unfold WeekPos; rw [h]; exact hI

/-- the boosted claim moves the user's progress to the current week with or WITHOUT a config -/
theorem claimBoostedYields_move {s : St} {u f : Nat} {r : Weekly.St × B × Nat}
    (h : claimBoostedYields s u f = some r) :
    ∃ o, (∀ p, o = some p → p.week = s.week) ∧ r.1.progress = upd s.w.progress u o ∧
      r.1.users = usersAfter s.w.users u o ∧ r.2.1.farmSupply = s.b.farmSupply := by
  have st := (claimBoostedYields_step h).move
  exact ⟨_, newOf_week, st.1, st.2, (claimBoostedYields_cells h).2.2.1⟩

open Mx.Farm (WV)

/-- An endpoint with claimer `u` calls the weekly module for `u` only (the boosted claim, then
    possibly `update_energy_and_progress` or `clear_user_energy`): `u` ends settled in the current
    week, so its total may be rewritten freely.  Nobody else's total grows, and a changed farm-token
    supply is recorded for the current week. -/
theorem Claims.weekPos {s s' t : St} {u : Nat} {r : Weekly.St × B × Nat} (k : Claims s s' u t r)
    (hI : WeekPos s) : WeekPos s' := by
  have hW := wv_week hI.time
  obtain ⟨o1, ho1, hp1, hu1, hf⟩ := claimBoostedYields_move k.claim
  obtain ⟨ew, ek, _, _, _, ef⟩ := k.entry_frame
  rw [ek] at ho1
  rw [ew] at hp1 hu1
  rw [ef] at hf
  have le : ∀ {o : Option Weekly.ClaimProgress}, (∀ p, o = some p → p.week = s.week) →
      ∀ p, o = some p → s.week ≤ p.week := fun h p hp => Nat.le_of_eq (h p hp).symm
  have i1 := hI.move hW u (le ho1)
  -- the closing weekly call, if any, settles `u` once more
  have i2 : ∃ o, (WV.mk s'.w.progress s'.w.users s.userTotal s.b.farmSupply s.supply s.epoch s.firstWeek).Inv ∧
      s'.w.progress u = o ∧ ∀ p, o = some p → s.week ≤ p.week := by
    rcases k.w with e | ⟨cur, hw⟩
    · rw [e, hp1, hu1]
      exact ⟨o1, i1, upd_same _ _ _, le ho1⟩
    · obtain ⟨hp2, hu2⟩ := (Weekly.updateEnergyAndProgress_step hw).move
      rw [hp2, hu2, hp1, hu1]
      exact ⟨_, i1.move hW u (le newOf_week), upd_same _ _ _, le newOf_week⟩
  obtain ⟨o, i2, hpu, ho⟩ := i2
  have i3 := i2.setTotal (t := s'.userTotal) hW fun x => by
    by_cases hx : x = u
    · subst hx
      exact Or.inr fun p hp => ho p (hpu.symm.trans hp)
    · exact Or.inl (k.ut x hx)
  show (wv s').Inv
  unfold wv
  rcases k.fs with e | ⟨e, hsup⟩
  · rw [e, hf, k.epoch, k.firstWeek]
    exact i3.record hW s'.supply
  · rw [e, hf, hsup, k.epoch, k.firstWeek]
    exact i3

theorem updateEnergy_weekPos {s : St} {u : Nat} {g : Weekly.St} (hI : WeekPos s)
    (hg : updateEnergyAndProgress s.w u s.week (Energy.queried (s.energy u) s.epoch) = some g) :
    WeekPos { s with w := g } := by
  have hW := wv_week hI.time
  obtain ⟨hp, hu⟩ := (Weekly.updateEnergyAndProgress_step hg).move
  show WV.Inv ⟨g.progress, g.users, s.userTotal, s.b.farmSupply, s.supply, s.epoch, s.firstWeek⟩
  rw [hp, hu]
  exact hI.move hW u fun p hp => Nat.le_of_eq (newOf_week p hp).symm

theorem WeekPos.of_wb {s₀ s' : St} (e : wb s' = wb s₀) (hI : WeekPos s₀) : WeekPos s' :=
  hI.of_wv (congrArg (fun v : WB => (⟨v.w.progress, v.w.users, v.ut, v.b.farmSupply, v.supply, v.epoch,
    v.firstWeek⟩ : Farm.WV)) e)

/-- `PosInv` (C07) is used when time passes: the users' totals sum to at most the supply
    (`PosInv.usum_total_le`) -/
theorem step_weekPos {s s' : St} {op : Op} {o : Out} (hP : PosInv s) (hI : WeekPos s)
    (h : step s op = some (s', o)) : WeekPos s' := by
  cases step_kind h with
  | claim _ k => exact k.weekPos hI
  | same _ e | settle _ e | factors _ _ e | sweep _ _ e => exact .of_wb e hI
  | energy _ hg e => exact .of_wb e (updateEnergy_weekPos hI hg)
  | tick _ d e =>
    exact .of_wb e (WV.Inv.advance hI (hP.usum_total_le hI.nodup) (Nat.le_add_right _ d))

theorem init_weekPos (epoch block dsc maxApr minUnbond perBlock : Nat) (accts wl : List Nat) :
    WeekPos (init epoch block dsc maxApr minUnbond perBlock accts wl) :=
  ⟨Nat.le_refl _, List.nodup_nil, fun _ _ _ _ => Or.inl rfl, fun _ _ => Or.inl rfl, fun _ _ _ _ => rfl⟩

theorem run_weekPos (ops : List Op) {s : St} (hP : PosInv s) (hI : WeekPos s) : WeekPos (run s ops) :=
  (run_induction (P := fun t => PosInv t ∧ WeekPos t)
    (fun hI h => ⟨step_posInv hI.1 h, step_weekPos hI.1 hI.2 h⟩) ops ⟨hP, hI⟩).2

/-- no hypothesis on the account list: `PosInv` counts every account once -/
theorem reachable_weekPos (epoch block dsc maxApr minUnbond perBlock : Nat) (accts wl : List Nat)
    (ops : List Op) :
    WeekPos (run (init epoch block dsc maxApr minUnbond perBlock accts wl) ops) :=
  run_weekPos ops (posInv_init epoch block dsc maxApr minUnbond perBlock accts wl)
    (init_weekPos epoch block dsc maxApr minUnbond perBlock accts wl)

end Mx.Staking
