/-
  Sums of a function over a list, `(l.map f).sum`, for any entry type: what replacing one entry
  does to them, that an entry is at most the sum, when the sum vanishes, and that a positive sum
  has a positive summand.  No model is imported.
-/

namespace Mx

theorem sum_map_set {α : Type} (f : α → Nat) (l : List α) (i : Nat) (a b : α)
    (h : l[i]? = some a) : ((l.set i b).map f).sum + f a = (l.map f).sum + f b := by
  induction l generalizing i with
  | nil => simp at h
  | cons c l ih =>
    cases i with
    | zero =>
      simp only [List.getElem?_cons_zero, Option.some.injEq] at h
      subst h
      simp only [List.set_cons_zero, List.map_cons, List.sum_cons]; omega
    | succ i =>
      simp only [List.getElem?_cons_succ] at h
      have := ih i h
      simp only [List.set_cons_succ, List.map_cons, List.sum_cons]; omega

/-- the summand is `g` on the entries of one key `c` (the total of a token table per nonce) -/
theorem sum_map_set_keyed {α : Type} (c : α → Prop) [DecidablePred c] (g : α → Nat) (l : List α)
    (i : Nat) (a b : α) (h : l[i]? = some a) (hc : c b ↔ c a) (d : Nat) (hd : g b + d = g a) :
    ((l.set i b).map fun r => if c r then g r else 0).sum + (if c a then d else 0) =
      (l.map fun r => if c r then g r else 0).sum := by
  have := sum_map_set (fun r => if c r then g r else 0) l i a b h
  by_cases hca : c a
  · simp only [hc, hca, if_true] at this ⊢; omega
  · simp only [hc, hca, if_false] at this ⊢; omega

theorem le_sum_map_of_getElem? {α : Type} (f : α → Nat) (l : List α) (i : Nat) (a : α)
    (h : l[i]? = some a) : f a ≤ (l.map f).sum := by
  induction l generalizing i with
  | nil => simp at h
  | cons c l ih =>
    cases i with
    | zero =>
      simp only [List.getElem?_cons_zero, Option.some.injEq] at h
      subst h; simp only [List.map_cons, List.sum_cons]; omega
    | succ i =>
      simp only [List.getElem?_cons_succ] at h
      have := ih i h
      simp only [List.map_cons, List.sum_cons]; omega

theorem sum_map_zero {α : Type} (f : α → Nat) (l : List α) (h : ∀ a ∈ l, f a = 0) :
    (l.map f).sum = 0 := by
  induction l with
  | nil => rfl
  | cons a l ih =>
    rw [List.map_cons, List.sum_cons, h a (List.mem_cons_self ..),
      ih (fun b hb => h b (List.mem_cons_of_mem _ hb))]

theorem exists_of_sum_map_pos {α : Type} {f : α → Nat} {l : List α} (h : 0 < (l.map f).sum) :
    ∃ a ∈ l, 0 < f a := by
  refine Classical.byContradiction fun hno => ?_
  have := sum_map_zero f l fun a ha => Nat.eq_zero_of_not_pos fun hp => hno ⟨a, ha, hp⟩
  omega

theorem sum_window (d : Nat → Nat) (a n b m : Nat) (hz : ∀ w, (w < a ∨ a + n ≤ w) → d w = 0)
    (h1 : b ≤ a) (h2 : a + n ≤ b + m) :
    ((List.range m).map fun i => d (b + i)).sum = ((List.range n).map fun i => d (a + i)).sum := by
  obtain ⟨k, rfl⟩ := Nat.exists_eq_add_of_le h1
  obtain ⟨t, rfl⟩ : ∃ t, m = k + n + t := ⟨b + m - (b + k + n), by omega⟩
  rw [List.range_add, List.range_add, List.map_append, List.map_append, List.sum_append,
    List.sum_append, List.map_map, List.map_map]
  rw [sum_map_zero _ (List.range k), sum_map_zero _ (List.range t)]
  · simp only [Function.comp_def, Nat.add_assoc, Nat.zero_add, Nat.add_zero]
  · intro i _
    exact hz _ (Or.inr (by simp only; omega))
  · intro i hi
    exact hz _ (Or.inl (by have := List.mem_range.mp hi; omega))

end Mx
