/-
  Aggregates of the proxy-dex model (reserves recorded in the wrapped tokens, per key) and
  characterisation lemmas of the building blocks `takeW`, `takeF0`, `settle`, `takeF`, `newW`,
  `newF`: what a successful call implies and how every aggregate moves.
-/
import MxModel.Lemmas.OptionDo
import MxModel.Lemmas.ProxyDexBasic

namespace Mx.ProxyDex

/-- locked tokens of nonce `κ` reserved by a wrapped LP record -/
def remAt (κ : Nat) (r : WLp) : Nat := if r.k = κ then r.rem else 0
/-- locked tokens of nonce `κ` reserved by a wrapped farm record (locked-token farms) -/
def remPLk (κ : Nat) (q : WFarm) : Nat := if q.kind = .locked ∧ q.pn = κ then q.remP else 0
/-- wrapped LP tokens of nonce `w` reserved by a wrapped farm record (LP farms) -/
def remPW (w : Nat) (q : WFarm) : Nat := if q.kind = .wlp ∧ q.pn = w then q.remP else 0
/-- farm tokens `(g, φ)` reserved by a wrapped farm record -/
def remFAt (g φ : Nat) (q : WFarm) : Nat := if q.farm = g ∧ q.fn = φ then q.remF else 0

/-- all locked tokens of nonce `κ` reserved by outstanding wrapped tokens -/
def R (s : St) (κ : Nat) : Nat := sumOf (remAt κ) s.wl + sumOf (remPLk κ) s.wf
/-- all farm tokens of nonce `φ` of farm `g` reserved by outstanding wrapped farm tokens
    (compared with the proxy's balance `s.hf g φ` in `Backed`) -/
def F (s : St) (g φ : Nat) : Nat := sumOf (remFAt g φ) s.wf
/-- all wrapped LP tokens of nonce `w` reserved by outstanding wrapped farm tokens (compared with
    `heldOf s w` in `Backed`) -/
def H (s : St) (w : Nat) : Nat := sumOf (remPW w) s.wf
/-- wrapped LP tokens in user wallets (each is a claim on as many LP tokens) -/
def C (s : St) : Nat := sumOf (·.circ) s.wl
/-- wrapped LP tokens of nonce `w` the proxy itself holds (ghost field `held`; 0 for a nonce that
    does not exist) -/
def heldOf (s : St) (w : Nat) : Nat :=
  match s.wl[w]? with
  | some r => r.held
  | none => 0

/-- per-record soundness: the reserve covers the outstanding amount pro rata -/
def WOk (r : WLp) : Prop := r.locked * (r.circ + r.held) ≤ r.rem * r.total
/-- the same for a wrapped farm record: one farm token per unit outstanding, and the
    proxy-farming reserve covers the outstanding amount pro rata (`pa` per `fa`) -/
def FOk (q : WFarm) : Prop := q.circ ≤ q.remF ∧ q.pa * q.circ ≤ q.remP * q.fa
def Pt (s : St) : Prop := (∀ r ∈ s.wl, WOk r) ∧ (∀ q ∈ s.wf, FOk q)

theorem heldOf_set (s : St) (w v : Nat) (r r' : WLp) (h : s.wl[w]? = some r) :
    heldOf (setW s w r') v = if v = w then r'.held else heldOf s v := by
  unfold heldOf setW
  have hw : w < s.wl.length := by
    rcases List.getElem?_eq_some_iff.mp h with ⟨hw, _⟩; exact hw
  by_cases hv : v = w
  · subst hv; simp [hw]
  · simp [hv, List.getElem?_set_ne (Ne.symm hv)]


theorem setW_delta (s : St) (w : Nat) (rw rw' : WLp) (h : s.wl[w]? = some rw) (hk : rw'.k = rw.k) :
    (∀ κ, R (setW s w rw') κ + (if rw.k = κ then rw.rem else 0)
        = R s κ + (if rw.k = κ then rw'.rem else 0)) ∧
    (∀ v, heldOf (setW s w rw') v = if v = w then rw'.held else heldOf s v) ∧
    (WOk rw' → Pt s → Pt (setW s w rw')) := by
  refine ⟨?_, fun v => heldOf_set s w v rw rw' h, ?_⟩
  · intro κ
    have := sumOf_set (remAt κ) s.wl w rw rw' h
    simp only [R, setW]
    by_cases hκ : rw.k = κ
    · simp only [remAt, hk, hκ, if_true] at this ⊢; omega
    · simp only [remAt, hk, hκ, if_false] at this ⊢; omega
  · rintro hok ⟨hw, hf⟩
    refine ⟨?_, hf⟩
    intro r' hr'
    rcases mem_set_cases hr' with rfl | hm
    · exact hok
    · exact hw r' hm

theorem heldOf_append_new (s : St) (r : WLp) (v : Nat) :
    heldOf { s with wl := s.wl ++ [r] } v = if v = s.wl.length then r.held else heldOf s v := by
  unfold heldOf
  by_cases hv : v = s.wl.length
  · subst hv; simp
  · simp only [hv, if_false]
    by_cases hlt : v < s.wl.length
    · simp [List.getElem?_append_left hlt]
    · have hge : s.wl.length < v := by omega
      have h1 : (s.wl ++ [r])[v]? = none := by
        apply List.getElem?_eq_none; simp; omega
      have h2 : s.wl[v]? = none := by
        apply List.getElem?_eq_none; omega
      simp [h1, h2]

theorem newW_delta (s : St) (total k locked : Nat) (u : Bool) :
    let s' := (newW s total k locked u).1
    (∀ κ, R s' κ = R s κ + (if k = κ then locked else 0)) ∧
    (∀ κ, s'.lk κ = s.lk κ + (if k = κ then locked else 0)) ∧
    (∀ v, heldOf s' v = if v = s.wl.length then (if u then 0 else total) else heldOf s v) ∧
    s'.wf = s.wf ∧ s'.hf = s.hf ∧ (Pt s → Pt s') := by
  refine ⟨?_, ?_, ?_, rfl, rfl, ?_⟩
  · intro κ
    by_cases hk : k = κ <;> simp [newW, R, remAt, hk]
    omega
  · intro κ
    by_cases hk : k = κ
    · subst hk; simp [newW]
    · simp [newW, hk, Ne.symm hk]
  · intro v
    have := heldOf_append_new { s with lk := s.lk.add k locked }
      ⟨total, k, locked, if u then total else 0, if u then 0 else total, 0, locked⟩ v
    simp only [newW] at this ⊢
    rw [this]
    by_cases hv : v = s.wl.length
    · simp [hv]
    · simp only [hv, if_false]; rfl
  · rintro ⟨hw, hf⟩
    refine ⟨?_, hf⟩
    intro r hr
    simp only [newW, List.mem_append, List.mem_singleton] at hr
    rcases hr with hr | rfl
    · exact hw r hr
    · unfold WOk; cases u <;> simp

/-- the farm tokens arrive with the record (`F` and `hf` rise together); the proxy-farming reserve
    `pa` does not: `R` / `H` rise alone, and the caller has to have provided for it -/
theorem newF_delta (s : St) (farm fn fa : Nat) (kind : Kind) (pn pa : Nat) :
    let s' := (newF s farm fn fa kind pn pa).1
    (∀ κ, R s' κ = R s κ + (if kind = .locked ∧ pn = κ then pa else 0)) ∧
    (∀ v, H s' v = H s v + (if kind = .wlp ∧ pn = v then pa else 0)) ∧
    (∀ g φ, F s' g φ = F s g φ + (if farm = g ∧ fn = φ then fa else 0)) ∧
    (∀ g φ, s'.hf g φ = s.hf g φ + (if farm = g ∧ fn = φ then fa else 0)) ∧
    s'.wl = s.wl ∧ s'.lk = s.lk ∧ (Pt s → Pt s') := by
  refine ⟨?_, ?_, ?_, ?_, rfl, rfl, ?_⟩
  · intro κ
    by_cases hk : kind = .locked ∧ pn = κ <;> simp [newF, R, remPLk, hk]
    omega
  · intro v
    by_cases hk : kind = .wlp ∧ pn = v <;> simp [newF, H, remPW, hk]
  · intro g φ
    by_cases hk : farm = g ∧ fn = φ <;> simp [newF, F, remFAt, hk]
  · intro g φ
    by_cases hg : g = farm
    · subst hg
      by_cases hf : φ = fn
      · subst hf; simp [newF]
      · simp [newF, hf, Ne.symm hf]
    · simp [newF, hg, Ne.symm hg]
  · rintro ⟨hw, hf⟩
    refine ⟨hw, ?_⟩
    intro q hq
    simp only [newF, List.mem_append, List.mem_singleton] at hq
    rcases hq with hq | rfl
    · exact hf q hq
    · exact ⟨Nat.le_refl _, Nat.le_refl _⟩

theorem takeW_spec {s s' : St} {w x p : Nat} {r : WLp} {o : Bool}
    (h : takeW s w x o = some (s', r, p)) :
    s.wl[w]? = some r ∧ 0 < x ∧ x ≤ r.circ ∧ part r.locked r.total x = some p ∧ p ≤ r.rem ∧
    p ≤ s.lk r.k ∧
    s' = { setW s w ⟨r.total, r.k, r.locked, r.circ - x, r.held,
                     if o then r.orph + x else r.orph, r.rem - p⟩ with
           lk := fun i => if i = r.k then s.lk i - p else s.lk i } := by
  unfold takeW at h
  obtain ⟨r0, hr, h⟩ := peel h
  obtain ⟨hx, h⟩ := peel_req h
  obtain ⟨hc, h⟩ := peel_sub h
  obtain ⟨p0, hp, h⟩ := peel h
  obtain ⟨hrem, h⟩ := peel_sub h
  obtain ⟨lk, hlk, h⟩ := peel h
  obtain ⟨hle, rfl⟩ := Bag.sub?_eq_some.mp hlk
  cases h
  exact ⟨hr, hx, hc, hp, hrem, hle, rfl⟩

theorem takeW_delta {s s' : St} {w x p : Nat} {r : WLp} {o : Bool}
    (h : takeW s w x o = some (s', r, p)) :
    (∀ κ, R s' κ + (if r.k = κ then p else 0) = R s κ) ∧
    (∀ κ, s'.lk κ + (if r.k = κ then p else 0) = s.lk κ) ∧
    (∀ g φ, F s' g φ = F s g φ) ∧ (∀ v, H s' v = H s v) ∧ s'.hf = s.hf ∧
    (∀ v, heldOf s' v = heldOf s v) ∧ (Pt s → Pt s') := by
  obtain ⟨hr, hx, hc, hp, hrem, hlk, rfl⟩ := takeW_spec h
  obtain ⟨hR, hheld, hpt⟩ := setW_delta s w r
    ⟨r.total, r.k, r.locked, r.circ - x, r.held, if o then r.orph + x else r.orph, r.rem - p⟩ hr rfl
  refine ⟨fun κ => ?_, fun κ => ?_, fun _ _ => rfl, fun _ => rfl, rfl, fun v => ?_, fun hP => ?_⟩
  · have := hR κ
    show R (setW s w _) κ + _ = R s κ
    by_cases hk : r.k = κ
    · rw [if_pos hk, if_pos hk] at this
      have : R (setW s w _) κ + r.rem = R s κ + (r.rem - p) := this
      rw [if_pos hk]; omega
    · rw [if_neg hk, if_neg hk] at this; rw [if_neg hk]; exact this
  · show (if κ = r.k then s.lk κ - p else s.lk κ) + _ = s.lk κ
    by_cases hk : r.k = κ
    · subst hk; rw [if_pos rfl, if_pos rfl]; omega
    · rw [if_neg hk, if_neg (Ne.symm hk)]; rfl
  · show heldOf (setW s w _) v = heldOf s v
    rw [hheld]
    split
    · rename_i hv; subst hv; unfold heldOf; rw [hr]
    · rfl
  · refine hpt ?_ hP
    have h0 : WOk r := hP.1 r (List.mem_of_getElem? hr)
    unfold WOk at *
    have := cover_sub h0 (part_mul_le hp) (Nat.le_trans hc (Nat.le_add_right _ _)) hrem
    show r.locked * (r.circ - x + r.held) ≤ (r.rem - p) * r.total
    rwa [show r.circ - x + r.held = r.circ + r.held - x by omega]

theorem takeF0_spec {s s1 : St} {f x p : Nat} {r : WFarm} (h : takeF0 s f x = some (s1, r, p)) :
    s.wf[f]? = some r ∧ 0 < x ∧ x ≤ r.circ ∧ part r.pa r.fa x = some p ∧ x ≤ r.remF ∧
    p ≤ r.remP ∧ x ≤ s.hf r.farm r.fn ∧
    s1 = { setF s f { r with circ := r.circ - x, remF := r.remF - x, remP := r.remP - p } with
           hf := fun g => if g = r.farm then (fun i => if i = r.fn then s.hf r.farm i - x
                                                      else s.hf r.farm i) else s.hf g } := by
  unfold takeF0 at h
  obtain ⟨r0, hr, h⟩ := peel h
  obtain ⟨hx, h⟩ := peel_req h
  obtain ⟨hc, h⟩ := peel_sub h
  obtain ⟨p0, hp, h⟩ := peel h
  obtain ⟨hrf, h⟩ := peel_sub h
  obtain ⟨hrp, h⟩ := peel_sub h
  obtain ⟨hfb, hh, h⟩ := peel h
  obtain ⟨hle, rfl⟩ := Bag.sub?_eq_some.mp hh
  cases h
  exact ⟨hr, hx, hc, hp, hrf, hrp, hle, rfl⟩

theorem takeF0_delta {s s1 : St} {f x p : Nat} {r : WFarm} (h : takeF0 s f x = some (s1, r, p)) :
    (∀ κ, R s1 κ + (if r.kind = .locked ∧ r.pn = κ then p else 0) = R s κ) ∧
    (∀ v, H s1 v + (if r.kind = .wlp ∧ r.pn = v then p else 0) = H s v) ∧
    (∀ g φ, F s1 g φ + (if r.farm = g ∧ r.fn = φ then x else 0) = F s g φ) ∧
    (∀ g φ, s1.hf g φ + (if r.farm = g ∧ r.fn = φ then x else 0) = s.hf g φ) ∧
    s1.wl = s.wl ∧ s1.lk = s.lk ∧ (Pt s → Pt s1) := by
  obtain ⟨hr, hx, hc, hp, hrf, hrp, hh, rfl⟩ := takeF0_spec h
  let r' : WFarm := { r with circ := r.circ - x, remF := r.remF - x, remP := r.remP - p }
  refine ⟨fun κ => ?_, fun v => ?_, fun g φ => ?_, fun g φ => ?_, rfl, rfl, fun hP => ?_⟩
  · have := sumOf_set_keyed (fun q => q.kind = .locked ∧ q.pn = κ) (·.remP) s.wf f r r' hr Iff.rfl
      p (Nat.sub_add_cancel hrp)
    exact (Nat.add_assoc ..).trans (congrArg (sumOf (remAt κ) s.wl + ·) this)
  · -- stated first and matched with the goal afterwards: unfolding `H` during unification is slow
    have := sumOf_set_keyed (fun q => q.kind = .wlp ∧ q.pn = v) (·.remP) s.wf f r r' hr Iff.rfl
      p (Nat.sub_add_cancel hrp)
    exact this
  · have := sumOf_set_keyed (fun q => q.farm = g ∧ q.fn = φ) (·.remF) s.wf f r r' hr Iff.rfl
      x (Nat.sub_add_cancel hrf)
    exact this
  · show (if g = r.farm then (fun i => if i = r.fn then s.hf r.farm i - x else s.hf r.farm i)
      else s.hf g) φ + _ = s.hf g φ
    by_cases hg : g = r.farm
    · subst hg
      by_cases hf : φ = r.fn
      · subst hf; simp; omega
      · simp [hf, Ne.symm hf]
    · simp [hg, Ne.symm hg]
  · refine ⟨hP.1, fun q hq => ?_⟩
    rcases mem_set_cases hq with rfl | hm
    · obtain ⟨h1, h2⟩ := hP.2 r (List.mem_of_getElem? hr)
      exact ⟨Nat.sub_le_sub_right h1 x, cover_sub h2 (part_mul_le hp) hc hrp⟩
    · exact hP.2 q hm

theorem settle_keep {s s' : St} {r : WFarm} {p k q : Nat}
    (h : settle s r p .keep = some (s', k, q)) : s' = s ∧ k = 0 ∧ q = 0 := by
  simp only [settle, Option.some.injEq, Prod.mk.injEq] at h
  obtain ⟨rfl, rfl, rfl⟩ := h; exact ⟨rfl, rfl, rfl⟩

theorem settle_locked {s s' : St} {r : WFarm} {p k q : Nat} {mode : Mode} (hm : mode ≠ .keep)
    (hk : r.kind = .locked) (h : settle s r p mode = some (s', k, q)) :
    p ≤ s.lk r.pn ∧ k = r.pn ∧ q = p ∧
    s' = { s with lk := fun i => if i = r.pn then s.lk i - p else s.lk i } := by
  cases mode with
  | keep => exact absurd rfl hm
  | out | dissolve _ =>
    unfold settle at h
    rw [hk] at h
    obtain ⟨lk, hlk, h⟩ := peel h
    obtain ⟨hl, rfl⟩ := Bag.sub?_eq_some.mp hlk
    cases h
    exact ⟨hl, rfl, rfl, rfl⟩

theorem settle_wlp_out {s s' : St} {r : WFarm} {p k q : Nat} (hk : r.kind = .wlp)
    (h : settle s r p .out = some (s', k, q)) :
    ∃ rw, s.wl[r.pn]? = some rw ∧ p ≤ rw.held ∧ k = 0 ∧ q = 0 ∧
      s' = setW s r.pn { rw with held := rw.held - p, circ := rw.circ + p } := by
  unfold settle at h
  rw [hk] at h
  obtain ⟨rw, hrw, h⟩ := peel h
  obtain ⟨hle, h⟩ := peel_sub h
  cases h
  exact ⟨rw, hrw, hle, rfl, rfl, rfl⟩

theorem settle_wlp_dissolve {s s' : St} {r : WFarm} {p k q : Nat} {o : Bool} (hk : r.kind = .wlp)
    (h : settle s r p (.dissolve o) = some (s', k, q)) :
    ∃ rw, s.wl[r.pn]? = some rw ∧ p ≤ rw.held ∧ part rw.locked rw.total p = some q ∧
      q ≤ rw.rem ∧ q ≤ s.lk rw.k ∧ k = rw.k ∧
      s' = { setW s r.pn { rw with held := rw.held - p, rem := rw.rem - q,
                                    orph := if o then rw.orph + p else rw.orph } with
             lk := fun i => if i = rw.k then s.lk i - q else s.lk i } := by
  unfold settle at h
  rw [hk] at h
  obtain ⟨rw, hrw, h⟩ := peel h
  obtain ⟨hle, h⟩ := peel_sub h
  obtain ⟨q0, hq, h⟩ := peel h
  obtain ⟨hrem, h⟩ := peel_sub h
  obtain ⟨lk, hlk, h⟩ := peel h
  obtain ⟨hlq, rfl⟩ := Bag.sub?_eq_some.mp hlk
  cases h
  exact ⟨rw, hrw, hle, hq, hrem, hlq, rfl, rfl⟩

theorem takeF_spec {s s' : St} {f x : Nat} {mode : Mode} {t : Taken}
    (h : takeF s f x mode = some (s', t)) :
    ∃ s1, takeF0 s f x = some (s1, t.r, t.p) ∧ settle s1 t.r t.p mode = some (s', t.k, t.q) := by
  unfold takeF at h
  obtain ⟨⟨s1, r, p⟩, h0, h⟩ := peel h
  obtain ⟨⟨s2, k, q⟩, hs, h⟩ := peel h
  cases h
  exact ⟨s1, h0, hs⟩

end Mx.ProxyDex
