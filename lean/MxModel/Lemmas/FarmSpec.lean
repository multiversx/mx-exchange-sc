/-
  Characterisation lemmas of the farm model (Core/Farm.lean): a successful call of a building
  block or of a short endpoint, turned into the fields of the state it can touch at all, the values
  it writes to them and the guards it has passed.  Everything downstream starts from these instead of
  unfolding the model.  Three helpers are also restated as functions of what they read
  (`genSt`/`genCache`/`GenOk` for `generate`, `takeHold` and `checkTotals` for the two list walks):
  the closed forms of the long endpoints in Lemmas/FarmEff.lean are written with them.  The classes
  of a successful `step` are in Lemmas/FarmOps.lean.
-/
import MxModel.Lemmas.OptionDo
import MxModel.Core.Farm
import Mathlib.Tactic.Linarith

namespace Mx.Farm

open Mx.Weekly (upd Energy)

theorem mergeWith_spec {a b m : Attr} (h : a.mergeWith b = some m) :
    a.amt + b.amt ≠ 0 ∧ m.amt = a.amt + b.amt ∧ m.comp = a.comp + b.comp ∧
    m.epoch = max a.epoch b.epoch ∧ m.owner = a.owner ∧
    m.rps = weightedAvgRoundUp a.rps a.amt b.rps b.amt := by
  simp only [Attr.mergeWith, Option.bind_eq_bind, Option.bind_eq_some_iff, req_eq_some,
    Option.pure_def, Option.some.injEq] at h
  obtain ⟨_, hne, rfl⟩ := h
  exact ⟨hne, rfl, rfl, rfl, rfl, rfl⟩

theorem intoPart_spec {a p : Attr} {x : Nat} (h : a.intoPart x = some p) :
    p.amt = x ∧ p.rps = a.rps ∧ p.epoch = a.epoch ∧ p.owner = a.owner ∧
    p.comp = (if x = a.amt then a.comp else a.comp * x / a.amt) ∧ (x ≠ a.amt → a.amt ≠ 0) := by
  unfold Attr.intoPart at h
  by_cases hx : x = a.amt
  · rw [if_pos hx, Option.some.injEq] at h
    subst h
    exact ⟨hx.symm, rfl, rfl, rfl, by rw [if_pos hx], fun hne => absurd hx hne⟩
  · rw [if_neg hx] at h
    simp only [Option.bind_eq_bind, Option.bind_eq_some_iff, req_eq_some, Option.pure_def,
      Option.some.injEq] at h
    obtain ⟨_, hne, rfl⟩ := h
    exact ⟨rfl, rfl, rfl, rfl, by rw [if_neg hx], fun _ => hne⟩

/-- `takePayments` on the two fields it reads -/
def takeHold (attrs : Nat → Option Attr) (hold : Nat → Nat → Nat) (c : Nat) :
    List (Nat × Nat) → Option (Nat → Nat → Nat)
  | [] => some hold
  | (n, a) :: rest => do
      req (a ≠ 0)
      req ((attrs n).isSome)
      let h ← sub? (hold c n) a
      takeHold attrs (upd hold c (upd (hold c) n h)) c rest

/-- `checkAndUpdate` on the two fields it reads -/
def checkTotals (attrs : Nat → Option Attr) (tot : Nat → Nat) (user : Nat) :
    List (Nat × Nat) → Option (Nat → Nat)
  | [] => some tot
  | (n, a) :: rest => do
      let att ← attrs n
      checkTotals attrs
        (if att.owner ≠ user then
          upd (upd tot att.owner (tot att.owner - a)) user (upd tot att.owner (tot att.owner - a) user + a)
         else tot) user rest

theorem takePayments_eq : ∀ (l : List (Nat × Nat)) (s : St) (c : Nat),
    takePayments s c l = (takeHold s.attrs s.hold c l).map fun h => { s with hold := h }
  | [], _, _ => rfl
  | (n, a) :: rest, s, c => by
    simp only [takePayments, takeHold, Option.bind_eq_bind]
    cases req (a ≠ 0) with
    | none => rfl
    | some _ =>
      cases req ((s.attrs n).isSome) with
      | none => rfl
      | some _ =>
        cases sub? (s.hold c n) a with
        | none => rfl
        | some h => exact takePayments_eq rest _ c

theorem checkAndUpdate_eq : ∀ (l : List (Nat × Nat)) (s : St) (u : Nat),
    checkAndUpdate s u l = (checkTotals s.attrs s.userTotal u l).map fun t => { s with userTotal := t }
  | [], _, _ => rfl
  | (n, a) :: rest, s, u => by
    simp only [checkAndUpdate, checkTotals, Option.bind_eq_bind]
    cases s.attrs n with
    | none => rfl
    | some att =>
      simp only [Option.bind_some]
      by_cases ho : att.owner ≠ u
      · simp only [if_pos ho, increaseUser, decreaseOwner]
        exact checkAndUpdate_eq rest _ u
      · simp only [if_neg ho]
        exact checkAndUpdate_eq rest _ u

theorem takePayments_some {l : List (Nat × Nat)} {s s' : St} {c : Nat} (h : takePayments s c l = some s') :
    ∃ h', takeHold s.attrs s.hold c l = some h' ∧ s' = { s with hold := h' } := by
  rw [takePayments_eq, Option.map_eq_some_iff] at h
  obtain ⟨h', e, rfl⟩ := h
  exact ⟨h', e, rfl⟩

theorem checkAndUpdate_some {l : List (Nat × Nat)} {s s' : St} {u : Nat}
    (h : checkAndUpdate s u l = some s') :
    ∃ t, checkTotals s.attrs s.userTotal u l = some t ∧ s' = { s with userTotal := t } := by
  rw [checkAndUpdate_eq, Option.map_eq_some_iff] at h
  obtain ⟨t, e, rfl⟩ := h
  exact ⟨t, e, rfl⟩

theorem takePayments_of_takeHold {l : List (Nat × Nat)} {s : St} {c : Nat} {h' : Nat → Nat → Nat}
    (h : takeHold s.attrs s.hold c l = some h') : takePayments s c l = some { s with hold := h' } := by
  rw [takePayments_eq, h]; rfl

theorem checkAndUpdate_of_checkTotals {l : List (Nat × Nat)} {s : St} {u : Nat} {t : Nat → Nat}
    (h : checkTotals s.attrs s.userTotal u l = some t) :
    checkAndUpdate s u l = some { s with userTotal := t } := by
  rw [checkAndUpdate_eq, h]; rfl

theorem takePayments_spec : ∀ (l : List (Nat × Nat)) {s s' : St} {c : Nat},
    takePayments s c l = some s' → ∃ h, s' = { s with hold := h } := by
  intro _ _ _ _ h
  obtain ⟨h', -, e⟩ := takePayments_some h
  exact ⟨h', e⟩

theorem takePayments_cons {s s0 : St} {c n a : Nat} {l : List (Nat × Nat)}
    (h : takePayments s c ((n, a) :: l) = some s0) :
    a ≠ 0 ∧ (s.attrs n).isSome ∧ a ≤ s.hold c n := by
  simp only [takePayments, Option.bind_eq_bind, Option.bind_eq_some_iff, req_eq_some,
    sub?_eq_some] at h
  obtain ⟨_, h1, _, h2, _, ⟨h3, _⟩, _⟩ := h
  exact ⟨h1, h2, h3⟩

theorem checkAndUpdate_spec : ∀ (l : List (Nat × Nat)) {s s' : St} {u : Nat},
    checkAndUpdate s u l = some s' → ∃ t, s' = { s with userTotal := t } := by
  intro _ _ _ _ h
  obtain ⟨t, -, e⟩ := checkAndUpdate_some h
  exact ⟨t, e⟩

theorem setFarmSupplyWeek_spec {s s' : St} {v : Nat} (h : setFarmSupplyWeek s v = some s') :
    ∃ W, s.week = some W ∧
      s' = { s with b := { s.b with farmSupplyWeek := upd s.b.farmSupplyWeek W v } } := by
  simp only [setFarmSupplyWeek, Option.bind_eq_bind, Option.bind_eq_some_iff, Option.pure_def,
    Option.some.injEq] at h
  obtain ⟨W, hW, rfl⟩ := h
  exact ⟨W, hW, rfl⟩

/-- only `u`'s energy entry is written -/
theorem lockVirtual_spec {s s' : St} {u a : Nat} (h : lockVirtual s u a = some s') :
    ∃ e, s' = { s with energy := e } ∧ ∀ x, x ≠ u → e x = s.energy x := by
  simp only [lockVirtual, Option.bind_eq_bind, Option.bind_eq_some_iff, req_eq_some, Option.pure_def,
    Option.some.injEq] at h
  obtain ⟨_, _, rfl⟩ := h
  exact ⟨_, rfl, fun _ hx => Weekly.upd_other _ _ hx⟩

theorem payReward_spec {s s' : St} {u base boosted : Nat} (h : payReward s u base boosted = some s') :
    ∃ br e, s' = { s with paid := s.paid + (base + boosted), paidBase := s.paidBase + base,
                          paidBoosted := s.paidBoosted + boosted, balReward := br, energy := e } ∧
      (s.kind = .mint → base + boosted ≤ s.balReward ∧ br = s.balReward - (base + boosted)) ∧
      (s.kind = .noMint → br = s.balReward) ∧ ∀ x, x ≠ u → e x = s.energy x := by
  unfold payReward at h
  simp only [Option.bind_eq_bind, Option.pure_def] at h
  by_cases h0 : base + boosted = 0
  · simp only [h0, if_true, Option.some.injEq] at h
    subst h
    refine ⟨s.balReward, s.energy, ?_, ?_, ?_, fun _ _ => rfl⟩
    · simp [h0]
    · intro _; omega
    · intro _; rfl
  · simp only [h0, if_false] at h
    cases hk : s.kind
    · simp only [hk, Option.bind_eq_some_iff, sub?_eq_some, Option.some.injEq] at h
      obtain ⟨bal, ⟨hle, rfl⟩, rfl⟩ := h
      exact ⟨_, s.energy, rfl, fun _ => ⟨hle, rfl⟩, fun hc => by simp at hc, fun _ _ => rfl⟩
    · simp only [hk] at h
      obtain ⟨e, rfl, he⟩ := lockVirtual_spec h
      exact ⟨s.balReward, e, rfl, fun hc => by simp at hc, fun _ => rfl, he⟩

/-- `payReward` with the reward balance as a function of the kind -/
theorem payReward_eq {s s' : St} {u base boosted : Nat} (h : payReward s u base boosted = some s') :
    (s.kind = .mint → base + boosted ≤ s.balReward) ∧
    ∃ e, s' = { s with paid := s.paid + (base + boosted), paidBase := s.paidBase + base,
                       paidBoosted := s.paidBoosted + boosted,
                       balReward := s.balReward - (if s.kind = .mint then base + boosted else 0),
                       energy := e } := by
  obtain ⟨br, e, rfl, hm, hn, -⟩ := payReward_spec h
  cases hk : s.kind
  · exact ⟨fun _ => (hm hk).1, e, by rw [(hm hk).2, if_pos rfl]⟩
  · exact ⟨fun hc => Kind.noConfusion hc, e, by rw [hn hk, if_neg (fun hc => Kind.noConfusion hc)]; rfl⟩

theorem createToken_spec {s s' : St} {dst n : Nat} {a : Attr} (h : createToken s dst a = some (s', n)) :
    a.amt ≠ 0 ∧ n = s.lastNonce + 1 ∧
    s' = { s with lastNonce := s.lastNonce + 1, attrs := upd s.attrs (s.lastNonce + 1) (some a)
                  hold := upd s.hold dst (upd (s.hold dst) (s.lastNonce + 1) (s.hold dst (s.lastNonce + 1) + a.amt)) } := by
  simp only [createToken, Option.bind_eq_bind, Option.bind_eq_some_iff, req_eq_some, Option.pure_def,
    Option.some.injEq, Prod.mk.injEq] at h
  obtain ⟨_, ha, rfl, rfl⟩ := h
  exact ⟨ha, rfl, rfl⟩

theorem updateEnergyAndProgress_some {s s' : St} {u : Nat} (h : updateEnergyAndProgress s u = some s') :
    ∃ W g, s.week = some W ∧
      Weekly.updateEnergyAndProgress s.w u W (Energy.queried (s.energy u) s.epoch) = some g ∧
      s' = { s with w := g } := by
  unfold updateEnergyAndProgress at h
  obtain ⟨W, hW, h⟩ := peel h
  obtain ⟨g, hg, h⟩ := peel h
  exact ⟨W, g, hW, hg, (Option.some.inj h).symm⟩

theorem updateEnergyAndProgress_spec {s s' : St} {u : Nat} (h : updateEnergyAndProgress s u = some s') :
    ∃ g, s' = { s with w := g } :=
  let ⟨_, g, _, _, e⟩ := updateEnergyAndProgress_some h
  ⟨g, e⟩

/-- the no-config branch of `claim_boosted_yields_rewards`: it pays nothing and still moves the user's
    energy and claim progress to the current week (finding F6 in DESIGN.md) -/
theorem claimBoostedYields_none {s : St} (u : Nat) (hc : s.b.cfg = none) :
    claimBoostedYields s u = (updateEnergyAndProgress s u).map fun s' => (s', 0) := by
  unfold claimBoostedYields
  rw [hc]

theorem claimBoostedYields_some {s s' : St} {u r : Nat} (h : claimBoostedYields s u = some (s', r)) :
    (s.b.cfg = none ∧ r = 0 ∧ updateEnergyAndProgress s u = some s') ∨
    ∃ cfg W mem g c l, s.b.cfg = some cfg ∧ s.week = some W ∧ cfg.update W none = some mem ∧
      Weekly.claimMulti (boostedRewards mem (s.userTotal u)) s.w s.b u W
        (Energy.queried (s.energy u) s.epoch) = some (g, c, l) ∧
      s' = { s with w := g, b := c } ∧ r = sumRewards l := by
  unfold claimBoostedYields at h
  split at h
  · rename_i hc
    obtain ⟨x, hx, he⟩ := Option.map_eq_some_iff.mp h
    obtain ⟨rfl, rfl⟩ := Prod.mk.inj he
    exact Or.inl ⟨hc, rfl, hx⟩
  · rename_i cfg hc
    obtain ⟨W, hW, h⟩ := peel h
    obtain ⟨mem, hmem, h⟩ := peel h
    obtain ⟨⟨g, c, l⟩, hx, h⟩ := peel h
    obtain ⟨rfl, rfl⟩ := Prod.mk.inj (Option.some.inj h)
    exact Or.inr ⟨cfg, W, mem, g, c, l, hc, hW, hmem, hx, rfl, rfl⟩

theorem claimBoostedYields_none_spec {s s' : St} {u r : Nat} (hc : s.b.cfg = none)
    (h : claimBoostedYields s u = some (s', r)) :
    r = 0 ∧ updateEnergyAndProgress s u = some s' := by
  rcases claimBoostedYields_some h with ⟨_, h⟩ | ⟨_, _, _, _, _, _, hc', _⟩
  · exact h
  · rw [hc] at hc'
    cases hc'

theorem claimBoostedYields_some_of_cfg {s s' : St} {u r : Nat} {cfg : BCfg} (hc : s.b.cfg = some cfg)
    (h : claimBoostedYields s u = some (s', r)) :
    ∃ W mem g b' rl, s.week = some W ∧ cfg.update W none = some mem ∧
      Weekly.claimMulti (boostedRewards mem (s.userTotal u)) s.w s.b u W
        (Energy.queried (s.energy u) s.epoch) = some (g, b', rl) ∧
      s' = { s with w := g, b := b' } ∧ r = sumRewards rl := by
  rcases claimBoostedYields_some h with ⟨hn, _⟩ | ⟨cfg', W, mem, g, c, l, hc', hW, hm, hx, hs, hr⟩
  · rw [hn] at hc
    cases hc
  · rw [hc'] at hc
    cases hc
    exact ⟨W, mem, g, c, l, hW, hm, hx, hs, hr⟩

theorem claimBoostedYields_struct {s s' : St} {u r : Nat} (h : claimBoostedYields s u = some (s', r)) :
    ∃ w' b', s' = { s with w := w', b := b' } := by
  rcases claimBoostedYields_some h with ⟨_, _, h⟩ | ⟨_, _, _, g, c, _, _, _, _, _, e, _⟩
  · obtain ⟨g, rfl⟩ := updateEnergyAndProgress_spec h
    exact ⟨g, s.b, rfl⟩
  · exact ⟨g, c, e⟩

theorem clearUserEnergyIfNeeded_some {s s' : St} {u : Nat} (h : clearUserEnergyIfNeeded s u = some s') :
    (s.b.cfg = none ∧ s' = s) ∨
    ∃ cfg W mem g, s.b.cfg = some cfg ∧ s.week = some W ∧ cfg.update W none = some mem ∧
      Weekly.clearUserEnergy s.w u W s.epoch (s.userTotal u) mem.latest.minF = some g ∧
      s' = { s with w := g } := by
  unfold clearUserEnergyIfNeeded at h
  split at h
  · rename_i hc
    exact Or.inl ⟨hc, (Option.some.inj h).symm⟩
  · rename_i cfg hc
    obtain ⟨W, hW, h⟩ := peel h
    obtain ⟨mem, hmem, h⟩ := peel h
    obtain ⟨g, hg, h⟩ := peel h
    exact Or.inr ⟨cfg, W, mem, g, hc, hW, hmem, hg, (Option.some.inj h).symm⟩

theorem clearUserEnergyIfNeeded_spec {s s' : St} {u : Nat} (h : clearUserEnergyIfNeeded s u = some s') :
    ∃ g, s' = { s with w := g } := by
  rcases clearUserEnergyIfNeeded_some h with ⟨_, rfl⟩ | ⟨_, _, _, g, _, _, _, _, rfl⟩
  · exact ⟨_, rfl⟩
  · exact ⟨g, rfl⟩

theorem updateEnergyForUser_some {s s' : St} {u : Nat} (h : updateEnergyForUser s u = some s') :
    ∃ W g, s.week = some W ∧
      Weekly.updateEnergyForUser s.w u W (Energy.queried (s.energy u) s.epoch) = some g ∧
      s' = { s with w := g } := by
  unfold updateEnergyForUser at h
  obtain ⟨W, hW, h⟩ := peel h
  obtain ⟨g, hg, h⟩ := peel h
  exact ⟨W, g, hW, hg, (Option.some.inj h).symm⟩

theorem updateEnergyForUser_spec {s s' : St} {u : Nat} (h : updateEnergyForUser s u = some s') :
    ∃ g, s' = { s with w := g } :=
  let ⟨_, g, _, _, e⟩ := updateEnergyForUser_some h
  ⟨g, e⟩

theorem takeRewardSlice_eq (s : St) (full : Nat) :
    takeRewardSlice s full =
      if (if s.pct = 0 then 0 else full * s.pct / MAXPCT) = 0 then some (s, 0)
      else s.week.map fun W =>
        ({ s with b := { s.b with accum := upd s.b.accum W (s.b.accum W + full * s.pct / MAXPCT)
                                  cutW := upd s.b.cutW W (s.b.cutW W + full * s.pct / MAXPCT) } },
         full * s.pct / MAXPCT) := by
  unfold takeRewardSlice
  by_cases hp : s.pct = 0
  · simp only [hp, if_true]
  · simp only [hp, if_false]
    by_cases hc : full * s.pct / MAXPCT = 0
    · simp only [hc, if_true]
    · simp only [hc, if_false]
      cases s.week <;> rfl

theorem takeRewardSlice_spec {s s' : St} {full cut : Nat} (h : takeRewardSlice s full = some (s', cut)) :
    cut = (if s.pct = 0 then 0 else full * s.pct / MAXPCT) ∧
    ((cut = 0 ∧ s' = s) ∨
     (0 < cut ∧ ∃ W, s.week = some W ∧
        s' = { s with b := { s.b with accum := upd s.b.accum W (s.b.accum W + cut)
                                      cutW := upd s.b.cutW W (s.b.cutW W + cut) } })) := by
  rw [takeRewardSlice_eq] at h
  by_cases h0 : (if s.pct = 0 then 0 else full * s.pct / MAXPCT) = 0
  · rw [if_pos h0] at h
    obtain ⟨rfl, rfl⟩ := Prod.mk.inj (Option.some.inj h)
    exact ⟨h0.symm, Or.inl ⟨rfl, rfl⟩⟩
  · rw [if_neg h0] at h
    obtain ⟨W, hW, he⟩ := Option.map_eq_some_iff.mp h
    obtain ⟨rfl, rfl⟩ := Prod.mk.inj he
    have hp : ¬ s.pct = 0 := fun hp => h0 (if_pos hp)
    rw [if_neg hp] at h0
    exact ⟨(if_neg hp).symm, Or.inr ⟨Nat.pos_of_ne_zero h0, W, hW, rfl⟩⟩

/-- the amount emitted by a settlement at the current block -/
def minted (s : St) : Nat :=
  if s.lastBlock < s.block then (if s.produce then s.perBlock * (s.block - s.lastBlock) else 0) else 0

/-- the boosted cut of that emission -/
def cutOf (s : St) : Nat := if s.pct = 0 then 0 else minted s * s.pct / MAXPCT

theorem pct_div_le {m p : Nat} (hp : p ≤ MAXPCT) : m * p / MAXPCT ≤ m :=
  Nat.div_le_of_le_mul (by rw [Nat.mul_comm]; exact Nat.mul_le_mul_right m hp)

theorem cutOf_le (s : St) (hp : s.pct ≤ MAXPCT) : cutOf s ≤ minted s := by
  unfold cutOf
  split
  · exact Nat.zero_le _
  · exact pct_div_le hp

/-- the base share of a settlement's emission: what the boosted cut leaves -/
def baseShare (s : St) : Nat := minted s - cutOf s

/-- what a settlement adds to `reward_per_share`, read on the stored supply -/
def rpsIncr (s : St) : Nat := if s.supply = 0 then 0 else baseShare s * s.dsc / s.supply

theorem rpsIncr_mul_le (s : St) : rpsIncr s * s.supply ≤ baseShare s * s.dsc := by
  unfold rpsIncr
  split
  · simp
  · exact Nat.div_mul_le_self _ _

/-- the boosted cut of `s`'s settlement joins the current week's pool of `b` -/
def addCut (s : St) (b : BSt) : BSt :=
  if cutOf s = 0 then b
  else match s.week with
    | some W => { b with accum := upd b.accum W (b.accum W + cutOf s)
                         cutW := upd b.cutW W (b.cutW W + cutOf s) }
    | none => b

/-- what `generate` does to the state … -/
def genSt (s : St) : St :=
  { s with lastBlock := if s.lastBlock < s.block then s.block else s.lastBlock
           generated := s.generated + minted s
           balReward := if s.kind = .mint then s.balReward + minted s else s.balReward
           baseBudget := s.baseBudget + (minted s - cutOf s)
           b := addCut s s.b }

/-- … and to the cache -/
def genCache (s : St) (c : Cache) : Cache :=
  { reserve := c.reserve + minted s
    rps := c.rps + (if c.supply = 0 then 0 else (minted s - cutOf s) * s.dsc / c.supply)
    supply := c.supply }

/-- … and when it succeeds -/
def GenOk (s : St) : Prop := cutOf s ≤ minted s ∧ (cutOf s ≠ 0 → ∃ W, s.week = some W)

theorem generate_of_ok {s : St} (h : GenOk s) (c : Cache) : generate s c = some (genSt s, genCache s c) := by
  obtain ⟨hle, hw⟩ := h
  unfold generate
  by_cases hb : s.lastBlock < s.block
  · have hmin : (if s.produce then s.perBlock * (s.block - s.lastBlock) else 0) = minted s := by
      unfold minted; rw [if_pos hb]
    simp only [if_pos hb, hmin]
    by_cases hm : minted s = 0
    · have hcut : cutOf s = 0 := by unfold cutOf; rw [hm, Nat.zero_mul, Nat.zero_div, ite_self]
      simp only [hm, if_true, genSt, genCache, addCut, hcut, Nat.add_zero, Nat.sub_self, Nat.zero_mul, Nat.zero_div,
        ite_self, if_pos hb]
    · simp only [hm, if_false, takeRewardSlice_eq]
      by_cases hc : cutOf s = 0
      · have hc' : (if s.pct = 0 then 0 else minted s * s.pct / MAXPCT) = 0 := hc
        simp only [hc', if_true, Option.bind_eq_bind, Option.bind_some, sub?, Nat.zero_le, Nat.sub_zero,
          genSt, genCache, addCut, hc, Option.pure_def, if_pos hb]
        split <;> rfl
      · have hc' : ¬ (if s.pct = 0 then 0 else minted s * s.pct / MAXPCT) = 0 := hc
        obtain ⟨W, hW⟩ := hw hc
        have hp : ¬ s.pct = 0 := fun hp => hc (by unfold cutOf; rw [if_pos hp])
        have hcv : minted s * s.pct / MAXPCT = cutOf s := by unfold cutOf; rw [if_neg hp]
        simp only [hc', if_false, St.week] at hW ⊢
        simp only [hW, Option.map_some, Option.bind_eq_bind, Option.bind_some, hcv, sub?, hle, if_true,
          genSt, genCache, addCut, hc, if_false, St.week, Option.pure_def, if_pos hb]
        split <;> rfl
  · have hmin : minted s = 0 := by unfold minted; rw [if_neg hb]
    have hcut : cutOf s = 0 := by unfold cutOf; rw [hmin, Nat.zero_mul, Nat.zero_div, ite_self]
    simp only [if_neg hb, genSt, genCache, addCut, hmin, hcut, if_true, Nat.add_zero, Nat.sub_self, Nat.zero_mul,
      Nat.zero_div, ite_self]

theorem genOk_of_generate {s : St} {c : Cache} {r : St × Cache} (h : generate s c = some r) : GenOk s := by
  -- only an emission reaches the two guards: the week lookup of the slice and the checked subtraction
  by_cases hm : minted s = 0
  · have hcut : cutOf s = 0 := by unfold cutOf; rw [hm, Nat.zero_mul, Nat.zero_div, ite_self]
    exact ⟨by rw [hcut]; exact Nat.zero_le _, fun hne => absurd hcut hne⟩
  · have hb : s.lastBlock < s.block := by
      by_contra hb
      exact hm (by unfold minted; rw [if_neg hb])
    have hmin : (if s.produce then s.perBlock * (s.block - s.lastBlock) else 0) = minted s := by
      unfold minted; rw [if_pos hb]
    unfold generate at h
    rw [if_pos hb] at h
    dsimp only at h
    rw [hmin, if_neg hm] at h
    obtain ⟨⟨s3, cut⟩, hslice, h⟩ := peel h
    obtain ⟨base, hbase, -⟩ := peel h
    obtain ⟨hcut, hcases⟩ := takeRewardSlice_spec hslice
    have hcut : cut = cutOf s := hcut
    subst hcut
    refine ⟨(sub?_eq_some.mp hbase).1, fun hne => ?_⟩
    rcases hcases with ⟨h0, -⟩ | ⟨-, W, hW, -⟩
    · exact absurd h0 hne
    · exact ⟨W, hW⟩

theorem generate_eq {s s' : St} {c c' : Cache} (h : generate s c = some (s', c')) :
    GenOk s ∧ s' = genSt s ∧ c' = genCache s c := by
  have hok := genOk_of_generate h
  rw [generate_of_ok hok] at h
  obtain ⟨rfl, rfl⟩ := Prod.mk.inj (Option.some.inj h)
  exact ⟨hok, rfl, rfl⟩

theorem generate_spec {s s' : St} {c c' : Cache} (h : generate s c = some (s', c')) :
    ∃ b', s' = { s with lastBlock := (if s.lastBlock < s.block then s.block else s.lastBlock)
                        generated := s.generated + minted s
                        balReward := (if s.kind = .mint then s.balReward + minted s else s.balReward)
                        baseBudget := s.baseBudget + (minted s - cutOf s)
                        b := b' } ∧
      cutOf s ≤ minted s ∧
      c' = { reserve := c.reserve + minted s
             rps := c.rps + (if c.supply = 0 then 0 else (minted s - cutOf s) * s.dsc / c.supply)
             supply := c.supply } ∧
      ((cutOf s = 0 ∧ b' = s.b) ∨
       (0 < cutOf s ∧ ∃ W, s.week = some W ∧
          b' = { s.b with accum := upd s.b.accum W (s.b.accum W + cutOf s)
                          cutW := upd s.b.cutW W (s.b.cutW W + cutOf s) })) := by
  obtain ⟨⟨hle, hw⟩, rfl, rfl⟩ := generate_eq h
  refine ⟨addCut s s.b, rfl, hle, rfl, ?_⟩
  by_cases h0 : cutOf s = 0
  · exact Or.inl ⟨h0, by simp only [addCut, h0, if_true]⟩
  · obtain ⟨W, hW⟩ := hw h0
    exact Or.inr ⟨Nat.pos_of_ne_zero h0, W, hW, by simp only [addCut, h0, if_false, hW]⟩

theorem payRewardIf_spec {s s' : St} {k : Kind} {u b bo : Nat} (h : payRewardIf s k u b bo = some s') :
    (s.kind = k ∧ payReward s u b bo = some s') ∨ (s.kind ≠ k ∧ s' = s) := by
  unfold payRewardIf at h
  split at h
  · exact Or.inl ⟨‹_›, h⟩
  · exact Or.inr ⟨‹_›, (Option.some.inj h).symm⟩

/-- the boosted reward leaves `reserve` in storage (for `r = 0` the update is the identity) -/
theorem claimOnlyBoostedPayment_spec {s s' : St} {u r : Nat} (h : claimOnlyBoostedPayment s u = some (s', r)) :
    ∃ s1, claimBoostedYields s u = some (s1, r) ∧ r ≤ s1.reserve ∧
      s' = { s1 with reserve := s1.reserve - r } := by
  unfold claimOnlyBoostedPayment at h
  obtain ⟨⟨s1, r1⟩, h1, h⟩ := peel h
  dsimp only at h
  split at h
  · rename_i h0
    simp only [Option.pure_def, Option.some.injEq, Prod.mk.injEq] at h
    obtain ⟨rfl, rfl⟩ := h
    rw [h0] at h1
    exact ⟨s1, h1, Nat.zero_le _, rfl⟩
  · obtain ⟨res, hres, h⟩ := peel h
    simp only [Option.pure_def, Option.some.injEq, Prod.mk.injEq] at h
    obtain ⟨rfl, rfl⟩ := h
    obtain ⟨hle, rfl⟩ := sub?_eq_some.mp hres
    exact ⟨s1, h1, hle, rfl⟩

theorem removeFarming_spec {s s' : St} {a p : Nat} (h : removeFarming s a p = some s') :
    a ≤ s.balFarming ∧
      s' = { s with balFarming := s.balFarming - a, penaltyBurned := s.penaltyBurned + p } := by
  unfold removeFarming at h
  obtain ⟨bal, hb, h⟩ := peel h
  obtain ⟨hle, rfl⟩ := sub?_eq_some.mp hb
  exact ⟨hle, (Option.some.inj h).symm⟩

theorem compoundMove_spec {s s' : St} {b bo : Nat} (h : compoundMove s b bo = some s') :
    b + bo ≤ s.balReward ∧
      s' = { s with balReward := s.balReward - (b + bo), balFarming := s.balFarming + (b + bo)
                    paid := s.paid + (b + bo), paidBase := s.paidBase + b
                    paidBoosted := s.paidBoosted + bo } := by
  unfold compoundMove at h
  obtain ⟨bal, hb, h⟩ := peel h
  obtain ⟨hle, rfl⟩ := sub?_eq_some.mp hb
  exact ⟨hle, (Option.some.inj h).symm⟩

theorem claimTail_spec {s s' : St} {cmp : Bool} {u b bo : Nat} (h : claimTail s cmp u b bo = some s') :
    (cmp = true ∧ ∃ s1, compoundMove s b bo = some s1 ∧ updateEnergyAndProgress s1 u = some s') ∨
    (cmp = false ∧ payReward s u b bo = some s') := by
  unfold claimTail at h
  cases cmp
  · exact Or.inr ⟨rfl, h⟩
  · exact Or.inl ⟨rfl, Option.bind_eq_some_iff.mp h⟩

theorem exitPenalty_spec {s : St} {amount e pen : Nat} (h : exitPenalty s amount e = some pen) :
    e ≤ s.epoch ∧
      pen = if s.minFarmingEpochs ≤ s.epoch - e then 0 else amount * s.penaltyPct / MAXPCT := by
  unfold exitPenalty at h
  obtain ⟨d, hd, h⟩ := peel h
  obtain ⟨hle, rfl⟩ := sub?_eq_some.mp hd
  refine ⟨hle, ?_⟩
  split at h <;> rename_i hc <;> simp only [hc, if_true, if_false] <;> exact (Option.some.inj h).symm

theorem origCaller_spec {s : St} {caller : Nat} {opt : Option Nat} {orig : Nat}
    (h : origCaller s caller opt = some orig) :
    (opt = none ∧ orig = caller) ∨ (opt = some orig ∧ caller ∈ s.scWl) := by
  cases opt with
  | none => exact Or.inl ⟨rfl, (Option.some.inj h).symm⟩
  | some o =>
    obtain ⟨_, hw, h⟩ := peel h
    exact Or.inr ⟨congrArg some (Option.some.inj h), (req_eq_some _).mp hw⟩

theorem enterFarm_spec {s : St} {caller : Nat} {opt : Option Nat} {amt : Nat} {extra : List (Nat × Nat)}
    {r : St × Out} (h : enterFarm s caller opt amt extra = some r) :
    ∃ orig, origCaller s caller opt = some orig ∧ enterCore s caller orig caller amt extra = some r :=
  peel h

theorem enterFarmOnBehalf_spec {s : St} {caller user amt : Nat} {extra : List (Nat × Nat)} {r : St × Out}
    (h : enterFarmOnBehalf s caller user amt extra = some r) :
    hubAllows s user caller = true ∧ allOwnedBy s user extra = true ∧
    enterCore s caller user caller amt extra = some r := by
  unfold enterFarmOnBehalf at h
  obtain ⟨_, h1, h⟩ := peel h
  obtain ⟨_, h2, h⟩ := peel h
  exact ⟨(req_eq_some _).mp h1, (req_eq_some _).mp h2, h⟩

theorem claimRewards_spec {s : St} {caller : Nat} {opt : Option Nat} {pays : List (Nat × Nat)}
    {r : St × Out} (h : claimRewards s caller opt pays = some r) :
    ∃ orig, origCaller s caller opt = some orig ∧ claimCore s caller orig pays false = some r :=
  peel h

theorem claimRewardsOnBehalf_spec {s : St} {caller : Nat} {pays : List (Nat × Nat)} {r : St × Out}
    (h : claimRewardsOnBehalf s caller pays = some r) :
    ∃ user, claimOwner s pays = some user ∧ hubAllows s user caller = true ∧
      claimCore s caller user pays false = some r := by
  unfold claimRewardsOnBehalf at h
  obtain ⟨_, _, h⟩ := peel h
  obtain ⟨user, hu, h⟩ := peel h
  obtain ⟨_, ha, h⟩ := peel h
  exact ⟨user, hu, (req_eq_some _).mp ha, h⟩

theorem compoundRewards_spec {s : St} {caller : Nat} {opt : Option Nat} {pays : List (Nat × Nat)}
    {r : St × Out} (h : compoundRewards s caller opt pays = some r) :
    s.kind = .mint ∧
    ∃ orig, origCaller s caller opt = some orig ∧ claimCore s caller orig pays true = some r := by
  unfold compoundRewards at h
  obtain ⟨_, hk, h⟩ := peel h
  exact ⟨(req_eq_some _).mp hk, peel h⟩

theorem settle_some {s s' : St} (h : settle s = some s') :
    ∃ s1 c1, generate s (Cache.read s) = some (s1, c1) ∧ s' = Cache.drop s1 c1 := by
  unfold settle at h
  obtain ⟨⟨s1, c1⟩, h1, h⟩ := peel h
  exact ⟨s1, c1, h1, (Option.some.inj h).symm⟩

theorem setPerBlock_some {s s' : St} {c x : Nat} (h : setPerBlock s c x = some s') :
    s.isAdmin c = true ∧ x ≠ 0 ∧ ∃ s1, settle s = some s1 ∧ s' = { s1 with perBlock := x } := by
  unfold setPerBlock at h
  obtain ⟨_, ha, h⟩ := peel h
  obtain ⟨_, hx, h⟩ := peel h
  obtain ⟨s1, h1, h⟩ := peel h
  exact ⟨(req_eq_some _).mp ha, (req_eq_some _).mp hx, s1, h1, (Option.some.inj h).symm⟩

theorem endProduce_some {s s' : St} {c : Nat} (h : endProduce s c = some s') :
    s.isAdmin c = true ∧ ∃ s1, settle s = some s1 ∧ s' = { s1 with produce := false } := by
  unfold endProduce at h
  obtain ⟨_, ha, h⟩ := peel h
  obtain ⟨s1, h1, h⟩ := peel h
  exact ⟨(req_eq_some _).mp ha, s1, h1, (Option.some.inj h).symm⟩

theorem startProduce_some {s s' : St} {c : Nat} (h : startProduce s c = some s') :
    s.isAdmin c = true ∧ s.perBlock ≠ 0 ∧ s.produce = false ∧
      s' = { s with produce := true, lastBlock := s.block } := by
  unfold startProduce at h
  obtain ⟨_, ha, h⟩ := peel h
  obtain ⟨_, hp, h⟩ := peel h
  obtain ⟨_, hn, h⟩ := peel h
  have hn := (req_eq_some _).mp hn
  exact ⟨(req_eq_some _).mp ha, (req_eq_some _).mp hp, by simpa using hn, (Option.some.inj h).symm⟩

theorem setPct_some {s s' : St} {c p : Nat} (h : setPct s c p = some s') :
    s.isAdmin c = true ∧ p ≤ MAXPCT ∧ ∃ s1, settle s = some s1 ∧ s' = { s1 with pct := p } := by
  unfold setPct at h
  obtain ⟨_, ha, h⟩ := peel h
  obtain ⟨_, hp, h⟩ := peel h
  obtain ⟨s1, h1, h⟩ := peel h
  exact ⟨(req_eq_some _).mp ha, (req_eq_some _).mp hp, s1, h1, (Option.some.inj h).symm⟩

theorem setFactors_some {s s' : St} {c : Nat} {f : Factors} (h : setFactors s c f = some s') :
    s.isAdmin c = true ∧ (0 < f.minE ∧ 0 < f.minF) ∧ (0 < f.cE ∨ 0 < f.cF) ∧
    ∃ W c', s.week = some W ∧
      (match s.b.cfg with
        | some cfg => cfg.update W (some f) = some c'
        | none => c' = BCfg.new W f) ∧
      s' = { s with b := { s.b with cfg := some c' } } := by
  unfold setFactors at h
  obtain ⟨_, ha, h⟩ := peel h
  obtain ⟨_, h1, h⟩ := peel h
  obtain ⟨_, h2, h⟩ := peel h
  obtain ⟨W, hW, h⟩ := peel h
  refine ⟨(req_eq_some _).mp ha, (req_eq_some _).mp h1, (req_eq_some _).mp h2, W, ?_⟩
  split at h <;> rename_i hcfg <;> rw [hcfg]
  · obtain ⟨c', hc, h⟩ := peel h
    exact ⟨c', hW, hc, (Option.some.inj h).symm⟩
  · exact ⟨_, hW, rfl, (Option.some.inj h).symm⟩

theorem collectUndistributed_some {s s' : St} {c : Nat} (h : collectUndistributed s c = some s') :
    s.isAdmin c = true ∧ ∃ W, s.week = some W ∧ Weekly.USER_MAX_CLAIM_WEEKS + 1 < W ∧
      s' = (if W - (Weekly.USER_MAX_CLAIM_WEEKS + 1) < s.lastCollect + 1 then s
            else { s with
              b := (collectWeeks s.b s.undist (s.lastCollect + 1)
                      (W - (Weekly.USER_MAX_CLAIM_WEEKS + 1) + 1 - (s.lastCollect + 1))).1
              undist := (collectWeeks s.b s.undist (s.lastCollect + 1)
                      (W - (Weekly.USER_MAX_CLAIM_WEEKS + 1) + 1 - (s.lastCollect + 1))).2
              lastCollect := W - (Weekly.USER_MAX_CLAIM_WEEKS + 1) }) := by
  unfold collectUndistributed at h
  obtain ⟨_, ha, h⟩ := peel h
  obtain ⟨W, hW, h⟩ := peel h
  obtain ⟨_, hlt, h⟩ := peel h
  refine ⟨(req_eq_some _).mp ha, W, hW, (req_eq_some _).mp hlt, ?_⟩
  dsimp only at h
  split at h <;> rename_i hc <;> simp only [hc, if_true, if_false] <;> exact (Option.some.inj h).symm

theorem setActive_some {s s' : St} {c : Nat} {v : Bool} (h : setActive s c v = some s') :
    s.isAdmin c = true ∧ s' = { s with active := v } := by
  unfold setActive at h
  obtain ⟨_, ha, h⟩ := peel h
  exact ⟨(req_eq_some _).mp ha, (Option.some.inj h).symm⟩

theorem setPenalty_some {s s' : St} {c p : Nat} (h : setPenalty s c p = some s') :
    s.isAdmin c = true ∧ p < MAXPCT ∧ s' = { s with penaltyPct := p } := by
  unfold setPenalty at h
  obtain ⟨_, ha, h⟩ := peel h
  obtain ⟨_, hp, h⟩ := peel h
  exact ⟨(req_eq_some _).mp ha, (req_eq_some _).mp hp, (Option.some.inj h).symm⟩

theorem setMinEpochs_some {s s' : St} {c n : Nat} (h : setMinEpochs s c n = some s') :
    s.isAdmin c = true ∧ n ≤ MAX_MIN_EPOCHS ∧ s' = { s with minFarmingEpochs := n } := by
  unfold setMinEpochs at h
  obtain ⟨_, ha, h⟩ := peel h
  obtain ⟨_, hp, h⟩ := peel h
  exact ⟨(req_eq_some _).mp ha, (req_eq_some _).mp hp, (Option.some.inj h).symm⟩

theorem transfer_some {s s' : St} {src dst n a : Nat} (h : transfer s src dst n a = some s') :
    a ≠ 0 ∧ src ≠ dst ∧ (s.attrs n).isSome = true ∧ a ≤ s.hold src n ∧
      ∃ h1, h1 = upd s.hold src (upd (s.hold src) n (s.hold src n - a)) ∧
        s' = { s with hold := upd h1 dst (upd (h1 dst) n (h1 dst n + a)) } := by
  unfold transfer at h
  obtain ⟨_, ha, h⟩ := peel h
  obtain ⟨_, hne, h⟩ := peel h
  obtain ⟨_, hat, h⟩ := peel h
  obtain ⟨x, hx, h⟩ := peel h
  obtain ⟨hle, rfl⟩ := sub?_eq_some.mp hx
  exact ⟨(req_eq_some _).mp ha, (req_eq_some _).mp hne, (req_eq_some _).mp hat, hle, _, rfl,
    (Option.some.inj h).symm⟩

theorem calcRewards_some {s : St} {user amount rpsTok r : Nat} (h : calcRewards s user amount rpsTok = some r) :
    ∃ s1 c1 s2 boosted, generate s (Cache.read s) = some (s1, c1) ∧
      claimBoostedYields s1 user = some (s2, boosted) ∧
      r = baseReward s1.dsc c1.rps amount rpsTok + boosted := by
  unfold calcRewards at h
  obtain ⟨⟨s1, c1⟩, h1, h⟩ := peel h
  obtain ⟨⟨s2, boosted⟩, h2, h⟩ := peel h
  exact ⟨s1, c1, s2, boosted, h1, h2, (Option.some.inj h).symm⟩

/-- the deployment constants: the fields no operation writes (`step_fixed` in Lemmas/FarmEff.lean) -/
structure Fixed where
  kind : Kind
  sameTok : Bool
  dsc : Nat
  users : List Nat
  firstWeekStart : Nat
  lockEpochs : Nat

def fixed (s : St) : Fixed := ⟨s.kind, s.sameTok, s.dsc, s.users, s.firstWeekStart, s.lockEpochs⟩

theorem takePayments_fixed {l : List (Nat × Nat)} {s s' : St} {c : Nat} (h : takePayments s c l = some s') :
    fixed s' = fixed s := by obtain ⟨_, rfl⟩ := takePayments_spec l h; rfl
theorem claimBoostedYields_fixed {s s' : St} {u r : Nat} (h : claimBoostedYields s u = some (s', r)) :
    fixed s' = fixed s := by obtain ⟨_, _, rfl⟩ := claimBoostedYields_struct h; rfl
theorem setFarmSupplyWeek_fixed {s s' : St} {v : Nat} (h : setFarmSupplyWeek s v = some s') :
    fixed s' = fixed s := by obtain ⟨_, _, rfl⟩ := setFarmSupplyWeek_spec h; rfl
theorem createToken_fixed {s s' : St} {d n : Nat} {a : Attr} (h : createToken s d a = some (s', n)) :
    fixed s' = fixed s := by obtain ⟨_, _, rfl⟩ := createToken_spec h; rfl
theorem generate_fixed {s s' : St} {c c' : Cache} (h : generate s c = some (s', c')) :
    fixed s' = fixed s := by obtain ⟨_, rfl, _⟩ := generate_spec h; rfl
theorem removeFarming_fixed {s s' : St} {a p : Nat} (h : removeFarming s a p = some s') :
    fixed s' = fixed s := by obtain ⟨_, rfl⟩ := removeFarming_spec h; rfl

theorem noOut_some {r : Option St} {s' : St} {o : Out} (h : noOut r = some (s', o)) :
    r = some s' ∧ o = {} := by
  obtain ⟨x, hx, he⟩ := Option.map_eq_some_iff.mp h
  obtain ⟨rfl, rfl⟩ := Prod.mk.inj he
  exact ⟨hx, rfl⟩

theorem known_some {s : St} {c : Nat} {r : Option (St × Out)} {x : St × Out}
    (h : known s c r = some x) : c ∈ s.users ∧ r = some x := by
  unfold known at h
  split at h
  · exact ⟨‹_›, h⟩
  · cases h

/-- What each operation dispatches to (use after `cases op`: the `match` reduces).  It serves
    `step_step` and the statements that are themselves tables over `Op` (`step_budget`, `step_flow`,
    `step_active`). -/
theorem step_some {s s' : St} {op : Op} {o : Out} (h : step s op = some (s', o)) :
    match (generalizing := false) op with
    | .enter c oo a e => c ∈ s.users ∧ enterFarm s c oo a e = some (s', o)
    | .enterOB c u a e => c ∈ s.users ∧ enterFarmOnBehalf s c u a e = some (s', o)
    | .claim c oo p => c ∈ s.users ∧ claimRewards s c oo p = some (s', o)
    | .claimOB c p => c ∈ s.users ∧ claimRewardsOnBehalf s c p = some (s', o)
    | .compound c oo p => c ∈ s.users ∧ compoundRewards s c oo p = some (s', o)
    | .exit c oo n a => c ∈ s.users ∧ exitFarm s c oo n a = some (s', o)
    | .merge c oo p => c ∈ s.users ∧ mergeFarmTokens s c oo p = some (s', o)
    | .claimBoosted c u => c ∈ s.users ∧ claimBoostedRewards s c u = some (s', o)
    | .transfer a b n x => a ∈ s.users ∧ b ∈ s.users ∧ transfer s a b n x = some s' ∧ o = {}
    | .setEnergy u a l t => s' = { s with energy := upd s.energy u (some ⟨a, l, t⟩) } ∧ o = {}
    | .updateEnergy u => updateEnergyForUser s u = some s' ∧ o = {}
    | .setPerBlock c x => setPerBlock s c x = some s' ∧ o = {}
    | .startProduce c => startProduce s c = some s' ∧ o = {}
    | .endProduce c => endProduce s c = some s' ∧ o = {}
    | .setPct c p => setPct s c p = some s' ∧ o = {}
    | .setFactors c f => setFactors s c f = some s' ∧ o = {}
    | .collect c => collectUndistributed s c = some s' ∧ o = {}
    | .pause c => setActive s c false = some s' ∧ o = {}
    | .resume c => setActive s c true = some s' ∧ o = {}
    | .setPenalty c p => setPenalty s c p = some s' ∧ o = {}
    | .setMinEpochs c n => setMinEpochs s c n = some s' ∧ o = {}
    | .hubWhitelist u a =>
        s.hubWl.contains (u, a) = false ∧ s' = { s with hubWl := s.hubWl ++ [(u, a)] } ∧ o = {}
    | .hubRemove u a =>
        s.hubWl.contains (u, a) = true ∧ s' = { s with hubWl := s.hubWl.filter (· ≠ (u, a)) } ∧ o = {}
    | .hubBlacklist a =>
        s' = { s with hubBl := if s.hubBl.contains a then s.hubBl else s.hubBl ++ [a] } ∧ o = {}
    | .scWhitelist a => s.scWl.contains a = false ∧ s' = { s with scWl := s.scWl ++ [a] } ∧ o = {}
    | .scUnwhitelist a =>
        s.scWl.contains a = true ∧ s' = { s with scWl := s.scWl.filter (· ≠ a) } ∧ o = {}
    | .advance b e => (s.block ≤ b ∧ s.epoch ≤ e) ∧ s' = { s with block := b, epoch := e } ∧ o = {}
    | .bad => False := by
  cases op <;> simp only [step] at h
  case enter => exact known_some h
  case enterOB => exact known_some h
  case claim => exact known_some h
  case claimOB => exact known_some h
  case compound => exact known_some h
  case exit => exact known_some h
  case merge => exact known_some h
  case claimBoosted => exact known_some h
  case transfer =>
    obtain ⟨ha, h⟩ := known_some h
    obtain ⟨hb, h⟩ := known_some h
    exact ⟨ha, hb, noOut_some h⟩
  case setEnergy => cases h; exact ⟨rfl, rfl⟩
  case updateEnergy => exact noOut_some h
  case setPerBlock => exact noOut_some h
  case startProduce => exact noOut_some h
  case endProduce => exact noOut_some h
  case setPct => exact noOut_some h
  case setFactors => exact noOut_some h
  case collect => exact noOut_some h
  case pause => exact noOut_some h
  case resume => exact noOut_some h
  case setPenalty => exact noOut_some h
  case setMinEpochs => exact noOut_some h
  case hubWhitelist =>
    split at h
    · cases h
    · cases h; exact ⟨Bool.eq_false_iff.mpr ‹_›, rfl, rfl⟩
  case hubRemove =>
    split at h
    · cases h; exact ⟨‹_›, rfl, rfl⟩
    · cases h
  case hubBlacklist => cases h; exact ⟨rfl, rfl⟩
  case scWhitelist =>
    split at h
    · cases h
    · cases h; exact ⟨Bool.eq_false_iff.mpr ‹_›, rfl, rfl⟩
  case scUnwhitelist =>
    split at h
    · cases h; exact ⟨‹_›, rfl, rfl⟩
    · cases h
  case advance =>
    split at h
    · cases h; exact ⟨‹_›, rfl, rfl⟩
    · cases h
  case bad => cases h

/-- `run` skips a failed operation, so `P` has to be kept by successful steps only. -/
theorem run_induction {P : St → Prop} {s : St} (ops : List Op) (h0 : P s)
    (hstep : ∀ {s op s' o}, P s → step s op = some (s', o) → P s') : P (run s ops) := by
  induction ops generalizing s with
  | nil => exact h0
  | cons op rest ih =>
    unfold run
    rw [List.foldl_cons]
    cases hs : step s op with
    | none => exact ih h0
    | some r => exact ih (hstep h0 hs)

end Mx.Farm
