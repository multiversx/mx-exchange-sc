/-
  The base-reward budget of the farm model as a FUNCTION OF THE HISTORY (C06).

  `St.baseBudget` is a ghost counter that `generate` increases.  Here it is recomputed without
  looking at the counter: an emission is decided by five fields (`Cfg`), a successful operation
  moves them by a pure function (`Cfg.next`), and a settling operation adds the base share of the
  emission pending in the configuration it meets (`step_budget`), so the counter is a fold over the
  successful operations of the history (`run_budget`).

  The emission then has two descriptions: by settlement (`Cfg.mintSum`, `Cfg.budget`: Σ over the
  settling operations of what is pending where they occur) and by interval of constant
  configuration (`Cfg.intervals`: rate × blocks, what a reader of the contract expects).  One
  induction over the successful operations, for an interval begun at `start ≤ lastBlock` and with
  the three kinds of `Cfg.next_class` as its cases, equates them (`Cfg.intervals_mint`, plain and
  weighted by `10000 − pct`); a second of the same shape compares the base shares
  (`Cfg.intervals_oneShot`).  The boosted cut is floored once per settlement, so the base share
  agrees with the interval formula only up to one unit per settlement, from both sides
  (`Cfg.budget_scaled` weighted by `10000 − pct`, `Cfg.intervals_oneShot` for the formula floored
  once per interval).
-/
import MxModel.Lemmas.FarmRps

namespace Mx.Farm

/-- the fields that decide what a settlement emits -/
structure Cfg where
  perBlock : Nat
  produce : Bool
  pct : Nat
  lastBlock : Nat
  block : Nat
  deriving DecidableEq, Repr

def RV.cfg (v : RV) : Cfg := ⟨v.perBlock, v.produce, v.pct, v.lastBlock, v.block⟩
def cfgOf (s : St) : Cfg := ⟨s.perBlock, s.produce, s.pct, s.lastBlock, s.block⟩

theorem cfgOf_rv (s : St) : cfgOf s = (rv s).cfg := rfl

/-- emission of `d` blocks at rate `pb`: nothing while production is off -/
def sliceMint (pb : Nat) (pr : Bool) (d : Nat) : Nat := if pr then pb * d else 0

/-- base share of that emission: the boosted cut `⌊m·pct/10000⌋` is taken off -/
def sliceBase (pb : Nat) (pr : Bool) (pct d : Nat) : Nat :=
  sliceMint pb pr d - sliceMint pb pr d * pct / 10000

/-- the emission a settlement at the current block would produce (the PENDING emission) -/
def Cfg.mint (c : Cfg) : Nat := sliceMint c.perBlock c.produce (c.block - c.lastBlock)
def Cfg.base (c : Cfg) : Nat := sliceBase c.perBlock c.produce c.pct (c.block - c.lastBlock)

theorem sliceBase_le (pb : Nat) (pr : Bool) (pct d : Nat) : sliceBase pb pr pct d ≤ sliceMint pb pr d :=
  Nat.sub_le _ _

theorem Cfg.base_le_mint (c : Cfg) : c.base ≤ c.mint := sliceBase_le _ _ _ _

theorem minted_cfg (s : St) : minted s = (cfgOf s).mint := by
  unfold minted Cfg.mint sliceMint cfgOf
  by_cases h : s.lastBlock < s.block
  · simp only [h, if_true]
  · have h0 : s.block - s.lastBlock = 0 := by omega
    simp only [h, h0, Nat.mul_zero, ite_self]

theorem baseShare_cfg (s : St) : baseShare s = (cfgOf s).base := by
  unfold baseShare cutOf
  rw [minted_cfg]
  unfold Cfg.base sliceBase Cfg.mint
  by_cases hp : s.pct = 0
  · have : (cfgOf s).pct = 0 := hp
    simp only [hp, if_true, this, Nat.mul_zero, Nat.zero_div]
  · simp only [hp, if_false]
    rfl

/-- the operations that call `generate` -/
def settles : Op → Bool
  | .enter .. => true
  | .enterOB .. => true
  | .claim .. => true
  | .claimOB .. => true
  | .compound .. => true
  | .exit .. => true
  | .claimBoosted .. => true
  | .setPerBlock .. => true
  | .endProduce .. => true
  | .setPct .. => true
  | _ => false

/-- the four admin operations that change rate / production / percentage -/
def changesCfg : Op → Bool
  | .setPerBlock .. => true
  | .setPct .. => true
  | .endProduce .. => true
  | .startProduce .. => true
  | _ => false

def Cfg.settled (c : Cfg) : Cfg :=
  { c with lastBlock := if c.lastBlock < c.block then c.block else c.lastBlock }

/-- the configuration after a SUCCESSFUL operation: settle first (if the operation settles), then
    apply the operation's own change -/
def Cfg.next (c : Cfg) (op : Op) : Cfg :=
  let c1 := if settles op then c.settled else c
  match op with
  | .setPerBlock _ x => { c1 with perBlock := x }
  | .endProduce _ => { c1 with produce := false }
  | .setPct _ p => { c1 with pct := p }
  | .startProduce _ => { c1 with produce := true, lastBlock := c1.block }
  | .advance b _ => { c1 with block := b }
  | _ => c1

/-- side conditions a successful operation is known to satisfy (what the closed form needs) -/
def Cfg.okOp (c : Cfg) : Op → Prop
  | .advance b _ => c.block ≤ b
  | .startProduce _ => c.produce = false
  | .setPct _ p => p ≤ 10000
  | _ => True

/-- what the emission accounting reads: the configuration and the two counters a settlement moves -/
def ev (s : St) : Cfg × Nat × Nat := (cfgOf s, s.generated, s.baseBudget)

/-- one settlement on that view: the pending emission is booked, its base share goes to the budget -/
def settleEv (v : Cfg × Nat × Nat) : Cfg × Nat × Nat := (v.1.settled, v.2.1 + v.1.mint, v.2.2 + v.1.base)

/-- on an endpoint's closed form each of the three hypotheses is closed by `rfl` -/
theorem ev_settled {s s' : St} (hc : cfgOf s' = (cfgOf s).settled) (hg : s'.generated = s.generated + minted s)
    (hb : s'.baseBudget = s.baseBudget + baseShare s) : ev s' = settleEv (ev s) := by
  show (cfgOf s', s'.generated, s'.baseBudget) = _
  rw [hc, hg, hb, minted_cfg, baseShare_cfg]
  rfl

theorem enterCore_ev {s s' : St} {caller orig tokenTo amt : Nat} {extra : List (Nat × Nat)} {o : Out}
    (h : enterCore s caller orig tokenTo amt extra = some (s', o)) : ev s' = settleEv (ev s) := by
  obtain ⟨_, _, _, _, _, _, _, x⟩ := enterCore_effect h
  obtain ⟨_, rfl⟩ := updateEnergyAndProgress_spec x.tail
  exact ev_settled rfl rfl rfl

theorem claimCore_ev {s s' : St} {caller orig : Nat} {pays : List (Nat × Nat)} {cmp : Bool} {o : Out}
    (h : claimCore s caller orig pays cmp = some (s', o)) : ev s' = settleEv (ev s) := by
  obtain ⟨_, _, _, _, _, _, _, _, _, _, _, _, x⟩ := claimCore_effect h
  obtain ⟨-, _, _, rfl⟩ := claimTail_flat x.tail
  exact ev_settled rfl rfl rfl

theorem exitFarm_ev {s s' : St} {caller : Nat} {opt : Option Nat} {n a : Nat} {o : Out}
    (h : exitFarm s caller opt n a = some (s', o)) : ev s' = settleEv (ev s) := by
  obtain ⟨_, _, _, _, _, _, _, _, _, x⟩ := exitFarm_effect h
  obtain ⟨_, rfl⟩ := clearUserEnergyIfNeeded_spec x.tail
  exact ev_settled rfl rfl rfl

theorem mergeFarmTokens_ev {s s' : St} {caller : Nat} {opt : Option Nat} {pays : List (Nat × Nat)} {o : Out}
    (h : mergeFarmTokens s caller opt pays = some (s', o)) : ev s' = ev s := by
  obtain ⟨_, _, _, _, _, _, _, x⟩ := mergeFarmTokens_effect h
  obtain rfl := x.state
  rfl

theorem claimBoostedRewards_ev {s s' : St} {caller : Nat} {optUser : Option Nat} {o : Out}
    (h : claimBoostedRewards s caller optUser = some (s', o)) : ev s' = settleEv (ev s) := by
  obtain ⟨_, _, _, _, x⟩ := claimBoostedRewards_effect h
  obtain rfl := x.state
  exact ev_settled rfl rfl rfl

theorem settle_ev {s s' : St} (h : settle s = some s') : ev s' = settleEv (ev s) := by
  obtain ⟨_, rfl⟩ := settle_eq h
  exact ev_settled rfl rfl rfl

/-- the statement is a table over `Op` (through `Cfg.next`, `settles`, `Cfg.okOp`), so the proof
    starts from `step_some`, not from the classes of `step_step` -/
theorem step_budget {s s' : St} {op : Op} {o : Out} (h : step s op = some (s', o)) :
    (cfgOf s).okOp op ∧
    ev s' = ((cfgOf s).next op, s.generated + (if settles op then (cfgOf s).mint else 0),
      s.baseBudget + (if settles op then (cfgOf s).base else 0)) := by
  have hs := step_some h
  clear h
  cases op
  case enter =>
    obtain ⟨_, _, h⟩ := enterFarm_spec hs.2
    exact ⟨trivial, enterCore_ev h⟩
  case enterOB => exact ⟨trivial, enterCore_ev (enterFarmOnBehalf_spec hs.2).2.2⟩
  case claim =>
    obtain ⟨_, _, h⟩ := claimRewards_spec hs.2
    exact ⟨trivial, claimCore_ev h⟩
  case claimOB =>
    obtain ⟨_, _, _, h⟩ := claimRewardsOnBehalf_spec hs.2
    exact ⟨trivial, claimCore_ev h⟩
  case compound =>
    obtain ⟨_, _, _, h⟩ := compoundRewards_spec hs.2
    exact ⟨trivial, claimCore_ev h⟩
  case exit => exact ⟨trivial, exitFarm_ev hs.2⟩
  case merge => exact ⟨trivial, mergeFarmTokens_ev hs.2⟩
  case claimBoosted => exact ⟨trivial, claimBoostedRewards_ev hs.2⟩
  case transfer =>
    obtain ⟨_, _, _, _, _, _, rfl⟩ := transfer_some hs.2.2.1
    exact ⟨trivial, rfl⟩
  case setEnergy => rw [hs.1]; exact ⟨trivial, rfl⟩
  case updateEnergy =>
    obtain ⟨_, rfl⟩ := updateEnergyForUser_spec hs.1
    exact ⟨trivial, rfl⟩
  case setPerBlock c x =>
    obtain ⟨_, _, s1, h1, rfl⟩ := setPerBlock_some hs.1
    exact ⟨trivial, congrArg (fun v : Cfg × Nat × Nat => ({ v.1 with perBlock := x }, v.2)) (settle_ev h1)⟩
  case startProduce =>
    obtain ⟨_, _, hp, rfl⟩ := startProduce_some hs.1
    exact ⟨hp, rfl⟩
  case endProduce =>
    obtain ⟨_, s1, h1, rfl⟩ := endProduce_some hs.1
    exact ⟨trivial, congrArg (fun v : Cfg × Nat × Nat => ({ v.1 with produce := false }, v.2)) (settle_ev h1)⟩
  case setPct c p =>
    obtain ⟨_, hp, s1, h1, rfl⟩ := setPct_some hs.1
    exact ⟨hp, congrArg (fun v : Cfg × Nat × Nat => ({ v.1 with pct := p }, v.2)) (settle_ev h1)⟩
  case setFactors =>
    obtain ⟨_, _, _, _, _, _, _, rfl⟩ := setFactors_some hs.1
    exact ⟨trivial, rfl⟩
  case collect =>
    obtain ⟨_, _, _, _, rfl⟩ := collectUndistributed_some hs.1
    split <;> exact ⟨trivial, rfl⟩
  case pause =>
    obtain ⟨_, rfl⟩ := setActive_some hs.1
    exact ⟨trivial, rfl⟩
  case resume =>
    obtain ⟨_, rfl⟩ := setActive_some hs.1
    exact ⟨trivial, rfl⟩
  case setPenalty =>
    obtain ⟨_, _, rfl⟩ := setPenalty_some hs.1
    exact ⟨trivial, rfl⟩
  case setMinEpochs =>
    obtain ⟨_, _, rfl⟩ := setMinEpochs_some hs.1
    exact ⟨trivial, rfl⟩
  case hubWhitelist => rw [hs.2.1]; exact ⟨trivial, rfl⟩
  case hubRemove => rw [hs.2.1]; exact ⟨trivial, rfl⟩
  case hubBlacklist => rw [hs.1]; exact ⟨trivial, rfl⟩
  case scWhitelist => rw [hs.2.1]; exact ⟨trivial, rfl⟩
  case scUnwhitelist => rw [hs.2.1]; exact ⟨trivial, rfl⟩
  case advance => rw [hs.2.1]; exact ⟨hs.1.1, rfl⟩
  case bad => exact hs.elim

/-- the operations of a history that succeeded, in order (failed ones leave the state unchanged) -/
def succOps (s : St) : List Op → List Op
  | [] => []
  | op :: rest =>
    match step s op with
    | some r => op :: succOps r.1 rest
    | none => succOps s rest

def Cfg.run (c : Cfg) : List Op → Cfg
  | [] => c
  | op :: rest => (c.next op).run rest

/-- the base budget of a history, from the configuration trace alone: Σ over the settling
    operations of the base share of the emission pending at that moment -/
def Cfg.budget (c : Cfg) : List Op → Nat
  | [] => 0
  | op :: rest => (if settles op then c.base else 0) + (c.next op).budget rest

def Cfg.Ok (c : Cfg) : List Op → Prop
  | [] => True
  | op :: rest => c.okOp op ∧ (c.next op).Ok rest

theorem run_cons_some {s : St} {op : Op} {rest : List Op} {r : St × Out} (h : step s op = some r) :
    run s (op :: rest) = run r.1 rest := by
  simp only [run, List.foldl_cons, h]

theorem run_cons_none {s : St} {op : Op} {rest : List Op} (h : step s op = none) :
    run s (op :: rest) = run s rest := by
  simp only [run, List.foldl_cons, h]

theorem succOps_induction {P : St → List Op → St → Prop} (nil : ∀ s, P s [] s)
    (cons : ∀ {s op s' o l t}, step s op = some (s', o) → P s' l t → P s (op :: l) t)
    (ops : List Op) (s : St) : P s (succOps s ops) (run s ops) := by
  induction ops generalizing s with
  | nil => exact nil s
  | cons op rest ih =>
    cases hs : step s op with
    | none =>
      rw [run_cons_none hs]
      simp only [succOps, hs]
      exact ih s
    | some r =>
      rw [run_cons_some hs]
      simp only [succOps, hs]
      exact cons (show step s op = some (r.1, r.2) from hs) (ih r.1)

theorem run_succOps (ops : List Op) (s : St) : run s (succOps s ops) = run s ops :=
  succOps_induction (P := fun s l t => run s l = t) (fun _ => rfl)
    (fun hs ih => (run_cons_some hs).trans ih) ops s

theorem run_budget (ops : List Op) (s : St) :
    cfgOf (run s ops) = (cfgOf s).run (succOps s ops) ∧ (cfgOf s).Ok (succOps s ops) ∧
    (run s ops).baseBudget = s.baseBudget + (cfgOf s).budget (succOps s ops) := by
  refine succOps_induction (P := fun s l t => cfgOf t = (cfgOf s).run l ∧ (cfgOf s).Ok l ∧
    t.baseBudget = s.baseBudget + (cfgOf s).budget l) (fun _ => ⟨rfl, trivial, rfl⟩) ?_ ops s
  intro s op s' o l t hs ⟨b1, b2, b3⟩
  obtain ⟨a2, e⟩ := step_budget hs
  simp only [ev, Prod.mk.injEq] at e
  obtain ⟨a1, _, a3⟩ := e
  rw [a1] at b1 b2 b3
  refine ⟨b1, ⟨a2, b2⟩, ?_⟩
  rw [b3, a3]
  simp only [Cfg.budget]
  omega

/-- the base budget of a history as a function of the start state and the operations (it reads
    `step` only to decide which operations succeeded, never the counter `baseBudget`) -/
def budgetOf (s : St) (ops : List Op) : Nat := (cfgOf s).budget (succOps s ops)

def Cfg.WF (c : Cfg) : Prop := c.lastBlock ≤ c.block ∧ c.pct ≤ 10000

theorem sliceMint_zero (pb : Nat) (pr : Bool) : sliceMint pb pr 0 = 0 := by
  unfold sliceMint; split <;> simp

theorem sliceMint_add (pb : Nat) (pr : Bool) (d1 d2 : Nat) :
    sliceMint pb pr (d1 + d2) = sliceMint pb pr d1 + sliceMint pb pr d2 := by
  unfold sliceMint
  split
  · exact Nat.mul_add _ _ _
  · rfl

/-- Σ over the settlements of the emission settled -/
def Cfg.mintSum (c : Cfg) : List Op → Nat
  | [] => 0
  | op :: rest => (if settles op then c.mint else 0) + (c.next op).mintSum rest

/-- Σ over the settlements of `emission × (10000 − pct)` -/
def Cfg.mintSumS (c : Cfg) : List Op → Nat
  | [] => 0
  | op :: rest => (if settles op then c.mint * (10000 - c.pct) else 0) + (c.next op).mintSumS rest

def nSettle : List Op → Nat
  | [] => 0
  | op :: rest => (if settles op then 1 else 0) + nSettle rest

theorem Cfg.settled_eq {c : Cfg} (h : c.lastBlock ≤ c.block) :
    c.settled = { c with lastBlock := c.block } := by
  obtain ⟨pb, pr, p, L, b⟩ := c
  simp only [Cfg.settled]
  split
  · rfl
  · have hL : L = b := by simp only at h; omega
    subst hL; rfl

/-- three kinds of successful operations: the configuration stays (only `advance` moves the clock) |
    the operation only settles | it is one of the four of `changesCfg`, which begin an interval at the
    current block (`startProduce` is the one that does not settle: production is off before it) -/
theorem Cfg.next_class {c : Cfg} {op : Op} (hw : c.WF) (ho : c.okOp op) :
    (changesCfg op = false ∧ settles op = false ∧ (c.next op).perBlock = c.perBlock ∧
      (c.next op).produce = c.produce ∧ (c.next op).pct = c.pct ∧ (c.next op).lastBlock = c.lastBlock ∧
      c.block ≤ (c.next op).block) ∨
    (changesCfg op = false ∧ settles op = true ∧ c.next op = { c with lastBlock := c.block }) ∨
    (changesCfg op = true ∧ (c.next op).lastBlock = c.block ∧ (c.next op).block = c.block ∧
      (settles op = true ∨ (settles op = false ∧ c.produce = false)) ∧ (c.next op).pct ≤ 10000) := by
  have hs := Cfg.settled_eq hw.1
  have hl : c.settled.lastBlock = c.block := by rw [hs]
  have hp : c.settled.pct ≤ 10000 := hw.2
  cases op
  case advance b e => exact Or.inl ⟨rfl, rfl, rfl, rfl, rfl, rfl, ho⟩
  case startProduce cl => exact Or.inr (Or.inr ⟨rfl, rfl, rfl, Or.inr ⟨rfl, ho⟩, hw.2⟩)
  case setPerBlock cl x => exact Or.inr (Or.inr ⟨rfl, hl, rfl, Or.inl rfl, hp⟩)
  case setPct cl x => exact Or.inr (Or.inr ⟨rfl, hl, rfl, Or.inl rfl, ho⟩)
  case endProduce cl => exact Or.inr (Or.inr ⟨rfl, hl, rfl, Or.inl rfl, hp⟩)
  case enter | enterOB | claim | claimOB | compound | exit | claimBoosted =>
    exact Or.inr (Or.inl ⟨rfl, rfl, hs⟩)
  all_goals exact Or.inl ⟨rfl, rfl, rfl, rfl, rfl, rfl, Nat.le_refl _⟩

theorem Cfg.next_wf {c : Cfg} {op : Op} (hw : c.WF) (ho : c.okOp op) : (c.next op).WF := by
  rcases Cfg.next_class hw ho with ⟨_, _, _, _, k3, k4, k5⟩ | ⟨_, _, k⟩ | ⟨_, k1, k2, _, kp⟩
  · exact ⟨by rw [k4]; exact Nat.le_trans hw.1 k5, by rw [k3]; exact hw.2⟩
  · rw [k]; exact ⟨Nat.le_refl _, hw.2⟩
  · exact ⟨by rw [k1, k2], kp⟩

theorem sliceBase_scaled (pb : Nat) (pr : Bool) (p d : Nat) :
    10000 * sliceBase pb pr p d ≤ sliceMint pb pr d * (10000 - p) + 9999 ∧
    (p ≤ 10000 → sliceMint pb pr d * (10000 - p) ≤ 10000 * sliceBase pb pr p d) := by
  unfold sliceBase
  generalize sliceMint pb pr d = m
  by_cases hp : p ≤ 10000
  · have e : m * (10000 - p) + m * p = m * 10000 := by
      rw [← Nat.mul_add]; congr 1; omega
    generalize m * (10000 - p) = Y at *
    generalize m * p = X at *
    refine ⟨by omega, fun _ => by omega⟩
  · have e : m * 10000 ≤ m * p := Nat.mul_le_mul_left _ (by omega)
    generalize m * (10000 - p) = Y at *
    generalize m * p = X at *
    refine ⟨by omega, fun h => absurd h hp⟩

theorem Cfg.budget_le_mintSum (ops : List Op) (c : Cfg) : c.budget ops ≤ c.mintSum ops := by
  induction ops generalizing c with
  | nil => exact Nat.le_refl _
  | cons op rest ih =>
    simp only [Cfg.budget, Cfg.mintSum]
    have := ih (c.next op)
    have := c.base_le_mint
    split <;> omega

/-- scaled by 10000 to stay in `Nat`: the budget is at least the weighted settled emission and exceeds
    it by less than one unit per settlement -/
theorem Cfg.budget_scaled (ops : List Op) (c : Cfg) (hw : c.WF) (ho : c.Ok ops) :
    c.mintSumS ops ≤ 10000 * c.budget ops ∧
    10000 * c.budget ops ≤ c.mintSumS ops + 9999 * nSettle ops := by
  induction ops generalizing c with
  | nil => exact ⟨Nat.le_refl _, Nat.le_refl _⟩
  | cons op rest ih =>
    obtain ⟨b1, b2⟩ := ih (c.next op) (Cfg.next_wf hw ho.1) ho.2
    obtain ⟨c1, c2⟩ := sliceBase_scaled c.perBlock c.produce c.pct (c.block - c.lastBlock)
    have c2' := c2 hw.2
    have c1' : 10000 * c.base ≤ c.mint * (10000 - c.pct) + 9999 := c1
    have c2'' : c.mint * (10000 - c.pct) ≤ 10000 * c.base := c2'
    simp only [Cfg.mintSumS, Cfg.budget, nSettle]
    generalize c.mint * (10000 - c.pct) = Z at *
    split <;> omega

/-- an interval of constant configuration, with the number of blocks that elapsed in it -/
structure Ival where
  perBlock : Nat
  produce : Bool
  pct : Nat
  blocks : Nat
  deriving DecidableEq, Repr

def Cfg.ival (c : Cfg) (start : Nat) : Ival := ⟨c.perBlock, c.produce, c.pct, c.block - start⟩

/-- the intervals of a list of successful operations; `start` = block at which the current interval
    began.  A configuration change closes the current interval at the current block; the last
    interval reaches up to the current block (it includes blocks not yet settled). -/
def Cfg.intervals (c : Cfg) (start : Nat) : List Op → List Ival
  | [] => [c.ival start]
  | op :: rest =>
    if changesCfg op then c.ival start :: (c.next op).intervals c.block rest
    else (c.next op).intervals start rest

def Ival.emission (i : Ival) : Nat := sliceMint i.perBlock i.produce i.blocks
def Ival.emissionS (i : Ival) : Nat := sliceMint i.perBlock i.produce i.blocks * (10000 - i.pct)

def totalEmission (l : List Ival) : Nat := (l.map Ival.emission).sum
def totalEmissionS (l : List Ival) : Nat := (l.map Ival.emissionS).sum

theorem Cfg.mint_split {c : Cfg} {start : Nat} (hw : c.WF) (hs : start ≤ c.lastBlock) :
    sliceMint c.perBlock c.produce (c.block - start)
      = sliceMint c.perBlock c.produce (c.lastBlock - start) + c.mint := by
  have e : c.block - start = (c.lastBlock - start) + (c.block - c.lastBlock) := by have := hw.1; omega
  rw [e, sliceMint_add]; rfl

/-- the emission of the intervals, directly against the settlements: what the current interval (begun at
    `start`) has settled so far + Σ settled emission + pending at the end -/
theorem Cfg.intervals_mint (ops : List Op) (c : Cfg) (start : Nat) (hw : c.WF) (ho : c.Ok ops)
    (hs : start ≤ c.lastBlock) :
    totalEmission (c.intervals start ops)
      = sliceMint c.perBlock c.produce (c.lastBlock - start) + c.mintSum ops + (c.run ops).mint ∧
    totalEmissionS (c.intervals start ops)
      = sliceMint c.perBlock c.produce (c.lastBlock - start) * (10000 - c.pct) + c.mintSumS ops
        + (c.run ops).mint * (10000 - (c.run ops).pct) := by
  induction ops generalizing c start with
  | nil =>
    simp only [totalEmission, totalEmissionS, Cfg.intervals, Cfg.ival, Ival.emission, Ival.emissionS,
      Cfg.mintSum, Cfg.mintSumS, Cfg.run, List.map_cons, List.map_nil, List.sum_cons, List.sum_nil,
      Cfg.mint_split hw hs, Nat.add_mul, Nat.add_zero]
    exact ⟨trivial, trivial⟩
  | cons op rest ih =>
    have w1 := Cfg.next_wf hw ho.1
    have em := Cfg.mint_split hw hs
    rcases Cfg.next_class hw ho.1 with ⟨h1, h2, k1, k2, k3, k4, _⟩ | ⟨h1, h2, k⟩ | ⟨h1, k1, k2, h2, _⟩
    · obtain ⟨i1, i2⟩ := ih (c.next op) start w1 ho.2 (by rw [k4]; exact hs)
      simp only [Cfg.intervals, h1, Cfg.mintSum, Cfg.mintSumS, h2, Cfg.run, Bool.false_eq_true, if_false,
        Nat.zero_add]
      rw [i1, i2, k1, k2, k3, k4]
      exact ⟨rfl, rfl⟩
    · obtain ⟨i1, i2⟩ := ih (c.next op) start w1 ho.2 (by rw [k]; exact Nat.le_trans hs hw.1)
      simp only [Cfg.intervals, h1, Cfg.mintSum, Cfg.mintSumS, h2, Cfg.run, Bool.false_eq_true, if_false,
        if_true]
      rw [i1, i2, k]
      dsimp only
      rw [em, Nat.add_mul]
      exact ⟨by omega, by omega⟩
    · obtain ⟨i1, i2⟩ := ih (c.next op) c.block w1 ho.2 (by rw [k1])
      simp only [Cfg.intervals, h1, Cfg.mintSum, Cfg.mintSumS, Cfg.run, if_true, totalEmission, totalEmissionS,
        List.map_cons, List.sum_cons] at i1 i2 ⊢
      rw [i1, i2, k1, Nat.sub_self, sliceMint_zero]
      simp only [Cfg.ival, Ival.emission, Ival.emissionS, em, Nat.add_mul, Nat.zero_mul, Nat.zero_add]
      rcases h2 with h2 | ⟨h2, hp⟩
      · simp only [h2, if_true]
        exact ⟨by omega, by omega⟩
      · have hm : c.mint = 0 := by simp [Cfg.mint, sliceMint, hp]
        simp only [h2, Bool.false_eq_true, if_false, hm, Nat.zero_mul]
        exact ⟨by omega, by omega⟩

/-- base share of an interval if its boosted cut were floored ONCE for the whole interval, not once
    per settlement -/
def Ival.baseOneShot (i : Ival) : Nat := sliceBase i.perBlock i.produce i.pct i.blocks

def totalBaseOneShot (l : List Ival) : Nat := (l.map Ival.baseOneShot).sum

theorem sliceBase_zero (pb : Nat) (pr : Bool) (p : Nat) : sliceBase pb pr p 0 = 0 := by
  unfold sliceBase; rw [sliceMint_zero]; simp

theorem sliceBase_off (pb p d : Nat) : sliceBase pb false p d = 0 := by
  simp [sliceBase, sliceMint]

/-- a settlement in the middle of a stretch of blocks does not shrink the base share and adds at most
    one unit to it (`⌈a + b⌉ ≤ ⌈a⌉ + ⌈b⌉ ≤ ⌈a + b⌉ + 1`) -/
theorem sliceBase_add (pb : Nat) (pr : Bool) (p d1 d2 : Nat) (hp : p ≤ 10000) :
    sliceBase pb pr p (d1 + d2) ≤ sliceBase pb pr p d1 + sliceBase pb pr p d2 ∧
    sliceBase pb pr p d1 + sliceBase pb pr p d2 ≤ sliceBase pb pr p (d1 + d2) + 1 := by
  unfold sliceBase
  rw [sliceMint_add]
  generalize sliceMint pb pr d1 = m1
  generalize sliceMint pb pr d2 = m2
  rw [Nat.add_mul]
  have e1 : m1 * p ≤ m1 * 10000 := Nat.mul_le_mul_left _ hp
  have e2 : m2 * p ≤ m2 * 10000 := Nat.mul_le_mul_left _ hp
  generalize m1 * p = X1 at *
  generalize m2 * p = X2 at *
  omega

/-- Generalised for the induction: `A` is what the settlements of the CURRENT interval (begun at
    `start`) have added so far, `K` their number.  The one-shot base shares of the intervals are at
    most `A` + the budget of the remaining operations + the base share of what is pending at the end,
    and that exceeds them by at most one unit per settlement (plus one for the pending piece). -/
theorem Cfg.intervals_oneShot (ops : List Op) (c : Cfg) (start A K : Nat) (hw : c.WF) (ho : c.Ok ops)
    (hs : start ≤ c.lastBlock)
    (hA1 : sliceBase c.perBlock c.produce c.pct (c.lastBlock - start) ≤ A)
    (hA2 : A ≤ sliceBase c.perBlock c.produce c.pct (c.lastBlock - start) + K) :
    totalBaseOneShot (c.intervals start ops) ≤ A + c.budget ops + (c.run ops).base ∧
    A + c.budget ops + (c.run ops).base ≤ totalBaseOneShot (c.intervals start ops) + K + nSettle ops + 1 := by
  induction ops generalizing c start A K with
  | nil =>
    have hL := hw.1
    have e : c.block - start = (c.lastBlock - start) + (c.block - c.lastBlock) := by omega
    obtain ⟨s1, s2⟩ := sliceBase_add c.perBlock c.produce c.pct (c.lastBlock - start)
      (c.block - c.lastBlock) hw.2
    simp only [Cfg.intervals, totalBaseOneShot, List.map_cons, List.map_nil, List.sum_cons, List.sum_nil,
      Cfg.budget, Cfg.run, nSettle, Cfg.ival, Ival.baseOneShot, Cfg.base]
    rw [e]
    omega
  | cons op rest ih =>
    have hL := hw.1
    have w1 := Cfg.next_wf hw ho.1
    have e : c.block - start = (c.lastBlock - start) + (c.block - c.lastBlock) := by omega
    obtain ⟨s1, s2⟩ := sliceBase_add c.perBlock c.produce c.pct (c.lastBlock - start)
      (c.block - c.lastBlock) hw.2
    rw [← e] at s1 s2
    have hb : c.base = sliceBase c.perBlock c.produce c.pct (c.block - c.lastBlock) := rfl
    rcases Cfg.next_class hw ho.1 with ⟨h1, h2, k1, k2, k3, k4, _⟩ | ⟨h1, h2, k⟩ | ⟨h1, k1, k2, h2, _⟩
    · have := ih (c.next op) start A K w1 ho.2 (by rw [k4]; exact hs)
        (by rw [k1, k2, k3, k4]; exact hA1) (by rw [k1, k2, k3, k4]; exact hA2)
      simp only [Cfg.intervals, h1, Cfg.budget, h2, nSettle, Cfg.run, Bool.false_eq_true, if_false]
      omega
    · have := ih (c.next op) start (A + c.base) (K + 1) w1 ho.2
        (by rw [k]; exact Nat.le_trans hs hL)
        (by rw [k]; show sliceBase c.perBlock c.produce c.pct (c.block - start) ≤ A + c.base; omega)
        (by rw [k]; show A + c.base ≤ sliceBase c.perBlock c.produce c.pct (c.block - start) + (K + 1); omega)
      simp only [Cfg.intervals, h1, Cfg.budget, h2, nSettle, Cfg.run, Bool.false_eq_true, if_false, if_true]
      omega
    · have := ih (c.next op) c.block 0 0 w1 ho.2 (by rw [k1])
        (by rw [k1, Nat.sub_self, sliceBase_zero])
        (by rw [k1, Nat.sub_self, sliceBase_zero])
      have hi : (c.ival start).baseOneShot = sliceBase c.perBlock c.produce c.pct (c.block - start) := rfl
      simp only [Cfg.intervals, h1, Cfg.budget, nSettle, Cfg.run, if_true, totalBaseOneShot, List.map_cons,
        List.sum_cons, hi] at this ⊢
      rcases h2 with h2 | ⟨h2, hp⟩
      · simp only [h2, if_true]
        omega
      · simp only [h2, Bool.false_eq_true, if_false]
        rw [hp, sliceBase_off] at s1 s2 hA1 hA2 ⊢
        omega

theorem run_generated (ops : List Op) (s : St) :
    (run s ops).generated = s.generated + (cfgOf s).mintSum (succOps s ops) := by
  refine succOps_induction (P := fun s l t => t.generated = s.generated + (cfgOf s).mintSum l)
    (fun _ => rfl) ?_ ops s
  intro s op s' o l t hs b3
  have e := (step_budget hs).2
  simp only [ev, Prod.mk.injEq] at e
  obtain ⟨a1, a3, _⟩ := e
  rw [a1] at b3
  rw [b3, a3]
  simp only [Cfg.mintSum]
  omega

end Mx.Farm
