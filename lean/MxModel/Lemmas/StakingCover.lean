/-
  Boosted-pool conservation of the farm-staking model (boosted part of C05 `reserve_covers`):
  in every reachable state, for EVERY finite set of weeks `0 … N−1`,

      Σ_{w<N} (accumulatedRewardsForWeek w + remainingBoostedRewardsToDistribute w)
        + undistributedBoostedRewards + paidBoosted  ≤  boostedBudget

  (`boostedBudget` = Σ of the boosted cuts of all settlements, `paidBoosted` = Σ boosted rewards
  paid).  Life cycle of a cut: accumulated for the week it was generated in → frozen into
  `remaining` by the first eligible claim of that week (what `remaining` held before is
  overwritten) → paid out of `remaining`, or moved to `undistributed` by the admin collection.
  Every move keeps or lowers the left-hand side.

  Technique: the five cells form the view `bv s`, the relation `BLe` compares the left-hand side
  with the budget across a step; every endpoint is a composition of `BLe.gen` (settlement) and
  `BLe.claim` (`claim_multi` with the boosted hook), except the admin collection, which
  `collectWeeks_sum` handles.
-/
import MxModel.Lemmas.StakingPot
import MxModel.Lemmas.StakingBoosted
import MxModel.Lemmas.StakingInv

namespace Mx.Staking

open Mx.Weekly

def rsum (r : List (Tok × Nat)) : Nat := (r.map (·.2)).sum

theorem rsum_nil : rsum [] = 0 := rfl

theorem rsum_append (a b : List (Tok × Nat)) : rsum (a ++ b) = rsum a + rsum b := by
  simp [rsum, List.map_append, List.sum_append]

def psum (N : Nat) (acc rem : Nat → Nat) : Nat := usum (List.range N) (fun w => acc w + rem w)

theorem psum_succ (N : Nat) (acc rem : Nat → Nat) :
    psum (N + 1) acc rem = psum N acc rem + (acc N + rem N) := by
  simp only [psum, List.range_succ, usum_append, usum_cons, usum_nil, Nat.add_zero]

theorem psum_mono {N N' : Nat} (acc rem : Nat → Nat) (h : N ≤ N') : psum N acc rem ≤ psum N' acc rem := by
  induction h with
  | refl => exact Nat.le_refl _
  | step _ ih =>
    rw [psum_succ]
    exact Nat.le_trans ih (Nat.le_add_right _ _)

theorem psum_point {acc rem acc' rem' : Nat → Nat} {w x N : Nat}
    (h : ∀ k, acc' k + rem' k + (if w = k then x else 0) ≤ acc k + rem k) (hw : w < N) :
    psum N acc' rem' + x ≤ psum N acc rem := by
  have h1 := usum_le (l := List.range N) (f := fun k => acc' k + rem' k + (if w = k then x else 0))
    (g := fun k => acc k + rem k) (fun k _ => h k)
  have h2 := usum_single N w x (fun _ => 1) hw
  simp only [Nat.one_mul] at h2
  rw [usum_add (List.range N) (fun k => acc' k + rem' k), h2] at h1
  exact h1

theorem psum_le {acc rem acc' rem' : Nat → Nat} (N : Nat)
    (h : ∀ k, acc' k + rem' k ≤ acc k + rem k) : psum N acc' rem' ≤ psum N acc rem :=
  usum_le (fun k _ => h k)

theorem psum_upd_le (acc rem : Nat → Nat) (W x N : Nat) :
    psum N (upd acc W (acc W + x)) rem ≤ psum N acc rem + x := by
  have hk : ∀ k ∈ List.range N, k ≠ W → upd acc W (acc W + x) k + rem k = acc k + rem k :=
    fun k _ hk => by rw [upd_other _ _ hk]
  by_cases hW : W < N
  · have := usum_update List.nodup_range (List.mem_range.mpr hW) hk
    simp only [upd_same] at this
    unfold psum
    omega
  · have hN : ∀ k ∈ List.range N, k ≠ W := fun k hm e => hW (e ▸ List.mem_range.mp hm)
    exact Nat.le_trans (Nat.le_of_eq (usum_congr fun k hm => hk k hm (hN k hm))) (Nat.le_add_right _ _)

theorem boostedRewards_pool_le {c' : BCfg} {userFarm : Nat} {g g' : Weekly.St} {b b' : B}
    {week e E : Nat} {r : List (Tok × Nat)}
    (h : boostedRewards c' userFarm g b week e E = some (g', b', r)) (k : Nat) :
    b'.accumulated k + b'.remaining k + (if week = k then rsum r else 0)
      ≤ b.accumulated k + b.remaining k := by
  obtain ⟨hk, hoth, hr, -⟩ := boostedRewards_cell h
  by_cases e : week = k
  · subst e
    rw [if_pos rfl, rsum, hr]
    exact hk.le
  · have ec := hoth k (Ne.symm e)
    rw [if_neg e, Nat.add_zero, show b'.accumulated k = _ from congrArg Cell.acc ec,
      show b'.remaining k = _ from congrArg Cell.rem ec]
    exact Nat.le_refl _

theorem run_pool_le {c' : BCfg} {uf : Nat} {e E : Nat → Nat} {hi lo : Nat} {g g' : Weekly.St} {b b' : B}
    {r : List (Tok × Nat)} (h : HookRun (boostedRewards c' uf) e E hi lo g b g' b' r) {N : Nat}
    (hN : hi ≤ N) :
    psum N b'.accumulated b'.remaining + rsum r ≤ psum N b.accumulated b.remaining := by
  induction h with
  | done => exact Nat.le_refl _
  | week hlo call _ ih =>
    have i2 := psum_point (fun k => boostedRewards_pool_le call k) (Nat.lt_of_lt_of_le hlo hN)
    rw [rsum_append]
    omega

theorem claimBoostedYields_pool_le {s : St} {user farmAmt : Nat} {r : Weekly.St × B × Nat}
    (h : claimBoostedYields s user farmAmt = some r) :
    ∃ M, ∀ N, M ≤ N →
      psum N r.2.1.accumulated r.2.1.remaining + r.2.2 ≤ psum N s.b.accumulated s.b.remaining := by
  rcases claimBoostedYields_spec h with ⟨_, e1, e2, _⟩ | ⟨c, c', r', _, _, hr, rfl⟩
  · rw [e1, e2]
    exact ⟨0, fun N _ => Nat.le_refl _⟩
  · obtain ⟨g1, g2, _, hrun, _⟩ := (claimMulti_run (boostedRewards_frame c' farmAmt)).mp hr
    exact ⟨_, fun N hN => run_pool_le hrun hN⟩

/-- the cells the boosted-pool conservation talks about -/
structure BV where
  acc : Nat → Nat
  rem : Nat → Nat
  und : Nat
  paid : Nat
  budget : Nat

def bv (s : St) : BV := ⟨s.b.accumulated, s.b.remaining, s.undistributed, s.paidBoosted, s.boostedBudget⟩

def BV.phi (v : BV) (N : Nat) : Nat := psum N v.acc v.rem + v.und + v.paid

theorem BV.phi_mono (v : BV) {N N' : Nat} (h : N ≤ N') : v.phi N ≤ v.phi N' := by
  have := psum_mono v.acc v.rem h
  unfold BV.phi; omega

/-- `phi N` grows at most by what the budget grows — for all `N` beyond the weeks the step touched,
    which is enough because `phi` is monotone in `N` (`BoostOK.of_ble`) -/
def BLe (v v' : BV) : Prop := ∃ M, ∀ N, M ≤ N → v'.phi N + v.budget ≤ v.phi N + v'.budget

theorem BLe.refl (v : BV) : BLe v v := ⟨0, fun _ _ => Nat.le_refl _⟩

theorem BLe.trans {a b c : BV} (h1 : BLe a b) (h2 : BLe b c) : BLe a c := by
  obtain ⟨M1, k1⟩ := h1
  obtain ⟨M2, k2⟩ := h2
  refine ⟨max M1 M2, fun N hN => ?_⟩
  have := k1 N (by omega)
  have := k2 N (by omega)
  omega

def BoostOK (v : BV) : Prop := ∀ N, v.phi N ≤ v.budget

theorem BoostOK.of_ble {v v' : BV} (h : BoostOK v) (hle : BLe v v') : BoostOK v' := by
  intro N
  obtain ⟨M, hM⟩ := hle
  have h1 := hM (max N M) (by omega)
  have h2 := v'.phi_mono (show N ≤ max N M by omega)
  have h3 := h (max N M)
  omega

/-- a settlement adds the boosted cut to the current week's accumulated rewards and to the budget -/
theorem BLe.gen (v : BV) (W cut : Nat) :
    BLe v ⟨upd v.acc W (v.acc W + cut), v.rem, v.und, v.paid, v.budget + cut⟩ := by
  refine ⟨0, fun N _ => ?_⟩
  have := psum_upd_le v.acc v.rem W cut N
  simp only [BV.phi]
  omega

/-- a boosted claim moves what it pays from the pools to `paid` -/
theorem BLe.claim {t : St} {user farmAmt : Nat} {r : Weekly.St × B × Nat}
    (h : claimBoostedYields t user farmAmt = some r) (und paid budget : Nat) :
    BLe ⟨t.b.accumulated, t.b.remaining, und, paid, budget⟩
      ⟨r.2.1.accumulated, r.2.1.remaining, und, paid + r.2.2, budget⟩ := by
  obtain ⟨M, hM⟩ := claimBoostedYields_pool_le h
  refine ⟨M, fun N hN => ?_⟩
  have := hM N hN
  simp only [BV.phi]
  omega

/-- an endpoint with a claimer: its boosted claim, with a settlement before it, after it (stake) or
    not at all (merge) -/
theorem Claims.ble {s s' t : St} {u : Nat} {r : Weekly.St × B × Nat} (k : Claims s s' u t r) :
    BLe (bv s) (bv s') := by
  show BLe (bv s) ⟨s'.b.accumulated, s'.b.remaining, s'.undistributed, s'.paidBoosted, s'.boostedBudget⟩
  rw [k.und, k.paid]
  obtain ⟨fs, ⟨hb, hbud⟩ | ⟨rfl, hbud, hb⟩⟩ := k.b
  · rw [hb, hbud]
    rcases k.entry with rfl | rfl
    · exact BLe.claim k.claim _ _ _
    · exact (BLe.gen (bv s) s.week (genCut s (genTot s))).trans (BLe.claim k.claim _ _ _)
  · rw [hb, hbud]
    exact (BLe.claim k.claim _ _ _).trans (BLe.gen _ _ _)

theorem collectWeeks_sum : ∀ (n week : Nat) (rem : Nat → Nat) (und N : Nat), week + n ≤ N →
    usum (List.range N) (collectWeeks n week rem und).1 + (collectWeeks n week rem und).2
      = usum (List.range N) rem + und
  | 0, _, _, _, _, _ => rfl
  | n + 1, week, rem, und, N, h => by
      simp only [collectWeeks]
      rw [collectWeeks_sum n (week + 1) (upd rem week 0) (und + rem week) N (by omega)]
      have := usum_update (l := List.range N) List.nodup_range (u0 := week)
        (List.mem_range.mpr (by omega)) (f := rem) (g := upd rem week 0)
        (fun u _ hu => upd_other _ _ hu)
      rw [upd_same] at this
      omega

theorem bv_congr {s s' : St} (e : wb s' = wb s) : bv s' = bv s :=
  congrArg (fun v : WB => (⟨v.b.accumulated, v.b.remaining, v.und, v.paid, v.budget⟩ : BV)) e

theorem step_ble {s s' : St} {op : Op} {o : Out} (h : step s op = some (s', o)) :
    BLe (bv s) (bv s') := by
  cases step_kind h with
  | claim _ k => exact k.ble
  | same _ e | factors _ _ e | energy _ _ e | tick _ _ e => rw [bv_congr e]; exact BLe.refl _
  | settle _ e => rw [bv_congr e]; exact BLe.gen (bv s) s.week (genCut s (genTot s))
  | sweep _ h _ =>
    obtain ⟨-, -, ⟨-, rfl⟩ | ⟨-, rfl⟩⟩ := collectUndistributed_some h
    · exact BLe.refl _
    · refine ⟨s.lastCollectWeek + 1 + (s.week - (USER_MAX_CLAIM_WEEKS + 1) + 1 - (s.lastCollectWeek + 1)),
        fun N hN => ?_⟩
      have := collectWeeks_sum (s.week - (USER_MAX_CLAIM_WEEKS + 1) + 1 - (s.lastCollectWeek + 1))
        (s.lastCollectWeek + 1) s.b.remaining s.undistributed N hN
      simp only [BV.phi, bv, psum, usum_add] at this ⊢
      omega

/-- **boosted-pool conservation**: for every `N`,
    `Σ_{w<N}(accumulated w + remaining w) + undistributed + paidBoosted ≤ boostedBudget` -/
def BoostInv (s : St) : Prop := BoostOK (bv s)

theorem boostInv_init (epoch block dsc maxApr minUnbond perBlock : Nat) (accts wl : List Nat) :
    BoostInv (init epoch block dsc maxApr minUnbond perBlock accts wl) := by
  intro N
  show psum N (fun _ => 0) (fun _ => 0) + 0 + 0 ≤ 0
  have : psum N (fun _ => 0) (fun _ => 0) = 0 := usum_zero (fun _ _ => rfl)
  rw [this]

theorem step_boostInv {s s' : St} {op : Op} {o : Out} (hI : BoostInv s) (h : step s op = some (s', o)) :
    BoostInv s' :=
  BoostOK.of_ble hI (step_ble h)

theorem run_boostInv (ops : List Op) {s : St} (hI : BoostInv s) : BoostInv (run s ops) :=
  run_induction step_boostInv ops hI

theorem BoostInv.explicit {s : St} (h : BoostInv s) (N : Nat) :
    ((List.range N).map fun w => s.b.accumulated w + s.b.remaining w).sum
      + s.undistributed + s.paidBoosted ≤ s.boostedBudget := h N

/-- reserve = unspent base budget + unspent boosted budget, both subtractions exact -/
theorem reserve_split {s : St} (hI : Inv s) (hP : PotInv s) (hB : BoostInv s) (hd : 0 < s.dsc) :
    s.paidBase ≤ s.baseBudget ∧ s.paidBoosted ≤ s.boostedBudget ∧
    s.reserve = (s.baseBudget - s.paidBase) + (s.boostedBudget - s.paidBoosted) := by
  have h1 := hP.paid_le hd
  have h2 : 0 + s.undistributed + s.paidBoosted ≤ s.boostedBudget := hB 0
  have h3 := hI.res_eq
  have h4 := hI.budget
  refine ⟨h1, by omega, by omega⟩

/-- **the reserve covers** everything claimable: whatever fits into the base budget beside the base
    rewards already paid (`X`: the claimable base rewards, with one floor per nonce or one per
    holding), the boosted pools of the weeks `< N` (accumulated and frozen), and the undistributed
    boosted rewards -/
theorem cover_of {s : St} (hI : Inv s) (hB : BoostInv s) {X : Nat}
    (hX : X + s.paidBase ≤ s.baseBudget) (N : Nat) :
    X + ((List.range N).map fun w => s.b.accumulated w + s.b.remaining w).sum
      + s.undistributed ≤ s.reserve := by
  have h2 := hB.explicit N
  have h3 := hI.res_eq
  have h4 := hI.budget
  omega

theorem reachable_cover (epoch block dsc maxApr minUnbond perBlock : Nat) (accts wl : List Nat)
    (ops : List Op) (hd : 0 < dsc) :
    let s := run (init epoch block dsc maxApr minUnbond perBlock accts wl) ops
    Inv s ∧ PotInv s ∧ BoostInv s ∧ 0 < s.dsc :=
  ⟨run_inv ops (inv_init epoch block dsc maxApr minUnbond perBlock accts wl),
    run_potInv ops (posInv_init epoch block dsc maxApr minUnbond perBlock accts wl)
      (potInv_init epoch block dsc maxApr minUnbond perBlock accts wl),
    run_boostInv ops (boostInv_init epoch block dsc maxApr minUnbond perBlock accts wl),
    by rw [run_dsc]; exact hd⟩

end Mx.Staking
