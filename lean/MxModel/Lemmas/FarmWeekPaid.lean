/-
  The week budget WITH payments (finding F6, last clause of C05), farm world:

      for every week w inside the four-week claim window that is FROZEN with pool R_w
      (`totalRewardsForWeek(w) = [(REW, R_w)]`):
          remaining(w) + paidW(w) = R_w                                             (frozen-pool accounting)
          WeekBudget fa_w R_w F_w E_w (paidW w) (Σ_v eForP v w) (Σ_v fFor v w)       (budget)

  where `fa_w` = the factors in force for `w` (`BCfg.facFor`), `F_w = farmSupplyForWeek(w)`,
  `E_w = totalEnergyForWeek(w)`, and the two sums range over the users that can still claim `w`
  (their energy decayed to `w`; their CURRENT total farm position).  `WeekBudget.sub_ok` then says
  that the checked subtraction `remaining_boosted_rewards_to_distribute(w) -= user_reward` of
  `get_user_rewards_for_week` cannot fail, and `WeekBudget.pay` that the budget survives the payment.

  As in Lemmas/FeesLedger.lean the relation (`PaidRel`) is stated w.r.t. an arbitrary progress table:
  inside `claim_multi` the claimer's entry is tracked "virtually" as the loop's advancing progress
  (`LoopInv`).  Freezing a week starts the budget from the energy half `EB` and the position half
  `WeekPos` (`WeekBudget.init`), which is why the boosted claim needs all three invariants
  (`WkV.Budget`); that the reward hook SUCCEEDS for every week of the claimer's window is read off
  `boostedRewards_none_iff`, so the boosted claim succeeds as soon as the weekly module's global
  update does (`claimBoostedYields_total`).

  Factors.  `cE + cF ≠ 0` is needed (`get_user_rewards_for_week` divides by it): `setFactors` only
  installs factors with `0 < cE ∨ 0 < cF`, so every stored config has it (`PMV.Ok.wf`); `GoodOps` states the
  same of a history: the run-level statements of Props/C05Budget.lean and C11Amounts.lean carry it as a
  hypothesis, and no proof uses it.  The factors of a claimable
  week never change while it is claimable (`facFor_update`: `BoostedYieldsConfig::update` only
  shifts the ring).
-/
import MxModel.Lemmas.FarmWeekPos
import MxModel.Lemmas.FarmEnergy
import MxModel.Lemmas.FarmWeekSafe
import MxModel.Lemmas.FarmCfgInv

namespace Mx.Farm

open Mx.Weekly (upd upd_same upd_other Energy ClaimProgress usum usum_le usum_le_of_move usum_move_le
  usersAfter newOf eForP eForP_some eForP_upd_other eForP_settled eForP_upTo)

/-- energy a progress entry can still be paid with for week `w` -/
def entryE (p : ClaimProgress) (w : Nat) : Nat :=
  if p.week ≤ w then (p.energy.after (w - p.week)).getEnergyAmount else 0

theorem eForP_upd_same (prog : Nat → Option ClaimProgress) (u0 : Nat) (p : ClaimProgress) (w : Nat) :
    eForP (upd prog u0 (some p)) u0 w = entryE p w :=
  eForP_some (upd_same _ _ _) w

theorem entryE_self (p : ClaimProgress) : entryE p p.week = p.energy.getEnergyAmount := by
  simp [entryE]

theorem entryE_advanceWeek (p : ClaimProgress) (w : Nat) :
    entryE p.advanceWeek w = if p.week + 1 ≤ w then entryE p w else 0 := by
  rw [ClaimProgress.advanceWeek_eq]
  unfold entryE
  simp only
  by_cases h : p.week + 1 ≤ w
  · have h' : p.week ≤ w := by omega
    simp only [h, h', if_true, Energy.after_after]
    congr 2; omega
  · simp [h]

theorem fFor_some {prog : Nat → Option ClaimProgress} {tot : Nat → Nat} {u : Nat} {p : ClaimProgress}
    (h : prog u = some p) (w : Nat) : fFor prog tot u w = if p.week ≤ w then tot u else 0 := by
  unfold fFor; rw [h]

theorem fFor_upd_same (prog : Nat → Option ClaimProgress) (tot : Nat → Nat) (u0 : Nat) (p : ClaimProgress)
    (w : Nat) : fFor (upd prog u0 (some p)) tot u0 w = if p.week ≤ w then tot u0 else 0 :=
  fFor_some (upd_same _ _ _) w

theorem eSum_advance_le (prog : Nat → Option ClaimProgress) (users : List Nat) (u0 : Nat)
    (p : ClaimProgress) (w : Nat) :
    usum users (fun u => eForP (upd prog u0 (some p.advanceWeek)) u w) ≤
      usum users (fun u => eForP (upd prog u0 (some p)) u w) :=
  usum_le_of_move (fun u hu => by rw [eForP_upd_other _ _ _ hu, eForP_upd_other _ _ _ hu])
    (by rw [eForP_upd_same, eForP_upd_same, entryE_advanceWeek]; split <;> omega)

theorem fSum_advance_le (prog : Nat → Option ClaimProgress) (users : List Nat) (tot : Nat → Nat)
    (u0 : Nat) (p : ClaimProgress) (w : Nat) :
    usum users (fun u => fFor (upd prog u0 (some p.advanceWeek)) tot u w) ≤
      usum users (fun u => fFor (upd prog u0 (some p)) tot u w) :=
  usum_le_of_move (fun u hu => by rw [fFor_upd_other _ _ _ _ hu, fFor_upd_other _ _ _ _ hu]) (by
    have hpw : p.advanceWeek.week = p.week + 1 := by rw [ClaimProgress.advanceWeek_eq]
    rw [fFor_upd_same, fFor_upd_same, hpw]
    split <;> split <;> omega)

/-- the factors in force for week `w` according to a stored config: the ring entry for a week before
    `last_update_week`, the latest factors for `last_update_week` and every week since -/
def BCfg.facFor (c : BCfg) (w : Nat) : Option Factors :=
  if w < c.lastUpdateWeek then c.factorsForWeek w else some c.latest

theorem facFor_update {c c' : BCfg} {W w : Nat} {new : Option Factors} (hw : WF c)
    (h : c.update W new = some c') (h1 : w < W) (h2 : W < w + 5) :
    c'.factorsForWeek w = c.facFor w ∧ c'.facFor w = c.facFor w := by
  have hL := (BCfg.update_wf hw h).2
  have e : c'.factorsForWeek w = c.facFor w := by
    unfold BCfg.facFor
    split
    · rename_i hlt
      exact factorsForWeek_update_old hw h hlt h2
    · rename_i hge
      exact factorsForWeek_update_gap hw h (by omega) h1 h2
  refine ⟨e, ?_⟩
  have : c'.facFor w = c'.factorsForWeek w := by
    unfold BCfg.facFor; rw [hL, if_pos h1]
  rw [this, e]

theorem ring_update {P : Factors → Prop} {c c' : BCfg} {W : Nat} {new : Option Factors} (hw : WF c)
    (h : c.update W new = some c') (hP : ∀ fa ∈ c.ring, P fa) (hnew : ∀ f, new = some f → P f) :
    ∀ fa ∈ c'.ring, P fa := by
  obtain ⟨_, rfl⟩ := BCfg.update_shift h
  exact fun fa hfa => (Ring.mem_shift hw.latest hfa).elim (hP fa) (hnew fa)

theorem facFor_mem {c : BCfg} (hw : WF c) {w : Nat} {fa : Factors} (h : c.facFor w = some fa) :
    fa ∈ c.ring := by
  obtain ⟨L, f0, f1, f2, f3, f4, rfl⟩ := hw.exists_ring
  unfold BCfg.facFor at h
  split at h
  · simp only [BCfg.factorsForWeek, Option.bind_eq_bind, Option.bind_eq_some_iff, req_eq_some] at h
    obtain ⟨_, _, _, _, h⟩ := h
    exact List.mem_of_getElem? h
  · simp only [Option.some.injEq] at h
    subst h
    simp [BCfg.latest, RING]

theorem facFor_some {c : BCfg} (hw : WF c) {w W : Nat} (hL : c.lastUpdateWeek ≤ W) (h2 : W < w + 5) :
    ∃ fa, c.facFor w = some fa := by
  unfold BCfg.facFor
  split
  · rename_i hlt
    exact factorsForWeek_defined hw hlt (by omega)
  · exact ⟨_, rfl⟩

/-- the frozen pool of a week (0 while not frozen) -/
def rOf (l : List (Weekly.Tok × Nat)) : Nat :=
  match l with
  | [(_, R)] => R
  | _ => 0

@[simp] theorem rOf_nil : rOf [] = 0 := rfl
@[simp] theorem rOf_single (t : Weekly.Tok) (R : Nat) : rOf [(t, R)] = R := rfl

theorem rOf_pos {l : List (Weekly.Tok × Nat)} (h : rOf l ≠ 0) : ∃ tok R, l = [(tok, R)] := by
  match l, h with
  | [], h => exact absurd rfl h
  | [(t, R)], _ => exact ⟨t, R, rfl⟩
  | _ :: _ :: _, h => exact absurd rfl h

/-- frozen-pool accounting and the week budget for the weeks `W − 4 … W − 1`, w.r.t. a progress table
    `prog`, a key list `users`, the totals `tot`, the factors `fac`, and the cells
    `TR = totalRewardsForWeek`, `TE = totalEnergyForWeek`, `F = farmSupplyForWeek`,
    `paid = paidW` (ghost), `rem = remainingBoostedRewardsToDistribute` -/
structure PaidRel (prog : Nat → Option ClaimProgress) (users : List Nat) (tot : Nat → Nat)
    (fac : Nat → Option Factors) (W : Nat) (TR : Nat → List (Weekly.Tok × Nat))
    (TE F paid rem : Nat → Nat) : Prop where
  shape : ∀ w, W ≤ w + 4 → TR w = [] ∨ ∃ R, TR w = [(REW, R)]
  fresh : ∀ w, W ≤ w → TR w = []
  unfrozen : ∀ w, W ≤ w + 4 → TR w = [] → paid w = 0 ∧ rem w = 0
  frozen : ∀ w R, W ≤ w + 4 → TR w = [(REW, R)] → rem w + paid w = R
  budget : ∀ w, W ≤ w + 4 → w < W → TE w ≠ 0 → F w ≠ 0 → ∀ fa, fac w = some fa →
    WeekBudget fa (rOf (TR w)) (F w) (TE w) (paid w)
      (usum users fun u => eForP prog u w) (usum users fun u => fFor prog tot u w)

/-- `hE` is what `Weekly.WeekStep.energy` gives: the global update keeps a completed week's total energy or clears it -/
theorem PaidRel.mono {prog prog' : Nat → Option ClaimProgress} {users users' : List Nat}
    {tot tot' : Nat → Nat} {fac fac' : Nat → Option Factors} {W : Nat}
    {TR : Nat → List (Weekly.Tok × Nat)} {TE TE' F F' paid rem : Nat → Nat}
    (h : PaidRel prog users tot fac W TR TE F paid rem)
    (hE : ∀ w, w < W → TE' w = TE w ∨ TE' w = 0)
    (hF : ∀ w, w < W → F' w = F w)
    (hfac : ∀ w, W ≤ w + 4 → w < W → fac' w = fac w)
    (hsE : ∀ w, W ≤ w + 4 → w < W →
      usum users' (fun u => eForP prog' u w) ≤ usum users (fun u => eForP prog u w))
    (hsF : ∀ w, W ≤ w + 4 → w < W →
      usum users' (fun u => fFor prog' tot' u w) ≤ usum users (fun u => fFor prog tot u w)) :
    PaidRel prog' users' tot' fac' W TR TE' F' paid rem := by
  refine ⟨h.shape, h.fresh, h.unfrozen, h.frozen, ?_⟩
  intro w hw1 hw2 hTE hFw fa hfa
  rw [hF w hw2] at hFw ⊢
  rw [hfac w hw1 hw2] at hfa
  rcases hE w hw2 with e | e
  · rw [e] at hTE ⊢
    exact (h.budget w hw1 hw2 hTE hFw fa hfa).mono (hsE w hw1 hw2) (hsF w hw1 hw2)
  · exact absurd e hTE

theorem PaidRel.congr {prog : Nat → Option ClaimProgress} {users : List Nat} {tot : Nat → Nat}
    {fac : Nat → Option Factors} {W : Nat} {TR TR' : Nat → List (Weekly.Tok × Nat)}
    {TE F paid rem paid' rem' : Nat → Nat}
    (h : PaidRel prog users tot fac W TR TE F paid rem)
    (hTR : ∀ w, W ≤ w + 4 → TR' w = TR w) (hp : ∀ w, W ≤ w + 4 → paid' w = paid w)
    (hr : ∀ w, W ≤ w + 4 → rem' w = rem w) :
    PaidRel prog users tot fac W TR' TE F paid' rem' := by
  refine ⟨fun w hw => by rw [hTR w hw]; exact h.shape w hw,
    fun w hw => by rw [hTR w (by omega)]; exact h.fresh w hw,
    fun w hw hn => by rw [hTR w hw] at hn; rw [hp w hw, hr w hw]; exact h.unfrozen w hw hn,
    fun w R hw hf => by rw [hTR w hw] at hf; rw [hp w hw, hr w hw]; exact h.frozen w R hw hf,
    fun w hw1 hw2 hE hF fa hfa => by rw [hTR w hw1, hp w hw1]; exact h.budget w hw1 hw2 hE hF fa hfa⟩

theorem PaidRel.freeze {prog : Nat → Option ClaimProgress} {users : List Nat} {tot : Nat → Nat}
    {fac : Nat → Option Factors} {W wk R : Nat} {TR TR' : Nat → List (Weekly.Tok × Nat)}
    {TE F paid rem rem' : Nat → Nat}
    (h : PaidRel prog users tot fac W TR TE F paid rem)
    (hw1 : W ≤ wk + 4) (hw2 : wk < W) (hnil : TR wk = [])
    (hTRw : TR' wk = [(REW, R)]) (hTRo : ∀ w, w ≠ wk → TR' w = TR w)
    (hrw : rem' wk = R) (hro : ∀ w, w ≠ wk → rem' w = rem w)
    (heb : TE wk = 0 ∨ usum users (fun u => eForP prog u wk) ≤ TE wk)
    (hpb : F wk = 0 ∨ usum users (fun u => fFor prog tot u wk) ≤ F wk) :
    PaidRel prog users tot fac W TR' TE F paid rem' := by
  have hp0 := (h.unfrozen wk hw1 hnil).1
  refine ⟨?_, ?_, ?_, ?_, ?_⟩
  · intro w hw
    by_cases e : w = wk
    · subst e; exact Or.inr ⟨R, hTRw⟩
    · rw [hTRo w e]; exact h.shape w hw
  · intro w hw
    have e : w ≠ wk := by omega
    rw [hTRo w e]; exact h.fresh w hw
  · intro w hw hn
    by_cases e : w = wk
    · subst e; rw [hTRw] at hn; cases hn
    · rw [hTRo w e] at hn; rw [hro w e]; exact h.unfrozen w hw hn
  · intro w R' hw hf
    by_cases e : w = wk
    · subst e
      rw [hTRw] at hf
      simp only [List.cons.injEq, Prod.mk.injEq, and_true, true_and] at hf
      rw [hrw, hp0, hf]; rfl
    · rw [hTRo w e] at hf; rw [hro w e]; exact h.frozen w R' hw hf
  · intro w hwa hwb hE hF fa hfa
    by_cases e : w = wk
    · subst e
      rw [hTRw, rOf_single, hp0]
      apply WeekBudget.init
      · rcases heb with hz | hb
        · exact absurd hz hE
        · exact hb
      · rcases hpb with hz | hb
        · exact absurd hz hF
        · exact hb
    · rw [hTRo w e]; exact h.budget w hwa hwb hE hF fa hfa

theorem PaidRel.skip {prog : Nat → Option ClaimProgress} {users : List Nat} {tot : Nat → Nat}
    {fac : Nat → Option Factors} {W u0 : Nat} {p : ClaimProgress}
    {TR : Nat → List (Weekly.Tok × Nat)} {TE F paid rem : Nat → Nat}
    (h : PaidRel (upd prog u0 (some p)) users tot fac W TR TE F paid rem) :
    PaidRel (upd prog u0 (some p.advanceWeek)) users tot fac W TR TE F paid rem :=
  h.mono (fun _ _ => Or.inl rfl) (fun _ _ => rfl) (fun _ _ _ => rfl)
    (fun w _ _ => eSum_advance_le prog users u0 p w) (fun w _ _ => fSum_advance_le prog users tot u0 p w)

theorem PaidRel.pay {prog : Nat → Option ClaimProgress} {users : List Nat} {tot : Nat → Nat}
    {fac : Nat → Option Factors} {W R amt u0 : Nat} {p : ClaimProgress} {fa : Factors}
    {TR : Nat → List (Weekly.Tok × Nat)} {TE F paid rem : Nat → Nat}
    (h : PaidRel (upd prog u0 (some p)) users tot fac W TR TE F paid rem) (hnd : users.Nodup)
    (hu0 : u0 ∈ users) (hw1 : W ≤ p.week + 4) (hTR : TR p.week = [(REW, R)])
    (hfa : fac p.week = some fa)
    (hamt : amt = boostedAmount fa R (fFor (upd prog u0 (some p)) tot u0 p.week) (F p.week)
      (eForP (upd prog u0 (some p)) u0 p.week) (TE p.week))
    (hle : amt ≤ rem p.week) :
    PaidRel (upd prog u0 (some p.advanceWeek)) users tot fac W TR TE F
      (upd paid p.week (paid p.week + amt)) (upd rem p.week (rem p.week - amt)) := by
  have hfr := h.frozen p.week R hw1 hTR
  refine ⟨h.shape, h.fresh, ?_, ?_, ?_⟩
  · intro w hw hn
    have e : w ≠ p.week := by rintro rfl; rw [hTR] at hn; cases hn
    rw [upd_other _ _ e, upd_other _ _ e]; exact h.unfrozen w hw hn
  · intro w R' hw hf
    by_cases e : w = p.week
    · subst e
      rw [hTR] at hf
      simp only [List.cons.injEq, Prod.mk.injEq, and_true, true_and] at hf
      rw [upd_same, upd_same]; omega
    · rw [upd_other _ _ e, upd_other _ _ e]; exact h.frozen w R' hw hf
  · intro w hwa hwb hEw hFw fa' hfa'
    by_cases e : w = p.week
    · subst e
      obtain rfl : fa = fa' := Option.some.inj (hfa.symm.trans hfa')
      rw [upd_same, hTR, rOf_single]
      have hB := h.budget p.week hwa hwb hEw hFw fa hfa
      rw [hTR, rOf_single] at hB
      have hB' := hB.pay (Weekly.le_usum (f := fun u => eForP (upd prog u0 (some p)) u p.week) hu0)
        (Weekly.le_usum (f := fun u => fFor (upd prog u0 (some p)) tot u p.week) hu0)
      rw [← hamt] at hB'
      -- the sums lose exactly `u0`'s summand
      refine hB'.mono ?_ ?_
      · have hup := Weekly.usum_update hnd hu0 (f := fun u => eForP (upd prog u0 (some p)) u p.week)
          (g := fun u => eForP (upd prog u0 (some p.advanceWeek)) u p.week)
          (fun u _ hne => by rw [eForP_upd_other _ _ _ hne, eForP_upd_other _ _ _ hne])
        simp only [eForP_upd_same _ _ p.advanceWeek, entryE_advanceWeek, Nat.not_succ_le_self, if_false,
          Nat.add_zero] at hup
        omega
      · have hup := Weekly.usum_update hnd hu0 (f := fun u => fFor (upd prog u0 (some p)) tot u p.week)
          (g := fun u => fFor (upd prog u0 (some p.advanceWeek)) tot u p.week)
          (fun u _ hne => by rw [fFor_upd_other _ _ _ _ hne, fFor_upd_other _ _ _ _ hne])
        have hz : fFor (upd prog u0 (some p.advanceWeek)) tot u0 p.week = 0 := by
          rw [fFor_upd_same, ClaimProgress.advanceWeek_eq]; exact if_neg (Nat.not_succ_le_self _)
        simp only [hz, Nat.add_zero] at hup
        omega
    · rw [upd_other _ _ e]
      exact (h.skip.budget w hwa hwb hEw hFw fa' hfa')

/-- the checked subtraction `remaining_boosted_rewards_to_distribute(wk) -= user_reward` cannot fail for a claimer of
    the frozen week `wk` -/
theorem PaidRel.sub_ok {prog : Nat → Option ClaimProgress} {users : List Nat} {tot : Nat → Nat}
    {fac : Nat → Option Factors} {W wk R u0 : Nat} {fa : Factors}
    {TR : Nat → List (Weekly.Tok × Nat)} {TE F paid rem : Nat → Nat}
    (h : PaidRel prog users tot fac W TR TE F paid rem) (hu0 : u0 ∈ users)
    (hw1 : W ≤ wk + 4) (hw2 : wk < W) (hTR : TR wk = [(REW, R)]) (hfa : fac wk = some fa)
    (hc : fa.cE + fa.cF ≠ 0) (hE : TE wk ≠ 0) (hF : F wk ≠ 0) :
    boostedAmount fa R (fFor prog tot u0 wk) (F wk) (eForP prog u0 wk) (TE wk) ≤ rem wk := by
  have hB := h.budget wk hw1 hw2 hE hF fa hfa
  rw [hTR, rOf_single] at hB
  exact hB.sub_ok (Weekly.le_usum (f := fun u => eForP prog u wk) hu0)
    (Weekly.le_usum (f := fun u => fFor prog tot u wk) hu0) hc hE hF (h.frozen wk R hw1 hTR)

/-- invariant of the claim loop of `u0` in week `W`: the relation w.r.t. the VIRTUAL table in which
    `u0`'s entry is `q`, where the claimer stands, plus the two bounds a freeze starts from -/
structure LoopInv (prog : Nat → Option ClaimProgress) (users : List Nat) (tot : Nat → Nat)
    (fac : Nat → Option Factors) (u0 W : Nat) (g : Weekly.St) (c : BSt) (q : ClaimProgress) : Prop where
  rel : PaidRel (upd prog u0 (some q)) users tot fac W g.totalRewards g.totalEnergy
    c.farmSupplyWeek c.paidW c.remaining
  eb : ∀ w, w < W → g.totalEnergy w = 0 ∨
    usum users (fun u => eForP (upd prog u0 (some q)) u w) ≤ g.totalEnergy w
  pb : ∀ w, w < W → c.farmSupplyWeek w = 0 ∨
    usum users (fun u => fFor (upd prog u0 (some q)) tot u w) ≤ c.farmSupplyWeek w

theorem collect_paidRel {prog : Nat → Option ClaimProgress} {users : List Nat} {tot : Nat → Nat}
    {fac : Nat → Option Factors} {u0 W : Nat} {mem : BCfg} {g : Weekly.St} {c : BSt} {q : ClaimProgress}
    {g1 : Weekly.St} {c1 : BSt} {l : List (Weekly.Tok × Nat)}
    (hI : LoopInv prog users tot fac u0 W g c q) (hlo : W ≤ q.week + 4) (hhi : q.week < W)
    (hcg : Weekly.collectAndGet (collectBoosted mem) g c q.week = (g1, c1, l)) :
    ∃ R, l = [(REW, R)] ∧ g1.totalRewards q.week = [(REW, R)] ∧
      PaidRel (upd prog u0 (some q)) users tot fac W g1.totalRewards g.totalEnergy
        c.farmSupplyWeek c.paidW c1.remaining := by
  obtain ⟨hcase, hoth, hpw, _, _, hfsw, hfr⟩ := collectAndGet_boosted hcg
  rcases hcase with ⟨hemp, hl, ht, _, hr, _⟩ | ⟨hne, rfl, rfl, hl⟩
  · refine ⟨c.accum q.week, hl, ht, ?_⟩
    exact hI.rel.freeze hlo hhi (List.isEmpty_iff.mp hemp) ht (fun w hw => (hoth w hw).1) hr
      (fun w hw => (hoth w hw).2.2) (hI.eb _ hhi) (hI.pb _ hhi)
  · rcases hI.rel.shape q.week hlo with hnil | ⟨R, hR⟩
    · rw [hnil] at hne; simp at hne
    · exact ⟨R, by rw [hl, hR], hR, hI.rel⟩

theorem claimSingle_loopInv {prog : Nat → Option ClaimProgress} {users : List Nat} {tot : Nat → Nat}
    {fac : Nat → Option Factors} {u0 W : Nat} {mem : BCfg} {g : Weekly.St} {c : BSt} {q : ClaimProgress}
    (hnd : users.Nodup) (hu0 : u0 ∈ users)
    (hfac : ∀ w, W ≤ w + 4 → w < W →
      ∃ fa, mem.factorsForWeek w = some fa ∧ fac w = some fa ∧ fa.cE + fa.cF ≠ 0)
    (hI : LoopInv prog users tot fac u0 W g c q) (hlo : W ≤ q.week + 4) (hhi : q.week < W) :
    ∃ g' c' r, boostedRewards mem (tot u0) g c q.week q.energy.getEnergyAmount (g.totalEnergy q.week) =
        some (g', c', r) ∧ LoopInv prog users tot fac u0 W g' c' q.advanceWeek := by
  obtain ⟨fa, hmf, hff, hgood⟩ := hfac q.week hlo hhi
  have heq0 : eForP (upd prog u0 (some q)) u0 q.week = q.energy.getEnergyAmount := by
    rw [eForP_upd_same]; exact entryE_self _
  have hfq0 : fFor (upd prog u0 (some q)) tot u0 q.week = tot u0 := by
    rw [fFor_upd_same]; simp
  -- the two bounds a freeze starts from survive the advance of `u0`'s entry
  have heb' : ∀ w, w < W → g.totalEnergy w = 0 ∨
      usum users (fun u => eForP (upd prog u0 (some q.advanceWeek)) u w) ≤ g.totalEnergy w :=
    fun w hw => (hI.eb w hw).imp_right (Nat.le_trans (eSum_advance_le prog users u0 q w))
  have hpb' : ∀ w, w < W → c.farmSupplyWeek w = 0 ∨
      usum users (fun u => fFor (upd prog u0 (some q.advanceWeek)) tot u w) ≤ c.farmSupplyWeek w :=
    fun w hw => (hI.pb w hw).imp_right (Nat.le_trans (fSum_advance_le prog users tot u0 q w))
  -- the reward function does not abort
  cases hr : boostedRewards mem (tot u0) g c q.week q.energy.getEnergyAmount
      (g.totalEnergy q.week) with
  | none =>
    exfalso
    obtain ⟨hE, hF, hcase⟩ := (boostedRewards_none_iff _ _ _ _ _ _ _).mp hr
    rcases hcase with hnone | ⟨fa', hfa', _, _, hbad⟩
    · rw [hmf] at hnone; cases hnone
    · rw [hmf] at hfa'
      simp only [Option.some.injEq] at hfa'
      subst hfa'
      dsimp only at hbad
      generalize hcg : Weekly.collectAndGet (collectBoosted mem) g c q.week = x at hbad
      obtain ⟨g1, c1, l⟩ := x
      obtain ⟨R, hl, hT, hrel⟩ := collect_paidRel hI hlo hhi hcg
      simp only at hbad
      rcases hbad with ⟨p, q, l', hmal⟩ | ⟨tok, R', hl', _, hc0 | ⟨_, hlt⟩⟩
      · rw [hl] at hmal; cases hmal
      · exact hgood hc0
      · rw [hl] at hl'
        simp only [List.cons.injEq, Prod.mk.injEq, and_true] at hl'
        obtain ⟨_, rfl⟩ := hl'
        have := hrel.sub_ok hu0 hlo hhi hT hff hgood hE hF
        rw [heq0, hfq0] at this
        omega
  | some x =>
    obtain ⟨g', c', r⟩ := x
    refine ⟨g', c', r, rfl, ?_⟩
    · rcases boostedRewards_cases hr with ⟨_, rfl, rfl⟩ | ⟨fa', c1, l, hfa', hE, hF, _, _, hcg, hrest⟩
      · -- early exit: nothing touched
        exact ⟨hI.rel.skip, heb', hpb'⟩
      · rw [hmf] at hfa'
        simp only [Option.some.injEq] at hfa'
        subst hfa'
        obtain ⟨R, hl, hT, hrel⟩ := collect_paidRel hI hlo hhi hcg
        obtain ⟨_, _, hpw, _, _, hfsw, hfr⟩ := collectAndGet_boosted hcg
        have hTE : g'.totalEnergy = g.totalEnergy := hfr.totalEnergy
        rcases hrest with ⟨_, rfl⟩ | ⟨tok, R', hl', _, _, _, hle, _, rfl⟩
        · -- collected / read, nothing paid
          refine ⟨?_, by rw [hTE]; exact heb', by rw [hfsw]; exact hpb'⟩
          show PaidRel _ users tot fac W g'.totalRewards g'.totalEnergy c'.farmSupplyWeek c'.paidW
            c'.remaining
          rw [hTE, hfsw, hpw]
          exact hrel.skip
        · -- paid
          rw [hl] at hl'
          simp only [List.cons.injEq, Prod.mk.injEq, and_true] at hl'
          obtain ⟨_, rfl⟩ := hl'
          have hpb2 : ∀ w, w < W → c1.farmSupplyWeek w = 0 ∨
              usum users (fun u => fFor (upd prog u0 (some q.advanceWeek)) tot u w) ≤
                c1.farmSupplyWeek w := by rw [hfsw]; exact hpb'
          refine ⟨?_, by rw [hTE]; exact heb', hpb2⟩
          show PaidRel _ users tot fac W g'.totalRewards g'.totalEnergy c1.farmSupplyWeek
            (upd c1.paidW q.week (c1.paidW q.week + _)) (upd c1.remaining q.week (c1.remaining q.week - _))
          rw [hTE, hfsw, hpw]
          exact hrel.pay hnd hu0 hlo hT hff (by rw [heq0, hfq0]) hle

theorem run_loopInv {prog : Nat → Option ClaimProgress} {users : List Nat} {tot : Nat → Nat}
    {fac : Nat → Option Factors} {u0 W : Nat} {mem : BCfg} {p0 : ClaimProgress} (hnd : users.Nodup)
    (hu0 : u0 ∈ users) (hp0 : prog u0 = some p0)
    (hfac : ∀ w, W ≤ w + 4 → w < W →
      ∃ fa, mem.factorsForWeek w = some fa ∧ fac w = some fa ∧ fa.cE + fa.cF ≠ 0) {E : Nat → Nat} :
    ∀ (n : Nat) {lo : Nat} {g : Weekly.St} {c : BSt}, p0.week ≤ lo → lo + n = W → W ≤ lo + 4 →
      g.totalEnergy = E → LoopInv prog users tot fac u0 W g c (p0.upTo lo) →
      ∃ g' c' r, Weekly.HookRun (boostedRewards mem (tot u0)) (eForP prog u0) E W lo g c g' c' r ∧
        LoopInv prog users tot fac u0 W g' c' (p0.upTo W)
  | 0, lo, g, c, _, hw, _, _, hI => by
    subst hw
    exact ⟨g, c, [], .done, hI⟩
  | n + 1, lo, g, c, hle, hw, h4, hE, hI => by
    obtain ⟨g1, c1, r, hr, hI1⟩ := claimSingle_loopInv (mem := mem) hnd hu0 hfac hI h4 (by
      show lo < W; omega)
    rw [p0.upTo_advanceWeek hle] at hI1
    have he : (p0.upTo lo).energy.getEnergyAmount = eForP prog u0 lo := by
      rw [eForP_some hp0]; exact (if_pos hle).trans rfl |>.symm
    rw [ClaimProgress.upTo_week, he, hE] at hr
    obtain ⟨g', c', rs, hrun, hI'⟩ := run_loopInv hnd hu0 hp0 hfac n (Nat.le_succ_of_le hle)
      (by omega) (by omega) ((boostedRewards_frame _ _ _ _ _ _ _ _ _ _ hr).totalEnergy.trans hE) hI1
    exact ⟨g', c', r ++ rs, .week (by omega) hr hrun, hI'⟩

theorem fFor_upTo_le (prog : Nat → Option ClaimProgress) (tot : Nat → Nat) {u0 : Nat} {p : ClaimProgress}
    (hp : prog u0 = some p) {lo : Nat} (h : p.week ≤ lo) (w : Nat) :
    fFor (upd prog u0 (some (p.upTo lo))) tot u0 w ≤ fFor prog tot u0 w := by
  rw [fFor_upd_same, fFor_some hp, ClaimProgress.upTo_week]
  split
  · rw [if_pos (by omega)]
  · exact Nat.zero_le _

def facAt (cfg : Option BCfg) (w : Nat) : Option Factors :=
  match cfg with
  | some c => c.facFor w
  | none => none

/-- the cells the invariant reads -/
structure PMV where
  progress : Nat → Option ClaimProgress
  wusers : List Nat
  total : Nat → Nat
  cfg : Option BCfg
  TR : Nat → List (Weekly.Tok × Nat)
  TE : Nat → Nat
  fsw : Nat → Nat
  paid : Nat → Nat
  rem : Nat → Nat
  epoch : Nat
  fws : Nat
  /-- `lastGlobalUpdateWeek` of the weekly module -/
  lgw : Nat

def pmv (s : St) : PMV :=
  ⟨s.w.progress, s.w.users, s.userTotal, s.b.cfg, s.w.totalRewards, s.w.totalEnergy, s.b.farmSupplyWeek,
    s.b.paidW, s.b.remaining, s.epoch, s.firstWeekStart, s.w.lastGlobalUpdateWeek⟩

/-- the budget-with-payments invariant in week `W`, on the view -/
structure PMV.Ok (v : PMV) (W : Nat) : Prop where
  week : Weekly.weekOf v.epoch v.fws = some W
  wf : ∀ c, v.cfg = some c → WF c ∧ c.lastUpdateWeek ≤ W ∧ ∀ fa ∈ c.ring, fa.cE + fa.cF ≠ 0
  /-- no week is frozen before the first configuration: lets `setFactors` install it under any factors
      (`PaidRel.refac`) -/
  noCfg : v.cfg = none → ∀ w, W ≤ w + 4 → v.TR w = []
  rel : PaidRel v.progress v.wusers v.total (facAt v.cfg) W v.TR v.TE v.fsw v.paid v.rem
  lgw : v.lgw ≤ W

def PM (s : St) (W : Nat) : Prop := (pmv s).Ok W

def PaidInv (s : St) : Prop := ∀ W, s.week = some W → PM s W

def WkV.pmv (v : WkV) : PMV :=
  ⟨v.w.progress, v.w.users, v.total, v.b.cfg, v.w.totalRewards, v.w.totalEnergy, v.b.farmSupplyWeek,
    v.b.paidW, v.b.remaining, v.epoch, v.fws, v.w.lastGlobalUpdateWeek⟩

theorem PM.week_eq {s : St} {W W' : Nat} (h : PM s W) (h' : s.week = some W') : W' = W := by
  have : s.week = some W := h.week
  rw [this] at h'
  simp only [Option.some.injEq] at h'
  exact h'.symm

theorem PaidRel.touch {prog : Nat → Option ClaimProgress} {users : List Nat} {tot : Nat → Nat}
    {fac : Nat → Option Factors} {W u : Nat} {o : Option ClaimProgress}
    {TR TR' : Nat → List (Weekly.Tok × Nat)} {TE TE' F paid rem : Nat → Nat}
    (h : PaidRel prog users tot fac W TR TE F paid rem)
    (hTR : ∀ w, W ≤ w + 4 → TR' w = TR w) (hTE : ∀ w, w ≠ W → TE' w = TE w ∨ TE' w = 0)
    (ho : ∀ p, o = some p → W ≤ p.week) :
    PaidRel (upd prog u o) (usersAfter users u o) tot fac W TR' TE' F paid rem := by
  have hs : ∀ p, upd prog u o u = some p → W ≤ p.week := fun p hp => ho p (by rw [upd_same] at hp; exact hp)
  refine (h.congr hTR (fun _ _ => rfl) (fun _ _ => rfl)).mono (fun w hw => hTE w (by omega))
    (fun _ _ => rfl) (fun _ _ _ => rfl) (fun w _ hw => ?_) (fun w _ hw => ?_)
  · exact usum_move_le (fun x hx => eForP_upd_other _ _ _ hx w) (eForP_settled hs hw)
  · exact usum_move_le (fun x hx => fFor_upd_other _ _ _ _ hx w) (fFor_settled hs hw)

theorem PaidRel.setTotal {prog : Nat → Option ClaimProgress} {users : List Nat} {tot tot' : Nat → Nat}
    {fac : Nat → Option Factors} {W : Nat} {TR : Nat → List (Weekly.Tok × Nat)} {TE F paid rem : Nat → Nat}
    (h : PaidRel prog users tot fac W TR TE F paid rem)
    (ht : ∀ x, tot' x ≤ tot x ∨ ∀ p, prog x = some p → W ≤ p.week) :
    PaidRel prog users tot' fac W TR TE F paid rem := by
  exact h.mono (fun _ _ => Or.inl rfl) (fun _ _ => rfl) (fun _ _ _ => rfl)
    (fun _ _ _ => Nat.le_refl _) (fun w _ hw => usum_le fun x _ => fFor_setTotal_le (ht x) hw)

/-- time passes: weeks that enter the window were never frozen -/
theorem PaidRel.advance {prog : Nat → Option ClaimProgress} {users : List Nat} {tot : Nat → Nat}
    {fac : Nat → Option Factors} {W W' : Nat} {TR : Nat → List (Weekly.Tok × Nat)}
    {TE F paid rem : Nat → Nat}
    (h : PaidRel prog users tot fac W TR TE F paid rem) (hW : W ≤ W') :
    PaidRel prog users tot fac W' TR TE F paid rem := by
  refine ⟨fun w hw => h.shape w (by omega), fun w hw => h.fresh w (by omega),
    fun w hw => h.unfrozen w (by omega), fun w R hw => h.frozen w R (by omega), ?_⟩
  intro w hw1 hw2 hE hF fa hfa
  by_cases hlt : w < W
  · exact h.budget w (by omega) hlt hE hF fa hfa
  · have hnil := h.fresh w (by omega)
    have hp := (h.unfrozen w (by omega) hnil).1
    rw [hnil, hp, rOf_nil]
    unfold WeekBudget
    simp

/-- `claim_multi` over the farm's reward function succeeds as soon as the weekly module's global update does; the
    relation it keeps is w.r.t. the factors of the config the claim STARTED from (`cfg.facFor`), whichever of the
    two configs is stored afterwards -/
theorem claimMulti_paid {s : St} {u W : Nat} {cfg mem : BCfg} {g1 : Weekly.St}
    (hP : PM s W) (hWI : WInv s) (hWP : WeekPos s)
    (hcfg : s.b.cfg = some cfg) (hmem : cfg.update W none = some mem)
    (h1 : Weekly.updateUserEnergyForCurrentWeek s.w W (Energy.queried (s.energy u) s.epoch)
      (s.w.progress u) = some g1) :
    ∃ g' c' r, Weekly.claimMulti (boostedRewards mem (s.userTotal u)) s.w s.b u W
        (Energy.queried (s.energy u) s.epoch) = some (g', c', r) ∧
      (c'.cfg = some cfg ∨ c'.cfg = some mem) ∧ g'.lastGlobalUpdateWeek = W ∧
      PaidRel g'.progress g'.users s.userTotal cfg.facFor W g'.totalRewards g'.totalEnergy
        c'.farmSupplyWeek c'.paidW c'.remaining := by
  generalize hcur : Energy.queried (s.energy u) s.epoch = cur at *
  obtain ⟨hWF, hL, hgood⟩ := hP.wf cfg hcfg
  have hWk : s.week = some W := hP.week
  have st := Weekly.updateUser_weekStep h1
  have hfac : ∀ w, W ≤ w + 4 → w < W →
      ∃ fa, mem.factorsForWeek w = some fa ∧ cfg.facFor w = some fa ∧ fa.cE + fa.cF ≠ 0 := by
    intro w hw1 hw2
    obtain ⟨fa, hfa⟩ := facFor_some hWF hL (show W < w + 5 by omega)
    exact ⟨fa, by rw [(facFor_update hWF hmem hw2 (by omega)).1]; exact hfa, hfa,
      hgood fa (facFor_mem hWF hfa)⟩
  have hrel0 : PaidRel s.w.progress s.w.users s.userTotal cfg.facFor W s.w.totalRewards
      s.w.totalEnergy s.b.farmSupplyWeek s.b.paidW s.b.remaining := by
    have := hP.rel
    rw [show facAt (pmv s).cfg = cfg.facFor from congrArg facAt hcfg] at this
    exact this
  -- the loop invariant after the global update, for any entry `q` of the claimer that claims no
  -- more than the stored one for the completed weeks
  have hstart : ∀ q : ClaimProgress,
      (∀ w, w < W → eForP (upd s.w.progress u (some q)) u w ≤ eForP s.w.progress u w) →
      (∀ w, w < W → fFor (upd s.w.progress u (some q)) s.userTotal u w ≤
        fFor s.w.progress s.userTotal u w) →
      LoopInv s.w.progress s.w.users s.userTotal cfg.facFor u W g1 s.b q := by
    intro q hqe hqf
    have hsE : ∀ w, w < W → usum s.w.users (fun x => eForP (upd s.w.progress u (some q)) x w) ≤
        usum s.w.users (fun x => eForP s.w.progress x w) := fun w hw =>
      usum_le_of_move (fun x hx => eForP_upd_other _ _ _ hx w) (hqe w hw)
    have hsF : ∀ w, w < W →
        usum s.w.users (fun x => fFor (upd s.w.progress u (some q)) s.userTotal x w) ≤
        usum s.w.users (fun x => fFor s.w.progress s.userTotal x w) := fun w hw =>
      usum_le_of_move (fun x hx => fFor_upd_other _ _ _ _ hx w) (hqf w hw)
    refine ⟨?_, hWI.2.after_update st fun x w hw => Weekly.eForP_upd_le hqe x hw, fun w hw => ?_⟩
    · exact (hrel0.congr (fun w hw => (st.rewards w).resolve_right fun e => by omega) (fun _ _ => rfl)
        (fun _ _ => rfl)).mono (fun w hw => (st.energy w (by omega)).imp_right And.left)
        (fun _ _ => rfl) (fun _ _ _ => rfl) (fun w _ hw => hsE w hw) (fun w _ hw => hsF w hw)
    · exact (hWP.past W hWk w hw).imp_right (Nat.le_trans (hsF w hw))
  -- the hook runs over the claimer's window (no week at all for a new user)
  obtain ⟨g2, c', r, q, hrun, hI'⟩ : ∃ g2 c' r q,
      Weekly.HookRun (boostedRewards mem (s.userTotal u)) (eForP s.w.progress u) s.w.totalEnergy W
        (Weekly.claimFrom (s.w.progress u) W) g1 s.b g2 c' r ∧
      LoopInv s.w.progress s.w.users s.userTotal cfg.facFor u W g2 c' q := by
    cases hq : s.w.progress u with
    | none =>
      have hs : ∀ p, upd s.w.progress u (some ⟨cur, W⟩) u = some p → W ≤ p.week := fun p hp =>
        Nat.le_of_eq (congrArg ClaimProgress.week (Option.some.inj ((upd_same _ _ _).symm.trans hp)))
      exact ⟨g1, s.b, [], ⟨cur, W⟩, .done, hstart _
        (fun w hw => Nat.le_of_eq (eForP_settled hs hw) |>.trans (Nat.zero_le _))
        (fun w hw => Nat.le_of_eq (fFor_settled hs hw) |>.trans (Nat.zero_le _))⟩
    | some p0 =>
      have hle : Weekly.claimFrom (some p0) W ≤ W :=
        Weekly.claimFrom_le fun p hp => Option.some.inj hp ▸ Weekly.updateUser_week_le (hq ▸ h1)
      have h3 := Weekly.le_claimFrom_some p0 W
      have h4 := Weekly.le_claimFrom (some p0) W
      obtain ⟨g2, c', r, hrun, hI⟩ := run_loopInv (mem := mem) hWP.nodup (Weekly.GInv.mem_users hWI.1 hq)
        hq hfac (W - Weekly.claimFrom (some p0) W) h3 (by omega) h4 rfl
        (hstart _ (fun w hw => by rw [eForP_upTo hq h3]; split <;> omega)
          (fun w hw => fFor_upTo_le _ _ hq h3 w))
      exact ⟨g2, c', r, _, hrun.congr fun w _ h2 => ⟨rfl, (st.window h2 (by omega)).1.symm⟩, hI⟩
  have fr := hrun.frame (boostedRewards_frame _ _)
  refine ⟨Weekly.setProgress g2 u (newOf cur W), c', r,
    (Weekly.claimMulti_run (boostedRewards_frame _ _)).mpr ⟨g1, g2, h1, hrun, rfl⟩,
    hrun.pres (fun _ c => c.cfg = some cfg ∨ c.cfg = some mem)
      (fun _ _ _ _ _ _ _ _ hr hp => (boostedRewards_eff hr).cfg.elim (fun e => e ▸ hp) Or.inr)
      (Or.inl hcfg),
    fr.lgw.trans st.lgw, ?_⟩
  show PaidRel (upd g2.progress u (newOf cur W)) (usersAfter g2.users u (newOf cur W)) s.userTotal
    cfg.facFor W g2.totalRewards g2.totalEnergy c'.farmSupplyWeek c'.paidW c'.remaining
  rw [fr.progress, st.progress, fr.users, st.users]
  have := hI'.rel.touch (u := u) (o := newOf cur W) (fun _ _ => rfl) (fun _ _ => Or.inl rfl)
    (fun p hp => Nat.le_of_eq (Weekly.newOf_week p hp).symm)
  rw [Weekly.upd_upd] at this
  exact this

theorem PMV.Ok.touch {v : WkV} {W u : Nat} {g : Weekly.St} {cur : Energy} (hP : v.pmv.Ok W)
    (h : Weekly.Touch v.w g u W cur) : (WkV.pmv { v with w := g }).Ok W := by
  obtain ⟨g1, h1, rfl⟩ := h
  have st := Weekly.updateUser_weekStep h1
  have hfrR : ∀ w, W ≤ w + 4 → g1.totalRewards w = v.w.totalRewards w :=
    fun w hw => (st.rewards w).resolve_right fun e => by omega
  refine ⟨hP.week, hP.wf, fun hn w hw => ?_, ?_, Nat.le_of_eq st.lgw⟩
  · show g1.totalRewards w = []
    rw [hfrR w hw]; exact hP.noCfg hn w hw
  · show PaidRel (upd g1.progress u _) (usersAfter g1.users u _) v.total (facAt v.b.cfg) W
      g1.totalRewards g1.totalEnergy v.b.farmSupplyWeek v.b.paidW v.b.remaining
    rw [st.progress, st.users]
    exact hP.rel.touch hfrR (fun w hw => (st.energy w hw).imp_right And.left)
      fun p hp => Nat.le_of_eq (Weekly.newOf_week p hp).symm

theorem claimBoostedYields_pm {s s' : St} {u r W : Nat} (hP : PM s W) (hWI : WInv s) (hWP : WeekPos s)
    (h : claimBoostedYields s u = some (s', r)) : PM s' W := by
  cases hc : s.b.cfg with
  | none =>
    obtain ⟨W', g, hW', hg, rfl⟩ := updateEnergyAndProgress_some (claimBoostedYields_none_spec hc h).2
    obtain rfl := hP.week_eq hW'
    exact PMV.Ok.touch (v := wk s) hP (Weekly.updateEnergyAndProgress_iff.mp hg)
  | some cfg =>
    obtain ⟨W', mem, g', c', rl, hW', hmem, hx, hs', _⟩ := claimBoostedYields_some_of_cfg hc h
    obtain rfl := hP.week_eq hW'
    obtain ⟨g1, _, h1, _⟩ := (Weekly.claimMulti_run (boostedRewards_frame _ _)).mp hx
    obtain ⟨g'', c'', r'', hx', hcfg', hlg, hrel⟩ := claimMulti_paid hP hWI hWP hc hmem h1
    rw [hx] at hx'
    simp only [Option.some.injEq, Prod.mk.injEq] at hx'
    obtain ⟨rfl, rfl, _⟩ := hx'
    obtain ⟨hWF, hL, hgood⟩ := hP.wf cfg hc
    obtain ⟨hWF', hL'⟩ := BCfg.update_wf hWF hmem
    have hgood' := ring_update (P := fun fa => fa.cE + fa.cF ≠ 0) hWF hmem hgood
      (fun f hf => by cases hf)
    subst hs'
    refine ⟨hP.week, ?_, ?_, ?_, (by show g'.lastGlobalUpdateWeek ≤ W'; rw [hlg])⟩
    · intro c hcc
      have hcc' : c'.cfg = some c := hcc
      rcases hcfg' with e | e
      · rw [e] at hcc'; simp only [Option.some.injEq] at hcc'; subst hcc'; exact ⟨hWF, hL, hgood⟩
      · rw [e] at hcc'; simp only [Option.some.injEq] at hcc'; subst hcc'
        exact ⟨hWF', Nat.le_of_eq hL', hgood'⟩
    · intro hn
      have hn' : c'.cfg = none := hn
      rcases hcfg' with e | e <;> rw [e] at hn' <;> cases hn'
    · show PaidRel g'.progress g'.users s.userTotal (facAt c'.cfg) W' g'.totalRewards g'.totalEnergy
        c'.farmSupplyWeek c'.paidW c'.remaining
      refine hrel.mono (fun _ _ => Or.inl rfl) (fun _ _ => rfl) (fun w hw1 hw2 => ?_)
        (fun _ _ _ => Nat.le_refl _) (fun _ _ _ => Nat.le_refl _)
      rcases hcfg' with e | e
      · rw [e]; rfl
      · rw [e]; exact (facFor_update hWF hmem hw2 (by omega)).2

theorem PaidRel.refac {prog : Nat → Option ClaimProgress} {users : List Nat} {tot : Nat → Nat}
    {fac fac' : Nat → Option Factors} {W : Nat} {TR : Nat → List (Weekly.Tok × Nat)}
    {TE F paid rem : Nat → Nat}
    (h : PaidRel prog users tot fac W TR TE F paid rem) (hnil : ∀ w, W ≤ w + 4 → TR w = []) :
    PaidRel prog users tot fac' W TR TE F paid rem := by
  refine ⟨h.shape, h.fresh, h.unfrozen, h.frozen, ?_⟩
  intro w hw1 hw2 hE hF fa hfa
  have hn := hnil w hw1
  have hp := (h.unfrozen w hw1 hn).1
  rw [hn, hp, rOf_nil]
  unfold WeekBudget
  simp

theorem init_paidInv (kind : Kind) (sameTok : Bool) (dsc perBlock : Nat) (produce : Bool) (users : List Nat)
    (e0 : Nat) : PaidInv (init kind sameTok dsc perBlock produce users e0) := by
  intro W hW
  refine ⟨hW, fun c hc => (by cases hc), fun _ _ _ => rfl, ?_, (by show (0 : Nat) ≤ W; exact Nat.zero_le _)⟩
  refine ⟨fun _ _ => Or.inl rfl, fun _ _ => rfl, fun _ _ _ => ⟨rfl, rfl⟩, fun w R _ hf => (by cases hf), ?_⟩
  intro w _ _ _ _ fa hfa
  cases hfa

theorem Move.pm {v v' : WkV} {d d' W : Nat} (m : Move v d v' d') (hW : v.week = some W)
    (hWI : Weekly.GInv v.w ∧ Weekly.EB v.w) (hWP : v.wv.Inv) (hP : v.pmv.Ok W) : v'.pmv.Ok W := by
  have hwk : ∀ {W'}, v.week = some W' → W' = W := fun h => Option.some.inj (h.symm.trans hW)
  cases m with
  | gen _ hb => rcases hb with ⟨_, rfl⟩ | ⟨_, _, rfl⟩ <;> exact hP
  | claim hv h =>
    subst hv
    rw [← claim_wk h]
    exact claimBoostedYields_pm hP hWI hWP h
  | totals hW' ht =>
    obtain rfl := hwk hW'
    exact ⟨hP.week, hP.wf, hP.noCfg, PaidRel.setTotal hP.rel ht, hP.lgw⟩
  | touch hW' h =>
    obtain rfl := hwk hW'
    exact hP.touch h
  | record x hW' =>
    obtain rfl := hwk hW'
    refine ⟨hP.week, hP.wf, hP.noCfg, ?_, hP.lgw⟩
    exact hP.rel.mono (fun _ _ => Or.inl rfl)
      (fun w hw => upd_other _ _ (Nat.ne_of_lt hw))
      (fun _ _ _ => rfl) (fun _ _ _ => Nat.le_refl _) (fun _ _ _ => Nat.le_refl _)
  | @setFactors W' f c' hW' hpos hc' =>
    obtain rfl := hwk hW'
    -- `hpos`: `set_boosted_yields_factors` requires `user_rewards_energy_const > 0 || user_rewards_farm_const > 0`
    have hf : f.cE + f.cF ≠ 0 := by omega
    cases hc : v.b.cfg with
    | some cfg =>
      rw [hc] at hc'
      obtain ⟨hWF, hL, hg⟩ := hP.wf cfg hc
      obtain ⟨hWF', hL'⟩ := BCfg.update_wf hWF hc'
      have hg' := ring_update (P := fun fa => fa.cE + fa.cF ≠ 0) hWF hc' hg
        (fun f' hf' => by simp only [Option.some.injEq] at hf'; subst hf'; exact hf)
      refine ⟨hP.week, ?_, ?_, ?_, hP.lgw⟩
      · intro c2 hc2
        obtain rfl : c' = c2 := Option.some.inj hc2
        exact ⟨hWF', Nat.le_of_eq hL', hg'⟩
      · intro hn; cases hn
      · have hr : PaidRel v.w.progress v.w.users v.total (facAt v.b.cfg) W' v.w.totalRewards
          v.w.totalEnergy v.b.farmSupplyWeek v.b.paidW v.b.remaining := hP.rel
        rw [hc] at hr
        exact hr.mono (fun _ _ => Or.inl rfl) (fun _ _ => rfl)
          (fun w hw1 hw2 => (facFor_update hWF hc' hw2 (by omega)).2)
          (fun _ _ _ => Nat.le_refl _) (fun _ _ _ => Nat.le_refl _)
    | none =>
      rw [hc] at hc'
      subst hc'
      refine ⟨hP.week, ?_, ?_, ?_, hP.lgw⟩
      · intro c2 hc2
        obtain rfl : BCfg.new W' f = c2 := Option.some.inj hc2
        refine ⟨BCfg.new_wf W' f, Nat.le_refl _, fun fa hfa => ?_⟩
        rw [List.eq_of_mem_replicate hfa]; exact hf
      · intro hn; cases hn
      · exact PaidRel.refac hP.rel (hP.noCfg hc)
  | _ => exact hP

/-- the three invariants of the weekly budget on the view, in week `W` -/
structure WkV.Budget (v : WkV) (W : Nat) : Prop where
  week : v.week = some W
  wi : Weekly.GInv v.w ∧ Weekly.EB v.w
  wp : v.wv.Inv
  pm : v.pmv.Ok W

theorem Move.budget {v v' : WkV} {d d' W : Nat} (m : Move v d v' d') (h : v.Budget W) : v'.Budget W :=
  ⟨m.week.trans h.week, m.winv h.wi, m.weekPos h.wp, m.pm h.week h.wi h.wp h.pm⟩

/-- a collection only empties pools of weeks that have left the claim window -/
theorem PMV.Ok.collect {v v' : WkV} {W : Nat} (hP : v.pmv.Ok W) (h : Collects v v' W) : v'.pmv.Ok W := by
  obtain ⟨b', u', rfl, k⟩ := h.weeks
  refine ⟨hP.week, fun c2 hc2 => hP.wf c2 (k.cfg.symm.trans hc2), fun hn => hP.noCfg (k.cfg.symm.trans hn), ?_,
    hP.lgw⟩
  show PaidRel v.w.progress v.w.users v.total (facAt b'.cfg) W v.w.totalRewards v.w.totalEnergy
    b'.farmSupplyWeek b'.paidW b'.remaining
  rw [k.cfg, k.farmSupplyWeek, k.paidW]
  have hm := k.marker
  exact hP.rel.congr (fun _ _ => rfl) (fun _ _ => rfl) (fun w hw => (k.other w (Or.inr (by omega))).1)

theorem Path.budget {v v' : WkV} {d d' W : Nat} (p : Path v d v' d') (h : v.Budget W) : v'.Budget W :=
  p.inv (P := fun v _ => v.Budget W) Move.budget h

theorem PM.toInv {s : St} {W : Nat} (h : PM s W) : PaidInv s := by
  intro W' hW'
  obtain rfl := h.week_eq hW'
  exact h

theorem step_paidInv {s s' : St} {op : Op} {o : Out} (hWI : WInv s) (hWP : WeekPos s) (hP : PaidInv s)
    (h : step s op = some (s', o)) : PaidInv s' := by
  obtain ⟨W, hW⟩ := hWP.week
  have p := hP W hW
  rcases step_path h with ⟨b, e, he, rfl⟩ | ⟨_, _, W', hW', _, _, e⟩ | q
  · intro W' hW'
    have hmono : W ≤ W' := Weekly.weekOf_mono he hW hW'
    refine ⟨hW', fun c2 hc2 => ?_, fun hn w hw => p.noCfg hn w (by omega), p.rel.advance hmono,
      Nat.le_trans p.lgw hmono⟩
    obtain ⟨a1, a2, a3⟩ := p.wf c2 hc2
    exact ⟨a1, Nat.le_trans a2 hmono, a3⟩
  · cases hW.symm.trans hW'
    exact PM.toInv (PMV.Ok.collect (v := wk s) p ⟨hW', ‹_›, ‹_›, e⟩)
  · exact PM.toInv (q.budget ⟨hW, hWI, hWP, p⟩).pm

theorem run_paidInv (ops : List Op) {s : St} (hPos : PosInv s) (hWI : WInv s)
    (hWP : WeekPos s) (hP : PaidInv s) : PaidInv (run s ops) :=
  (run_induction (P := fun s => PosInv s ∧ WInv s ∧ WeekPos s ∧ PaidInv s) ops ⟨hPos, hWI, hWP, hP⟩
    fun h hs => ⟨step_posInv h.1 hs, step_winv h.2.1 hs, step_weekPos h.1 h.2.2.1 hs,
      step_paidInv h.2.1 h.2.2.1 h.2.2.2 hs⟩).2.2.2

theorem reachable_paidInv (kind : Kind) (sameTok : Bool) (dsc perBlock : Nat) (produce : Bool)
    (users : List Nat) (e0 : Nat) (hnd : users.Nodup) (ops : List Op) :
    PaidInv (run (init kind sameTok dsc perBlock produce users e0) ops) :=
  run_paidInv ops (init_posInv kind sameTok dsc perBlock produce users e0 hnd)
    (init_winv kind sameTok dsc perBlock produce users e0)
    (init_weekPos kind sameTok dsc perBlock produce users e0)
    (init_paidInv kind sameTok dsc perBlock produce users e0)

/-- the boosted claim cannot abort in its reward loop: with the invariants, `claimBoostedYields` succeeds as soon
    as the weekly module's global energy update for the user does — no factors lookup, no malformed frozen list,
    no division by `cE + cF = 0`, and in particular no underflow of
    `remaining_boosted_rewards_to_distribute(week) -= user_reward` can make it fail (last clause of C05) -/
theorem claimBoostedYields_total {s : St} {u W : Nat} (hP : PM s W) (hWI : WInv s) (hWP : WeekPos s)
    (h1 : (Weekly.updateUserEnergyForCurrentWeek s.w W (Energy.queried (s.energy u) s.epoch)
      (s.w.progress u)).isSome = true) : (claimBoostedYields s u).isSome = true := by
  obtain ⟨g1, hg1⟩ := Option.isSome_iff_exists.mp h1
  have hWk : s.week = some W := hP.week
  unfold claimBoostedYields
  cases hc : s.b.cfg with
  | none =>
    simp only [updateEnergyAndProgress, hWk, Weekly.updateEnergyAndProgress_iff.mpr ⟨g1, hg1, rfl⟩, Option.bind_eq_bind,
      Option.bind_some, Option.pure_def, Option.map_some, Option.isSome_some]
  | some cfg =>
    obtain ⟨hWF, hL, _⟩ := hP.wf cfg hc
    obtain ⟨mem, hmem⟩ := cfg.update_defined none hL
    obtain ⟨g', c', r, hx, _⟩ := claimMulti_paid hP hWI hWP hc hmem hg1
    simp only [hWk, hmem, hx, Option.bind_eq_bind, Option.bind_some, Option.pure_def, Option.isSome_some]

/-- every `setBoostedYieldsFactors` of the history installs factors with `cE + cF ≠ 0`
    (`user_rewards_energy_const + user_rewards_farm_const`, the divisor of the reward formula).  A hypothesis
    of run-level statements in Props that no proof uses: `setFactors` rejects such factors. -/
def GoodOps (ops : List Op) : Prop := ∀ c f, Op.setFactors c f ∈ ops → f.cE + f.cF ≠ 0

/-- executable form of `GoodOps` (for closed examples) -/
def goodOp : Op → Bool
  | .setFactors _ f => decide (f.cE + f.cF ≠ 0)
  | _ => true

theorem goodOps_of_all {ops : List Op} (h : ops.all goodOp = true) : GoodOps ops := by
  intro c f hm
  have := List.all_eq_true.mp h _ hm
  simp only [goodOp, decide_eq_true_eq] at this
  exact this

end Mx.Farm
