/-
  The farm-staking reward view `calculateRewardsForGivenPosition(amount, attributes)` spelled out,
  and what `claimRewards` (all variants) / `unstakeFarm` / `compoundRewards` pay, all in terms of
  the SAME settled cache `genCache s s.cache` and the same formula
  `baseReward + boosted(user)` — for an arbitrary user `orig` whose boosted rewards are claimed.
  The Rust view has no `user` argument: it always evaluates the boosted part for
  `attributes.original_owner` (lib.rs, commit da24d8b).
-/
import MxModel.Lemmas.StakingSpec

namespace Mx.Staking

/-- the base reward reads only the reward index of the attributes, which `into_part` keeps -/
theorem baseReward_intoPart {c : Cache} {dsc amt x : Nat} {t tok : Attrs}
    (h : t.intoPart x = some tok) : baseReward c dsc amt tok = baseReward c dsc amt t := by
  unfold baseReward
  rw [(intoPart_spec h).1]

/-- the state a committed query would leave -/
def viewSt (s : St) (r : Weekly.St × B × Nat) : St :=
  ({ genSt s with w := r.1, b := r.2.1 } : St).flush (genCache s s.cache)

theorem calcRewards_eq_some {s st : St} {amt : Nat} {t : Attrs} {q : Nat} :
    calcRewards s true amt t = some (st, q) ↔
      s.accumulated ≤ s.capacity ∧ genCut s (genTot s) ≤ genTot s ∧
      ∃ r, claimBoostedYields (genSt s) t.owner (s.userTotal t.owner) = some r ∧
        q = baseReward (genCache s s.cache) s.dsc amt t + r.2.2 ∧ st = viewSt s r := by
  constructor
  · intro h
    obtain ⟨r, _, h1, h2, hr, rfl, rfl⟩ := calcRewards_trace h
    exact ⟨h1, h2, r, hr, rfl, rfl⟩
  · rintro ⟨h1, h2, r, hr, rfl, rfl⟩
    have hg : generate s s.cache = some (genSt s, genCache s s.cache) := by
      simp only [generate, req_pos h1, req_pos h2, Option.bind_eq_bind, Option.bind_some,
        Option.pure_def]
      rfl
    have hr' : claimBoostedYields (genSt s) t.owner ((genSt s).userTotal t.owner) = some r := hr
    simp only [calcRewards, Option.bind_eq_bind, hg, Option.bind_some, hr', Option.pure_def]
    rw [req_pos trivial]
    rfl

/-- `v` is the reward of the part `amt` of a position with attributes `t` in state `s`, the
    boosted rewards being claimed for `u`: the settlement goes through, and `v` is the base reward
    at the settled cache plus the boosted claim of `u` -/
def Reward (s : St) (u amt : Nat) (t : Attrs) (v : Nat) : Prop :=
  s.accumulated ≤ s.capacity ∧ genCut s (genTot s) ≤ genTot s ∧
  ∃ r, claimBoostedYields (genSt s) u (s.userTotal u) = some r ∧
    v = baseReward (genCache s s.cache) s.dsc amt t + r.2.2

theorem Reward.unique {s : St} {u amt : Nat} {t : Attrs} {v v' : Nat}
    (h : Reward s u amt t v) (h' : Reward s u amt t v') : v = v' := by
  obtain ⟨_, _, r, hr, rfl⟩ := h
  obtain ⟨_, _, r', hr', rfl⟩ := h'
  rw [Option.some.inj (hr.symm.trans hr')]

theorem Reward.of_view {s st : St} {amt : Nat} {t : Attrs} {q : Nat}
    (h : calcRewards s true amt t = some (st, q)) : Reward s t.owner amt t q := by
  obtain ⟨h1, h2, r, hr, hq, _⟩ := calcRewards_eq_some.mp h
  exact ⟨h1, h2, r, hr, hq⟩

theorem Reward.view {s : St} {amt : Nat} {t : Attrs} {q : Nat} (h : Reward s t.owner amt t q) :
    ∃ st, calcRewards s true amt t = some (st, q) := by
  obtain ⟨h1, h2, r, hr, hq⟩ := h
  exact ⟨viewSt s r, calcRewards_eq_some.mpr ⟨h1, h2, r, hr, hq, rfl⟩⟩

/-- `claimRewards` in all variants (`claimCore`: own claim, through a whitelisted contract,
    on behalf, with a new value) pays the reward of the first payment, boosted part of `orig` -/
theorem claimCore_pays {s s' : St} {c orig : Nat} {p : Pay} {rest : List Pay} {nv : Option Nat}
    {first : Attrs} {o : Out} (hf : posOf s.md p.1 = some first)
    (h : claimCore s c orig (p :: rest) nv = some (s', o)) : Reward s orig p.2 first o.c := by
  obtain ⟨_, p', first', tok, r, _, _, _, _, _, t⟩ := claimCore_trace h
  obtain rfl := t.out
  obtain rfl : p = p' := Option.some.inj t.head
  obtain rfl := Option.some.inj (hf.symm.trans t.posOf)
  refine ⟨t.capacity, t.cut, r, t.claimBoostedYields, ?_⟩
  rw [← baseReward_intoPart t.intoPart]

/-- `unstakeFarm` / `unstakeFarmThroughProxy`: same reward on the part taken out -/
theorem unstakeCore_pays {s s' : St} {c orig : Nat} {pay : Pay} {x : Option Nat} {first : Attrs}
    {o : Out} (hf : posOf s.md pay.1 = some first)
    (h : unstakeCore s c orig pay x = some (s', o)) : Reward s orig pay.2 first o.c := by
  obtain ⟨_, first', tok, r, _, t⟩ := unstakeCore_trace h
  obtain rfl := t.out
  obtain rfl := Option.some.inj (hf.symm.trans t.posOf)
  refine ⟨t.capacity, t.cut, r, t.claimBoostedYields, ?_⟩
  rw [← baseReward_intoPart t.intoPart]

/-- `compoundRewards`: the same reward (for the caller), added to the position -/
theorem compound_pays {s s' : St} {c : Nat} {p : Pay} {rest : List Pay} {first : Attrs} {o : Out}
    (hf : posOf s.md p.1 = some first) (h : compound s c (p :: rest) = some (s', o)) :
    Reward s c p.2 first o.c := by
  obtain ⟨_, p', first', tok, r, _, _, t⟩ := compound_trace h
  obtain rfl := t.out
  obtain rfl : p = p' := Option.some.inj t.head
  obtain rfl := Option.some.inj (hf.symm.trans t.posOf)
  refine ⟨t.capacity, t.cut, r, t.claimBoostedYields, ?_⟩
  rw [← baseReward_intoPart t.intoPart]

end Mx.Staking
