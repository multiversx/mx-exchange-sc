/-
  Taking a `do` block in `Option` apart.

  The endpoints of every model are long `do` blocks whose failure cases are `require!` (`req`) and
  checked subtraction (`sub?`).  A hypothesis `endpoint … = some r` is taken apart one bind at a
  time with the lemmas here; `simp only [endpoint, Option.bind_eq_some_iff, …]` on the whole body
  does the same work at a cost that grows much faster than the number of binds.  `req_pos`, `sub?_pos`,
  `isSome_bind` go the other way: they build the success of a block.
-/
import MxModel.Core.Arith

namespace Mx

theorem peel {α β : Type} {x : Option α} {f : α → Option β} {b : β} (h : (x >>= f) = some b) :
    ∃ a, x = some a ∧ f a = some b := Option.bind_eq_some_iff.mp h

theorem peel_req {β : Type} {c : Prop} [Decidable c] {f : Unit → Option β} {b : β}
    (h : (req c >>= f) = some b) : c ∧ f () = some b := by
  obtain ⟨u, hc, h⟩ := peel h
  exact ⟨(req_eq_some u).mp hc, h⟩

theorem peel_sub {β : Type} {x y : Nat} {f : Nat → Option β} {b : β}
    (h : (sub? x y >>= f) = some b) : y ≤ x ∧ f (x - y) = some b := by
  obtain ⟨z, hz, h⟩ := peel h
  obtain ⟨hle, rfl⟩ := sub?_eq_some.mp hz
  exact ⟨hle, h⟩

theorem req_pos {c : Prop} [Decidable c] (h : c) : req c = some () := (req_eq_some ()).mpr h

theorem sub?_pos {a b : Nat} (h : b ≤ a) : sub? a b = some (a - b) := sub?_eq_some.mpr ⟨h, rfl⟩

theorem isSome_bind {α β : Type} {x : Option α} {f : α → Option β} {a : α} (hx : x = some a)
    (hf : (f a).isSome) : (x >>= f).isSome := by
  subst hx; exact hf

/-- the same for a first step that is only known to succeed, not what it returns -/
theorem isSome_bind' {α β : Type} {x : Option α} {f : α → Option β}
    (hx : ∃ a, x = some a) (hf : ∀ a, x = some a → (f a).isSome = true) : (x >>= f).isSome = true := by
  obtain ⟨a, rfl⟩ := hx; exact hf a rfl

end Mx
