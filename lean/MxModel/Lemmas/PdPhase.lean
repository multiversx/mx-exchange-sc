/-
  Price discovery: the phase function and the penalty schedule (phase.rs).
  Core Lean only (no Mathlib needed).
-/
import MxModel.Core.PriceDiscovery

namespace Mx.PD

theorem thresholds_le (c : Cfg) : c.start ≤ c.e1 ∧ c.e1 ≤ c.e2 ∧ c.e2 ≤ c.e3 := by
  unfold Cfg.e1 Cfg.e2 Cfg.e3; omega

/-! ### the five pieces of `get_current_phase` -/

theorem phaseAt_idle {c : Cfg} {b : Nat} (h : b < c.start) : c.phaseAt b = .idle := by
  unfold Cfg.phaseAt
  rw [if_pos h]

theorem phaseAt_noPenalty {c : Cfg} {b : Nat} (h1 : c.start ≤ b) (h2 : b < c.e1) :
    c.phaseAt b = .noPenalty := by
  unfold Cfg.phaseAt
  rw [if_neg (by omega), if_pos h2]

theorem phaseAt_linear {c : Cfg} {b : Nat} (h1 : c.e1 ≤ b) (h2 : b < c.e2) :
    c.phaseAt b = .linear (c.linearPct (b - c.e1)) := by
  have := thresholds_le c
  unfold Cfg.phaseAt
  rw [if_neg (by omega), if_neg (by omega), if_pos h2]

theorem phaseAt_fixed {c : Cfg} {b : Nat} (h1 : c.e2 ≤ b) (h2 : b < c.e3) :
    c.phaseAt b = .fixed c.pfix := by
  have := thresholds_le c
  unfold Cfg.phaseAt
  rw [if_neg (by omega), if_neg (by omega), if_neg (by omega), if_pos h2]

theorem phaseAt_redeem {c : Cfg} {b : Nat} (h : c.e3 ≤ b) : c.phaseAt b = .redeem := by
  have := thresholds_le c
  unfold Cfg.phaseAt
  rw [if_neg (by omega), if_neg (by omega), if_neg (by omega), if_neg (by omega)]

theorem phaseAt_cases (c : Cfg) (b : Nat) :
    (b < c.start ∧ c.phaseAt b = .idle) ∨
    (c.start ≤ b ∧ b < c.e1 ∧ c.phaseAt b = .noPenalty) ∨
    (c.e1 ≤ b ∧ b < c.e2 ∧ c.phaseAt b = .linear (c.linearPct (b - c.e1))) ∨
    (c.e2 ≤ b ∧ b < c.e3 ∧ c.phaseAt b = .fixed c.pfix) ∨
    (c.e3 ≤ b ∧ c.phaseAt b = .redeem) := by
  by_cases h0 : b < c.start
  · exact .inl ⟨h0, phaseAt_idle h0⟩
  by_cases h1 : b < c.e1
  · exact .inr (.inl ⟨by omega, h1, phaseAt_noPenalty (by omega) h1⟩)
  by_cases h2 : b < c.e2
  · exact .inr (.inr (.inl ⟨by omega, h2, phaseAt_linear (by omega) h2⟩))
  by_cases h3 : b < c.e3
  · exact .inr (.inr (.inr (.inl ⟨by omega, h3, phaseAt_fixed (by omega) h3⟩)))
  · exact .inr (.inr (.inr (.inr ⟨by omega, phaseAt_redeem (by omega)⟩)))

theorem depositAllowed_iff (c : Cfg) (b : Nat) :
    (c.phaseAt b).depositAllowed = true ↔ c.start ≤ b ∧ b < c.e2 := by
  have := thresholds_le c
  rcases phaseAt_cases c b with ⟨h, e⟩ | ⟨h1, h2, e⟩ | ⟨h1, h2, e⟩ | ⟨h1, h2, e⟩ | ⟨h, e⟩ <;>
    rw [e] <;> simp [Phase.depositAllowed] <;> omega

theorem withdrawAllowed_iff (c : Cfg) (b : Nat) :
    (c.phaseAt b).withdrawAllowed = true ↔ c.start ≤ b ∧ b < c.e3 := by
  have := thresholds_le c
  rcases phaseAt_cases c b with ⟨h, e⟩ | ⟨h1, h2, e⟩ | ⟨h1, h2, e⟩ | ⟨h1, h2, e⟩ | ⟨h, e⟩ <;>
    rw [e] <;> simp [Phase.withdrawAllowed] <;> omega

theorem redeemAllowed_iff (c : Cfg) (b : Nat) :
    (c.phaseAt b).redeemAllowed = true ↔ c.e3 ≤ b := by
  have := thresholds_le c
  rcases phaseAt_cases c b with ⟨h, e⟩ | ⟨h1, h2, e⟩ | ⟨h1, h2, e⟩ | ⟨h1, h2, e⟩ | ⟨h, e⟩ <;>
    rw [e] <;> simp [Phase.redeemAllowed] <;> omega

theorem redeemAllowed_eq (p : Phase) : p.redeemAllowed = true ↔ p = .redeem := by
  cases p <;> simp [Phase.redeemAllowed]

theorem phase_redeem_iff (c : Cfg) (b : Nat) : c.phaseAt b = .redeem ↔ c.e3 ≤ b := by
  rw [← redeemAllowed_eq, redeemAllowed_iff]

theorem rank_phaseAt (c : Cfg) (b : Nat) :
    (c.phaseAt b).rank =
      if b < c.start then 0 else if b < c.e1 then 1 else if b < c.e2 then 2
      else if b < c.e3 then 3 else 4 := by
  unfold Cfg.phaseAt
  simp only [apply_ite Phase.rank]
  rfl

/-- one step of a staircase: if the part above the threshold `t` is monotone and lies above
    `k`, so is the whole — wherever the thresholds lie -/
theorem stair_mono {t b b' k x x' : Nat} (h : b ≤ b') (hx : k + 1 ≤ x ∧ x ≤ x') :
    k ≤ (if b < t then k else x) ∧ (if b < t then k else x) ≤ (if b' < t then k else x') := by
  split <;> split <;> omega

theorem rank_mono (c : Cfg) {b b' : Nat} (h : b ≤ b') :
    (c.phaseAt b).rank ≤ (c.phaseAt b').rank := by
  rw [rank_phaseAt, rank_phaseAt]
  exact (stair_mono h (stair_mono h (stair_mono h (stair_mono h
    ⟨Nat.le_refl 4, Nat.le_refl 4⟩)))).2

theorem linearPct_ge_min (c : Cfg) (p : Nat) : c.pmin ≤ c.linearPct p := by
  unfold Cfg.linearPct; omega

theorem linearPct_first (c : Cfg) : c.linearPct 0 = c.pmin := by
  unfold Cfg.linearPct; split <;> simp

theorem linearPct_dur_one (c : Cfg) (p : Nat) (h : c.d2 ≤ 1) : c.linearPct p = c.pmin := by
  unfold Cfg.linearPct
  rw [if_neg (by omega)]
  rfl

theorem linearPct_mono (c : Cfg) {p p' : Nat} (h : p ≤ p') : c.linearPct p ≤ c.linearPct p' := by
  unfold Cfg.linearPct
  split
  · have := Nat.div_le_div_right (c := c.d2 - 1) (Nat.mul_le_mul_left (c.pmax - c.pmin) h)
    omega
  · omega

theorem linearPct_le_max (c : Cfg) (hc : c.pmin ≤ c.pmax) {p : Nat} (hp : p < c.d2) :
    c.linearPct p ≤ c.pmax := by
  unfold Cfg.linearPct
  split
  · have : (c.pmax - c.pmin) * p / (c.d2 - 1) ≤ c.pmax - c.pmin := by
      apply Nat.div_le_of_le_mul
      rw [Nat.mul_comm (c.d2 - 1)]
      exact Nat.mul_le_mul_left _ (by omega)
    omega
  · omega

theorem linearPct_last (c : Cfg) (hc : c.pmin ≤ c.pmax) (hd : 1 < c.d2) :
    c.linearPct (c.d2 - 1) = c.pmax := by
  unfold Cfg.linearPct
  rw [if_pos hd, Nat.mul_div_cancel _ (by omega : 0 < c.d2 - 1)]
  omega

end Mx.PD
