/-
  Swaps seen from the ledger: which wallets a swap call touches and by how much.
  Used by Props/C03Ledger.lean.
-/
import MxModel.Lemmas.PairLedgerInv

namespace Mx.PairLedger
open Mx.Pair

def Acct.tokIn (x : Acct) : Dir → Nat
  | .ab => x.a
  | .ba => x.b
def Acct.tokOut (x : Acct) : Dir → Nat
  | .ab => x.b
  | .ba => x.a
def Acct.lkIn (x : Acct) : Dir → Nat
  | .ab => x.lkA
  | .ba => x.lkB
def Acct.lkOut (x : Acct) : Dir → Nat
  | .ab => x.lkB
  | .ba => x.lkA

/-- the pair contract's book-kept wallet of the input / output token of direction `d` -/
def L.pairIn (l : L) : Dir → Nat
  | .ab => l.pairA
  | .ba => l.pairB
def L.pairOut (l : L) : Dir → Nat
  | .ab => l.pairB
  | .ba => l.pairA

theorem call_touches_only_caller {l l' : L} {i : Nat} {op : Op} {o : Out}
    (h : stepL l (.call i op) = some (l', o)) :
    l'.accts.length = l.accts.length ∧ ∀ j, j ≠ i → l'.accts[j]? = l.accts[j]? := by
  obtain ⟨_, _, acc', _, _, _, _, e2, _⟩ := stepL_call_spec h
  rw [e2]
  exact ⟨List.length_set, fun j hj => List.getElem?_set_ne (Ne.symm hj)⟩

theorem pay_dirMove {x y : Acct} {d : Dir} {p b plain lk : Nat}
    (h : pay x (dirMove d p b plain lk) = some y) :
    p ≤ x.tokIn d ∧ y.tokIn d = x.tokIn d - p + b ∧ y.tokOut d = x.tokOut d + plain ∧
    y.lkOut d = x.lkOut d + lk ∧ y.lkIn d = x.lkIn d ∧ y.lp = x.lp := by
  obtain ⟨q1, q2, -, rfl⟩ := pay_spec h
  cases d
  · exact ⟨q1, rfl, rfl, rfl, rfl, rfl⟩
  · exact ⟨q2, rfl, rfl, rfl, rfl, rfl⟩

theorem swap_caller_wallet {l l' : L} {i : Nat} {op : Op} {o : Out} (hsw : isSwap op = true)
    (h : stepL l (.call i op) = some (l', o)) :
    ∃ acc acc', l.accts[i]? = some acc ∧ l'.accts[i]? = some acc' ∧
      chargedOf op o ≤ acc.tokIn (swapDir op) ∧
      acc'.tokIn (swapDir op) = acc.tokIn (swapDir op) - chargedOf op o ∧
      acc'.tokOut (swapDir op) = acc.tokOut (swapDir op) + o.plainAmt ∧
      acc'.lkOut (swapDir op) = acc.lkOut (swapDir op) + o.lockedAmt ∧
      acc'.lkIn (swapDir op) = acc.lkIn (swapDir op) ∧ acc'.lp = acc.lp ∧
      o.plainAmt + o.lockedAmt = o.v1 := by
  obtain ⟨p', acc, acc', hs, ha, hp, -, e2, -⟩ := stepL_call_spec h
  obtain ⟨r, hr⟩ := move_swap hsw hs
  rw [hr] at hp
  obtain ⟨w1, w2, w3, w4, w5, w6⟩ := pay_dirMove hp
  exact ⟨acc, acc', ha, by rw [e2]; exact getElem?_set_self' _ _ _ ha, by omega, by omega, w3, w4, w5,
    w6, plain_add_locked o⟩

theorem swap_accounts_total {l l' : L} {i : Nat} {op : Op} {o : Out} (hsw : isSwap op = true)
    (h : stepL l (.call i op) = some (l', o)) :
    sumOf (·.tokIn (swapDir op)) l'.accts + chargedOf op o = sumOf (·.tokIn (swapDir op)) l.accts ∧
    sumOf (·.tokOut (swapDir op)) l'.accts = sumOf (·.tokOut (swapDir op)) l.accts + o.plainAmt ∧
    sumOf (·.lkOut (swapDir op)) l'.accts = sumOf (·.lkOut (swapDir op)) l.accts + o.lockedAmt ∧
    sumOf (·.lkIn (swapDir op)) l'.accts = sumOf (·.lkIn (swapDir op)) l.accts ∧
    sumOf (·.lp) l'.accts = sumOf (·.lp) l.accts := by
  obtain ⟨acc, acc', ha, ha', w1, w2, w3, w4, w5, w6, _⟩ := swap_caller_wallet hsw h
  obtain ⟨_, _, acc'', _, ha2, _, _, e2, _⟩ := stepL_call_spec h
  have : acc'' = acc' := by
    have h1 : l'.accts[i]? = some acc'' := by rw [e2]; exact getElem?_set_self' _ _ _ ha2
    rw [ha'] at h1
    exact (Option.some.inj h1).symm
  subst this
  have s1 := sumOf_set (·.tokIn (swapDir op)) l.accts i acc acc'' ha
  have s2 := sumOf_set (·.tokOut (swapDir op)) l.accts i acc acc'' ha
  have s3 := sumOf_set (·.lkOut (swapDir op)) l.accts i acc acc'' ha
  have s4 := sumOf_set (·.lkIn (swapDir op)) l.accts i acc acc'' ha
  have s5 := sumOf_set (·.lp) l.accts i acc acc'' ha
  beta_reduce at s1 s2 s3 s4 s5
  rw [e2]
  refine ⟨?_, ?_, ?_, ?_, ?_⟩ <;> omega

theorem LInv.pairIn {l : L} (h : LInv l) (d : Dir) : l.pairIn d = l.p.balIn d := by
  cases d
  · exact h.pairA
  · exact h.pairB
theorem LInv.pairOut {l : L} (h : LInv l) (d : Dir) : l.pairOut d = l.p.balOut d := by
  cases d
  · exact h.pairB
  · exact h.pairA

end Mx.PairLedger
