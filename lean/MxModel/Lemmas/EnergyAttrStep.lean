/-
  C08 with an explicit attribution ledger — every operation, any caller, any arguments.

  `Effect s s' h ea`: the transaction changed the balance row of the holder `h` (and rows of the
  escrow contracts), wrote the entry of the energy address `ea`, and that entry is the old view of
  `ea` moved by exactly the time-weighted sum of the change of `h`'s row.  Every operation that
  touches energy is such an effect (`step_kind`) with the parties `Op.parties`; all it needs is
  that the holder is not one of the four escrow contracts (`Op.NoEsc`).

  `stepped` is where `step` is taken apart, once for the whole energy world: besides the C08 kind
  of the transaction it gives the pause guard, the move on the supply ledger (`LedStep`,
  Lemmas/EnergyLed), the nonce it may create and what happens to the lock options; the supply,
  base-balance, month-alignment and option invariants read their part off it.

  The attribution ledger `A : account → nonce → Int` books the change of the holder's row on the
  energy address (`attrStep`); `AInv` — every account's reported entry is the pair of sums of its
  attribution row — is preserved by every operation (`step_ainv`) and so holds after every history.
-/
import MxModel.Lemmas.EnergyAttrLink
import MxModel.Lemmas.EnergyLed

namespace Mx.Energy

/- kept folded: when two states are compared the unifier would otherwise unfold the `if` inside -/
attribute [local irreducible] St.ensureNonce St.ensureWNonce

theorem esc_ne {x c : Nat} (hx : IsEsc x) (hc : ¬ IsEsc c) : x ≠ c := fun h => hc (h ▸ hx)

theorem esc_FACTORY : IsEsc FACTORY := Or.inl rfl
theorem esc_UNSTAKE : IsEsc UNSTAKE := Or.inr (Or.inl rfl)
theorem esc_TRANSFER : IsEsc TRANSFER := Or.inr (Or.inr (Or.inl rfl))
theorem esc_WRAPPER : IsEsc WRAPPER := Or.inr (Or.inr (Or.inr rfl))

theorem ensureNonce_dom (s : St) (u : Nat) {a : Nat} (hd : Dom s a) : Dom (s.ensureNonce u) a := by
  unfold St.ensureNonce; split
  · exact hd
  · intro m hm
    simp only [List.length_append, List.length_cons, List.length_nil] at hm
    show upd2 s.bal FACTORY (s.nonces.length + 1) 1 a m = 0
    by_cases ha : a = FACTORY
    · subst ha
      rw [upd2_same, upd_other _ _ (by omega)]
      exact hd m (by omega)
    · rw [upd2_other _ _ _ ha]; exact hd m (by omega)

theorem ensureNonce_opts (s : St) (u : Nat) : (s.ensureNonce u).opts = s.opts := by
  rw [ensureNonce_eta]

structure Effect (s s' : St) (h ea : Nat) : Prop where
  epoch : s'.epoch = s.epoch
  nonces : s'.nonces = s.nonces ∨ ∃ u, s'.nonces = s.nonces ++ [u]
  energy : ∀ x, x ≠ ea → s'.energy x = s.energy x
  other : ∀ x, x ≠ h → ¬ IsEsc x → s'.bal x = s.bal x
  dom : DomAll s → DomAll s'
  entry : DomAll s → ∃ e', s'.energy ea = some e' ∧ e'.last = s.epoch ∧
    e'.E = (s.view ea).E + sumEZ (dRow s s' h) s.epoch 1 s'.nonces ∧
    (e'.T : Int) = ((s.view ea).T : Int) + sumTZ (dRow s s' h) 1 s'.nonces

/-- `Effect` with the domain kept row by row, and the entry clause asking for the holder's row
    only: what the held-form invariant `Inv` (Lemmas/EnergyInv; `inv_booked` in Lemmas/EnergyStep),
    which knows the rows of users only, can use -/
structure Booked (s s' : St) (h ea : Nat) : Prop where
  epoch : s'.epoch = s.epoch
  nonces : s'.nonces = s.nonces ∨ ∃ u, s'.nonces = s.nonces ++ [u]
  energy : ∀ x, x ≠ ea → s'.energy x = s.energy x
  other : ∀ x, x ≠ h → ¬ IsEsc x → s'.bal x = s.bal x
  rows : ∀ x, Dom s x → Dom s' x
  entry : Dom s h → ∃ e', s'.energy ea = some e' ∧ e'.last = s.epoch ∧
    e'.E = (s.view ea).E + sumEZ (dRow s s' h) s.epoch 1 s'.nonces ∧
    (e'.T : Int) = ((s.view ea).T : Int) + sumTZ (dRow s s' h) 1 s'.nonces

theorem Booked.effect {s s' : St} {h ea : Nat} (b : Booked s s' h ea) : Effect s s' h ea :=
  ⟨b.epoch, b.nonces, b.energy, b.other, fun hd x => b.rows x (hd x), fun hd => b.entry (hd h)⟩

/-- every case of `stepped` that writes an entry closes with one of two lemmas: the endpoint moved
    existing tokens and stored the entry (`booked_set`), or it finally minted `amt` at unlock epoch `u`
    to the holder as well (`booked_mint`) -/
theorem booked_set {s s1 s' : St} {h ea : Nat} {e1 : Entry} (l : Moved s s1 h (s.view ea) e1)
    (hep : s'.epoch = s1.epoch) (hn : s'.nonces = s1.nonces)
    (hen : s'.energy = updO s1.energy ea (some e1)) (hb : s'.bal = s1.bal) : Booked s s' h ea := by
  have hrow : dRow s s' h = dRow s s1 h := by unfold dRow; rw [hb]
  refine ⟨hep.trans l.epoch, Or.inl (hn.trans l.nonces), ?_, ?_, ?_, ?_⟩
  · intro x hx; rw [hen, updO_other _ _ hx, l.energy]
  · intro x hx he; rw [hb]; exact l.other x hx he
  · intro x hd m hm
    rw [hb]; rw [hn] at hm
    exact l.rows x hd m hm
  · intro _
    refine ⟨e1, by rw [hen, updO_same], l.last.trans (view_last s ea), ?_, ?_⟩
    · rw [hrow, hn, l.nonces]; exact l.E
    · rw [hrow, hn, l.nonces]; exact l.T

/-- `hF`: a new nonce leaves its initial unit on the factory's own row (`St.ensureNonce`), which no
    entry accounts for, so the holder's row must be another -/
theorem booked_mint {s s1 s' : St} {h ea : Nat} {e1 : Entry} (l : Moved s s1 h (s.view ea) e1)
    (hF : h ≠ FACTORY) (u amt : Nat) (hu : s.epoch ≤ u)
    (hep : s'.epoch = (s1.ensureNonce u).epoch) (hn : s'.nonces = (s1.ensureNonce u).nonces)
    (hen : s'.energy = updO (s1.ensureNonce u).energy ea (some (e1.addAfterLock amt u s.epoch)))
    (hb : s'.bal = upd2 (s1.ensureNonce u).bal h (s1.nonceFor u)
            ((s1.ensureNonce u).bal h (s1.nonceFor u) + amt)) : Booked s s' h ea := by
  rw [ensureNonce_epoch, l.epoch] at hep
  rw [ensureNonce_energy] at hen
  have hN : IsNonce s'.nonces (s1.nonceFor u) u := by rw [hn]; exact ensureNonce_isNonce s1 u
  have hns : s'.nonces = s.nonces ∨ ∃ x, s'.nonces = s.nonces ++ [x] := by
    rw [hn, ← l.nonces]
    exact (ensureNonce_nonces s1 u).imp id (fun h1 => ⟨_, h1⟩)
  have hlen := grown_length hns
  have hba := ensureNonce_bal_ne s1 u hF
  have hrowb : s'.bal h = upd (s1.bal h) (s1.nonceFor u) (s1.bal h (s1.nonceFor u) + amt) := by
    rw [hb, upd2_same, hba]
  have hdomE : ∀ x, Dom s x → Dom s' x := by
    intro x hd m hm
    have hd3 := ensureNonce_dom s1 u (l.rows x hd)
    rw [hb]
    by_cases hx : x = h
    · subst hx
      rw [upd2_same, upd_other _ _ (hN.in_range hm)]
      rw [hn] at hm; exact hd3 m hm
    · rw [upd2_other _ _ _ hx]
      rw [hn] at hm; exact hd3 m hm
  refine ⟨hep, hns, ?_, ?_, hdomE, ?_⟩
  · intro x hx; rw [hen, updO_other _ _ hx, l.energy]
  · intro x hx he
    rw [hb, upd2_other _ _ _ hx, ensureNonce_bal_ne s1 u (fun hf => he (Or.inl hf))]
    exact l.other x hx he
  · intro hd
    obtain ⟨m1, m2, m3⟩ := moves_addAfterLock e1 (amt := amt) hu
    -- the row change = the change up to `s1` + the mint
    have hrow : ∀ m, dRow s s' h m = dRow s s1 h m + if m = s1.nonceFor u then (amt : Int) else 0 := by
      intro m
      simp only [dRow, hrowb]
      by_cases hm : m = s1.nonceFor u
      · subst hm; rw [upd_same, if_pos rfl]; push_cast; ring
      · rw [upd_other _ _ hm, if_neg hm]; ring
    have h0 : dRow s s1 h (s.nonces.length + 1) = 0 := by
      have a1 := hd (s.nonces.length + 1) (Or.inr (by omega))
      have a2 := l.rows h hd (s.nonces.length + 1) (Or.inr (by rw [l.nonces]; omega))
      simp [dRow, a1, a2]
    obtain ⟨g1, g2⟩ := sums_grow (dRow s s1 h) s.epoch hns h0
    obtain ⟨p1, p2⟩ := sums_point s.epoch hN hrow
    refine ⟨_, by rw [hen, updO_same], ?_, ?_, ?_⟩
    · rw [m3]; exact l.last.trans (view_last s ea)
    · rw [p1, g1, m1, l.E]; ring
    · rw [p2, g2, m2, l.T]; ring

/-- an operation that touches no entry and no ordinary account's locked tokens: nothing C08 talks
    about changed (only escrow rows may have shrunk) -/
structure Quiet (s s' : St) : Prop where
  epoch : s'.epoch = s.epoch
  nonces : s'.nonces = s.nonces
  energy : s'.energy = s.energy
  other : ∀ x, ¬ IsEsc x → s'.bal x = s.bal x
  dom : DomAll s → DomAll s'

/-- (holder, energy address) of an operation: the account whose locked-token row the operation
    changes, and the account whose energy entry it writes.  They differ only for `mergeTokens` with
    an original caller and for `lockVirtual` with an energy address other than the destination —
    the two arguments reserved to whitelisted contracts. -/
def Op.parties : Op → Option (Nat × Nat)
  | .lock c _ _ d => some (if d = 0 then c else d, if d = 0 then c else d)
  | .extend c _ _ _ _ => some (c, c)
  | .unlock c _ => some (c, c)
  | .merge c orig _ => some (c, if orig = 0 then c else orig)
  | .unlockEarly c _ _ => some (c, c)
  | .reduce c _ _ _ => some (c, c)
  | .lockVirtual _ _ _ d ea => some (d, ea)
  | .cancel c => some (c, c)
  | .lockFunds c _ _ => some (c, c)
  | .withdraw c _ => some (c, c)
  | .cancelTransfer sd _ => some (sd, sd)
  | .wrap c _ _ => some (c, c)
  | .unwrap c _ _ => some (c, c)
  | .claim _ => none
  | .xferWrapped _ _ _ _ => none
  | .cfg _ => none
  | .advance _ => none

/-- the scope condition of the attributed form: the account whose tokens move is not one of the
    four escrow contracts (their code never calls these endpoints; what they do is part of the
    operations) -/
def Op.NoEsc (op : Op) : Prop :=
  match op.parties with
  | some (h, _) => ¬ IsEsc h
  | none => True

instance (op : Op) : Decidable op.NoEsc := by
  unfold Op.NoEsc; split <;> exact inferInstance

/-- the energy address is the account whose tokens move: every operation but the two whitelist-only
    cases named at `Op.parties` -/
def Op.Plain (op : Op) : Prop :=
  match op.parties with
  | some (h, ea) => ea = h
  | none => True

instance (op : Op) : Decidable op.Plain := by
  unfold Op.Plain; split <;> exact inferInstance

/-- holder and energy address of the operation lie below `N`: the accounts the sums of `Cons`
    range over (Lemmas/EnergyAttrHold), the user addresses for `N = SCBASE` (Lemmas/EnergyStep) -/
def Op.Below (N : Nat) (op : Op) : Prop :=
  match op.parties with
  | some (h, ea) => h < N ∧ ea < N
  | none => True

instance (N : Nat) (op : Op) : Decidable (op.Below N) := by
  unfold Op.Below; split <;> exact inferInstance

/-- the ledger rule: the change of the holder's balance row is booked on the energy address -/
def attrStep (A : Nat → Nat → Int) (s s' : St) (op : Op) : Nat → Nat → Int :=
  match op.parties with
  | some (h, ea) => fun a n => if a = ea then A a n + dRow s s' h n else A a n
  | none => A

structure AInv (s : St) (A : Nat → Nat → Int) : Prop where
  track : ∀ a, TracksZ (s.view a) (A a) s.nonces s.epoch
  last : ∀ a e, s.energy a = some e → e.last ≤ s.epoch
  dom : DomAll s
  adom : ∀ a n, (n = 0 ∨ s.nonces.length < n) → A a n = 0

theorem ainv_effect {s s' : St} {A : Nat → Nat → Int} {h ea : Nat} (hi : AInv s A)
    (eff : Effect s s' h ea) :
    AInv s' (fun a n => if a = ea then A a n + dRow s s' h n else A a n) := by
  obtain ⟨e', he', hl', hE', hT'⟩ := eff.entry hi.dom
  have hlen := grown_length eff.nonces
  refine ⟨?_, ?_, eff.dom hi.dom, ?_⟩
  · intro a
    by_cases hae : a = ea
    · subst hae
      have hf : (fun n => if a = a then A a n + dRow s s' h n else A a n) =
          fun n => A a n + dRow s s' h n := by funext n; simp
      rw [hf, view_of_some he' (by rw [eff.epoch]; exact hl'), eff.epoch]
      obtain ⟨g1, g2⟩ := sums_grow (A a) s.epoch eff.nonces (hi.adom a _ (Or.inr (by omega)))
      refine ⟨?_, ?_, hl'⟩
      · rw [sumEZ_add, g1, hE', (hi.track a).1]
      · rw [sumTZ_add, g2, hT', (hi.track a).2.1]
    · have hf : (fun n => if a = ea then A a n + dRow s s' h n else A a n) = A a := by
        funext n; simp [hae]
      rw [hf, view_congr (eff.energy a hae) eff.epoch, eff.epoch]
      exact tracksZ_grow (hi.track a) eff.nonces (hi.adom a _ (Or.inr (by omega)))
  · intro x e hx
    by_cases hxe : x = ea
    · subst hxe
      rw [he'] at hx
      simp only [Option.some.injEq] at hx
      subst hx
      rw [eff.epoch, hl']
    · rw [eff.energy x hxe] at hx
      rw [eff.epoch]; exact hi.last x e hx
  · intro a n hn
    have hn' : n = 0 ∨ s.nonces.length < n := by omega
    show (if a = ea then A a n + dRow s s' h n else A a n) = 0
    split
    · have a1 := hi.dom h n hn'
      have a2 := eff.dom hi.dom h n hn
      rw [hi.adom a n hn']
      simp [dRow, a1, a2]
    · exact hi.adom a n hn'

theorem ainv_quiet {s s' : St} {A : Nat → Nat → Int} (hi : AInv s A) (q : Quiet s s') :
    AInv s' A := by
  refine ⟨?_, ?_, q.dom hi.dom, ?_⟩
  · intro a
    rw [view_congr (by rw [q.energy]) q.epoch, q.nonces, q.epoch]
    exact hi.track a
  · intro x e hx
    rw [q.energy] at hx
    rw [q.epoch]; exact hi.last x e hx
  · intro a n hn
    rw [q.nonces] at hn
    exact hi.adom a n hn

theorem ainv_advance {s : St} {A : Nat → Nat → Int} {e : Nat} (hi : AInv s A) (hle : s.epoch ≤ e) :
    AInv { s with epoch := e } A := by
  refine ⟨fun a => ?_, fun a x hx => Nat.le_trans (hi.last a x hx) hle, hi.dom, hi.adom⟩
  rw [view_advance a (hi.last a) hle]
  exact (hi.track a).deplete hle

/-- what one successful transaction is, as far as C08 is concerned -/
inductive StepKind (s s' : St) (op : Op) : Prop
  | effect (h ea : Nat) (hp : op.parties = some (h, ea)) (eff : Booked s s' h ea)
  | quiet (hp : op.parties = none) (q : Quiet s s')
  | advance (e : Nat) (hp : op.parties = none) (hle : s.epoch ≤ e) (hs : s' = { s with epoch := e })

/-- one successful transaction, from every side the invariants of the energy world look at.
    `kind`: what it does to locked-token rows and energy entries, for a holder that is not one of
    the four escrow contracts.  `unpaused`: an operation that writes an energy entry passed the
    factory's pause check.  `led`: its move on the supply ledger.  `nonces`: it creates at most one
    locked-token nonce, unlocking at a month start.  `opts`: only configuration writes the lock
    options. -/
structure Stepped (s s' : St) (op : Op) : Prop where
  kind : op.NoEsc → StepKind s s' op
  unpaused : ∀ p, op.parties = some p → s.paused = false
  led : LedStep s.led op.payee s'.led
  nonces : Grown s.nonces s'.nonces
  opts : s'.opts = s.opts ∨ ∃ cf, op = .cfg cf

theorem stepped {s s' : St} {op : Op} {o : Out} (h : step s op = some (s', o)) : Stepped s s' op := by
  cases op
  case lock c amt ep d =>
    obtain ⟨hp, -, -, hlt, h5, h6, h7, -, rfl⟩ := lockTokens_spec h
    refine ⟨fun hw => .effect _ _ rfl (booked_mint (Moved.refl s _ _) (fun hf => hw (Or.inl hf))
      (lockUnlock s ep) amt (Nat.le_of_lt hlt) rfl rfl rfl rfl), fun _ _ => hp, ?_,
      ensureNonce_grown s (startOfMonth_facts _).1, .inl (ensureNonce_opts s _)⟩
    rw [ensureNonce_eta]
    exact .lock c amt h5 h6 h7
  case extend c n amt ep d =>
    obtain ⟨old, s0, e0, hp, -, -, hlt, -, hu, hdeb, -, hr, -, -, rfl⟩ := extendLock_spec h
    have hk := moved_debit hdeb hu (moves_unlockAny hr)
    obtain ⟨b0, rfl⟩ := debit_eq hdeb
    refine ⟨fun hw => .effect _ _ rfl (booked_mint hk (fun hf => hw (Or.inl hf)) (lockUnlock s ep) amt
      (Nat.le_of_lt hlt) rfl rfl rfl rfl), fun _ _ => hp, ?_, ensureNonce_grown _ (startOfMonth_facts _).1,
      .inl (ensureNonce_opts _ _)⟩
    rw [ensureNonce_eta]
    exact .same
  case unlock c ps =>
    obtain ⟨s1, e, tot, hpa, -, hp, hle, -, rfl⟩ := unlockTokens_spec h
    have hk := unlockPays_moved ps hp
    obtain ⟨b, rfl⟩ := unlockPays_eq ps hp
    exact ⟨fun _ => .effect _ _ rfl (booked_set hk rfl rfl rfl rfl), fun _ _ => hpa, .unlock c tot hle, .inl rfl, .inl rfl⟩
  case merge c orig ps =>
    obtain ⟨n1, a1, rest, u1, s1, e1, s2, e2, accE, accW, t⟩ := mergeTokens_spec h
    obtain rfl := t.state
    have hk := (moved_debit t.debit t.unlockOf (moves_unlockAny t.afterUnlockAny)).trans
      (mergePays_moved rest t.mergePays)
    obtain ⟨b1, rfl⟩ := debit_eq t.debit
    obtain ⟨b2, rfl⟩ := mergePays_eq rest t.mergePays
    refine ⟨fun hw => .effect _ _ rfl (booked_mint hk (fun hf => hw (Or.inl hf))
      (upperEstimate s.opts s.epoch accE) accW (Nat.le_of_lt t.unlock) rfl rfl rfl rfl), fun _ _ => t.unpaused, ?_,
      ensureNonce_grown _ (upperEstimate_cases _ _ _).2.2, .inl (ensureNonce_opts _ _)⟩
    rw [ensureNonce_eta]
    exact .same
  case unlockEarly c n amt =>
    obtain ⟨u, s1, e, pen, t⟩ := unlockEarly_spec h
    obtain rfl := t.state
    have l1 := moved_debit t.debit t.unlockOf (moves_early (Nat.le_of_lt t.locked) t.depleteAfterEarly)
    have hk := fun hw : ¬ IsEsc c => l1.trans (moved_credit_other (X := s1.credit UNSTAKE n amt) e rfl rfl rfl
      rfl ((unlockOf_congr l1.nonces n).trans t.unlockOf) (esc_ne esc_UNSTAKE hw) esc_UNSTAKE)
    obtain ⟨b, rfl⟩ := debit_eq t.debit
    exact ⟨fun hw => .effect _ _ rfl (booked_set (hk hw) rfl rfl rfl rfl), fun _ _ => t.unpaused,
      .early amt pen t.pen_lt t.circ, .inl rfl, .inl rfl⟩
  case reduce c n amt ep =>
    obtain ⟨u, s1, e, pen, newEp, t⟩ := reduceLock_spec h
    obtain rfl := t.newEpochs
    obtain rfl := t.state
    have hk := moved_debit t.debit t.unlockOf (moves_early (Nat.le_of_lt t.locked) t.depleteAfterEarly)
    obtain ⟨b, rfl⟩ := debit_eq t.debit
    have hm : (s.epoch + (ep - (s.epoch + ep) % MONTH)) % MONTH = 0 := by
      have hsub := t.aligned
      have hM : MONTH = 30 := rfl
      rw [hM] at hsub ⊢
      omega
    refine ⟨fun hw => .effect _ _ rfl (booked_mint hk (fun hf => hw (Or.inl hf)) _ (amt - pen)
      (Nat.le_of_lt t.newUnlock) rfl rfl rfl rfl), fun _ _ => t.unpaused, ?_, ensureNonce_grown _ hm,
      .inl (ensureNonce_opts _ _)⟩
    rw [ensureNonce_eta]
    exact .reduce pen t.circ
  case lockVirtual c amt ep d ea =>
    obtain ⟨hp, -, -, -, -, hlt, -, rfl⟩ := lockVirtual_spec h
    refine ⟨fun hw => .effect _ _ rfl (booked_mint (Moved.refl s d (s.view ea)) (fun hf => hw (Or.inl hf))
      (lockUnlock s ep) amt (Nat.le_of_lt hlt) rfl rfl rfl rfl), fun _ _ => hp, ?_,
      ensureNonce_grown s (startOfMonth_facts _).1, .inl (ensureNonce_opts s _)⟩
    rw [ensureNonce_eta]
    exact .virt amt
  case claim c =>
    obtain ⟨s1, paid, -, hp, -, rfl⟩ := claimUnlocked_spec h
    obtain ⟨f1, f2, f3, f4, f5⟩ := claimEntries_frameZ _ hp
    obtain ⟨a1, a2, a3, -, a5, a6, -⟩ := claimEntries_supply _ hp
    obtain ⟨b, ba, pp, pb, co, rfl⟩ := claimEntries_eq _ hp
    obtain rfl := a2
    obtain rfl := a3
    exact ⟨fun _ => .quiet rfl ⟨f1, f2, f3, fun x hx => f4 x (fun hxu => hx (hxu ▸ esc_UNSTAKE)),
      fun hd x => f5 x (hd x)⟩, (fun _ h => nomatch h), .claim c paid _ _ _ pp ba a1 (sum_split _ _) a5 a6, .inl rfl, .inl rfl⟩
  case cancel c =>
    obtain ⟨s1, e, -, hp, hpa, -, rfl⟩ := cancelUnbond_spec h
    obtain ⟨a1, a2, a3, a4, a5, a6, a7⟩ := cancelEntries_supply _ hp
    have hk := fun hw : ¬ IsEsc c => cancelEntries_moved (esc_ne esc_UNSTAKE hw) _ hp
    obtain ⟨b, ba, bs, bc, ci, pp, rfl⟩ := cancelEntries_eq _ hp
    refine ⟨fun hw => .effect _ _ rfl (booked_set (hk hw) rfl rfl rfl rfl), fun _ _ => hpa, ?_, .inl rfl, .inl rfl⟩
    obtain rfl := a2
    obtain rfl := a3
    rw [← sum_sub_le _ a7]
    exact .cancel _ _ bs pp ba a1 a4 a5 a6
  case lockFunds c r ps =>
    obtain ⟨s1, e, -, -, hp, hpa, -, rfl⟩ := lockFunds_spec h
    have hk := fun hw : ¬ IsEsc c => deductPays_moved esc_TRANSFER (esc_ne esc_TRANSFER hw) ps hp
    obtain ⟨b, rfl⟩ := deductPays_eq ps hp
    exact ⟨fun hw => .effect _ _ rfl (booked_set (hk hw) rfl rfl rfl rfl), fun _ _ => hpa, .same, .inl rfl, .inl rfl⟩
  case withdraw c sd =>
    obtain ⟨x, s1, e, -, -, -, hp, hpa, -, rfl⟩ := withdraw_spec h
    have hk := fun hw : ¬ IsEsc c => addPays_moved esc_TRANSFER (esc_ne esc_TRANSFER hw) x.funds hp
    obtain ⟨b, rfl⟩ := addPays_eq _ hp
    exact ⟨fun hw => .effect _ _ rfl (booked_set (hk hw) rfl rfl rfl rfl), fun _ _ => hpa, .same, .inl rfl, .inl rfl⟩
  case cancelTransfer sd r =>
    obtain ⟨x, s1, e, -, hp, hpa, -, rfl⟩ := cancelTransfer_spec h
    have hk := fun hw : ¬ IsEsc sd => addPays_moved esc_TRANSFER (esc_ne esc_TRANSFER hw) x.funds hp
    obtain ⟨b, rfl⟩ := addPays_eq _ hp
    exact ⟨fun hw => .effect _ _ rfl (booked_set (hk hw) rfl rfl rfl rfl), fun _ _ => hpa, .same, .inl rfl, .inl rfl⟩
  case wrap c n amt =>
    obtain ⟨s1, e, hp, hpa, -, rfl⟩ := wrap_spec h
    have hk := fun hw : ¬ IsEsc c => deductPays_moved esc_WRAPPER (esc_ne esc_WRAPPER hw) _ hp
    obtain ⟨b, rfl⟩ := deductPays_eq _ hp
    rw [ensureWNonce_eta]
    exact ⟨fun hw => .effect _ _ rfl (booked_set (hk hw) rfl rfl rfl rfl), fun _ _ => hpa, .same, .inl rfl, .inl rfl⟩
  case unwrap c wn amt =>
    obtain ⟨n, s1, e, -, -, hp, hpa, -, rfl⟩ := unwrap_spec h
    have hk := fun hw : ¬ IsEsc c => addPays_moved esc_WRAPPER (esc_ne esc_WRAPPER hw) _ hp
    obtain ⟨b, rfl⟩ := addPays_eq _ hp
    exact ⟨fun hw => .effect _ _ rfl (booked_set (hk hw) rfl rfl rfl rfl), fun _ _ => hpa, .same, .inl rfl, .inl rfl⟩
  case xferWrapped c dst wn amt =>
    obtain ⟨-, -, -, -, rfl⟩ := xferWrapped_spec h
    exact ⟨fun _ => .quiet rfl ⟨rfl, rfl, rfl, fun _ _ => rfl, fun hd => hd⟩, (fun _ h => nomatch h), .same, .inl rfl, .inl rfl⟩
  case cfg cf =>
    obtain ⟨os, bp, p, wl, rfl, -, hbp⟩ := cfg_eq (step_cfg h)
    exact ⟨fun _ => .quiet rfl ⟨rfl, rfl, rfl, fun _ _ => rfl, fun hd => hd⟩, (fun _ h => nomatch h), .setBurn bp hbp, .inl rfl,
      .inr ⟨cf, rfl⟩⟩
  case advance e =>
    obtain ⟨hle, rfl⟩ := step_advance h
    exact ⟨fun _ => .advance e rfl hle rfl, (fun _ h => nomatch h), .same, .inl rfl, .inl rfl⟩

theorem step_kind {s s' : St} {op : Op} {o : Out} (hw : op.NoEsc)
    (h : step s op = some (s', o)) : StepKind s s' op :=
  (stepped h).kind hw

theorem step_ainv {s s' : St} {A : Nat → Nat → Int} {op : Op} {o : Out} (hi : AInv s A)
    (hw : op.NoEsc) (h : step s op = some (s', o)) : AInv s' (attrStep A s s' op) := by
  rcases step_kind hw h with ⟨hh, ea, hp, eff⟩ | ⟨hp, q⟩ | ⟨e, hp, hle, rfl⟩
  · simp only [attrStep, hp]; exact ainv_effect hi eff.effect
  · simp only [attrStep, hp]; exact ainv_quiet hi q
  · simp only [attrStep, hp]; exact ainv_advance hi hle

/-- the state and the attribution ledger after a history (failed transactions change neither) -/
def runA : St → (Nat → Nat → Int) → List Op → St × (Nat → Nat → Int)
  | s, A, [] => (s, A)
  | s, A, op :: ops =>
      match step s op with
      | some (s', _) => runA s' (attrStep A s s' op) ops
      | none => runA s A ops

theorem runA_fst (ops : List Op) (s : St) (A : Nat → Nat → Int) : (runA s A ops).1 = run s ops := by
  induction ops generalizing s A with
  | nil => rfl
  | cons op ops ih =>
    simp only [runA, run, List.foldl_cons]
    cases hst : step s op with
    | none => exact ih s A
    | some r => obtain ⟨s1, o⟩ := r; exact ih s1 _

theorem init_ainv (c : Cfg) : AInv (init c) (fun _ _ => 0) := by
  refine ⟨?_, ?_, ?_, ?_⟩
  · intro a
    refine ⟨?_, ?_, rfl⟩
    · show (0 : Int) = sumEZ (fun _ => 0) c.epoch 1 []
      rfl
    · show ((0 : Nat) : Int) = sumTZ (fun _ => 0) 1 []
      rfl
  · intro a e he; simp [init] at he
  · intro a n _; rfl
  · intro a n _; rfl

theorem runA_induction {P : St → (Nat → Nat → Int) → Prop} (ops : List Op) {s : St}
    {A : Nat → Nat → Int} (h0 : P s A)
    (hstep : ∀ s A s' op o, op ∈ ops → P s A → step s op = some (s', o) → P s' (attrStep A s s' op)) :
    P (runA s A ops).1 (runA s A ops).2 := by
  induction ops generalizing s A with
  | nil => exact h0
  | cons op ops ih =>
    have hrest : ∀ s A s' op' o, op' ∈ ops → P s A → step s op' = some (s', o) →
        P s' (attrStep A s s' op') := fun s A s' op' o hm => hstep s A s' op' o (List.mem_cons_of_mem _ hm)
    simp only [runA]
    cases hst : step s op with
    | none => exact ih h0 hrest
    | some r => exact ih (hstep s A r.1 op r.2 (List.mem_cons_self ..) h0 hst) hrest

theorem runA_ainv (ops : List Op) {s : St} {A : Nat → Nat → Int} (hi : AInv s A)
    (hw : ∀ op ∈ ops, op.NoEsc) : AInv (runA s A ops).1 (runA s A ops).2 :=
  runA_induction ops hi (fun _ _ _ op _ hm hi h => step_ainv hi (hw op hm) h)

end Mx.Energy
