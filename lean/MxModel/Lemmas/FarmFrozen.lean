/-
  Farm: a FROZEN week of the claim window has nothing accumulated any more (`AccInv`), in every
  reachable state.  Together with the pool life cycle (`PoolInv.week`: accum + remaining + paid +
  collected = cut), the frozen-pool accounting (`PaidRel.frozen`: remaining + paid = R) and
  "uncollected above the marker" (`CollInv`; `MarkInv` at the end of this file keeps the marker five
  weeks behind) this gives  R = cutW w : the frozen pool of a claimable week is exactly the boosted
  share that was cut into that week (`C11Amounts.frozen_pool_eq_cut`).

  Why it holds: `take_reward_slice` accumulates into the CURRENT week only; `collect_rewards_for_week`
  (the freeze) takes the whole accumulated amount (`accum w := 0`) and is only ever called for
  completed weeks; no current or future week is frozen.
-/
import MxModel.Lemmas.FarmPool
import MxModel.Lemmas.FarmColl

namespace Mx.Farm

open Mx.Weekly (upd)

/-- in week `W`: no current or future week is frozen; a frozen week of the claim window has nothing
    accumulated.  `acc` holds of every `w < W`; it is stated for the window only, which is what
    `C11Amounts.frozen_pool_eq_cut` reads, because the weekly update clears `totalRewardsForWeek(W − 5)`
    and the frame fact it is proved with (`Weekly.Touch.totalRewards`) excepts that week. -/
structure AccOk (accum : Nat → Nat) (tr : Nat → List (Weekly.Tok × Nat)) (W : Nat) : Prop where
  fresh : ∀ w, W ≤ w → tr w = []
  acc : ∀ w, w < W → W ≤ w + 4 → tr w ≠ [] → accum w = 0

def WkV.Acc (v : WkV) : Prop := ∀ W, v.week = some W → AccOk v.b.accum v.w.totalRewards W

def AccInv (s : St) : Prop := ∀ W, s.week = some W → AccOk s.b.accum s.w.totalRewards W

theorem WkV.Acc.of_w {v : WkV} (hI : v.Acc) (g : Weekly.St)
    (hg : ∀ W, v.week = some W → ∀ w, w + 5 ≠ W → g.totalRewards w = v.w.totalRewards w) :
    WkV.Acc { v with w := g } := by
  intro W hW
  have k := hI W hW
  refine ⟨fun w hw => ?_, fun w h1 h2 hne => ?_⟩
  · show g.totalRewards w = []
    rw [hg W hW w (by omega)]; exact k.fresh w hw
  · have hne' : g.totalRewards w ≠ [] := hne
    rw [hg W hW w (by omega)] at hne'
    exact k.acc w h1 h2 hne'

theorem boostedRewards_accOK {mem : BCfg} {f : Nat} {g g' : Weekly.St} {c c' : BSt} {week e E : Nat}
    {r : List (Weekly.Tok × Nat)} (h : boostedRewards mem f g c week e E = some (g', c', r)) (w : Nat)
    (hk : g.totalRewards w ≠ [] → c.accum w = 0) : g'.totalRewards w ≠ [] → c'.accum w = 0 := by
  rcases boostedRewards_cases h with ⟨_, rfl, rfl⟩ | ⟨fa, c1, l, _, _, _, _, _, hcg, hrest⟩
  · exact hk
  · obtain ⟨hcase, hoth, _⟩ := collectAndGet_boosted hcg
    have hacc : c'.accum = c1.accum := by
      rcases hrest with ⟨_, rfl⟩ | ⟨_, _, _, _, _, _, _, _, rfl⟩ <;> rfl
    rw [hacc]
    by_cases hw : w = week
    · subst hw
      rcases hcase with ⟨_, _, _, ha, _⟩ | ⟨_, rfl, rfl, _⟩
      · intro _; exact ha
      · exact hk
    · obtain ⟨h1, h2, _⟩ := hoth w hw
      rw [h1, h2]; exact hk

theorem claimBoostedYields_acc {s s' : St} {u r : Nat} (hI : AccInv s)
    (h : claimBoostedYields s u = some (s', r)) : AccInv s' := by
  obtain ⟨W, g1, g2, c', rl, mem, lo, hW, h1, hrun, rfl, -⟩ := claimBoostedYields_run h
  have st := Weekly.updateUser_weekStep h1
  intro W' hW'
  cases hW.symm.trans hW'
  have k := hI W hW
  refine ⟨fun w hw => ?_, fun w hlt h4 => ?_⟩
  · show g2.totalRewards w = []
    exact hrun.pres (fun g _ => g.totalRewards w = [])
      (fun _ _ _ _ _ _ _ hk hr hp =>
        ((boostedRewards_eff hr).other w (Nat.ne_of_gt (Nat.lt_of_lt_of_le hk hw))).1.trans hp)
      ((st.rewards w).elim (fun e => e.trans (k.fresh w hw)) And.left)
  · show g2.totalRewards w ≠ [] → c'.accum w = 0
    exact hrun.pres (fun g c => g.totalRewards w ≠ [] → c.accum w = 0)
      (fun _ _ _ _ _ _ _ _ hr hp => boostedRewards_accOK hr w hp)
      fun hne => k.acc w hlt h4 (((st.rewards w).resolve_right fun e => hne e.1) ▸ hne)

/-- the running week is not frozen, so a cut into its pool (`gen`) does no harm; the freeze inside a claim empties
    the accumulator -/
theorem Move.acc {v v' : WkV} {d d' : Nat} (m : Move v d v' d') (hI : v.Acc) : v'.Acc := by
  cases m with
  | @gen _ _ W _ _ hb =>
    rcases hb with ⟨_, rfl⟩ | ⟨_, hW0, rfl⟩
    · exact hI
    · intro W hW
      cases hW0.symm.trans hW
      have k := hI W hW
      refine ⟨k.fresh, fun w h1 h2 hne => ?_⟩
      show upd v.b.accum W _ w = 0
      rw [Weekly.upd_other _ _ (by omega)]
      exact k.acc w h1 h2 hne
  | claim hv h =>
    subst hv
    rw [← claim_wk h]
    exact claimBoostedYields_acc hI h
  | touch hW h =>
    refine hI.of_w _ (fun W' hW' w hw => ?_)
    cases hW.symm.trans hW'
    exact h.totalRewards w hw
  | _ => exact hI

theorem WkV.Acc.advance {v : WkV} (ht : v.fws ≤ v.epoch) (hI : v.Acc) {e : Nat} (he : v.epoch ≤ e) :
    WkV.Acc { v with epoch := e } := by
  have hW : v.week = some ((v.epoch - v.fws) / 7 + 1) := Weekly.weekOf_eq_some.mpr ⟨ht, rfl⟩
  have k := hI _ hW
  intro W' hW'
  have hle := Weekly.weekOf_mono he hW hW'
  refine ⟨fun w hw => k.fresh w (by omega), fun w h1 h2 hne => ?_⟩
  by_cases hw : (v.epoch - v.fws) / 7 + 1 ≤ w
  · exact absurd (k.fresh w hw) hne
  · exact k.acc w (by omega) (by omega) hne

theorem step_accInv {s s' : St} {op : Op} {o : Out} (ht : s.firstWeekStart ≤ s.epoch) (hI : AccInv s)
    (h : step s op = some (s', o)) : AccInv s' := by
  rcases step_path h with ⟨b, e, he, rfl⟩ | ⟨_, _, _, hc⟩ | p
  · exact WkV.Acc.advance (v := wk s) ht hI he
  · obtain ⟨b', u, e, k⟩ := hc.weeks
    show (wk s').Acc
    rw [e]
    intro W hW
    show AccOk b'.accum s.w.totalRewards W
    rw [k.accum]; exact hI W hW
  · exact p.inv (P := fun v _ => v.Acc) Move.acc hI

theorem init_accInv (kind : Kind) (sameTok : Bool) (dsc perBlock : Nat) (produce : Bool)
    (users : List Nat) (e0 : Nat) : AccInv (init kind sameTok dsc perBlock produce users e0) :=
  fun _ _ => ⟨fun _ _ => rfl, fun _ _ _ hne => absurd rfl hne⟩

theorem run_accInv (ops : List Op) {s : St} (hP : PoolInv s) (hI : AccInv s) : AccInv (run s ops) :=
  (run_induction (P := fun s => PoolInv s ∧ AccInv s) ops ⟨hP, hI⟩
    fun h hs => ⟨step_poolInv h.1 hs, step_accInv h.1.time h.2 hs⟩).2

theorem reachable_accInv (kind : Kind) (sameTok : Bool) (dsc perBlock : Nat) (produce : Bool)
    (users : List Nat) (e0 : Nat) (ops : List Op) :
    AccInv (run (init kind sameTok dsc perBlock produce users e0) ops) :=
  run_accInv ops (init_poolInv kind sameTok dsc perBlock produce users e0)
    (init_accInv kind sameTok dsc perBlock produce users e0)

/-- `lastUndistributedBoostedRewardsCollectWeek` is 0 (never collected) or at least five weeks
    behind the current week: no week of the claim window has been collected -/
def MarkInv (s : St) : Prop := s.lastCollect = 0 ∨ s.lastCollect + 5 ≤ curWeek s

theorem step_markInv {s s' : St} {op : Op} {o : Out} (hI : MarkInv s)
    (h : step s op = some (s', o)) : MarkInv s' := by
  have hmono := curWeek_mono (step_clock h).1 (step_clock h).2
  rcases step_coll h with ⟨_, _, W, hW, _, _, e⟩ | hc
  · have hl : s'.lastCollect = W - 5 := congrArg WkV.lastCollect e
    have hWc := week_curWeek (s := s) hW
    right; omega
  · have hl : s'.lastCollect = s.lastCollect := congrArg Prod.snd hc
    rw [MarkInv, hl]
    exact hI.imp_right fun h5 => Nat.le_trans h5 hmono

theorem run_markInv (ops : List Op) {s : St} (hI : MarkInv s) : MarkInv (run s ops) :=
  run_induction ops hI step_markInv

theorem reachable_markInv (kind : Kind) (sameTok : Bool) (dsc perBlock : Nat) (produce : Bool)
    (users : List Nat) (e0 : Nat) (ops : List Op) :
    MarkInv (run (init kind sameTok dsc perBlock produce users e0) ops) :=
  run_markInv ops (Or.inl rfl)

end Mx.Farm
