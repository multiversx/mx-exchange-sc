/-
  The per-account ledger (`Core/PairLedger.lean`).  A ledger call is a pair step plus `pay acc (move op o)`
  on the caller's wallet (`stepL_call_spec`); the ledger invariant `LInv` survives it because
  `step_stepFlow` accounts for each pool token on plain numbers, which `TokFlow.pairEntry`, `.cons`,
  `.locked` and `lp_call` turn into the clauses of `LInv`.
-/
import MxModel.Lemmas.ListSum
import MxModel.Lemmas.PairStepFlow
import MxModel.Lemmas.PairInv

namespace Mx.PairLedger
open Mx.Pair

theorem sumOf_eq_sum (f : Acct → Nat) (l : List Acct) : sumOf f l = (l.map f).sum := by
  induction l with
  | nil => rfl
  | cons x xs ih => rw [sumOf, ih, List.map_cons, List.sum_cons]

theorem sumOf_set (f : Acct → Nat) (l : List Acct) (i : Nat) (x y : Acct) (h : l[i]? = some x) :
    sumOf f (l.set i y) + f x = sumOf f l + f y := by
  rw [sumOf_eq_sum, sumOf_eq_sum]
  exact sum_map_set f l i x y h

theorem getElem?_set_self' (l : List Acct) {i : Nat} (y x : Acct) (h : l[i]? = some x) :
    (l.set i y)[i]? = some y := by
  rw [List.getElem?_set_self', h]
  rfl

theorem sums_set (l : List Acct) (i : Nat) (x y : Acct) (h : l[i]? = some x) :
    sumOf (·.a) (l.set i y) + x.a = sumOf (·.a) l + y.a ∧
    sumOf (·.b) (l.set i y) + x.b = sumOf (·.b) l + y.b ∧
    sumOf (·.lp) (l.set i y) + x.lp = sumOf (·.lp) l + y.lp ∧
    sumOf (·.lkA) (l.set i y) + x.lkA = sumOf (·.lkA) l + y.lkA ∧
    sumOf (·.lkB) (l.set i y) + x.lkB = sumOf (·.lkB) l + y.lkB :=
  ⟨sumOf_set _ l i x y h, sumOf_set _ l i x y h, sumOf_set _ l i x y h, sumOf_set _ l i x y h,
    sumOf_set _ l i x y h⟩

theorem pay_spec {x y : Acct} {m : Move} (h : pay x m = some y) :
    m.payA ≤ x.a ∧ m.payB ≤ x.b ∧ m.payLp ≤ x.lp ∧
    y = ⟨x.a - m.payA + m.getA, x.b - m.payB + m.getB, x.lp - m.payLp + m.getLp,
         x.lkA + m.getLkA, x.lkB + m.getLkB⟩ := by
  simp only [pay, Option.bind_eq_bind, Option.bind_eq_some_iff, sub?_eq_some, Option.pure_def,
    Option.some.injEq] at h
  obtain ⟨a, ⟨h1, rfl⟩, b, ⟨h2, rfl⟩, c, ⟨h3, rfl⟩, rfl⟩ := h
  exact ⟨h1, h2, h3, rfl⟩

theorem pay_isSome {x : Acct} {m : Move} (h1 : m.payA ≤ x.a) (h2 : m.payB ≤ x.b)
    (h3 : m.payLp ≤ x.lp) : (pay x m).isSome = true := by
  simp [pay, sub?, h1, h2, h3]

theorem stepL_call_spec {l l' : L} {i : Nat} {op : Op} {o : Out}
    (h : stepL l (.call i op) = some (l', o)) :
    ∃ p' acc acc', step l.p op = some (p', o) ∧ l.accts[i]? = some acc ∧
      pay acc (move op o) = some acc' ∧
      l'.p = p' ∧ l'.accts = l.accts.set i acc' ∧
      l'.pairA = pairEntry l.pairA (move op o).payA (move op o).getA (p'.burn1 - l.p.burn1)
        (p'.coll1 - l.p.coll1) (p'.ext1 - l.p.ext1) (p'.slk1 - l.p.slk1) ∧
      l'.pairB = pairEntry l.pairB (move op o).payB (move op o).getB (p'.burn2 - l.p.burn2)
        (p'.coll2 - l.p.coll2) (p'.ext2 - l.p.ext2) (p'.slk2 - l.p.slk2) ∧
      l'.pairLp = l.pairLp + (move op o).payLp + (p'.S - l.p.S) - (move op o).getLp - (l.p.S - p'.S) ∧
      l'.supplyA = l.supplyA ∧ l'.supplyB = l.supplyB := by
  simp only [stepL, Option.bind_eq_bind, Option.bind_eq_some_iff, Option.pure_def,
    Option.some.injEq, Prod.mk.injEq] at h
  obtain ⟨⟨p', o'⟩, hs, acc, ha, acc', hp, rfl, rfl⟩ := h
  exact ⟨p', acc, acc', hs, ha, hp, rfl, rfl, rfl, rfl, rfl, rfl, rfl⟩

/-- `dA`, `dB`: what the faucet adds of the first and of the second pool token (one of them is 0) -/
theorem stepL_fund_spec {l l' : L} {i : Nat} {first : Bool} {x : Nat} {o : Out}
    (h : stepL l (.fund i first x) = some (l', o)) :
    ∃ acc dA dB, l.accts[i]? = some acc ∧ l'.p = l.p ∧ l'.pairA = l.pairA ∧ l'.pairB = l.pairB ∧
      l'.pairLp = l.pairLp ∧
      l'.accts = l.accts.set i ⟨acc.a + dA, acc.b + dB, acc.lp, acc.lkA, acc.lkB⟩ ∧
      l'.supplyA = l.supplyA + dA ∧ l'.supplyB = l.supplyB + dB := by
  obtain ⟨acc, ha, h⟩ := peel h
  refine ⟨acc, ?_⟩
  split at h
  · obtain ⟨rfl, _⟩ := Prod.mk.inj (Option.some.inj h)
    refine ⟨x - acc.a, 0, ha, rfl, rfl, rfl, rfl, ?_, rfl, rfl⟩
    rw [show acc.a + (x - acc.a) = max acc.a x by omega]
    rfl
  · obtain ⟨rfl, _⟩ := Prod.mk.inj (Option.some.inj h)
    refine ⟨0, x - acc.b, ha, rfl, rfl, rfl, rfl, ?_, rfl, rfl⟩
    rw [show acc.b + (x - acc.b) = max acc.b x by omega]
    rfl

theorem debit_spec {x y : Acct} {t : Tok} {n : Nat} (h : x.debit t n = some y) :
    n ≤ x.bal t ∧ y.bal t = x.bal t - n ∧
    y.a + (if t = .a then n else 0) = x.a ∧ y.b + (if t = .b then n else 0) = x.b ∧
    y.lp + (if t = .lp then n else 0) = x.lp ∧ y.lkA = x.lkA ∧ y.lkB = x.lkB := by
  cases t <;>
    simp only [Acct.debit, Option.bind_eq_bind, Option.bind_eq_some_iff, sub?_eq_some,
      Option.pure_def, Option.some.injEq] at h <;>
    obtain ⟨v, ⟨h1, rfl⟩, rfl⟩ := h <;>
    simp only [Acct.bal, reduceCtorEq, eq_self, if_true, if_false] <;>
    exact ⟨h1, trivial, by omega, by omega, by omega, trivial, trivial⟩

theorem credit_spec (x : Acct) (t : Tok) (n : Nat) :
    (x.credit t n).bal t = x.bal t + n ∧
    (x.credit t n).a = x.a + (if t = .a then n else 0) ∧
    (x.credit t n).b = x.b + (if t = .b then n else 0) ∧
    (x.credit t n).lp = x.lp + (if t = .lp then n else 0) ∧
    (x.credit t n).lkA = x.lkA ∧ (x.credit t n).lkB = x.lkB := by
  cases t <;> simp [Acct.credit, Acct.bal]

theorem xferAccts_spec {accts accts' : List Acct} {src dst : Nat} {t : Tok} {x : Nat}
    (h : xferAccts accts src dst t x = some accts') :
    ∃ s s' d, 0 < x ∧ accts[src]? = some s ∧ s.debit t x = some s' ∧
      (accts.set src s')[dst]? = some d ∧ accts' = (accts.set src s').set dst (d.credit t x) := by
  simp only [xferAccts, Option.bind_eq_bind, Option.bind_eq_some_iff, req_eq_some,
    Option.pure_def, Option.some.injEq] at h
  obtain ⟨_, hx, s, hs, s', hd, d, hdst, rfl⟩ := h
  exact ⟨s, s', d, hx, hs, hd, hdst, rfl⟩

theorem sumOf_xfer (f : Acct → Nat) {l : List Acct} {src dst δ : Nat} {s s' d d' : Acct}
    (hs : l[src]? = some s) (hd : (l.set src s')[dst]? = some d) (h1 : f s' + δ = f s)
    (h2 : f d' = f d + δ) : sumOf f ((l.set src s').set dst d') = sumOf f l := by
  have := sumOf_set f l src s s' hs
  have := sumOf_set f _ dst d d' hd
  omega

theorem xferAccts_sums {accts accts' : List Acct} {src dst : Nat} {t : Tok} {x : Nat}
    (h : xferAccts accts src dst t x = some accts') :
    sumOf (·.a) accts' = sumOf (·.a) accts ∧ sumOf (·.b) accts' = sumOf (·.b) accts ∧
    sumOf (·.lp) accts' = sumOf (·.lp) accts ∧ sumOf (·.lkA) accts' = sumOf (·.lkA) accts ∧
    sumOf (·.lkB) accts' = sumOf (·.lkB) accts ∧ accts'.length = accts.length := by
  obtain ⟨s, s', d, _, hs, hd, hdst, rfl⟩ := xferAccts_spec h
  obtain ⟨_, _, d1, d2, d3, d4, d5⟩ := debit_spec hd
  obtain ⟨_, c1, c2, c3, c4, c5⟩ := credit_spec d t x
  exact ⟨sumOf_xfer _ hs hdst d1 c1, sumOf_xfer _ hs hdst d2 c2, sumOf_xfer _ hs hdst d3 c3,
    sumOf_xfer (δ := 0) _ hs hdst d4 c4, sumOf_xfer (δ := 0) _ hs hdst d5 c5, by simp⟩

theorem stepL_xfer_spec {l l' : L} {src dst : Nat} {t : Tok} {x : Nat} {o : Out}
    (h : stepL l (.xfer src dst t x) = some (l', o)) :
    ∃ accts', xferAccts l.accts src dst t x = some accts' ∧ l' = { l with accts := accts' } := by
  simp only [stepL, Option.bind_eq_bind, Option.bind_eq_some_iff, Option.pure_def,
    Option.some.injEq, Prod.mk.injEq] at h
  obtain ⟨accts', ha, rfl, _⟩ := h
  exact ⟨accts', ha, rfl⟩

/-- What holds of the ledger after every history:
    the pair's book-kept wallet is the model's balance ghosts; the reported LP supply is the
    sum of every account's LP plus the pair's own; each pool token is conserved across all
    accounts, the pair and the four sinks; the LOCKED tokens in the accounts' hands are backed
    1:1 by simple-lock's holdings. -/
structure LInv (l : L) : Prop where
  inv : Pair.Inv l.p
  pairA : l.pairA = l.p.bal1
  pairB : l.pairB = l.p.bal2
  pairLp : l.pairLp = l.p.lpOwn
  lpSum : l.p.S = sumOf (·.lp) l.accts + l.pairLp
  consA : l.supplyA =
    sumOf (·.a) l.accts + l.pairA + l.p.burn1 + l.p.coll1 + l.p.ext1 + l.p.slk1
  consB : l.supplyB =
    sumOf (·.b) l.accts + l.pairB + l.p.burn2 + l.p.coll2 + l.p.ext2 + l.p.slk2
  lkA : sumOf (·.lkA) l.accts = l.p.slk1
  lkB : sumOf (·.lkB) l.accts = l.p.slk2

section
variable {bal bal' burn burn' coll coll' ext ext' slk slk' paid got lk : Nat}

/-- `TokFlow.sum` solved for the balance: the wallet `stepL` book-keeps for the pair is the model's
    balance -/
theorem TokFlow.pairEntry (t : TokFlow bal bal' burn burn' coll coll' ext ext' slk slk' paid got lk) :
    pairEntry bal paid got (burn' - burn) (coll' - coll) (ext' - ext) (slk' - slk) = bal' := by
  obtain ⟨h, hk, hb, hc, hx⟩ := t
  unfold PairLedger.pairEntry
  omega

/-- `a` is the caller's wallet, inside the column total `sum` -/
theorem TokFlow.cons (t : TokFlow bal bal' burn burn' coll coll' ext ext' slk slk' paid got lk)
    {sum sum' a supply : Nat} (hpay : paid ≤ a) (hsum : sum' + a = sum + (a - paid + got))
    (h : supply = sum + bal + burn + coll + ext + slk) :
    supply = sum' + bal' + burn' + coll' + ext' + slk' := by
  have := t.sum
  omega

theorem TokFlow.locked (t : TokFlow bal bal' burn burn' coll coll' ext ext' slk slk' paid got lk)
    {sum sum' k : Nat} (hsum : sum' + k = sum + (k + lk)) (h : sum = slk) : sum' = slk' := by
  have := t.slk
  omega

end

/-- the LP side of a call, on plain numbers; the left-hand side of the first conjunct is the pair's LP
    wallet as `stepL` book-keeps it -/
theorem lp_call {S S' own own' payLp getLp sum sum' x pairLp : Nat}
    (hlp : S' + payLp + own = S + getLp + own') (hpay : payLp ≤ x)
    (hsum : sum' + x = sum + (x - payLp + getLp)) (iLp : pairLp = own) (iS : S = sum + pairLp) :
    pairLp + payLp + (S' - S) - getLp - (S - S') = own' ∧ S' = sum' + own' := by
  omega

theorem call_inv {l l' : L} {i : Nat} {op : Op} {o : Out} (hi : LInv l)
    (h : stepL l (.call i op) = some (l', o)) : LInv l' := by
  obtain ⟨p', acc, acc', hs, ha, hp, e1, e2, e3, e4, e5, e6, e7⟩ := stepL_call_spec h
  obtain ⟨hinv, iA, iB, iLp, iS, cA, cB, kA, kB⟩ := hi
  obtain ⟨tA, tB, hlp, -⟩ := step_stepFlow hs
  obtain ⟨s1, s2, s3, s4, s5⟩ := sums_set l.accts i acc acc' ha
  obtain ⟨q1, q2, q3, rfl⟩ := pay_spec hp
  obtain ⟨hL, hS⟩ := lp_call hlp q3 s3 iLp iS
  rw [iA] at cA
  rw [iB] at cB
  exact ⟨e1 ▸ step_inv hinv hs, by rw [e1, e3, iA]; exact tA.pairEntry,
    by rw [e1, e4, iB]; exact tB.pairEntry, by rw [e1, e5]; exact hL,
    by rw [e1, e2, e5, hL]; exact hS,
    by rw [e1, e2, e3, iA, tA.pairEntry, e6]; exact tA.cons q1 s1 cA,
    by rw [e1, e2, e4, iB, tB.pairEntry, e7]; exact tB.cons q2 s2 cB,
    by rw [e1, e2]; exact tA.locked s4 kA, by rw [e1, e2]; exact tB.locked s5 kB⟩

theorem fund_inv {l l' : L} {i : Nat} {first : Bool} {x : Nat} {o : Out} (hi : LInv l)
    (h : stepL l (.fund i first x) = some (l', o)) : LInv l' := by
  obtain ⟨acc, dA, dB, ha, e1, e2, e3, e4, ea, eA, eB⟩ := stepL_fund_spec h
  obtain ⟨hinv, iA, iB, iLp, iS, cA, cB, kA, kB⟩ := hi
  obtain ⟨s1, s2, s3, s4, s5⟩ := sums_set l.accts i acc _ ha
  rw [← ea] at s1 s2 s3 s4 s5
  simp only at s1 s2 s3 s4 s5
  exact ⟨by rw [e1]; exact hinv, by rw [e1, e2]; exact iA, by rw [e1, e3]; exact iB,
    by rw [e1, e4]; exact iLp, by rw [e1, e4]; omega, by rw [e1, e2, eA]; omega,
    by rw [e1, e3, eB]; omega, by rw [e1]; omega, by rw [e1]; omega⟩

theorem xfer_inv {l l' : L} {src dst : Nat} {t : Tok} {x : Nat} {o : Out} (hi : LInv l)
    (h : stepL l (.xfer src dst t x) = some (l', o)) : LInv l' := by
  obtain ⟨accts', ha, rfl⟩ := stepL_xfer_spec h
  obtain ⟨e1, e2, e3, e4, e5, _⟩ := xferAccts_sums ha
  obtain ⟨hinv, iA, iB, iLp, iS, cA, cB, kA, kB⟩ := hi
  exact ⟨hinv, iA, iB, iLp, by simpa [e3] using iS, by simpa [e1] using cA, by simpa [e2] using cB,
    by simpa [e4] using kA, by simpa [e5] using kB⟩

theorem stepL_inv {l l' : L} {op : LOp} {o : Out} (hi : LInv l)
    (h : stepL l op = some (l', o)) : LInv l' := by
  cases op with
  | fund i f x => exact fund_inv hi h
  | call i op => exact call_inv hi h
  | xfer i j t x => exact xfer_inv hi h

theorem runL_cons (l : L) (op : LOp) (ops : List LOp) :
    runL l (op :: ops) = runL (match stepL l op with | some (l', _) => l' | none => l) ops := rfl

theorem runL_append (l : L) (a b : List LOp) : runL l (a ++ b) = runL (runL l a) b := by
  simp [runL, List.foldl_append]

theorem runL_induction {P : L → Prop}
    (hstep : ∀ {l l' : L} {op : LOp} {o : Out}, P l → stepL l op = some (l', o) → P l')
    (ops : List LOp) {l : L} (h : P l) : P (runL l ops) := by
  induction ops generalizing l with
  | nil => exact h
  | cons op ops ih =>
    rw [runL_cons]
    cases hst : stepL l op with
    | none => exact ih h
    | some r => exact ih (hstep h hst)

theorem runL_inv (ops : List LOp) {l : L} (hi : LInv l) : LInv (runL l ops) :=
  runL_induction stepL_inv ops hi

theorem sumOf_init (funds : List (Nat × Nat)) :
    sumOf (·.lp) (funds.map fun f => (⟨f.1, f.2, 0, 0, 0⟩ : Acct)) = 0 ∧
    sumOf (·.lkA) (funds.map fun f => (⟨f.1, f.2, 0, 0, 0⟩ : Acct)) = 0 ∧
    sumOf (·.lkB) (funds.map fun f => (⟨f.1, f.2, 0, 0, 0⟩ : Acct)) = 0 := by
  refine ⟨?_, ?_, ?_⟩ <;> rw [sumOf_eq_sum, List.map_map] <;>
    exact sum_map_zero _ _ fun _ _ => rfl

theorem initL_inv (t sp : Nat) (ad : Option Nat) (cap : Nat) (funds : List (Nat × Nat)) :
    LInv (initL t sp ad cap funds) := by
  obtain ⟨h1, h2, h3⟩ := sumOf_init funds
  refine ⟨inv_init t sp ad cap, rfl, rfl, rfl, ?_, ?_, ?_, ?_, ?_⟩ <;> simp only [initL]
  · rw [h1]; rfl
  · show _ = _ + 0 + 0 + 0 + 0 + 0
    omega
  · show _ = _ + 0 + 0 + 0 + 0 + 0
    omega
  · exact h2
  · exact h3

/-- the `Pair.Op`s of the successful calls of a ledger history -/
def pairOps : L → List LOp → List Op
  | _, [] => []
  | l, op :: ops =>
    match stepL l op with
    | none => pairOps l ops
    | some (l', _) =>
      match op with
      | .call _ o => o :: pairOps l' ops
      | .fund _ _ _ => pairOps l' ops
      | .xfer _ _ _ _ => pairOps l' ops

/-- a call the ledger rejects because the caller's wallet is short is a failed transaction: `pairOps`
    skips it -/
theorem runL_p (ops : List LOp) (l : L) : (runL l ops).p = Pair.run l.p (pairOps l ops) := by
  induction ops generalizing l with
  | nil => rfl
  | cons op ops ih =>
    rw [runL_cons]
    cases h : stepL l op with
    | none =>
      simp only [pairOps, h]
      exact ih l
    | some r =>
      obtain ⟨l1, o⟩ := r
      cases op with
      | fund i f x =>
        obtain ⟨_, _, _, _, e1, _⟩ := stepL_fund_spec h
        simp only [pairOps, h]
        rw [ih l1, e1]
      | call i op =>
        obtain ⟨p', _, _, hs, _, _, e1, _⟩ := stepL_call_spec h
        simp only [pairOps, h]
        rw [ih l1, e1]
        simp [Pair.run, hs]
      | xfer i j t x =>
        obtain ⟨_, _, rfl⟩ := stepL_xfer_spec h
        simp only [pairOps, h]
        rw [ih]

theorem stepL_pairLp_mono {l l' : L} {op : LOp} {o : Out} (hi : LInv l)
    (h : stepL l op = some (l', o)) : l.pairLp ≤ l'.pairLp := by
  have hi' := stepL_inv hi h
  cases op with
  | fund i f x =>
    obtain ⟨_, _, _, _, _, _, _, e4, _⟩ := stepL_fund_spec h
    omega
  | call i op =>
    obtain ⟨p', _, _, hs, _, _, e1, _⟩ := stepL_call_spec h
    have := (step_stepFlow hs).own
    have h1 := hi.pairLp
    have h2 := hi'.pairLp
    rw [e1] at h2
    omega
  | xfer i j t x =>
    obtain ⟨_, _, rfl⟩ := stepL_xfer_spec h
    exact Nat.le_refl _

theorem runL_pairLp_mono (ops : List LOp) {l : L} (hi : LInv l) :
    l.pairLp ≤ (runL l ops).pairLp :=
  (runL_induction (P := fun l' => LInv l' ∧ l.pairLp ≤ l'.pairLp)
    (fun h hst => ⟨stepL_inv h.1 hst, Nat.le_trans h.2 (stepL_pairLp_mono h.1 hst)⟩) ops
    ⟨hi, Nat.le_refl _⟩).2

end Mx.PairLedger
