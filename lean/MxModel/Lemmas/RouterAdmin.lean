/-
  Spec lemmas of five router administration endpoints: `setTemporaryOwnerPeriod`,
  `clearPairTemporaryOwnerStorage`, and — each up to its asynchronous call — `issueLpToken`,
  `setLocalRoles`, `upgradePair`; of the block-nonce advance and of the environment flag `bareNext`.
  At the end, the facts about `getPair` and `get_pair_temporary_owner` that Props/C14Admin.lean reads.
-/
import MxModel.Lemmas.RouterReg

namespace Mx.Router

theorem setTmpPeriod_spec {s s' : St} {c : Addr} {n : Nat} {o : Out}
    (h : setTmpPeriod s c n = some (s', o)) :
    c = s.owner ∧ o = {} ∧ s' = { s with tmpPeriod := n } := by
  simp only [setTmpPeriod, Option.bind_eq_bind, Option.bind_eq_some_iff, req_eq_some,
    Option.pure_def, Option.some.injEq, Prod.mk.injEq] at h
  obtain ⟨_, h1, rfl, rfl⟩ := h
  exact ⟨h1, rfl, rfl⟩

theorem clearTmp_spec {s s' : St} {c : Addr} {o : Out} (h : clearTmp s c = some (s', o)) :
    c = s.owner ∧ o = { v1 := s.tmpOwners.length } ∧ s' = { s with tmpOwners := [] } := by
  simp only [clearTmp, Option.bind_eq_bind, Option.bind_eq_some_iff, req_eq_some,
    Option.pure_def, Option.some.injEq, Prod.mk.injEq] at h
  obtain ⟨_, h1, rfl, rfl⟩ := h
  exact ⟨h1, rfl, rfl⟩

theorem issueLp_spec {s s' : St} {c a : Addr} {o : Out} (h : issueLp s c a = some (s', o)) :
    s.active = true ∧ (c = s.owner ∨ s.creationEnabled = true) ∧
    checkIsPairSc s.pairMap s.pairs a = some () ∧
    ((getTmpOwner s.tmpOwners s.tmpPeriod s.block a).2 = none ∨
      (getTmpOwner s.tmpOwners s.tmpPeriod s.block a).2 = some c) ∧
    a ∈ s.noLp ∧ o = {} ∧
    s' = { s with tmpOwners := (getTmpOwner s.tmpOwners s.tmpPeriod s.block a).1 } := by
  simp only [issueLp, Option.bind_eq_bind, Option.bind_eq_some_iff, req_eq_some,
    Option.pure_def, Option.some.injEq, Prod.mk.injEq] at h
  obtain ⟨_, h1, _, h2, _, h3, _, h4, _, h5, rfl, rfl⟩ := h
  exact ⟨h1, h2, h3, h4, h5, rfl, rfl⟩

theorem setLocalRoles_spec {s s' : St} {c a : Addr} {o : Out}
    (h : setLocalRoles s c a = some (s', o)) :
    s.active = true ∧ checkIsPairSc s.pairMap s.pairs a = some () ∧ a ∉ s.noLp ∧ o = {} ∧
    s' = s := by
  simp only [setLocalRoles, Option.bind_eq_bind, Option.bind_eq_some_iff, req_eq_some,
    Option.pure_def, Option.some.injEq, Prod.mk.injEq] at h
  obtain ⟨_, h1, _, h2, _, h3, rfl, rfl⟩ := h
  exact ⟨h1, h2, h3, rfl, rfl⟩

theorem upgradePair_spec {s s' : St} {c : Addr} {t1 t2 : Tok} {o : Out}
    (h : upgradePair s c t1 t2 = some (s', o)) :
    c = s.owner ∧ s.active = true ∧ t1 ≠ t2 ∧ validTok t1 ∧ validTok t2 ∧
    getPair s.pairMap t1 t2 ≠ 0 ∧ o = {} ∧ s' = s := by
  simp only [upgradePair, Option.bind_eq_bind, Option.bind_eq_some_iff, req_eq_some,
    Option.pure_def, Option.some.injEq, Prod.mk.injEq] at h
  obtain ⟨_, h1, _, h2, _, h3, _, h4, _, h5, _, h6, rfl, rfl⟩ := h
  exact ⟨h1, h2, h3, h4, h5, h6, rfl, rfl⟩

theorem advanceBlock_spec {s s' : St} {n : Nat} {o : Out} (h : advanceBlock s n = some (s', o)) :
    s.block ≤ n ∧ o = {} ∧ s' = { s with block := n } := by
  simp only [advanceBlock, Option.bind_eq_bind, Option.bind_eq_some_iff, req_eq_some,
    Option.pure_def, Option.some.injEq, Prod.mk.injEq] at h
  obtain ⟨_, h1, rfl, rfl⟩ := h
  exact ⟨h1, rfl, rfl⟩

theorem setBareNext_spec {s s' : St} {b : Bool} {o : Out} (h : setBareNext s b = some (s', o)) :
    o = {} ∧ s' = { s with bareNext := b } := by
  simp only [setBareNext, Option.pure_def, Option.some.injEq, Prod.mk.injEq] at h
  obtain ⟨rfl, rfl⟩ := h
  exact ⟨rfl, rfl⟩

theorem getPair_ne_zero_mem {m : Reg} {a b : Tok} (h : getPair m a b ≠ 0) :
    getPair m a b ∈ m.map Prod.snd := by
  unfold getPair at h ⊢
  cases h1 : lookup m (a, b) with
  | some x =>
    by_cases hx : x = 0
    · subst hx
      simp only [h1, Option.getD_some, if_true] at h ⊢
      cases h2 : lookup m (b, a) with
      | some y =>
        simp only [h2, Option.getD_some] at h ⊢
        exact List.mem_map.mpr ⟨_, lookup_some_mem h2, rfl⟩
      | none => simp [h2] at h
    · simp only [Option.getD_some, if_neg hx]
      exact List.mem_map.mpr ⟨_, lookup_some_mem h1, rfl⟩
  | none =>
    simp only [h1, Option.getD_none, if_true] at h ⊢
    cases h2 : lookup m (b, a) with
    | some y =>
      simp only [Option.getD_some]
      exact List.mem_map.mpr ⟨_, lookup_some_mem h2, rfl⟩
    | none => simp [h2] at h

theorem getTmpOwner_live {m : TmpMap} {period now : Nat} {a t : Addr} {created : Nat}
    (hl : tmpLookup m a = some (t, created)) (hlive : now < created + period) :
    getTmpOwner m period now a = (m, some t) := by
  unfold getTmpOwner
  rw [hl]
  simp only [if_neg (Nat.not_le.mpr hlive)]

theorem getTmpOwner_expired {m : TmpMap} {period now : Nat} {a t : Addr} {created : Nat}
    (hl : tmpLookup m a = some (t, created)) (hexp : created + period ≤ now) :
    getTmpOwner m period now a = (tmpErase m a, none) := by
  unfold getTmpOwner
  rw [hl]
  simp only [if_pos hexp]

theorem getTmpOwner_none {m : TmpMap} {period now : Nat} {a : Addr}
    (hl : tmpLookup m a = none) : getTmpOwner m period now a = (m, none) := by
  unfold getTmpOwner
  rw [hl]

end Mx.Router
