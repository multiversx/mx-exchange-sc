/-
  Fees collector, paid log (Lemmas/FeesLog.lean) over whole histories:
  * every entry's amount is the share formula on the week's frozen total, the claimer's recorded
    energy decayed to that week, and the week's total energy (`stepLog_amount`);
  * no (user, week, token) key occurs twice in the log of a history (`paidLog_once_from`, by the
    log invariant `LogOk`);
  * the log is complete: the per-week payment ledger is the sum of the log (`paidLog_sum_from`).
-/
import MxModel.Lemmas.FeesLog
import MxModel.Lemmas.ListSum

namespace Mx.Fees

open Mx.Weekly

/-- where a successful claim of `u` moves the ledger — week `w`, token `t` — `t` is a token of the
    week's frozen list and the ledger grows by the share `⌊total · e / E⌋` of the amount frozen for
    it, with `e` the energy of `u`'s STORED progress decayed to `w` and `E` the week's total energy,
    which the claim leaves as it was -/
theorem claimCore_booked {s s' : St} {u : Nat} {o : Out} (hL' : LInv s')
    (hc : claimCore s u = some (s', o)) {w : Nat} {t : Tok} (hne : s'.a.paid w t ≠ s.a.paid w t) :
    t ∈ (s'.w.totalRewards w).map Prod.fst ∧
    s'.a.paid w t = s.a.paid w t +
      share (s'.a.collected w t) (eForP s.w.progress u w) (s.w.totalEnergy w) ∧
    s'.w.totalEnergy w = s.w.totalEnergy w := by
  obtain ⟨g1, g2, r, k⟩ := claimCore_spec hc
  obtain ⟨hlo4, hltW, p, hp, hple⟩ := (claimCore_once k.week hc).2.2 w t hne
  -- the week is one of the claimer's window: its cells are those of one call of the hook
  obtain ⟨ga, aa, gb, ab, rk, hr, ea, eb⟩ := (k.run.perWeek weekCells feesRewards_local).2 w
    (mem_window.mpr ⟨p, hp, hple, hltW, hlo4⟩).1 hltW
  have hbook := feesRewards_amounts hr t
  rw [show ab.paid w = s'.a.paid w from congrArg (·.2.2.2) eb,
    show aa.paid w = s.a.paid w from
      (congrArg (·.2.2.2) ea).trans (congrFun (accumulateAdditional_paid s _) w),
    show gb.totalRewards w = s'.w.totalRewards w from (congrArg (·.1) eb).trans (by rw [k.w]; rfl),
    amountOf_paysFor (fun t => s'.a.collected w t) _ _ _ _ (hL'.frozenNodup w)
      (fun q hq => hL'.frozen w q hq)] at hbook
  have hmem : t ∈ (s'.w.totalRewards w).map Prod.fst := by
    by_contra hnot
    rw [if_neg hnot] at hbook
    exact hne hbook
  rw [if_pos hmem] at hbook
  refine ⟨hmem, hbook, ?_⟩
  rw [k.w]
  exact (congrFun (k.run.frame feesRewards_frame).totalEnergy w).trans
    ((updateUser_weekStep k.update).window hltW hlo4).1

theorem stepLog_amount {s : St} (hI : AllInv s) {op : Op} {e : Entry} (h : e ∈ stepLog s op) :
    e.amount = share ((next s op).a.collected e.week e.tok)
        (eForP s.w.progress e.user e.week) (s.w.totalEnergy e.week) ∧
    (e.tok, (next s op).a.collected e.week e.tok) ∈ (next s op).w.totalRewards e.week ∧
    0 < e.amount ∧ (next s op).w.totalEnergy e.week = s.w.totalEnergy e.week := by
  obtain ⟨u, o, _, hc, hm⟩ := stepLog_cases h
  have hL' : LInv (next s op) := (next_AllInv hI op).l
  obtain ⟨heu, _, hne, hamt, total, htot⟩ := mem_entriesOf.mp hm
  subst heu
  obtain ⟨_, hbook, hE⟩ := claimCore_booked hL' hc hne
  have hfz := hL'.frozen e.week (e.tok, total) htot
  simp only at hfz
  refine ⟨by rw [hamt]; omega, by rw [← hfz]; exact htot, by rw [hamt]; omega, hE⟩

def sameKey (e e' : Entry) : Prop := e.user = e'.user ∧ e.week = e'.week ∧ e.tok = e'.tok

/-- every logged entry lies in a completed week that its user's progress has already passed -/
def LogOk (s : St) (l : List Entry) : Prop :=
  ∀ e ∈ l, e.week < curWeek s ∧ ∀ p, s.w.progress e.user = some p → e.week < p.week

theorem entriesOf_pairwise (u : Nat) (s s' : St)
    (hnd : ∀ w, ((s'.w.totalRewards w).map Prod.fst).Nodup) :
    (entriesOf u s s').Pairwise (fun e e' => ¬ (e.week = e'.week ∧ e.tok = e'.tok)) := by
  unfold entriesOf
  rw [List.pairwise_flatMap]
  constructor
  · intro w _
    rw [List.pairwise_filterMap]
    have := hnd w
    unfold List.Nodup at this
    rw [List.pairwise_map] at this
    refine this.imp ?_
    intro p q hpq b hb b' hb' hk
    split at hb
    · split at hb'
      · simp only [Option.some.injEq] at hb hb'
        subst hb; subst hb'
        exact hpq hk.2
      · cases hb'
    · cases hb
  · refine (List.pairwise_lt_range (n := curWeek s)).imp ?_
    intro w1 w2 hlt x hx y hy hk
    simp only [List.mem_filterMap] at hx hy
    obtain ⟨p, _, hp⟩ := hx
    obtain ⟨q, _, hq⟩ := hy
    split at hp
    · split at hq
      · simp only [Option.some.injEq] at hp hq
        subst hp; subst hq
        have := hk.1
        simp only at this
        omega
      · cases hq
    · cases hp

theorem stepLog_pairwise {s : St} (hI : AllInv s) (op : Op) :
    (stepLog s op).Pairwise (fun e e' => ¬ sameKey e e') := by
  have hL' : LInv (next s op) := (next_AllInv hI op).l
  unfold stepLog
  split
  · rename_i u r hu hs
    rw [next_of_some hs] at hL'
    exact (entriesOf_pairwise u s r.1 hL'.frozenNodup).imp fun h hk => h hk.2
  · exact List.Pairwise.nil

/-- new entries never repeat the key of an older one: the claimer's stored progress is at or
    before the paid week, whereas it is strictly after every week already logged for that user -/
theorem stepLog_fresh {s : St} {l : List Entry} (hO : LogOk s l) {op : Op} :
    ∀ a ∈ l, ∀ b ∈ stepLog s op, ¬ sameKey a b := by
  intro a ha b hb hk
  obtain ⟨_, _, _, p, hp, hple⟩ := stepLog_window hb
  have := (hO a ha).2 p (by rw [hk.1]; exact hp)
  have := hk.2.1
  omega

/-- the log invariant is kept by every operation, with the operation's entries appended: a user
    touch puts the user's progress at the current week, beyond every completed week -/
theorem next_LogOk {s : St} {l : List Entry} (hO : LogOk s l) (op : Op) :
    LogOk (next s op) (l ++ stepLog s op) := by
  rcases next_cases s op with ⟨hs, e0⟩ | ⟨_, hst⟩
  · rw [e0, stepLog_of_none hs, List.append_nil]; exact hO
  obtain ⟨hmono, hus⟩ := hst.userStep
  intro e he
  have hwk : e.week < curWeek s := by
    rcases List.mem_append.mp he with he | he
    · exact (hO e he).1
    · exact (stepLog_window he).2.2.1
  refine ⟨Nat.lt_of_lt_of_le hwk hmono, fun p hp => ?_⟩
  rcases hus with ⟨u, cur, hu, hcu⟩ | ⟨hcu, hw⟩
  · by_cases heu : e.user = u
    · rw [heu, hu.progress.1] at hp
      rw [(newOf_eq_some.mp hp).2]
      exact hwk
    · rw [hu.progress.2 _ heu] at hp
      rcases List.mem_append.mp he with he | he
      · exact (hO e he).2 p hp
      · exact absurd (hcu _ (stepLog_window he).1) heu
  · rw [stepLog_of_not_claim hcu, List.append_nil] at he
    rw [hw] at hp
    exact (hO e he).2 p hp

/-- no key twice, generalised for the induction: an older log `pre` that satisfies the log
    invariant in `s` and has no repeated key stays so when the paid log of any history from `s`
    is appended -/
theorem paidLog_once_from (ops : List Op) : ∀ {s : St} (_ : AllInv s) {pre : List Entry}
    (_ : LogOk s pre) (_ : pre.Pairwise (fun e e' => ¬ sameKey e e')),
    (pre ++ paidLog s ops).Pairwise (fun e e' => ¬ sameKey e e') := by
  induction ops with
  | nil => intro s _ pre _ hP; simpa [paidLog] using hP
  | cons op ops ih =>
    intro s hI pre hO hP
    simp only [paidLog]
    rw [← List.append_assoc]
    refine ih (next_AllInv hI op) (next_LogOk hO op) ?_
    rw [List.pairwise_append]
    exact ⟨hP, stepLog_pairwise hI op, stepLog_fresh hO⟩

def logSum (l : List Entry) (w : Nat) (t : Tok) : Nat :=
  (l.map fun e => if e.week = w ∧ e.tok = t then e.amount else 0).sum

theorem logSum_nil (w : Nat) (t : Tok) : logSum [] w t = 0 := rfl

theorem logSum_append (l1 l2 : List Entry) (w : Nat) (t : Tok) :
    logSum (l1 ++ l2) w t = logSum l1 w t + logSum l2 w t := by
  unfold logSum; rw [List.map_append, List.sum_append]

theorem logSum_zero {l : List Entry} {w : Nat} {t : Tok}
    (h : ∀ e ∈ l, e.week = w ∧ e.tok = t → e.amount = 0) : logSum l w t = 0 :=
  sum_map_zero _ l fun e he => by
    split
    · exact h e he ‹_›
    · rfl

theorem exists_of_logSum_pos {l : List Entry} {w : Nat} {t : Tok} (h : 0 < logSum l w t) :
    ∃ e ∈ l, e.week = w ∧ e.tok = t ∧ 0 < e.amount := by
  by_contra hno
  have := logSum_zero (l := l) (w := w) (t := t) fun e he hk =>
    Nat.eq_zero_of_not_pos fun hp => hno ⟨e, he, hk.1, hk.2, hp⟩
  omega

theorem logSum_of_mem {l : List Entry}
    (hP : l.Pairwise fun e e' => ¬ (e.week = e'.week ∧ e.tok = e'.tok)) {e : Entry} (he : e ∈ l) :
    logSum l e.week e.tok = e.amount := by
  induction l with
  | nil => cases he
  | cons x xs ih =>
    rw [List.pairwise_cons] at hP
    show (if x.week = e.week ∧ x.tok = e.tok then x.amount else 0) + logSum xs e.week e.tok = _
    rcases List.mem_cons.mp he with rfl | hx
    · rw [if_pos ⟨rfl, rfl⟩, logSum_zero (fun y hy hk => absurd ⟨hk.1.symm, hk.2.symm⟩ (hP.1 y hy))]
      rfl
    · rw [if_neg (hP.1 e hx), ih hP.2 hx, Nat.zero_add]

theorem logSum_entriesOf (u : Nat) (s s' : St)
    (hnd : ∀ w, ((s'.w.totalRewards w).map Prod.fst).Nodup) (w : Nat) (t : Tok) :
    logSum (entriesOf u s s') w t =
      if w < curWeek s ∧ t ∈ (s'.w.totalRewards w).map Prod.fst ∧ s'.a.paid w t ≠ s.a.paid w t then
        s'.a.paid w t - s.a.paid w t else 0 := by
  split
  · rename_i h
    obtain ⟨hw, hmem, hne⟩ := h
    obtain ⟨⟨t', total⟩, hp, rfl⟩ := List.mem_map.mp hmem
    exact logSum_of_mem (entriesOf_pairwise u s s' hnd)
      (e := ⟨u, w, t', s'.a.paid w t' - s.a.paid w t'⟩)
      (mem_entriesOf.mpr ⟨rfl, hw, hne, rfl, total, hp⟩)
  · rename_i h
    refine logSum_zero fun e he hk => absurd ?_ h
    obtain ⟨_, hw, hne, _, total, hp⟩ := mem_entriesOf.mp he
    obtain ⟨rfl, rfl⟩ := hk
    exact ⟨hw, List.mem_map.mpr ⟨_, hp, rfl⟩, hne⟩

theorem stepLog_sum {s : St} (hI : AllInv s) (op : Op) (w : Nat) (t : Tok) :
    (next s op).a.paid w t = s.a.paid w t + logSum (stepLog s op) w t := by
  have hL' : LInv (next s op) := (next_AllInv hI op).l
  rcases next_cases s op with ⟨hs, e0⟩ | ⟨_, hst⟩
  · rw [e0, stepLog_of_none hs, logSum_nil]; rfl
  rcases hst.paid with ⟨u, o, hcu, hc⟩ | ⟨hcu, hp⟩
  · rw [stepLog_of_claim hcu, logSum_entriesOf u s _ hL'.frozenNodup]
    by_cases hne : (next s op).a.paid w t = s.a.paid w t
    · simp [hne]
    · obtain ⟨hmem, hbook, _⟩ := claimCore_booked hL' hc hne
      obtain ⟨_, _, _, k⟩ := claimCore_spec hc
      have hlt := ((claimCore_once k.week hc).2.2 w t hne).2.1
      rw [if_pos ⟨hlt, hmem, hne⟩]
      omega
  · rw [stepLog_of_not_claim hcu, logSum_nil, hp]; rfl

theorem paidLog_sum_from (ops : List Op) : ∀ {s : St} (_ : AllInv s) (w : Nat) (t : Tok),
    (run s ops).a.paid w t = s.a.paid w t + logSum (paidLog s ops) w t := by
  induction ops with
  | nil => intro s _ w t; simp [run, paidLog, logSum]
  | cons op ops ih =>
    intro s hI w t
    rw [run_cons, ih (next_AllInv hI op) w t, stepLog_sum hI op w t]
    simp only [paidLog, logSum_append]
    omega

end Mx.Fees
