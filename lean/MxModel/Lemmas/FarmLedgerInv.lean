/-
  The wallet ledger of the farm world (`Core/FarmLedger.lean`): exact point-wise description of what one
  ledger step does to every wallet (`stepL_op_spec`, `stepL_fund_spec`), the conservation invariant
  `LInv` over all histories (`runL_inv`), and the farm inside the ledger as a run of the farm model
  (`runL_f`).
-/
import MxModel.Lemmas.FarmLedgerFlow
import MxModel.Lemmas.WeeklySum

namespace Mx.FarmLedger
open Mx.Farm
open Mx.Weekly (upd)

/-- sum of a wallet column over the accounts of the world -/
def sumU (users : List Nat) (f : Nat → Nat) : Nat := (users.map f).sum

theorem sumU_congr {users : List Nat} {f g : Nat → Nat} (h : ∀ u ∈ users, g u = f u) :
    sumU users g = sumU users f :=
  Weekly.usum_congr h

theorem sumU_point {users : List Nat} (hnd : users.Nodup) {f g : Nat → Nat} {a : Nat} (ha : a ∈ users)
    (h : ∀ u, u ≠ a → g u = f u) : sumU users g + f a = sumU users f + g a :=
  Weekly.usum_update hnd ha fun u _ hu => h u hu

/-- a caller pays `pay` and gets `get` back: `hp` has the shape of `Flow.payer`, `hg` that of a wallet
    column in `stepL_op_spec` -/
theorem sumU_payer {users : List Nat} (hnd : users.Nodup) {f g : Nat → Nat} {a pay get : Nat}
    (hp : a ∈ users ∨ (pay = 0 ∧ get = 0)) (hle : pay ≤ f a)
    (hg : ∀ j, g j = if j = a then f j - pay + get else f j) :
    sumU users g + pay = sumU users f + get := by
  by_cases ha : a ∈ users
  · have := sumU_point hnd ha (f := f) (g := g) (fun u hu => by rw [hg u, if_neg hu])
    have e := hg a
    rw [if_pos rfl] at e
    omega
  · rcases hp with hp | ⟨rfl, rfl⟩
    · exact absurd hp ha
    · rw [sumU_congr (f := f) (g := g)]
      intro u _
      rw [hg u]; split
      · omega
      · rfl

/-- a receiver is credited `x`; what goes to an address outside the world is counted in `out` -/
theorem sumU_credit {users : List Nat} (hnd : users.Nodup) {f g : Nat → Nat} {a x out : Nat}
    (hg : ∀ j, g j = f j + (if j = a then x else 0)) :
    sumU users g + (if a ∈ users then out else out + x) = sumU users f + out + x := by
  by_cases ha : a ∈ users
  · have := sumU_point hnd ha (f := f) (g := g) (fun u hu => by rw [hg u, if_neg hu]; rfl)
    have e := hg a
    rw [if_pos rfl] at e
    rw [if_pos ha]; omega
  · rw [if_neg ha, sumU_congr (f := f) (g := g)]
    · omega
    · intro u hu
      rw [hg u, if_neg (fun (e : u = a) => ha (e ▸ hu))]; rfl

/-- Point-wise in both columns: under `sameCol` the farming-token movement of the caller lands in the
    `rew` column, and the reward credit of the same call is added on top of it. -/
theorem stepL_op_spec {l l' : L} {op : Op} {o : Out} (h : stepL l (.op op) = some (l', o)) :
    step l.f op = some (l'.f, o) ∧
    (moveF l.f op o).payFarming ≤ l.w.getF (sameCol l.f) (moveF l.f op o).payer ∧
    l'.funded = l.funded ∧
    l'.outside = (if (moveF l.f op o).rewTo ∈ l.f.users then l.outside else l.outside + (moveF l.f op o).rew) ∧
    (∀ j, l'.w.farming j =
      if sameCol l.f = false ∧ j = (moveF l.f op o).payer
      then l.w.farming j - (moveF l.f op o).payFarming + (moveF l.f op o).getFarming else l.w.farming j) ∧
    (∀ j, l'.w.rew j =
      (if sameCol l.f = true ∧ j = (moveF l.f op o).payer
       then l.w.rew j - (moveF l.f op o).payFarming + (moveF l.f op o).getFarming else l.w.rew j)
      + (if j = (moveF l.f op o).rewTo then (moveF l.f op o).rew else 0)) := by
  simp only [stepL, applyMove, Option.bind_eq_bind, Option.bind_eq_some_iff, Option.pure_def,
    Option.some.injEq, Prod.mk.injEq, sub?_eq_some] at h
  obtain ⟨⟨s1, o1⟩, hs, w1, ⟨v, ⟨hle, rfl⟩, rfl⟩, rfl, rfl⟩ := h
  dsimp only at hle ⊢
  refine ⟨hs, hle, rfl, rfl, ?_, ?_⟩
  · intro j
    by_cases hj : j = (moveF l.f op o1).payer
    · subst hj
      cases hsame : sameCol l.f <;> simp [Wal.setF, Wal.credit, Wal.getF, upd]
    · cases hsame : sameCol l.f <;> simp [Wal.setF, Wal.credit, Wal.getF, upd, hj]
  · intro j
    by_cases hj : j = (moveF l.f op o1).payer
    · subst hj
      cases hsame : sameCol l.f <;>
        by_cases hr : (moveF l.f op o1).payer = (moveF l.f op o1).rewTo <;>
        simp [Wal.setF, Wal.credit, Wal.getF, upd, hr]
    · by_cases hr : j = (moveF l.f op o1).rewTo
      · subst hr
        cases hsame : sameCol l.f <;> simp [Wal.setF, Wal.credit, Wal.getF, upd, hj]
      · cases hsame : sameCol l.f <;> simp [Wal.setF, Wal.credit, Wal.getF, upd, hj, hr]

theorem stepL_pays {l l' : L} {op : Op} {o : Out} (h : stepL l (.op op) = some (l', o)) {c u r : Nat}
    (hm : moveF l.f op o = ⟨c, 0, 0, u, r⟩) :
    l'.w.rew u = l.w.rew u + r ∧ (∀ j, j ≠ u → l'.w.rew j = l.w.rew j) ∧
    (∀ j, l'.w.farming j = l.w.farming j) := by
  obtain ⟨_, _, _, _, hfar, hrw⟩ := stepL_op_spec h
  rw [hm] at hfar hrw
  refine ⟨?_, fun j hj => ?_, fun j => ?_⟩
  · have := hrw u
    simp at this; exact this
  · have := hrw j
    simp [hj] at this; exact this
  · have := hfar j
    simp at this; exact this

theorem stepL_fund_spec {l l' : L} {who x : Nat} {o : Out} (h : stepL l (.fund who x) = some (l', o)) :
    who ∈ l.f.users ∧ l'.f = l.f ∧ l'.outside = l.outside ∧
    l'.funded = l.funded + (x - l.w.getF (sameCol l.f) who) ∧
    (∀ j, l'.w.farming j = if sameCol l.f = false ∧ j = who then max (l.w.farming j) x else l.w.farming j) ∧
    (∀ j, l'.w.rew j = if sameCol l.f = true ∧ j = who then max (l.w.rew j) x else l.w.rew j) := by
  simp only [stepL, Option.bind_eq_bind, Option.bind_eq_some_iff, Option.pure_def,
    Option.some.injEq, Prod.mk.injEq, req_eq_some] at h
  obtain ⟨_, hw, rfl, _⟩ := h
  refine ⟨hw, rfl, rfl, rfl, ?_, ?_⟩
  · intro j
    by_cases hj : j = who
    · subst hj
      cases hsame : sameCol l.f <;> simp [Wal.setF, Wal.getF, upd]
    · cases hsame : sameCol l.f <;> simp [Wal.setF, Wal.getF, upd, hj]
  · intro j
    by_cases hj : j = who
    · subst hj
      cases hsame : sameCol l.f <;> simp [Wal.setF, Wal.getF, upd]
    · cases hsame : sameCol l.f <;> simp [Wal.setF, Wal.getF, upd, hj]

/-- the conservation invariant of the ledger -/
structure LInv (l : L) : Prop where
  nodup : l.f.users.Nodup
  /-- all fungible tokens of the world: what the accounts hold + what left the world + the farm's
      principal + burned penalties = what the faucet created + what the farm paid out -/
  total : sumU l.f.users l.w.farming + sumU l.f.users l.w.rew + l.outside + l.f.balFarming + l.f.penaltyBurned
      = l.funded + l.f.paid
  /-- separate tokens: the reward wallets hold exactly what the farm booked as paid -/
  rew : sameCol l.f = false → sumU l.f.users l.w.rew + l.outside = l.f.paid
  /-- one token: the farming column is not used -/
  unused : sameCol l.f = true → ∀ u, l.w.farming u = 0
  /-- the farm's own accounting invariant (C05) -/
  acct : Acct l.f

theorem initL_inv (kind : Kind) (sameTok : Bool) (dsc perBlock : Nat) (produce : Bool) (users : List Nat)
    (e0 : Nat) (hnd : users.Nodup) : LInv (initL kind sameTok dsc perBlock produce users e0) := by
  have hz : sumU users (fun _ => 0) = 0 := by
    unfold sumU; exact Weekly.usum_zero (fun _ _ => rfl)
  refine ⟨hnd, ?_, fun _ => ?_, fun _ _ => rfl, init_acct ..⟩
  · show sumU users (fun _ => 0) + sumU users (fun _ => 0) + 0 + 0 + 0 = 0 + 0
    rw [hz]
  · show sumU users (fun _ => 0) + 0 = 0
    rw [hz]

theorem stepL_inv {l l' : L} {lop : LOp} {o : Out} (hI : LInv l) (h : stepL l lop = some (l', o)) :
    LInv l' := by
  obtain ⟨hnd, htot, hrew, hun, hacct⟩ := hI
  cases lop with
  | fund who x =>
    obtain ⟨hw, hf, ho, hfd, hfar, hrw⟩ := stepL_fund_spec h
    have hnd' : l'.f.users.Nodup := by rw [hf]; exact hnd
    have hacct' : Acct l'.f := by rw [hf]; exact hacct
    cases hsame : sameCol l.f
    · simp only [hsame, true_and, Bool.false_eq_true, false_and, if_false] at hfar hrw hfd
      have e1 := sumU_point hnd hw (f := l.w.farming) (g := l'.w.farming)
        (fun u hu => by rw [hfar u, if_neg hu])
      have e2 : sumU l.f.users l'.w.rew = sumU l.f.users l.w.rew := sumU_congr (fun u _ => hrw u)
      have e3 := hfar who
      rw [if_pos rfl] at e3
      simp only [Wal.getF, Bool.false_eq_true, if_false] at hfd
      have hr := hrew hsame
      refine ⟨hnd', ?_, fun _ => ?_, (fun hh => by rw [hf, hsame] at hh; cases hh), hacct'⟩
      · rw [hf, e2, ho, hfd]; omega
      · rw [hf, e2, ho]; exact hr
    · simp only [hsame, true_and, Bool.true_eq_false, false_and, if_false] at hfar hrw hfd
      have e1 := sumU_point hnd hw (f := l.w.rew) (g := l'.w.rew)
        (fun u hu => by rw [hrw u, if_neg hu])
      have e2 : sumU l.f.users l'.w.farming = sumU l.f.users l.w.farming := sumU_congr (fun u _ => hfar u)
      have e3 := hrw who
      rw [if_pos rfl] at e3
      simp only [Wal.getF, if_true] at hfd
      refine ⟨hnd', ?_, (fun hh => by rw [hf, hsame] at hh; cases hh),
        (fun _ u => by rw [hfar u]; exact hun hsame u), hacct'⟩
      rw [hf, e2, ho, hfd]; omega
  | op op =>
    obtain ⟨hs, hle, hfd, ho, hfar, hrw⟩ := stepL_op_spec h
    obtain ⟨fu, fp, fb, ff, fpay, fc⟩ := step_flow hs
    have hsc := step_sameCol hs
    have hacct' := step_acct hacct hs
    have hnd' : l'.f.users.Nodup := by rw [fu]; exact hnd
    generalize moveF l.f op o = m at *
    cases hsame : sameCol l.f
    · simp only [hsame, true_and, Bool.false_eq_true, false_and, if_false] at hfar hrw hle
      have hc0 : compAmt op o = 0 := by
        by_contra hne
        have := fc hne
        rw [hsame] at this; cases this
      simp only [Wal.getF, Bool.false_eq_true, if_false] at hle
      have e1 := sumU_payer hnd fpay hle hfar
      have e2 := sumU_credit hnd (out := l.outside) hrw
      rw [← ho] at e2
      have hr := hrew hsame
      refine ⟨hnd', ?_, fun _ => ?_, (fun hh => by rw [hsc, hsame] at hh; cases hh), hacct'⟩
      · rw [fu, hfd]; omega
      · rw [fu]; omega
    · simp only [hsame, true_and, Bool.true_eq_false, false_and, if_false] at hfar hrw hle
      simp only [Wal.getF, if_true] at hle
      -- the reward column: first the farming-token movement of the caller, then the reward credit
      have e1 := sumU_payer hnd fpay hle
        (g := fun j => if j = m.payer then l.w.rew j - m.payFarming + m.getFarming else l.w.rew j)
        (fun _ => rfl)
      have e2 := sumU_credit hnd (out := l.outside)
        (f := fun j => if j = m.payer then l.w.rew j - m.payFarming + m.getFarming else l.w.rew j)
        (g := l'.w.rew) hrw
      rw [← ho] at e2
      have e3 : sumU l.f.users l'.w.farming = sumU l.f.users l.w.farming := sumU_congr (fun u _ => hfar u)
      refine ⟨hnd', ?_, (fun hh => by rw [hsc, hsame] at hh; cases hh),
        (fun _ u => by rw [hfar u]; exact hun hsame u), hacct'⟩
      rw [fu, e3, hfd]; omega

theorem runL_inv (ops : List LOp) {l : L} (hI : LInv l) : LInv (runL l ops) := by
  induction ops generalizing l with
  | nil => exact hI
  | cons op rest ih =>
    simp only [runL, List.foldl_cons]
    cases hs : stepL l op with
    | none => exact ih hI
    | some r => exact ih (stepL_inv hI (o := r.2) (by rw [hs]))

theorem runL_cons (l : L) (op : LOp) (ops : List LOp) :
    runL l (op :: ops) = runL (match stepL l op with | some (l', _) => l' | none => l) ops := rfl

/-- the `Farm.Op`s of the successful calls of a ledger history -/
def farmOps : L → List LOp → List Op
  | _, [] => []
  | l, op :: ops =>
    match stepL l op with
    | none => farmOps l ops
    | some (l', _) =>
      match op with
      | .op o => o :: farmOps l' ops
      | .fund _ _ => farmOps l' ops

/-- A call the ledger rejects because the caller's wallet is short is a failed transaction: `farmOps`
    drops it although `Farm.step` alone accepts it. -/
theorem runL_f (ops : List LOp) (l : L) : (runL l ops).f = Farm.run l.f (farmOps l ops) := by
  induction ops generalizing l with
  | nil => rfl
  | cons op ops ih =>
    rw [runL_cons]
    cases h : stepL l op with
    | none =>
      simp only [farmOps, h]
      exact ih l
    | some r =>
      obtain ⟨l1, o⟩ := r
      cases op with
      | fund who x =>
        obtain ⟨_, e1, _⟩ := stepL_fund_spec h
        simp only [farmOps, h]
        rw [ih l1, e1]
      | op op =>
        obtain ⟨hs, _⟩ := stepL_op_spec h
        simp only [farmOps, h]
        rw [ih l1]
        simp [Farm.run, hs]

end Mx.FarmLedger
