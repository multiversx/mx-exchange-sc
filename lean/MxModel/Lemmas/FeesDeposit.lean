/-
  Fees collector: the DEPOSITED ledger as a function of the history — what the operations of a
  history put into week `w` in token `t`: the amounts of the successful `depositSwapFees` calls made
  during week `w`, plus (locked token only) the per-block top-up that the first claim /
  `setLockedTokensPerBlock` of a week credits to the previous week.

  Over all histories (`owed_eq_deposited_from`):  accumulated w t + collected w t  grows by exactly
  deposited w t  (nothing is lost, nothing appears from nowhere).  Props/C10Once.lean derives
  paid ≤ collected ≤ deposited  and, for non-locked tokens,  balance = Σ_w (deposited w − paid w)
  (through `owedAll_eq_deposited`).
-/
import MxModel.Lemmas.FeesBal

namespace Mx.Fees

open Mx.Weekly

/-- the top-up of `accumulate_additional_locked_tokens` run in week `W`: the PREVIOUS week gets
    `perBlock · BLOCKS_IN_WEEK` locked tokens, once per week -/
def topUp (s : St) (W w : Nat) (t : Tok) : Nat :=
  if s.lastAddWeek ≠ W ∧ w = W - 1 ∧ t = lockedTok then s.perBlock * BLOCKS_IN_WEEK else 0

/-- what a (successful) `op` executed in `s` deposits for week `w` in token `t` -/
def opDeposit (s : St) (op : Op) (w : Nat) (t : Tok) : Nat :=
  match op with
  | .deposit _ tok _ amt => if w = curWeek s ∧ t = tok then amt else 0
  | .claim _ _ | .claimBoosted _ _ | .setPerBlock _ => topUp s (curWeek s) w t
  | _ => 0

/-- what `op`, executed in `s`, deposits for week `w` in token `t` (0 when it fails) -/
def stepDeposit (s : St) (op : Op) (w : Nat) (t : Tok) : Nat :=
  if (step s op).isSome then opDeposit s op w t else 0

/-- the deposited ledger of a history started in `s` -/
def deposited (s : St) : List Op → Nat → Tok → Nat
  | [], _, _ => 0
  | op :: ops, w, t => stepDeposit s op w t + deposited (next s op) ops w t

theorem accumulateAdditional_owed (s : St) (W w : Nat) (t : Tok) :
    (accumulateAdditional s W).a.accumulated w t + (accumulateAdditional s W).a.collected w t =
      s.a.accumulated w t + s.a.collected w t + topUp s W w t := by
  unfold accumulateAdditional topUp
  by_cases h : s.lastAddWeek = W
  · simp [h]
  · simp only [h, if_false, ne_eq, not_false_eq_true, true_and, upd2]
    by_cases hk : w = W - 1 ∧ t = lockedTok
    · simp only [hk, and_self, if_true]; omega
    · simp only [hk, if_false]; omega

theorem claimCore_owed {s s' : St} {orig : Nat} {o : Out} (h : claimCore s orig = some (s', o))
    (w : Nat) (t : Tok) :
    s'.a.accumulated w t + s'.a.collected w t =
      s.a.accumulated w t + s.a.collected w t + topUp s (curWeek s) w t := by
  obtain ⟨g1, g2, r, k⟩ := claimCore_spec h
  rw [run_owed k.run w t, accumulateAdditional_owed]

theorem opDeposit_claim {op : Op} {u : Nat} (hu : claimUser op = some u) (s : St) (w : Nat) (t : Tok) :
    opDeposit s op w t = topUp s (curWeek s) w t := by
  cases op with
  | claim | claimBoosted => rfl
  | _ => cases hu

theorem opDeposit_quiet {op : Op} (hq : op.quiet) (s : St) (w : Nat) (t : Tok) :
    opDeposit s op w t = 0 := by
  cases op with
  | deposit | claim | claimBoosted | updateEnergy | setPerBlock => exact hq.elim
  | _ => rfl

theorem step_owed {s s' : St} {op : Op} (h : Step s op s') (w : Nat) (t : Tok) :
    s'.a.accumulated w t + s'.a.collected w t =
      s.a.accumulated w t + s.a.collected w t + opDeposit s op w t := by
  cases h with
  | @deposit c tok n amt hn =>
    show upd2 s.a.accumulated (curWeek s) tok _ w t + _ =
      _ + (if w = curWeek s ∧ t = tok then amt else 0)
    unfold upd2
    by_cases hk : w = curWeek s ∧ t = tok
    · simp only [hk, and_self, if_true]; omega
    · simp only [hk, if_false]; omega
  | claim hu hc => rw [opDeposit_claim hu]; exact claimCore_owed hc w t
  | updateEnergy _ => rfl
  | setPerBlock => exact accumulateAdditional_owed s (curWeek s) w t
  | quiet hq q => rw [opDeposit_quiet hq, q.accumulated, q.collected]; rfl

theorem stepDeposit_of_none {s : St} {op : Op} (h : step s op = none) (w : Nat) (t : Tok) :
    stepDeposit s op w t = 0 := by
  unfold stepDeposit; rw [h]; rfl

theorem owed_eq_deposited_from (ops : List Op) : ∀ (s : St) (w : Nat) (t : Tok),
    (run s ops).a.accumulated w t + (run s ops).a.collected w t =
      s.a.accumulated w t + s.a.collected w t + deposited s ops w t := by
  induction ops with
  | nil => intro s w t; simp [run, deposited]
  | cons op ops ih =>
    intro s w t
    rw [run_cons, ih (next s op) w t]
    simp only [deposited]
    rcases next_cases s op with ⟨hs, e⟩ | ⟨hs, hst⟩
    · rw [e, stepDeposit_of_none hs]; omega
    · have := step_owed hst w t
      unfold stepDeposit
      rw [if_pos hs]
      omega

theorem owedAll_eq_deposited (epoch lockEpochs : Nat) (known : List Tok)
    (contracts whitelist : List Nat) (ops : List Op) (t : Tok) (K : Nat) :
    owedAll (run (init epoch lockEpochs known contracts whitelist) ops) t K =
      usum (List.range K)
        (fun w => deposited (init epoch lockEpochs known contracts whitelist) ops w t) := by
  unfold owedAll
  apply usum_congr
  intro w _
  rw [owed_eq_deposited_from ops _ w t]
  show 0 + 0 + _ = _
  omega

end Mx.Fees
