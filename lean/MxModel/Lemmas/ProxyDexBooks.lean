/-
  The books of the proxy-dex model and how every building block and every endpoint moves them.
  A movement is accumulated along the trace of an endpoint: each building block has one lemma
  (`Moved.takeW`, `Moved.newF`, …) that extends a movement reaching its start state to its end
  state.  The supply ledger `NetInv`, the LP backing `LpInv`, the energy ledger and the
  merge-conservation theorems read the movement of an endpoint (ProxyDexNetOps, ProxyDexLpOps,
  ProxyDexWho, Props/C16Run).
-/
import MxModel.Lemmas.ProxyDexSpec
import MxModel.Lemmas.ProxyDexTrace
import MxModel.Core.ProxyDexCheck

namespace Mx.ProxyDex


/-- total amount of a list of (nonce, amount) payments (`paySum`, over `sumOf`) -/
def sumX (l : List (Nat × Nat)) : Nat := sumOf (·.2) l

/-- locked tokens reserved by a wrapped farm record (only records entered with locked tokens) -/
def lkF (q : WFarm) : Nat := if q.kind = .locked then q.remP else 0

/-- all locked tokens reserved by outstanding wrapped tokens (every nonce) -/
def RT (s : St) : Nat := sumOf (·.rem) s.wl + sumOf lkF s.wf

/-- all farm tokens reserved by outstanding wrapped farm tokens -/
def FT (s : St) : Nat := sumOf (·.remF) s.wf

theorem lockedWs_eq (s : St) (l : List (Nat × Nat)) :
    lockedWs s l = sumOf (fun wx => lockedA s.aw wx.1 wx.2) l := rfl

theorem lockedFs_eq (s : St) (l : List (Nat × Nat)) :
    lockedFs s l = sumOf (fun fx => lockedFA s.aw s.af fx.1 fx.2) l := rfl

theorem paySum_eq (l : List (Nat × Nat)) : paySum l = sumX l := rfl

theorem learn_C (s : St) (t : LkTok) : C (learn s t) = C s := rfl

theorem newF_C (s : St) (farm fn fa : Nat) (kind : Kind) (pn pa : Nat) :
    C (newF s farm fn fa kind pn pa).1 = C s ∧ (newF s farm fn fa kind pn pa).1.lp = s.lp :=
  ⟨rfl, rfl⟩

theorem map_set_same {α β : Type} (f : α → β) (l : List α) (i : Nat) (a b : α)
    (h : l[i]? = some a) (hf : f b = f a) : (l.set i b).map f = l.map f := by
  induction l generalizing i with
  | nil => simp at h
  | cons c l ih =>
    cases i with
    | zero =>
      simp only [List.getElem?_cons_zero, Option.some.injEq] at h
      subst h; simp [hf]
    | succ i =>
      simp only [List.getElem?_cons_succ] at h
      simp [ih i h]

theorem aw_get {s : St} {w : Nat} {r : WLp} (h : s.wl[w]? = some r) : s.aw[w]? = some (attrW r) := by
  simp [St.aw, List.getElem?_map, h]

theorem af_get {s : St} {f : Nat} {q : WFarm} (h : s.wf[f]? = some q) : s.af[f]? = some (attrF q) := by
  simp [St.af, List.getElem?_map, h]

theorem lockedA_of {s : St} {w x p : Nat} {r : WLp} (h : s.wl[w]? = some r)
    (hp : part r.locked r.total x = some p) : lockedA s.aw w x = p := by
  unfold lockedA; rw [aw_get h]; simp [attrW, hp]


/-- a wrapped farm token entered with locked tokens records as many locked tokens as farm tokens and
    belongs to the base-asset farm; one entered with wrapped LP belongs to an LP farm.
    The six components of an attribute row (`attrF`, the entries of `St.af` and `Delta.fs`): farm,
    farm token nonce `fn` and amount `fa`, kind of the proxy-farming token, its nonce `pn` and
    amount `pa`.  A row of `St.aw` / `Delta.ws` (`attrW`): LP amount, locked nonce, locked amount. -/
def KindOK (a : Nat × Nat × Nat × Kind × Nat × Nat) : Prop :=
  match a with
  | (farm, _, fa, kind, _, pa) =>
      (kind = .locked → pa = fa ∧ farmIsBase farm = true) ∧ (kind = .wlp → farmIsBase farm = false)

def KindInv (s : St) : Prop := ∀ a ∈ s.af, KindOK a

theorem KindInv.of_af {s s' : St} (h : s'.af = s.af) (hk : KindInv s) : KindInv s' := by
  unfold KindInv; rw [h]; exact hk

theorem KindInv.of_get {s : St} {f : Nat} {q : WFarm} (hk : KindInv s) (h : s.wf[f]? = some q) :
    (q.kind = .locked → q.pa = q.fa ∧ farmIsBase q.farm = true) ∧
    (q.kind = .wlp → farmIsBase q.farm = false) :=
  hk (attrF q) (List.mem_of_getElem? (af_get h))

/-- a wrapped farm token over wrapped LP never records more wrapped LP than farm tokens, and belongs
    to an LP farm (not to the base-asset farm) -/
def LeOK (a : Nat × Nat × Nat × Kind × Nat × Nat) : Prop :=
  match a with
  | (farm, _, fa, kind, _, pa) => kind = .wlp → pa ≤ fa ∧ farmIsBase farm = false

def LeInv (s : St) : Prop := ∀ a ∈ s.af, LeOK a

theorem LeInv.of_af {s s' : St} (h : s'.af = s.af) (hk : LeInv s) : LeInv s' := by
  unfold LeInv; rw [h]; exact hk

theorem LeInv.of_get {s : St} {f : Nat} {q : WFarm} (hk : LeInv s) (h : s.wf[f]? = some q) :
    q.kind = .wlp → q.pa ≤ q.fa ∧ farmIsBase q.farm = false :=
  hk (attrF q) (List.mem_of_getElem? (af_get h))

/-- A movement of the books by one transaction or a part of one.  Counters only grow; each total
    has an amount going out and an amount coming in, so that movements add up without subtraction
    (a merge takes `lockedWs` out of the reserves and puts the factory's `t.amt` in). -/
@[ext] structure Delta where
  minted : Nat := 0
  burnB : Nat := 0
  burnL : Nat := 0
  eDed : Int := 0
  rtOut : Nat := 0
  rtIn : Nat := 0
  ftOut : Nat := 0
  ftIn : Nat := 0
  cOut : Nat := 0
  cIn : Nat := 0
  lpOut : Nat := 0
  lpIn : Nat := 0
  ws : List (Nat × Nat × Nat) := []
  fs : List (Nat × Nat × Nat × Kind × Nat × Nat) := []

/-- The proxy's books and their movement by `δ` between `s` and `s'`: base asset minted and burned
    and locked tokens burned by the proxy (`burn_locked_tokens_and_update_energy`), with the energy
    deducted from users for them; `RT`, the locked tokens reserved by the outstanding wrapped tokens
    (wrapped LP records and farm positions entered with locked tokens); `FT`, the farm tokens
    reserved by the outstanding wrapped farm tokens; `C`, the wrapped LP supply in user hands; the
    proxy's LP balance; and the attribute tables of all wrapped tokens created so far. -/
structure Moved (s s' : St) (δ : Delta) : Prop where
  minted : s'.minted = s.minted + δ.minted
  burnB : s'.burnB = s.burnB + δ.burnB
  burnL : s'.burnL = s.burnL + δ.burnL
  eDed : s'.eDed = s.eDed + δ.eDed
  rt : RT s' + δ.rtOut = RT s + δ.rtIn
  ft : FT s' + δ.ftOut = FT s + δ.ftIn
  c : C s' + δ.cOut = C s + δ.cIn
  lp : s'.lp + δ.lpOut = s.lp + δ.lpIn
  aw : s'.aw = s.aw ++ δ.ws
  af : s'.af = s.af ++ δ.fs

namespace Moved
variable {a s s' : St} {δ δ' : Delta}

theorem refl (s : St) : Moved s s {} :=
  ⟨rfl, rfl, rfl, (Int.add_zero _).symm, rfl, rfl, rfl, rfl, (List.append_nil _).symm,
   (List.append_nil _).symm⟩

theorem as (h : Moved s s' δ) (e : δ = δ') : Moved s s' δ' := e ▸ h

theorem aw_eq (h : Moved s s' δ) (e : δ.ws = []) : s'.aw = s.aw := by
  rw [h.aw, e, List.append_nil]

theorem af_eq (h : Moved s s' δ) (e : δ.fs = []) : s'.af = s.af := by
  rw [h.af, e, List.append_nil]

theorem wl_length (h : Moved s s' δ) (e : δ.ws = []) : s'.wl.length = s.wl.length := by
  simpa [St.aw] using congrArg List.length (h.aw_eq e)

theorem attrs {P : Nat × Nat × Nat × Kind × Nat × Nat → Prop} (h : Moved s s' δ)
    (hs : ∀ x ∈ s.af, P x) (hn : ∀ x ∈ δ.fs, P x) : ∀ x ∈ s'.af, P x := by
  intro x hx
  rw [h.af] at hx
  rcases List.mem_append.1 hx with hx | hx
  · exact hs x hx
  · exact hn x hx

theorem net (h : Moved s s' δ) : s'.net = s.net + δ.minted - δ.burnB - δ.burnL := by
  unfold St.net; rw [h.minted, h.burnB, h.burnL]; omega

end Moved

/-- `s'` differs from `s` in nothing the books read (`learn`, `addStray`, the clock, `lk`, `hf`) -/
structure Same (s s' : St) : Prop where
  wl : s'.wl = s.wl
  wf : s'.wf = s.wf
  minted : s'.minted = s.minted
  burnB : s'.burnB = s.burnB
  burnL : s'.burnL = s.burnL
  eDed : s'.eDed = s.eDed
  lp : s'.lp = s.lp

theorem Same.rt {s s' : St} (e : Same s s') : RT s' = RT s := by unfold RT; rw [e.wl, e.wf]
theorem Same.ft {s s' : St} (e : Same s s') : FT s' = FT s := by unfold FT; rw [e.wf]
theorem Same.c {s s' : St} (e : Same s s') : C s' = C s := by unfold C; rw [e.wl]
theorem Same.aw {s s' : St} (e : Same s s') : s'.aw = s.aw := by unfold St.aw; rw [e.wl]
theorem Same.af {s s' : St} (e : Same s s') : s'.af = s.af := by unfold St.af; rw [e.wf]

theorem Moved.same {a s s' : St} {δ : Delta} (h : Moved a s δ) (e : Same s s') : Moved a s' δ :=
  ⟨e.minted ▸ h.minted, e.burnB ▸ h.burnB, e.burnL ▸ h.burnL, e.eDed ▸ h.eDed, e.rt ▸ h.rt,
   e.ft ▸ h.ft, e.c ▸ h.c, e.lp ▸ h.lp, e.aw ▸ h.aw, e.af ▸ h.af⟩

theorem Moved.with_lk {a s : St} {δ : Delta} (h : Moved a s δ) (lk : Bag) :
    Moved a { s with lk := lk } δ :=
  h.same ⟨rfl, rfl, rfl, rfl, rfl, rfl, rfl⟩

theorem learn_same (s : St) (t : LkTok) : Same s (learn s t) := ⟨rfl, rfl, rfl, rfl, rfl, rfl, rfl⟩

theorem learnOpt_same (s : St) (t : Option LkTok) : Same s (learnOpt s t) := by
  cases t <;> exact ⟨rfl, rfl, rfl, rfl, rfl, rfl, rfl⟩

theorem addStray_same (s : St) (l : List LkTok) : Same s (addStray s l) :=
  addStray_induct (P := Same s) (fun _ e => ⟨e.wl, e.wf, e.minted, e.burnB, e.burnL, e.eDed, e.lp⟩)
    ⟨rfl, rfl, rfl, rfl, rfl, rfl, rfl⟩

theorem lockedFs_tables {s s' : St} (h : s'.aw = s.aw) (h' : s'.af = s.af) (l : List (Nat × Nat)) :
    lockedFs s' l = lockedFs s l := by
  unfold lockedFs; rw [h, h']


namespace Moved
variable {a s : St} {δ : Delta}

theorem mint (h : Moved a s δ) (m : Nat) :
    Moved a { s with minted := s.minted + m } { δ with minted := m + δ.minted } :=
  ⟨by show s.minted + m = a.minted + (m + δ.minted); rw [h.minted]; omega, h.burnB, h.burnL, h.eDed,
   h.rt, h.ft, h.c, h.lp, h.aw, h.af⟩

theorem burnBase (h : Moved a s δ) (b : Nat) :
    Moved a { s with burnB := s.burnB + b } { δ with burnB := b + δ.burnB } :=
  ⟨h.minted, by show s.burnB + b = a.burnB + (b + δ.burnB); rw [h.burnB]; omega, h.burnL, h.eDed,
   h.rt, h.ft, h.c, h.lp, h.aw, h.af⟩

/-- `burn_locked_tokens_and_update_energy`, the only source of an energy deduction; an endpoint
    reaches it at most once, hence `hz` and `eDed := E` where the other fields add -/
theorem burnLk (h : Moved a s δ) (k e : Nat) (hz : δ.eDed = 0) {E : Int}
    (hE : energyOf s k e = E) :
    Moved a (burnLocked s k e) { δ with burnL := e + δ.burnL, eDed := E } :=
  ⟨h.minted, h.burnB, by show s.burnL + e = a.burnL + (e + δ.burnL); rw [h.burnL]; omega,
   by show s.eDed + energyOf s k e = _; rw [h.eDed, hz, Int.add_zero, hE], h.rt, h.ft, h.c, h.lp,
   h.aw, h.af⟩

theorem lpGain (h : Moved a s δ) (x : Nat) :
    Moved a { s with lp := s.lp + x } { δ with lpIn := x + δ.lpIn } :=
  ⟨h.minted, h.burnB, h.burnL, h.eDed, h.rt, h.ft, h.c,
   by show s.lp + x + δ.lpOut = a.lp + (x + δ.lpIn); have := h.lp; omega, h.aw, h.af⟩

theorem lpLoss (h : Moved a s δ) {x : Nat} (hx : x ≤ s.lp) :
    Moved a { s with lp := s.lp - x } { δ with lpOut := x + δ.lpOut } :=
  ⟨h.minted, h.burnB, h.burnL, h.eDed, h.rt, h.ft, h.c,
   by show s.lp - x + (x + δ.lpOut) = a.lp + δ.lpIn; have := h.lp; omega, h.aw, h.af⟩

end Moved


/-- record `w` is replaced by one with the same attributes; `ro`, `co`, `ci` are the new totals of the
    movement (found by unification with the movement asked for) -/
theorem Moved.editW {a s : St} {δ : Delta} {w ro co ci : Nat} {r : WLp} (m : Moved a s δ)
    (hr : s.wl[w]? = some r) (r' : WLp) (ha : attrW r' = attrW r)
    (h1 : r'.rem + ro = r.rem + δ.rtOut) (h2 : r'.circ + co + δ.cIn = r.circ + δ.cOut + ci) :
    Moved a (setW s w r') { δ with rtOut := ro, cOut := co, cIn := ci } := by
  have e1 := sumOf_set (·.rem) s.wl w r r' hr
  have e2 := sumOf_set (·.circ) s.wl w r r' hr
  have := m.rt; have := m.c
  refine ⟨m.minted, m.burnB, m.burnL, m.eDed, ?_, m.ft, ?_, m.lp,
    (map_set_same attrW s.wl w r r' hr ha).trans m.aw, m.af⟩
  · show RT (ProxyDex.setW s w r') + ro = RT a + δ.rtIn
    simp only [RT, ProxyDex.setW] at *; omega
  · show C (ProxyDex.setW s w r') + co = C a + ci
    simp only [C, ProxyDex.setW] at *; omega

theorem takeW_part {s s' : St} {w x p : Nat} {r : WLp} {o : Bool}
    (h : takeW s w x o = some (s', r, p)) : p = lockedA s.aw w x := by
  obtain ⟨hr, -, -, hp, -⟩ := takeW_spec h
  exact (lockedA_of hr hp).symm

namespace Moved
variable {a s s' : St} {δ : Delta}

theorem takeW {w x p : Nat} {r : WLp} {o : Bool} (m : Moved a s δ)
    (h : takeW s w x o = some (s', r, p)) :
    Moved a s' { δ with rtOut := p + δ.rtOut, cOut := x + δ.cOut } := by
  obtain ⟨hr, -, hc, -, hrem, -, rfl⟩ := takeW_spec h
  exact Moved.with_lk (m.editW hr _ (by rfl) (by dsimp only; omega) (by dsimp only; omega)) _

/-- `hws`: `lockedWs a l` reads the attribute table of `a`, which is that of `s` as long as the
    movement has created no wrapped LP token -/
theorem takeWs {l : List (Nat × Nat)} {sx : Nat} (m : Moved a s δ)
    (h : takeWs s l = some (s', sx)) (hws : δ.ws = []) :
    Moved a s' { δ with rtOut := lockedWs a l + δ.rtOut, cOut := sumX l + δ.cOut } := by
  induction l generalizing s sx δ with
  | nil =>
    obtain ⟨rfl, rfl⟩ := takeWs_nil h
    exact m.as (Delta.ext rfl rfl rfl rfl (Nat.zero_add _).symm rfl rfl rfl (Nat.zero_add _).symm
      rfl rfl rfl rfl rfl)
  | cons b l ih =>
    obtain ⟨w, x⟩ := b
    obtain ⟨s1, r, p, t', h1, h2, rfl⟩ := takeWs_cons h
    have e1 : lockedWs a ((w, x) :: l) = p + lockedWs a l := by
      rw [takeW_part h1, m.aw_eq hws]; rfl
    have e2 : sumX ((w, x) :: l) = x + sumX l := sumOf_cons ..
    exact (ih (m.takeW h1) h2 hws).as (Delta.ext rfl rfl rfl rfl
      (by show lockedWs a l + (p + δ.rtOut) = lockedWs a ((w, x) :: l) + δ.rtOut; omega) rfl rfl rfl
      (by show sumX l + (x + δ.cOut) = sumX ((w, x) :: l) + δ.cOut; omega) rfl rfl rfl rfl rfl)

end Moved

theorem takeWs_total {s s' : St} {l : List (Nat × Nat)} {sx : Nat}
    (h : takeWs s l = some (s', sx)) : sx = sumX l := by
  induction l generalizing s sx with
  | nil => exact (takeWs_nil h).2
  | cons b l ih =>
    obtain ⟨w, x⟩ := b
    obtain ⟨s1, r, p, t', -, h2, rfl⟩ := takeWs_cons h
    rw [ih h2]; exact (sumOf_cons (·.2) (w, x) l).symm

theorem Moved.takeF0 {a s s1 : St} {δ : Delta} {f x p : Nat} {r : WFarm} (m : Moved a s δ)
    (h : takeF0 s f x = some (s1, r, p)) :
    Moved a s1 { δ with rtOut := (if r.kind = .locked then p else 0) + δ.rtOut,
                        ftOut := x + δ.ftOut } := by
  obtain ⟨hr, hx, hc, hp, hrf, hrp, hh, rfl⟩ := takeF0_spec h
  have h1 : sumOf lkF (s.wf.set f _) + (if r.kind = .locked then p else 0) = sumOf lkF s.wf :=
    sumOf_set_keyed (fun q : WFarm => q.kind = .locked) (·.remP) s.wf f r
      { r with circ := r.circ - x, remF := r.remF - x, remP := r.remP - p } hr Iff.rfl p
      (Nat.sub_add_cancel hrp)
  have h2 := sumOf_set (·.remF) s.wf f r
    { r with circ := r.circ - x, remF := r.remF - x, remP := r.remP - p } hr
  have := m.rt; have := m.ft
  refine ⟨m.minted, m.burnB, m.burnL, m.eDed, ?_, ?_, m.c, m.lp, m.aw,
    (map_set_same attrF s.wf f r _ hr (by rfl)).trans m.af⟩
  · simp only [RT, setF] at *; omega
  · simp only [FT, setF] at *; omega

/-- Redeeming `x` of wrapped farm token `f` (record `t.r`, proxy-farming part `t.p`): the farm tokens
    leave; the reserved locked tokens shrink by the part itself (locked-token position) or by the
    locked tokens `t.q` a `dissolve` sets free from the wrapped LP record; with `out` the wrapped LP
    part returns to user hands.  The clock and what a wrapped-LP position reads from its record are
    stated here as well: all of it comes from the one split by mode and kind, which is made once. -/
theorem Moved.takeF {a s s' : St} {δ : Delta} {f x : Nat} {mode : Mode} {t : Taken} (m : Moved a s δ)
    (h : takeF s f x mode = some (s', t)) :
    s.wf[f]? = some t.r ∧ part t.r.pa t.r.fa x = some t.p ∧
    Moved a s' { δ with rtOut := (if t.r.kind = .locked then t.p else t.q) + δ.rtOut,
                        ftOut := x + δ.ftOut,
                        cIn := if t.r.kind = .wlp ∧ mode = .out then t.p + δ.cIn else δ.cIn } ∧
    ((∀ o, mode ≠ .dissolve o) → t.r.kind = .wlp → t.q = 0) ∧
    (∀ o, mode = .dissolve o →
      (if t.r.kind = .locked then t.p else t.q) = lockedFA s.aw s.af f x) ∧
    (s'.unl = s.unl ∧ s'.now = s.now) ∧
    (t.r.kind = .wlp → mode ≠ .keep → ∃ rw, s.wl[t.r.pn]? = some rw ∧
      ∀ o, mode = .dissolve o → part rw.locked rw.total t.p = some t.q) := by
  obtain ⟨s1, h0, hs⟩ := takeF_spec h
  obtain ⟨r, p, k, q⟩ := t
  dsimp only at h0 hs ⊢
  have m0 := m.takeF0 h0
  have eaw := ((Moved.refl s).takeF0 h0).aw_eq rfl
  obtain ⟨hr, -, -, hp, -, -, -, hs1⟩ := takeF0_spec h0
  have hc : s1.wl = s.wl ∧ s1.unl = s.unl ∧ s1.now = s.now := by subst hs1; exact ⟨rfl, rfl, rfl⟩
  have hfa : lockedFA s.aw s.af f x =
      (match r.kind with | .locked => p | .wlp => lockedA s.aw r.pn p) := by
    unfold lockedFA; rw [af_get hr]; simp only [attrF, hp]; cases r.kind <;> rfl
  refine ⟨hr, hp, ?_⟩
  by_cases hm : mode = .keep
  · subst hm
    obtain ⟨rfl, -, rfl⟩ := settle_keep hs
    refine ⟨?_, fun _ _ => rfl, fun o h' => (by cases h'), hc.2, fun _ h' => absurd rfl h'⟩
    cases hk : r.kind <;> rw [hk] at m0 <;> exact m0
  cases hk : r.kind with
  | locked =>
    obtain ⟨-, -, rfl, rfl⟩ := settle_locked hm hk hs
    rw [hk] at hfa m0
    exact ⟨m0.with_lk _, fun _ h' => (by cases h'), fun _ _ => hfa.symm, hc.2, fun h' => nomatch h'⟩
  | wlp =>
    rw [hk] at hfa m0
    cases mode with
    | keep => exact absurd rfl hm
    | out =>
      obtain ⟨rw, hrw, hle, -, rfl, rfl⟩ := settle_wlp_out hk hs
      exact ⟨m0.editW (ci := p + δ.cIn) hrw _ (by rfl) rfl (by dsimp only; omega), fun _ _ => rfl,
        fun o h' => (by cases h'), hc.2, fun _ _ => ⟨rw, hc.1 ▸ hrw, fun o h' => nomatch h'⟩⟩
    | dissolve o =>
      obtain ⟨rw, hrw, hle, hq, hrem, -, -, rfl⟩ := settle_wlp_dissolve hk hs
      have hq' : lockedA s.aw r.pn p = q := by rw [← eaw]; exact lockedA_of hrw hq
      exact ⟨Moved.with_lk (m0.editW (ro := q + δ.rtOut) hrw _ (by rfl)
          (by simp only [reduceCtorEq, ↓reduceIte]; omega) (by rfl)) _,
        fun h' => absurd rfl (h' o), fun _ _ => hfa.trans hq' ▸ rfl, hc.2,
        fun _ _ => ⟨rw, hc.1 ▸ hrw, fun _ _ => hq⟩⟩

namespace Moved
variable {a s s' : St} {δ : Delta}

theorem newW (m : Moved a s δ) (total k locked : Nat) (u : Bool) :
    Moved a (newW s total k locked u).1
      { δ with rtIn := locked + δ.rtIn, cIn := (if u then total else 0) + δ.cIn,
               ws := δ.ws ++ [(total, k, locked)] } := by
  have := m.rt; have := m.c
  refine ⟨m.minted, m.burnB, m.burnL, m.eDed, ?_, m.ft, ?_, m.lp, ?_, m.af⟩
  · show RT (ProxyDex.newW s total k locked u).1 + δ.rtOut = RT a + (locked + δ.rtIn)
    simp only [ProxyDex.newW, RT, sumOf_append, sumOf_cons, sumOf_nil] at *; omega
  · show C (ProxyDex.newW s total k locked u).1 + δ.cOut = C a + ((if u then total else 0) + δ.cIn)
    simp only [ProxyDex.newW, C, sumOf_append, sumOf_cons, sumOf_nil] at *; omega
  · show (ProxyDex.newW s total k locked u).1.aw = a.aw ++ (δ.ws ++ [(total, k, locked)])
    rw [← List.append_assoc, ← m.aw]
    simp only [ProxyDex.newW, St.aw, List.map_append, List.map_cons, List.map_nil, attrW]

theorem newF (m : Moved a s δ) (farm fn fa : Nat) (kind : Kind) (pn pa : Nat) :
    Moved a (newF s farm fn fa kind pn pa).1
      { δ with rtIn := (if kind = .locked then pa else 0) + δ.rtIn, ftIn := fa + δ.ftIn,
               fs := δ.fs ++ [(farm, fn, fa, kind, pn, pa)] } := by
  have := m.rt; have := m.ft
  refine ⟨m.minted, m.burnB, m.burnL, m.eDed, ?_, ?_, m.c, m.lp, m.aw, ?_⟩
  · show RT (ProxyDex.newF s farm fn fa kind pn pa).1 + δ.rtOut =
      RT a + ((if kind = .locked then pa else 0) + δ.rtIn)
    simp only [ProxyDex.newF, RT, lkF, sumOf_append, sumOf_cons, sumOf_nil] at *; omega
  · show FT (ProxyDex.newF s farm fn fa kind pn pa).1 + δ.ftOut = FT a + (fa + δ.ftIn)
    simp only [ProxyDex.newF, FT, sumOf_append, sumOf_cons, sumOf_nil] at *; omega
  · show (ProxyDex.newF s farm fn fa kind pn pa).1.af = a.af ++ (δ.fs ++ [(farm, fn, fa, kind, pn, pa)])
    rw [← List.append_assoc, ← m.af]
    simp only [ProxyDex.newF, St.af, List.map_append, List.map_cons, List.map_nil, attrF]

theorem recL (m : Moved a s δ) (farm fn fa k x : Nat) :
    Moved a (recL s farm fn fa k x)
      { δ with rtIn := x + δ.rtIn, ftIn := fa + δ.ftIn,
               fs := δ.fs ++ [(farm, fn, fa, .locked, k, x)] } :=
  (m.with_lk (s.lk.add k x)).newF farm fn fa .locked k x

theorem recW (m : Moved a s δ) (farm fn fa total k locked : Nat) {n : Nat} (hn : s.wl.length = n) :
    Moved a (recW s farm fn fa total k locked)
      { δ with rtIn := locked + δ.rtIn, ftIn := fa + δ.ftIn, ws := δ.ws ++ [(total, k, locked)],
               fs := δ.fs ++ [(farm, fn, fa, .wlp, n, total)] } :=
  hn ▸ ((m.newW total k locked false).newF farm fn fa .wlp s.wl.length total).as
    (Delta.ext rfl rfl rfl rfl rfl (Nat.zero_add _) rfl rfl rfl (Nat.zero_add _) rfl rfl rfl rfl)

end Moved

theorem takeFs_total {s s' : St} {farm : Nat} {kind : Kind} {l : List (Nat × Nat)} {sp : Nat}
    (h : takeFs s farm kind l = some (s', sp)) :
    (LeInv s → kind = .wlp → sp ≤ sumX l) ∧
    (KindInv s → kind = .locked → sp = sumX l ∧ lockedFs s l = sumX l) := by
  induction l generalizing s sp with
  | nil =>
    obtain ⟨rfl, rfl⟩ := takeFs_nil h
    exact ⟨fun _ _ => Nat.le_refl _, fun _ _ => ⟨rfl, rfl⟩⟩
  | cons b l ih =>
    obtain ⟨f, x⟩ := b
    obtain ⟨s1, tk, t2, h1, -, hkind, h2, rfl⟩ := takeFs_cons h
    obtain ⟨hr, hp, m1, -, hq, -⟩ := (Moved.refl s).takeF h1
    obtain ⟨hle, heq⟩ := ih h2
    have hq := hq true rfl
    have eaw := m1.aw_eq rfl
    have eaf := m1.af_eq rfl
    rw [lockedFs_tables eaw eaf] at heq
    have e1 : lockedFs s ((f, x) :: l) = lockedFA s.aw s.af f x + lockedFs s l := rfl
    have e2 : sumX ((f, x) :: l) = x + sumX l := sumOf_cons ..
    refine ⟨fun hi hk => ?_, fun hi hk => ?_⟩
    · have := hle (hi.of_af eaf) hk
      have := part_le_of_le hp ((hi.of_get hr) (hkind.trans hk)).1
      rw [e2]; show tk.p + t2 ≤ _; omega
    · obtain ⟨e3, e4⟩ := heq (hi.of_af eaf) hk
      have hkl : tk.r.kind = .locked := hkind.trans hk
      rw [((hi.of_get hr).1 hkl).1] at hp
      have := part_self hp
      rw [if_pos hkl] at hq
      rw [e1, e2]; show tk.p + t2 = _ ∧ _; omega

theorem Moved.takeFs {a s s' : St} {δ : Delta} {farm : Nat} {kind : Kind} {l : List (Nat × Nat)}
    {sp : Nat} (m : Moved a s δ) (h : takeFs s farm kind l = some (s', sp)) (hws : δ.ws = [])
    (hfs : δ.fs = []) :
    Moved a s' { δ with rtOut := lockedFs a l + δ.rtOut, ftOut := sumX l + δ.ftOut } := by
  induction l generalizing s sp δ with
  | nil =>
    obtain ⟨rfl, rfl⟩ := takeFs_nil h
    exact m.as (Delta.ext rfl rfl rfl rfl (Nat.zero_add _).symm rfl (Nat.zero_add _).symm rfl rfl
      rfl rfl rfl rfl rfl)
  | cons b l ih =>
    obtain ⟨f, x⟩ := b
    obtain ⟨s1, tk, t2, h1, -, -, h2, rfl⟩ := takeFs_cons h
    obtain ⟨-, -, m1, -, hq, -⟩ := m.takeF h1
    have hq := hq true rfl
    have e1 : lockedFs a ((f, x) :: l) = lockedFA s.aw s.af f x + lockedFs a l := by
      rw [m.aw_eq hws, m.af_eq hfs]; rfl
    have e2 : sumX ((f, x) :: l) = x + sumX l := sumOf_cons ..
    exact (ih m1 h2 hws hfs).as (Delta.ext rfl rfl rfl rfl
      (by show lockedFs a l + ((if tk.r.kind = .locked then tk.p else tk.q) + δ.rtOut) =
            lockedFs a ((f, x) :: l) + δ.rtOut; omega) rfl
      (by show sumX l + (x + δ.ftOut) = sumX ((f, x) :: l) + δ.ftOut; omega) rfl rfl
      (if_neg (fun h => Mode.noConfusion h.2)) rfl rfl rfl rfl)


/-! One movement theorem per endpoint.  `removeLiq_moved` and `exitFarm_moved`, which also say what
  the caller is handed, state a structure (`RemoveLiqRun`; `ExitFarmRun`, with `ExitLockedRun` and
  `ExitShrunkRun` for a locked-token position and a wrapped-LP position under a penalty): the data
  stay existential.  A field is named after what it records: a guard of the model's `do` block
  (`lookup`, `part`, `pos`, `farming_le`), the bound under which a checked subtraction went through
  (`circ`, `lp`: what is subtracted from; `remaining`, `extra`: the model's name for the difference,
  where the minuend is one of the data), a field of `Out`, or the movement (`moved`). -/

theorem mergeLp_moved {s s' : St} {l : List (Nat × Nat)} {t : LkTok} {o : Out}
    (h : mergeLp s l t = some (s', o)) :
    o.eDed = 0 ∧ o.wOut = (s.wl.length, sumX l) ∧
    Moved s s' { rtOut := lockedWs s l, rtIn := t.amt, cOut := sumX l, cIn := sumX l,
                 ws := [(sumX l, t.k, t.amt)] } := by
  obtain ⟨s1, sx, -, h1, rfl, rfl⟩ := mergeLp_spec h
  obtain rfl := takeWs_total h1
  have m1 := (Moved.refl s).takeWs h1 rfl
  exact ⟨rfl, by rw [m1.wl_length rfl], (m1.same (learn_same s1 t)).newW (sumX l) t.k t.amt true⟩

theorem incLp_moved {s s' : St} {w x : Nat} {t : LkTok} {o : Out}
    (h : incLp s w x t = some (s', o)) :
    o.eDed = 0 ∧
    Moved s s' { rtOut := lockedA s.aw w x, rtIn := t.amt, cOut := x, cIn := x,
                 ws := [(x, t.k, t.amt)] } := by
  obtain ⟨s1, r, p, h1, rfl, rfl⟩ := incLp_spec h
  obtain rfl := takeW_part h1
  exact ⟨rfl, (((Moved.refl s).takeW h1).same (learn_same s1 t)).newW x t.k t.amt true⟩

theorem energyOf_congr {s s' : St} (hu : s'.unl = s.unl) (hn : s'.now = s.now) (k e : Nat) :
    energyOf s' k e = energyOf s k e := by
  unfold energyOf; rw [hu, hn]

theorem addLiq_moved {s s' : St} {k la oa lp ul uo : Nat} {merge : List (Nat × Nat)}
    {mk : Option LkTok} {o : Out} (h : addLiq s k la oa merge lp ul uo mk = some (s', o)) :
    ul ≤ la ∧ o.eDed = 0 ∧
    ((merge = [] ∧
        Moved s s' { minted := la, burnB := la - ul, lpIn := lp, rtIn := ul, cIn := lp,
                     ws := [(lp, k, ul)] }) ∨
     (∃ b l t, merge = b :: l ∧ mk = some t ∧
        Moved s s' { minted := la, burnB := la - ul, lpIn := lp, rtOut := lockedWs s merge,
                     rtIn := t.amt, cOut := sumX merge, cIn := lp + sumX merge,
                     ws := [(lp + sumX merge, t.k, t.amt)] })) := by
  obtain ⟨s0, -, -, hul, -, rfl, h⟩ := addLiq_spec h
  have m0 := (((Moved.refl s).mint la).burnBase (la - ul)).lpGain lp
  rcases h with ⟨rfl, rfl, rfl⟩ | ⟨b, l, t, s1, sx, rfl, rfl, -, h1, rfl, rfl⟩
  · exact ⟨hul, rfl, .inl ⟨rfl, m0.newW lp k ul true⟩⟩
  · obtain rfl := takeWs_total h1
    have m1 := m0.takeWs h1 rfl
    exact ⟨hul, rfl, .inr ⟨b, l, t, rfl, rfl, (m1.same (learn_same s1 t)).newW _ t.k t.amt true⟩⟩

theorem takeW_clock {s s' : St} {w x p : Nat} {r : WLp} {o : Bool}
    (h : takeW s w x o = some (s', r, p)) : s'.unl = s.unl ∧ s'.now = s.now := by
  obtain ⟨-, -, -, -, -, -, rfl⟩ := takeW_spec h
  exact ⟨rfl, rfl⟩

structure RemoveLiqRun (s : St) (w x rb ro : Nat) (r : WLp) (p : Nat) (s' : St) (o : Out) : Prop where
  lookup : s.wl[w]? = some r
  part : part r.locked r.total x = some p
  pos : 0 < x
  circ : x ≤ r.circ
  lp : x ≤ s.lp
  locked : o.locked = (r.k, min rb p)
  base : o.base = rb - p
  other : o.other = ro
  burned : o.burned.2 = p - rb
  burnedNonce : o.burned.2 ≠ 0 → o.burned.1 = r.k
  eDed : o.eDed = energyOf s r.k (p - rb)
  moved : Moved s s' { burnB := min rb p, burnL := p - rb, eDed := energyOf s r.k (p - rb), rtOut := p,
                       cOut := x, lpOut := x }

theorem removeLiq_moved {s s' : St} {w x rb ro : Nat} {o : Out}
    (h : removeLiq s w x rb ro = some (s', o)) : ∃ r p, RemoveLiqRun s w x rb ro r p s' o := by
  obtain ⟨s1, r, p, h1, hlp, rfl, rfl⟩ := removeLiq_trace h
  have m1 := (Moved.refl s).takeW h1
  obtain ⟨hr, hx, hc, hp, -⟩ := takeW_spec h1
  obtain ⟨hu, hn⟩ := takeW_clock h1
  have he : ∀ e, energyOf { s1 with lp := s1.lp - x } r.k e = energyOf s r.k e :=
    energyOf_congr hu hn r.k
  have hlp' : x ≤ s.lp := by have e : s1.lp = s.lp := m1.lp; omega
  refine ⟨r, p, ?_⟩
  have m := ((m1.lpLoss hlp).burnLk r.k (p - rb) rfl (he _)).burnBase (min rb p)
  by_cases hgt : rb > p
  · rw [if_pos hgt]
    have e1 : p - rb = 0 := by omega
    have e2 : min rb p = p := by omega
    exact ⟨hr, hp, hx, hc, hlp', by rw [e2], rfl, rfl, e1.symm, fun h' => absurd rfl h',
      by rw [e1, energyOf_zero], m⟩
  · rw [if_neg hgt]
    have e2 : min rb p = rb := by omega
    exact ⟨hr, hp, hx, hc, hlp', by rw [e2], by show 0 = rb - p; omega, rfl, rfl, fun _ => rfl,
      energyOf_congr hu hn .., m⟩

theorem enterL_moved {s s' : St} {farm k a : Nat} {merge : List (Nat × Nat)} {ft : Nat × Nat}
    {rew : Option LkTok} {m : Option ((Nat × Nat) × LkTok)} {stray : List LkTok} {o : Out}
    (h : enterL s farm k a merge ft rew m stray = some (s', o)) :
    o.eDed = 0 ∧
    ((merge = [] ∧
        Moved s s' { minted := a, rtIn := a, ftIn := ft.2,
                     fs := [(farm, ft.1, ft.2, .locked, k, a)] }) ∨
     (∃ b l mf t, merge = b :: l ∧ m = some (mf, t) ∧
        Moved s s' { minted := a, rtOut := lockedFs s merge, rtIn := t.amt, ftOut := sumX merge,
                     ftIn := mf.2, fs := [(farm, mf.1, mf.2, .locked, t.k, t.amt)] } ∧
        (KindInv s → lockedFs s merge = sumX merge))) := by
  obtain ⟨s0, -, rfl, h⟩ := enterL_spec h
  have m0 := ((Moved.refl s).mint a).same (learnOpt_same _ rew)
  rcases h with ⟨rfl, rfl, rfl⟩ | ⟨b, l, mf, t, s1, sp, rfl, rfl, h1, rfl, rfl⟩
  · exact ⟨rfl, .inl ⟨rfl, m0.recL farm ft.1 ft.2 k a⟩⟩
  · have m1 := m0.takeFs h1 rfl rfl
    have hk := (takeFs_total h1).2
    rw [lockedFs_tables (m0.aw_eq rfl) (m0.af_eq rfl)] at hk
    exact ⟨rfl, .inr ⟨b, l, mf, t, rfl, rfl,
      (((m1.same (learn_same s1 t)).recL farm mf.1 mf.2 t.k t.amt).same (addStray_same _ stray)),
      fun hi => (hk (hi.of_af (m0.af_eq rfl)) rfl).2⟩⟩

/-- wrapped LP moves from user hands into the proxy's own holding -/
theorem Moved.holdW {a s : St} {δ : Delta} {w x : Nat} {r : WLp} (m : Moved a s δ)
    (hr : s.wl[w]? = some r) (hx : x ≤ r.circ) :
    Moved a (setW s w { r with circ := r.circ - x, held := r.held + x })
      { δ with cOut := x + δ.cOut } :=
  m.editW hr _ (by rfl) rfl (by dsimp only; omega)

theorem enterW_moved {s s' : St} {farm w a : Nat} {merge : List (Nat × Nat)} {ft : Nat × Nat}
    {rew : Option LkTok} {m : Option ((Nat × Nat) × LkTok)} {stray : List LkTok} {o : Out}
    (h : enterW s farm w a merge ft rew m stray = some (s', o)) :
    o.eDed = 0 ∧ a ≤ s.lp ∧
    ((merge = [] ∧
        Moved s s' { ftIn := ft.2, cOut := a, lpOut := a, fs := [(farm, ft.1, ft.2, .wlp, w, a)] }) ∨
     (∃ b l mf t sp, merge = b :: l ∧ m = some (mf, t) ∧
        Moved s s' { rtOut := lockedFs s merge + lockedA s.aw w a, rtIn := t.amt,
                     ftOut := sumX merge, ftIn := mf.2, cOut := a, lpOut := a,
                     ws := [(a + sp, t.k, t.amt)],
                     fs := [(farm, mf.1, mf.2, .wlp, s.wl.length, a + sp)] } ∧
        (LeInv s → sp ≤ sumX merge))) := by
  obtain ⟨r, q, hr, -, hc, -, hlp, h⟩ := enterW_spec h
  refine ⟨?_, hlp, ?_⟩
  · rcases h with ⟨-, -, rfl⟩ | ⟨_, _, _, _, _, _, _, _, _, -, -, -, -, -, rfl⟩ <;> rfl
  rcases h with ⟨rfl, rfl, -⟩ | ⟨b, l, mf, t, s0, r0, q0, s1, sp, rfl, rfl, h0, h1, rfl, -⟩
  · exact .inl ⟨rfl, ((((Moved.refl s).holdW hr hc).lpLoss hlp).same (learnOpt_same _ rew)).newF
      farm ft.1 ft.2 .wlp w a⟩
  · obtain rfl := takeW_part h0
    have m0 := (Moved.refl s).takeW h0
    have e : s0.lp = s.lp := m0.lp
    rw [← e] at h1 hlp
    have m1 := (m0.lpLoss hlp).same (learnOpt_same _ rew)
    have m2 := m1.takeFs h1 rfl rfl
    have m3 := (((m2.same (learn_same s1 t)).recW farm mf.1 mf.2 (a + sp) t.k t.amt
      (m2.wl_length rfl)).same (addStray_same _ stray))
    exact .inr ⟨b, l, mf, t, sp, rfl, rfl, m3,
      fun hi => (takeFs_total h1).1 (hi.of_af (m1.af_eq rfl)) rfl⟩

/-- the farming tokens a farm returns on exit: burned if base asset, LP tokens otherwise -/
theorem Moved.returned {a s : St} {δ : Delta} (m : Moved a s δ) (base : Bool) (x : Nat) :
    Moved a { s with burnB := s.burnB + (if base then x else 0), lp := s.lp + (if base then 0 else x) }
      { δ with burnB := (if base then x else 0) + δ.burnB, lpIn := (if base then 0 else x) + δ.lpIn } :=
  (m.burnBase _).lpGain _

structure ExitLockedRun (s : St) (x farming : Nat) (r : WFarm) (p : Nat) (s' : St) (o : Out) : Prop where
  remaining : x - farming ≤ p
  locked : o.locked = (r.pn, p - (x - farming))
  burned : o.burned.2 = x - farming
  burnedNonce : o.burned.2 ≠ 0 → o.burned.1 = r.pn
  wOut : o.wOut = (0, 0)
  eDed : o.eDed = energyOf s r.pn (x - farming)
  moved : Moved s s' { burnB := if farmIsBase r.farm then farming else 0, burnL := x - farming,
                       eDed := energyOf s r.pn (x - farming), rtOut := p, ftOut := x,
                       lpIn := if farmIsBase r.farm then 0 else farming }

/-- `rw`: the wrapped LP record the position points to; `q`, `qN`: the locked tokens it records for
    the part `p` and for what remains of it after the penalty -/
structure ExitShrunkRun (s : St) (x farming : Nat) (r : WFarm) (p : Nat) (rw : WLp) (q qN : Nat)
    (s' : St) (o : Out) : Prop where
  dissolve : part rw.locked rw.total p = some q
  remaining : x - farming ≤ p
  part : part rw.locked rw.total (p - (x - farming)) = some qN
  extra : qN ≤ q
  wOut : o.wOut = (s.wl.length, p - (x - farming))
  burned : o.burned.2 = q - qN
  burnedNonce : o.burned.2 ≠ 0 → o.burned.1 = rw.k
  eDed : o.eDed = energyOf s rw.k (q - qN)
  newW : s'.wl[s.wl.length]? = some ⟨p - (x - farming), rw.k, qN, p - (x - farming), 0, 0, qN⟩
  moved : Moved s s' { burnB := if farmIsBase r.farm then farming else 0, burnL := q - qN,
                       eDed := energyOf s rw.k (q - qN), rtOut := q, rtIn := qN, ftOut := x,
                       cIn := p - (x - farming),
                       lpIn := if farmIsBase r.farm then 0 else farming,
                       ws := [(p - (x - farming), rw.k, qN)] }

structure ExitFarmRun (s : St) (f x farming : Nat) (r : WFarm) (p : Nat) (s' : St) (o : Out) : Prop where
  lookup : s.wf[f]? = some r
  part : part r.pa r.fa x = some p
  farming_le : farming ≤ x
  base : o.base = 0
  locked : r.kind = .locked → ExitLockedRun s x farming r p s' o
  wlp : r.kind = .wlp → ∃ rw, s.wl[r.pn]? = some rw ∧ o.locked = (0, 0) ∧
    (x = farming → o.wOut = (r.pn, p) ∧ o.burned = (0, 0) ∧ o.eDed = 0 ∧
      Moved s s' { burnB := if farmIsBase r.farm then farming else 0, ftOut := x, cIn := p,
                   lpIn := if farmIsBase r.farm then 0 else farming }) ∧
    (x ≠ farming → ∃ q qN, ExitShrunkRun s x farming r p rw q qN s' o)

/-- `r`, `p`: the position's record and proxy-farming part.  A locked-token position hands back its
    part less the penalty `x - farming`, which is burned as locked tokens.  A wrapped-LP position
    comes back as it is, or — with a penalty — as a new wrapped LP token over the remainder that
    records the same locked nonce and the pro-rata locked amount `qN` of the remainder, the locked
    tokens `q - qN` that no longer back it burned. -/
theorem exitFarm_moved {s s' : St} {farm f x farming : Nat} {rew : Option LkTok} {o : Out}
    (h : exitFarm s farm f x farming rew = some (s', o)) :
    ∃ r p, ExitFarmRun s f x farming r p s' o := by
  obtain ⟨s1, t, s2, hfx, h1, hs2, h⟩ := exitFarm_spec h
  obtain ⟨hr, hp, m1, -, -, ⟨hu, hn⟩, hwlp⟩ := (Moved.refl s).takeF h1
  have he : ∀ k e, energyOf s2 k e = energyOf s k e := by
    rw [hs2]; exact energyOf_congr hu hn
  have hm : (if x = farming then Mode.out else Mode.dissolve true) ≠ .keep := by split <;> simp
  refine ⟨t.r, t.p, hr, hp, hfx, ?_, fun hk => ?_, fun hk => ?_⟩
  · rcases h with ⟨-, -, ⟨-, rfl⟩ | ⟨-, rfl⟩⟩ | ⟨-, -, -, -, rfl⟩ | ⟨_, _, -, -, -, -, -, -, -, rfl⟩ <;>
      rfl
  · -- both branches: the penalty `x - farming` (possibly 0) is burned out of the part
    have m1 : Moved s s1 { rtOut := t.p, ftOut := x } := by rw [hk] at m1; exact m1
    have mb := (hs2 ▸ m1.returned (farmIsBase t.r.farm) farming).burnLk t.r.pn (x - farming) rfl
      (he ..)
    rcases h with ⟨hx, rfl, hko⟩ | ⟨-, hpen, -, rfl, rfl⟩ | ⟨_, _, -, -, hk', -⟩
    · have e0 : x - farming = 0 := by omega
      have e : burnLocked s2 t.r.pn (x - farming) = s2 := by rw [e0, burnLocked_zero]
      rcases hko with ⟨-, rfl⟩ | ⟨hk', -⟩
      · exact ⟨by omega, by rw [e0]; rfl, e0.symm, fun h' => absurd rfl h',
          rfl, by rw [e0, energyOf_zero], (e ▸ mb).same (learnOpt_same _ rew)⟩
      · rw [hk] at hk'; cases hk'
    · exact ⟨hpen, rfl, rfl, fun _ => rfl, rfl, he .., mb.same (learnOpt_same _ rew)⟩
    · rw [hk] at hk'; cases hk'
  · obtain ⟨rw, hrw, hq⟩ := hwlp hk hm
    refine ⟨rw, hrw, ?_, fun hx => ?_, fun hx => ?_⟩
    · rcases h with ⟨-, -, ⟨hk', -⟩ | ⟨-, rfl⟩⟩ | ⟨-, -, hk', -⟩ | ⟨_, _, -, -, -, -, -, -, -, rfl⟩
      · rw [hk] at hk'; cases hk'
      · rfl
      · rw [hk] at hk'; cases hk'
      · rfl
    · rw [if_pos hx] at h1 m1
      obtain ⟨-, -, -, hq0, -⟩ := (Moved.refl s).takeF h1
      have m1 : Moved s s1 { ftOut := x, cIn := t.p } := by
        rw [hk, hq0 (fun o h' => by cases h') hk] at m1; exact m1
      have m2 := hs2 ▸ m1.returned (farmIsBase t.r.farm) farming
      rcases h with ⟨-, rfl, ⟨hk', -⟩ | ⟨-, rfl⟩⟩ | ⟨hx', -⟩ | ⟨_, _, hx', -⟩
      · rw [hk] at hk'; cases hk'
      · exact ⟨rfl, rfl, rfl, m2.same (learnOpt_same _ rew)⟩
      · exact absurd hx hx'
      · exact absurd hx hx'
    · rw [if_neg hx] at hq m1
      have m1 : Moved s s1 { rtOut := t.q, ftOut := x } := by rw [hk] at m1; exact m1
      have m2 := hs2 ▸ m1.returned (farmIsBase t.r.farm) farming
      rcases h with ⟨hx', -⟩ | ⟨-, -, hk', -⟩ | ⟨rw', qN, -, hpen, -, hrw', hqN, hle, rfl, rfl⟩
      · exact absurd hx' hx
      · rw [hk] at hk'; cases hk'
      · obtain rfl : rw = rw' := Option.some.inj (hrw.symm.trans hrw')
        have mb := (m2.burnLk rw.k (t.q - qN) rfl (he ..)).newW (t.p - (x - farming)) rw.k qN true
        refine ⟨t.q, qN, hq true rfl, hpen, hqN, hle, by rw [m1.wl_length rfl], rfl, fun _ => rfl,
          he .., ?_, mb.same (learnOpt_same _ rew)⟩
        rw [learnOpt_eq, ← m2.wl_length rfl]
        exact List.getElem?_concat_length

/-- `claimRewardsProxy`: the proxy-farming part stays in place and is recorded again -/
theorem claim_moved {s s' : St} {farm f x : Nat} {ft : Nat × Nat} {rew : Option LkTok} {o : Out}
    (h : claim s farm f x ft rew = some (s', o)) :
    ∃ r p, s.wf[f]? = some r ∧ part r.pa r.fa x = some p ∧ o.eDed = 0 ∧
      Moved s s' { rtOut := if r.kind = .locked then p else 0,
                   rtIn := if r.kind = .locked then p else 0, ftOut := x, ftIn := ft.2,
                   fs := [(r.farm, ft.1, ft.2, r.kind, r.pn, p)] } := by
  obtain ⟨s1, t, h1, rfl, rfl⟩ := claim_spec h
  obtain ⟨hr, hp, m1, hq0, -⟩ := (Moved.refl s).takeF h1
  have m := (m1.same (learnOpt_same s1 rew)).newF t.r.farm ft.1 ft.2 t.r.kind
    t.r.pn t.p
  refine ⟨t.r, t.p, hr, hp, rfl, ?_⟩
  cases hk : t.r.kind
  · rw [hk] at m; exact m
  · rw [hk, hq0 (fun o h' => by cases h') hk] at m; exact m

/-- `mergeWrappedFarmTokens`: `r0` is the record of the first payment, whose farm and kind all
    merged tokens share; `sp` the total of their proxy-farming parts -/
theorem mergeFarm_moved {s s' : St} {farm : Nat} {l : List (Nat × Nat)} {mf : Nat × Nat}
    {t : LkTok} {rew : Option LkTok} {stray : List LkTok} {o : Out}
    (h : mergeFarm s farm l mf t rew stray = some (s', o)) :
    ∃ f0 x0 r0 sp, l.head? = some (f0, x0) ∧ s.wf[f0]? = some r0 ∧ o.eDed = 0 ∧
      (LeInv s → r0.kind = .wlp → sp ≤ sumX l) ∧
      (KindInv s → r0.kind = .locked → lockedFs s l = sumX l) ∧
      ((r0.kind = .locked ∧
          Moved s s' { rtOut := lockedFs s l, rtIn := t.amt, ftOut := sumX l, ftIn := mf.2,
                       fs := [(r0.farm, mf.1, mf.2, .locked, t.k, t.amt)] }) ∨
       (r0.kind = .wlp ∧
          Moved s s' { rtOut := lockedFs s l, rtIn := t.amt, ftOut := sumX l, ftIn := mf.2,
                       ws := [(sp, t.k, t.amt)],
                       fs := [(r0.farm, mf.1, mf.2, .wlp, s.wl.length, sp)] })) := by
  obtain ⟨o1, h1, rfl⟩ := mergeFarm_spec h
  obtain ⟨f0, x0, r0, s1, sp, -, hh, hr0, h1, h⟩ := mergeFarmCore_spec h1
  have m0 := (Moved.refl s).same (learnOpt_same s rew)
  have m1 := m0.takeFs h1 rfl rfl
  obtain ⟨hle, heq⟩ := takeFs_total h1
  rw [lockedFs_tables (m0.aw_eq rfl) (m0.af_eq rfl)] at heq
  have e0 := learnOpt_same s rew
  refine ⟨f0, x0, r0, sp, hh, by rw [← hr0, e0.wf], ?_, fun hi => hle (hi.of_af e0.af),
    fun hi hk => (heq (hi.of_af e0.af) hk).2, ?_⟩
  · rcases h with ⟨-, -, rfl⟩ | ⟨-, -, rfl⟩ <;> rfl
  rcases h with ⟨hk, rfl, -⟩ | ⟨hk, rfl, -⟩
  · exact .inl ⟨hk, ((m1.same (learn_same s1 t)).recL r0.farm mf.1 mf.2 t.k t.amt).same
      (addStray_same _ stray)⟩
  · exact .inr ⟨hk, ((m1.same (learn_same s1 t)).recW r0.farm mf.1 mf.2 sp t.k t.amt
      (m1.wl_length rfl)).same (addStray_same _ stray)⟩

theorem incFarm_moved {s s' : St} {f x : Nat} {t : LkTok} {o : Out}
    (h : incFarm s f x t = some (s', o)) :
    ∃ r p, s.wf[f]? = some r ∧ part r.pa r.fa x = some p ∧ o.eDed = 0 ∧
      ((r.kind = .locked ∧ lockedFA s.aw s.af f x = p ∧
          Moved s s' { rtOut := lockedFA s.aw s.af f x, rtIn := t.amt, ftOut := x, ftIn := x,
                       fs := [(r.farm, r.fn, x, .locked, t.k, t.amt)] }) ∨
       (r.kind = .wlp ∧
          Moved s s' { rtOut := lockedFA s.aw s.af f x, rtIn := t.amt, ftOut := x, ftIn := x,
                       ws := [(p, t.k, t.amt)],
                       fs := [(r.farm, r.fn, x, .wlp, s.wl.length, p)] })) := by
  obtain ⟨s1, tk, h1, h⟩ := incFarm_spec h
  obtain ⟨hr, hp, m1, -, hq, -⟩ := (Moved.refl s).takeF h1
  have hq := hq false rfl
  rw [hq] at m1
  refine ⟨tk.r, tk.p, hr, hp, ?_, ?_⟩
  · rcases h with ⟨-, -, rfl⟩ | ⟨-, -, rfl⟩ <;> rfl
  rcases h with ⟨hk, rfl, -⟩ | ⟨hk, rfl, -⟩
  · rw [hk] at m1
    exact .inl ⟨hk, by rw [← hq, if_pos hk],
      (m1.same (learn_same s1 t)).recL tk.r.farm tk.r.fn x t.k t.amt⟩
  · rw [hk] at m1
    exact .inr ⟨hk, (m1.same (learn_same s1 t)).recW tk.r.farm tk.r.fn x tk.p t.k t.amt
      (m1.wl_length rfl)⟩

end Mx.ProxyDex
