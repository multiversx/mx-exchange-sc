/-
  Accounting invariant of the farm model (C05): `reserve + paid = generated`, the split of `paid`,
  `balFarming = supply`, and for a minting farm `balReward = reserve` — preserved by every operation.
  Every endpoint's closed form (FarmEff.lean) is one instance of `Acct.move`: an emission, a payment
  out of the reserve, farming balance and supply moving together.
-/
import MxModel.Lemmas.FarmEff

namespace Mx.Farm

structure AV where
  reserve : Nat
  paid : Nat
  paidBase : Nat
  paidBoosted : Nat
  generated : Nat
  balFarming : Nat
  balReward : Nat
  supply : Nat

def av (s : St) : AV :=
  ⟨s.reserve, s.paid, s.paidBase, s.paidBoosted, s.generated, s.balFarming, s.balReward, s.supply⟩

structure Acct (s : St) : Prop where
  res : s.reserve + s.paid = s.generated
  split : s.paid = s.paidBase + s.paidBoosted
  prin : s.balFarming = s.supply
  bal : s.kind = .mint → s.balReward = s.reserve
  balN : s.kind = .noMint → s.balReward = 0

/-! The building blocks on the accounting view, for the proofs that walk an endpoint forward call by
call (Lemmas/FarmLivePlain.lean, FarmWeekLive.lean, FarmCover.lean, Props/C05Cover.lean); the invariant
itself is proved from the closed forms below. -/

theorem takePayments_av {l : List (Nat × Nat)} {s s' : St} {c : Nat} (h : takePayments s c l = some s') :
    av s' = av s := by obtain ⟨_, rfl⟩ := takePayments_spec l h; rfl
theorem checkAndUpdate_av {l : List (Nat × Nat)} {s s' : St} {c : Nat} (h : checkAndUpdate s c l = some s') :
    av s' = av s := by obtain ⟨_, rfl⟩ := checkAndUpdate_spec l h; rfl
theorem claimBoostedYields_av {s s' : St} {u r : Nat} (h : claimBoostedYields s u = some (s', r)) :
    av s' = av s := by obtain ⟨_, _, rfl⟩ := claimBoostedYields_struct h; rfl
theorem setFarmSupplyWeek_av {s s' : St} {v : Nat} (h : setFarmSupplyWeek s v = some s') :
    av s' = av s := by obtain ⟨_, _, rfl⟩ := setFarmSupplyWeek_spec h; rfl
theorem createToken_av {s s' : St} {d n : Nat} {a : Attr} (h : createToken s d a = some (s', n)) :
    av s' = av s := by obtain ⟨_, _, rfl⟩ := createToken_spec h; rfl
theorem generate_av {s s' : St} {c c' : Cache} (h : generate s c = some (s', c')) :
    av s' = ⟨s.reserve, s.paid, s.paidBase, s.paidBoosted, s.generated + minted s, s.balFarming,
             (if s.kind = .mint then s.balReward + minted s else s.balReward), s.supply⟩ ∧
    c' = { reserve := c.reserve + minted s
           rps := c.rps + (if c.supply = 0 then 0 else (minted s - cutOf s) * s.dsc / c.supply)
           supply := c.supply } := by
  obtain ⟨_, rfl, _, rfl, _⟩ := generate_spec h
  exact ⟨rfl, rfl⟩
theorem payReward_av {s s' : St} {u base boosted : Nat} (h : payReward s u base boosted = some s') :
    ∃ br, av s' = ⟨s.reserve, s.paid + (base + boosted), s.paidBase + base, s.paidBoosted + boosted,
                   s.generated, s.balFarming, br, s.supply⟩ ∧
      (s.kind = .mint → base + boosted ≤ s.balReward ∧ br = s.balReward - (base + boosted)) ∧
      (s.kind = .noMint → br = s.balReward) := by
  obtain ⟨br, e, rfl, h1, h2, -⟩ := payReward_spec h
  exact ⟨br, rfl, h1, h2⟩

theorem payRewardIf_av {s s' : St} {k : Kind} {u boosted : Nat} (h : payRewardIf s k u 0 boosted = some s') :
    ∃ x br, ((x = boosted ∧ s.kind = k) ∨ (x = 0 ∧ s.kind ≠ k)) ∧
      av s' = ⟨s.reserve, s.paid + x, s.paidBase, s.paidBoosted + x, s.generated, s.balFarming, br, s.supply⟩ ∧
      (s.kind = .mint → x ≤ s.balReward ∧ br = s.balReward - x) ∧
      (s.kind = .noMint → br = s.balReward) := by
  rcases payRewardIf_spec h with ⟨hk, h⟩ | ⟨hk, rfl⟩
  · obtain ⟨br, h1, h2, h3⟩ := payReward_av h
    simp only [Nat.zero_add] at h1 h2
    exact ⟨boosted, br, Or.inl ⟨rfl, hk⟩, h1, h2, h3⟩
  · exact ⟨0, _, Or.inr ⟨rfl, hk⟩, rfl, fun _ => ⟨Nat.zero_le _, rfl⟩, fun _ => rfl⟩

theorem claimOnlyBoostedPayment_av {s s' : St} {u r : Nat} (h : claimOnlyBoostedPayment s u = some (s', r)) :
    r ≤ s.reserve ∧ av s' = ⟨s.reserve - r, s.paid, s.paidBase, s.paidBoosted, s.generated,
      s.balFarming, s.balReward, s.supply⟩ := by
  obtain ⟨s1, h1, hle, rfl⟩ := claimOnlyBoostedPayment_spec h
  obtain ⟨_, _, rfl⟩ := claimBoostedYields_struct h1
  exact ⟨hle, rfl⟩

theorem addFarming_av (s : St) (a : Nat) :
    av (addFarming s a) = ⟨s.reserve, s.paid, s.paidBase, s.paidBoosted, s.generated,
      s.balFarming + a, s.balReward, s.supply⟩ := rfl
theorem increaseUser_av (s : St) (u a : Nat) : av (increaseUser s u a) = av s := rfl
theorem decreaseOwner_av (s : St) (u a : Nat) : av (decreaseOwner s u a) = av s := rfl
theorem drop_av (s : St) (c : Cache) :
    av (Cache.drop s c) = ⟨c.reserve, s.paid, s.paidBase, s.paidBoosted, s.generated,
      s.balFarming, s.balReward, c.supply⟩ := rfl
theorem minted_increaseUser (s : St) (u a : Nat) : minted (increaseUser s u a) = minted s := rfl

theorem removeFarming_av {s s' : St} {a p : Nat} (h : removeFarming s a p = some s') :
    a ≤ s.balFarming ∧ av s' = ⟨s.reserve, s.paid, s.paidBase, s.paidBoosted, s.generated,
      s.balFarming - a, s.balReward, s.supply⟩ := by
  obtain ⟨hle, rfl⟩ := removeFarming_spec h
  exact ⟨hle, rfl⟩

theorem balReward_eq_reserve {s s1 : St} {c1 : Cache} (hA : Acct s) (hk : s.kind = .mint)
    (hg : generate s (Cache.read s) = some (s1, c1)) : s1.balReward = c1.reserve := by
  obtain ⟨v1, hc⟩ := generate_av hg
  have q : s1.balReward = if s.kind = .mint then s.balReward + minted s else s.balReward :=
    congrArg AV.balReward v1
  rw [q, if_pos hk, hc, hA.bal hk]; rfl

/-- One reward movement on the accounting cells: `M` is emitted, `P = B + Bo` leaves the reserve as
    paid out (by a minting farm: out of its reward balance), farming balance and supply move
    together (`h6`, additive because an exit subtracts from both). -/
theorem Acct.move {s s' : St} (hA : Acct s) (hk : s'.kind = s.kind) {M P B Bo : Nat} (hP : P = B + Bo)
    (hle : P ≤ s.reserve + M)
    (h1 : s'.reserve = s.reserve + M - P) (h2 : s'.paid = s.paid + P)
    (h3 : s'.paidBase = s.paidBase + B) (h4 : s'.paidBoosted = s.paidBoosted + Bo)
    (h5 : s'.generated = s.generated + M)
    (h6 : s'.balFarming + s.supply = s'.supply + s.balFarming)
    (h7 : s'.balReward = (if s.kind = .mint then s.balReward + M else s.balReward) -
      (if s.kind = .mint then P else 0)) : Acct s' := by
  obtain ⟨r, sp, p, b, bN⟩ := hA
  refine ⟨by omega, by omega, by omega, fun h => ?_, fun h => ?_⟩
  · rw [hk] at h; have := b h; rw [if_pos h, if_pos h] at h7; omega
  · rw [hk] at h; have := bN h
    have hn : ¬ s.kind = .mint := by rw [h]; exact fun e => Kind.noConfusion e
    rw [if_neg hn, if_neg hn] at h7; omega

theorem enterCore_acct {s s' : St} {caller orig tokenTo amt : Nat} {extra : List (Nat × Nat)} {o : Out}
    (hA : Acct s) (h : enterCore s caller orig tokenTo amt extra = some (s', o)) : Acct s' := by
  obtain ⟨_, _, boosted, _, _, _, _, x⟩ := enterCore_effect h
  have hle := x.reserve
  obtain ⟨_, rfl⟩ := updateEnergyAndProgress_spec x.tail
  exact hA.move rfl (M := minted s) (B := 0) (Nat.zero_add boosted).symm (by omega)
    (show s.reserve - boosted + minted s = s.reserve + minted s - boosted by omega) rfl rfl rfl rfl
    (show s.balFarming + amt + s.supply = s.supply + amt + s.balFarming by omega) rfl

theorem claimCore_acct {s s' : St} {caller orig : Nat} {pays : List (Nat × Nat)} {cmp : Bool} {o : Out}
    (hA : Acct s) (hc : cmp = true → s.kind = .mint)
    (h : claimCore s caller orig pays cmp = some (s', o)) : Acct s' := by
  obtain ⟨_, _, _, _, _, _, boosted, _, _, _, B, _, x⟩ := claimCore_effect h
  obtain rfl := x.rew
  obtain ⟨-, _, _, rfl⟩ := claimTail_flat x.tail
  have p := hA.prin
  refine hA.move rfl (M := minted s) rfl x.reserve rfl rfl rfl rfl rfl ?_ ?_
  · show s.balFarming + (if cmp = true then B + boosted else 0) + s.supply =
      (if cmp = true then s.supply + (B + boosted) else s.supply) + s.balFarming
    split <;> omega
  · -- a compound is only possible in a minting farm
    have hm : (cmp = true ∨ s.kind = .mint) = (s.kind = .mint) :=
      propext ⟨fun h => h.elim hc id, Or.inr⟩
    show _ - (if cmp = true ∨ s.kind = .mint then _ else 0) = _
    simp only [hm]

theorem exitFarm_acct {s s' : St} {caller : Nat} {opt : Option Nat} {n a : Nat} {o : Out}
    (hA : Acct s) (h : exitFarm s caller opt n a = some (s', o)) : Acct s' := by
  obtain ⟨_, _, _, _, _, _, _, _, _, x⟩ := exitFarm_effect h
  obtain ⟨_, rfl⟩ := clearUserEnergyIfNeeded_spec x.tail
  have p := hA.prin
  have hsup := x.supply
  exact hA.move rfl (M := minted s) rfl x.reserve rfl rfl rfl rfl rfl
    (show s.balFarming - a + s.supply = s.supply - a + s.balFarming by omega) rfl

theorem mergeFarmTokens_acct {s s' : St} {caller : Nat} {opt : Option Nat} {pays : List (Nat × Nat)} {o : Out}
    (hA : Acct s) (h : mergeFarmTokens s caller opt pays = some (s', o)) : Acct s' := by
  obtain ⟨_, _, _, boosted, _, _, _, x⟩ := mergeFarmTokens_effect h
  obtain rfl := x.state
  exact hA.move rfl (M := 0) (B := 0) (Nat.zero_add boosted).symm x.reserve rfl rfl rfl rfl rfl (Nat.add_comm _ _)
    (show s.balReward - _ = (if s.kind = .mint then s.balReward else s.balReward) - _ by rw [ite_self])

theorem claimBoostedRewards_acct {s s' : St} {caller : Nat} {optUser : Option Nat} {o : Out}
    (hA : Acct s) (h : claimBoostedRewards s caller optUser = some (s', o)) : Acct s' := by
  obtain ⟨_, boosted, _, _, x⟩ := claimBoostedRewards_effect h
  obtain rfl := x.state
  exact hA.move rfl (M := minted s) (B := 0) (Nat.zero_add boosted).symm x.reserve rfl rfl rfl rfl rfl
    (Nat.add_comm _ _) rfl

theorem settle_acct {s s' : St} (hA : Acct s) (h : settle s = some s') : Acct s' := by
  obtain ⟨_, rfl⟩ := settle_eq h
  exact hA.move rfl (M := minted s) (B := 0) (Bo := 0) rfl (Nat.zero_le _) rfl rfl rfl rfl rfl (Nat.add_comm _ _)
    (show _ = _ - (if _ then 0 else 0) by rw [ite_self]; rfl)

theorem Acct.of_eq {s s' : St} (hA : Acct s) (h1 : av s' = av s) (h2 : s'.kind = s.kind) : Acct s' := by
  simp only [av, AV.mk.injEq] at h1
  obtain ⟨a1, a2, a3, a4, a5, a6, a7, a8⟩ := h1
  exact hA.move h2 (M := 0) (B := 0) (Bo := 0) rfl (Nat.zero_le _) a1 a2 a3 a4 a5
    (by rw [a6, a8]; exact Nat.add_comm _ _)
    (by rw [a7, Nat.add_zero, ite_self, ite_self]; rfl)

theorem init_acct (kind : Kind) (sameTok : Bool) (dsc perBlock : Nat) (produce : Bool) (users : List Nat)
    (e0 : Nat) : Acct (init kind sameTok dsc perBlock produce users e0) :=
  ⟨rfl, rfl, rfl, fun _ => rfl, fun _ => rfl⟩

theorem step_acct {s s' : St} {op : Op} {o : Out} (hA : Acct s) (h : step s op = some (s', o)) : Acct s' := by
  have hs := step_step h
  clear h
  cases hs with
  | enter _ _ h => exact enterCore_acct hA h
  | claim _ _ hk h => exact claimCore_acct hA hk h
  | exit _ _ h => exact exitFarm_acct hA h
  | merge _ _ h => exact mergeFarmTokens_acct hA h
  | claimBoosted _ _ h => exact claimBoostedRewards_acct hA h
  | updateEnergy _ _ h => obtain ⟨_, rfl⟩ := updateEnergyForUser_spec h; exact hA.of_eq rfl rfl
  | transfer _ _ _ _ h => obtain ⟨_, _, _, _, _, _, rfl⟩ := transfer_some h; exact hA.of_eq rfl rfl
  | settled _ _ h _ e => subst e; exact (settle_acct hA h).of_eq rfl rfl
  | startProduce _ _ _ _ e => subst e; exact hA.of_eq rfl rfl
  | setFactors _ _ _ _ _ _ e => subst e; exact hA.of_eq rfl rfl
  | collect _ _ _ _ e =>
    subst e
    split
    · exact hA
    · exact hA.of_eq rfl rfl
  | advance _ _ _ _ e => subst e; exact hA.of_eq rfl rfl
  | config _ _ e _ => subst e; exact hA.of_eq rfl rfl

theorem run_acct (ops : List Op) {s : St} (hA : Acct s) : Acct (run s ops) :=
  run_induction ops hA step_acct

/-! The two deployment constants the accounting depends on: the kind of the farm, and whether the
farming token is the reward token (what `compoundRewards` checks). -/

theorem step_kind {s s' : St} {op : Op} {o : Out} (h : step s op = some (s', o)) : s'.kind = s.kind :=
  congrArg Fixed.kind (step_fixed h)

theorem run_kind (ops : List Op) (s : St) : (run s ops).kind = s.kind :=
  congrArg Fixed.kind (run_fixed ops s)

theorem step_sameTok {s s' : St} {op : Op} {o : Out} (h : step s op = some (s', o)) : s'.sameTok = s.sameTok :=
  congrArg Fixed.sameTok (step_fixed h)

theorem run_sameTok (ops : List Op) (s : St) : (run s ops).sameTok = s.sameTok :=
  congrArg Fixed.sameTok (run_fixed ops s)

end Mx.Farm
