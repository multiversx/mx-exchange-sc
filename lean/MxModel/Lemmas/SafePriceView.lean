/-
  The weighted amounts of a window (`window`, the common part of the price and LP views) on top of the
  exact lookup; the guards that make `window` and `lookup` fail; entries of the ghost log at or below the
  current round never change.
-/
import MxModel.Lemmas.OptionDo
import MxModel.Lemmas.SafePriceInv
import MxModel.Lemmas.SafePriceLookup

namespace Mx.SafePrice
open Mx Mx.Pair

/-- `⌊ Σ_{k ∈ (s, e]} f k / (e − s) ⌋` : the documented time-weighted average -/
def avg (f : Nat → Nat) (s e : Nat) : Nat := rsum f s e / (e - s)

theorem oldest_facts {g : G} (hi : RingInv g) {old : Obs} (hold : oldest g.s.sp = some old) :
    g.s.sp.obs ≠ [] ∧ 1 ≤ old.round ∧ 0 < old.accS ∧ Tele g.log old g.s.sp.last ∧ old ∈ g.s.sp.obs := by
  obtain ⟨hne, io, io1, io2, _, hold', _⟩ := oldest_spec hi.shape hold
  have hmem : old ∈ g.s.sp.obs := by rw [hold']; exact nth_mem io1 io2
  refine ⟨hne, (hi.roundBnd _ hmem).1, hi.accPos _ hmem, ?_, hmem⟩
  rw [last_nth hi.shape hne]
  exact oldest_tele hi.shape hi.linked hold (hi.shape.curPos hne) hi.shape.curLe

theorem log_pos {g : G} (hi : RingInv g) {old : Obs} (hold : oldest g.s.sp = some old) :
    ∀ k, old.round < k → k ≤ g.s.round →
      0 < (g.log k).r1 ∧ 0 < (g.log k).r2 ∧ 0 < (g.log k).S := by
  obtain ⟨hne, _, _, ht, _⟩ := oldest_facts hi hold
  intro k k1 k2
  by_cases hk : k ≤ g.s.sp.last.round
  · exact ht.pos k k1 hk
  · rw [hi.current hne k (by omega) k2]
    exact hi.live hne

/-- `compute_weighted_amounts` divides the growth of each accumulator by the growth of the weight -/
theorem weighted_of_add {f l : Obs} {d x1 x2 xS : Nat} (hd : 0 < d) (hS : 0 < f.accS)
    (hw : l.w = f.w + d) (h1 : l.acc1 = f.acc1 + x1) (h2 : l.acc2 = f.acc2 + x2)
    (h3 : l.accS = f.accS + xS) : weighted f l = some ⟨x1 / d, x2 / d, xS / d⟩ := by
  unfold weighted
  rw [hw, h1, h2, h3, sub?_pos (Nat.le_add_right _ _), sub?_pos (Nat.le_add_right _ _),
    sub?_pos (Nat.le_add_right _ _), sub?_pos (Nat.le_add_right _ _)]
  simp only [Nat.add_sub_cancel_left, Option.bind_eq_bind, Option.bind_some, req_pos hd,
    if_pos hS, Option.pure_def]

theorem weighted_ideal {log : Log} {old : Obs} (hacc : 0 < old.accS) {s e : Nat}
    (h1 : old.round ≤ s) (h2 : s < e) :
    weighted (ideal log old s) (ideal log old e) =
      some ⟨avg (l1 log) s e, avg (l2 log) s e, avg (lS log) s e⟩ := by
  have he := Nat.le_of_lt h2
  refine weighted_of_add (d := e - s) (Nat.sub_pos_of_lt h2) (Nat.add_pos_left hacc _) ?_ ?_ ?_ ?_
  · show old.w + (e - old.round) = old.w + (s - old.round) + (e - s)
    omega
  · show old.acc1 + _ = old.acc1 + _ + _
    rw [rsum_split (l1 log) h1 he, Nat.add_assoc]
  · show old.acc2 + _ = old.acc2 + _ + _
    rw [rsum_split (l2 log) h1 he, Nat.add_assoc]
  · show old.accS + _ = old.accS + _ + _
    rw [rsum_split (lS log) h1 he, Nat.add_assoc]

theorem window_exact {g : G} (hi : RingInv g) {old : Obs} (hold : oldest g.s.sp = some old)
    {s e : Nat} (h1 : old.round ≤ s) (h2 : s < e) (h3 : e ≤ g.s.round) :
    window g.s s e = some ⟨avg (l1 g.log) s e, avg (l2 g.log) s e, avg (lS g.log) s e⟩ := by
  obtain ⟨_, _, hacc, _, _⟩ := oldest_facts hi hold
  unfold window
  rw [req_pos h2, hold]
  simp only [Option.bind_eq_bind, Option.bind_some]
  rw [req_pos h1, lookup_exact hi hold h1 (by omega), lookup_exact hi hold (by omega) h3]
  simp only [Option.bind_some]
  exact weighted_ideal hacc h1 h2

/-- on such a window the zero-divisor guard of `compute_weighted_price` passes and the LP view
    does not take its legacy branch (`wS = 0`) -/
theorem avg_pos {g : G} (hi : RingInv g) {old : Obs} (hold : oldest g.s.sp = some old)
    {s e : Nat} (h1 : old.round ≤ s) (h2 : s < e) (h3 : e ≤ g.s.round) :
    0 < avg (l1 g.log) s e ∧ 0 < avg (l2 g.log) s e ∧ 0 < avg (lS g.log) s e := by
  have hp := log_pos hi hold
  unfold avg
  refine ⟨?_, ?_, ?_⟩
  · exact Nat.div_pos (rsum_ge_len _ (fun k a b => (hp k (by omega) (by omega)).1)) (by omega)
  · exact Nat.div_pos (rsum_ge_len _ (fun k a b => (hp k (by omega) (by omega)).2.1)) (by omega)
  · exact Nat.div_pos (rsum_ge_len _ (fun k a b => (hp k (by omega) (by omega)).2.2)) (by omega)

theorem window_none_of_order (s : St) {st en : Nat} (h : en ≤ st) : window s st en = none := by
  unfold window
  rw [req_eq_none.mpr (by omega)]
  rfl

theorem window_none_of_old (s : St) {old : Obs} (hold : oldest s.sp = some old) {st en : Nat}
    (h : st < old.round) : window s st en = none := by
  unfold window
  cases hr : req (st < en) with
  | none => rfl
  | some u =>
    simp only [Option.bind_eq_bind, Option.bind_some, hold]
    rw [req_eq_none.mpr (by omega)]
    rfl

theorem window_none_of_empty (s : St) (h : s.sp.obs = []) (st en : Nat) : window s st en = none := by
  unfold window
  cases hr : req (st < en) with
  | none => rfl
  | some u =>
    have : oldest s.sp = none := by
      unfold oldest
      rw [req_eq_none.mpr (by simp [h])]
      rfl
    simp only [Option.bind_eq_bind, Option.bind_some, this, Option.bind_none]

theorem lookup_none_of_future {g : G} (hi : RingInv g) {q : Nat} (h : g.s.round < q) :
    lookup g.s q = none := by
  unfold lookup
  by_cases hne : g.s.sp.obs = []
  · rw [req_eq_none.mpr (by simp [hne])]
    rfl
  · rw [req_pos hne, get?_some (hi.shape.curPos hne) hi.shape.curLe, ← last_nth hi.shape hne]
    simp only [Option.bind_eq_bind, Option.bind_some]
    have := hi.lastLe
    rw [if_neg (by omega), if_pos (by omega), req_eq_none.mpr (by omega)]
    rfl

theorem window_none_of_future {g : G} (hi : RingInv g) {st en : Nat} (h : g.s.round < en) :
    window g.s st en = none := by
  unfold window
  cases req (st < en) with
  | none => rfl
  | some u =>
    simp only [Option.bind_eq_bind, Option.bind_some]
    cases oldest g.s.sp with
    | none => rfl
    | some old =>
      simp only [Option.bind_some]
      cases req (old.round ≤ st) with
      | none => rfl
      | some u =>
        simp only [Option.bind_some]
        cases lookup g.s st with
        | none => rfl
        | some f =>
          simp only [Option.bind_some]
          rw [lookup_none_of_future hi h]
          rfl

theorem gstep_round_le (g : G) (op : Op) : g.s.round ≤ (gstep g op).s.round := by
  unfold gstep
  cases h : step g.s op with
  | none => exact Nat.le_refl _
  | some r =>
    obtain ⟨s', o⟩ := r
    simp only []
    rcases step_kind h with ⟨hr, _⟩ | ⟨hr, _⟩ <;> omega

theorem gstep_log_stable (g : G) (op : Op) {k : Nat} (hk : k ≤ g.s.round) :
    (gstep g op).log k = g.log k := by
  unfold gstep
  cases h : step g.s op with
  | none => rfl
  | some r =>
    obtain ⟨s', o⟩ := r
    simp only []
    rw [if_neg (by omega)]

theorem grun_round_le (ops : List Op) (g : G) : g.s.round ≤ (grun g ops).s.round := by
  induction ops generalizing g with
  | nil => exact Nat.le_refl _
  | cons op ops ih =>
    simp only [grun, List.foldl_cons]
    exact Nat.le_trans (gstep_round_le g op) (ih (gstep g op))

theorem grun_log_stable (ops : List Op) (g : G) {k : Nat} (hk : k ≤ g.s.round) :
    (grun g ops).log k = g.log k := by
  induction ops generalizing g with
  | nil => rfl
  | cons op ops ih =>
    simp only [grun, List.foldl_cons]
    have := ih (gstep g op) (Nat.le_trans hk (gstep_round_le g op))
    simp only [grun] at this
    rw [this, gstep_log_stable g op hk]

theorem grun_append (g : G) (a b : List Op) : grun g (a ++ b) = grun (grun g a) b := by
  simp [grun, List.foldl_append]

end Mx.SafePrice
