/-
  The 5-slot ring of boosted-yields factors (`BoostedYieldsConfig`): which factors are in force
  for which week, under configuration updates between weeks.
-/
import MxModel.Core.Staking
import MxModel.Lemmas.OptionDo
import MxModel.Lemmas.FactorRing

namespace Mx.Staking

theorem BCfg.new_length (W : Nat) (x : Factors) : (BCfg.new W x).f.length = 5 := by
  simp [BCfg.new]

/-- `get_factors_for_week` once the two guards hold -/
theorem BCfg.factorsForWeek_eq (c : BCfg) (w : Nat) (h1 : w < c.lastUpdateWeek)
    (h2 : c.lastUpdateWeek - w < 5) : c.factorsForWeek w = c.f[4 - (c.lastUpdateWeek - w)]? := by
  unfold BCfg.factorsForWeek
  rw [req_pos h1, req_pos h2]
  rfl

/-- a first configuration covers the four weeks before it as well -/
theorem BCfg.new_factorsForWeek (W w : Nat) (x : Factors) (h1 : w < W) (h2 : W - w < 5) :
    (BCfg.new W x).factorsForWeek w = some x := by
  rw [BCfg.factorsForWeek_eq _ _ h1 h2]
  simp only [BCfg.new, List.getElem?_replicate]
  have : 4 - (W - w) < 5 := by omega
  simp [this]

theorem BCfg.update_shift {c c' : BCfg} {W : Nat} {new : Option Factors} (h : c.update W new = some c') :
    c.lastUpdateWeek ≤ W ∧ ∃ last, c.f[4]? = some last ∧
      c' = ⟨if min (W - c.lastUpdateWeek) 5 = 0 then c.lastUpdateWeek else W,
        Ring.shift c.f (min (W - c.lastUpdateWeek) 5) last new⟩ := by
  obtain ⟨hle, h⟩ := peel_req h
  obtain ⟨last, hlast, h⟩ := peel h
  refine ⟨hle, last, hlast, ?_⟩
  unfold Ring.shift
  dsimp only at h
  by_cases hd : min (W - c.lastUpdateWeek) 5 = 0
  · rw [if_pos hd] at h
    rw [if_pos hd, if_pos hd]
    cases new <;> exact (Option.some.inj h).symm
  · rw [if_neg hd] at h
    rw [if_neg hd, if_neg hd]
    exact (Option.some.inj h).symm

theorem BCfg.update_spec {c c' : BCfg} {W : Nat} {new : Option Factors} (hl : c.f.length = 5)
    (h : c.update W new = some c') :
    c.lastUpdateWeek ≤ W ∧ c'.f.length = 5 ∧ c'.lastUpdateWeek = W ∧
    (∃ last, c.f[4]? = some last ∧ c'.f[4]? = some (new.getD last)) ∧
    (∀ w, w < c.lastUpdateWeek → W - w < 5 → c'.factorsForWeek w = c.factorsForWeek w) ∧
    (∀ w, c.lastUpdateWeek ≤ w → w < W → W - w < 5 → c'.factorsForWeek w = c.f[4]?) := by
  obtain ⟨hle, last, hlast, rfl⟩ := BCfg.update_shift h
  have hW : (if min (W - c.lastUpdateWeek) 5 = 0 then c.lastUpdateWeek else W) = W := by split <;> omega
  refine ⟨hle, Ring.shift_length hl hlast (Nat.min_le_right _ _) new, hW,
    ⟨last, hlast, Ring.shift_latest hl hlast (Nat.min_le_right _ _) new⟩, fun w h1 h2 => ?_,
    fun w h1 h2 h3 => ?_⟩
  · rw [BCfg.factorsForWeek_eq _ w (by simp only [hW]; omega) (by simp only [hW]; exact h2),
      BCfg.factorsForWeek_eq c w h1 (by omega)]
    simp only [hW]
    exact Ring.shift_old hl hlast hle new h1 h2
  · rw [BCfg.factorsForWeek_eq _ w (by simp only [hW]; exact h2) (by simp only [hW]; exact h3), hlast]
    simp only [hW]
    exact Ring.shift_gap hl hlast new h1 h2 h3

end Mx.Staking
