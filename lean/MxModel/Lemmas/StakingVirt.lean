/-
  The ghost `virt` of the farm-staking model (stake registered through the proxy endpoints without
  staking tokens moving) determined (property theorems: Props/C12Ledger.lean).  A successful
  transaction changes `virt` by `virtDelta op`, a function of the operation alone — non-zero only
  for `stakeFarmThroughProxy` (+ amount), `claimRewardsWithNewValue` (+ new − old) and
  `unstakeFarmThroughProxy` (− position amount): `step_virt`.  Under the proxy discipline `disc P`
  (the accounts in `P` — the metastaking proxies — use only the three proxy endpoints, nobody else
  uses those, and positions do not cross the boundary of `P`) the position units held by the
  accounts in `P`, a `wsum` over a SUB-LIST of the accounts (`wsumL_*`, Lemmas/StakingPos.lean),
  move the same way through the five transaction shapes:
  `VirtOK P s : virt = Σ position units held by the accounts in P`.
-/
import MxModel.Lemmas.StakingTrans

namespace Mx.Staking

open Mx.Weekly

/-- the change of the proxy-virtual stake caused by an operation (when it succeeds) -/
def virtDelta : Op → Int
  | .stakeProxy _ _ a _ => (a : Int)
  | .claimNew _ _ nv p => (nv : Int) - (p.2 : Int)
  | .unstakeProxy _ _ _ p => - (p.2 : Int)
  | _ => 0

/-- what an operation adds to the reward capacity (when it succeeds) -/
def capUp : Op → Nat
  | .topUp x => x
  | _ => 0

/-- what an operation takes out of the reward capacity (when it succeeds) -/
def capDown : Op → Nat
  | .withdraw x => x
  | _ => 0

/-- the position a claim or a merge re-issues carries the units of all its payments -/
theorem merged_amount {md : Nat → Option Meta} {pays : List Pay} {p : Pay} {first tok base merged : Attrs}
    (hp : pays.head? = some p) (ht : first.intoPart p.2 = some tok)
    (hm : mergeParts md base pays.tail = some merged) (hb : base.amount = tok.amount) :
    merged.amount = payTot pays := by
  rw [(mergeParts_amount hm).1, hb, (intoPart_spec ht).2.2.1]
  conv => rhs; rw [head_tail hp]
  rfl

theorem step_virt {s s' : St} {op : Op} {o : Out} (h : step s op = some (s', o)) :
    s'.virt = s.virt + virtDelta op ∧ s'.whitelist = s.whitelist ∧
      s'.capacity + capDown op = s.capacity + capUp op := by
  cases Step.of_step h with
  | stake _ _ h | stakeBehalf _ _ _ h =>
    obtain ⟨_, _, _, _, _, t⟩ := stakeCore_trace h
    obtain rfl := t.state
    exact ⟨(Int.add_zero _).symm, rfl, rfl⟩
  | stakeProxy _ _ h =>
    obtain ⟨_, _, _, _, _, t⟩ := stakeCore_trace h
    obtain rfl := t.state
    exact ⟨rfl, rfl, rfl⟩
  | claim _ _ h | claimBehalf _ _ _ h =>
    obtain ⟨_, _, _, _, _, _, _, _, _, _, t⟩ := claimCore_trace h
    obtain rfl := t.state
    exact ⟨(Int.add_sub_cancel _ _).trans (Int.add_zero _).symm, rfl, rfl⟩
  | @claimNew _ _ nv p _ _ _ _ h =>
    obtain ⟨_, _, first, tok, _, _, merged, _, _, _, t⟩ := claimCore_trace h
    obtain rfl := t.state
    refine ⟨?_, rfl, rfl⟩
    have e : merged.amount = p.2 := merged_amount t.head t.intoPart t.mergeParts rfl
    show _ = s.virt + ((nv : Int) - (p.2 : Int))
    rw [← e]
    exact Int.add_sub_assoc _ _ _
  | unstake _ _ h =>
    obtain ⟨_, _, _, _, _, t⟩ := unstakeCore_trace h
    obtain rfl := t.state
    exact ⟨(Int.add_zero _).symm, rfl, rfl⟩
  | @unstakeProxy _ _ _ p _ _ _ _ h =>
    obtain ⟨_, _, tok, _, _, t⟩ := unstakeCore_trace h
    obtain rfl := t.state
    refine ⟨?_, rfl, rfl⟩
    show s.virt - (tok.amount : Int) = s.virt + - (p.2 : Int)
    rw [(intoPart_spec t.intoPart).2.2.1, Int.sub_eq_add_neg]
  | compound _ h =>
    obtain ⟨_, _, _, _, _, _, _, t⟩ := compound_trace h
    obtain rfl := t.state
    exact ⟨(Int.add_zero _).symm, rfl, rfl⟩
  | merge _ h =>
    obtain ⟨_, _, _, _, _, _, _, t⟩ := mergeTokens_trace h
    obtain rfl := t.state
    exact ⟨(Int.add_zero _).symm, rfl, rfl⟩
  | claimBoosted _ h =>
    obtain ⟨_, t⟩ := claimBoostedRewards_trace h
    obtain rfl := t.state
    exact ⟨(Int.add_zero _).symm, rfl, rfl⟩
  | withdraw _ _ _ _ hcap => exact ⟨(Int.add_zero _).symm, rfl, Nat.sub_add_cancel hcap⟩
  | _ => exact ⟨(Int.add_zero _).symm, rfl, rfl⟩

theorem run_whitelist (ops : List Op) {s : St} : (run s ops).whitelist = s.whitelist :=
  run_induction (P := fun t => t.whitelist = s.whitelist) (fun hI h => (step_virt h).2.1.trans hI) ops rfl

/-- **proxy discipline** for a set `P` of accounts (the metastaking-style proxies, which register
    stake without moving staking tokens): the three proxy endpoints are used by the accounts of
    `P` only; an account of `P` never stakes, compounds or unstakes through the direct endpoints
    (it may claim, merge, unbond, …); and staking POSITIONS are never transferred across the
    boundary of `P` (unbond tokens may be: the proxy forwards them to the user). -/
def disc (P : List Nat) (s : St) : Op → Bool
  | .stakeProxy c _ _ _ => decide (c ∈ P)
  | .claimNew c _ _ _ => decide (c ∈ P)
  | .unstakeProxy c _ _ _ => decide (c ∈ P)
  | .stake c _ _ _ => decide (c ∉ P)
  | .stakeBehalf c _ _ _ => decide (c ∉ P)
  | .compound c _ => decide (c ∉ P)
  | .unstake c _ _ => decide (c ∉ P)
  | .transfer src dst p => decide ((src ∈ P ↔ dst ∈ P) ∨ posOf s.md p.1 = none)
  | _ => true

/-- the distinct accounts of the world that belong to `P` -/
def PV.pacc (P : List Nat) (v : PV) : List Nat := v.accts.filter (fun a => decide (a ∈ P))

/-- position units held by the accounts of `P` -/
def PV.held (P : List Nat) (v : PV) : Nat := wsum v.hold (v.pacc P) (v.nonce + 1) (posW v.md)

theorem PV.mem_pacc {P : List Nat} {v : PV} {a : Nat} (ha : a ∈ v.accts) : a ∈ v.pacc P ↔ a ∈ P := by
  simp [PV.pacc, List.mem_filter, ha]

theorem PosOK.pacc_nodup {v : PV} (hI : PosOK v) (P : List Nat) : (v.pacc P).Nodup :=
  hI.nodup.filter _

/-- stake registered through the proxies = position units held by the proxies -/
def VirtOK (P : List Nat) (s : St) : Prop := s.virt = ((pv s).held P : Nat)

theorem held_frame {P : List Nat} {v v' : PV} (e : v'.held P = v.held P) :
    ((v'.held P : Nat) : Int) = ((v.held P : Nat) : Int) + 0 := by rw [e]; simp

theorem held_remint {P : List Nat} {v v' : PV} (hI : PosOK v) {c : Nat} {pays : List Pay}
    {h0 : Nat → Nat → Nat} (hc : c ∈ v.accts) (hd : debit v.hold c pays = some h0)
    (hpos : ∀ p ∈ pays, ∃ a, posOf v.md p.1 = some a) {inc base : Nat} {tok : Attrs}
    {ut2 : Nat → Nat} {supply2 paid : Nat}
    (e : v' = (v.gen inc base).remint c h0 tok ut2 supply2 paid) :
    v'.held P + (if c ∈ P then payTot pays else 0) = v.held P + (if c ∈ P then tok.amount else 0) := by
  subst e
  have := wsumL_remint hI (hI.pacc_nodup P) hd hpos tok
  simp only [PV.mem_pacc hc] at this
  exact this

theorem stakeCore_held {P : List Nat} {s s' : St} {c orig amount : Nat} {v : Bool} {adds : List Pay}
    {o : Out} (hI : PosInv s) (hc : c ∈ s.accts) (h : stakeCore s c orig amount v adds = some (s', o)) :
    (pv s').held P = (pv s).held P + (if c ∈ P then amount else 0) := by
  obtain ⟨inc, base, hold0, ut1, merged, _, hd, hk, hm, e⟩ := stakeCore_pv h
  obtain ⟨m1, _⟩ := mergeParts_amount hm
  have hr := held_remint (P := P) hI (List.mem_dedup.mpr hc) hd (checkAndUpdate_pos _ _ _ _ _ hk) e
  simp only at m1
  by_cases hP : c ∈ P
  · simp only [if_pos hP] at hr ⊢
    omega
  · simp only [if_neg hP] at hr ⊢
    exact hr

theorem claimCore_held {P : List Nat} {s s' : St} {c orig : Nat} {pays : List Pay} {nv : Option Nat}
    {o : Out} (hI : PosInv s) (hc : c ∈ s.accts) (h : claimCore s c orig pays nv = some (s', o)) :
    (pv s').held P + (if c ∈ P then payTot pays else 0)
      = (pv s).held P + (if c ∈ P then nv.getD (payTot pays) else 0) := by
  obtain ⟨inc, base, p, first, tok, hold0, ut1, merged, ut2, supply2, _, hp, hf, ht, hd, hk, hm,
    _, _, e⟩ := claimCore_pv h
  have hr := held_remint (P := P) hI (List.mem_dedup.mpr hc) hd (checkAndUpdate_pos _ _ _ _ _ hk) e
  rw [← merged_amount hp ht hm rfl] at hr ⊢
  exact hr

theorem unstakeCore_held {P : List Nat} {s s' : St} {c orig : Nat} {pay : Pay} {x : Option Nat}
    {o : Out} (hI : PosInv s) (hc : c ∈ s.accts) (h : unstakeCore s c orig pay x = some (s', o)) :
    (pv s').held P + (if c ∈ P then pay.2 else 0) = (pv s).held P := by
  obtain ⟨inc, base, hold0, attrs, tok, e, _, hd, ha, _, _, e'⟩ := unstakeCore_pv h
  have := wsumL_burn hI (PosOK.pacc_nodup hI P) hd ha e (x.getD tok.amount)
  simp only [PV.mem_pacc (v := pv s) (List.mem_dedup.mpr hc)] at this
  rw [e']
  exact this

theorem transfer_held {P : List Nat} {s : St} {src dst : Nat} {pay : Pay} {hold0 : Nat → Nat → Nat}
    (hI : PosInv s) (hs : src ∈ s.accts) (hdst : dst ∈ s.accts)
    (hd : debit s.hold src [pay] = some hold0)
    (hdisc : (src ∈ P ↔ dst ∈ P) ∨ posOf s.md pay.1 = none) :
    (pv { s with hold := upd2 hold0 dst pay.1 (hold0 dst pay.1 + pay.2) }).held P = (pv s).held P := by
  have ht := wsumL_transfer (v := pv s) hI (PosOK.pacc_nodup hI P) (dst := dst) hd
  simp only [PV.mem_pacc (v := pv s) (List.mem_dedup.mpr hs),
    PV.mem_pacc (v := pv s) (List.mem_dedup.mpr hdst)] at ht
  show wsum (upd2 hold0 dst pay.1 (hold0 dst pay.1 + pay.2)) ((pv s).pacc P) ((pv s).nonce + 1)
    (posW (pv s).md) = wsum (pv s).hold ((pv s).pacc P) ((pv s).nonce + 1) (posW (pv s).md)
  rcases hdisc with hiff | hnone
  · rw [if_congr hiff rfl rfl] at ht
    exact Nat.add_right_cancel ht
  · simp only [(posW_none hnone : posW (pv s).md pay.1 = 0), Nat.zero_mul, ite_self, Nat.add_zero] at ht
    exact ht

theorem step_held {P : List Nat} {s s' : St} {op : Op} {o : Out} (hI : PosInv s)
    (hd : disc P s op = true) (h : step s op = some (s', o)) :
    (((pv s').held P : Nat) : Int) = (((pv s).held P : Nat) : Int) + virtDelta op := by
  cases Step.of_step h with
  | stake hc _ h | stakeBehalf hc _ _ h =>
    have := stakeCore_held (P := P) hI hc h
    rw [if_neg (of_decide_eq_true hd)] at this
    exact held_frame this
  | stakeProxy hc _ h =>
    have := stakeCore_held (P := P) hI hc h
    rw [if_pos (of_decide_eq_true hd)] at this
    exact congrArg Nat.cast this
  | claim hc _ h | claimBehalf hc _ _ h =>
    have := claimCore_held (P := P) hI hc h
    exact held_frame (Nat.add_right_cancel this)
  | @claimNew c _ nv p _ _ hc _ h =>
    have := claimCore_held (P := P) hI hc h
    rw [if_pos (of_decide_eq_true hd), if_pos (of_decide_eq_true hd)] at this
    show _ = _ + ((nv : Int) - (p.2 : Int))
    have e : payTot [p] = p.2 := rfl
    rw [e, Option.getD_some] at this
    omega
  | @compound c _ _ _ hc h =>
    obtain ⟨inc, base, p, first, tok, hold0, ut1, merged, boosted, _, _, _, _, hdb, hk, _, e⟩ :=
      compound_pv h
    have hr := held_remint (P := P) hI (List.mem_dedup.mpr hc) hdb (checkAndUpdate_pos _ _ _ _ _ hk) e
    simp only [if_neg (of_decide_eq_true hd), Nat.add_zero] at hr
    exact held_frame hr
  | unstake hc _ h =>
    have := unstakeCore_held (P := P) hI hc h
    rw [if_neg (of_decide_eq_true hd)] at this
    exact held_frame this
  | @unstakeProxy c _ _ p _ _ hc _ h =>
    have := unstakeCore_held (P := P) hI hc h
    rw [if_pos (of_decide_eq_true hd)] at this
    show _ = _ + - (p.2 : Int)
    omega
  | unbond _ hdb _ hu =>
    exact held_frame (wsumL_redeem (v := pv s) hI (PosOK.pacc_nodup hI P) hdb (fun p hp => by
      rw [List.mem_singleton.mp hp]; exact unbondOf_posOf hu))
  | @merge c _ _ _ hc h =>
    obtain ⟨p, first, part, hold0, ut1, merged, hp, hf, ht, hdb, hk, hm, e⟩ := mergeTokens_pv h
    have hr := held_remint (P := P) hI (List.mem_dedup.mpr hc) hdb (checkAndUpdate_pos _ _ _ _ _ hk) e
    rw [← merged_amount hp ht hm rfl] at hr
    exact held_frame (Nat.add_right_cancel hr)
  | claimBoosted _ h =>
    obtain ⟨_, t⟩ := claimBoostedRewards_trace h
    obtain rfl := t.state
    exact held_frame rfl
  | transfer ha hb hdb => exact held_frame (transfer_held hI ha hb hdb (of_decide_eq_true hd))
  | _ => exact held_frame rfl

theorem step_virtOK {P : List Nat} {s s' : St} {op : Op} {o : Out} (hI : PosInv s)
    (hV : VirtOK P s) (hd : disc P s op = true) (h : step s op = some (s', o)) : VirtOK P s' := by
  unfold VirtOK at hV ⊢
  rw [(step_virt h).1, step_held hI hd h, hV]

/-- a history in which every SUCCESSFUL transaction obeys the proxy discipline (failed
    transactions do not matter: they change nothing) -/
def discRun (P : List Nat) : St → List Op → Bool
  | _, [] => true
  | s, op :: ops =>
    match step s op with
    | some r => disc P s op && discRun P r.1 ops
    | none => discRun P s ops

theorem run_virtOK {P : List Nat} (ops : List Op) {s : St} (hI : PosInv s) (hV : VirtOK P s)
    (hd : discRun P s ops = true) : VirtOK P (run s ops) := by
  induction ops generalizing s with
  | nil => simpa [run] using hV
  | cons op ops ih =>
    simp only [run, List.foldl_cons]
    simp only [discRun] at hd
    cases hst : step s op with
    | none =>
      rw [hst] at hd
      exact ih hI hV hd
    | some r =>
      obtain ⟨s1, o⟩ := r
      rw [hst] at hd
      simp only [Bool.and_eq_true] at hd
      exact ih (step_posInv hI hst) (step_virtOK hI hV hd.1 hst) hd.2

theorem virtOK_init (P : List Nat) (epoch block dsc maxApr minUnbond perBlock : Nat) (accts wl : List Nat) :
    VirtOK P (init epoch block dsc maxApr minUnbond perBlock accts wl) := by
  have h : (pv (init epoch block dsc maxApr minUnbond perBlock accts wl)).held P = 0 :=
    wsum_hold_zero (fun _ _ => rfl)
  unfold VirtOK
  rw [h]
  rfl

theorem usum_filter_split (l : List Nat) (q : Nat → Bool) (f : Nat → Nat) :
    usum (l.filter q) f + usum (l.filter (fun a => !q a)) f = usum l f := by
  induction l with
  | nil => rfl
  | cons a l ih =>
    by_cases hq : q a = true
    · rw [List.filter_cons_of_pos hq, List.filter_cons_of_neg (by simp [hq])]
      simp only [usum_cons]; omega
    · rw [List.filter_cons_of_neg hq, List.filter_cons_of_pos (by simp [hq])]
      simp only [usum_cons]; omega

/-- the distinct accounts of the world that do NOT belong to `P` -/
def PV.dacc (P : List Nat) (v : PV) : List Nat := v.accts.filter (fun a => !decide (a ∈ P))

/-- position units held by accounts outside `P`: the DIRECTLY staked principal -/
def PV.direct (P : List Nat) (v : PV) : Nat := wsum v.hold (v.dacc P) (v.nonce + 1) (posW v.md)

theorem PosOK.held_add_direct {v : PV} (hI : PosOK v) (P : List Nat) :
    v.held P + v.direct P = v.supply := by
  rw [hI.sup]
  unfold PV.held PV.direct wsum
  rw [← usum_add]
  apply usum_congr
  intro n _
  rw [← Nat.mul_add]
  congr 1
  exact usum_filter_split v.accts (fun a => decide (a ∈ P)) (fun a => v.hold a n)

theorem PosOK.held_le {v : PV} (hI : PosOK v) (P : List Nat) : v.held P ≤ v.supply :=
  Nat.le.intro (hI.held_add_direct P)

end Mx.Staking
