/-
  Farm-staking: the frozen pool `R` the boosted formula reads (`totalRewardsForWeek(w)`) IS the
  ghost `collected w` (what was moved from the week's accumulated boosted share into its pool).

  Invariant `Frozen s` (proved for every history from `init`): for every week `w`,
  `totalRewardsForWeek(w)` is empty — and then, if `w` is one of the four claimable weeks or later,
  nothing was ever collected for it — or it is the single entry `(0, collected w)`.
  (An old week's list is cleared by the weekly update, week `current − 5`; it is outside every claim
  window from then on, so it is never frozen again.)
-/
import MxModel.Lemmas.StakingLogAmount

namespace Mx.Staking

open Mx.Weekly

def FrozenRel (tr : Nat → List (Tok × Nat)) (coll : Nat → Nat) (W : Nat) : Prop :=
  ∀ w, (tr w = [] ∧ (W ≤ w + 4 → coll w = 0)) ∨ tr w = [(0, coll w)]

theorem FrozenRel.mono {tr : Nat → List (Tok × Nat)} {coll : Nat → Nat} {W W' : Nat}
    (h : FrozenRel tr coll W) (hW : W ≤ W') : FrozenRel tr coll W' := by
  intro w
  rcases h w with ⟨h1, h2⟩ | h1
  · exact Or.inl ⟨h1, fun hw => h2 (by omega)⟩
  · exact Or.inr h1

theorem FrozenRel.clear {tr tr' : Nat → List (Tok × Nat)} {coll : Nat → Nat} {W : Nat}
    (h : FrozenRel tr coll W)
    (hc : ∀ w, (W ≤ w + 4 → tr' w = tr w) ∧ (tr' w = tr w ∨ tr' w = [])) : FrozenRel tr' coll W := by
  intro w
  obtain ⟨hin, hor⟩ := hc w
  rcases hor with e | e
  · rw [e]; exact h w
  · refine Or.inl ⟨e, fun hw => ?_⟩
    have e2 := hin hw
    rcases h w with ⟨_, h2⟩ | h1
    · exact h2 hw
    · rw [e2, h1] at e
      cases e

/-- `FrozenRel` on the cells of one week, `live` standing for "the week is claimable" (`W ≤ w + 4`) -/
theorem Hook.frozen {due : Nat → Nat} {c c' : Cell} {live : Prop} (h : Hook due c c') (hl : live)
    (hc : (c.tr = [] ∧ (live → c.coll = 0)) ∨ c.tr = [(0, c.coll)]) :
    (c'.tr = [] ∧ (live → c'.coll = 0)) ∨ c'.tr = [(0, c'.coll)] := by
  rcases h with ⟨_, rfl⟩ | ⟨_, rfl⟩
  · exact hc
  · unfold Cell.pay Cell.freeze
    split
    · rename_i he
      rcases hc with ⟨_, h0⟩ | h1
      · exact Or.inr (by simp only [h0 hl, Nat.zero_add])
      · rw [h1] at he; cases he
    · exact hc

theorem claimBoostedYields_frozen {s : St} {u f : Nat} {r : Weekly.St × B × Nat}
    (h : claimBoostedYields s u f = some r)
    (hF : FrozenRel s.w.totalRewards s.b.collected s.week) :
    FrozenRel r.1.totalRewards r.2.1.collected s.week := by
  obtain ⟨ins, out, -⟩ := claimBoostedYields_cells h
  have hwin := le_claimFrom (s.w.progress u) s.week
  intro k
  by_cases hk : claimFrom (s.w.progress u) s.week ≤ k ∧ k < s.week
  · exact (ins k hk.1 hk.2).frozen (show s.week ≤ k + 4 by omega) (hF k)
  · rcases out k (by omega) with e | ⟨h5, e⟩
    · rw [show r.1.totalRewards k = _ from congrArg Cell.tr e,
        show r.2.1.collected k = _ from congrArg Cell.coll e]
      exact hF k
    · exact Or.inl ⟨congrArg Cell.tr e, fun h4 => by omega⟩

def Frozen (s : St) : Prop := FrozenRel s.w.totalRewards s.b.collected s.week

theorem Frozen.init (epoch block dsc maxApr minUnbond perBlock : Nat) (accts wl : List Nat) :
    Frozen (init epoch block dsc maxApr minUnbond perBlock accts wl) :=
  fun _ => Or.inl ⟨rfl, fun _ => rfl⟩

theorem Via.frozen {s s' : St} {u : Nat} (hv : Via s s' u) (hwk : s'.week = s.week) (hF : Frozen s) :
    Frozen s' := by
  obtain ⟨t, r, ht, hr, _, hcoll, hrew⟩ := hv
  have hFt : FrozenRel r.1.totalRewards r.2.1.collected s.week := by
    rcases ht with rfl | rfl
    · exact claimBoostedYields_frozen hr hF
    · exact claimBoostedYields_frozen (s := genSt s) hr hF
  unfold Frozen
  rw [hwk, hcoll]
  exact hFt.clear hrew

theorem step_quiet_rewards {s s' : St} {op : Op} {o : Out} (h : step s op = some (s', o))
    (hc : claimerOf s op = none) :
    ∀ w, (s.week ≤ w + 4 → s'.w.totalRewards w = s.w.totalRewards w) ∧
      (s'.w.totalRewards w = s.w.totalRewards w ∨ s'.w.totalRewards w = []) := by
  cases step_kind h with
  | claim hu => cases hc.symm.trans hu
  | energy _ hg e =>
    rw [show s'.w = _ from congrArg (·.w) e]
    exact updateEnergyAndProgress_rewards_frame hg
  | same _ e | settle _ e | factors _ _ e | sweep _ _ e | tick _ _ e =>
    rw [show s'.w = s.w from congrArg (·.w) e]
    exact fun _ => ⟨fun _ => rfl, Or.inl rfl⟩

theorem step_frozen {s s' : St} {op : Op} {o : Out} (hF : Frozen s) (h : step s op = some (s', o)) :
    Frozen s' := by
  cases step_fx h with
  | claim u hc hfx => exact (step_via h hc).frozen (week_eq hfx.fw hfx.ep) hF
  | collect _ hfx =>
    obtain ⟨o', hs⟩ := hfx.spec
    have hcoll : s'.b.collected = s.b.collected := by
      obtain ⟨_, ⟨_, rfl⟩ | ⟨_, _, _, _, _, hc, _⟩⟩ := collectUndistributed_spec hs
      · rfl
      · exact hc
    unfold Frozen
    rw [hfx.w, hcoll, week_eq hfx.fw hfx.ep]
    exact hF
  | quiet hc hfx =>
    have h1 : FrozenRel s'.w.totalRewards s.b.collected s.week := hF.clear (step_quiet_rewards h hc)
    unfold Frozen
    rw [hfx.coll]
    exact h1.mono (week_mono hfx.fw hfx.ep)

theorem next_frozen {s : St} (hF : Frozen s) (op : Op) : Frozen (next s op) :=
  next_ind op hF (step_frozen hF)

theorem run_frozen (ops : List Op) {s : St} (h : Frozen s) : Frozen (run s ops) :=
  run_induction step_frozen ops h

theorem Frozen.rOf_eq {s : St} (hF : Frozen s) {w : Nat} (h : rOf (s.w.totalRewards w) ≠ 0) :
    rOf (s.w.totalRewards w) = s.b.collected w := by
  rcases hF w with ⟨e, _⟩ | e
  · rw [e] at h; exact absurd rfl h
  · rw [e]; rfl

/-- `stepLog_amount` with the frozen pool `R` = the ghost `collected w` of the state after `op` -/
theorem stepLog_amount_collected {s : St} (hF : Frozen s) {op : Op} {e : Entry}
    (h : e ∈ stepLog s op) :
    ∃ fa, facOf s.b.cfg s.week e.week = some fa ∧
      e.amount = boostedAmount fa ((next s op).b.collected e.week) (s.userTotal e.user)
        (s.b.farmSupply e.week) (eForP s.w.progress e.user e.week) (s.w.totalEnergy e.week) ∧
      s.w.totalEnergy e.week ≠ 0 ∧ s.b.farmSupply e.week ≠ 0 ∧
      fa.minE ≤ eForP s.w.progress e.user e.week ∧ fa.minF ≤ s.userTotal e.user ∧
      (next s op).b.collected e.week ≠ 0 := by
  obtain ⟨fa, h1, h2, h3, h4, h5, h6, h7⟩ := stepLog_amount h
  have hR := (next_frozen hF op).rOf_eq h7
  rw [hR] at h2 h7
  exact ⟨fa, h1, h2, h3, h4, h5, h6, h7⟩

end Mx.Staking
