/-
  The router's registry `Reg` (`pair_map`: ordered token pair ↦ pair address): `lookup` / `erase` /
  `getPair`, uniqueness per UNORDERED token pair (`Uniq`) and per address (`AddrUniq`), and
  `check_is_pair_sc`.
-/
import MxModel.Core.Router

namespace Mx.Router

@[simp] theorem upd_same {β : Type} (f : Nat → β) (k : Nat) (v : β) : upd f k v k = v := by
  simp [upd]

theorem upd_other {β : Type} (f : Nat → β) {k x : Nat} (v : β) (h : x ≠ k) : upd f k v x = f x := by
  simp [upd, h]

theorem upd_apply {β : Type} (f : Nat → β) (k x : Nat) (v : β) :
    upd f k v x = if x = k then v else f x := rfl

theorem lookup_some_mem {m : Reg} {k : Tok × Tok} {a : Addr} (h : lookup m k = some a) :
    (k, a) ∈ m := by
  induction m with
  | nil => simp [lookup] at h
  | cons e m ih =>
    obtain ⟨k', a'⟩ := e
    simp only [lookup] at h
    split at h
    · rename_i hk
      simp only [Option.some.injEq] at h
      subst hk; subst h
      exact List.mem_cons_self
    · exact List.mem_cons_of_mem _ (ih h)

theorem lookup_none_iff {m : Reg} {k : Tok × Tok} : lookup m k = none ↔ ∀ e ∈ m, e.1 ≠ k := by
  induction m with
  | nil => simp [lookup]
  | cons e m ih =>
    obtain ⟨k', a'⟩ := e
    simp only [lookup]
    split
    · rename_i hk
      simp [hk]
    · rename_i hk
      simp [ih, hk]

theorem lookup_append (m : Reg) (k k' : Tok × Tok) (a : Addr) :
    lookup (m ++ [(k', a)]) k =
      match lookup m k with
      | some x => some x
      | none => if k' = k then some a else none := by
  induction m with
  | nil => simp [lookup]
  | cons e m ih =>
    obtain ⟨k2, a2⟩ := e
    simp only [List.cons_append, lookup]
    split
    · rfl
    · exact ih

theorem mem_erase {m : Reg} {k : Tok × Tok} {e : (Tok × Tok) × Addr} :
    e ∈ erase m k ↔ e ∈ m ∧ e.1 ≠ k := by
  induction m with
  | nil => simp [erase]
  | cons f m ih =>
    obtain ⟨k', a'⟩ := f
    simp only [erase]
    split
    · rename_i hk
      subst hk
      rw [ih]
      constructor
      · rintro ⟨h1, h2⟩; exact ⟨List.mem_cons_of_mem _ h1, h2⟩
      · rintro ⟨h1, h2⟩
        rcases List.mem_cons.mp h1 with h | h
        · subst h; exact absurd rfl h2
        · exact ⟨h, h2⟩
    · rename_i hk
      simp only [List.mem_cons, ih]
      constructor
      · rintro (h | ⟨h1, h2⟩)
        · subst h; exact ⟨Or.inl rfl, hk⟩
        · exact ⟨Or.inr h1, h2⟩
      · rintro ⟨h | h, h2⟩
        · exact Or.inl h
        · exact Or.inr ⟨h, h2⟩

theorem erase_sublist (m : Reg) (k : Tok × Tok) : (erase m k).Sublist m := by
  induction m with
  | nil => simp [erase]
  | cons f m ih =>
    obtain ⟨k', a'⟩ := f
    simp only [erase]
    split
    · exact List.Sublist.cons _ ih
    · exact List.Sublist.cons_cons _ ih

theorem lookup_erase_self (m : Reg) (k : Tok × Tok) : lookup (erase m k) k = none := by
  rw [lookup_none_iff]
  intro e he
  exact (mem_erase.mp he).2

theorem lookup_erase_other (m : Reg) {k k' : Tok × Tok} (h : k' ≠ k) :
    lookup (erase m k) k' = lookup m k' := by
  induction m with
  | nil => simp [erase]
  | cons f m ih =>
    obtain ⟨k2, a2⟩ := f
    simp only [erase]
    split
    · rename_i hk
      subst hk
      simp only [lookup]
      rw [if_neg (Ne.symm h)]
      exact ih
    · simp only [lookup]
      split
      · rfl
      · exact ih

/-- two registry keys name the same unordered token pair -/
def sameUnordered (k k' : Tok × Tok) : Prop := k = k' ∨ k = (k'.2, k'.1)

instance (k k' : Tok × Tok) : Decidable (sameUnordered k k') := by
  unfold sameUnordered; exact inferInstance

theorem sameUnordered_symm {k k' : Tok × Tok} (h : sameUnordered k k') : sameUnordered k' k := by
  obtain ⟨a, b⟩ := k
  obtain ⟨c, d⟩ := k'
  rcases h with h | h
  · exact Or.inl h.symm
  · simp only [Prod.mk.injEq] at h
    exact Or.inr (by simp [h.1, h.2])

/-- at most one registry entry per unordered token pair -/
def Uniq (m : Reg) : Prop := m.Pairwise (fun e f => ¬ sameUnordered e.1 f.1)

/-- no two registry entries share an address -/
def AddrUniq (m : Reg) : Prop := m.Pairwise (fun e f => e.2 ≠ f.2)

theorem pairwise_mem_mem {α : Type} {R : α → α → Prop} {l : List α} (h : l.Pairwise R)
    (hs : ∀ a b, R a b → R b a) {e f : α} (he : e ∈ l) (hf : f ∈ l) (hne : e ≠ f) : R e f := by
  induction l with
  | nil => cases he
  | cons x l ih =>
    rw [List.pairwise_cons] at h
    rcases List.mem_cons.mp he with he1 | he1
    · rcases List.mem_cons.mp hf with hf1 | hf1
      · exact absurd (he1.trans hf1.symm) hne
      · rw [he1]; exact h.1 _ hf1
    · rcases List.mem_cons.mp hf with hf1 | hf1
      · rw [hf1]; exact hs _ _ (h.1 _ he1)
      · exact ih h.2 he1 hf1

theorem Uniq.eq_of_same {m : Reg} (h : Uniq m) {e f : (Tok × Tok) × Addr} (he : e ∈ m)
    (hf : f ∈ m) (hs : sameUnordered e.1 f.1) : e = f := by
  by_cases hne : e = f
  · exact hne
  · exact absurd hs (pairwise_mem_mem h (fun a b hab hba => hab (sameUnordered_symm hba)) he hf hne)

theorem Uniq.lookup_iff {m : Reg} (h : Uniq m) {k : Tok × Tok} {a : Addr} :
    lookup m k = some a ↔ (k, a) ∈ m := by
  constructor
  · exact lookup_some_mem
  · intro hm
    cases hl : lookup m k with
    | none => exact absurd rfl (lookup_none_iff.mp hl _ hm)
    | some x =>
      have := h.eq_of_same (lookup_some_mem hl) hm (Or.inl rfl)
      simp only [Prod.mk.injEq, true_and] at this
      rw [this]

theorem Uniq.sublist {m m' : Reg} (h : Uniq m) (hs : m'.Sublist m) : Uniq m' :=
  List.Pairwise.sublist hs h

theorem AddrUniq.sublist {m m' : Reg} (h : AddrUniq m) (hs : m'.Sublist m) : AddrUniq m' :=
  List.Pairwise.sublist hs h

def NonZero (m : Reg) : Prop := ∀ e ∈ m, e.2 ≠ 0

theorem getPair_eq_zero_iff {m : Reg} (hz : NonZero m) {a b : Tok} :
    getPair m a b = 0 ↔ lookup m (a, b) = none ∧ lookup m (b, a) = none := by
  unfold getPair
  cases h1 : lookup m (a, b) with
  | some x =>
    have hx : x ≠ 0 := hz _ (lookup_some_mem h1)
    simp [hx]
  | none =>
    cases h2 : lookup m (b, a) with
    | some y =>
      have hy : y ≠ 0 := hz _ (lookup_some_mem h2)
      simp [hy]
    | none => simp

theorem getPair_comm {m : Reg} (hu : Uniq m) (hz : NonZero m) (a b : Tok) :
    getPair m a b = getPair m b a := by
  unfold getPair
  cases h1 : lookup m (a, b) with
  | none =>
    cases h2 : lookup m (b, a) with
    | none => simp
    | some y =>
      have hy : y ≠ 0 := hz _ (lookup_some_mem h2)
      simp [hy]
  | some x =>
    have hx : x ≠ 0 := hz _ (lookup_some_mem h1)
    cases h2 : lookup m (b, a) with
    | none => simp [hx]
    | some y =>
      have hy : y ≠ 0 := hz _ (lookup_some_mem h2)
      have := hu.eq_of_same (lookup_some_mem h1) (lookup_some_mem h2) (Or.inr rfl)
      simp only [Prod.mk.injEq] at this
      simp [hy, this.2]

theorem getPair_eq_of_mem {m : Reg} (hu : Uniq m) (hz : NonZero m) {k : Tok × Tok} {x : Addr}
    (hm : (k, x) ∈ m) : getPair m k.1 k.2 = x := by
  have h1 : lookup m (k.1, k.2) = some x := hu.lookup_iff.mpr hm
  have hx : x ≠ 0 := hz _ hm
  unfold getPair
  simp [h1, hx]

/-- the token ids an address reports (none for an account that is not a pair contract) -/
def tokOf (w : Pairs) (a : Addr) : Option (Tok × Tok) := (w a).map fun p => (p.t1, p.t2)

theorem checkIsPairSc_iff {m : Reg} {w : Pairs} {a : Addr} :
    checkIsPairSc m w a = some () ↔
      ∃ k, tokOf w a = some k ∧
        (lookup m k = some a ∨ (lookup m k = none ∧ lookup m (k.2, k.1) = some a)) := by
  unfold checkIsPairSc tokOf
  cases hw : w a with
  | none => simp
  | some p =>
    simp only [Option.bind_eq_bind, Option.bind_some, Option.map_some, Option.some.injEq,
      exists_eq_left']
    cases h1 : lookup m (p.t1, p.t2) with
    | some x =>
      simp only [Option.bind_some, req_eq_some]
      constructor
      · intro h; exact Or.inl (by rw [h])
      · rintro (h | ⟨h, _⟩)
        · exact Option.some.inj h
        · cases h
    | none =>
      cases h2 : lookup m (p.t2, p.t1) with
      | some y =>
        simp only [Option.bind_some, req_eq_some]
        constructor
        · intro h; exact Or.inr ⟨trivial, by rw [h]⟩
        · rintro (h | ⟨_, h⟩)
          · cases h
          · exact Option.some.inj h
      | none => simp

theorem checkIsPairSc_congr {m : Reg} {w w' : Pairs} {a : Addr} (h : tokOf w' a = tokOf w a) :
    checkIsPairSc m w' a = checkIsPairSc m w a := by
  have key : ∀ (w1 w2 : Pairs), tokOf w1 a = tokOf w2 a →
      checkIsPairSc m w1 a = some () → checkIsPairSc m w2 a = some () := by
    intro w1 w2 h12 hc
    rw [checkIsPairSc_iff] at hc ⊢
    rw [← h12]; exact hc
  cases h1 : checkIsPairSc m w' a with
  | some u =>
    cases u
    exact (key w' w h h1).symm
  | none =>
    cases h2 : checkIsPairSc m w a with
    | none => rfl
    | some u =>
      cases u
      rw [key w w' h.symm h2] at h1
      cases h1

end Mx.Router
