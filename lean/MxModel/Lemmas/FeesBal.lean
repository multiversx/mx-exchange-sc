/-
  Fees collector: (1) a claim moves the paid-ledger only inside its four-week window and puts
  the claimer's progress at the current week (`claimCore_once`); (2) conservation of every
  non-locked token, `BalInv`: balance + everything paid = everything deposited, established by
  `init` and kept by every successful operation (`step_BalInv`; the induction over histories is in
  Lemmas/FeesLedger.lean); (3) with the paid ledger inside the frozen totals, conservation gives
  solvency (`unclaimed_le_bal`).
-/
import MxModel.Lemmas.FeesSpec

namespace Mx.Fees

open Mx.Weekly

theorem claimCore_once {s s' : St} {orig W : Nat} {o : Out} (hW : s.week = some W)
    (h : claimCore s orig = some (s', o)) :
    (s'.w.progress orig = none ∨ ∃ e, s'.w.progress orig = some ⟨e, W⟩) ∧
    (∀ u, u ≠ orig → s'.w.progress u = s.w.progress u) ∧
    (∀ w t, s'.a.paid w t ≠ s.a.paid w t →
      W ≤ w + 4 ∧ w < W ∧ ∃ p, s.w.progress orig = some p ∧ p.week ≤ w) := by
  obtain ⟨rfl, _⟩ := week_some hW
  obtain ⟨g1, g2, r, k⟩ := claimCore_spec h
  obtain ⟨hp1, hp2⟩ := k.userStep.progress
  refine ⟨?_, hp2, fun w t hne => ?_⟩
  · rw [hp1]; unfold newOf; split
    · exact Or.inr ⟨_, rfl⟩
    · exact Or.inl rfl
  · -- a week whose ledger moved is one of those the hook was called for
    by_cases hin : claimFrom (s.w.progress orig) (curWeek s) ≤ w ∧ w < curWeek s
    · obtain ⟨p, hp, h1, h2, h3⟩ := mem_window.mp hin
      exact ⟨h3, h2, p, hp, h1⟩
    · have e := (k.run.perWeek weekCells feesRewards_local).1 w (by omega)
      exact absurd ((congrFun (congrArg (·.2.2.2) e) t).trans
        (congrFun (congrFun (accumulateAdditional_paid s _) w) t)) hne

/-- everything paid so far in token `t`, weeks `< K` -/
def paidAll (s : St) (t : Tok) (K : Nat) : Nat := usum (List.range K) (fun w => s.a.paid w t)

/-- everything deposited so far in token `t` (still accumulating or already frozen), weeks `< K` -/
def owedAll (s : St) (t : Tok) (K : Nat) : Nat :=
  usum (List.range K) (fun w => s.a.accumulated w t + s.a.collected w t)

structure BalInv (s : St) : Prop where
  time : s.firstWeek ≤ s.epoch
  bal : ∀ t, t ≠ lockedTok → ∀ K, curWeek s < K → s.bal t + paidAll s t K = owedAll s t K

theorem usum_range_point {K w0 : Nat} (hw : w0 < K) {f g : Nat → Nat} {d : Nat}
    (h0 : g w0 = f w0 + d) (h : ∀ w, w ≠ w0 → g w = f w) :
    usum (List.range K) g = usum (List.range K) f + d := by
  have := usum_update (List.nodup_range (n := K)) (List.mem_range.mpr hw) (f := f) (g := g)
    (fun w _ hne => h w hne)
  omega

theorem init_BalInv (epoch lockEpochs : Nat) (known : List Tok) (contracts whitelist : List Nat) :
    BalInv (init epoch lockEpochs known contracts whitelist) := by
  refine ⟨Nat.le_refl _, ?_⟩
  intro t _ K _
  have h1 : paidAll (init epoch lockEpochs known contracts whitelist) t K = 0 :=
    usum_zero (fun _ _ => rfl)
  have h2 : owedAll (init epoch lockEpochs known contracts whitelist) t K = 0 :=
    usum_zero (fun _ _ => rfl)
  rw [h1, h2]
  rfl

/-- `run_` in `run_owed`, `run_bal` and `run_LoopInv` (Lemmas/FeesLedger.lean) is the `HookRun` of
    ONE claim, the reward hook called week by week; only `run_AllInv` is about a history `run`. -/
theorem run_owed {e E : Nat → Nat} {hi lo : Nat} {g g' : Weekly.St} {a a' : Acc} {r : List (Tok × Nat)}
    (h : HookRun feesRewards e E hi lo g a g' a' r) (w : Nat) (t : Tok) :
    a'.accumulated w t + a'.collected w t = a.accumulated w t + a.collected w t :=
  h.pres (fun _ x => x.accumulated w t + x.collected w t = a.accumulated w t + a.collected w t)
    (fun _ _ _ _ _ _ _ _ hr hp => (feesRewards_owed hr w t).trans hp) rfl

theorem run_bal {e E : Nat → Nat} {hi lo : Nat} {g g' : Weekly.St} {a a' : Acc} {r : List (Tok × Nat)}
    (h : HookRun feesRewards e E hi lo g a g' a' r) {K : Nat} (hK : hi ≤ K) (t : Tok) :
    usum (List.range K) (fun w => a'.paid w t) =
      usum (List.range K) (fun w => a.paid w t) + amountOf t r := by
  induction h with
  | done => rfl
  | @week lo _ _ _ _ _ _ _ _ hlo call _ ih =>
    rw [ih, amountOf_append, ← Nat.add_assoc]
    congr 1
    exact usum_range_point (w0 := lo) (by omega) (by rw [feesRewards_paid call, if_pos rfl])
      (fun w hne => by rw [feesRewards_paid call, if_neg hne]; rfl)

theorem accumulateAdditional_accumulated (s : St) (W : Nat) {t : Tok} (ht : t ≠ lockedTok) (w : Nat) :
    (accumulateAdditional s W).a.accumulated w t = s.a.accumulated w t := by
  unfold accumulateAdditional
  split
  · rfl
  · exact if_neg fun h => ht h.2

theorem accumulateAdditional_BalInv {s : St} (W : Nat) (hI : BalInv s) :
    BalInv (accumulateAdditional s W) := by
  have hacc := fun t (ht : t ≠ lockedTok) w => accumulateAdditional_accumulated s W ht w
  obtain ⟨acc, l, e⟩ := accumulateAdditional_frame s W
  rw [e] at hacc ⊢
  dsimp only at hacc
  refine ⟨hI.time, fun t ht K hK => ?_⟩
  have := hI.bal t ht K hK
  unfold paidAll owedAll at this ⊢
  simp only [hacc t ht]
  exact this

theorem claimCore_BalInv {s s' : St} {orig : Nat} {o : Out} (hI : BalInv s)
    (h : claimCore s orig = some (s', o)) : BalInv s' := by
  obtain ⟨g1, g2, r, k⟩ := claimCore_spec h
  refine ⟨by rw [k.firstWeek, k.epoch]; exact hI.time, fun t ht K hK => ?_⟩
  rw [k.curWeek] at hK
  have hI1 := accumulateAdditional_BalInv (curWeek s) hI
  have hrun := k.run
  obtain ⟨acc, l, e⟩ := accumulateAdditional_frame s (curWeek s)
  rw [e] at hI1 hrun
  have hI0 := hI1.bal t ht K hK
  have l1 := run_bal hrun (Nat.le_of_lt hK) t
  have l2 : usum (List.range K) (fun w => s'.a.accumulated w t + s'.a.collected w t) = _ :=
    usum_congr (fun w _ => run_owed hrun w t)
  have hb := k.bal t ht
  unfold paidAll owedAll at *
  dsimp only at hI0 l1 l2
  omega

theorem BalInv.quiet {s s' : St} (hI : BalInv s) (q : Quiet s s') : BalInv s' := by
  refine ⟨by rw [q.firstWeek]; exact Nat.le_trans hI.time q.epoch, fun t ht K hK => ?_⟩
  have := hI.bal t ht K (Nat.lt_of_le_of_lt (curWeek_mono q.firstWeek q.epoch) hK)
  unfold paidAll owedAll at this ⊢
  rw [q.bal, q.paid, q.accumulated, q.collected]
  exact this

theorem step_BalInv {s s' : St} {op : Op} (hI : BalInv s) (h : Step s op s') : BalInv s' := by
  cases h with
  | @deposit c tok n amt hn =>
    refine ⟨hI.time, fun t ht K hK => ?_⟩
    have h0 := hI.bal t ht K hK
    unfold paidAll owedAll at h0 ⊢
    dsimp only
    by_cases htt : tok = t
    · subst htt
      -- a deposit of a non-locked token carries no nonce, so it reaches the balance
      have hn0 : n = 0 := Nat.eq_zero_of_not_pos fun hpos => ht (hn hpos)
      have e := usum_range_point (K := K) (w0 := curWeek s) hK
        (f := fun w => s.a.accumulated w tok + s.a.collected w tok)
        (g := fun w => upd2 s.a.accumulated (curWeek s) tok
          (s.a.accumulated (curWeek s) tok + amt) w tok + s.a.collected w tok) (d := amt)
        (by simp only [upd2, and_self, if_true]; omega)
        (fun w hne => by simp only [upd2, hne, false_and, if_false])
      rw [e]
      simp only [hn0, if_true, upd_same]
      omega
    · have hb : (if n = 0 then upd s.bal tok (s.bal tok + amt) else s.bal) t = s.bal t := by
        split
        · exact upd_other _ _ (fun h => htt h.symm)
        · rfl
      have hacc : ∀ w, upd2 s.a.accumulated (curWeek s) tok
          (s.a.accumulated (curWeek s) tok + amt) w t = s.a.accumulated w t :=
        fun w => if_neg fun h => htt h.2.symm
      simp only [hb, hacc]
      exact h0
  | claim _ hc => exact claimCore_BalInv hI hc
  | updateEnergy _ => exact ⟨hI.time, hI.bal⟩
  | setPerBlock =>
    have := accumulateAdditional_BalInv (curWeek s) hI
    exact ⟨this.time, this.bal⟩
  | quiet _ q => exact hI.quiet q

theorem unclaimed_le_bal (s : St) (t : Tok) (K : Nat) (hle : ∀ w, s.a.paid w t ≤ s.a.collected w t)
    (h : s.bal t + paidAll s t K = owedAll s t K) :
    usum (List.range K) (fun w => s.a.accumulated w t + (s.a.collected w t - s.a.paid w t)) ≤ s.bal t := by
  have : usum (List.range K) (fun w => s.a.accumulated w t + (s.a.collected w t - s.a.paid w t)) +
      paidAll s t K = owedAll s t K := by
    unfold paidAll owedAll
    rw [← usum_add]
    exact usum_congr (fun w _ => by have := hle w; omega)
  omega

end Mx.Fees
