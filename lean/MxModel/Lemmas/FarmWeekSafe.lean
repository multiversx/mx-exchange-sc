/-
  The per-week subtraction `remainingBoostedRewardsToDistribute(week) −= user_reward` of
  `FarmBoostedYieldsWrapper::get_user_rewards_for_week` (`boostedRewards` in Core/Farm.lean): the
  hypothesis under which it is safe is `WeekBudget` — "what was paid for the week plus the shares of
  everybody who can still claim it fits into the week's pool", all of it cross-multiplied by
  `(cE+cF)·E·F` so that no division is left (`boostedAmount_cross`).  At freeze time it follows from
  `Σ e ≤ E` and `Σ f ≤ F`, and it is inductive under a payment.  `boostedRewards_none_iff` lists
  every way one week's reward computation can abort the transaction; the subtraction is the only
  arithmetic one.

  `Σ f ≤ F`: the user's CURRENT total position is used against the PAST week's supply.  It is an
  invariant of every reachable state (Lemmas/FarmWeekPos.lean, Props/C05Budget.lean) because
  `claim_boosted_yields_rewards` advances the user's claim progress on every path, also when no
  boosted config exists: a position never reaches a user whose progress is behind (finding F6 is
  the contract without that `None`-branch update, where `Σ f ≤ F` fails).
-/
import MxModel.Core.Farm
import MxModel.Lemmas.WeeklySum
import Mathlib.Tactic.Linarith

namespace Mx.Farm

theorem boostedAmount_le (fa : Factors) (R f F e E : Nat) (hf : f ≤ F) (he : e ≤ E) :
    boostedAmount fa R f F e E ≤ R := by
  unfold boostedAmount
  refine Nat.le_trans (Nat.min_le_right _ _) ?_
  have h1 : R * fa.cE * e / E ≤ R * fa.cE := Weekly.share_le _ _ _ he
  have h2 : R * fa.cF * f / F ≤ R * fa.cF := Weekly.share_le _ _ _ hf
  apply Nat.div_le_of_le_mul
  have : R * fa.cE + R * fa.cF = (fa.cE + fa.cF) * R := by
    rw [Nat.add_mul, Nat.mul_comm fa.cE, Nat.mul_comm fa.cF]
  omega

theorem boostedAmount_cross (fa : Factors) (R f F e E : Nat) :
    boostedAmount fa R f F e E * ((fa.cE + fa.cF) * E * F) ≤ R * (fa.cE * F * e + fa.cF * E * f) := by
  unfold boostedAmount
  generalize hx : R * fa.cE * e / E = x
  generalize hy : R * fa.cF * f / F = y
  have h1 : x * E ≤ R * fa.cE * e := by rw [← hx]; exact Nat.div_mul_le_self _ _
  have h2 : y * F ≤ R * fa.cF * f := by rw [← hy]; exact Nat.div_mul_le_self _ _
  have h3 : (x + y) / (fa.cE + fa.cF) * (fa.cE + fa.cF) ≤ x + y := Nat.div_mul_le_self _ _
  generalize (x + y) / (fa.cE + fa.cF) = z at *
  have h4 : min (fa.maxF * R * f / F) z ≤ z := Nat.min_le_right _ _
  generalize min (fa.maxF * R * f / F) z = u at *
  have h5 : u * ((fa.cE + fa.cF) * E * F) ≤ z * (fa.cE + fa.cF) * (E * F) := by
    have : u * ((fa.cE + fa.cF) * E * F) = u * (fa.cE + fa.cF) * (E * F) := by ring
    rw [this]
    exact Nat.mul_le_mul_right _ (Nat.mul_le_mul_right _ h4)
  have h6 : z * (fa.cE + fa.cF) * (E * F) ≤ (x + y) * (E * F) := Nat.mul_le_mul_right _ h3
  have h7 : (x + y) * (E * F) = x * E * F + y * F * E := by ring
  have h8 : x * E * F ≤ R * fa.cE * e * F := Nat.mul_le_mul_right _ h1
  have h9 : y * F * E ≤ R * fa.cF * f * E := Nat.mul_le_mul_right _ h2
  have h10 : R * (fa.cE * F * e + fa.cF * E * f) = R * fa.cE * e * F + R * fa.cF * f * E := by ring
  omega

/-- for a week with factors `fa`, frozen pool `R`, recorded farm supply `F` and
    total energy `E`: what has been `paid` out of the pool so far, plus the (un-floored) shares
    `R·(cE·e/E + cF·f/F)/(cE+cF)` of everybody who can still claim the week — `sumE`, `sumF` are the
    sums of their energies (decayed to the week) and of their total farm positions — fits into `R`.
    Cross-multiplied by `(cE+cF)·E·F`. -/
def WeekBudget (fa : Factors) (R F E paid sumE sumF : Nat) : Prop :=
  paid * ((fa.cE + fa.cF) * E * F) + R * (fa.cE * F * sumE + fa.cF * E * sumF)
    ≤ R * ((fa.cE + fa.cF) * E * F)

theorem WeekBudget.init (fa : Factors) (R F E sumE sumF : Nat) (hE : sumE ≤ E) (hF : sumF ≤ F) :
    WeekBudget fa R F E 0 sumE sumF := by
  unfold WeekBudget
  rw [Nat.zero_mul, Nat.zero_add]
  apply Nat.mul_le_mul_left
  have h1 : fa.cE * F * sumE ≤ fa.cE * F * E := Nat.mul_le_mul_left _ hE
  have h2 : fa.cF * E * sumF ≤ fa.cF * E * F := Nat.mul_le_mul_left _ hF
  have h3 : (fa.cE + fa.cF) * E * F = fa.cE * F * E + fa.cF * E * F := by ring
  omega

/-- for the steps at which claimers drop out (their progress moves past the week) or shrink (exit) -/
theorem WeekBudget.mono {fa : Factors} {R F E paid sumE sumF sumE' sumF' : Nat}
    (h : WeekBudget fa R F E paid sumE sumF) (hE : sumE' ≤ sumE) (hF : sumF' ≤ sumF) :
    WeekBudget fa R F E paid sumE' sumF' := by
  unfold WeekBudget at h ⊢
  have h1 : fa.cE * F * sumE' ≤ fa.cE * F * sumE := Nat.mul_le_mul_left _ hE
  have h2 : fa.cF * E * sumF' ≤ fa.cF * E * sumF := Nat.mul_le_mul_left _ hF
  have h3 : R * (fa.cE * F * sumE' + fa.cF * E * sumF') ≤ R * (fa.cE * F * sumE + fa.cF * E * sumF) :=
    Nat.mul_le_mul_left _ (by omega)
  omega

/-- a claimer with energy `e` and position `f` (one of those counted in `sumE`, `sumF`) is paid
    `u = boostedAmount …`: the budget holds again with `u` booked as paid and the claimer removed -/
theorem WeekBudget.pay {fa : Factors} {R F E paid sumE sumF e f : Nat}
    (h : WeekBudget fa R F E paid sumE sumF) (he : e ≤ sumE) (hf : f ≤ sumF) :
    WeekBudget fa R F E (paid + boostedAmount fa R f F e E) (sumE - e) (sumF - f) := by
  unfold WeekBudget at h ⊢
  have hc := boostedAmount_cross fa R f F e E
  generalize boostedAmount fa R f F e E = u at *
  generalize hK : (fa.cE + fa.cF) * E * F = K at *
  have h1 : fa.cE * F * sumE = fa.cE * F * (sumE - e) + fa.cE * F * e := by
    rw [← Nat.mul_add, Nat.sub_add_cancel he]
  have h2 : fa.cF * E * sumF = fa.cF * E * (sumF - f) + fa.cF * E * f := by
    rw [← Nat.mul_add, Nat.sub_add_cancel hf]
  rw [h1, h2] at h
  rw [Nat.add_mul]
  have h3 : R * (fa.cE * F * (sumE - e) + fa.cE * F * e + (fa.cF * E * (sumF - f) + fa.cF * E * f)) =
      R * (fa.cE * F * (sumE - e) + fa.cF * E * (sumF - f)) + R * (fa.cE * F * e + fa.cF * E * f) := by
    ring
  omega

/-- under the week budget the subtraction is safe: with `remaining = R − paid` (frozen-pool accounting, `hrem`) a
    claimer counted in the budget never asks for more than `remaining` -/
theorem WeekBudget.sub_ok {fa : Factors} {R F E paid sumE sumF e f remaining : Nat}
    (h : WeekBudget fa R F E paid sumE sumF) (he : e ≤ sumE) (hf : f ≤ sumF)
    (hc : fa.cE + fa.cF ≠ 0) (hE : E ≠ 0) (hF : F ≠ 0) (hrem : remaining + paid = R) :
    boostedAmount fa R f F e E ≤ remaining := by
  have h1 := h.pay he hf
  unfold WeekBudget at h1
  generalize boostedAmount fa R f F e E = u at *
  have hK : 0 < (fa.cE + fa.cF) * E * F :=
    Nat.mul_pos (Nat.mul_pos (Nat.pos_of_ne_zero hc) (Nat.pos_of_ne_zero hE)) (Nat.pos_of_ne_zero hF)
  have h2 : (paid + u) * ((fa.cE + fa.cF) * E * F) ≤ R * ((fa.cE + fa.cF) * E * F) :=
    Nat.le_trans (Nat.le_add_right _ _) h1
  have h3 := Nat.le_of_mul_le_mul_right h2 hK
  omega

/-- `get_user_rewards_for_week` aborts the transaction iff the week is live (`E ≠ 0`, `F ≠ 0`) and
    either the factors of the week are out of the ring's reach, or the user passes the minima and
    the frozen list is malformed (never, see `collectAndGet_boosted`), or the pool is non-empty and
    `cE + cF = 0`, or — the only arithmetic cause — the computed reward exceeds `remaining`. -/
theorem boostedRewards_none_iff (mem : BCfg) (f : Nat) (g : Weekly.St) (c : BSt) (week e E : Nat) :
    boostedRewards mem f g c week e E = none ↔
      (E ≠ 0 ∧ c.farmSupplyWeek week ≠ 0 ∧
        (mem.factorsForWeek week = none ∨
         ∃ fa, mem.factorsForWeek week = some fa ∧ fa.minE ≤ e ∧ fa.minF ≤ f ∧
           let r := Weekly.collectAndGet (collectBoosted mem) g c week
           ((∃ p q l, r.2.2 = p :: q :: l) ∨
            ∃ tok R, r.2.2 = [(tok, R)] ∧ R ≠ 0 ∧
              (fa.cE + fa.cF = 0 ∨
               (boostedAmount fa R f (c.farmSupplyWeek week) e E ≠ 0 ∧
                r.2.1.remaining week < boostedAmount fa R f (c.farmSupplyWeek week) e E))))) := by
  unfold boostedRewards
  simp only
  by_cases h0 : E = 0 ∨ c.farmSupplyWeek week = 0
  · rw [if_pos h0]
    constructor
    · intro h; cases h
    · rintro ⟨h1, h2, _⟩
      rcases h0 with h0 | h0
      · exact absurd h0 h1
      · exact absurd h0 h2
  · rw [if_neg h0]
    have hE : E ≠ 0 := fun h => h0 (Or.inl h)
    have hF : c.farmSupplyWeek week ≠ 0 := fun h => h0 (Or.inr h)
    cases hfa : mem.factorsForWeek week with
    | none =>
      simp only [Option.bind_eq_bind, Option.bind_none, true_iff]
      exact ⟨hE, hF, Or.inl trivial⟩
    | some fa =>
      simp only [Option.bind_eq_bind, Option.bind_some]
      by_cases h1 : e < fa.minE ∨ f < fa.minF
      · rw [if_pos h1]
        constructor
        · intro h; cases h
        · rintro ⟨_, _, h | ⟨fa', hfa', hme, hmf, _⟩⟩
          · cases h
          · simp only [Option.some.injEq] at hfa'
            subst hfa'
            omega
      · rw [if_neg h1]
        have hme : fa.minE ≤ e := Nat.le_of_not_lt fun h => h1 (Or.inl h)
        have hmf : fa.minF ≤ f := Nat.le_of_not_lt fun h => h1 (Or.inr h)
        generalize Weekly.collectAndGet (collectBoosted mem) g c week = r
        obtain ⟨g1, c1, l⟩ := r
        simp only
        have key : ∀ (P : Prop),
            (P ↔ ((∃ p q l', l = p :: q :: l') ∨
              ∃ tok R, l = [(tok, R)] ∧ R ≠ 0 ∧
                (fa.cE + fa.cF = 0 ∨
                 (boostedAmount fa R f (c.farmSupplyWeek week) e E ≠ 0 ∧
                  c1.remaining week < boostedAmount fa R f (c.farmSupplyWeek week) e E)))) →
            (P ↔ (E ≠ 0 ∧ c.farmSupplyWeek week ≠ 0 ∧
              (some fa = none ∨ ∃ fa', some fa = some fa' ∧ fa'.minE ≤ e ∧ fa'.minF ≤ f ∧
                ((∃ p q l', l = p :: q :: l') ∨
                 ∃ tok R, l = [(tok, R)] ∧ R ≠ 0 ∧
                   (fa'.cE + fa'.cF = 0 ∨
                    (boostedAmount fa' R f (c.farmSupplyWeek week) e E ≠ 0 ∧
                     c1.remaining week < boostedAmount fa' R f (c.farmSupplyWeek week) e E)))))) := by
          intro P hP
          rw [hP]
          constructor
          · intro h
            exact ⟨hE, hF, Or.inr ⟨fa, rfl, hme, hmf, h⟩⟩
          · rintro ⟨_, _, h | ⟨fa', hfa', _, _, h⟩⟩
            · cases h
            · simp only [Option.some.injEq] at hfa'
              subst hfa'
              exact h
        apply key
        match l with
        | [] =>
          simp only [Option.pure_def, reduceCtorEq, false_iff]
          rintro (⟨_, _, _, h⟩ | ⟨_, _, h, _⟩) <;> cases h
        | [(tok, R)] =>
          simp only
          by_cases hR : R = 0
          · rw [if_pos hR]
            simp only [Option.pure_def, reduceCtorEq, false_iff]
            rintro (⟨_, _, _, h⟩ | ⟨tok', R', h, hR', _⟩)
            · cases h
            · simp only [List.cons.injEq, Prod.mk.injEq, and_true] at h
              exact hR' (h.2 ▸ hR)
          · rw [if_neg hR]
            by_cases hc : fa.cE + fa.cF ≠ 0
            · have hreq : req (fa.cE + fa.cF ≠ 0) = some () := (req_eq_some ()).mpr hc
              simp only [hreq, Option.bind_some]
              by_cases hu : boostedAmount fa R f (c.farmSupplyWeek week) e E = 0
              · rw [if_pos hu]
                simp only [Option.pure_def, reduceCtorEq, false_iff]
                rintro (⟨_, _, _, h⟩ | ⟨tok', R', h, _, h2⟩)
                · cases h
                · simp only [List.cons.injEq, Prod.mk.injEq, and_true] at h
                  obtain ⟨_, rfl⟩ := h
                  rcases h2 with h2 | ⟨h2, _⟩
                  · exact hc h2
                  · exact h2 hu
              · rw [if_neg hu]
                by_cases hle : boostedAmount fa R f (c.farmSupplyWeek week) e E ≤ c1.remaining week
                · have hs : sub? (c1.remaining week) (boostedAmount fa R f (c.farmSupplyWeek week) e E) =
                      some (c1.remaining week - boostedAmount fa R f (c.farmSupplyWeek week) e E) := by
                    simp [sub?, hle]
                  simp only [hs, Option.bind_some, Option.pure_def, reduceCtorEq, false_iff]
                  rintro (⟨_, _, _, h⟩ | ⟨tok', R', h, _, h2⟩)
                  · cases h
                  · simp only [List.cons.injEq, Prod.mk.injEq, and_true] at h
                    obtain ⟨_, rfl⟩ := h
                    rcases h2 with h2 | ⟨_, h2⟩
                    · exact hc h2
                    · omega
                · have hs : sub? (c1.remaining week) (boostedAmount fa R f (c.farmSupplyWeek week) e E) =
                      none := by simp [sub?, hle]
                  simp only [hs, Option.bind_none, true_iff]
                  exact Or.inr ⟨tok, R, rfl, hR, Or.inr ⟨hu, by omega⟩⟩
            · have hc' : fa.cE + fa.cF = 0 := by omega
              have hreq : req (fa.cE + fa.cF ≠ 0) = none := req_eq_none.mpr (fun h => h hc')
              simp only [hreq, Option.bind_none, true_iff]
              exact Or.inr ⟨tok, R, rfl, hR, Or.inl hc'⟩
        | p :: q :: l' =>
          simp only [true_iff]
          exact Or.inl ⟨p, q, l', rfl⟩

end Mx.Farm
