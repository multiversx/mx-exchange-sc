/-
  LP-token backing of the proxy-dex model: the proxy's LP balance covers every wrapped LP token in
  user hands (each is a claim on as many LP tokens).  Unlike `Backed` this needs facts about the
  farms (`FarmOK`): a farm never mints fewer farm tokens than farming tokens entered, and wrapped LP
  tokens are entered into an LP farm only.  Every operation preserves it, read off the movement of
  the books.
-/
import MxModel.Lemmas.ProxyDexBooks

namespace Mx.ProxyDex

def FarmOK : Op → Prop
  | .enterW farm _ a merge ft _ m _ =>
      farmIsBase farm = false ∧
      (merge = [] → a ≤ ft.2) ∧ (∀ mf t, m = some (mf, t) → a + sumX merge ≤ mf.2)
  | .claim _ _ x ft _ => x ≤ ft.2
  | .mergeFarm _ l mf _ _ _ => sumX l ≤ mf.2
  | _ => True

structure LpInv (s : St) : Prop where
  c : C s ≤ s.lp
  fle : LeInv s

theorem lpinv_init (now : Nat) : LpInv (init now) := by
  refine ⟨by simp [C, init, WLp.dummy], ?_⟩
  intro a ha
  simp [St.af, init, attrF, WFarm.dummy] at ha
  subst ha
  exact fun h => nomatch h

/-- the LP backing is kept by a movement that takes no more LP tokens out of the proxy than wrapped
    LP tokens out of user hands, net, and creates only wrapped farm tokens with sound attributes -/
theorem LpInv.moved {s s' : St} {δ : Delta} (hi : LpInv s) (h : Moved s s' δ)
    (e : δ.cIn + δ.lpOut ≤ δ.cOut + δ.lpIn) (hk : ∀ a ∈ δ.fs, LeOK a) : LpInv s' :=
  ⟨by have := hi.c; have := h.c; have := h.lp; omega, h.attrs hi.fle hk⟩

theorem step_lpinv {s s' : St} {op : Op} {o : Out} (hi : LpInv s) (hok : FarmOK op)
    (h : step s op = some (s', o)) : LpInv s' := by
  have nil := List.forall_mem_nil LeOK
  have lockedOK : ∀ {farm fn fa pn pa : Nat}, LeOK (farm, fn, fa, .locked, pn, pa) :=
    fun h => nomatch h
  cases op with
  | lock t => cases h; exact ⟨hi.c, hi.fle⟩
  | advance e => cases h; exact ⟨hi.c, hi.fle⟩
  | noop => cases h; exact hi
  | addLiq k la oa merge lp ul uo mk =>
    obtain ⟨-, -, ⟨-, m⟩ | ⟨b, l, t, -, -, m⟩⟩ := addLiq_moved h <;>
      exact hi.moved m (by dsimp only; omega) nil
  | removeLiq w x rb ro =>
    obtain ⟨r, p, t⟩ := removeLiq_moved h
    exact hi.moved t.moved (by dsimp only; omega) nil
  | enterL farm k a merge ft rew m stray =>
    obtain ⟨-, ⟨-, m⟩ | ⟨b, l, mf, t, -, -, m, -⟩⟩ := enterL_moved h <;>
      exact hi.moved m (Nat.le_refl _) (List.forall_mem_singleton.2 lockedOK)
  | enterW farm w a merge ft rew m stray =>
    obtain ⟨hnb, hplain, hmerge⟩ := hok
    obtain ⟨-, -, ⟨hm, m⟩ | ⟨b, l, mf, t, sp, rfl, hm, m, hsp⟩⟩ := enterW_moved h
    · exact hi.moved m (by dsimp only; omega)
        (List.forall_mem_singleton.2 fun _ => ⟨hplain hm, hnb⟩)
    · have := hmerge mf t hm
      have := hsp hi.fle
      exact hi.moved m (by dsimp only; omega)
        (List.forall_mem_singleton.2 fun _ => ⟨by omega, hnb⟩)
  | exitFarm farm f x farming rew =>
    obtain ⟨r, p, t⟩ := exitFarm_moved (farm := farm) h
    have hfx := t.farming_le
    cases hk : r.kind with
    | locked => exact hi.moved (t.locked hk).moved (Nat.zero_le _) nil
    | wlp =>
      -- a wrapped-LP position sits in an LP farm: the farming tokens returned are LP tokens
      obtain ⟨hle, hnb⟩ := hi.fle.of_get t.lookup hk
      have := part_le_of_le t.part hle
      obtain ⟨rw, -, -, h0, h1⟩ := t.wlp hk
      by_cases hx : x = farming
      · obtain ⟨-, -, -, m⟩ := h0 hx
        rw [hnb] at m
        exact hi.moved m (by simp only [Bool.false_eq_true, ↓reduceIte]; omega) nil
      · obtain ⟨q, qN, u⟩ := h1 hx
        have m := u.moved
        rw [hnb] at m
        exact hi.moved m (by simp only [Bool.false_eq_true, ↓reduceIte]; omega) nil
  | claim farm f x ft rew =>
    obtain ⟨r, p, hr, hp, -, m⟩ := claim_moved (farm := farm) h
    have hok : x ≤ ft.2 := hok
    refine hi.moved m (Nat.le_refl _) (List.forall_mem_singleton.2 fun hk => ?_)
    have hw := hi.fle.of_get hr hk
    have := part_le_of_le hp hw.1
    exact ⟨by omega, hw.2⟩
  | mergeLp l t =>
    obtain ⟨-, -, m⟩ := mergeLp_moved h
    exact hi.moved m (Nat.le_refl _) nil
  | mergeFarm farm l mf t rew stray =>
    obtain ⟨f0, x0, r0, sp, -, hr0, -, hsp, -, hcase⟩ := mergeFarm_moved h
    have hok : sumX l ≤ mf.2 := hok
    rcases hcase with ⟨hk, m⟩ | ⟨hk, m⟩
    · exact hi.moved m (Nat.le_refl _) (List.forall_mem_singleton.2 lockedOK)
    · have := hsp hi.fle hk
      exact hi.moved m (Nat.le_refl _)
        (List.forall_mem_singleton.2 fun _ => ⟨by omega, (hi.fle.of_get hr0 hk).2⟩)
  | incLp w x t =>
    obtain ⟨-, m⟩ := incLp_moved h
    exact hi.moved m (Nat.le_refl _) nil
  | incFarm f x t =>
    obtain ⟨r, p, hr, hp, -, hcase⟩ := incFarm_moved h
    rcases hcase with ⟨hk, -, m⟩ | ⟨hk, m⟩
    · exact hi.moved m (Nat.le_refl _) (List.forall_mem_singleton.2 lockedOK)
    · have hw := hi.fle.of_get hr hk
      exact hi.moved m (Nat.le_refl _)
        (List.forall_mem_singleton.2 fun _ => ⟨part_le_of_le hp hw.1, hw.2⟩)

theorem run_lpinv {s : St} (ops : List Op) (hi : LpInv s) (hok : ∀ op ∈ ops, FarmOK op) :
    LpInv (run s ops) :=
  run_induct (G := fun _ ops => ∀ op ∈ ops, FarmOK op)
    (fun hg op' h' => hg op' (List.mem_cons_of_mem _ h'))
    (fun hi hg h => step_lpinv hi (hg _ List.mem_cons_self) h) hi hok

end Mx.ProxyDex
