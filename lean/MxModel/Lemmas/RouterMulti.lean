/-
  `multiPairSwap`, generically in what a hop does (`Resp σ`): the router's ledger is a pure
  pass-through.  Nothing here looks inside a pair.
-/
import MxModel.Lemmas.RouterReg

namespace Mx.Router

/-- amount of token `t` in a payment list -/
def sumTok : List (Tok × Nat) → Tok → Nat
  | [], _ => 0
  | p :: ps, t => (if p.1 = t then p.2 else 0) + sumTok ps t

theorem sumTok_cons (p : Tok × Nat) (ps : List (Tok × Nat)) (t : Tok) :
    sumTok (p :: ps) t = (if t = p.1 then p.2 else 0) + sumTok ps t := by
  simp only [sumTok, eq_comm]

theorem sumTok_append (a b : List (Tok × Nat)) (t : Tok) :
    sumTok (a ++ b) t = sumTok a t + sumTok b t := by
  induction a with
  | nil => simp [sumTok]
  | cons p a ih => simp [sumTok, ih, Nat.add_assoc]

theorem sumTok_single (tok : Tok) (x : Nat) (t : Tok) :
    sumTok [(tok, x)] t = if t = tok then x else 0 := by
  by_cases h : t = tok
  · subst h; simp [sumTok]
  · have h' : ¬ tok = t := fun e => h e.symm
    simp [sumTok, h, h']

theorem sumTok_resid (tok : Tok) (r : Nat) (t : Tok) :
    sumTok (if 0 < r then [(tok, r)] else []) t = if t = tok then r else 0 := by
  by_cases h : 0 < r
  · simp only [h, if_true]; exact sumTok_single tok r t
  · have : r = 0 := by omega
    subst this
    simp [sumTok]

theorem upd_add (f : Nat → Nat) (a x t : Nat) :
    upd f a (f a + x) t = f t + (if t = a then x else 0) := by
  simp only [upd]
  split
  · subst_vars; rfl
  · rfl

theorem upd_sub (f : Nat → Nat) (a x t : Nat) (h : x ≤ f a) :
    upd f a (f a - x) t + (if t = a then x else 0) = f t := by
  simp only [upd]
  split
  · subst_vars; omega
  · rfl

/-- the router's ledger over one hop: forward `amt` of token `a`, get residual `x` of `a` and
    output `y` of token `b` back -/
theorem ledger_hop (f : Nat → Nat) (a b x y amt t : Nat) (hle : amt ≤ f a) :
    upd (upd f a (f a - amt + x)) b (upd f a (f a - amt + x) b + y) t + (if t = a then amt else 0)
      = f t + (if t = a then x else 0) + (if t = b then y else 0) := by
  simp only [upd]
  by_cases h1 : t = a
  · by_cases h2 : t = b
    · subst h1; subst h2; simp only [if_true]; omega
    · subst h1
      have h3 : ¬ b = t := fun e => h2 e.symm
      simp only [if_true, h2, h3, if_false]; omega
  · by_cases h2 : t = b
    · subst h2
      have h3 : ¬ t = a := h1
      simp only [if_true, h3, if_false]; omega
    · simp only [h1, h2, if_false] <;> omega

/-- the chain of hops without the router's ledger: thread the pair world through the hop list; returns
    the final world and each hop's `(output, residual)`.  `none` iff some hop fails. -/
def hopTrace {σ : Type} (resp : Resp σ) : List Hop → σ → Tok → Nat → Option (σ × List (Nat × Nat))
  | [], w, _, _ => some (w, [])
  | h :: hs, w, tok, amt => do
      let r ← resp w h tok amt
      let t ← hopTrace resp hs r.1 h.tokOut r.2.1
      pure (t.1, (r.2.1, r.2.2) :: t.2)

/-- the non-zero fixed-output residuals, each in the token that was forwarded to that hop -/
def residuals : Tok → List Hop → List (Nat × Nat) → List (Tok × Nat)
  | tok, h :: hs, r :: rs => (if 0 < r.2 then [(tok, r.2)] else []) ++ residuals h.tokOut hs rs
  | _, [], _ => []
  | _, _ :: _, [] => []

/-- the last hop's output (the incoming payment itself for an empty chain) -/
def lastPay : Tok → Nat → List Hop → List (Nat × Nat) → Tok × Nat
  | _, _, h :: hs, r :: rs => lastPay h.tokOut r.1 hs rs
  | tok, amt, [], _ => (tok, amt)
  | tok, amt, _ :: _, [] => (tok, amt)

theorem hopTrace_fail_at {σ : Type} {resp : Resp σ} (pre : List Hop) (h : Hop) (post : List Hop)
    {w w1 : σ} {tok : Tok} {amt : Nat} {rs1 : List (Nat × Nat)}
    (hpre : hopTrace resp pre w tok amt = some (w1, rs1))
    (hfail : resp w1 h (lastPay tok amt pre rs1).1 (lastPay tok amt pre rs1).2 = none) :
    hopTrace resp (pre ++ h :: post) w tok amt = none := by
  induction pre generalizing w tok amt rs1 with
  | nil =>
    simp only [hopTrace, Option.some.injEq, Prod.mk.injEq] at hpre
    obtain ⟨rfl, rfl⟩ := hpre
    simp only [lastPay] at hfail
    simp [hopTrace, hfail]
  | cons g pre ih =>
    simp only [hopTrace, Option.bind_eq_bind, Option.bind_eq_some_iff, Option.pure_def,
      Option.some.injEq, Prod.mk.injEq] at hpre
    obtain ⟨r, hr, t, ht, rfl, rfl⟩ := hpre
    simp only [lastPay] at hfail
    have := ih (w := r.1) (tok := g.tokOut) (amt := r.2.1) (rs1 := t.2) (by simpa using ht) hfail
    simp [hopTrace, hr, this]

theorem hopTrace_induction {σ : Type} {resp : Resp σ} {P : σ → Prop} (hops : List Hop)
    (hstep : ∀ g ∈ hops, ∀ w tok amt r, resp w g tok amt = some r → P w → P r.1)
    {w w' : σ} {tok : Tok} {amt : Nat} {rs : List (Nat × Nat)}
    (h : hopTrace resp hops w tok amt = some (w', rs)) (h0 : P w) : P w' := by
  induction hops generalizing w tok amt rs with
  | nil =>
    simp only [hopTrace, Option.some.injEq, Prod.mk.injEq] at h
    exact h.1 ▸ h0
  | cons g hs ih =>
    simp only [hopTrace, Option.bind_eq_bind, Option.bind_eq_some_iff, Option.pure_def,
      Option.some.injEq, Prod.mk.injEq] at h
    obtain ⟨r, hr, t, ht, rfl, rfl⟩ := h
    exact ih (fun g hg => hstep g (List.mem_cons_of_mem _ hg)) ht
      (hstep g List.mem_cons_self w tok amt r hr h0)

theorem hopLoop_spec {σ : Type} {resp : Resp σ} (hops : List Hop) {l l' : Loop σ}
    (h : hopLoop resp hops l = some l') :
    ∃ rs, hopTrace resp hops l.w l.tok l.amt = some (l'.w, rs) ∧
      l'.acc = l.acc ++ residuals l.tok hops rs ∧
      (l'.tok, l'.amt) = lastPay l.tok l.amt hops rs ∧
      ∀ t, l'.rb t + (if t = l.tok then l.amt else 0) =
        l.rb t + sumTok (residuals l.tok hops rs) t + (if t = l'.tok then l'.amt else 0) := by
  induction hops generalizing l with
  | nil =>
    simp only [hopLoop, Option.some.injEq] at h
    subst h
    exact ⟨[], rfl, by simp [residuals], rfl, by intro t; simp [residuals, sumTok]⟩
  | cons g hs ih =>
    simp only [hopLoop, Option.bind_eq_bind, Option.bind_eq_some_iff] at h
    obtain ⟨l1, hstep, hrest⟩ := h
    simp only [hopStep, Option.bind_eq_bind, Option.bind_eq_some_iff, sub?_eq_some,
      Option.pure_def, Option.some.injEq] at hstep
    obtain ⟨r, hr, b, ⟨hb, rfl⟩, rfl⟩ := hstep
    obtain ⟨rs, htr, hacc, hlast, hled⟩ := ih hrest
    refine ⟨(r.2.1, r.2.2) :: rs, ?_, ?_, ?_, ?_⟩
    · simp only at htr
      simp [hopTrace, hr, htr]
    · rw [hacc]
      simp only [residuals]
      split <;> simp
    · simpa [lastPay] using hlast
    · intro t
      have h1 := hled t
      have h2 := ledger_hop l.rb l.tok g.tokOut r.2.2 r.2.1 l.amt t hb
      simp only [residuals, sumTok_append, sumTok_resid]
      dsimp only at h1
      omega

theorem hopLoop_complete {σ : Type} {resp : Resp σ} (hops : List Hop) {l : Loop σ} {w' : σ}
    {rs : List (Nat × Nat)} (htr : hopTrace resp hops l.w l.tok l.amt = some (w', rs))
    (hle : l.amt ≤ l.rb l.tok) : ∃ l', hopLoop resp hops l = some l' := by
  induction hops generalizing l rs with
  | nil => exact ⟨l, rfl⟩
  | cons g hs ih =>
    simp only [hopTrace, Option.bind_eq_bind, Option.bind_eq_some_iff, Option.pure_def,
      Option.some.injEq, Prod.mk.injEq] at htr
    obtain ⟨r, hr, t, ht, rfl, rfl⟩ := htr
    let l1 : Loop σ :=
      { w := r.1,
        rb := upd (upd l.rb l.tok (l.rb l.tok - l.amt + r.2.2)) g.tokOut
          (upd l.rb l.tok (l.rb l.tok - l.amt + r.2.2) g.tokOut + r.2.1),
        tok := g.tokOut, amt := r.2.1,
        acc := if 0 < r.2.2 then l.acc ++ [(l.tok, r.2.2)] else l.acc }
    have hs1 : hopStep resp l g = some l1 := by
      simp [hopStep, hr, sub?, hle, l1]
    have hle1 : l1.amt ≤ l1.rb l1.tok := by simp [l1]
    obtain ⟨l', hl'⟩ := ih (l := l1) (rs := t.2) (by simpa [l1] using ht) hle1
    exact ⟨l', by simp [hopLoop, hs1, hl']⟩

theorem payAll_spec (ps : List (Tok × Nat)) {rb rb' : Tok → Nat} {cb cb' : Nat → Nat}
    (h : payAll ps rb cb = some (rb', cb')) :
    (∀ t, rb' t + sumTok ps t = rb t) ∧ (∀ t, cb' t = cb t + sumTok ps t) := by
  induction ps generalizing rb cb with
  | nil =>
    simp only [payAll, Option.some.injEq, Prod.mk.injEq] at h
    obtain ⟨rfl, rfl⟩ := h
    simp [sumTok]
  | cons p ps ih =>
    simp only [payAll, Option.bind_eq_bind, Option.bind_eq_some_iff, sub?_eq_some] at h
    obtain ⟨b, ⟨hb, rfl⟩, hrest⟩ := h
    obtain ⟨h1, h2⟩ := ih hrest
    constructor
    · intro t
      have := h1 t
      have := upd_sub rb p.1 p.2 t hb
      rw [sumTok_cons]
      omega
    · intro t
      have := h2 t
      rw [upd_add] at this
      rw [sumTok_cons]
      omega

theorem payAll_total (ps : List (Tok × Nat)) {rb : Tok → Nat} (cb : Nat → Nat)
    (h : ∀ t, sumTok ps t ≤ rb t) : ∃ r, payAll ps rb cb = some r := by
  induction ps generalizing rb cb with
  | nil => exact ⟨_, rfl⟩
  | cons p ps ih =>
    have hp : p.2 ≤ rb p.1 := by
      have := h p.1
      rw [sumTok_cons, if_pos rfl] at this
      omega
    have hrest : ∀ t, sumTok ps t ≤ upd rb p.1 (rb p.1 - p.2) t := by
      intro t
      have ht := h t
      have := upd_sub rb p.1 p.2 t hp
      rw [sumTok_cons] at ht
      omega
    obtain ⟨r, hr⟩ := ih (cb := upd cb p.1 (cb p.1 + p.2)) hrest
    exact ⟨r, by simp [payAll, sub?, hp, hr]⟩

theorem multiG_spec {σ : Type} {resp : Resp σ} {w : σ} {rb : Tok → Nat} {cb : Nat → Nat}
    {tokIn : Tok} {amount : Nat} {hops : List Hop} {r : MultiRes σ}
    (h : multiG resp w rb cb tokIn amount hops = some r) :
    ∃ rs, 0 < amount ∧ hops ≠ [] ∧ amount ≤ cb tokIn ∧
      hopTrace resp hops w tokIn amount = some (r.w, rs) ∧
      r.pays = residuals tokIn hops rs ++ [lastPay tokIn amount hops rs] ∧
      (∀ t, r.rb t = rb t) ∧
      (∀ t, r.cb t + (if t = tokIn then amount else 0) = cb t + sumTok r.pays t) := by
  simp only [multiG, Option.bind_eq_bind, Option.bind_eq_some_iff, req_eq_some, sub?_eq_some,
    Option.pure_def, Option.some.injEq] at h
  obtain ⟨_, h1, _, h2, c0, ⟨h3, rfl⟩, l, hl, p, hp, rfl⟩ := h
  obtain ⟨rs, htr, hacc, hlast, hled⟩ := hopLoop_spec hops hl
  obtain ⟨hp1, hp2⟩ := payAll_spec _ hp
  simp only [List.nil_append] at hacc
  have hpays : l.acc ++ [(l.tok, l.amt)] = residuals tokIn hops rs ++ [lastPay tokIn amount hops rs] := by
    rw [hacc, hlast]
  refine ⟨rs, h1, h2, h3, htr, hpays, ?_, ?_⟩
  · intro t
    have a := hp1 t
    have b := hled t
    rw [sumTok_append, sumTok_single, hacc] at a
    dsimp only at b
    rw [upd_add] at b
    show p.1 t = rb t
    omega
  · intro t
    have a := hp2 t
    have b := upd_sub cb tokIn amount t h3
    dsimp only
    omega

/-- the router adds no failure of its own -/
theorem multiG_complete {σ : Type} {resp : Resp σ} {w w' : σ} {rb : Tok → Nat} {cb : Nat → Nat}
    {tokIn : Tok} {amount : Nat} {hops : List Hop} {rs : List (Nat × Nat)}
    (h1 : 0 < amount) (h2 : hops ≠ []) (h3 : amount ≤ cb tokIn)
    (htr : hopTrace resp hops w tokIn amount = some (w', rs)) :
    ∃ r, multiG resp w rb cb tokIn amount hops = some r := by
  obtain ⟨l, hl⟩ := hopLoop_complete (resp := resp) hops
    (l := { w := w, rb := upd rb tokIn (rb tokIn + amount), tok := tokIn, amt := amount, acc := [] })
    htr (by simp)
  obtain ⟨rs', _, hacc, _, hled⟩ := hopLoop_spec hops hl
  have hpay : ∀ t, sumTok (l.acc ++ [(l.tok, l.amt)]) t ≤ l.rb t := by
    intro t
    have b := hled t
    dsimp only at b hacc
    rw [upd_add] at b
    rw [sumTok_append, sumTok_single, hacc, List.nil_append]
    omega
  obtain ⟨p, hp⟩ := payAll_total _ (upd cb tokIn (cb tokIn - amount)) hpay
  exact ⟨{ w := l.w, rb := p.1, cb := p.2, pays := l.acc ++ [(l.tok, l.amt)] },
    by simp [multiG, req, h1, h2, sub?, h3, hl, hp]⟩

theorem multiG_none_of_trace_none {σ : Type} {resp : Resp σ} {w : σ} {rb : Tok → Nat}
    {cb : Nat → Nat} {tokIn : Tok} {amount : Nat} {hops : List Hop}
    (h : hopTrace resp hops w tokIn amount = none) :
    multiG resp w rb cb tokIn amount hops = none := by
  cases hm : multiG resp w rb cb tokIn amount hops with
  | none => rfl
  | some r =>
    obtain ⟨rs, _, _, _, htr, _⟩ := multiG_spec hm
    rw [h] at htr
    cases htr

end Mx.Router
