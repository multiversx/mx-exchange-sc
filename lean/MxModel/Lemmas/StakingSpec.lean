/-
  The staking model in the form the proofs use: what `generate` does (`genSt`, `genCache`), one
  trace theorem per endpoint (the helper calls of a successful run with their results, the guards
  that passed, the final state; `unbondFarm` by an iff), the transition relation `Step` with
  `Step.of_step`, the shape shared by all endpoints that run a boosted claim (`Claims`), what
  every operation does to the cells the weekly and boosted-yields invariants read (`Kind`), and
  histories: `next`, `run_cons`, `run_cons_some` / `_none`, `run_append`, `run_induction`.
  Property theorems about transactions and histories are proved from these, never by unfolding
  `step`; some (the C12 unbond clauses, `C07Staking.split_index_unchanged`) are stated on the
  endpoint bodies `unbondFarm`, `unstakeCore`, `withdraw`, `claimCore` themselves.
-/
import MxModel.Lemmas.OptionDo
import MxModel.Lemmas.WeeklyInv
import MxModel.Core.Staking

namespace Mx.Staking

open Mx.Weekly

/-- the storage after `generate_aggregated_rewards` -/
def genSt (s : St) : St :=
  { s with lastBlock := max s.lastBlock s.block,
           accumulated := s.accumulated + genTot s,
           b := { s.b with accumulated := upd s.b.accumulated s.week (s.b.accumulated s.week + genCut s (genTot s)) },
           baseBudget := s.baseBudget + (genTot s - genCut s (genTot s)),
           boostedBudget := s.boostedBudget + genCut s (genTot s) }

/-- the cache after `generate_aggregated_rewards` -/
def genCache (s : St) (c : Cache) : Cache :=
  { c with reserve := c.reserve + genTot s,
           rps := c.rps + rpsInc s.dsc (genTot s - genCut s (genTot s)) c.supply }

theorem generate_spec {s s1 : St} {c c1 : Cache} (h : generate s c = some (s1, c1)) :
    s.accumulated ≤ s.capacity ∧ genCut s (genTot s) ≤ genTot s ∧ s1 = genSt s ∧ c1 = genCache s c := by
  simp only [generate, Option.bind_eq_bind, Option.bind_eq_some_iff, req_eq_some,
    Option.pure_def, Option.some.injEq, Prod.mk.injEq] at h
  obtain ⟨_, h1, _, h2, rfl, rfl⟩ := h
  exact ⟨h1, h2, rfl, rfl⟩

theorem generate_ok {s : St} (c : Cache) (h1 : s.accumulated ≤ s.capacity)
    (h2 : s.boostedPct ≤ MAX_PERCENT) : generate s c = some (genSt s, genCache s c) := by
  have hcut : genCut s (genTot s) ≤ genTot s := by
    unfold genCut cutOf
    have hM : MAX_PERCENT = 10000 := rfl
    rw [hM] at h2 ⊢
    apply Nat.div_le_of_le_mul
    calc genTot s * s.boostedPct ≤ genTot s * 10000 := Nat.mul_le_mul_left _ h2
      _ = 10000 * genTot s := Nat.mul_comm _ _
  have e1 : req (s.accumulated ≤ s.capacity) = some () := req_pos h1
  have e2 : req (genCut s (genTot s) ≤ genTot s) = some () := req_pos hcut
  simp only [generate, e1, e2, Option.bind_eq_bind, Option.bind_some, Option.pure_def]
  rfl

theorem genTot_le_room (s : St) : genTot s ≤ s.capacity - s.accumulated := by
  unfold genTot genTotOf; exact Nat.min_le_right _ _

theorem genTot_le_mint (s : St) : genTot s ≤ mintAmount s := by
  unfold genTot genTotOf mintAmount; exact Nat.min_le_left _ _

@[simp] theorem genSt_capacity (s : St) : (genSt s).capacity = s.capacity := rfl
@[simp] theorem genSt_accumulated (s : St) : (genSt s).accumulated = s.accumulated + genTot s := rfl
@[simp] theorem genSt_bal (s : St) : (genSt s).bal = s.bal := rfl
@[simp] theorem genSt_virt (s : St) : (genSt s).virt = s.virt := rfl
@[simp] theorem genSt_unbondOut (s : St) : (genSt s).unbondOut = s.unbondOut := rfl
@[simp] theorem genSt_supply (s : St) : (genSt s).supply = s.supply := rfl
@[simp] theorem genSt_reserve (s : St) : (genSt s).reserve = s.reserve := rfl
@[simp] theorem genSt_rps (s : St) : (genSt s).rps = s.rps := rfl
@[simp] theorem genSt_paidBase (s : St) : (genSt s).paidBase = s.paidBase := rfl
@[simp] theorem genSt_paidBoosted (s : St) : (genSt s).paidBoosted = s.paidBoosted := rfl
@[simp] theorem genSt_baseBudget (s : St) :
    (genSt s).baseBudget = s.baseBudget + (genTot s - genCut s (genTot s)) := rfl
@[simp] theorem genSt_boostedBudget (s : St) :
    (genSt s).boostedBudget = s.boostedBudget + genCut s (genTot s) := rfl
@[simp] theorem genSt_boostedPct (s : St) : (genSt s).boostedPct = s.boostedPct := rfl
@[simp] theorem genSt_firstWeek (s : St) : (genSt s).firstWeek = s.firstWeek := rfl
@[simp] theorem genSt_epoch (s : St) : (genSt s).epoch = s.epoch := rfl
@[simp] theorem genSt_block (s : St) : (genSt s).block = s.block := rfl
@[simp] theorem genSt_lastBlock (s : St) : (genSt s).lastBlock = max s.lastBlock s.block := rfl
@[simp] theorem genSt_dsc (s : St) : (genSt s).dsc = s.dsc := rfl
@[simp] theorem genSt_maxApr (s : St) : (genSt s).maxApr = s.maxApr := rfl
@[simp] theorem genSt_perBlock (s : St) : (genSt s).perBlock = s.perBlock := rfl
@[simp] theorem genSt_produce (s : St) : (genSt s).produce = s.produce := rfl
@[simp] theorem genSt_minUnbond (s : St) : (genSt s).minUnbond = s.minUnbond := rfl
@[simp] theorem genSt_active (s : St) : (genSt s).active = s.active := rfl
@[simp] theorem genSt_userTotal (s : St) : (genSt s).userTotal = s.userTotal := rfl
@[simp] theorem genSt_nonce (s : St) : (genSt s).nonce = s.nonce := rfl
@[simp] theorem genSt_md (s : St) : (genSt s).md = s.md := rfl
@[simp] theorem genSt_hold (s : St) : (genSt s).hold = s.hold := rfl
@[simp] theorem genSt_accts (s : St) : (genSt s).accts = s.accts := rfl
@[simp] theorem genSt_w (s : St) : (genSt s).w = s.w := rfl
@[simp] theorem genSt_energy (s : St) : (genSt s).energy = s.energy := rfl
@[simp] theorem genSt_undistributed (s : St) : (genSt s).undistributed = s.undistributed := rfl
@[simp] theorem genSt_lastCollectWeek (s : St) : (genSt s).lastCollectWeek = s.lastCollectWeek := rfl
@[simp] theorem genSt_whitelist (s : St) : (genSt s).whitelist = s.whitelist := rfl
@[simp] theorem genSt_hub (s : St) : (genSt s).hub = s.hub := rfl
@[simp] theorem genSt_week (s : St) : (genSt s).week = s.week := rfl
@[simp] theorem genCache_reserve (s : St) (c : Cache) : (genCache s c).reserve = c.reserve + genTot s := rfl
@[simp] theorem genCache_supply (s : St) (c : Cache) : (genCache s c).supply = c.supply := rfl
@[simp] theorem genCache_rps (s : St) (c : Cache) :
    (genCache s c).rps = c.rps + rpsInc s.dsc (genTot s - genCut s (genTot s)) c.supply := rfl

/-! One trace theorem per endpoint: the helper calls of a successful run with their results, the
  guards that passed, the final state; `generate` is resolved to `genSt` / `genCache`, every
  checked subtraction to its bound.  The long bodies are taken apart one bind at a time (`simp`
  with `Option.bind_eq_some_iff` on a whole body is far more expensive); the short ones
  (`generate_spec`, `debit_single`, `unbondFarm_iff`, `checkAndUpdate_le`) are rewritten whole.
  The traces of the endpoint bodies the transactions run (`stakeCore`, `claimCore` with its two
  halves, `compound`, `unstakeCore`, `mergeTokens`, `claimBoostedRewards`) state a structure
  `…Run`: its parameters after the endpoint's arguments are the results of the helper calls, and
  a field bears the name of the call or guard of the model's `do` block it records (`capacity`,
  `cut`: the two guards of `generate`; `reserve`, `supply`, `bal`: the bound under which that
  checked subtraction went through). -/

/-- the optional original caller of `stakeFarm` / `claimRewards` / `unstakeFarm`: only a
    whitelisted address may name one -/
theorem peelOrig {β : Type} {wl : List Nat} {c : Nat} {orig : Option Nat} {f : Nat → Option β}
    {b : β}
    (h : (match orig with
          | none => f c
          | some o => req (c ∈ wl) >>= fun _ => f o) = some b) :
    (orig = none ∨ c ∈ wl) ∧ f (orig.getD c) = some b := by
  cases orig with
  | none => exact ⟨Or.inl rfl, h⟩
  | some o =>
    obtain ⟨hw, h⟩ := peel_req h
    exact ⟨Or.inr hw, h⟩

theorem peelGen {β : Type} {s : St} {c : Cache} {f : St × Cache → Option β} {b : β}
    (h : (generate s c >>= f) = some b) :
    s.accumulated ≤ s.capacity ∧ genCut s (genTot s) ≤ genTot s ∧
      f (genSt s, genCache s c) = some b := by
  obtain ⟨⟨s1, c1⟩, hg, h⟩ := peel h
  obtain ⟨ha, hc, rfl, rfl⟩ := generate_spec hg
  exact ⟨ha, hc, h⟩

theorem debit_single {hold h' : Nat → Nat → Nat} {c : Nat} {p : Pay} :
    debit hold c [p] = some h' ↔
      0 < p.2 ∧ p.2 ≤ hold c p.1 ∧ h' = upd2 hold c p.1 (hold c p.1 - p.2) := by
  simp only [debit, Option.bind_eq_bind, Option.bind_eq_some_iff, req_eq_some, Option.some.injEq]
  constructor
  · rintro ⟨_, h1, _, h2, rfl⟩
    exact ⟨h1, h2, rfl⟩
  · rintro ⟨h1, h2, rfl⟩
    exact ⟨(), h1, (), h2, rfl⟩

theorem unbondOf_eq_some {m : Nat → Option Meta} {n e : Nat} :
    unbondOf m n = some e ↔ m n = some (.unbond e) := by
  unfold unbondOf
  split
  · rename_i e' h
    simp [h]
  · rename_i h
    constructor
    · intro h'; simp at h'
    · intro h'; exact absurd h' (h e)

theorem intoPart_spec {t t' : Attrs} {x : Nat} (h : t.intoPart x = some t') :
    t'.rps = t.rps ∧ t'.owner = t.owner ∧ t'.amount = x ∧
    t'.compounded = (if x = t.amount then t.compounded else t.compounded * x / t.amount) := by
  unfold Attrs.intoPart at h
  split at h
  · rename_i hx
    obtain rfl := Option.some.inj h
    exact ⟨rfl, rfl, hx.symm, (if_pos hx).symm⟩
  · rename_i hx
    obtain ⟨_, h⟩ := peel_req h
    obtain rfl := Option.some.inj h
    exact ⟨rfl, rfl, rfl, (if_neg hx).symm⟩

structure StakeRun (s : St) (c orig amount : Nat) (v : Bool) (adds : List Pay)
    (hold0 : Nat → Nat → Nat) (r : Weekly.St × B × Nat) (ut1 : Nat → Nat) (merged : Attrs)
    (w2 : Weekly.St) (s' : St) (o : Out) : Prop where
  amount_pos : 0 < amount
  debit : debit s.hold c adds = some hold0
  claimBoostedYields : claimBoostedYields s orig (s.userTotal orig) = some r
  reserve : r.2.2 ≤ s.reserve
  active : s.active = true
  checkAndUpdate : checkAndUpdate s.md orig s.userTotal adds = some ut1
  capacity : s.accumulated ≤ s.capacity
  cut : genCut s (genTot s) ≤ genTot s
  mergeParts : mergeParts s.md ⟨(genCache s s.cache).rps, 0, amount, orig⟩ adds = some merged
  updateEnergyAndProgress :
    updateEnergyAndProgress r.1 orig s.week (Energy.queried (s.energy orig) s.epoch) = some w2
  bal : r.2.2 ≤ (if v then s.bal else s.bal + amount)
  state : s' = { genSt { s with b := r.2.1, userTotal := upd ut1 orig (ut1 orig + amount) } with
              reserve := s.reserve - r.2.2 + genTot s
              rps := (genCache s s.cache).rps
              supply := s.supply + amount
              w := w2
              b := { (genSt { s with b := r.2.1 }).b with
                      farmSupply := upd r.2.1.farmSupply s.week (s.supply + amount) }
              nonce := s.nonce + 1
              md := upd s.md (s.nonce + 1) (some (.pos merged))
              hold := upd2 hold0 c (s.nonce + 1) merged.amount
              bal := (if v then s.bal else s.bal + amount) - r.2.2
              virt := if v then s.virt + (amount : Int) else s.virt
              paidBoosted := s.paidBoosted + r.2.2 }
  out : o = ⟨s.nonce + 1, merged.amount, r.2.2⟩

theorem stakeCore_trace {s s' : St} {c orig amount : Nat} {v : Bool} {adds : List Pay} {o : Out}
    (h : stakeCore s c orig amount v adds = some (s', o)) :
    ∃ hold0 r ut1 merged w2, StakeRun s c orig amount v adds hold0 r ut1 merged w2 s' o := by
  unfold stakeCore at h
  obtain ⟨ha, h⟩ := peel_req h
  obtain ⟨hold0, hd, h⟩ := peel h
  obtain ⟨r, hr, h⟩ := peel h
  obtain ⟨hres, h⟩ := peel_sub h
  obtain ⟨hact, h⟩ := peel_req h
  obtain ⟨ut1, hk, h⟩ := peel h
  obtain ⟨hacc, hcut, h⟩ := peelGen h
  obtain ⟨merged, hm, h⟩ := peel h
  obtain ⟨w2, hw, h⟩ := peel h
  obtain ⟨hbal, h⟩ := peel_sub h
  obtain ⟨rfl, rfl⟩ := Prod.mk.inj (Option.some.inj h)
  exact ⟨hold0, r, ut1, merged, w2, ha, hd, hr, hres, hact, hk, hacc, hcut, hm, hw, hbal, rfl, rfl⟩

structure ClaimBaseRun (s : St) (c orig : Nat) (pays : List Pay) (hold0 : Nat → Nat → Nat)
    (p : Pay) (first tok : Attrs) (r : Weekly.St × B × Nat) (ut1 : Nat → Nat) (merged : Attrs)
    (m : ClaimMid) : Prop where
  debit : debit s.hold c pays = some hold0
  active : s.active = true
  head : pays.head? = some p
  posOf : posOf s.md p.1 = some first
  capacity : s.accumulated ≤ s.capacity
  cut : genCut s (genTot s) ≤ genTot s
  intoPart : first.intoPart p.2 = some tok
  claimBoostedYields : claimBoostedYields (genSt s) orig (s.userTotal orig) = some r
  checkAndUpdate : checkAndUpdate s.md orig s.userTotal pays = some ut1
  mergeParts :
    mergeParts s.md ⟨(genCache s s.cache).rps, tok.compounded, tok.amount, orig⟩ pays.tail
      = some merged
  mid : m = { hold0 := hold0, s1 := genSt s, c1 := genCache s s.cache, w1 := r.1, b1 := r.2.1,
              boosted := r.2.2, base := baseReward (genCache s s.cache) s.dsc p.2 tok, ut1 := ut1,
              merged := merged }

theorem claimBase_trace {s : St} {c orig : Nat} {pays : List Pay} {m : ClaimMid}
    (h : claimBase s c orig pays = some m) :
    ∃ hold0 p first tok r ut1 merged, ClaimBaseRun s c orig pays hold0 p first tok r ut1 merged m := by
  unfold claimBase at h
  obtain ⟨hold0, hd, h⟩ := peel h
  obtain ⟨hact, h⟩ := peel_req h
  obtain ⟨p, hp, h⟩ := peel h
  obtain ⟨first, hf, h⟩ := peel h
  obtain ⟨hacc, hcut, h⟩ := peelGen h
  obtain ⟨tok, ht, h⟩ := peel h
  obtain ⟨r, hr, h⟩ := peel h
  obtain ⟨ut1, hk, h⟩ := peel h
  obtain ⟨merged, hm, h⟩ := peel h
  exact ⟨hold0, p, first, tok, r, ut1, merged, hd, hact, hp, hf, hacc, hcut, ht, hr, hk, hm,
    (Option.some.inj h).symm⟩

structure ClaimFinishRun (m : ClaimMid) (c orig : Nat) (nv : Option Nat) (supply1 : Nat)
    (ut2 : Nat → Nat) (w2 : Weekly.St) (s' : St) (o : Out) : Prop where
  reserve : m.base + m.boosted ≤ m.c1.reserve
  newSupply : newSupply m.c1.supply m.merged.amount nv = some supply1
  newUserTotal : newUserTotal m.ut1 orig m.merged.amount nv = some ut2
  amount_pos : 0 < nv.getD m.merged.amount
  updateEnergyAndProgress :
    updateEnergyAndProgress m.w1 orig m.s1.week (Energy.queried (m.s1.energy orig) m.s1.epoch)
      = some w2
  bal : m.base + m.boosted ≤ m.s1.bal
  state : s' = { m.s1 with
              reserve := m.c1.reserve - (m.base + m.boosted), rps := m.c1.rps, supply := supply1
              w := w2
              b := { m.b1 with farmSupply := upd m.b1.farmSupply m.s1.week supply1 }
              userTotal := ut2
              nonce := m.s1.nonce + 1
              md := upd m.s1.md (m.s1.nonce + 1)
                      (some (.pos { m.merged with amount := nv.getD m.merged.amount }))
              hold := upd2 m.hold0 c (m.s1.nonce + 1) (nv.getD m.merged.amount)
              bal := m.s1.bal - (m.base + m.boosted)
              virt := m.s1.virt + (nv.getD m.merged.amount : Int) - (m.merged.amount : Int)
              paidBase := m.s1.paidBase + m.base
              paidBoosted := m.s1.paidBoosted + m.boosted }
  out : o = ⟨m.s1.nonce + 1, nv.getD m.merged.amount, m.base + m.boosted⟩

theorem claimFinish_trace {m : ClaimMid} {c orig : Nat} {nv : Option Nat} {s' : St} {o : Out}
    (h : claimFinish m c orig nv = some (s', o)) :
    ∃ supply1 ut2 w2, ClaimFinishRun m c orig nv supply1 ut2 w2 s' o := by
  unfold claimFinish at h
  obtain ⟨hres, h⟩ := peel_sub h
  obtain ⟨supply1, hs, h⟩ := peel h
  obtain ⟨ut2, hu, h⟩ := peel h
  obtain ⟨hpos, h⟩ := peel_req h
  obtain ⟨w2, hw, h⟩ := peel h
  obtain ⟨hbal, h⟩ := peel_sub h
  obtain ⟨rfl, rfl⟩ := Prod.mk.inj (Option.some.inj h)
  exact ⟨supply1, ut2, w2, hres, hs, hu, hpos, hw, hbal, rfl, rfl⟩

structure ClaimRun (s : St) (c orig : Nat) (pays : List Pay) (nv : Option Nat)
    (hold0 : Nat → Nat → Nat) (p : Pay) (first tok : Attrs) (r : Weekly.St × B × Nat)
    (ut1 : Nat → Nat) (merged : Attrs) (supply1 : Nat) (ut2 : Nat → Nat) (w2 : Weekly.St)
    (s' : St) (o : Out) : Prop where
  debit : debit s.hold c pays = some hold0
  active : s.active = true
  head : pays.head? = some p
  posOf : posOf s.md p.1 = some first
  capacity : s.accumulated ≤ s.capacity
  cut : genCut s (genTot s) ≤ genTot s
  intoPart : first.intoPart p.2 = some tok
  claimBoostedYields : claimBoostedYields (genSt s) orig (s.userTotal orig) = some r
  checkAndUpdate : checkAndUpdate s.md orig s.userTotal pays = some ut1
  mergeParts :
    mergeParts s.md ⟨(genCache s s.cache).rps, tok.compounded, tok.amount, orig⟩ pays.tail
      = some merged
  reserve : baseReward (genCache s s.cache) s.dsc p.2 tok + r.2.2 ≤ s.reserve + genTot s
  newSupply : newSupply s.supply merged.amount nv = some supply1
  newUserTotal : newUserTotal ut1 orig merged.amount nv = some ut2
  amount_pos : 0 < nv.getD merged.amount
  updateEnergyAndProgress :
    updateEnergyAndProgress r.1 orig s.week (Energy.queried (s.energy orig) s.epoch) = some w2
  bal : baseReward (genCache s s.cache) s.dsc p.2 tok + r.2.2 ≤ s.bal
  state : s' = { genSt s with
              reserve := s.reserve + genTot s - (baseReward (genCache s s.cache) s.dsc p.2 tok + r.2.2)
              rps := (genCache s s.cache).rps, supply := supply1
              w := w2
              b := { r.2.1 with farmSupply := upd r.2.1.farmSupply s.week supply1 }
              userTotal := ut2
              nonce := s.nonce + 1
              md := upd s.md (s.nonce + 1) (some (.pos { merged with amount := nv.getD merged.amount }))
              hold := upd2 hold0 c (s.nonce + 1) (nv.getD merged.amount)
              bal := s.bal - (baseReward (genCache s s.cache) s.dsc p.2 tok + r.2.2)
              virt := s.virt + (nv.getD merged.amount : Int) - (merged.amount : Int)
              paidBase := s.paidBase + baseReward (genCache s s.cache) s.dsc p.2 tok
              paidBoosted := s.paidBoosted + r.2.2 }
  out : o = ⟨s.nonce + 1, nv.getD merged.amount,
            baseReward (genCache s s.cache) s.dsc p.2 tok + r.2.2⟩

theorem claimCore_trace {s s' : St} {c orig : Nat} {pays : List Pay} {nv : Option Nat} {o : Out}
    (h : claimCore s c orig pays nv = some (s', o)) :
    ∃ hold0 p first tok r ut1 merged supply1 ut2 w2,
      ClaimRun s c orig pays nv hold0 p first tok r ut1 merged supply1 ut2 w2 s' o := by
  obtain ⟨m, hm, h⟩ := peel (show (claimBase s c orig pays >>= fun m => claimFinish m c orig nv)
    = some (s', o) from h)
  obtain ⟨hold0, p, first, tok, r, ut1, merged, b⟩ := claimBase_trace hm
  obtain rfl := b.mid
  obtain ⟨supply1, ut2, w2, f⟩ := claimFinish_trace h
  exact ⟨hold0, p, first, tok, r, ut1, merged, supply1, ut2, w2, b.debit, b.active, b.head, b.posOf,
    b.capacity, b.cut, b.intoPart, b.claimBoostedYields, b.checkAndUpdate, b.mergeParts, f.reserve,
    f.newSupply, f.newUserTotal, f.amount_pos, f.updateEnergyAndProgress, f.bal, f.state, f.out⟩

structure CompoundRun (s : St) (c : Nat) (pays : List Pay) (hold0 : Nat → Nat → Nat) (p : Pay)
    (first tok : Attrs) (r : Weekly.St × B × Nat) (ut1 : Nat → Nat) (merged : Attrs)
    (s' : St) (o : Out) : Prop where
  debit : debit s.hold c pays = some hold0
  active : s.active = true
  head : pays.head? = some p
  posOf : posOf s.md p.1 = some first
  capacity : s.accumulated ≤ s.capacity
  cut : genCut s (genTot s) ≤ genTot s
  intoPart : first.intoPart p.2 = some tok
  claimBoostedYields : claimBoostedYields (genSt s) c (s.userTotal c) = some r
  reserve : baseReward (genCache s s.cache) s.dsc p.2 tok + r.2.2 ≤ s.reserve + genTot s
  checkAndUpdate : checkAndUpdate s.md c s.userTotal pays = some ut1
  mergeParts :
    mergeParts s.md ⟨(genCache s s.cache).rps,
        tok.compounded + (baseReward (genCache s s.cache) s.dsc p.2 tok + r.2.2),
        tok.amount + (baseReward (genCache s s.cache) s.dsc p.2 tok + r.2.2), c⟩ pays.tail
      = some merged
  state : s' = { genSt s with
              reserve := s.reserve + genTot s - (baseReward (genCache s s.cache) s.dsc p.2 tok + r.2.2)
              rps := (genCache s s.cache).rps
              supply := s.supply + (baseReward (genCache s s.cache) s.dsc p.2 tok + r.2.2)
              w := r.1
              b := { r.2.1 with
                      farmSupply := upd r.2.1.farmSupply s.week
                        (s.supply + (baseReward (genCache s s.cache) s.dsc p.2 tok + r.2.2)) }
              userTotal := upd ut1 c (ut1 c + (baseReward (genCache s s.cache) s.dsc p.2 tok + r.2.2))
              nonce := s.nonce + 1
              md := upd s.md (s.nonce + 1) (some (.pos merged))
              hold := upd2 hold0 c (s.nonce + 1) merged.amount
              paidBase := s.paidBase + baseReward (genCache s s.cache) s.dsc p.2 tok
              paidBoosted := s.paidBoosted + r.2.2 }
  out : o = ⟨s.nonce + 1, merged.amount, baseReward (genCache s s.cache) s.dsc p.2 tok + r.2.2⟩

theorem compound_trace {s s' : St} {c : Nat} {pays : List Pay} {o : Out}
    (h : compound s c pays = some (s', o)) :
    ∃ hold0 p first tok r ut1 merged, CompoundRun s c pays hold0 p first tok r ut1 merged s' o := by
  unfold compound at h
  obtain ⟨hold0, hd, h⟩ := peel h
  obtain ⟨hact, h⟩ := peel_req h
  obtain ⟨p, hp, h⟩ := peel h
  obtain ⟨first, hf, h⟩ := peel h
  obtain ⟨hacc, hcut, h⟩ := peelGen h
  obtain ⟨tok, ht, h⟩ := peel h
  obtain ⟨r, hr, h⟩ := peel h
  obtain ⟨hres, h⟩ := peel_sub h
  obtain ⟨ut1, hk, h⟩ := peel h
  obtain ⟨merged, hm, h⟩ := peel h
  obtain ⟨rfl, rfl⟩ := Prod.mk.inj (Option.some.inj h)
  exact ⟨hold0, p, first, tok, r, ut1, merged, hd, hact, hp, hf, hacc, hcut, ht, hr, hres, hk, hm,
    rfl, rfl⟩

structure UnstakeRun (s : St) (c orig : Nat) (pay : Pay) (x : Option Nat)
    (hold0 : Nat → Nat → Nat) (attrs tok : Attrs) (r : Weekly.St × B × Nat) (w2 : Weekly.St)
    (s' : St) (o : Out) : Prop where
  proxyAmt_ne : x ≠ some 0
  debit : debit s.hold c [pay] = some hold0
  active : s.active = true
  posOf : posOf s.md pay.1 = some attrs
  capacity : s.accumulated ≤ s.capacity
  cut : genCut s (genTot s) ≤ genTot s
  intoPart : attrs.intoPart pay.2 = some tok
  claimBoostedYields : claimBoostedYields (genSt s) orig (s.userTotal orig) = some r
  reserve : baseReward (genCache s s.cache) s.dsc pay.2 tok + r.2.2 ≤ s.reserve + genTot s
  supply : tok.amount ≤ s.supply
  clearEnergyIfNeeded :
    clearEnergyIfNeeded
      { genSt s with userTotal := decreaseUT s.userTotal attrs.owner pay.2, b := r.2.1 } r.1 orig
      = some w2
  bal : baseReward (genCache s s.cache) s.dsc pay.2 tok + r.2.2 ≤ s.bal + x.getD 0
  state : s' = { genSt s with
              userTotal := decreaseUT s.userTotal attrs.owner pay.2
              reserve := s.reserve + genTot s - (baseReward (genCache s s.cache) s.dsc pay.2 tok + r.2.2)
              rps := (genCache s s.cache).rps
              supply := s.supply - tok.amount
              w := w2
              b := { r.2.1 with farmSupply := upd r.2.1.farmSupply s.week (s.supply - tok.amount) }
              nonce := s.nonce + 1
              md := upd s.md (s.nonce + 1) (some (.unbond (s.epoch + s.minUnbond)))
              hold := upd2 hold0 c (s.nonce + 1) (x.getD tok.amount)
              bal := s.bal + x.getD 0 - (baseReward (genCache s s.cache) s.dsc pay.2 tok + r.2.2)
              virt := if x.isSome then s.virt - (tok.amount : Int) else s.virt
              unbondOut := s.unbondOut + (x.getD tok.amount : Int)
              paidBase := s.paidBase + baseReward (genCache s s.cache) s.dsc pay.2 tok
              paidBoosted := s.paidBoosted + r.2.2 }
  out : o = ⟨s.nonce + 1, x.getD tok.amount,
            baseReward (genCache s s.cache) s.dsc pay.2 tok + r.2.2⟩

theorem unstakeCore_trace {s s' : St} {c orig : Nat} {pay : Pay} {x : Option Nat} {o : Out}
    (h : unstakeCore s c orig pay x = some (s', o)) :
    ∃ hold0 attrs tok r w2, UnstakeRun s c orig pay x hold0 attrs tok r w2 s' o := by
  unfold unstakeCore at h
  obtain ⟨hx, h⟩ := peel_req h
  obtain ⟨hold0, hd, h⟩ := peel h
  obtain ⟨hact, h⟩ := peel_req h
  obtain ⟨attrs, ha, h⟩ := peel h
  obtain ⟨hacc, hcut, h⟩ := peelGen h
  obtain ⟨tok, ht, h⟩ := peel h
  obtain ⟨r, hr, h⟩ := peel h
  obtain ⟨hres, h⟩ := peel_sub h
  obtain ⟨hsup, h⟩ := peel_sub h
  obtain ⟨w2, hw, h⟩ := peel h
  obtain ⟨hbal, h⟩ := peel_sub h
  obtain ⟨rfl, rfl⟩ := Prod.mk.inj (Option.some.inj h)
  refine ⟨hold0, attrs, tok, r, w2, hx, hd, hact, ha, hacc, hcut, ht, hr, hres, hsup, hw, hbal,
    ?_, rfl⟩
  cases x <;> rfl

/-- `unbondFarm` exactly; the body is short enough to be rewritten whole -/
theorem unbondFarm_iff {s s' : St} {c : Nat} {pay : Pay} {o : Out} :
    unbondFarm s c pay = some (s', o) ↔
      0 < pay.2 ∧ pay.2 ≤ s.hold c pay.1 ∧ s.active = true ∧
      (∃ unlock, s.md pay.1 = some (.unbond unlock) ∧ unlock ≤ s.epoch) ∧ pay.2 ≤ s.bal ∧
      o = ⟨0, pay.2, 0⟩ ∧
      s' = { s with hold := upd2 s.hold c pay.1 (s.hold c pay.1 - pay.2), bal := s.bal - pay.2,
                    unbondOut := s.unbondOut - (pay.2 : Int) } := by
  simp only [unbondFarm, Option.bind_eq_bind, Option.bind_eq_some_iff, req_eq_some,
    sub?_eq_some, Option.pure_def, Option.some.injEq, Prod.mk.injEq, debit_single, unbondOf_eq_some]
  constructor
  · rintro ⟨h', ⟨h1, h2, rfl⟩, _, h3, e, h4, _, h5, b, ⟨h6, rfl⟩, rfl, rfl⟩
    exact ⟨h1, h2, h3, ⟨e, h4, h5⟩, h6, rfl, rfl⟩
  · rintro ⟨h1, h2, h3, ⟨e, h4, h5⟩, h6, rfl, rfl⟩
    exact ⟨_, ⟨h1, h2, rfl⟩, (), h3, e, h4, (), h5, _, ⟨h6, rfl⟩, rfl, rfl⟩

structure MergeRun (s : St) (c : Nat) (pays : List Pay) (hold0 : Nat → Nat → Nat)
    (r : Weekly.St × B × Nat) (p : Pay) (ut1 : Nat → Nat) (first part merged : Attrs)
    (s' : St) (o : Out) : Prop where
  debit : debit s.hold c pays = some hold0
  active : s.active = true
  claimBoostedYields : claimBoostedYields s c (s.userTotal c) = some r
  reserve : r.2.2 ≤ s.reserve
  head : pays.head? = some p
  checkAndUpdate : checkAndUpdate s.md c s.userTotal pays = some ut1
  posOf : posOf s.md p.1 = some first
  intoPart : first.intoPart p.2 = some part
  mergeParts : mergeParts s.md part pays.tail = some merged
  bal : r.2.2 ≤ s.bal
  state : s' = { s with
              w := r.1, b := r.2.1, reserve := s.reserve - r.2.2, userTotal := ut1
              nonce := s.nonce + 1
              md := upd s.md (s.nonce + 1) (some (.pos { merged with owner := c }))
              hold := upd2 hold0 c (s.nonce + 1) merged.amount
              bal := s.bal - r.2.2
              paidBoosted := s.paidBoosted + r.2.2 }
  out : o = ⟨s.nonce + 1, merged.amount, r.2.2⟩

theorem mergeTokens_trace {s s' : St} {c : Nat} {pays : List Pay} {o : Out}
    (h : mergeTokens s c pays = some (s', o)) :
    ∃ hold0 r p ut1 first part merged, MergeRun s c pays hold0 r p ut1 first part merged s' o := by
  unfold mergeTokens at h
  obtain ⟨hold0, hd, h⟩ := peel h
  obtain ⟨hact, h⟩ := peel_req h
  obtain ⟨r, hr, h⟩ := peel h
  obtain ⟨hres, h⟩ := peel_sub h
  obtain ⟨p, hp, h⟩ := peel h
  obtain ⟨ut1, hk, h⟩ := peel h
  obtain ⟨first, hf, h⟩ := peel h
  obtain ⟨part, hpt, h⟩ := peel h
  obtain ⟨merged, hm, h⟩ := peel h
  obtain ⟨hbal, h⟩ := peel_sub h
  obtain ⟨rfl, rfl⟩ := Prod.mk.inj (Option.some.inj h)
  exact ⟨hold0, r, p, ut1, first, part, merged, hd, hact, hr, hres, hp, hk, hf, hpt, hm, hbal,
    rfl, rfl⟩

structure ClaimBoostedRun (s : St) (c : Nat) (u : Option Nat) (r : Weekly.St × B × Nat)
    (s' : St) (o : Out) : Prop where
  user : u = none ∨ u = some c
  userTotal_ne : s.userTotal c ≠ 0
  active : s.active = true
  capacity : s.accumulated ≤ s.capacity
  cut : genCut s (genTot s) ≤ genTot s
  claimBoostedYields : claimBoostedYields (genSt s) c (s.userTotal c) = some r
  reserve : r.2.2 ≤ s.reserve + genTot s
  bal : r.2.2 ≤ s.bal
  state : s' = { genSt s with
              reserve := s.reserve + genTot s - r.2.2, rps := (genCache s s.cache).rps
              supply := s.supply
              w := r.1
              b := { r.2.1 with farmSupply := upd r.2.1.farmSupply s.week s.supply }
              bal := s.bal - r.2.2
              paidBoosted := s.paidBoosted + r.2.2 }
  out : o = ⟨0, 0, r.2.2⟩

theorem claimBoostedRewards_trace {s s' : St} {c : Nat} {u : Option Nat} {o : Out}
    (h : claimBoostedRewards s c u = some (s', o)) : ∃ r, ClaimBoostedRun s c u r s' o := by
  unfold claimBoostedRewards at h
  obtain ⟨hu, h⟩ := peel_req h
  obtain ⟨hne, h⟩ := peel_req h
  obtain ⟨hact, h⟩ := peel_req h
  obtain ⟨hacc, hcut, h⟩ := peelGen h
  obtain ⟨r, hr, h⟩ := peel h
  obtain ⟨hres, h⟩ := peel_sub h
  obtain ⟨hbal, h⟩ := peel_sub h
  obtain ⟨rfl, rfl⟩ := Prod.mk.inj (Option.some.inj h)
  exact ⟨r, hu, hne, hact, hacc, hcut, hr, hres, hbal, rfl, rfl⟩

theorem calcRewards_trace {s s' : St} {q : Bool} {amt : Nat} {t : Attrs} {v : Nat}
    (h : calcRewards s q amt t = some (s', v)) :
    ∃ r,
      q = true ∧ s.accumulated ≤ s.capacity ∧ genCut s (genTot s) ≤ genTot s ∧
      claimBoostedYields (genSt s) t.owner (s.userTotal t.owner) = some r ∧
      s' = ({ genSt s with w := r.1, b := r.2.1 } : St).flush (genCache s s.cache) ∧
      v = baseReward (genCache s s.cache) s.dsc amt t + r.2.2 := by
  unfold calcRewards at h
  obtain ⟨hq, h⟩ := peel_req h
  obtain ⟨hacc, hcut, h⟩ := peelGen h
  obtain ⟨r, hr, h⟩ := peel h
  obtain ⟨rfl, rfl⟩ := Prod.mk.inj (Option.some.inj h)
  exact ⟨r, hq, hacc, hcut, hr, rfl, rfl⟩

theorem withdraw_trace {s s' : St} {x : Nat} {o : Out} (h : withdraw s x = some (s', o)) :
    s.accumulated ≤ s.capacity ∧ genCut s (genTot s) ≤ genTot s ∧
    s.accumulated + genTot s ≤ s.capacity ∧ x ≤ s.capacity - (s.accumulated + genTot s) ∧
    x ≤ s.capacity ∧ x ≤ s.bal ∧
    s' = ({ genSt s with capacity := s.capacity - x, bal := s.bal - x } : St).flush
            (genCache s s.cache) ∧
    o = ⟨0, x, 0⟩ := by
  unfold withdraw at h
  obtain ⟨hacc, hcut, h⟩ := peelGen h
  obtain ⟨hrem, h⟩ := peel_sub h
  obtain ⟨hx, h⟩ := peel_req h
  obtain ⟨hcap, h⟩ := peel_sub h
  obtain ⟨hbal, h⟩ := peel_sub h
  obtain ⟨rfl, rfl⟩ := Prod.mk.inj (Option.some.inj h)
  exact ⟨hacc, hcut, hrem, hx, hcap, hbal, rfl, rfl⟩

theorem settleThen_trace {s s' : St} {f : St → St} {o : Out} (h : settleThen s f = some (s', o)) :
    s.accumulated ≤ s.capacity ∧ genCut s (genTot s) ≤ genTot s ∧
    s' = f ((genSt s).flush (genCache s s.cache)) ∧ o = {} := by
  unfold settleThen at h
  obtain ⟨hacc, hcut, h⟩ := peelGen h
  obtain ⟨rfl, rfl⟩ := Prod.mk.inj (Option.some.inj h)
  exact ⟨hacc, hcut, rfl, rfl⟩

/-- `collectUndistributedBoostedRewards` in closed form: nothing is left to sweep, or the weeks
    `lastCollect+1 … current−5` are swept -/
theorem collectUndistributed_some {s s' : St} {o : Out} (h : collectUndistributed s = some (s', o)) :
    USER_MAX_CLAIM_WEEKS + 1 < s.week ∧ o = {} ∧
    (s.week - (USER_MAX_CLAIM_WEEKS + 1) < s.lastCollectWeek + 1 ∧ s' = s ∨
     ¬ s.week - (USER_MAX_CLAIM_WEEKS + 1) < s.lastCollectWeek + 1 ∧
      s' = { s with
        b := { s.b with remaining := (collectWeeks
          (s.week - (USER_MAX_CLAIM_WEEKS + 1) + 1 - (s.lastCollectWeek + 1))
          (s.lastCollectWeek + 1) s.b.remaining s.undistributed).1 }
        undistributed := (collectWeeks
          (s.week - (USER_MAX_CLAIM_WEEKS + 1) + 1 - (s.lastCollectWeek + 1))
          (s.lastCollectWeek + 1) s.b.remaining s.undistributed).2
        lastCollectWeek := s.week - (USER_MAX_CLAIM_WEEKS + 1) }) := by
  unfold collectUndistributed at h
  obtain ⟨hw, h⟩ := peel_req h
  by_cases hl : s.week - (USER_MAX_CLAIM_WEEKS + 1) < s.lastCollectWeek + 1
  · rw [if_pos hl] at h
    obtain ⟨rfl, rfl⟩ := Prod.mk.inj (Option.some.inj h)
    exact ⟨hw, rfl, Or.inl ⟨hl, rfl⟩⟩
  · rw [if_neg hl] at h
    obtain ⟨rfl, rfl⟩ := Prod.mk.inj (Option.some.inj h)
    exact ⟨hw, rfl, Or.inr ⟨hl, rfl⟩⟩

/-- the loop of `collectUndistributedBoostedRewards` over the `n` weeks from `week` -/
theorem collectWeeks_spec : ∀ (n week : Nat) (rem : Nat → Nat) (und : Nat),
    (∀ k, (collectWeeks n week rem und).1 k = if week ≤ k ∧ k < week + n then 0 else rem k) ∧
    (collectWeeks n week rem und).2 = und + ((List.range n).map fun i => rem (week + i)).sum
  | 0, week, rem, und => by
      refine ⟨fun k => ?_, by simp [collectWeeks]⟩
      simp only [collectWeeks]
      have : ¬(week ≤ k ∧ k < week + 0) := by omega
      rw [if_neg this]
  | n + 1, week, rem, und => by
      obtain ⟨ih1, ih2⟩ := collectWeeks_spec n (week + 1) (upd rem week 0) (und + rem week)
      refine ⟨fun k => ?_, ?_⟩
      · simp only [collectWeeks]
        rw [ih1 k]
        by_cases hk : k = week
        · subst hk
          have h1 : ¬(k + 1 ≤ k ∧ k < k + 1 + n) := by omega
          have h2 : k ≤ k ∧ k < k + (n + 1) := by omega
          rw [if_neg h1, if_pos h2, upd_same]
        · rw [upd_other _ _ hk]
          by_cases hin : week + 1 ≤ k ∧ k < week + 1 + n
          · have : week ≤ k ∧ k < week + (n + 1) := by omega
            rw [if_pos hin, if_pos this]
          · have : ¬(week ≤ k ∧ k < week + (n + 1)) := by omega
            rw [if_neg hin, if_neg this]
      · simp only [collectWeeks]
        rw [ih2, List.range_succ_eq_map, List.map_cons, List.sum_cons, List.map_map]
        have : ((List.range n).map fun i => upd rem week 0 (week + 1 + i)).sum =
            ((List.range n).map ((fun i => rem (week + i)) ∘ Nat.succ)).sum := by
          congr 1
          apply List.map_congr_left
          intro i _
          have : week + 1 + i ≠ week := by omega
          simp only [Function.comp, upd_other _ _ this]
          congr 1; omega
        rw [this]
        simp only [Nat.add_zero]
        omega

/-- `collectUndistributedBoostedRewards` with the constants evaluated: the swept weeks
    `lastCollect+1 … week−5` are all outside the four-week claim window -/
theorem collectUndistributed_spec {s s' : St} {o : Out} (h : collectUndistributed s = some (s', o)) :
    5 < s.week ∧
    (s.week - 5 ≤ s.lastCollectWeek ∧ s' = s ∨
     s.lastCollectWeek < s.week - 5 ∧ s'.lastCollectWeek = s.week - 5 ∧
       (∀ k, s'.b.remaining k =
          if s.lastCollectWeek + 1 ≤ k ∧ k ≤ s.week - 5 then 0 else s.b.remaining k) ∧
       s'.undistributed = s.undistributed +
          ((List.range (s.week - 5 - s.lastCollectWeek)).map
             fun i => s.b.remaining (s.lastCollectWeek + 1 + i)).sum ∧
       s'.b.paid = s.b.paid ∧ s'.b.collected = s.b.collected ∧ s'.b.accumulated = s.b.accumulated ∧
       s'.week = s.week) := by
  have hU : USER_MAX_CLAIM_WEEKS = 4 := rfl
  obtain ⟨hw, -, ⟨hl, rfl⟩ | ⟨hl, rfl⟩⟩ := collectUndistributed_some h <;> rw [hU] at hw hl
  · exact ⟨by omega, .inl ⟨by omega, rfl⟩⟩
  · rw [hU]
    have e : s.week - (4 + 1) + 1 - (s.lastCollectWeek + 1) = s.week - 5 - s.lastCollectWeek := by omega
    rw [e]
    obtain ⟨c1, c2⟩ := collectWeeks_spec (s.week - 5 - s.lastCollectWeek) (s.lastCollectWeek + 1)
      s.b.remaining s.undistributed
    refine ⟨by omega, .inr ⟨by omega, rfl, fun k => ?_, c2, rfl, rfl, rfl, rfl⟩⟩
    exact (c1 k).trans (if_congr (by omega) rfl rfl)

/-- storage after `generate_aggregated_rewards` with the cache written back -/
def settle (s : St) : St := (genSt s).flush (genCache s s.cache)

/-- A successful `step s op = some (s', o)` in relational form: the sender of a user operation is
    an account of the world, the authorisation guard of the endpoint passed, and then either the
    common part of the endpoint family ran (`stakeCore`, `claimCore`, …; see the traces above) or
    the new state is written out.  Proofs about all transactions go by cases on this relation. -/
inductive Step (s : St) : Op → St → Out → Prop
  | stake {c : Nat} {orig : Option Nat} {a : Nat} {adds : List Pay} {s' : St} {o : Out} :
      c ∈ s.accts → (orig = none ∨ c ∈ s.whitelist) →
      stakeCore s c (orig.getD c) a false adds = some (s', o) → Step s (.stake c orig a adds) s' o
  | stakeProxy {c orig a : Nat} {adds : List Pay} {s' : St} {o : Out} :
      c ∈ s.accts → c ∈ s.whitelist →
      stakeCore s c orig a true adds = some (s', o) → Step s (.stakeProxy c orig a adds) s' o
  | stakeBehalf {c u a : Nat} {adds : List Pay} {s' : St} {o : Out} :
      c ∈ s.accts → (u, c) ∈ s.hub → allOwnedBy s.md u adds = some () →
      stakeCore s c u a false adds = some (s', o) → Step s (.stakeBehalf c u a adds) s' o
  | claim {c : Nat} {orig : Option Nat} {p : Pay} {s' : St} {o : Out} :
      c ∈ s.accts → (orig = none ∨ c ∈ s.whitelist) →
      claimCore s c (orig.getD c) [p] none = some (s', o) → Step s (.claim c orig p) s' o
  | claimNew {c orig nv : Nat} {p : Pay} {s' : St} {o : Out} :
      c ∈ s.accts → c ∈ s.whitelist →
      claimCore s c orig [p] (some nv) = some (s', o) → Step s (.claimNew c orig nv p) s' o
  | claimBehalf {c u : Nat} {ps : List Pay} {s' : St} {o : Out} :
      c ∈ s.accts → claimOwner s.md ps = some u → (u, c) ∈ s.hub →
      claimCore s c u ps none = some (s', o) → Step s (.claimBehalf c ps) s' o
  | compound {c : Nat} {ps : List Pay} {s' : St} {o : Out} :
      c ∈ s.accts → Staking.compound s c ps = some (s', o) → Step s (.compound c ps) s' o
  | unstake {c : Nat} {orig : Option Nat} {p : Pay} {s' : St} {o : Out} :
      c ∈ s.accts → (orig = none ∨ c ∈ s.whitelist) →
      unstakeCore s c (orig.getD c) p none = some (s', o) → Step s (.unstake c orig p) s' o
  | unstakeProxy {c orig x : Nat} {p : Pay} {s' : St} {o : Out} :
      c ∈ s.accts → c ∈ s.whitelist →
      unstakeCore s c orig p (some x) = some (s', o) → Step s (.unstakeProxy c orig x p) s' o
  | unbond {c : Nat} {p : Pay} {hold0 : Nat → Nat → Nat} {unlock : Nat} :
      c ∈ s.accts → debit s.hold c [p] = some hold0 → s.active = true →
      unbondOf s.md p.1 = some unlock → unlock ≤ s.epoch → p.2 ≤ s.bal →
      Step s (.unbond c p)
        { s with hold := hold0, bal := s.bal - p.2, unbondOut := s.unbondOut - (p.2 : Int) }
        ⟨0, p.2, 0⟩
  | merge {c : Nat} {ps : List Pay} {s' : St} {o : Out} :
      c ∈ s.accts → mergeTokens s c ps = some (s', o) → Step s (.merge c ps) s' o
  | claimBoosted {c : Nat} {u : Option Nat} {s' : St} {o : Out} :
      c ∈ s.accts → claimBoostedRewards s c u = some (s', o) → Step s (.claimBoosted c u) s' o
  | query {q : Bool} {a : Nat} {t : Attrs} {r : St × Nat} :
      calcRewards s q a t = some r → Step s (.calc q a t) s ⟨0, 0, r.2⟩
  | transfer {a b : Nat} {p : Pay} {hold0 : Nat → Nat → Nat} :
      a ∈ s.accts → b ∈ s.accts → debit s.hold a [p] = some hold0 →
      Step s (.transfer a b p) { s with hold := upd2 hold0 b p.1 (hold0 b p.1 + p.2) } {}
  | setEnergy (u a l : Nat) :
      Step s (.setEnergy u a l) { s with energy := upd s.energy u (some ⟨(a : Int), s.epoch, l⟩) } {}
  | updateEnergy {u : Nat} {g : Weekly.St} :
      updateEnergyForUser s.w u s.week (Energy.queried (s.energy u) s.epoch) = some g →
      Step s (.updateEnergy u) { s with w := g } {}
  | topUp {x : Nat} :
      0 < x → Step s (.topUp x) { s with capacity := s.capacity + x, bal := s.bal + x } {}
  | withdraw {x : Nat} :
      s.accumulated ≤ s.capacity → genCut s (genTot s) ≤ genTot s →
      s.accumulated + genTot s ≤ s.capacity → x ≤ s.capacity - (s.accumulated + genTot s) →
      x ≤ s.capacity → x ≤ s.bal →
      Step s (.withdraw x) { settle s with capacity := s.capacity - x, bal := s.bal - x } ⟨0, x, 0⟩
  | setMaxApr {x : Nat} :
      x ≠ 0 → s.accumulated ≤ s.capacity → genCut s (genTot s) ≤ genTot s →
      Step s (.setMaxApr x) { settle s with maxApr := x } {}
  | setPerBlock {x : Nat} :
      x ≠ 0 → s.accumulated ≤ s.capacity → genCut s (genTot s) ≤ genTot s →
      Step s (.setPerBlock x) { settle s with perBlock := x } {}
  | startProduce :
      s.perBlock ≠ 0 → s.produce = false →
      Step s .startProduce { s with produce := true, lastBlock := s.block } {}
  | endProduce :
      s.accumulated ≤ s.capacity → genCut s (genTot s) ≤ genTot s →
      Step s .endProduce { settle s with produce := false } {}
  | setMinUnbond {e : Nat} :
      e ≤ MAX_MIN_UNBOND_EPOCHS → Step s (.setMinUnbond e) { s with minUnbond := e } {}
  | setBoostedPct {p : Nat} :
      p ≤ MAX_PERCENT → s.accumulated ≤ s.capacity → genCut s (genTot s) ≤ genTot s →
      Step s (.setBoostedPct p) { settle s with boostedPct := p } {}
  | setFactors {x : Factors} {c : BCfg} :
      0 < x.minE ∧ 0 < x.minF → 0 < x.cE ∨ 0 < x.cF → nextCfg s.b.cfg s.week x = some c →
      Step s (.setFactors x) { s with b := { s.b with cfg := some c } } {}
  | collectNone :
      USER_MAX_CLAIM_WEEKS + 1 < s.week →
      s.week - (USER_MAX_CLAIM_WEEKS + 1) < s.lastCollectWeek + 1 →
      Step s .collectUndistributed s {}
  | collectSome :
      USER_MAX_CLAIM_WEEKS + 1 < s.week →
      ¬ s.week - (USER_MAX_CLAIM_WEEKS + 1) < s.lastCollectWeek + 1 →
      Step s .collectUndistributed
        { s with
            b := { s.b with remaining := (collectWeeks
              (s.week - (USER_MAX_CLAIM_WEEKS + 1) + 1 - (s.lastCollectWeek + 1))
              (s.lastCollectWeek + 1) s.b.remaining s.undistributed).1 }
            undistributed := (collectWeeks
              (s.week - (USER_MAX_CLAIM_WEEKS + 1) + 1 - (s.lastCollectWeek + 1))
              (s.lastCollectWeek + 1) s.b.remaining s.undistributed).2
            lastCollectWeek := s.week - (USER_MAX_CLAIM_WEEKS + 1) } {}
  | pause : Step s .pause { s with active := false } {}
  | resume : Step s .resume { s with active := true } {}
  | hubWhitelist {u a : Nat} :
      (u, a) ∉ s.hub → Step s (.hubWhitelist u a) { s with hub := s.hub ++ [(u, a)] } {}
  | hubRemove {u a : Nat} :
      (u, a) ∈ s.hub → Step s (.hubRemove u a) { s with hub := s.hub.erase (u, a) } {}
  | advance (b e : Nat) :
      Step s (.advance b e) { s with block := s.block + b, epoch := s.epoch + e } {}

theorem callerOk_mem {s : St} {op : Op} {c : Nat} (h : callerOk s op = true)
    (hc : op.caller = some c) : c ∈ s.accts := by
  unfold callerOk at h
  rw [hc] at h
  exact of_decide_eq_true h

theorem step_eq_stepCore {s : St} {op : Op} (h : callerOk s op = true) : step s op = stepCore s op := by
  simp only [step, (req_eq_some ()).2 h, Option.bind_eq_bind, Option.bind_some]

theorem Step.of_step {s s' : St} {op : Op} {o : Out} (h : step s op = some (s', o)) :
    Step s op s' o := by
  unfold step at h
  obtain ⟨hc, h⟩ := peel_req h
  cases op with
  | stake c orig a adds =>
    obtain ⟨hw, h⟩ := peelOrig (f := fun u => stakeCore s c u a false adds) h
    exact .stake (callerOk_mem hc rfl) hw h
  | stakeProxy c orig a adds =>
    obtain ⟨hw, h⟩ := peel_req (show (req (c ∈ s.whitelist) >>= fun _ => _) = _ from h)
    exact .stakeProxy (callerOk_mem hc rfl) hw h
  | stakeBehalf c u a adds =>
    obtain ⟨hh, h⟩ := peel_req (show (req ((u, c) ∈ s.hub) >>= fun _ => _) = _ from h)
    obtain ⟨_, ho, h⟩ := peel h
    exact .stakeBehalf (callerOk_mem hc rfl) hh ho h
  | claim c orig p =>
    obtain ⟨hw, h⟩ := peelOrig (f := fun u => claimCore s c u [p] none) h
    exact .claim (callerOk_mem hc rfl) hw h
  | claimNew c orig nv p =>
    obtain ⟨hw, h⟩ := peel_req (show (req (c ∈ s.whitelist) >>= fun _ => _) = _ from h)
    exact .claimNew (callerOk_mem hc rfl) hw h
  | claimBehalf c ps =>
    obtain ⟨u, hu, h⟩ := peel (show (claimOwner s.md ps >>= fun _ => _) = _ from h)
    obtain ⟨hh, h⟩ := peel_req h
    exact .claimBehalf (callerOk_mem hc rfl) hu hh h
  | compound c ps => exact .compound (callerOk_mem hc rfl) h
  | unstake c orig p =>
    obtain ⟨hw, h⟩ := peelOrig (f := fun u => unstakeCore s c u p none) h
    exact .unstake (callerOk_mem hc rfl) hw h
  | unstakeProxy c orig x p =>
    obtain ⟨hw, h⟩ := peel_req (show (req (c ∈ s.whitelist) >>= fun _ => _) = _ from h)
    exact .unstakeProxy (callerOk_mem hc rfl) hw h
  | unbond c p =>
    obtain ⟨hx, hh, hact, ⟨unlock, hu, hle⟩, hbal, rfl, rfl⟩ := unbondFarm_iff.mp h
    exact .unbond (callerOk_mem hc rfl) (debit_single.2 ⟨hx, hh, rfl⟩) hact (unbondOf_eq_some.2 hu) hle hbal
  | merge c ps => exact .merge (callerOk_mem hc rfl) h
  | claimBoosted c u => exact .claimBoosted (callerOk_mem hc rfl) h
  | «calc» q a t =>
    obtain ⟨r, hr, h⟩ := Option.map_eq_some_iff.1 h
    obtain ⟨rfl, rfl⟩ := Prod.mk.inj h
    exact .query hr
  | transfer a b p =>
    obtain ⟨hb, h⟩ := peel_req (show (req (b ∈ s.accts) >>= fun _ => _) = _ from h)
    obtain ⟨hold0, hd, h⟩ := peel h
    obtain ⟨rfl, rfl⟩ := Prod.mk.inj (Option.some.inj h)
    exact .transfer (callerOk_mem hc rfl) hb hd
  | setEnergy u a l =>
    obtain ⟨rfl, rfl⟩ := Prod.mk.inj (Option.some.inj h)
    exact .setEnergy u a l
  | updateEnergy u =>
    obtain ⟨g, hg, h⟩ := peel (show (updateEnergyForUser s.w u s.week _ >>= fun _ => _) = _ from h)
    obtain ⟨rfl, rfl⟩ := Prod.mk.inj (Option.some.inj h)
    exact .updateEnergy hg
  | topUp x =>
    obtain ⟨hx, h⟩ := peel_req (show (req (0 < x) >>= fun _ => _) = _ from h)
    obtain ⟨rfl, rfl⟩ := Prod.mk.inj (Option.some.inj h)
    exact .topUp hx
  | withdraw x =>
    obtain ⟨ha, hcut, hrem, hx, hcap, hbal, rfl, rfl⟩ := withdraw_trace h
    exact .withdraw ha hcut hrem hx hcap hbal
  | setMaxApr x =>
    obtain ⟨hx, h⟩ := peel_req (show (req (x ≠ 0) >>= fun _ => _) = _ from h)
    obtain ⟨ha, hcut, rfl, rfl⟩ := settleThen_trace h
    exact .setMaxApr hx ha hcut
  | setPerBlock x =>
    obtain ⟨hx, h⟩ := peel_req (show (req (x ≠ 0) >>= fun _ => _) = _ from h)
    obtain ⟨ha, hcut, rfl, rfl⟩ := settleThen_trace h
    exact .setPerBlock hx ha hcut
  | startProduce =>
    obtain ⟨hp, h⟩ := peel_req (show (req (s.perBlock ≠ 0) >>= fun _ => _) = _ from h)
    obtain ⟨hq, h⟩ := peel_req h
    obtain ⟨rfl, rfl⟩ := Prod.mk.inj (Option.some.inj h)
    exact .startProduce hp hq
  | endProduce =>
    obtain ⟨ha, hcut, rfl, rfl⟩ :=
      settleThen_trace (show settleThen s (fun t => { t with produce := false }) = _ from h)
    exact .endProduce ha hcut
  | setMinUnbond e =>
    obtain ⟨he, h⟩ := peel_req (show (req (e ≤ MAX_MIN_UNBOND_EPOCHS) >>= fun _ => _) = _ from h)
    obtain ⟨rfl, rfl⟩ := Prod.mk.inj (Option.some.inj h)
    exact .setMinUnbond he
  | setBoostedPct p =>
    obtain ⟨hp, h⟩ := peel_req (show (req (p ≤ MAX_PERCENT) >>= fun _ => _) = _ from h)
    obtain ⟨ha, hcut, rfl, rfl⟩ := settleThen_trace h
    exact .setBoostedPct hp ha hcut
  | setFactors x =>
    obtain ⟨h1, h⟩ := peel_req (show (req (0 < x.minE ∧ 0 < x.minF) >>= fun _ => _) = _ from h)
    obtain ⟨h2, h⟩ := peel_req h
    obtain ⟨c, hn, h⟩ := peel h
    obtain ⟨rfl, rfl⟩ := Prod.mk.inj (Option.some.inj h)
    exact .setFactors h1 h2 hn
  | collectUndistributed =>
    obtain ⟨hw, rfl, ⟨hl, rfl⟩ | ⟨hl, rfl⟩⟩ := collectUndistributed_some h
    · exact .collectNone hw hl
    · exact .collectSome hw hl
  | pause =>
    obtain ⟨rfl, rfl⟩ := Prod.mk.inj (Option.some.inj h)
    exact .pause
  | resume =>
    obtain ⟨rfl, rfl⟩ := Prod.mk.inj (Option.some.inj h)
    exact .resume
  | hubWhitelist u a =>
    obtain ⟨hh, h⟩ := peel_req (show (req ((u, a) ∉ s.hub) >>= fun _ => _) = _ from h)
    obtain ⟨rfl, rfl⟩ := Prod.mk.inj (Option.some.inj h)
    exact .hubWhitelist hh
  | hubRemove u a =>
    obtain ⟨hh, h⟩ := peel_req (show (req ((u, a) ∈ s.hub) >>= fun _ => _) = _ from h)
    obtain ⟨rfl, rfl⟩ := Prod.mk.inj (Option.some.inj h)
    exact .hubRemove hh
  | advance b e =>
    obtain ⟨rfl, rfl⟩ := Prod.mk.inj (Option.some.inj h)
    exact .advance b e

theorem week_mono {s s' : St} (hf : s'.firstWeek = s.firstWeek) (he : s.epoch ≤ s'.epoch) :
    s.week ≤ s'.week := by
  simp only [St.week, EPOCHS_IN_WEEK, hf]
  omega

theorem week_eq {s s' : St} (hf : s'.firstWeek = s.firstWeek) (he : s'.epoch = s.epoch) :
    s'.week = s.week := by
  simp only [St.week, hf, he]

/-- `check_and_update_user_farm_position(user, payments)`: only `user`'s total can grow -/
theorem checkAndUpdate_le (m : Nat → Option Meta) (user : Nat) : ∀ (pays : List Pay) (ut ut1 : Nat → Nat),
    checkAndUpdate m user ut pays = some ut1 → ∀ x, x ≠ user → ut1 x ≤ ut x
  | [], ut, ut1, h, x, _ => by
      simp only [checkAndUpdate, Option.some.injEq] at h
      subst h; exact Nat.le_refl _
  | p :: ps, ut, ut1, h, x, hx => by
      simp only [checkAndUpdate, Option.bind_eq_bind, Option.bind_eq_some_iff] at h
      obtain ⟨a, _, h⟩ := h
      refine Nat.le_trans (checkAndUpdate_le m user ps _ ut1 h x hx) ?_
      by_cases hau : a.owner = user
      · rw [if_pos hau]
      · rw [if_neg hau, upd_other _ _ hx]
        unfold decreaseUT
        by_cases hxo : x = a.owner
        · subst hxo; rw [upd_same]; split <;> omega
        · rw [upd_other _ _ hxo]

theorem decreaseUT_le (ut : Nat → Nat) (owner amt x : Nat) : decreaseUT ut owner amt x ≤ ut x := by
  unfold decreaseUT
  by_cases hxo : x = owner
  · subst hxo; rw [upd_same]; split <;> omega
  · rw [upd_other _ _ hxo]

/-- `claimRewardsWithNewValue` replaces `amt` of the supply by the new value; the other claims
    leave the supply alone -/
theorem newSupply_spec {sup amt sup1 : Nat} {nv : Option Nat}
    (h : newSupply sup amt nv = some sup1) : sup1 + amt = sup + nv.getD amt := by
  cases nv with
  | none => rw [Option.some.inj h]; rfl
  | some x =>
    obtain ⟨_, hs, rfl⟩ := Option.map_eq_some_iff.1 h
    obtain ⟨hle, rfl⟩ := sub?_eq_some.1 hs
    show sup - amt + x + amt = sup + x
    omega

/-- the same for the total position of the original caller -/
theorem newUserTotal_spec {ut ut2 : Nat → Nat} {orig amt : Nat} {nv : Option Nat}
    (h : newUserTotal ut orig amt nv = some ut2) (o : Nat) :
    ut2 o + (if o = orig then amt else 0) = ut o + (if o = orig then nv.getD amt else 0) := by
  cases nv with
  | none => rw [Option.some.inj h]; rfl
  | some x =>
    obtain ⟨_, hs, rfl⟩ := Option.map_eq_some_iff.1 h
    obtain ⟨hle, rfl⟩ := sub?_eq_some.1 hs
    exact upd_ite_add (by show ut orig - amt + x + amt = ut orig + x; omega) o

theorem newUserTotal_other {ut ut2 : Nat → Nat} {orig amt : Nat} {nv : Option Nat}
    (h : newUserTotal ut orig amt nv = some ut2) (x : Nat) (hx : x ≠ orig) : ut2 x = ut x := by
  have := newUserTotal_spec h x
  rwa [if_neg hx, if_neg hx] at this

/-- `clear_user_energy_if_needed(u)` does nothing or is `update_energy_and_progress(u)` with a
    zero energy -/
theorem clearEnergyIfNeeded_some {s : St} {g g' : Weekly.St} {u : Nat}
    (h : clearEnergyIfNeeded s g u = some g') :
    g' = g ∨ updateEnergyAndProgress g u s.week (Energy.newZero s.epoch) = some g' := by
  unfold clearEnergyIfNeeded at h
  split at h
  · exact Or.inl (Option.some.inj h).symm
  · obtain ⟨c', _, h⟩ := peel h
    obtain ⟨x, _, h⟩ := peel h
    exact (clearUserEnergy_iff.mp h).imp And.right fun ht => updateEnergyAndProgress_iff.mpr ht.2

theorem updateEnergyForUser_uep {g g' : Weekly.St} {u W : Nat} {cur : Energy}
    (h : updateEnergyForUser g u W cur = some g') : updateEnergyAndProgress g u W cur = some g' :=
  updateEnergyAndProgress_iff.mpr (updateEnergyForUser_iff.mp h).2

/-- the user whose boosted claim the operation performs (`none`: the operation runs no boosted
    claim that is kept — `calc` is a VM query whose state `step` discards) -/
def claimerOf (s : St) : Op → Option Nat
  | .stake c orig _ _ => some (orig.getD c)
  | .stakeProxy _ orig _ _ => some orig
  | .stakeBehalf _ user _ _ => some user
  | .claim c orig _ => some (orig.getD c)
  | .claimNew _ orig _ _ => some orig
  | .claimBehalf _ pays => claimOwner s.md pays
  | .compound c _ => some c
  | .unstake c orig _ => some (orig.getD c)
  | .unstakeProxy _ orig _ _ => some orig
  | .merge c _ => some c
  | .claimBoosted c _ => some c
  | _ => none

/-- What an endpoint with claimer `u` does to the weekly and the boosted-yields storage: it runs
    `claim_boosted_yields_rewards(u, total position of u BEFORE the operation)` in `t` — the entry
    state (stake, merge) or the entry state after reward generation (claim, compound, unstake,
    claimBoostedRewards) — and stores what that call returns (`r`), up to `farmSupplyForWeek`, the
    boosted cut of a settlement that comes after the claim (stake), and a closing
    `update_energy_and_progress(u)` (`clear_user_energy_if_needed(u)` is one with a zero energy,
    or nothing).  A changed farm-token supply is recorded for the current week, and nobody's
    total position but `u`'s grows. -/
structure Claims (s s' : St) (u : Nat) (t : St) (r : Weekly.St × B × Nat) : Prop where
  entry : t = s ∨ t = genSt s
  claim : claimBoostedYields t u (s.userTotal u) = some r
  b : ∃ fs, (s'.b = { r.2.1 with farmSupply := fs } ∧ s'.boostedBudget = t.boostedBudget) ∨
    (t = s ∧ s'.boostedBudget = s.boostedBudget + genCut s (genTot s) ∧
      s'.b = { r.2.1 with
                farmSupply := fs
                accumulated := upd r.2.1.accumulated s.week
                  (r.2.1.accumulated s.week + genCut s (genTot s)) })
  w : s'.w = r.1 ∨ ∃ cur, updateEnergyAndProgress r.1 u s.week cur = some s'.w
  paid : s'.paidBoosted = s.paidBoosted + r.2.2
  und : s'.undistributed = s.undistributed
  lcw : s'.lastCollectWeek = s.lastCollectWeek
  epoch : s'.epoch = s.epoch
  firstWeek : s'.firstWeek = s.firstWeek
  fs : s'.b.farmSupply = upd r.2.1.farmSupply s.week s'.supply ∨
    (s'.b.farmSupply = r.2.1.farmSupply ∧ s'.supply = s.supply)
  ut : ∀ x, x ≠ u → s'.userTotal x ≤ s.userTotal x

theorem Claims.entry_frame {s s' t : St} {u : Nat} {r : Weekly.St × B × Nat}
    (k : Claims s s' u t r) :
    t.w = s.w ∧ t.week = s.week ∧ t.b.paid = s.b.paid ∧ t.b.remaining = s.b.remaining ∧
      t.b.collected = s.b.collected ∧ t.b.farmSupply = s.b.farmSupply := by
  rcases k.entry with rfl | rfl
  · exact ⟨rfl, rfl, rfl, rfl, rfl, rfl⟩
  · exact ⟨rfl, rfl, rfl, rfl, rfl, rfl⟩

theorem Claims.pools {s s' t : St} {u : Nat} {r : Weekly.St × B × Nat} (h : Claims s s' u t r) :
    s'.b.paid = r.2.1.paid ∧ s'.b.remaining = r.2.1.remaining ∧
      s'.b.collected = r.2.1.collected ∧ s'.b.cfg = r.2.1.cfg := by
  obtain ⟨fs, ⟨e, _⟩ | ⟨_, _, e⟩⟩ := h.b <;> rw [e] <;> exact ⟨rfl, rfl, rfl, rfl⟩

theorem stakeCore_claims {s s' : St} {c u amount : Nat} {v : Bool} {adds : List Pay} {o : Out}
    (h : stakeCore s c u amount v adds = some (s', o)) : ∃ r, Claims s s' u s r ∧ o.c = r.2.2 := by
  obtain ⟨hold0, r, ut1, merged, w2, t⟩ := stakeCore_trace h
  obtain rfl := t.state
  obtain rfl := t.out
  exact ⟨r, ⟨Or.inl rfl, t.claimBoostedYields, ⟨_, Or.inr ⟨rfl, rfl, rfl⟩⟩,
    Or.inr ⟨_, t.updateEnergyAndProgress⟩, rfl, rfl, rfl, rfl,
    rfl, Or.inl rfl, fun x hx => Nat.le_trans (Nat.le_of_eq (upd_other _ _ hx))
      (checkAndUpdate_le s.md _ _ _ _ t.checkAndUpdate x hx)⟩, rfl⟩

theorem claimCore_claims {s s' : St} {c u : Nat} {pays : List Pay} {nv : Option Nat} {o : Out}
    (h : claimCore s c u pays nv = some (s', o)) : ∃ r, Claims s s' u (genSt s) r := by
  obtain ⟨hold0, p, first, tok, r, ut1, merged, supply1, ut2, w2, t⟩ := claimCore_trace h
  obtain rfl := t.state
  exact ⟨r, Or.inr rfl, t.claimBoostedYields, ⟨_, Or.inl ⟨rfl, rfl⟩⟩,
    Or.inr ⟨_, t.updateEnergyAndProgress⟩, rfl, rfl, rfl,
    rfl, rfl, Or.inl rfl, fun x hx => Nat.le_trans (Nat.le_of_eq (newUserTotal_other t.newUserTotal x hx))
      (checkAndUpdate_le s.md u pays _ _ t.checkAndUpdate x hx)⟩

theorem unstakeCore_claims {s s' : St} {c u : Nat} {pay : Pay} {x : Option Nat} {o : Out}
    (h : unstakeCore s c u pay x = some (s', o)) : ∃ r, Claims s s' u (genSt s) r := by
  obtain ⟨hold0, attrs, tok, r, w2, t⟩ := unstakeCore_trace h
  obtain rfl := t.state
  exact ⟨r, Or.inr rfl, t.claimBoostedYields, ⟨_, Or.inl ⟨rfl, rfl⟩⟩,
    (clearEnergyIfNeeded_some t.clearEnergyIfNeeded).imp_right fun h => ⟨_, h⟩, rfl, rfl,
    rfl, rfl, rfl, Or.inl rfl, fun x _ => decreaseUT_le _ _ _ x⟩

theorem Step.claims {s s' : St} {op : Op} {o : Out} (h : Step s op s' o) {u : Nat}
    (hu : claimerOf s op = some u) : ∃ t r, Claims s s' u t r := by
  cases h with
  | stake _ _ h | stakeProxy _ _ h | stakeBehalf _ _ _ h =>
    cases hu
    obtain ⟨r, k, _⟩ := stakeCore_claims h
    exact ⟨s, r, k⟩
  | claim _ _ h | claimNew _ _ h =>
    cases hu
    exact ⟨_, claimCore_claims h⟩
  | claimBehalf _ ho _ h =>
    cases ho.symm.trans hu
    exact ⟨_, claimCore_claims h⟩
  | compound _ h =>
    cases hu
    obtain ⟨hold0, p, first, tok, r, ut1, merged, t⟩ := compound_trace h
    obtain rfl := t.state
    exact ⟨genSt s, r, Or.inr rfl, t.claimBoostedYields, ⟨_, Or.inl ⟨rfl, rfl⟩⟩, Or.inl rfl, rfl, rfl,
      rfl, rfl, rfl, Or.inl rfl, fun x hx => Nat.le_trans (Nat.le_of_eq (upd_other _ _ hx))
        (checkAndUpdate_le s.md _ _ _ _ t.checkAndUpdate x hx)⟩
  | unstake _ _ h | unstakeProxy _ _ h =>
    cases hu
    exact ⟨_, unstakeCore_claims h⟩
  | merge _ h =>
    cases hu
    obtain ⟨hold0, r, p, ut1, first, part, merged, t⟩ := mergeTokens_trace h
    obtain rfl := t.state
    exact ⟨s, r, Or.inl rfl, t.claimBoostedYields, ⟨r.2.1.farmSupply, Or.inl ⟨rfl, rfl⟩⟩, Or.inl rfl,
      rfl, rfl, rfl, rfl, rfl, Or.inr ⟨rfl, rfl⟩, checkAndUpdate_le s.md _ _ _ _ t.checkAndUpdate⟩
  | claimBoosted _ h =>
    cases hu
    obtain ⟨r, t⟩ := claimBoostedRewards_trace h
    obtain rfl := t.state
    exact ⟨genSt s, r, Or.inr rfl, t.claimBoostedYields, ⟨_, Or.inl ⟨rfl, rfl⟩⟩, Or.inl rfl, rfl, rfl,
      rfl, rfl, rfl,
      Or.inl rfl, fun _ _ => Nat.le_refl _⟩
  | unbond | query | transfer | setEnergy | updateEnergy | topUp | withdraw | setMaxApr
  | setPerBlock | startProduce | endProduce | setMinUnbond | setBoostedPct | setFactors
  | collectNone | collectSome | pause | resume | hubWhitelist | hubRemove | advance =>
    cases hu

/-- the cells the weekly-rewards and boosted-yields invariants read -/
structure WB where
  w : Weekly.St
  b : B
  und : Nat
  lcw : Nat
  paid : Nat
  budget : Nat
  ut : Nat → Nat
  supply : Nat
  epoch : Nat
  firstWeek : Nat

def wb (s : St) : WB :=
  ⟨s.w, s.b, s.undistributed, s.lastCollectWeek, s.paidBoosted, s.boostedBudget, s.userTotal,
   s.supply, s.epoch, s.firstWeek⟩

/-- What a successful operation does to the cells `wb`: it runs the boosted claim of its claimer
    (`Claims`), or it has no claimer and leaves them as they are up to ONE of: the boosted cut of
    a settlement, a new stored configuration, the energy update of one user, the sweep of the
    undistributed rewards, the passage of time. -/
inductive Kind (s : St) (op : Op) (s' : St) : Prop
  | claim {u : Nat} {t : St} {r : Weekly.St × B × Nat} (hc : claimerOf s op = some u)
      (k : Claims s s' u t r)
  | same (hc : claimerOf s op = none) (e : wb s' = wb s)
  | settle (hc : claimerOf s op = none) (e : wb s' = wb (genSt s))
  | factors (hc : claimerOf s op = none) {x : Factors} {c : BCfg}
      (hn : nextCfg s.b.cfg s.week x = some c)
      (e : wb s' = wb { s with b := { s.b with cfg := some c } })
  | energy (hc : claimerOf s op = none) {u : Nat} {g : Weekly.St}
      (hg : updateEnergyAndProgress s.w u s.week (Energy.queried (s.energy u) s.epoch) = some g)
      (e : wb s' = wb { s with w := g })
  /-- `e` is the frame: of the cells `wb` the sweep writes `b.remaining`, `undistributed` and
      `lastCollectWeek` only; WHAT it writes there is read off `h` (`collectUndistributed_spec`) -/
  | sweep {o : Out} (hop : op = .collectUndistributed) (h : collectUndistributed s = some (s', o))
      (e : wb s' = wb { s with b := { s.b with remaining := s'.b.remaining },
                               undistributed := s'.undistributed,
                               lastCollectWeek := s'.lastCollectWeek })
  | tick (hc : claimerOf s op = none) (d : Nat) (e : wb s' = wb { s with epoch := s.epoch + d })

theorem step_kind {s s' : St} {op : Op} {o : Out} (h : step s op = some (s', o)) : Kind s op s' := by
  have hs := Step.of_step h
  cases hc : claimerOf s op with
  | some u =>
    obtain ⟨t, r, k⟩ := hs.claims hc
    exact .claim hc k
  | none =>
    cases hs with
    | claimBehalf _ ho => cases ho.symm.trans hc
    | stake | stakeProxy | stakeBehalf | claim | claimNew | compound | unstake | unstakeProxy | merge
    | claimBoosted => cases hc
    | withdraw | setMaxApr | setPerBlock | endProduce | setBoostedPct => exact .settle hc rfl
    | setFactors _ _ hn => exact .factors hc hn rfl
    | updateEnergy hg => exact .energy hc (updateEnergyForUser_uep hg) rfl
    | collectNone | collectSome => exact .sweep rfl (peel_req h).2 rfl
    | advance b e => exact .tick hc e rfl
    | unbond | query | transfer | setEnergy | topUp | startProduce | setMinUnbond | pause | resume
    | hubWhitelist | hubRemove => exact .same hc rfl

theorem run_induction {P : St → Prop}
    (hstep : ∀ {s s' : St} {op : Op} {o : Out}, P s → step s op = some (s', o) → P s') :
    ∀ (ops : List Op) {s : St}, P s → P (run s ops)
  | [], _, h => h
  | op :: ops, s, h => by
    show P (run (match step s op with | some r => r.1 | none => s) ops)
    cases hst : step s op with
    | none => exact run_induction hstep ops h
    | some r => exact run_induction hstep ops (hstep h hst)

/-- the state after one operation of a history (a failed transaction changes nothing) -/
def next (s : St) (op : Op) : St :=
  match step s op with
  | some r => r.1
  | none => s

theorem run_cons (s : St) (op : Op) (ops : List Op) : run s (op :: ops) = run (next s op) ops := rfl

theorem next_of_some {s : St} {op : Op} {r : St × Out} (h : step s op = some r) : next s op = r.1 := by
  unfold next; rw [h]

theorem next_of_none {s : St} {op : Op} (h : step s op = none) : next s op = s := by
  unfold next; rw [h]

theorem next_ind {P : St → Prop} {s : St} (op : Op) (h0 : P s)
    (h1 : ∀ {s' : St} {o : Out}, step s op = some (s', o) → P s') : P (next s op) := by
  unfold next
  cases hs : step s op with
  | none => exact h0
  | some r => exact h1 hs

theorem run_cons_some {s s1 : St} {op : Op} {o : Out} (ops : List Op) (h : step s op = some (s1, o)) :
    run s (op :: ops) = run s1 ops := by
  simp only [run, List.foldl_cons, h]

theorem run_cons_none {s : St} {op : Op} (ops : List Op) (h : step s op = none) :
    run s (op :: ops) = run s ops := by
  simp only [run, List.foldl_cons, h]

theorem run_append (s : St) (a b : List Op) : run s (a ++ b) = run (run s a) b := by
  simp [run, List.foldl_append]

end Mx.Staking
