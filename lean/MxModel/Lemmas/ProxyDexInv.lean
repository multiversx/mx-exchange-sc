/-
  The backing invariant of the proxy-dex model and its preservation by every building block
  (`takeW`, `takeF`, `newW`, `recL`, `recW`, …); the endpoints follow in ProxyDexOps.
-/
import MxModel.Lemmas.ProxyDexSpec
import MxModel.Lemmas.ProxyDexTrace

namespace Mx.ProxyDex

/-- Every reserve recorded in an outstanding wrapped token is covered by the proxy's real
    balance of the same token, per key (locked-token nonce, farm token, wrapped-LP nonce), and
    every record's reserve covers its outstanding amount pro rata. -/
structure Backed (s : St) : Prop where
  lk : ∀ κ, R s κ ≤ s.lk κ
  hf : ∀ g φ, F s g φ ≤ s.hf g φ
  hw : ∀ w, H s w ≤ heldOf s w
  pt : Pt s

theorem backed_init (now : Nat) : Backed (init now) := by
  refine ⟨?_, ?_, ?_, ?_, ?_⟩
  · intro κ; simp [R, init, remAt, remPLk, WLp.dummy, WFarm.dummy]
  · intro g φ; simp [F, init, remFAt, WFarm.dummy]
  · intro w; simp [H, init, remPW, WFarm.dummy]
  · intro r hr; simp [init] at hr; subst hr; simp [WOk, WLp.dummy]
  · intro q hq; simp [init] at hq; subst hq; simp [FOk, WFarm.dummy]

theorem heldOf_of_get {s : St} {w : Nat} {rw : WLp} (h : s.wl[w]? = some rw) :
    heldOf s w = rw.held := by
  unfold heldOf; rw [h]

theorem heldOf_length (s : St) : heldOf s s.wl.length = 0 := by
  unfold heldOf; rw [List.getElem?_eq_none (Nat.le_refl _)]

theorem takeW_backed {s s' : St} {w x p : Nat} {r : WLp} {o : Bool} (hb : Backed s)
    (h : takeW s w x o = some (s', r, p)) : Backed s' := by
  obtain ⟨hR, hL, hF, hH, hhf, hheld, hpt⟩ := takeW_delta h
  refine ⟨?_, ?_, ?_, hpt hb.pt⟩
  · intro κ; have := hR κ; have := hL κ; have := hb.lk κ; omega
  · intro g φ; rw [hF, hhf]; exact hb.hf g φ
  · intro v; rw [hH, hheld]; exact hb.hw v

theorem Backed.lk_mono {s s' : St} (h1 : s'.wl = s.wl) (h2 : s'.wf = s.wf)
    (h3 : ∀ κ, s.lk κ ≤ s'.lk κ) (h4 : s'.hf = s.hf) (hb : Backed s) : Backed s' := by
  have eR : ∀ κ, R s' κ = R s κ := fun κ => by simp only [R, h1, h2]
  have eF : ∀ g φ, F s' g φ = F s g φ := fun g φ => by simp only [F, h2]
  have eH : ∀ v, H s' v = H s v := fun v => by simp only [H, h2]
  have eh : ∀ v, heldOf s' v = heldOf s v := fun v => by simp only [heldOf, h1]
  refine ⟨?_, ?_, ?_, ?_⟩
  · intro κ; rw [eR]; exact Nat.le_trans (hb.lk κ) (h3 κ)
  · intro g φ; rw [eF, h4]; exact hb.hf g φ
  · intro v; rw [eH, eh]; exact hb.hw v
  · unfold Pt; rw [h1, h2]; exact hb.pt

theorem Backed.congr {s s' : St} (h1 : s'.wl = s.wl) (h2 : s'.wf = s.wf) (h3 : s'.lk = s.lk)
    (h4 : s'.hf = s.hf) (hb : Backed s) : Backed s' :=
  hb.lk_mono h1 h2 (fun κ => Nat.le_of_eq (congrFun h3 κ).symm) h4

theorem learn_backed {s : St} (t : LkTok) (hb : Backed s) : Backed (learn s t) :=
  Backed.congr (s := s) (s' := learn s t) rfl rfl rfl rfl hb

theorem learnOpt_backed {s : St} (t : Option LkTok) (hb : Backed s) : Backed (learnOpt s t) := by
  cases t with
  | none => exact hb
  | some t => exact learn_backed t hb

theorem burnLocked_backed {s : St} (k a : Nat) (hb : Backed s) : Backed (burnLocked s k a) :=
  Backed.congr (s := s) (s' := burnLocked s k a) rfl rfl rfl rfl hb

theorem addStray_backed {s : St} (l : List LkTok) (hb : Backed s) : Backed (addStray s l) :=
  addStray_induct (fun {s} t hb => hb.lk_mono (s := s) rfl rfl (Bag.le_add s.lk t.k t.amt) rfl) hb

theorem newW_backed {s : St} (total k locked : Nat) (u : Bool) (hb : Backed s) :
    Backed (newW s total k locked u).1 := by
  obtain ⟨hR, hL, hheld, hwf, hhf, hpt⟩ := newW_delta s total k locked u
  refine ⟨?_, ?_, ?_, hpt hb.pt⟩
  · intro κ; rw [hR, hL]; have := hb.lk κ; omega
  · intro g φ; simp only [F, hwf, hhf]; exact hb.hf g φ
  · intro v
    have e : H (newW s total k locked u).1 v = H s v := by simp only [H, hwf]
    rw [e, hheld]
    split
    · rename_i hv; subst hv
      have := hb.hw s.wl.length
      rw [heldOf_length] at this; omega
    · exact hb.hw v

/-- `hH`: the new record still holds what the wrapped farm tokens record of it; `hlk`: the locked
    tokens that leave the proxy's balance are covered by the shrinking of the record's reserve -/
theorem setW_backed {s : St} {w : Nat} {r r' : WLp} {lk : Bag} (hb : Backed s)
    (hr : s.wl[w]? = some r) (hk : r'.k = r.k) (hok : WOk r') (hH : H s w ≤ r'.held)
    (hrem : r'.rem ≤ r.rem)
    (hlk : ∀ κ, s.lk κ ≤ lk κ + (if r.k = κ then r.rem - r'.rem else 0)) :
    Backed { setW s w r' with lk := lk } := by
  obtain ⟨hR, hheld, hpt⟩ := setW_delta s w r r' hr hk
  refine ⟨fun κ => ?_, hb.hf, fun v => ?_, hpt hok hb.pt⟩
  · have h1 := hR κ; have h2 := hlk κ; have := hb.lk κ
    show R (setW s w r') κ ≤ lk κ
    by_cases e : r.k = κ
    · rw [if_pos e, if_pos e] at h1; rw [if_pos e] at h2; omega
    · rw [if_neg e, if_neg e] at h1; rw [if_neg e] at h2; omega
  · show H s v ≤ heldOf (setW s w r') v
    rw [hheld]
    split
    · rename_i hv; subst hv; exact hH
    · exact hb.hw v

/-- `hL` / `hW`: the proxy-farming part `pa` is in the proxy and not yet recorded by anything (the
    farm tokens are booked by `newF` itself) -/
theorem newF_backed {s : St} (farm fn fa : Nat) (kind : Kind) (pn pa : Nat) (hb : Backed s)
    (hL : kind = .locked → R s pn + pa ≤ s.lk pn)
    (hW : kind = .wlp → H s pn + pa ≤ heldOf s pn) :
    Backed (newF s farm fn fa kind pn pa).1 := by
  obtain ⟨hR, hH, hF, hhf, hwl, hlk, hpt⟩ := newF_delta s farm fn fa kind pn pa
  have eh : ∀ v, heldOf (newF s farm fn fa kind pn pa).1 v = heldOf s v := fun v => by
    simp only [heldOf, hwl]
  refine ⟨fun κ => ?_, fun g φ => ?_, fun v => ?_, hpt hb.pt⟩
  · rw [hR, hlk]
    split
    · rename_i hc; obtain ⟨hc, rfl⟩ := hc; exact hL hc
    · exact hb.lk κ
  · rw [hF, hhf]; have := hb.hf g φ; omega
  · rw [hH, eh]
    split
    · rename_i hc; obtain ⟨hc, rfl⟩ := hc; exact hW hc
    · exact hb.hw v

theorem recL_backed {s : St} (farm fn fa k a : Nat) (hb : Backed s) :
    Backed (recL s farm fn fa k a) := by
  refine newF_backed _ _ _ _ _ _ (hb.lk_mono (s := s) rfl rfl (Bag.le_add s.lk k a) rfl)
    (fun _ => ?_) (fun h => nomatch h)
  show R s k + a ≤ s.lk.add k a k
  rw [Bag.add_apply, if_pos rfl]
  exact Nat.add_le_add_right (hb.lk k) a

theorem recW_backed {s : St} (farm fn fa total k locked : Nat) (hb : Backed s) :
    Backed (recW s farm fn fa total k locked) := by
  obtain ⟨-, -, hheld, hwf, -, -⟩ := newW_delta s total k locked false
  refine newF_backed _ _ _ _ _ _ (newW_backed total k locked false hb) (fun h => nomatch h)
    (fun _ => ?_)
  have e : H (newW s total k locked false).1 s.wl.length = H s s.wl.length := by simp only [H, hwf]
  have := hb.hw s.wl.length
  rw [heldOf_length] at this
  rw [e, hheld, if_pos rfl]
  show H s s.wl.length + total ≤ total
  omega

/-- between `takeF0` and `settle` the proxy-farming part `p` is still in the proxy but no longer
    recorded by the wrapped farm token: the two extra conjuncts, which `settle_backed` consumes -/
theorem takeF0_backed {s s1 : St} {f x p : Nat} {r : WFarm} (hb : Backed s)
    (h : takeF0 s f x = some (s1, r, p)) :
    Backed s1 ∧ (r.kind = .locked → R s1 r.pn + p ≤ s1.lk r.pn) ∧
      (r.kind = .wlp → H s1 r.pn + p ≤ heldOf s1 r.pn) := by
  obtain ⟨hR, hH, hF, hhf, hwl, hlk, hpt⟩ := takeF0_delta h
  have eh : ∀ v, heldOf s1 v = heldOf s v := fun v => by simp only [heldOf, hwl]
  refine ⟨⟨?_, ?_, ?_, hpt hb.pt⟩, fun hk => ?_, fun hk => ?_⟩
  · intro κ; have := hR κ; have := hb.lk κ; rw [hlk]; omega
  · intro g φ; have := hF g φ; have := hhf g φ; have := hb.hf g φ; omega
  · intro v; have := hH v; have := hb.hw v; rw [eh]; omega
  · have := hR r.pn; rw [if_pos ⟨hk, rfl⟩] at this
    have := hb.lk r.pn
    rw [hlk]; omega
  · have := hH r.pn; rw [if_pos ⟨hk, rfl⟩] at this
    have := hb.hw r.pn
    rw [eh]; omega

theorem settle_backed {s s' : St} {r : WFarm} {p k q : Nat} {mode : Mode} (hb : Backed s)
    (hL : r.kind = .locked → R s r.pn + p ≤ s.lk r.pn)
    (hW : r.kind = .wlp → H s r.pn + p ≤ heldOf s r.pn)
    (h : settle s r p mode = some (s', k, q)) : Backed s' := by
  by_cases hm : mode = .keep
  · subst hm; obtain ⟨rfl, -, -⟩ := settle_keep h; exact hb
  cases hk : r.kind with
  | locked =>
    obtain ⟨-, -, -, rfl⟩ := settle_locked hm hk h
    refine ⟨fun κ => ?_, hb.hf, hb.hw, hb.pt⟩
    show R s κ ≤ if κ = r.pn then s.lk κ - p else s.lk κ
    split
    · rename_i e; subst e; have := hL hk; omega
    · exact hb.lk κ
  | wlp =>
    have hW := hW hk
    cases mode with
    | keep => exact absurd rfl hm
    | out =>
      obtain ⟨rw, hrw, hle, -, -, rfl⟩ := settle_wlp_out hk h
      rw [heldOf_of_get hrw] at hW
      have h0 : WOk rw := hb.pt.1 rw (List.mem_of_getElem? hrw)
      refine setW_backed (lk := s.lk) hb hrw rfl ?_ (by show H s r.pn ≤ rw.held - p; omega)
        (Nat.le_refl _) (fun κ => Nat.le_add_right _ _)
      unfold WOk at *
      show rw.locked * (rw.circ + p + (rw.held - p)) ≤ rw.rem * rw.total
      rwa [show rw.circ + p + (rw.held - p) = rw.circ + rw.held by omega]
    | dissolve o =>
      obtain ⟨rw, hrw, hle, hq, hrem, -, -, rfl⟩ := settle_wlp_dissolve hk h
      rw [heldOf_of_get hrw] at hW
      have h0 : WOk rw := hb.pt.1 rw (List.mem_of_getElem? hrw)
      refine setW_backed hb hrw rfl ?_ (by show H s r.pn ≤ rw.held - p; omega)
        (Nat.sub_le _ _) (fun κ => ?_)
      · unfold WOk at *
        have := cover_sub h0 (part_mul_le hq) (Nat.le_trans hle (Nat.le_add_left _ _)) hrem
        show rw.locked * (rw.circ + (rw.held - p)) ≤ (rw.rem - q) * rw.total
        rwa [show rw.circ + (rw.held - p) = rw.circ + rw.held - p by omega]
      · show s.lk κ ≤ (if κ = rw.k then s.lk κ - q else s.lk κ) +
          (if rw.k = κ then rw.rem - (rw.rem - q) else 0)
        by_cases e : rw.k = κ
        · rw [if_pos e, if_pos e.symm]; omega
        · rw [if_neg e, if_neg (Ne.symm e)]; omega

theorem takeF_backed {s s' : St} {f x : Nat} {mode : Mode} {t : Taken} (hb : Backed s)
    (h : takeF s f x mode = some (s', t)) : Backed s' := by
  obtain ⟨s1, h0, hs⟩ := takeF_spec h
  obtain ⟨hb1, hL, hW⟩ := takeF0_backed hb h0
  exact settle_backed hb1 hL hW hs

theorem takeWs_backed {s s' : St} {l : List (Nat × Nat)} {t : Nat} (hb : Backed s)
    (h : takeWs s l = some (s', t)) : Backed s' :=
  takeWs_induct takeW_backed hb h

theorem takeFs_backed {s s' : St} {farm : Nat} {kind : Kind} {l : List (Nat × Nat)} {t : Nat}
    (hb : Backed s) (h : takeFs s farm kind l = some (s', t)) : Backed s' :=
  takeFs_induct takeF_backed hb h

theorem Backed.scalars {s : St} (hb : Backed s) (now lp minted burnB burnL : Nat) (eDed : Int)
    (unl : Bag) :
    Backed { s with now := now, lp := lp, minted := minted, burnB := burnB, burnL := burnL,
                    eDed := eDed, unl := unl } :=
  Backed.congr (s := s) rfl rfl rfl rfl hb

end Mx.ProxyDex
