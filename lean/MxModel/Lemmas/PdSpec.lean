/-
  Price discovery: exact characterisations of deposit / withdraw / redeem — a call succeeds with
  a given result precisely when the listed guards hold and the new state is the old one with the
  named side replaced — and the bookkeeping lemmas about `side` / `setSide`.
  Property theorems (Props/C17) are proved from these, never by unfolding `step`.
-/
import MxModel.Core.PriceDiscovery

namespace Mx.PD

@[simp] theorem other_other (t : Tok) : t.other.other = t := by cases t <;> rfl
@[simp] theorem other_ne (t : Tok) : t.other ≠ t := by cases t <;> simp [Tok.other]
@[simp] theorem ne_other (t : Tok) : t ≠ t.other := by cases t <;> simp [Tok.other]

@[simp] theorem side_setSide (s : St) (t : Tok) (x : Side) : (s.setSide t x).side t = x := by
  cases t <;> rfl
@[simp] theorem side_setSide_other (s : St) (t : Tok) (x : Side) :
    (s.setSide t x).side t.other = s.side t.other := by cases t <;> rfl
@[simp] theorem side_other_setSide (s : St) (t : Tok) (x : Side) :
    (s.setSide t.other x).side t = s.side t := by cases t <;> rfl
@[simp] theorem setSide_cfg (s : St) (t : Tok) (x : Side) : (s.setSide t x).cfg = s.cfg := by
  cases t <;> rfl
@[simp] theorem setSide_n (s : St) (t : Tok) (x : Side) : (s.setSide t x).n = s.n := by
  cases t <;> rfl
@[simp] theorem setSide_block (s : St) (t : Tok) (x : Side) : (s.setSide t x).block = s.block := by
  cases t <;> rfl
@[simp] theorem setSide_epoch (s : St) (t : Tok) (x : Side) : (s.setSide t x).epoch = s.epoch := by
  cases t <;> rfl
@[simp] theorem setSide_phase (s : St) (t : Tok) (x : Side) : (s.setSide t x).phase = s.phase := by
  cases t <;> rfl

theorem side_of_ne {t t' : Tok} (h : t' ≠ t) : t' = t.other := by
  cases t <;> cases t' <;> simp_all [Tok.other]

/-- a field that the new side `x` has in common with the side it replaces reads the same, on
    either side, before and after -/
theorem setSide_frame {α : Type} (f : Side → α) {s : St} {t : Tok} {x : Side}
    (h : f x = f (s.side t)) (t' : Tok) : f ((s.setSide t x).side t') = f (s.side t') := by
  by_cases ht : t' = t
  · rw [ht, side_setSide, h]
  · rw [side_of_ne ht, side_setSide_other]

@[simp] theorem upd_same (f : Nat → Nat) (c v : Nat) : upd f c v c = v := by simp [upd]
theorem upd_ne (f : Nat → Nat) {c u : Nat} (v : Nat) (h : u ≠ c) : upd f c v u = f u := by
  simp [upd, h]

theorem priceOf_eq_some {c : Cfg} {l a p : Nat} :
    priceOf c l a = some p ↔ 0 < l ∧ p = a * c.prec / l := by
  simp only [priceOf, Option.bind_eq_bind, Option.bind_eq_some_iff, req_eq_some,
    Option.pure_def, Option.some.injEq]
  constructor
  · rintro ⟨_, h, rfl⟩; exact ⟨h, rfl⟩
  · rintro ⟨h, rfl⟩; exact ⟨(), h, rfl⟩

theorem priceOf_eq_none {c : Cfg} {l a : Nat} : priceOf c l a = none ↔ l = 0 := by
  unfold priceOf
  by_cases h : 0 < l
  · simp [req, h]; omega
  · simp [req, h]; omega

/-- the tracked pool of a token -/
def St.bal (s : St) (t : Tok) : Nat := (s.side t).bal

theorem price_def (s : St) : s.price = priceOf s.cfg (s.bal .launched) (s.bal .accepted) := rfl

/-- `getCurrentPrice` reads nothing of a side but its tracked pool -/
theorem price_setSide_congr (s : St) (t : Tok) {x y : Side} (h : x.bal = y.bal) :
    (s.setSide t x).price = (s.setSide t y).price := by
  cases t <;> simp only [St.price, St.setSide, h]

/-- The views have type `St → _`: they return no state, so evaluating one cannot change
    anything.  The statement below only records that `viewPhase s` is `s.phase`; "quoting never
    changes state" on the real code is the harness clause `view_pure`. -/
theorem view_pure (s : St) : (viewPhase s, viewPrice s, viewSupply s .launched, viewSupply s .accepted).1 = s.phase := rfl

/-- side `t` after a deposit of `amt` by `c` -/
def depSide (x : Side) (c amt : Nat) : Side :=
  { x with w := upd x.w c (x.w c - amt), real := x.real + amt, bal := x.bal + amt,
           sup := x.sup + amt, h := upd x.h c (x.h c + amt) }

/-- side `t` after a withdrawal of `amt` redeem tokens by `c` with penalty `pen` -/
def wdSide (x : Side) (c amt pen : Nat) : Side :=
  { x with h := upd x.h c (x.h c - amt), sup := x.sup - amt, bal := x.bal - (amt - pen),
           real := x.real - (amt - pen), w := upd x.w c (x.w c + (amt - pen)) }

/-- side `t` (redeem tokens handed in) after `redeem` -/
def rdSideX (x : Side) (c amt : Nat) : Side :=
  { x with h := upd x.h c (x.h c - amt), red := x.red + amt }

/-- the opposite side (tokens paid out) after `redeem`: `bought` goes to `c`, wrapped in LOCKED
    tokens when `locked` -/
def rdSideY (y : Side) (c bought : Nat) (locked : Bool) : Side :=
  { y with real := y.real - bought, paid := y.paid + bought,
           lock := if locked then y.lock + bought else y.lock,
           k := if locked then upd y.k c (y.k c + bought) else y.k,
           w := if locked then y.w else upd y.w c (y.w c + bought) }

/-! Each endpoint states a structure `…Run`: its parameters after the endpoint's arguments are the
  values the run computed (the price `p` it checked, the penalty `pen` it kept, the amount `b` it
  paid), and a field bears the name of the guard or call of the model's `do` block it records;
  `w`, `h`, `sup`, `wd`, `bal`, `real` are the bounds under which that checked subtraction went
  through. -/

structure DepositRun (s : St) (c : Nat) (t : Tok) (amt p : Nat) (s' : St) (o : Out) : Prop where
  isUser : s.isUser c
  amt_pos : 0 < amt
  allowed : s.phase.depositAllowed = true
  w : amt ≤ (s.side t).w c
  price : s'.price = some p
  minPrice : p = 0 ∨ s.cfg.minPrice ≤ p ∨ t = .accepted
  out : o = ⟨amt, t.nonce, 0⟩
  state : s' = s.setSide t (depSide (s.side t) c amt)

theorem deposit_eq_some_iff {s s' : St} {c : Nat} {t : Tok} {amt : Nat} {o : Out} :
    deposit s c t amt = some (s', o) ↔ ∃ p, DepositRun s c t amt p s' o := by
  simp only [deposit, Option.bind_eq_bind, Option.bind_eq_some_iff, req_eq_some, sub?_eq_some,
    Option.pure_def, Option.some.injEq, Prod.mk.injEq]
  -- the price is checked before supply and holdings are updated; it only reads the pools
  constructor
  · rintro ⟨_, h1, _, h2, _, h3, wc, ⟨h4, rfl⟩, p, h5, _, h6, rfl, rfl⟩
    exact ⟨p, h1, h2, h3, h4, (price_setSide_congr s t (by rfl)).trans h5, h6, rfl, rfl⟩
  · rintro ⟨p, h1, h2, h3, h4, h5, h6, rfl, rfl⟩
    exact ⟨(), h1, (), h2, (), h3, _, ⟨h4, rfl⟩, p, (price_setSide_congr s t (by rfl)).trans h5,
      (), h6, rfl, rfl⟩

theorem deposit_spec {s s' : St} {c : Nat} {t : Tok} {amt : Nat} {o : Out}
    (h : deposit s c t amt = some (s', o)) : ∃ p, DepositRun s c t amt p s' o :=
  deposit_eq_some_iff.1 h

structure WithdrawRun (s : St) (c : Nat) (t : Tok) (amt p pen : Nat) (s' : St) (o : Out) :
    Prop where
  isUser : s.isUser c
  amt_pos : 0 < amt
  allowed : s.phase.withdrawAllowed = true
  penalty : pen = amt * s.phase.pct / MAXP
  wd : pen ≤ amt
  h : amt ≤ (s.side t).h c
  sup : amt ≤ (s.side t).sup
  bal : amt - pen ≤ (s.side t).bal
  real : amt - pen ≤ (s.side t).real
  price : s'.price = some p
  minPrice : s.cfg.minPrice ≤ p
  out : o = ⟨amt - pen, pen, 0⟩
  state : s' = s.setSide t (wdSide (s.side t) c amt pen)

theorem withdraw_eq_some_iff {s s' : St} {c : Nat} {t : Tok} {amt : Nat} {o : Out} :
    withdraw s c t amt = some (s', o) ↔ ∃ p pen, WithdrawRun s c t amt p pen s' o := by
  simp only [withdraw, Option.bind_eq_bind, Option.bind_eq_some_iff, req_eq_some, sub?_eq_some,
    Option.pure_def, Option.some.injEq, Prod.mk.injEq]
  constructor
  · rintro ⟨_, h1, _, h2, _, h3, hc, ⟨h4, rfl⟩, sup, ⟨h5, rfl⟩, wd, ⟨h6, rfl⟩, bal, ⟨h7, rfl⟩,
      p, h8, _, h9, real, ⟨h10, rfl⟩, rfl, rfl⟩
    exact ⟨p, _, h1, h2, h3, rfl, h6, h4, h5, h7, h10,
      (price_setSide_congr s t (by rfl)).trans h8, h9, rfl, rfl⟩
  · rintro ⟨p, pen, h1, h2, h3, rfl, h6, h4, h5, h7, h10, h8, h9, rfl, rfl⟩
    exact ⟨(), h1, (), h2, (), h3, _, ⟨h4, rfl⟩, _, ⟨h5, rfl⟩, _, ⟨h6, rfl⟩, _, ⟨h7, rfl⟩,
      p, (price_setSide_congr s t (by rfl)).trans h8, (), h9, _, ⟨h10, rfl⟩, rfl, rfl⟩

theorem withdraw_spec {s s' : St} {c : Nat} {t : Tok} {amt : Nat} {o : Out}
    (h : withdraw s c t amt = some (s', o)) : ∃ p pen, WithdrawRun s c t amt p pen s' o :=
  withdraw_eq_some_iff.1 h

structure RedeemRun (s : St) (c : Nat) (t : Tok) (amt b : Nat) (s' : St) (o : Out) : Prop where
  isUser : s.isUser c
  amt_pos : 0 < amt
  allowed : s.phase.redeemAllowed = true
  h : amt ≤ (s.side t).h c
  sup_ne : (s.side t).sup ≠ 0
  bought : b = (s.side t.other).bal * amt / (s.side t).sup
  real : b ≤ (s.side t.other).real
  out : o = ⟨b, if s.epoch < s.cfg.unlock then 1 else 0, 0⟩
  state : s' = (s.setSide t (rdSideX (s.side t) c amt)).setSide t.other
            (rdSideY (s.side t.other) c b (decide (s.epoch < s.cfg.unlock)))

theorem redeem_spec {s s' : St} {c : Nat} {t : Tok} {amt : Nat} {o : Out}
    (h : redeem s c t amt = some (s', o)) : ∃ b, RedeemRun s c t amt b s' o := by
  simp only [redeem, Option.bind_eq_bind, Option.bind_eq_some_iff, req_eq_some, sub?_eq_some,
    Option.pure_def, Option.some.injEq, Prod.mk.injEq] at h
  obtain ⟨_, h1, _, h2, _, h3, hc, ⟨h4, rfl⟩, _, h5, real, ⟨h6, rfl⟩, rfl, rfl⟩ := h
  refine ⟨_, h1, h2, h3, h4, h5, rfl, h6, rfl, ?_⟩
  unfold rdSideX rdSideY
  by_cases hl : s.epoch < s.cfg.unlock <;> simp [hl]

/-! ### the clock operations (`step` at an endpoint's constructor is the endpoint itself) -/

theorem step_advance {s s' : St} {b : Nat} {o : Out} (h : step s (.advance b) = some (s', o)) :
    s.block ≤ b ∧ s' = { s with block := b } := by
  obtain ⟨hb, h⟩ := Option.ite_none_right_eq_some.1 h
  cases h
  exact ⟨hb, rfl⟩

theorem step_epoch {s s' : St} {e : Nat} {o : Out} (h : step s (.epoch e) = some (s', o)) :
    s.epoch ≤ e ∧ s' = { s with epoch := e } := by
  obtain ⟨he, h⟩ := Option.ite_none_right_eq_some.1 h
  cases h
  exact ⟨he, rfl⟩

end Mx.PD
