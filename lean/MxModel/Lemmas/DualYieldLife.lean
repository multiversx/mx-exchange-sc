/-
  The life of one dual-yield nonce: its attributes never change, the released LP-farm amount only
  grows (by exactly the parts), the outstanding supply only shrinks; and zero-supply nonces
  exist only if a staking farm answered with a zero amount.
-/
import MxModel.Lemmas.DualYieldSpec

namespace Mx.DualYield

/-- `t'` is a later stage of the same dual-yield nonce as `t` -/
structure Later (t t' : Tok) : Prop where
  lpN : t'.lpN = t.lpN
  lpA : t'.lpA = t.lpA
  stN : t'.stN = t.stN
  stA : t'.stA = t.stA
  rel : t.rel ≤ t'.rel
  out : t'.out ≤ t.out

theorem Later.refl (t : Tok) : Later t t := ⟨rfl, rfl, rfl, rfl, Nat.le_refl _, Nat.le_refl _⟩

theorem Later.trans {a b c : Tok} (h1 : Later a b) (h2 : Later b c) : Later a c :=
  ⟨h2.lpN.trans h1.lpN, h2.lpA.trans h1.lpA, h2.stN.trans h1.stN, h2.stA.trans h1.stA,
   Nat.le_trans h1.rel h2.rel, Nat.le_trans h2.out h1.out⟩

/-- every nonce of `s` still exists in `s'`, at a later stage -/
def Grows (s s' : St) : Prop :=
  ∀ (i : Nat) (t : Tok), s.toks[i]? = some t → ∃ t', s'.toks[i]? = some t' ∧ Later t t'

theorem Grows.refl (s : St) : Grows s s := fun _ t h => ⟨t, h, Later.refl t⟩

theorem Grows.trans {a b c : St} (h1 : Grows a b) (h2 : Grows b c) : Grows a c := by
  intro i t h
  obtain ⟨t1, ht1, l1⟩ := h1 i t h
  obtain ⟨t2, ht2, l2⟩ := h2 i t1 ht1
  exact ⟨t2, ht2, l1.trans l2⟩

theorem release_grows {s s' : St} {u d x p : Nat} (h : release s u d x = some (s', p)) :
    Grows s s' := by
  obtain ⟨t, r⟩ := release_spec h
  obtain rfl := r.state
  have ht := r.lookup
  intro i a ha
  show ∃ t', (s.toks.set (d - 1) (relTok t x p))[i]? = some t' ∧ Later a t'
  by_cases hi : d - 1 = i
  · subst hi
    obtain rfl : t = a := Option.some.inj (ht.symm.trans ha)
    refine ⟨relTok t x p, ?_, rfl, rfl, rfl, rfl, Nat.le_add_right _ _, Nat.sub_le _ _⟩
    rw [List.getElem?_set_self', ht]
    rfl
  · exact ⟨a, (List.getElem?_set_ne hi).trans ha, Later.refl a⟩

theorem mint_grows (s : St) (u lpN lpA stN stA : Nat) : Grows s (mint s u lpN lpA stN stA).1 := by
  intro i t h
  obtain ⟨hlt, -⟩ := List.getElem?_eq_some_iff.1 h
  exact ⟨t, (List.getElem?_append_left hlt).trans h, Later.refl t⟩

theorem step_grows {s0 s s' : St} {op : Op} {o : Out} (hg : Grows s0 s)
    (h : step s op = some (s', o)) : Grows s0 s' :=
  step_induct (P := Grows s0) (M := fun _ => True) (fun hg h => hg.trans (release_grows h))
    (fun _ _ _ _ _ hg _ => hg.trans (mint_grows _ _ _ _ _ _))
    (fun hg h => by
      obtain ⟨-, -, -, -, rfl⟩ := xfer_spec h
      exact hg)
    hg (fun _ _ => trivial) h

theorem run_grows (s : St) (ops : List Op) : Grows s (run s ops) :=
  run_induct (P := Grows s) (G := fun _ => True) (fun hg _ h => step_grows hg h)
    (Grows.refl s) (fun _ _ => trivial)

/-- the staking farm's answer of a stake / claim is a non-zero amount -/
def RespPos : Op → Prop
  | .stake _ _ _ _ _ r => r.stA ≠ 0
  | .claim _ _ _ _ r => r.stA ≠ 0
  | _ => True

/-- every dual-yield nonce has a non-zero total supply -/
def AllPos (s : St) : Prop := ∀ t ∈ s.toks, t.stA ≠ 0

theorem release_allPos {s s' : St} {u d x p : Nat} (hi : AllPos s)
    (h : release s u d x = some (s', p)) : AllPos s' := by
  obtain ⟨t, r⟩ := release_spec h
  obtain rfl := r.state
  intro a ha
  rcases List.mem_or_eq_of_mem_set ha with ha | rfl
  · exact hi a ha
  · exact hi t (List.mem_of_getElem? r.lookup)

theorem mint_allPos {s : St} (u lpN lpA stN : Nat) {stA : Nat} (hi : AllPos s) (h : stA ≠ 0) :
    AllPos (mint s u lpN lpA stN stA).1 := by
  intro a ha
  rcases List.mem_append.1 ha with ha | ha
  · exact hi a ha
  · rw [List.mem_singleton.1 ha]
    exact h

theorem RespPos.minted {op : Op} (h : RespPos op) : ∀ a ∈ op.minted, a ≠ 0 := by
  cases op with
  | stake _ _ _ _ _ r =>
      rintro _ ⟨⟩
      exact h
  | claim _ _ _ _ r =>
      rintro _ ⟨⟩
      exact h
  | _ => rintro _ ⟨⟩

theorem step_allPos {s s' : St} {op : Op} {o : Out} (hi : AllPos s) (hr : RespPos op)
    (h : step s op = some (s', o)) : AllPos s' :=
  step_induct release_allPos mint_allPos
    (fun hi h => by
      obtain ⟨-, -, -, -, rfl⟩ := xfer_spec h
      exact hi)
    hi hr.minted h

theorem run_allPos {s : St} (ops : List Op) (hi : AllPos s) (hr : ∀ op ∈ ops, RespPos op) :
    AllPos (run s ops) :=
  run_induct step_allPos hi hr

end Mx.DualYield
