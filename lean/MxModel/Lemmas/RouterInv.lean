/-
  The inductive invariant of the router world and its consequences for reachable states; `step_eff`, the one
  operation-by-operation analysis of `step`, from which the frame (`step_frame`) and, in Lemmas/RouterPause.lean, the
  fate of a paused pair are read.
-/
import MxModel.Lemmas.RouterSpec
import MxModel.Lemmas.RouterUser
import MxModel.Lemmas.RouterAdmin
import MxModel.Lemmas.AccessModelsPair

namespace Mx.Router

/-- what holds in every state reachable from a freshly deployed router -/
structure Inv (s : St) : Prop where
  uniq : Uniq s.pairMap
  addrUniq : AddrUniq s.pairMap
  pos : 0 < s.nextAddr
  /-- registered addresses are non-zero and were handed out by the router's own deploys -/
  lt : ∀ e ∈ s.pairMap, 0 < e.2 ∧ e.2 < s.nextAddr
  /-- every entry points to a pair contract that reports exactly the tokens of its key -/
  toks : ∀ e ∈ s.pairMap, tokOf s.pairs e.2 = some e.1
  keys : ∀ e ∈ s.pairMap, e.1.1 ≠ e.1.2 ∧ validTok e.1.1 ∧ validTok e.1.2
  /-- the router holds nothing between transactions -/
  rb0 : ∀ t, s.rbal t = 0

theorem Inv.nonZero {s : St} (hi : Inv s) : NonZero s.pairMap := fun e he =>
  Nat.ne_of_gt (hi.lt e he).1

theorem inv_init (owner self : Addr) (template : Bool) (foreign : List PairRec)
    (funds : Addr → Nat → Nat) : Inv (init owner self template foreign funds) where
  uniq := List.Pairwise.nil
  addrUniq := List.Pairwise.nil
  pos := by simp [init, PAIR_BASE]
  lt := by intro e he; cases he
  toks := by intro e he; cases he
  keys := by intro e he; cases he
  rb0 := fun _ => rfl

/-- what every operation other than `createPair` / `removePair` leaves alone -/
structure Frame (s s' : St) : Prop where
  owner : s'.owner = s.owner
  self : s'.self = s.self
  pairMap : s'.pairMap = s.pairMap
  nextAddr : s'.nextAddr = s.nextAddr
  addrs : s'.addrs = s.addrs
  tok : ∀ a, tokOf s'.pairs a = tokOf s.pairs a
  rbal : ∀ t, s'.rbal t = s.rbal t

theorem Frame.inv {s s' : St} (hi : Inv s) (f : Frame s s') : Inv s' where
  uniq := by rw [f.pairMap]; exact hi.uniq
  addrUniq := by rw [f.pairMap]; exact hi.addrUniq
  pos := by rw [f.nextAddr]; exact hi.pos
  lt := by rw [f.pairMap, f.nextAddr]; exact hi.lt
  toks := by
    rw [f.pairMap]
    intro e he
    rw [f.tok]; exact hi.toks e he
  keys := by rw [f.pairMap]; exact hi.keys
  rb0 := fun t => by rw [f.rbal]; exact hi.rb0 t

theorem createPair_inv {s s' : St} {c : Addr} {t1 t2 : Tok} {adder : Addr}
    {fees : Option (Nat × Nat)} {o : Out} (hi : Inv s)
    (h : createPair s c t1 t2 adder fees = some (s', o)) : Inv s' := by
  obtain ⟨fp, t⟩ := createPair_spec h
  obtain rfl := t.state
  obtain ⟨hn1, hn2⟩ := (getPair_eq_zero_iff hi.nonZero).mp t.getPair
  have hk1 := lookup_none_iff.mp hn1
  have hk2 := lookup_none_iff.mp hn2
  refine ⟨?_, ?_, ?_, ?_, ?_, ?_, hi.rb0⟩
  · show Uniq (s.pairMap ++ [((t1, t2), s.nextAddr)])
    unfold Uniq
    rw [List.pairwise_append]
    refine ⟨hi.uniq, List.pairwise_singleton _ _, ?_⟩
    intro e he f hf
    simp only [List.mem_singleton] at hf
    subst hf
    rintro (hs | hs)
    · exact hk1 e he hs
    · exact hk2 e he hs
  · show AddrUniq (s.pairMap ++ [((t1, t2), s.nextAddr)])
    unfold AddrUniq
    rw [List.pairwise_append]
    refine ⟨hi.addrUniq, List.pairwise_singleton _ _, ?_⟩
    intro e he f hf
    simp only [List.mem_singleton] at hf
    subst hf
    exact Nat.ne_of_lt (hi.lt e he).2
  · exact Nat.succ_pos _
  · intro e he
    show 0 < e.2 ∧ e.2 < s.nextAddr + 1
    rcases List.mem_append.mp he with he | he
    · exact ⟨(hi.lt e he).1, Nat.lt_succ_of_lt (hi.lt e he).2⟩
    · simp only [List.mem_singleton] at he
      subst he
      exact ⟨hi.pos, Nat.lt_succ_self _⟩
  · intro e he
    show tokOf (upd s.pairs s.nextAddr _) e.2 = some e.1
    rcases List.mem_append.mp he with he | he
    · have hne : e.2 ≠ s.nextAddr := Nat.ne_of_lt (hi.lt e he).2
      unfold tokOf
      rw [upd_other _ _ hne]
      exact hi.toks e he
    · simp only [List.mem_singleton] at he
      subst he
      simp [tokOf, newPair]
  · intro e he
    rcases List.mem_append.mp he with he | he
    · exact hi.keys e he
    · simp only [List.mem_singleton] at he
      subst he
      exact ⟨t.tokens_ne, t.valid1, t.valid2⟩

theorem removePair_inv {s s' : St} {c : Addr} {t1 t2 : Tok} {o : Out} (hi : Inv s)
    (h : removePair s c t1 t2 = some (s', o)) : Inv s' := by
  obtain ⟨_, _, _, _, _, _, _, rfl⟩ := removePair_spec h
  have hsub := removed_sublist s.pairMap t1 t2
  have hmem : ∀ e, e ∈ removed s.pairMap t1 t2 → e ∈ s.pairMap := fun e he => hsub.subset he
  exact ⟨hi.uniq.sublist hsub, hi.addrUniq.sublist hsub, hi.pos,
    fun e he => hi.lt e (hmem e he), fun e he => hi.toks e (hmem e he),
    fun e he => hi.keys e (hmem e he), hi.rb0⟩

/-- ONE tuple equation as hypothesis, so that `rfl` discharges it for a state written out as `{ s with … }` -/
theorem Frame.of_cells {s s' : St}
    (h : (s'.owner, s'.self, s'.pairMap, s'.nextAddr, s'.addrs, s'.pairs, s'.rbal) =
      (s.owner, s.self, s.pairMap, s.nextAddr, s.addrs, s.pairs, s.rbal)) : Frame s s' := by
  simp only [Prod.mk.injEq] at h
  obtain ⟨h1, h2, h3, h4, h5, h6, h7⟩ := h
  exact ⟨h1, h2, h3, h4, h5, fun a => by rw [h6], fun t => by rw [h7]⟩

/-- the router's configuration cells and who writes them: each of `pair_creation_enabled`, the
    common-token whitelist, the per-token enable configs and the temporary-owner period is as it
    was, unless `op` is the owner's call of that cell's own setter -/
def CellsKept (s s' : St) (op : Op) : Prop :=
  (s'.creationEnabled = s.creationEnabled ∨ ∃ b, op = .setCreation s.owner b) ∧
  (s'.commonToks = s.commonToks ∨
    (∃ toks, op = .addCommon s.owner toks) ∨ ∃ toks, op = .removeCommon s.owner toks) ∧
  (s'.enableCfg = s.enableCfg ∨
    ∃ common locked mv mp, op = .configEnable s.owner common locked mv mp) ∧
  (s'.tmpPeriod = s.tmpPeriod ∨ ∃ n, op = .setTmpPeriod s.owner n)

theorem CellsKept.of_same {s s' : St} (op : Op)
    (h : (s'.creationEnabled, s'.commonToks, s'.enableCfg, s'.tmpPeriod) =
      (s.creationEnabled, s.commonToks, s.enableCfg, s.tmpPeriod)) : CellsKept s s' op := by
  simp only [Prod.mk.injEq] at h
  exact ⟨.inl h.1, .inl h.2.1, .inl h.2.2.1, .inl h.2.2.2⟩

/-- what a successful operation does to the world: it creates a pair (a contract `q` at the next deploy address, which
    moves up by one), removes one from the registry (the pair contracts stay as they are), writes cells of
    the router itself only, replaces the record of ONE pair contract `a` (which keeps the token ids it reports, and
    stays Inactive with liquidity if it was, unless the owner resumes it), or threads the pair contracts through a
    chain of hops.  `create` and `remove` deliberately do not describe the registry (`pairMap`, `addrs`): what the
    two operations do to it is `createPair_spec` / `removePair_spec` (Lemmas/RouterSpec.lean), and that `Inv`
    survives it is `createPair_inv` / `removePair_inv` above. -/
inductive Eff (s : St) (op : Op) (s' : St) : Prop
  | create (c : Addr) (t1 t2 : Tok) (ad : Addr) (f : Option (Nat × Nat)) (hop : op = .createPair c t1 t2 ad f)
      (q : PairRec)
      (h : (s'.owner, s'.self, s'.nextAddr, s'.pairs) =
        (s.owner, s.self, s.nextAddr + 1, upd s.pairs s.nextAddr (some q)))
  | remove (c : Addr) (t1 t2 : Tok) (hop : op = .removePair c t1 t2)
      (h : (s'.owner, s'.self, s'.nextAddr, s'.pairs) = (s.owner, s.self, s.nextAddr, s.pairs))
  | own (h : (s'.owner, s'.self, s'.pairMap, s'.nextAddr, s'.addrs, s'.pairs, s'.rbal) =
      (s.owner, s.self, s.pairMap, s.nextAddr, s.addrs, s.pairs, s.rbal))
  | pair (a : Addr) (q q' : PairRec) (hq : s.pairs a = some q) (h1 : q'.t1 = q.t1) (h2 : q'.t2 = q.t2)
      (hp : s'.pairs = upd s.pairs a (some q'))
      (h : (s'.owner, s'.self, s'.pairMap, s'.nextAddr, s'.addrs, s'.rbal) =
        (s.owner, s.self, s.pairMap, s.nextAddr, s.addrs, s.rbal))
      (keep : Mx.Pair.PausedLiq q.st → Mx.Pair.PausedLiq q'.st ∨ op = .resume s.owner a)
  | hops (hops : List Hop) (tok : Tok) (amt : Nat) (rs : List (Nat × Nat))
      (htr : hopTrace (pairResp s.pairMap) hops s.pairs tok amt = some (s'.pairs, rs))
      (h : (s'.owner, s'.self, s'.pairMap, s'.nextAddr, s'.addrs) = (s.owner, s.self, s.pairMap, s.nextAddr, s.addrs))
      (hrb : ∀ t, s'.rbal t = s.rbal t)

theorem directOp_isSetState {d : Mx.Pair.Dir} {op : Op} {a : Addr} {pop : Mx.Pair.Op}
    (h : directOp d op = some (a, pop)) : Mx.Pair.isSetState pop = false := by
  cases op <;> simp only [directOp, Option.some.injEq, Prod.mk.injEq, reduceCtorEq] at h <;> obtain ⟨-, rfl⟩ := h <;> rfl

/-- a direct call is a step of the pair model that sets no status: the pair world says what it does to a paused pair -/
theorem PairCall.eff {s s' : St} {a : Addr} {op : Op} (h : PairCall s op s' a) : Eff s op s' ∧ CellsKept s s' op := by
  obtain ⟨p, d, pop, r, ub, hp, hd, hr, rfl⟩ := h
  exact ⟨.pair a p { p with st := r.1 } hp rfl rfl rfl rfl
    fun hpl => .inl (Mx.Pair.step_keeps_paused hpl hr (directOp_isSetState hd)), .of_same _ rfl⟩

theorem step_eff {s s' : St} {op : Op} {o : Out} (h : step s op = some (s', o)) :
    Eff s op s' ∧ CellsKept s s' op := by
  cases op with
  | createPair c t1 t2 ad f =>
    obtain ⟨fp, t⟩ := createPair_spec h
    obtain rfl := t.state
    exact ⟨.create c t1 t2 ad f rfl _ rfl, .of_same _ rfl⟩
  | removePair c t1 t2 =>
    obtain ⟨_, _, _, _, _, _, _, rfl⟩ := removePair_spec h
    exact ⟨.remove c t1 t2 rfl rfl, .of_same _ rfl⟩
  | setCreation c b =>
    obtain ⟨rfl, rfl⟩ := setCreation_spec h
    exact ⟨.own rfl, .inr ⟨b, rfl⟩, .inl rfl, .inl rfl, .inl rfl⟩
  | setTemplate c =>
    obtain ⟨_, rfl⟩ := setTemplate_spec h
    exact ⟨.own rfl, .of_same _ rfl⟩
  | pause c a =>
    obtain ⟨_, ⟨_, rfl⟩ | ⟨_, _, p, hp, rfl⟩⟩ := setState_spec h
    · exact ⟨.own rfl, .of_same _ rfl⟩
    · exact ⟨.pair a p { p with st := withStatus p.st false } hp rfl rfl rfl rfl fun hpl => .inl ⟨rfl, hpl.2⟩,
        .of_same _ rfl⟩
  | resume c a =>
    obtain ⟨rfl, ⟨_, rfl⟩ | ⟨_, _, p, hp, rfl⟩⟩ := setState_spec h
    · exact ⟨.own rfl, .of_same _ rfl⟩
    · exact ⟨.pair a p { p with st := withStatus p.st true } hp rfl rfl rfl rfl fun _ => .inr rfl,
        .of_same _ rfl⟩
  | setFeeOn c a tok =>
    obtain ⟨_, _, _, p, hp, rfl⟩ := setFeeOn_spec h
    exact ⟨.pair a p (withDest p tok) hp rfl rfl rfl rfl .inl, .of_same _ rfl⟩
  | setFeeOff c a i tok =>
    obtain ⟨_, _, _, p, hp, _, _, rfl⟩ := setFeeOff_spec h
    exact ⟨.pair a p (withoutDest p i) hp rfl rfl rfl rfl .inl, .of_same _ rfl⟩
  | multi c tokIn amount hops =>
    obtain ⟨r, _, hr, _, rfl⟩ := multiPairSwap_spec h
    obtain ⟨rs, _, _, _, htr, _, hrb, _⟩ := multiG_spec hr
    exact ⟨.hops hops tokIn amount rs htr rfl hrb, .of_same _ rfl⟩
  | addInitial _ _ _ _ | addLiq _ _ _ _ _ _ | removeLiq _ _ _ _ _ | swapIn _ _ _ _ _ _ | swapOut _ _ _ _ _ _ =>
    exact (direct_call h ⟨.ab, _, rfl⟩).eff
  | configEnable c common locked mv mp =>
    obtain ⟨rfl, _, _, _, rfl⟩ := configEnable_spec h
    exact ⟨.own rfl, .inl rfl, .inl rfl, .inr ⟨common, locked, mv, mp, rfl⟩, .inl rfl⟩
  | addCommon c toks =>
    obtain ⟨rfl, _, rfl⟩ := addCommon_spec h
    exact ⟨.own rfl, .inl rfl, .inr (.inl ⟨toks, rfl⟩), .inl rfl, .inl rfl⟩
  | removeCommon c toks =>
    obtain ⟨rfl, rfl⟩ := removeCommon_spec h
    exact ⟨.own rfl, .inl rfl, .inr (.inr ⟨toks, rfl⟩), .inl rfl, .inl rfl⟩
  | enableByUser c a k amount =>
    obtain ⟨p, _, _, t⟩ := enableByUser_spec h
    obtain rfl := t.state
    have hpart := t.status
    exact ⟨.pair a p { p with st := enabledSt p.st } t.pairs rfl rfl rfl rfl
      (fun hpl => by rw [hpl.1] at hpart; cases hpart), .of_same _ rfl⟩
  | enablePlain c a tok amount => cases h
  | lock u coll orig amount unlock =>
    obtain ⟨_, _, _, ⟨_, rfl, _⟩ | ⟨_, _, rfl⟩⟩ := lockTokens_spec h <;> exact ⟨.own rfl, .of_same _ rfl⟩
  | unlock u k amount =>
    obtain ⟨_, _, _, _, rfl⟩ := unlockTokens_spec h
    exact ⟨.own rfl, .of_same _ rfl⟩
  | advance e =>
    obtain ⟨_, rfl⟩ := advance_spec h
    exact ⟨.own rfl, .of_same _ rfl⟩
  | setTmpPeriod c n =>
    obtain ⟨rfl, _, rfl⟩ := setTmpPeriod_spec h
    exact ⟨.own rfl, .inl rfl, .inl rfl, .inl rfl, .inr ⟨n, rfl⟩⟩
  | clearTmp c =>
    obtain ⟨_, _, rfl⟩ := clearTmp_spec h
    exact ⟨.own rfl, .of_same _ rfl⟩
  | issueLp c a =>
    obtain ⟨_, _, _, _, _, _, rfl⟩ := issueLp_spec h
    exact ⟨.own rfl, .of_same _ rfl⟩
  | setLocalRoles c a =>
    obtain ⟨_, _, _, _, rfl⟩ := setLocalRoles_spec (c := c) h
    exact ⟨.own rfl, .of_same _ rfl⟩
  | upgradePair c t1 t2 =>
    obtain ⟨_, _, _, _, _, _, _, rfl⟩ := upgradePair_spec h
    exact ⟨.own rfl, .of_same _ rfl⟩
  | advanceBlock n =>
    obtain ⟨_, _, rfl⟩ := advanceBlock_spec h
    exact ⟨.own rfl, .of_same _ rfl⟩
  | bareNext b =>
    obtain ⟨_, rfl⟩ := setBareNext_spec h
    exact ⟨.own rfl, .of_same _ rfl⟩

theorem Eff.frame {s s' : St} {op : Op} (e : Eff s op s') :
    (∃ c t1 t2 ad f, op = .createPair c t1 t2 ad f) ∨ (∃ c t1 t2, op = .removePair c t1 t2) ∨ Frame s s' := by
  cases e with
  | create c t1 t2 ad f hop _ _ => exact .inl ⟨c, t1, t2, ad, f, hop⟩
  | remove c t1 t2 hop _ => exact .inr (.inl ⟨c, t1, t2, hop⟩)
  | own h => exact .inr (.inr (.of_cells h))
  | pair a q q' hq h1 h2 hp h =>
    simp only [Prod.mk.injEq] at h
    obtain ⟨e1, e2, e3, e4, e5, e6⟩ := h
    exact .inr (.inr ⟨e1, e2, e3, e4, e5, fun x => by rw [hp]; exact tokOf_upd_keep q' hq h1 h2 x, fun t => by rw [e6]⟩)
  | hops hs tok amt rs htr h hrb =>
    simp only [Prod.mk.injEq] at h
    obtain ⟨e1, e2, e3, e4, e5⟩ := h
    exact .inr (.inr ⟨e1, e2, e3, e4, e5, hopTrace_tok hs htr, hrb⟩)

theorem Eff.kept {s s' : St} {op : Op} (e : Eff s op s') :
    s'.owner = s.owner ∧ s'.self = s.self ∧ s.nextAddr ≤ s'.nextAddr := by
  cases e with
  | create _ _ _ _ _ _ _ h =>
    simp only [Prod.mk.injEq] at h
    exact ⟨h.1, h.2.1, h.2.2.1 ▸ Nat.le_succ _⟩
  | remove _ _ _ _ h =>
    simp only [Prod.mk.injEq] at h
    exact ⟨h.1, h.2.1, Nat.le_of_eq h.2.2.1.symm⟩
  | own h | pair _ _ _ _ _ _ _ h _ | hops _ _ _ _ _ h _ =>
    simp only [Prod.mk.injEq] at h
    exact ⟨h.1, h.2.1, Nat.le_of_eq h.2.2.2.1.symm⟩

theorem step_frame {s s' : St} {op : Op} {o : Out} (h : step s op = some (s', o)) :
    ((∃ c t1 t2 ad f, op = .createPair c t1 t2 ad f) ∨ (∃ c t1 t2, op = .removePair c t1 t2) ∨
      Frame s s') ∧ CellsKept s s' op :=
  ⟨(step_eff h).1.frame, (step_eff h).2⟩

theorem step_inv {s s' : St} {op : Op} {o : Out} (hi : Inv s) (h : step s op = some (s', o)) :
    Inv s' := by
  rcases (step_frame h).1 with ⟨c, t1, t2, ad, f, rfl⟩ | ⟨c, t1, t2, rfl⟩ | f
  · exact createPair_inv hi h
  · exact removePair_inv hi h
  · exact f.inv hi

theorem run_induction {P : St → Prop}
    (hstep : ∀ {s s' : St} {op : Op} {o : Out}, P s → step s op = some (s', o) → P s')
    (ops : List Op) {s : St} (h0 : P s) : P (run s ops) := by
  induction ops generalizing s with
  | nil => exact h0
  | cons op ops ih =>
    simp only [run, List.foldl_cons]
    cases h : step s op with
    | none => exact ih h0
    | some r => exact ih (hstep h0 (o := r.2) (by rw [h]))

theorem run_inv (ops : List Op) {s : St} (hi : Inv s) : Inv (run s ops) :=
  run_induction step_inv ops hi

theorem run_owner (ops : List Op) (s : St) : (run s ops).owner = s.owner :=
  run_induction (P := fun s' => s'.owner = s.owner) (fun h hs => (step_eff hs).1.kept.1.trans h) ops rfl

theorem run_append (s : St) (a b : List Op) : run s (a ++ b) = run (run s a) b := by
  simp [run, List.foldl_append]

theorem checkIsPairSc_iff_mem {s : St} (hi : Inv s) (a : Addr) :
    checkIsPairSc s.pairMap s.pairs a = some () ↔ a ∈ s.pairMap.map Prod.snd := by
  rw [checkIsPairSc_iff]
  constructor
  · rintro ⟨k, _, h | ⟨_, h⟩⟩
    · exact List.mem_map.mpr ⟨_, lookup_some_mem h, rfl⟩
    · exact List.mem_map.mpr ⟨_, lookup_some_mem h, rfl⟩
  · intro h
    obtain ⟨e, he, rfl⟩ := List.mem_map.mp h
    exact ⟨e.1, hi.toks e he, Or.inl (hi.uniq.lookup_iff.mpr he)⟩

theorem checkIsPairSc_iff_getPair {s : St} (hi : Inv s) (a : Addr) :
    checkIsPairSc s.pairMap s.pairs a = some () ↔
      ∃ k, tokOf s.pairs a = some k ∧ a ≠ 0 ∧ getPair s.pairMap k.1 k.2 = a := by
  rw [checkIsPairSc_iff]
  constructor
  · rintro ⟨k, hk, h | ⟨_, h⟩⟩
    · have hm := lookup_some_mem h
      have hz := hi.nonZero _ hm
      exact ⟨k, hk, hz, getPair_eq_of_mem hi.uniq hi.nonZero hm⟩
    · have hm := lookup_some_mem h
      have hz := hi.nonZero _ hm
      refine ⟨k, hk, hz, ?_⟩
      rw [getPair_comm hi.uniq hi.nonZero]
      exact getPair_eq_of_mem hi.uniq hi.nonZero hm
  · rintro ⟨⟨k1, k2⟩, hk, hz, hg⟩
    refine ⟨(k1, k2), hk, ?_⟩
    unfold getPair at hg
    simp only at hg ⊢
    cases h1 : lookup s.pairMap (k1, k2) with
    | some x =>
      have hx : x ≠ 0 := hi.nonZero _ (lookup_some_mem h1)
      rw [h1] at hg
      simp only [Option.getD_some, hx, if_false] at hg
      subst hg
      exact Or.inl rfl
    | none =>
      rw [h1] at hg
      simp only [Option.getD_none, if_true] at hg
      refine Or.inr ⟨rfl, ?_⟩
      cases h2 : lookup s.pairMap (k2, k1) with
      | some y =>
        rw [h2] at hg
        simp only [Option.getD_some] at hg
        rw [hg]
      | none =>
        rw [h2] at hg
        simp only [Option.getD_none] at hg
        exact absurd hg.symm hz

end Mx.Router
