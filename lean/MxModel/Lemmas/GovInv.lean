/-
  Governance: the fee-escrow invariant and the "a stored proposal only ever moves forward"
  relation.  Both follow from one description of what an operation does to the proposal list
  (`step_effect`) and one induction over histories (`run_ind`).
-/
import MxModel.Lemmas.GovSpec
import MxModel.Lemmas.ListSum

namespace Mx.Gov

/-- fee of a proposal that was neither cancelled nor withdrawn, else 0 -/
def Proposal.held (p : Proposal) : Nat := if p.cleared || p.withdrawn then 0 else p.fee

def escrow (ps : List Proposal) : Nat := (ps.map Proposal.held).sum

theorem held_open {p : Proposal} (hc : p.cleared = false) (hw : p.withdrawn = false) :
    p.held = p.fee := by
  simp [Proposal.held, hc, hw]

theorem held_closed {p : Proposal} (h : p.cleared = true ∨ p.withdrawn = true) : p.held = 0 := by
  rcases h with h | h <;> simp [Proposal.held, h]

theorem escrow_append (ps : List Proposal) (p : Proposal) : escrow (ps ++ [p]) = escrow ps + p.held := by
  simp [escrow, List.map_append, List.sum_append]

theorem escrow_set {ps : List Proposal} {i : Nat} {p : Proposal} (q : Proposal)
    (h : ps[i]? = some p) : escrow (ps.set i q) + p.held = escrow ps + q.held :=
  sum_map_set Proposal.held ps i p q h

/-- `p'` is a later version of the stored proposal `p` -/
structure Later (p p' : Proposal) : Prop where
  proposer : p'.proposer = p.proposer
  fee : p'.fee = p.fee
  minQuorum : p'.minQuorum = p.minQuorum
  delay : p'.delay = p.delay
  period : p'.period = p.period
  wpct : p'.wpct = p.wpct
  start : p'.start = p.start
  cleared : p.cleared = true → p'.cleared = true
  withdrawn : p.withdrawn = true → p'.withdrawn = true
  voters : ∀ u, u ∈ p.voters → u ∈ p'.voters
  quorum : p.quorum ≤ p'.quorum
  /-- the total-energy snapshot is frozen once the first vote has been counted -/
  snapshot : p.quorum ≠ 0 → p'.totalQuorum = p.totalQuorum

theorem later_flags (p : Proposal) (c w : Bool) (hc : p.cleared = true → c = true)
    (hw : p.withdrawn = true → w = true) : Later p { p with cleared := c, withdrawn := w } :=
  ⟨rfl, rfl, rfl, rfl, rfl, rfl, rfl, hc, hw, fun _ h => h, Nat.le_refl _, fun _ => rfl⟩

theorem Later.refl (p : Proposal) : Later p p :=
  later_flags p p.cleared p.withdrawn (fun h => h) (fun h => h)

theorem Later.trans {p q r : Proposal} (a : Later p q) (b : Later q r) : Later p r :=
  ⟨b.proposer.trans a.proposer, b.fee.trans a.fee, b.minQuorum.trans a.minQuorum,
   b.delay.trans a.delay, b.period.trans a.period, b.wpct.trans a.wpct, b.start.trans a.start,
   fun h => b.cleared (a.cleared h), fun h => b.withdrawn (a.withdrawn h),
   fun u h => b.voters u (a.voters u h), Nat.le_trans a.quorum b.quorum,
   fun h => (b.snapshot (by have := a.quorum; omega)).trans (a.snapshot h)⟩

theorem later_voted (p : Proposal) (t : Nat) (v : Vote) (e c : Nat) : Later p (voted p t v e c) :=
  ⟨rfl, rfl, rfl, rfl, rfl, rfl, rfl, fun h => h, fun h => h,
   fun _ hu => List.mem_append_left _ hu, Nat.le_add_right _ _, fun hq => if_neg hq⟩

/-- The clock never goes back, and an operation either leaves proposals and balance alone, or
    appends a fresh proposal and takes in its fee, or (vote, cancel, withdrawDeposit) replaces one
    stored proposal `p` by a later version `q` within the same block.  In the last case the
    balance follows what the proposal holds, and a fee becomes withdrawn only after the voting
    period.  The premise of the balance clause is what `cancel` needs: Pending alone does not
    say that `p` is not withdrawn. -/
theorem step_effect {s s' : St} {op : Op} {o : Out} (h : step s op = some (s', o)) :
    s.block ≤ s'.block ∧
    ((s'.props = s.props ∧ s'.bal = s.bal) ∨
     (∃ q, s'.props = s.props ++ [q] ∧ s'.bal = s.bal + q.held ∧ q.withdrawn = false) ∨
     (∃ id p q, s.get? id = some p ∧ s'.props = s.props.set (id - 1) q ∧ s'.block = s.block ∧
        Later p q ∧
        ((p.withdrawn = true → p.start + p.delay + p.period ≤ s.block) →
          s'.bal + p.held = s.bal + q.held) ∧
        (q.withdrawn = true → p.withdrawn = true ∨ p.start + p.delay + p.period ≤ s.block))) := by
  rcases step_cases h with ⟨c, fee, _, h⟩ | ⟨c, id, v, _, h⟩ | ⟨c, id, _, h⟩ | ⟨c, id, _, h⟩ |
      ⟨hp, hb, _, _, hblk⟩
  · obtain ⟨_, _, _, _, _, _, rfl⟩ := propose_spec h
    exact ⟨Nat.le_refl _, .inr (.inl ⟨newProposal s c fee, rfl, rfl, rfl⟩)⟩
  · obtain ⟨p, r⟩ := vote_spec h
    obtain rfl := r.state
    refine ⟨Nat.le_refl _, .inr (.inr ⟨id, p, _, r.get, rfl, rfl, later_voted _ _ _ _ _,
      fun _ => rfl, fun hw => .inl hw⟩)⟩
  · obtain ⟨p, _, hst, hg, _, hb, _, rfl⟩ := cancel_spec h
    obtain ⟨hc, e⟩ := status_get hg hst (by decide)
    refine ⟨Nat.le_refl _, .inr (.inr ⟨id, p, _, hg, rfl, rfl,
      later_flags p true p.withdrawn (fun _ => rfl) (fun h => h), fun hwd => ?_, fun hw => .inl hw⟩)⟩
    have hw : p.withdrawn = false := by
      cases hw : p.withdrawn with
      | false => rfl
      | true =>
        have := hwd hw
        have := statusAt_pending.1 e
        omega
    rw [held_open hc hw, held_closed (.inl rfl)]
    show s.bal - p.fee + p.fee = s.bal + 0
    omega
  · obtain ⟨p, refund, rest, w⟩ := withdraw_ended h
    obtain rfl := w.state
    have hsum := w.split
    have hb := w.bal
    refine ⟨Nat.le_refl _, .inr (.inr ⟨id, p, _, w.get, rfl, rfl,
      later_flags p p.cleared true (fun h => h) (fun _ => rfl), fun _ => ?_, fun _ => .inr w.ended⟩)⟩
    rw [held_open w.cleared w.withdrawn, held_closed (.inr rfl)]
    show s.bal - rest - refund + p.fee = s.bal + 0
    omega
  · exact ⟨hblk, .inl ⟨hp, hb⟩⟩

theorem step_later {s s' : St} {op : Op} {o : Out} (h : step s op = some (s', o))
    {id : Nat} {p : Proposal} (hg : s.get? id = some p) :
    ∃ p', s'.get? id = some p' ∧ Later p p' := by
  rcases (step_effect h).2 with ⟨hp, _⟩ | ⟨q, hp, _⟩ | ⟨id1, p1, q, hg1, hp, _, hl, _⟩
  · exact ⟨p, by rw [get?_congr hp, hg], Later.refl p⟩
  · refine ⟨p, ?_, Later.refl p⟩
    have := (get?_eq_some hg).2.1
    rw [get?_append hp, if_neg (by omega), hg]
  · rw [get?_set hp hg1]
    split
    · subst id
      rw [hg1] at hg
      cases hg
      exact ⟨q, rfl, hl⟩
    · exact ⟨p, hg, Later.refl p⟩

structure Inv (s : St) : Prop where
  /-- the contract's fee balance is exactly the escrow of the open proposals -/
  escrow : s.bal = escrow s.props
  /-- a withdrawn fee belongs to a proposal whose voting period is over -/
  wd_ended : ∀ id p, s.get? id = some p → p.withdrawn = true →
    p.start + p.delay + p.period ≤ s.block

theorem inv_init (a b c d e f n funds : Nat) : Inv (init a b c d e f n funds) := by
  constructor
  · simp [init, Gov.escrow]
  · intro id p h
    simp [init, St.get?] at h

theorem step_inv {s s' : St} {op : Op} {o : Out} (hi : Inv s) (h : step s op = some (s', o)) :
    Inv s' := by
  obtain ⟨hblk, ⟨hp, hb⟩ | ⟨q, hp, hb, hqw⟩ | ⟨id, p, q, hg, hp, hk, hl, hb, hqw⟩⟩ := step_effect h
  · refine ⟨by rw [hb, hp, hi.escrow], fun id p hg hw => ?_⟩
    rw [get?_congr hp] at hg
    exact Nat.le_trans (hi.wd_ended id p hg hw) hblk
  · refine ⟨by rw [hb, hp, escrow_append, hi.escrow], fun id p hg hw => ?_⟩
    rw [get?_append hp] at hg
    split at hg
    · cases hg
      rw [hqw] at hw
      cases hw
    · exact Nat.le_trans (hi.wd_ended id p hg hw) hblk
  · have hwd := hi.wd_ended id p hg
    refine ⟨?_, fun id' p' hg' hw => ?_⟩
    · have := escrow_set q (get?_eq_some hg).2.2
      have := hb hwd
      have := hi.escrow
      rw [hp]
      omega
    · rw [get?_set hp hg] at hg'
      rw [hk]
      split at hg'
      · cases hg'
        rw [hl.start, hl.delay, hl.period]
        rcases hqw hw with hpw | hend
        · exact hwd hpw
        · exact hend
      · exact hi.wd_ended id' p' hg' hw

theorem run_cons (s : St) (op : Op) (ops : List Op) :
    run s (op :: ops) = run (match step s op with | some (s', _) => s' | none => s) ops := rfl

theorem run_ind {R : St → St → Prop} (refl : ∀ s, R s s)
    (trans : ∀ {a b c}, R a b → R b c → R a c)
    (hstep : ∀ {s s' op o}, step s op = some (s', o) → R s s') (s : St) (ops : List Op) :
    R s (run s ops) := by
  induction ops generalizing s with
  | nil => exact refl s
  | cons op ops ih =>
    rw [run_cons]
    cases hst : step s op with
    | none => exact ih s
    | some r =>
      obtain ⟨s1, o⟩ := r
      exact trans (hstep hst) (ih s1)

theorem run_inv (ops : List Op) {s : St} (hi : Inv s) : Inv (run s ops) :=
  run_ind (R := fun s s' => Inv s → Inv s') (fun _ h => h) (fun f g h => g (f h))
    (fun h hi => step_inv hi h) s ops hi

theorem run_later (ops : List Op) {s : St} {id : Nat} {p : Proposal} (hg : s.get? id = some p) :
    ∃ p', (run s ops).get? id = some p' ∧ Later p p' ∧ s.block ≤ (run s ops).block := by
  have key := run_ind
    (R := fun s s' => s.block ≤ s'.block ∧
      ∀ id p, s.get? id = some p → ∃ p', s'.get? id = some p' ∧ Later p p')
    (fun s => ⟨Nat.le_refl _, fun _ p h => ⟨p, h, Later.refl p⟩⟩)
    (fun a b => ⟨Nat.le_trans a.1 b.1, fun id p h =>
      let ⟨q, hq, l1⟩ := a.2 id p h
      let ⟨r, hr, l2⟩ := b.2 id q hq
      ⟨r, hr, l1.trans l2⟩⟩)
    (fun h => ⟨(step_effect h).1, fun _ _ hg => step_later h hg⟩) s ops
  obtain ⟨p', hg', hl⟩ := key.2 id p hg
  exact ⟨p', hg', hl, key.1⟩

theorem no_second_vote {s : St} {id c : Nat} {p : Proposal} (hg : s.get? id = some p)
    (hc : c ∈ p.voters) (ops : List Op) (v : Vote) : vote (run s ops) c id v = none := by
  obtain ⟨p', hg', hl, _⟩ := run_later ops hg
  refine Option.eq_none_iff_forall_ne_some.2 fun ⟨s2, o2⟩ hv => ?_
  obtain ⟨p2, r⟩ := vote_spec hv
  have hg2 := r.get
  rw [hg'] at hg2
  cases hg2
  exact r.not_voted (hl.voters c hc)

/-- the flag stays (`Later`), and so do the start and delay that keep the proposal from being
    Pending again -/
theorem no_second_payout {s : St} {id : Nat} {q : Proposal} (hq : s.get? id = some q)
    (h : q.cleared = true ∨ (q.withdrawn = true ∧ q.start + q.delay + q.period ≤ s.block))
    (ops : List Op) (c : Nat) :
    cancel (run s ops) c id = none ∧ withdraw (run s ops) c id = none := by
  obtain ⟨q', hg', hl, hblk⟩ := run_later ops hq
  constructor
  · refine Option.eq_none_iff_forall_ne_some.2 fun ⟨s2, o2⟩ hc => ?_
    obtain ⟨p2, _, hpend, hg2, _⟩ := cancel_spec hc
    rw [hg'] at hg2
    cases hg2
    obtain ⟨hcl, e⟩ := status_get hg' hpend (by decide)
    rcases h with hcl0 | ⟨_, hend⟩
    · rw [hl.cleared hcl0] at hcl
      cases hcl
    · have := statusAt_pending.1 e
      rw [hl.start, hl.delay] at this
      omega
  · refine Option.eq_none_iff_forall_ne_some.2 fun ⟨s2, o2⟩ hc => ?_
    obtain ⟨p2, _, _, w⟩ := withdraw_ended hc
    have hg2 := w.get
    have hcl2 := w.cleared
    have hw2 := w.withdrawn
    rw [hg'] at hg2
    cases hg2
    rcases h with hcl | ⟨hw, _⟩
    · rw [hl.cleared hcl] at hcl2
      cases hcl2
    · rw [hl.withdrawn hw] at hw2
      cases hw2

end Mx.Gov
