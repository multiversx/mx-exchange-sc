/-
  The accounting invariant of the staking model and its preservation by every transaction
  (hence by every history).  Everything here follows from `Eff` (Lemmas/StakingEff.lean).
-/
import MxModel.Lemmas.StakingEff

namespace Mx.Staking

/-- Accounting invariant.
    * `acc_le`   accrued rewards never exceed the capacity the admin topped up;
    * `bal_eq`   the contract's staking-token balance = (supply − proxy-virtual stake)
                 + outstanding unbond amounts + (capacity − accumulated) + reserve
                 (written additively over `Int`, `virt` and `unbondOut` are signed ledgers);
    * `res_eq`   reserve = generated (= `accumulated`) − paid;
    * `budget`   every accrual was split into a base share and a boosted cut;
    * `pct_le`, `time`, `last_le`  side conditions (sane percentage, monotone time). -/
structure Inv (s : St) : Prop where
  acc_le : s.accumulated ≤ s.capacity
  bal_eq : (s.bal : Int) + s.virt + s.accumulated = s.supply + s.unbondOut + s.capacity + s.reserve
  res_eq : s.reserve + s.paidBase + s.paidBoosted = s.accumulated
  budget : s.baseBudget + s.boostedBudget = s.accumulated
  pct_le : s.boostedPct ≤ MAX_PERCENT
  time : s.firstWeek ≤ s.epoch
  last_le : s.lastBlock ≤ s.block

theorem inv_init (epoch block dsc maxApr minUnbond perBlock : Nat) (accts wl : List Nat) :
    Inv (init epoch block dsc maxApr minUnbond perBlock accts wl) := by
  constructor <;> simp [init, MAX_PERCENT]

theorem inv_of_eff {s s' : St} (hi : Inv s) (h : Eff s s') : Inv s' := by
  obtain ⟨tot, cut, inc, pb, pbo, up, down, hgen, hcut, e1, e2, e3, e4, e5, e6, e7, hdown, e8, hp, e9, e10,
    e11, e12, e13⟩ := h
  obtain ⟨a1, a2, a3, a4, a5, a6, a7⟩ := hi
  have htot : tot ≤ s.capacity - s.accumulated := by
    rcases hgen with ⟨rfl, _⟩ | ⟨_, rfl, _⟩
    · exact Nat.zero_le _
    · exact genTot_le_room s
  -- `omega` on all 30 hypotheses at once is slow: each clause is given only the equations it reads
  have hlast : s'.lastBlock ≤ s'.block := by
    clear e1 e2 e3 e4 e5 e6 e7 e8 e9 e10 e11 e12 a1 a2 a3 a4 a6 hcut hdown htot
    rcases hgen with ⟨_, _, _, hl | hl⟩ | ⟨_, _, _, _, hl⟩ <;> omega
  have hpct := hp a5
  clear hgen e11 e12 e13 a7 hp a5
  refine ⟨?_, ?_, ?_, ?_, hpct, ?_, hlast⟩
  · clear e2 e3 e4 e5 e6 e8 e9 e10 a2 a3 a4 a6 hcut hlast hpct
    rcases hdown with rfl | ⟨rfl, hd⟩ <;> omega
  · clear e2 e3 e4 e5 e9 e10 a3 a4 a6 hcut hlast hdown htot a1 hpct
    omega
  · clear e2 e3 e7 e8 e9 e10 a1 a2 a4 a6 hcut hlast hdown htot hpct
    omega
  · clear e4 e5 e6 e7 e8 e9 e10 a1 a2 a3 a6 hlast hdown htot hpct
    omega
  · clear e1 e2 e3 e4 e5 e6 e7 e8 a1 a2 a3 a4 hcut hlast hdown htot hpct
    omega

theorem step_inv {s s' : St} {op : Op} {o : Out} (hi : Inv s) (h : step s op = some (s', o)) :
    Inv s' :=
  inv_of_eff hi (step_eff h)

theorem run_inv (ops : List Op) {s : St} (hi : Inv s) : Inv (run s ops) :=
  run_induction step_inv ops hi

end Mx.Staking
