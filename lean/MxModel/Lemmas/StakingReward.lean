/-
  Spec lemmas for the base-reward clauses (C06, staking side): the reward index only grows and by
  exactly `⌊base·dsc/supply⌋`; nothing accrues within a block that was already settled; what a
  claim / unstake pays.
-/
import MxModel.Lemmas.StakingEff

namespace Mx.Staking

open Mx.Weekly

theorem genTot_eq_zero_of_settled {s : St} (h : s.block ≤ s.lastBlock) : genTot s = 0 := by
  simp [genTot, genTotOf, mintOf, h]

theorem rpsInc_zero (dsc supply : Nat) : rpsInc dsc 0 supply = 0 := by
  unfold rpsInc; split <;> simp

theorem eff_rps {s s' : St} (h : Eff s s') :
    s.rps ≤ s'.rps ∧ s'.dsc = s.dsc ∧
    (s'.rps = s.rps ∨
     s'.rps = s.rps + rpsInc s.dsc (genTot s - genCut s (genTot s)) s.supply) := by
  obtain ⟨tot, cut, inc, pb, pbo, up, down, hgen, _, _, _, _, _, _, _, _, _, _, _, _, _, e11, e12, _⟩ := h
  refine ⟨e11 ▸ Nat.le_add_right _ _, e12, ?_⟩
  rcases hgen with ⟨_, _, rfl, _⟩ | ⟨_, rfl, rfl, rfl, _⟩
  · exact Or.inl e11
  · exact Or.inr e11

theorem eff_settled_block {s s' : St} (h : Eff s s') (hb : s.block ≤ s.lastBlock) :
    s'.rps = s.rps ∧ s'.accumulated = s.accumulated := by
  obtain ⟨tot, cut, inc, pb, pbo, up, down, hgen, hcut, e1, _, _, _, _, _, _, _, _, _, _, _, e11, _, _⟩ := h
  have h0 := genTot_eq_zero_of_settled hb
  rcases hgen with ⟨rfl, _, rfl, _⟩ | ⟨_, rfl, rfl, rfl, _⟩
  · omega
  · rw [h0] at hcut e1 e11
    have : genCut s 0 = 0 := by omega
    rw [this, rpsInc_zero] at e11
    omega

theorem eff_lastBlock {s s' : St} (h : Eff s s') (hl : s.lastBlock ≤ s.block) :
    s'.lastBlock = s.lastBlock ∨ s'.lastBlock = s.block := by
  obtain ⟨tot, cut, inc, pb, pbo, up, down, hgen, _⟩ := h
  rcases hgen with ⟨_, _, _, h | h⟩ | ⟨_, _, _, _, h⟩
  · exact Or.inl h
  · exact Or.inr h
  · exact Or.inr (h.trans (Nat.max_eq_right hl))

/-- `claimRewards` (all variants): the reward is the base formula on the part sent, evaluated at
    the index AFTER settling, plus the boosted rewards of the original caller; the new position
    carries the current index -/
theorem claimCore_reward {s s' : St} {c orig : Nat} {pays : List Pay} {nv : Option Nat} {o : Out}
    (h : claimCore s c orig pays nv = some (s', o)) :
    ∃ p first tok r merged, pays.head? = some p ∧ posOf s.md p.1 = some first ∧
      first.intoPart p.2 = some tok ∧
      claimBoostedYields (genSt s) orig ((genSt s).userTotal orig) = some r ∧
      o.c = (if tok.rps < s'.rps then p.2 * (s'.rps - tok.rps) / s'.dsc else 0) + r.2.2 ∧
      s'.paidBase = s.paidBase + (if tok.rps < s'.rps then p.2 * (s'.rps - tok.rps) / s'.dsc else 0) ∧
      s'.paidBoosted = s.paidBoosted + r.2.2 ∧
      mergeParts s.md ⟨s'.rps, tok.compounded, tok.amount, orig⟩ pays.tail = some merged ∧
      s'.md (s.nonce + 1) = some (.pos { merged with amount := nv.getD merged.amount }) ∧
      s'.nonce = s.nonce + 1 ∧ o.a = s.nonce + 1 ∧ o.b = nv.getD merged.amount ∧
      s'.hold c (s.nonce + 1) = nv.getD merged.amount := by
  obtain ⟨hold0, p, first, tok, r, ut1, merged, supply1, ut2, w2, t⟩ := claimCore_trace h
  obtain rfl := t.state
  obtain rfl := t.out
  refine ⟨p, first, tok, r, merged, t.head, t.posOf, t.intoPart, t.claimBoostedYields, rfl, rfl, rfl,
    t.mergeParts, upd_same _ _ _, rfl, rfl, rfl, ?_⟩
  show upd2 hold0 c (s.nonce + 1) (nv.getD merged.amount) c (s.nonce + 1) = nv.getD merged.amount
  simp [upd2]

/-- `unstakeFarm` (both variants): same reward formula on the part taken out -/
theorem unstakeCore_reward {s s' : St} {c orig : Nat} {pay : Pay} {x : Option Nat} {o : Out}
    (h : unstakeCore s c orig pay x = some (s', o)) :
    ∃ attrs tok r, posOf s.md pay.1 = some attrs ∧ attrs.intoPart pay.2 = some tok ∧
      claimBoostedYields (genSt s) orig ((genSt s).userTotal orig) = some r ∧
      o.c = (if tok.rps < s'.rps then pay.2 * (s'.rps - tok.rps) / s'.dsc else 0) + r.2.2 ∧
      s'.paidBase = s.paidBase + (if tok.rps < s'.rps then pay.2 * (s'.rps - tok.rps) / s'.dsc else 0) := by
  obtain ⟨hold0, attrs, tok, r, w2, t⟩ := unstakeCore_trace h
  obtain rfl := t.state
  obtain rfl := t.out
  exact ⟨attrs, tok, r, t.posOf, t.intoPart, t.claimBoostedYields, rfl, rfl⟩

end Mx.Staking
