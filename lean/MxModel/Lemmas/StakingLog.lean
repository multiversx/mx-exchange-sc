/-
  Farm-staking: the PAID LOG of boosted rewards over whole histories.

  `paidLog s₀ ops` is a FUNCTION OF THE HISTORY (no model field): one entry `(user, week, amount)`
  per week pool a successful operation paid boosted rewards out of.  The user is the operation's
  `claimerOf` (original caller of stake / claim / unstake, the on-behalf user, the recorded owner for
  `claimRewardsOnBehalf`, the caller of compound / merge / claimBoostedRewards); week and amount are
  read off the growth of the ghost `b.paid week` (Σ boosted rewards paid out of that week's pool).
  Everything comes from the per-operation classification `Fx` of Lemmas/StakingOnce.lean; no state
  invariant is needed.
-/
import MxModel.Lemmas.StakingOnce
import MxModel.Lemmas.ListSum

namespace Mx.Staking

/-- one boosted payment: `user` received `amount` out of the pool of week `week` -/
structure Entry where
  user : Nat
  week : Nat
  amount : Nat
  deriving DecidableEq, Repr

/-- the boosted payments of one successful operation with claimer `u` (`s` before, `s'` after): for
    every completed week whose paid ghost grew, that growth -/
def entriesOf (u : Nat) (s s' : St) : List Entry :=
  (List.range s.week).filterMap fun w =>
    if s'.b.paid w ≠ s.b.paid w then some ⟨u, w, s'.b.paid w - s.b.paid w⟩ else none

/-- the log entries produced by one operation (nothing unless it succeeds and has a claimer) -/
def stepLog (s : St) (op : Op) : List Entry :=
  match claimerOf s op, step s op with
  | some u, some r => entriesOf u s r.1
  | _, _ => []

def paidLog (s : St) : List Op → List Entry
  | [] => []
  | op :: ops => stepLog s op ++ paidLog (next s op) ops

theorem mem_entriesOf {u : Nat} {s s' : St} {e : Entry} (h : e ∈ entriesOf u s s') :
    e.user = u ∧ e.week < s.week ∧ s'.b.paid e.week ≠ s.b.paid e.week ∧
    e.amount = s'.b.paid e.week - s.b.paid e.week := by
  simp only [entriesOf, List.mem_filterMap, List.mem_range] at h
  obtain ⟨w, hw, hsome⟩ := h
  split at hsome
  · rename_i hne
    simp only [Option.some.injEq] at hsome
    subst hsome
    exact ⟨rfl, hw, hne, rfl⟩
  · cases hsome

theorem stepLog_cases {s : St} {op : Op} {e : Entry} (h : e ∈ stepLog s op) :
    ∃ u r, claimerOf s op = some u ∧ step s op = some r ∧ e ∈ entriesOf u s r.1 := by
  unfold stepLog at h
  split at h
  · rename_i u r hu hs
    exact ⟨u, r, hu, hs, h⟩
  · cases h

theorem stepLog_of_none {s : St} {op : Op} (h : step s op = none) : stepLog s op = [] := by
  unfold stepLog
  rw [h]
  cases claimerOf s op <;> rfl

theorem stepLog_of_some {s : St} {op : Op} {u : Nat} {r : St × Out} (hu : claimerOf s op = some u)
    (h : step s op = some r) : stepLog s op = entriesOf u s r.1 := by
  unfold stepLog; rw [hu, h]

theorem stepLog_window {s : St} {op : Op} {e : Entry} (h : e ∈ stepLog s op) :
    claimerOf s op = some e.user ∧ s.week ≤ e.week + 4 ∧ e.week < s.week ∧
    ∃ p, s.w.progress e.user = some p ∧ p.week ≤ e.week := by
  obtain ⟨u, r, hu, hs, hm⟩ := stepLog_cases h
  obtain ⟨heu, _, hne, _⟩ := mem_entriesOf hm
  subst heu
  have fx := step_fx (s := s) (s' := r.1) (o := r.2) hs
  obtain ⟨u', p, hc, hp, hle, hlt, h4, _⟩ := fx.paid_gate hne
  rw [hu] at hc
  cases hc
  exact ⟨hu, h4, hlt, p, hp, hle⟩

theorem stepLog_pos {s : St} {op : Op} {e : Entry} (h : e ∈ stepLog s op) : 0 < e.amount := by
  obtain ⟨u, r, hu, hs, hm⟩ := stepLog_cases h
  obtain ⟨_, _, hne, hamt⟩ := mem_entriesOf hm
  have fx := step_fx (s := s) (s' := r.1) (o := r.2) hs
  obtain ⟨_, _, _, _, _, _, _, hgrow, _⟩ := fx.paid_gate hne
  omega

def sameKey (e e' : Entry) : Prop := e.user = e'.user ∧ e.week = e'.week

/-- every logged `(user, week)` is closed: the week is over and the user's stored progress (if any)
    is beyond it -/
def LogOk (s : St) (l : List Entry) : Prop := ∀ e ∈ l, Closed s e.user e.week

theorem stepLog_pairwise (s : St) (op : Op) : (stepLog s op).Pairwise (fun e e' => ¬ sameKey e e') := by
  unfold stepLog
  split
  · rename_i u r _ _
    unfold entriesOf
    rw [List.pairwise_filterMap]
    refine (List.pairwise_lt_range (n := s.week)).imp ?_
    intro w1 w2 hlt b hb b' hb' hk
    split at hb
    · split at hb'
      · simp only [Option.some.injEq] at hb hb'
        subst hb; subst hb'
        have := hk.2
        simp only at this
        omega
      · cases hb'
    · cases hb
  · exact List.Pairwise.nil

theorem stepLog_fresh {s : St} {l : List Entry} (hO : LogOk s l) {op : Op} :
    ∀ a ∈ l, ∀ b ∈ stepLog s op, ¬ sameKey a b := by
  intro a ha b hb hk
  obtain ⟨_, _, _, p, hp, hple⟩ := stepLog_window hb
  have := (hO a ha).2 p (by rw [hk.1]; exact hp)
  have := hk.2
  omega

theorem next_LogOk {s : St} {l : List Entry} (hO : LogOk s l) (op : Op) :
    LogOk (next s op) (l ++ stepLog s op) := by
  intro e he
  rcases List.mem_append.mp he with he | he
  · exact closed_next (hO e he) op
  · obtain ⟨hcu, _, hwk, _⟩ := stepLog_window he
    obtain ⟨u, r, _, hs, _⟩ := stepLog_cases he
    rw [next_of_some hs]
    exact (step_fx (s := s) (s' := r.1) (o := r.2) hs).claimer_closes hcu hwk

/-- **no (user, week) twice**, generalised for the induction -/
theorem paidLog_once_from (ops : List Op) : ∀ {s : St} {pre : List Entry}
    (_ : LogOk s pre) (_ : pre.Pairwise (fun e e' => ¬ sameKey e e')),
    (pre ++ paidLog s ops).Pairwise (fun e e' => ¬ sameKey e e') := by
  induction ops with
  | nil => intro s pre _ hP; simpa [paidLog] using hP
  | cons op ops ih =>
    intro s pre hO hP
    simp only [paidLog]
    rw [← List.append_assoc]
    refine ih (next_LogOk hO op) ?_
    rw [List.pairwise_append]
    exact ⟨hP, stepLog_pairwise s op, stepLog_fresh hO⟩

/-- the log of a history keeps the invariant (so a later history can be appended) -/
theorem paidLog_LogOk (ops : List Op) : ∀ {s : St} {pre : List Entry}, LogOk s pre →
    LogOk (run s ops) (pre ++ paidLog s ops) := by
  induction ops with
  | nil => intro s pre h; simpa [paidLog, run] using h
  | cons op ops ih =>
    intro s pre h
    rw [run_cons]
    simp only [paidLog]
    rw [← List.append_assoc]
    exact ih (next_LogOk h op)

def logSum (l : List Entry) (w : Nat) : Nat := (l.map fun e => if e.week = w then e.amount else 0).sum

theorem exists_of_logSum_pos {l : List Entry} {w : Nat} (h : 0 < logSum l w) :
    ∃ e ∈ l, e.week = w ∧ 0 < e.amount := by
  obtain ⟨e, he, hp⟩ := exists_of_sum_map_pos h
  split at hp
  · exact ⟨e, he, ‹_›, hp⟩
  · cases hp

theorem logSum_append (l1 l2 : List Entry) (w : Nat) : logSum (l1 ++ l2) w = logSum l1 w + logSum l2 w := by
  unfold logSum; rw [List.map_append, List.sum_append]

theorem logSum_entriesOf (u : Nat) (s s' : St) (w : Nat) :
    logSum (entriesOf u s s') w =
      if w < s.week ∧ s'.b.paid w ≠ s.b.paid w then s'.b.paid w - s.b.paid w else 0 := by
  unfold entriesOf
  generalize s.week = K
  induction K with
  | zero => rw [if_neg (by omega)]; rfl
  | succ K ih =>
    rw [List.range_succ, List.filterMap_append, logSum_append, ih]
    -- the entry of week `K`, if any, counts for `w` exactly when `w = K`
    have last : logSum ([K].filterMap fun k =>
          if s'.b.paid k ≠ s.b.paid k then some ⟨u, k, s'.b.paid k - s.b.paid k⟩ else none) w =
        if s'.b.paid K ≠ s.b.paid K then (if K = w then s'.b.paid K - s.b.paid K else 0) else 0 := by
      by_cases hne : s'.b.paid K ≠ s.b.paid K
      · simp only [List.filterMap_cons, List.filterMap_nil, if_pos hne, logSum, List.map_cons,
          List.map_nil, List.sum_cons, List.sum_nil, Nat.add_zero]
      · simp only [List.filterMap_cons, List.filterMap_nil, if_neg hne, logSum, List.map_nil,
          List.sum_nil]
    rw [last]
    by_cases hw : K = w
    · subst hw
      rw [if_neg (by omega), Nat.zero_add, if_pos rfl]
      simp only [Nat.lt_succ_self, true_and]
    · have h1 : (w < K + 1) ↔ (w < K) := by omega
      simp only [if_neg hw, ite_self, Nat.add_zero, h1]

theorem stepLog_sum (s : St) (op : Op) (w : Nat) :
    (next s op).b.paid w = s.b.paid w + logSum (stepLog s op) w := by
  cases hs : step s op with
  | none => rw [next_of_none hs, stepLog_of_none hs]; rfl
  | some r =>
    rw [next_of_some hs]
    have fx := step_fx (s := s) (s' := r.1) (o := r.2) hs
    by_cases hne : r.1.b.paid w = s.b.paid w
    · have hz : logSum (stepLog s op) w = 0 := by
        unfold stepLog
        split
        · rename_i u r' _ hs'
          rw [hs] at hs'
          simp only [Option.some.injEq] at hs'
          subst hs'
          rw [logSum_entriesOf]
          simp [hne]
        · rfl
      rw [hz, hne]; rfl
    · obtain ⟨u, _, hcu, _, _, hlt, _, hgrow, _⟩ := fx.paid_gate hne
      rw [stepLog_of_some hcu hs, logSum_entriesOf, if_pos ⟨hlt, hne⟩]
      omega

/-- **the log is complete**: `paid w` grew by exactly the sum of the logged amounts for `w` -/
theorem paidLog_sum_from (ops : List Op) : ∀ (s : St) (w : Nat),
    (run s ops).b.paid w = s.b.paid w + logSum (paidLog s ops) w := by
  induction ops with
  | nil => intro s w; simp [run, paidLog, logSum]
  | cons op ops ih =>
    intro s w
    rw [run_cons, ih (next s op) w, stepLog_sum s op w]
    simp only [paidLog, logSum_append]
    omega

theorem paidLog_entries (ops : List Op) : ∀ (s : St) (e : Entry), e ∈ paidLog s ops →
    ∃ ops1 op ops2, ops = ops1 ++ op :: ops2 ∧ e ∈ stepLog (run s ops1) op := by
  induction ops with
  | nil => intro s e h; cases h
  | cons op ops ih =>
    intro s e h
    simp only [paidLog, List.mem_append] at h
    rcases h with h | h
    · exact ⟨[], op, ops, rfl, h⟩
    · obtain ⟨ops1, op', ops2, rfl, he⟩ := ih _ e h
      exact ⟨op :: ops1, op', ops2, rfl, by rw [run_cons]; exact he⟩

end Mx.Staking
