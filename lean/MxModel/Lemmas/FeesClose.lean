/-
  Fees collector: the denominator of a closed week.  `closeSum w s ops acc` walks the history and
  remembers Σ_participants (recorded energy decayed to `w`) as it was in the LAST state in which `w`
  was the running global week (`lastGlobalUpdateWeek = w`); the stored `totalEnergyForWeek(w)` is
  that value for as long as the week is claimable.
-/
import MxModel.Lemmas.FeesLedger
import MxModel.Lemmas.WeeklyClose

namespace Mx.Fees

open Mx.Weekly

/-- Σ of the recorded energies decayed to week `w`, taken in the last state of the history
    (started in `s`) in which `w` was the last globally updated week; `acc` if there is none -/
def closeSum (w : Nat) : St → List Op → Nat → Nat
  | s, [], acc => closeAcc s.w acc w
  | s, op :: ops, acc => closeSum w (next s op) ops (closeAcc s.w acc w)

theorem next_EStep {s : St} (op : Op) : EStep s.w (next s op).w := by
  rcases next_cases s op with ⟨_, e⟩ | ⟨_, hst⟩
  · rw [e]; exact EStep.refl _
  rcases hst.userStep.2 with ⟨u, cur, hu, _⟩ | ⟨_, hw⟩
  · exact hu.estep
  · rw [hw]; exact EStep.refl _

/-- after a history from `s` the stored total energy of week `w` is `closeSum`, unless it was cleared
    (possible only once the global week is past `w + 4`).  Stated for any start state with the
    invariants and any remembered value `acc` that fits it (`CloseInv`): that is the form the
    induction on the history needs. -/
theorem closeSum_exact_from (w : Nat) (ops : List Op) : ∀ {s : St} {acc : Nat},
    AllInv s → CloseInv s.w acc w →
    (run s ops).w.totalEnergy w = closeSum w s ops acc ∨
      ((run s ops).w.totalEnergy w = 0 ∧ w + 4 < (run s ops).w.lastGlobalUpdateWeek) := by
  induction ops with
  | nil => intro s acc hI hC; exact hC.read hI.w.1
  | cons op ops ih =>
    intro s acc hI hC
    rw [run_cons]
    simp only [closeSum]
    exact ih (next_AllInv hI op) (hC.step hI.w.1 (next_EStep op))

theorem init_CloseInv (epoch lockEpochs : Nat) (known : List Tok) (contracts whitelist : List Nat)
    (w : Nat) : CloseInv (init epoch lockEpochs known contracts whitelist).w 0 w :=
  ⟨fun _ => rfl, fun h => absurd h (Nat.not_lt_zero _)⟩

end Mx.Fees
