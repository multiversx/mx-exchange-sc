/-
  The pair while it has no liquidity: with `S = 0` both reserves are 0 (every reserve-moving
  endpoint other than the first deposit aborts), and the first deposit — through either
  `addInitialLiquidity` or the first `addLiquidity` — sets `S = min a₁ a₂`, `r = (a₁, a₂)`.
  Consequence: `S² ≤ r₁·r₂` in every state a history can reach (C02's base case made part of the
  reachable invariant).
-/
import MxModel.Lemmas.PairK

namespace Mx.Pair

def EmptyOK (s : St) : Prop := s.S = 0 → s.r1 = 0 ∧ s.r2 = 0

/-- every LP unit is backed by at least one unit of `√(r₁r₂)` -/
def SqLe (s : St) : Prop := s.S ^ 2 ≤ s.r1 * s.r2

theorem Inv.reserves {s : St} (hi : Inv s) (he : EmptyOK s) :
    (0 < s.r1 ∧ 0 < s.r2) ∨ (s.r1 = 0 ∧ s.r2 = 0) := by
  rcases Nat.eq_zero_or_pos s.S with h0 | hpos
  · exact Or.inr (he h0)
  · exact Or.inl ⟨(hi.pos hpos).1, (hi.pos hpos).2.1⟩

theorem emptyOK_init (t sp : Nat) (ad : Option Nat) (cap : Nat) : EmptyOK (init t sp ad cap) :=
  fun _ => ⟨rfl, rfl⟩

theorem sqLe_init (t sp : Nat) (ad : Option Nat) (cap : Nat) : SqLe (init t sp ad cap) := by
  simp [SqLe, init]

theorem step_from_empty {s s' : St} {op : Op} {o : Out} (hS : s.S = 0) (h1 : s.r1 = 0) (h2 : s.r2 = 0)
    (h : step s op = some (s', o)) :
    (s'.S = 0 ∧ s'.r1 = 0 ∧ s'.r2 = 0) ∨
    (∃ a1 a2, MINLIQ < min a1 a2 ∧ s'.S = min a1 a2 ∧ s'.r1 = a1 ∧ s'.r2 = a2) := by
  have hM : MINLIQ = 1000 := rfl
  have hrout : ∀ d : Dir, s.rout d = 0 := by intro d; cases d <;> assumption
  refine step_cases (motive := fun _ => (s'.S = 0 ∧ s'.r1 = 0 ∧ s'.r2 = 0) ∨
    (∃ a1 a2, MINLIQ < min a1 a2 ∧ s'.S = min a1 a2 ∧ s'.r1 = a1 ∧ s'.r2 = a2)) h ?_ ?_ ?_ ?_ ?_ ?_ ?_
  · intro c a1 a2 h
    obtain ⟨_, _, _, _, _, h6, _, rfl⟩ := addInitial_spec h
    exact Or.inr ⟨a1, a2, h6, rfl, by simp [h1], by simp [h2]⟩
  · intro a1 a2 m1 m2 h
    obtain ⟨_, _, _, _, h5, _, rfl⟩ := addLiq_first_spec hS h
    exact Or.inr ⟨a1, a2, h5, rfl, by simp [h1], by simp [h2]⟩
  · intro _ _ _ h
    have h5 := (removeLiq_spec h).minliq
    omega
  · intro op hsw h
    have := (swap_spec hsw h).2.1
    rw [hrout] at this
    omega
  · intro c d a h
    obtain ⟨_, _, _, _, _, h6, _⟩ := swapNoFee_spec h
    rw [hrout d] at h6
    omega
  · intro _ _ _ h
    obtain ⟨_, _, _, t⟩ := buyback_spec h
    have h3 := t.minliq
    omega
  · intro op ha h
    obtain ⟨_, _, _, _, _, _, _, _, _, _, _, _, _, rfl⟩ := (step_admin ha h).state
    exact Or.inl ⟨hS, h1, h2⟩

theorem min_sq_le (a1 a2 : Nat) : (min a1 a2) ^ 2 ≤ a1 * a2 := by
  rw [Nat.pow_two]
  exact Nat.mul_le_mul (Nat.min_le_left _ _) (Nat.min_le_right _ _)

theorem step_emptyOK {s s' : St} {op : Op} {o : Out} (he : EmptyOK s)
    (h : step s op = some (s', o)) : EmptyOK s' := by
  have hM : MINLIQ = 1000 := rfl
  rcases Nat.eq_zero_or_pos s.S with hS | hS
  · obtain ⟨h1, h2⟩ := he hS
    rcases step_from_empty hS h1 h2 h with ⟨_, e1, e2⟩ | ⟨a1, a2, hm, e, _, _⟩
    · exact fun _ => ⟨e1, e2⟩
    · intro h0; omega
  · have := step_S_pos hS h
    intro h0; omega

theorem step_sqLe {s s' : St} {op : Op} {o : Out} (hi : Inv s) (he : EmptyOK s) (hq : SqLe s)
    (h : step s op = some (s', o)) : SqLe s' := by
  unfold SqLe at *
  rcases Nat.eq_zero_or_pos s.S with hS | hS
  · obtain ⟨h1, h2⟩ := he hS
    rcases step_from_empty hS h1 h2 h with ⟨e0, _, _⟩ | ⟨a1, a2, _, e, e1, e2⟩
    · rw [e0]; simp
    · rw [e, e1, e2]; exact min_sq_le a1 a2
  · have hsh := step_share hi hS h
    unfold ShareLe at hsh
    have hS2 : 0 < s.S ^ 2 := Nat.pow_pos hS
    apply Nat.le_of_mul_le_mul_right _ hS2
    calc s'.S ^ 2 * s.S ^ 2 = s.S ^ 2 * s'.S ^ 2 := Nat.mul_comm _ _
      _ ≤ s.r1 * s.r2 * s'.S ^ 2 := Nat.mul_le_mul_right _ hq
      _ ≤ s'.r1 * s'.r2 * s.S ^ 2 := hsh

/-- `step_sqLe` needs `Inv` and `EmptyOK` of the state before the step, so the three are carried together -/
theorem run_empty_sq (ops : List Op) {s : St} (hi : Inv s) (he : EmptyOK s) (hq : SqLe s) :
    EmptyOK (run s ops) ∧ SqLe (run s ops) :=
  (run_induction (P := fun s => Inv s ∧ EmptyOK s ∧ SqLe s)
    (fun h hst => ⟨step_inv h.1 hst, step_emptyOK h.2.1 hst, step_sqLe h.1 h.2.1 h.2.2 hst⟩)
    ops ⟨hi, he, hq⟩).2

/-- `run_share` without `0 < s.S`: on an empty pool the left-hand side is 0 -/
theorem run_share_all (ops : List Op) {s : St} (hi : Inv s) (he : EmptyOK s) :
    ShareLe s (run s ops) := by
  rcases Nat.eq_zero_or_pos s.S with hS | hS
  · obtain ⟨h1, _⟩ := he hS
    unfold ShareLe
    rw [h1, hS]
    simp
  · exact run_share ops hi hS

end Mx.Pair
