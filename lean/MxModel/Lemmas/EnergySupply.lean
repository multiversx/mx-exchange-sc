/-
  The base-asset / locked-token supply ledgers of the energy world (C09 `base_supply_delta`):
  kept by each of the nine ledger moves (`LedStep.sinv`), hence by every operation and history.
-/
import MxModel.Lemmas.EnergyAttrStep

namespace Mx.Energy

/-- the two ledgers.
    `ledger`   : base supply = initial + minted (unlock, early unlock) − burned (lock, cancel);
    `conserve` : base supply + locked tokens in circulation + penalties pending in the unbond queue
                 + penalties destroyed (burned / sent to the collector) = initial supply + tokens
                 created by reward locking.  Every summand is a natural number, so the base supply
                 can never exceed initial + reward emission. -/
structure SupplyInv (s : St) : Prop where
  ledger : s.baseSupply + s.burnLock + s.burnCancel = s.baseInit + s.mintUnlock + s.mintEarly
  conserve : s.baseSupply + s.circ + s.pendingPenalty + s.penBurned + s.collected =
    s.baseInit + s.virtLocked

/-- what `step_sinv` carries along a history.  `burnPct ≤ MAXPCT` (what `setBurnPct` accepts) is
    part of it because `conserve` needs burn share ≤ penalty (`burn_le`) wherever a penalty is
    split between burn and collector: in `reduceLock` and in `claimEntries`. -/
def SInv (s : St) : Prop := SupplyInv s ∧ s.burnPct ≤ MAXPCT

def Led.SInv (l : Led) : Prop :=
  l.baseSupply + l.burnLock + l.burnCancel = l.baseInit + l.mintUnlock + l.mintEarly ∧
  l.baseSupply + l.circ + l.pendingPenalty + l.penBurned + l.collected = l.baseInit + l.virtLocked ∧
  l.burnPct ≤ MAXPCT

theorem sinv_led {s : St} : SInv s ↔ s.led.SInv :=
  ⟨fun ⟨⟨a, b⟩, c⟩ => ⟨a, b, c⟩, fun ⟨a, b, c⟩ => ⟨⟨a, b⟩, c⟩⟩

theorem LedStep.sinv {l l' : Led} {p : Option Nat} (st : LedStep l p l') (hi : l.SInv) : l'.SInv := by
  obtain ⟨a, b, hb⟩ := hi
  cases st
  case same => exact ⟨a, b, hb⟩
  case setBurn p hp => exact ⟨a, b, hp.elim (fun e => e ▸ hb) id⟩
  case lock c amt h0 h1 h2 => exact ⟨by dsimp only; omega, by dsimp only; omega, hb⟩
  case unlock c tot h => exact ⟨by dsimp only; omega, by dsimp only; omega, hb⟩
  case early amt pen h1 h2 => exact ⟨by dsimp only; omega, by dsimp only; omega, hb⟩
  case reduce pen h =>
    have hburn := burn_le pen hb
    generalize pen * l.burnPct / MAXPCT = burn at *
    exact ⟨a, by dsimp only; omega, hb⟩
  case virt amt => exact ⟨a, by dsimp only; omega, hb⟩
  case claim c paid P B C pp ba hpp hs hU hoth =>
    have := hs hb
    exact ⟨a, by dsimp only; omega, hb⟩
  case cancel U P bs pp ba hbs hpp hU hoth => exact ⟨by dsimp only; omega, by dsimp only; omega, hb⟩

theorem step_sinv {s s' : St} {op : Op} {o : Out} (hi : SInv s) (h : step s op = some (s', o)) :
    SInv s' :=
  sinv_led.2 ((stepped h).led.sinv (sinv_led.1 hi))

theorem init_sinv (c : Cfg) (hb : c.burnPct ≤ MAXPCT) : SInv (init c) :=
  ⟨⟨rfl, rfl⟩, hb⟩

theorem run_sinv (ops : List Op) {s : St} (hi : SInv s) : SInv (run s ops) :=
  run_induction ops hi (fun _ _ _ _ _ hi h => step_sinv hi h)

end Mx.Energy
