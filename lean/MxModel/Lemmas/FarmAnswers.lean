/-
  What the farm MODEL (Core/Farm.lean, both kinds — `noMint` is farm-with-locked-rewards, the farm
  the proxy-dex talks to) answers to the calls a proxy makes: the amount of the farm token created
  by `enterFarm`, `claimRewards`, `mergeFarmTokens`, and the farming tokens `exitFarm` pays.
  Used by Props/C16Compose.lean to discharge `FarmExact` / `FarmOK`.
-/
import MxModel.Lemmas.FarmArith
import MxModel.Lemmas.FarmEff

namespace Mx.Farm

theorem enterCore_answer {s s' : St} {caller orig tokenTo amt : Nat} {extra : List (Nat × Nat)}
    {o : Out} (h : enterCore s caller orig tokenTo amt extra = some (s', o)) :
    amt ≠ 0 ∧ o.amt = amt + paySum extra := by
  obtain ⟨_, _, _, _, _, _, _, x⟩ := enterCore_effect h
  obtain rfl := x.out
  exact ⟨x.entered, (mergeParts_amt extra x.merge).1⟩

theorem enterFarm_answer {s s' : St} {caller : Nat} {opt : Option Nat} {amt : Nat}
    {extra : List (Nat × Nat)} {o : Out} (h : enterFarm s caller opt amt extra = some (s', o)) :
    amt ≠ 0 ∧ o.amt = amt + paySum extra ∧ (opt.isSome → caller ∈ s.scWl) := by
  obtain ⟨orig, ho, hc⟩ := enterFarm_spec h
  obtain ⟨h1, h2⟩ := enterCore_answer hc
  refine ⟨h1, h2, fun hs => ?_⟩
  rcases origCaller_spec ho with ⟨rfl, _⟩ | ⟨_, hw⟩
  · cases hs
  · exact hw

theorem claimCore_answer {s s' : St} {caller orig : Nat} {pays : List (Nat × Nat)} {o : Out}
    (h : claimCore s caller orig pays false = some (s', o)) : o.amt = paySum pays := by
  obtain ⟨_, a1, _, _, _, _, _, _, merged, _, _, _, x⟩ := claimCore_effect h
  obtain rfl := x.out
  obtain ⟨rest, rfl⟩ := List.head?_eq_some_iff.mp x.head
  exact (mergeParts_amt _ x.merge).1

theorem claimRewards_answer {s s' : St} {caller : Nat} {opt : Option Nat}
    {pays : List (Nat × Nat)} {o : Out} (h : claimRewards s caller opt pays = some (s', o)) :
    o.amt = paySum pays := by
  obtain ⟨orig, _, hc⟩ := claimRewards_spec h
  exact claimCore_answer hc

theorem mergeFarmTokens_answer {s s' : St} {caller : Nat} {opt : Option Nat}
    {pays : List (Nat × Nat)} {o : Out} (h : mergeFarmTokens s caller opt pays = some (s', o)) :
    o.amt = paySum pays := by
  obtain ⟨_, _, _, _, _, _, _, x⟩ := mergeFarmTokens_effect h
  obtain rfl := x.out
  exact mergeAll_amt x.merge

theorem exitFarm_answer {s s' : St} {caller : Nat} {opt : Option Nat} {n a : Nat} {o : Out}
    (h : exitFarm s caller opt n a = some (s', o)) :
    ∃ att, s.attrs n = some att ∧ att.epoch ≤ s.epoch ∧
      o.farming = a - (if s.minFarmingEpochs ≤ s.epoch - att.epoch then 0
                       else a * s.penaltyPct / MAXPCT) ∧
      o.farming ≤ a := by
  obtain ⟨_, att, _, _, _, _, _, _, _, x⟩ := exitFarm_effect h
  obtain rfl := x.out
  obtain rfl := x.penalty
  exact ⟨att, x.attr, x.epoch, rfl, Nat.sub_le _ _⟩

end Mx.Farm
