/-
  C09: the base-asset supply counter of the energy world IS the sum of the base-asset balances
  (users, callers, token-unstake) — preserved by every operation, hence by every history.
  `sumN f N` = Σ_{a < N} f a; `N` bounds the addresses that can ever receive base tokens.
-/
import MxModel.Lemmas.EnergyAttrStep

namespace Mx.Energy

def sumN (f : Nat → Nat) : Nat → Nat
  | 0 => 0
  | N + 1 => sumN f N + f N

theorem sumN_congr {f f' : Nat → Nat} (N : Nat) (h : ∀ a, a < N → f' a = f a) :
    sumN f' N = sumN f N := by
  induction N with
  | zero => rfl
  | succ N ih =>
    simp only [sumN]
    rw [ih (fun a ha => h a (by omega)), h N (by omega)]

theorem sumN_pt_add {f f' : Nat → Nat} {k N d : Nat} (hk : k < N) (hat : f' k = f k + d)
    (hoth : ∀ a, a ≠ k → f' a = f a) : sumN f' N = sumN f N + d := by
  induction N with
  | zero => omega
  | succ N ih =>
    simp only [sumN]
    rcases Nat.eq_or_lt_of_le (Nat.le_of_lt_succ hk) with heq | hlt
    · subst heq
      rw [sumN_congr k (fun a ha => hoth a (by omega)), hat]; omega
    · rw [ih hlt, hoth N (by omega)]; omega

theorem sumN_pt_sub {f f' : Nat → Nat} {k N d : Nat} (hk : k < N) (hat : f' k + d = f k)
    (hoth : ∀ a, a ≠ k → f' a = f a) : sumN f' N + d = sumN f N :=
  (sumN_pt_add hk hat.symm (fun a ha => (hoth a ha).symm)).symm

structure BaseInv (s : St) (N B : Nat) : Prop where
  sum : s.baseSupply = sumN s.base N
  out : ∀ a, N ≤ a → s.base a = 0
  binit : s.baseInit = B

def Led.Base (l : Led) (N B : Nat) : Prop :=
  l.baseSupply = sumN l.base N ∧ (∀ a, N ≤ a → l.base a = 0) ∧ l.baseInit = B

theorem binv_led {s : St} {N B : Nat} : BaseInv s N B ↔ s.led.Base N B :=
  ⟨fun ⟨a, b, c⟩ => ⟨a, b, c⟩, fun ⟨a, b, c⟩ => ⟨a, b, c⟩⟩

theorem Led.Base.mint {l l' : Led} {N B k d : Nat} (hi : l.Base N B) (hk : k < N)
    (hat : l'.base k = l.base k + d) (hoth : ∀ a, a ≠ k → l'.base a = l.base a)
    (hs : l'.baseSupply = l.baseSupply + d) (h0 : l'.baseInit = l.baseInit) : l'.Base N B :=
  ⟨by rw [hs, sumN_pt_add hk hat hoth, hi.1], fun a ha => by rw [hoth a (by omega)]; exact hi.2.1 a ha,
    h0.trans hi.2.2⟩

/-- no `k < N` is asked for: `k` holds `d > 0`, so it is below the bound -/
theorem Led.Base.burn {l l' : Led} {N B k d : Nat} (hi : l.Base N B) (hd : 0 < d)
    (hat : l'.base k + d = l.base k) (hoth : ∀ a, a ≠ k → l'.base a = l.base a)
    (hs : l'.baseSupply + d = l.baseSupply) (h0 : l'.baseInit = l.baseInit) : l'.Base N B := by
  have hk : k < N := Nat.lt_of_not_le fun hk => by have := hi.2.1 k hk; omega
  have h1 := sumN_pt_sub hk hat hoth
  have h2 := hi.1
  exact ⟨by omega, fun a ha => by rw [hoth a (by omega)]; exact hi.2.1 a ha, h0.trans hi.2.2⟩

/-- the account the operation can pay base tokens to out of nothing (`Op.payee`) is below `N` -/
def Op.PayeeBelow (N : Nat) : Op → Prop
  | .unlock c _ => c < N
  | .claim c => c < N
  | _ => True

instance (N : Nat) (op : Op) : Decidable (op.PayeeBelow N) := by
  cases op <;> simp only [Op.PayeeBelow] <;> exact inferInstance

theorem Op.PayeeBelow.lt {N c : Nat} {op : Op} (h : op.PayeeBelow N) (hc : op.payee = some c) :
    c < N := by
  cases op <;> cases hc <;> exact h

theorem LedStep.base {l l' : Led} {p : Option Nat} {N B : Nat} (st : LedStep l p l') (hi : l.Base N B)
    (hU : UNSTAKE < N) (hp : ∀ c, p = some c → c < N) : l'.Base N B := by
  cases st
  case same => exact hi
  case setBurn p hp => exact hi
  case lock c amt h0 h1 h2 =>
    exact hi.burn h0 (by dsimp only; rw [upd_same]; omega) (fun a ha => upd_other _ _ ha)
      (by dsimp only; omega) rfl
  case unlock c tot h =>
    exact hi.mint (hp c rfl) (upd_same ..) (fun a ha => upd_other _ _ ha) rfl rfl
  case early amt pen h1 h2 =>
    exact hi.mint hU (upd_same l.base UNSTAKE _) (fun a ha => upd_other _ _ ha) rfl rfl
  case reduce pen h => exact hi
  case virt amt => exact hi
  case claim c paid P B C pp ba hpp hs hU' hoth =>
    have hc : c < N := hp c rfl
    have h1 : sumN ba N + paid = sumN l.base N := sumN_pt_sub hU hU' hoth
    have h2 : sumN (upd ba c (ba c + paid)) N = sumN ba N + paid :=
      sumN_pt_add hc (upd_same ..) (fun a ha => upd_other _ _ ha)
    refine ⟨by dsimp only; rw [h2, h1]; exact hi.1, fun a ha => ?_, hi.2.2⟩
    dsimp only
    rw [upd_other _ _ (by omega)]
    exact (hoth a (by omega)).trans (hi.2.1 a ha)
  case cancel U P bs pp ba hbs hpp hU' hoth =>
    have h1 := sumN_pt_sub hU hU' hoth
    have h2 := hi.1
    exact ⟨by dsimp only; omega, fun a ha => (hoth a (by omega)).trans (hi.2.1 a ha), hi.2.2⟩

theorem step_binv {s s' : St} {op : Op} {o : Out} {N B : Nat} (hi : BaseInv s N B) (hU : UNSTAKE < N)
    (hw : op.PayeeBelow N) (h : step s op = some (s', o)) : BaseInv s' N B :=
  binv_led.2 ((stepped h).led.base (binv_led.1 hi) hU (fun _ => hw.lt))

theorem sumN_init (u f N : Nat) :
    sumN (fun a => if 1 ≤ a ∧ a ≤ u then f else 0) N = min u (N - 1) * f := by
  induction N with
  | zero => simp [sumN]
  | succ N ih =>
    simp only [sumN, ih]
    by_cases h1 : 1 ≤ N ∧ N ≤ u
    · simp only [h1, and_self, if_true]
      obtain ⟨k, rfl⟩ : ∃ k, N = k + 1 := ⟨N - 1, by omega⟩
      have e1 : min u (k + 1 - 1) = k := by omega
      have e2 : min u (k + 1 + 1 - 1) = k + 1 := by omega
      rw [e1, e2, Nat.succ_mul]
    · simp only [h1, if_false, Nat.add_zero]
      have : min u (N - 1) = min u (N + 1 - 1) := by omega
      rw [this]

theorem init_binv (c : Cfg) {N : Nat} (hN : c.users < N) :
    BaseInv (init c) N (c.users * c.funds) := by
  refine ⟨?_, fun a ha => ?_, rfl⟩
  · show c.users * c.funds = sumN (fun a => if 1 ≤ a ∧ a ≤ c.users then c.funds else 0) N
    rw [sumN_init]
    have : min c.users (N - 1) = c.users := by omega
    rw [this]
  · show (if 1 ≤ a ∧ a ≤ c.users then c.funds else 0) = 0
    have : ¬ (1 ≤ a ∧ a ≤ c.users) := by omega
    simp [this]

theorem run_binv (ops : List Op) {s : St} {N B : Nat} (hi : BaseInv s N B) (hU : UNSTAKE < N)
    (hw : ∀ op ∈ ops, op.PayeeBelow N) : BaseInv (run s ops) N B :=
  run_induction ops hi (fun _ _ op _ hm hi h => step_binv hi hU (hw op hm) h)

end Mx.Energy
