/-
  The per-week boosted pool bound `PoolOK` is preserved by every transaction of the staking model.
-/
import MxModel.Lemmas.StakingBoosted

namespace Mx.Staking

open Mx.Weekly

/-- `remaining`, `paid`, `collected` are only moved by the boosted claim and by the
    undistributed-rewards sweep -/
theorem step_pool {s s' : St} {op : Op} {o : Out} (hb : PoolOK s.b)
    (h : step s op = some (s', o)) : PoolOK s'.b := by
  cases step_kind h with
  | claim _ k =>
    have ht := k.entry_frame
    exact (claimBoostedYields_pool (hb.of_eq ht.2.2.2.1 ht.2.2.1 ht.2.2.2.2.1) k.claim).of_eq
      k.pools.2.1 k.pools.1 k.pools.2.2.1
  | same _ e | settle _ e | factors _ _ e | energy _ _ e | tick _ _ e =>
    exact hb.of_eq (congrArg (·.b.remaining) e) (congrArg (·.b.paid) e) (congrArg (·.b.collected) e)
  | sweep _ h _ =>
    obtain ⟨_, ⟨_, rfl⟩ | ⟨_, _, hr, _, hp, hc, _⟩⟩ := collectUndistributed_spec h
    · exact hb
    · intro k
      have := hb k
      rw [hr k, hp, hc]
      split <;> omega

theorem run_pool (ops : List Op) {s : St} (hb : PoolOK s.b) : PoolOK (run s ops).b :=
  run_induction (P := fun s => PoolOK s.b) step_pool ops hb

end Mx.Staking
