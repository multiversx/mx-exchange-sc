/-
  Access / pause facts about the farm model (Core/Farm.lean; kinds `mint` = dex/farm and `noMint` =
  farm-with-locked-rewards) for Props/C19Models.lean and Props/C19Wallets.lean: which endpoints need
  the farm Active, on whose behalf a claim acts, whose energy a payout credits.  The endpoint facts
  are read off the closed forms of Lemmas/FarmEff.lean.
-/
import MxModel.Lemmas.FarmArith
import MxModel.Lemmas.FarmEff

namespace Mx.Farm

theorem enterCore_needs_active {s : St} {caller orig tokenTo amt : Nat} {extra : List (Nat × Nat)}
    {r : St × Out} (h : enterCore s caller orig tokenTo amt extra = some r) : s.active = true := by
  obtain ⟨_, _, _, _, _, _, _, x⟩ := enterCore_effect (o := r.2) h
  exact x.active

theorem claimCore_needs_active {s : St} {caller orig : Nat} {pays : List (Nat × Nat)} {cmp : Bool}
    {r : St × Out} (h : claimCore s caller orig pays cmp = some r) : s.active = true := by
  obtain ⟨_, _, _, _, _, _, _, _, _, _, _, _, x⟩ := claimCore_effect (o := r.2) h
  exact x.active

theorem exitFarm_needs {s : St} {caller : Nat} {opt : Option Nat} {n a : Nat} {r : St × Out}
    (h : exitFarm s caller opt n a = some r) :
    s.active = true ∧ ∃ orig, origCaller s caller opt = some orig := by
  obtain ⟨orig, _, _, _, _, _, _, _, _, x⟩ := exitFarm_effect (o := r.2) h
  exact ⟨x.active, orig, x.orig⟩

theorem mergeFarmTokens_needs {s : St} {caller : Nat} {opt : Option Nat} {pays : List (Nat × Nat)}
    {r : St × Out} (h : mergeFarmTokens s caller opt pays = some r) :
    s.active = true ∧ ∃ orig, origCaller s caller opt = some orig := by
  obtain ⟨orig, _, _, _, _, _, _, x⟩ := mergeFarmTokens_effect (o := r.2) h
  exact ⟨x.active, orig, x.orig⟩

theorem claimBoostedRewards_needs {s : St} {caller : Nat} {optUser : Option Nat} {r : St × Out}
    (h : claimBoostedRewards s caller optUser = some r) :
    s.active = true ∧ optUser.getD caller = caller := by
  obtain ⟨_, _, _, _, x⟩ := claimBoostedRewards_effect (o := r.2) h
  exact ⟨x.active, x.user⟩

theorem hubAllows_iff (s : St) (user caller : Nat) :
    hubAllows s user caller = true ↔ caller ∉ s.hubBl ∧ (user, caller) ∈ s.hubWl := by
  simp [hubAllows]

/-- `get_claim_original_owner` returns the owner recorded in EVERY payment -/
theorem claimOwner_all : ∀ (pays : List (Nat × Nat)) {s : St} {u : Nat}, claimOwner s pays = some u →
    pays ≠ [] ∧ ∀ p ∈ pays, ∃ att, s.attrs p.1 = some att ∧ att.owner = u := by
  intro pays
  induction pays with
  | nil => intro s u h; simp [claimOwner] at h
  | cons p rest ih =>
    intro s u h
    obtain ⟨n, a⟩ := p
    refine ⟨List.cons_ne_nil _ _, ?_⟩
    cases rest with
    | nil =>
      simp only [claimOwner, Option.bind_eq_bind, Option.bind_eq_some_iff, Option.pure_def,
        Option.some.injEq] at h
      obtain ⟨att, hat, rfl⟩ := h
      intro p hp
      simp only [List.mem_singleton] at hp
      subst hp
      exact ⟨att, hat, rfl⟩
    | cons q rest' =>
      rw [claimOwner] at h
      simp only [Option.bind_eq_bind, Option.bind_eq_some_iff, Option.pure_def,
        Option.some.injEq, req_eq_some] at h
      obtain ⟨att, hat, o, ho, _, heq, rfl⟩ := h
      have hrest := (ih (s := s) (u := o) ho).2
      intro p hp
      rcases List.mem_cons.mp hp with rfl | hp
      · exact ⟨att, hat, heq.symm⟩
      · exact hrest p hp

theorem payReward_energy_other {s s' : St} {u b bo : Nat} (h : payReward s u b bo = some s') {x : Nat}
    (hx : x ≠ u) : s'.energy x = s.energy x := by
  obtain ⟨_, e, rfl, -, -, he⟩ := payReward_spec h
  exact he x hx

/-- farm-with-locked-rewards pays through the energy factory's `lock_virtual`: the payment is a lock
    credited to the energy account of `u`. -/
theorem payReward_noMint {s s' : St} {u b bo : Nat} (hk : s.kind = .noMint) (hpos : b + bo ≠ 0)
    (h : payReward s u b bo = some s') :
    lockVirtual { s with paid := s.paid + (b + bo), paidBase := s.paidBase + b
                         paidBoosted := s.paidBoosted + bo } u (b + bo) = some s' := by
  unfold payReward at h
  simp only [Option.bind_eq_bind, Option.pure_def, hpos, if_false] at h
  split at h
  · rename_i hm; rw [hk] at hm; cases hm
  · exact h

/-- The payee of a non-compounding claim run for `orig` (the caller may be another account:
    `claimRewardsOnBehalf`): the new position records `orig` as original owner, the reward goes through
    `payReward … orig …`, which changes no other energy entry, and the boosted part is what
    `claimBoostedYields … orig` returned. -/
theorem claimCore_payee {s s' : St} {caller orig : Nat} {pays : List (Nat × Nat)} {o : Out}
    (h : claimCore s caller orig pays false = some (s', o)) :
    (∀ x, x ≠ orig → s'.energy x = s.energy x) ∧
    (∃ att, s'.attrs o.nonce = some att ∧ att.owner = orig ∧ att.amt = o.amt) ∧
    o.rew = o.base + o.boosted ∧
    ∃ s1 s2, claimBoostedYields s1 orig = some (s2, o.boosted) := by
  obtain ⟨_, _, _, _, _, t, _, _, merged, _, _, _, x⟩ := claimCore_effect h
  obtain rfl := x.out
  obtain rfl := x.rew
  have h8 : payReward _ orig _ _ = some s' := x.tail
  have he : ∀ y, y ≠ orig → s'.energy y = s.energy y := fun y hy => payReward_energy_other h8 hy
  obtain ⟨_, _, rfl, -⟩ := payReward_spec h8
  exact ⟨he, ⟨merged, Mx.Weekly.upd_same _ _ _, (mergeParts_amt _ x.merge).2, rfl⟩, rfl, _, t, x.claim⟩

theorem updateEnergyForUser_active {s s' : St} {u : Nat} (h : updateEnergyForUser s u = some s') :
    s'.active = s.active := by
  obtain ⟨_, rfl⟩ := updateEnergyForUser_spec h; rfl

theorem transfer_active {s s' : St} {a b n x : Nat} (h : transfer s a b n x = some s') :
    s'.active = s.active := by
  obtain ⟨_, _, _, _, _, _, rfl⟩ := transfer_some h; rfl

def isResume : Op → Bool
  | .resume _ => true
  | _ => false

/-- `active` is `State::Active` of the pausable module (`require!(current_state == State::Active, …)` in
    `base_farm_validation.rs`).  A table over the operations, one line per class. -/
theorem step_active {s s' : St} {op : Op} {o : Out} (h : step s op = some (s', o)) :
    match op with
    | .enter .. | .enterOB .. | .claim .. | .claimOB .. | .compound .. | .exit .. | .merge ..
    | .claimBoosted .. => s.active = true
    | .pause c => s.isAdmin c = true ∧ s'.active = false
    | .resume c => s.isAdmin c = true ∧ s'.active = true
    | .setPerBlock c _ | .startProduce c | .endProduce c | .setPct c _ | .setFactors c _ | .collect c | .setPenalty c _
    | .setMinEpochs c _ => s.isAdmin c = true ∧ s'.active = s.active
    | _ => s'.active = s.active := by
  cases op <;> have hs := step_some h
  case enter =>
    obtain ⟨_, _, h'⟩ := enterFarm_spec hs.2
    exact enterCore_needs_active h'
  case enterOB => exact enterCore_needs_active (enterFarmOnBehalf_spec hs.2).2.2
  case claim =>
    obtain ⟨_, _, h'⟩ := claimRewards_spec hs.2
    exact claimCore_needs_active h'
  case claimOB =>
    obtain ⟨_, _, _, h'⟩ := claimRewardsOnBehalf_spec hs.2
    exact claimCore_needs_active h'
  case compound =>
    obtain ⟨_, _, _, h'⟩ := compoundRewards_spec hs.2
    exact claimCore_needs_active h'
  case exit => exact (exitFarm_needs hs.2).1
  case merge => exact (mergeFarmTokens_needs hs.2).1
  case claimBoosted => exact (claimBoostedRewards_needs hs.2).1
  case transfer => exact transfer_active hs.2.2.1
  case setEnergy => obtain ⟨rfl, _⟩ := hs; rfl
  case updateEnergy => exact updateEnergyForUser_active hs.1
  case setPerBlock =>
    obtain ⟨ha, _, s1, h1, rfl⟩ := setPerBlock_some hs.1
    obtain ⟨_, rfl⟩ := settle_eq h1
    exact ⟨ha, rfl⟩
  case startProduce =>
    obtain ⟨ha, _, _, rfl⟩ := startProduce_some hs.1
    exact ⟨ha, rfl⟩
  case endProduce =>
    obtain ⟨ha, s1, h1, rfl⟩ := endProduce_some hs.1
    obtain ⟨_, rfl⟩ := settle_eq h1
    exact ⟨ha, rfl⟩
  case setPct =>
    obtain ⟨ha, _, s1, h1, rfl⟩ := setPct_some hs.1
    obtain ⟨_, rfl⟩ := settle_eq h1
    exact ⟨ha, rfl⟩
  case setFactors =>
    obtain ⟨ha, _, _, _, _, _, _, rfl⟩ := setFactors_some hs.1
    exact ⟨ha, rfl⟩
  case collect =>
    obtain ⟨ha, _, _, _, rfl⟩ := collectUndistributed_some hs.1
    exact ⟨ha, by split <;> rfl⟩
  case pause =>
    obtain ⟨ha, rfl⟩ := setActive_some hs.1
    exact ⟨ha, rfl⟩
  case resume =>
    obtain ⟨ha, rfl⟩ := setActive_some hs.1
    exact ⟨ha, rfl⟩
  case setPenalty =>
    obtain ⟨ha, _, rfl⟩ := setPenalty_some hs.1
    exact ⟨ha, rfl⟩
  case setMinEpochs =>
    obtain ⟨ha, _, rfl⟩ := setMinEpochs_some hs.1
    exact ⟨ha, rfl⟩
  case hubWhitelist => obtain ⟨_, rfl, _⟩ := hs; rfl
  case hubRemove => obtain ⟨_, rfl, _⟩ := hs; rfl
  case hubBlacklist => obtain ⟨rfl, _⟩ := hs; rfl
  case scWhitelist => obtain ⟨_, rfl, _⟩ := hs; rfl
  case scUnwhitelist => obtain ⟨_, rfl, _⟩ := hs; rfl
  case advance => obtain ⟨_, rfl, _⟩ := hs; rfl
  case bad => exact hs.elim

theorem step_keeps_inactive {s s' : St} {op : Op} {o : Out} (hp : s.active = false)
    (h : step s op = some (s', o)) (hop : isResume op = false) : s'.active = false := by
  have := step_active h
  cases op with
  | resume => cases hop
  | pause => exact this.2
  | enter | enterOB | claim | claimOB | compound | exit | merge | claimBoosted =>
    exact Bool.noConfusion (hp.symm.trans this)
  | setPerBlock | startProduce | endProduce | setPct | setFactors | collect | setPenalty | setMinEpochs =>
    exact this.2.trans hp
  | _ => exact Eq.trans this hp

theorem run_keeps_inactive (ops : List Op) {s : St} (hp : s.active = false)
    (hno : ∀ op ∈ ops, isResume op = false) : (run s ops).active = false := by
  induction ops generalizing s with
  | nil => exact hp
  | cons op rest ih =>
    simp only [run, List.foldl_cons]
    have hrest : ∀ x ∈ rest, isResume x = false := fun x hx => hno x (List.mem_cons_of_mem _ hx)
    cases hs : step s op with
    | none => exact ih hp hrest
    | some r =>
      obtain ⟨s', o⟩ := r
      exact ih (step_keeps_inactive hp hs (hno op List.mem_cons_self)) hrest

end Mx.Farm
