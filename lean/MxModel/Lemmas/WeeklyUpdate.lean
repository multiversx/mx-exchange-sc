/-
  Preservation of the lot relation by a user energy update
  (`update_global_amounts_for_current_week` after the weekly shift): the user's old lot is
  removed — or left behind as an ORPHAN when its remaining energy is exactly 0 while it still
  sits in the first bucket — and the new lot is added.
-/
import MxModel.Lemmas.WeeklyGlobal

namespace Mx.Weekly

theorem upd_sub_le (f : Nat → Nat) (k a x : Nat) : upd f k (f k - a) x ≤ f x := by
  by_cases hx : x = k
  · subst hx; rw [upd_same]; exact Nat.sub_le _ _
  · rw [upd_other _ _ hx]

theorem upd_upd {α : Type} (f : Nat → α) (k : Nat) (a b : α) : upd (upd f k a) k b = upd f k b := by
  funext x; unfold upd; split <;> rfl

/-- everything but the buckets is untouched -/
structure FrameB (g' g : St) : Prop where
  fb : g'.firstBucketId = g.firstBucketId
  progress : g'.progress = g.progress
  users : g'.users = g.users
  totalEnergy : g'.totalEnergy = g.totalEnergy
  totalLocked : g'.totalLocked = g.totalLocked
  totalRewards : g'.totalRewards = g.totalRewards
  lgw : g'.lastGlobalUpdateWeek = g.lastGlobalUpdateWeek

theorem FrameB.refl (g : St) : FrameB g g := ⟨rfl, rfl, rfl, rfl, rfl, rfl, rfl⟩

theorem FrameB.trans {a b c : St} (h1 : FrameB a b) (h2 : FrameB b c) : FrameB a c :=
  ⟨h1.fb.trans h2.fb, h1.progress.trans h2.progress, h1.users.trans h2.users,
   h1.totalEnergy.trans h2.totalEnergy, h1.totalLocked.trans h2.totalLocked,
   h1.totalRewards.trans h2.totalRewards, h1.lgw.trans h2.lgw⟩

theorem bucketRemove_spec {g g1 : St} {id0 : Nat} {prev : Energy}
    (h : bucketRemove g id0 prev = some g1) :
    FrameB g1 g ∧ ∀ id,
      (g1.buckets id).tokens + (if id0 = id then prev.totalLocked else 0) = (g.buckets id).tokens ∧
      (g1.buckets id).surplus + (if id0 = id then surplusFor prev else 0) = (g.buckets id).surplus := by
  obtain ⟨tk, h1, h⟩ := peel h
  obtain ⟨su, h2, h⟩ := peel h
  obtain ⟨hle1, rfl⟩ := sub?_eq_some.mp h1
  obtain ⟨hle2, rfl⟩ := sub?_eq_some.mp h2
  cases h
  refine ⟨⟨rfl, rfl, rfl, rfl, rfl, rfl, rfl⟩, fun id => ?_⟩
  by_cases hid : id = id0
  · subst hid
    simp only [upd_same, if_true]
    omega
  · simp [upd_other _ _ hid, Ne.symm hid]

theorem addOpt_spec (a : St) (o : Option Nat) (cur : Energy) (g2 : St)
    (hg2 : (match o with | some id => bucketAdd a id cur | none => a) = g2) :
    FrameB g2 a ∧ ∀ id,
      (g2.buckets id).tokens =
        (a.buckets id).tokens + (if o = some id then cur.totalLocked else 0) ∧
      (g2.buckets id).surplus =
        (a.buckets id).surplus + (if o = some id then surplusFor cur else 0) := by
  subst hg2
  cases o with
  | none => exact ⟨FrameB.refl a, fun id => by simp⟩
  | some id1 =>
    refine ⟨⟨rfl, rfl, rfl, rfl, rfl, rfl, rfl⟩, ?_⟩
    intro id
    simp only [bucketAdd]
    by_cases hid : id = id1
    · subst hid
      simp
    · simp [upd_other _ _ hid, Ne.symm hid]

theorem reallocate_spec {g g' : St} {prev depPrev cur : Energy} {bp : BucketPair}
    (h : reallocate g prev depPrev cur = some (g', bp)) :
    bp.prev = bucketIdFor g.firstBucketId depPrev ∧ bp.cur = bucketIdFor g.firstBucketId cur ∧
    FrameB g' g ∧
    ∀ id,
      (g'.buckets id).tokens + (if bp.prev = some id then prev.totalLocked else 0) =
        (g.buckets id).tokens + (if bp.cur = some id then cur.totalLocked else 0) ∧
      (g'.buckets id).surplus + (if bp.prev = some id then surplusFor prev else 0) =
        (g.buckets id).surplus + (if bp.cur = some id then surplusFor cur else 0) := by
  unfold reallocate at h
  cases hb : bucketIdFor g.firstBucketId depPrev with
  | none =>
    simp only [hb, Option.bind_eq_bind, Option.pure_def, Option.bind_some, Option.some.injEq,
      Prod.mk.injEq] at h
    obtain ⟨hg', rfl⟩ := h
    obtain ⟨hf, hb2⟩ := addOpt_spec g (bucketIdFor g.firstBucketId cur) cur g' hg'
    exact ⟨rfl, rfl, hf, fun id => by simpa using hb2 id⟩
  | some id0 =>
    simp only [hb, Option.bind_eq_bind, Option.pure_def, Option.bind_eq_some_iff,
      Option.some.injEq, Prod.mk.injEq] at h
    obtain ⟨a, hrem, hg', rfl⟩ := h
    obtain ⟨hf1, hb1⟩ := bucketRemove_spec hrem
    obtain ⟨hf2, hb2⟩ := addOpt_spec a (bucketIdFor a.firstBucketId cur) cur g' hg'
    rw [hf1.fb] at hb2 ⊢
    refine ⟨rfl, rfl, hf2.trans hf1, fun id => ?_⟩
    have h1 := hb1 id
    have h2 := hb2 id
    simp only [Option.some.injEq]
    omega

theorem updateTotalTokens_spec {g g' : St} {W : Nat} {bp : BucketPair} {depPrev cur : Energy}
    (h : updateTotalTokens g W bp depPrev cur = some g') :
    g'.firstBucketId = g.firstBucketId ∧ g'.progress = g.progress ∧ g'.users = g.users ∧
    g'.totalEnergy = g.totalEnergy ∧ g'.buckets = g.buckets ∧
    g'.totalRewards = g.totalRewards ∧ g'.lastGlobalUpdateWeek = g.lastGlobalUpdateWeek ∧
    (∀ w, w ≠ W → g'.totalLocked w = g.totalLocked w) ∧
    g'.totalLocked W + (if bp.prev.isSome then depPrev.totalLocked else 0) =
      g.totalLocked W + (if bp.cur.isSome then cur.totalLocked else 0) := by
  obtain ⟨p, c⟩ := bp
  unfold updateTotalTokens at h
  cases p with
  | none =>
    cases c with
    | none =>
      cases h
      exact ⟨rfl, rfl, rfl, rfl, rfl, rfl, rfl, fun _ _ => rfl, rfl⟩
    | some _ =>
      cases h
      exact ⟨rfl, rfl, rfl, rfl, rfl, rfl, rfl, fun w hw => upd_other _ _ hw,
        congrArg (· + 0) (upd_same _ _ _)⟩
  | some _ =>
    cases c with
    | none | some _ =>
      obtain ⟨v, hv, h⟩ := peel h
      obtain ⟨hle, rfl⟩ := sub?_eq_some.mp hv
      cases h
      exact ⟨rfl, rfl, rfl, rfl, rfl, rfl, rfl, fun w hw => upd_other _ _ hw,
        (congrArg (· + depPrev.totalLocked) (upd_same _ _ _)).trans (Nat.sub_add_cancel hle)⟩

theorem updateTotalEnergy_spec {g g' : St} {W : Nat} {depPrev cur : Energy}
    (h : updateTotalEnergy g W depPrev cur = some g') :
    g'.firstBucketId = g.firstBucketId ∧ g'.progress = g.progress ∧ g'.users = g.users ∧
    g'.totalLocked = g.totalLocked ∧ g'.buckets = g.buckets ∧
    g'.totalRewards = g.totalRewards ∧ g'.lastGlobalUpdateWeek = g.lastGlobalUpdateWeek ∧
    (∀ w, w ≠ W → g'.totalEnergy w = g.totalEnergy w) ∧
    g'.totalEnergy W + depPrev.getEnergyAmount = g.totalEnergy W + cur.getEnergyAmount := by
  simp only [updateTotalEnergy, Option.bind_eq_bind, Option.bind_eq_some_iff, sub?_eq_some,
    Option.pure_def, Option.some.injEq] at h
  obtain ⟨v, ⟨hle, rfl⟩, rfl⟩ := h
  refine ⟨rfl, rfl, rfl, rfl, rfl, rfl, rfl, fun w hw => upd_other _ _ hw, ?_⟩
  simp only [upd_same]
  omega

theorem updateGlobal_spec {g g' : St} {W la : Nat} {prev cur : Energy}
    (h : updateGlobal g W la prev cur = some g') :
    ∃ g1 g2 bp g3, performWeeklyUpdate g W = some g1 ∧ la ≤ W ∧
      reallocate g1 prev (depletedPrev prev W la) cur = some (g2, bp) ∧
      updateTotalTokens g2 W bp (depletedPrev prev W la) cur = some g3 ∧
      updateTotalEnergy g3 W (depletedPrev prev W la) cur = some g' := by
  obtain ⟨g1, h1, h⟩ := peel h
  obtain ⟨_, hle, h⟩ := peel h
  obtain ⟨⟨g2, bp⟩, hre, h⟩ := peel h
  obtain ⟨g3, htk, hen⟩ := peel h
  exact ⟨g1, g2, bp, g3, h1, (req_eq_some _).mp hle, hre, htk, hen⟩

theorem updateGlobal_frame {g g' : St} {W la : Nat} {prev cur : Energy}
    (h : updateGlobal g W la prev cur = some g') :
    g'.progress = g.progress ∧ g'.users = g.users ∧ g'.lastGlobalUpdateWeek = W ∧
    g.lastGlobalUpdateWeek ≤ W ∧
    ∀ w, w ≠ W → g'.totalEnergy w = g.totalEnergy w ∨ (g'.totalEnergy w = 0 ∧ w + 5 = W) := by
  obtain ⟨g1, g2, bp, g3, h1, _, hre, htk, hen⟩ := updateGlobal_spec h
  obtain ⟨p1, u1, l1, hle, e1⟩ := performWeeklyUpdate_frame h1
  obtain ⟨_, _, hfr, _⟩ := reallocate_spec hre
  obtain ⟨_, t2, t3, t4, _, _, t7, _, _⟩ := updateTotalTokens_spec htk
  obtain ⟨_, n2, n3, _, _, _, n7, n8, _⟩ := updateTotalEnergy_spec hen
  refine ⟨by rw [n2, t2, hfr.progress, p1], by rw [n3, t3, hfr.users, u1],
    by rw [n7, t7, hfr.lgw, l1], hle, fun w hw => ?_⟩
  rw [n8 w hw, t4, hfr.totalEnergy]
  exact e1 w hw

/-- the previous energy the code passes for a progress entry (none ⇒ week 0, `Energy::default()`) -/
def prevOf (o : Option ClaimProgress) : Nat × Energy :=
  match o with
  | some p => (p.week, p.energy)
  | none => (0, Energy.zero)

theorem updateUserEnergyForCurrentWeek_eq (g : St) (W : Nat) (cur : Energy)
    (o : Option ClaimProgress) :
    updateUserEnergyForCurrentWeek g W cur o = updateGlobal g W (prevOf o).1 (prevOf o).2 cur := by
  cases o <;> rfl

theorem surplusFor_eq {e : Energy} (h : 0 < e.totalLocked) :
    surplusFor e = e.getEnergyAmount % (e.totalLocked * 7) := by
  unfold surplusFor
  rw [if_neg (Nat.ne_of_gt h)]
  rfl

/-- the bucket the code computes for an energy that stands for the lot `l` -/
theorem bucketIdFor_lot {F : Nat} {e : Energy} {l : Lot} (h1 : e.getEnergyAmount = l.contrib)
    (h2 : e.totalLocked = l.T) :
    bucketIdFor F e = if l.Live ∧ 0 < l.contrib then some (F + l.off) else none := by
  unfold bucketIdFor EPOCHS_IN_WEEK
  rw [h1, h2]
  by_cases hT : l.T = 0
  · rw [if_pos hT, if_neg (fun h => Nat.ne_of_gt h.1.1 hT)]
  by_cases hc : l.contrib = 0
  · rw [if_neg hT, if_pos hc, if_neg (fun h => Nat.ne_of_gt h.2 hc)]
  · have hl := l.contrib_pos_live (Nat.pos_of_ne_zero hT) (Nat.pos_of_ne_zero hc)
    rw [if_neg hT, if_neg hc, if_pos ⟨hl, Nat.pos_of_ne_zero hc⟩, l.contrib_div hl, Nat.add_comm]

/-- what the code removes for (or adds to) a lot `l`, bucket by bucket: `dep`, which stands for
    the lot, selects the bucket; `orig` is the energy whose tokens and surplus are moved.  A live
    lot with no energy left is not found any more: its tokens are the orphans. -/
theorem lot_bridge {F : Nat} {dep orig : Energy} {l : Lot} (h1 : dep.getEnergyAmount = l.contrib)
    (h2 : dep.totalLocked = l.T) (h3 : orig.totalLocked = l.T)
    (h4 : 0 < l.T → surplusFor orig = l.sur) :
    (if (bucketIdFor F dep).isSome then dep.totalLocked else 0) + l.orph = l.tok ∧
    ∀ d, (if bucketIdFor F dep = some (F + d) then orig.totalLocked else 0) +
           (if d = 0 then l.orph else 0) = l.bTok d ∧
         (if bucketIdFor F dep = some (F + d) then surplusFor orig else 0) = l.bSur d := by
  rw [bucketIdFor_lot h1 h2]
  unfold Lot.orph Lot.tok Lot.bTok Lot.bSur
  by_cases hlive : l.Live
  · have e4 := h4 hlive.1
    by_cases hc : l.contrib = 0
    · obtain ⟨h0, hs⟩ := Lot.orphan_off hlive hc
      simp [hlive, hc, h0, hs, eq_comm]
    · simp [hlive, hc, Nat.pos_of_ne_zero hc, h2, h3, e4]
  · simp [hlive]

/-- the user's OLD lot as the code sees it -/
theorem prev_bridge (o : Option ClaimProgress) (W F : Nat) (hw : ∀ p, o = some p → p.week ≤ W) :
    let prev := (prevOf o).2
    let dep := depletedPrev prev W (prevOf o).1
    let l := lotAt o W
    dep.getEnergyAmount = l.contrib ∧
    (if (bucketIdFor F dep).isSome then dep.totalLocked else 0) + l.orph = l.tok ∧
    ∀ d, (if bucketIdFor F dep = some (F + d) then prev.totalLocked else 0) +
           (if d = 0 then l.orph else 0) = l.bTok d ∧
         (if bucketIdFor F dep = some (F + d) then surplusFor prev else 0) = l.bSur d := by
  intro prev dep l
  have h : dep.getEnergyAmount = l.contrib ∧ dep.totalLocked = l.T ∧ prev.totalLocked = l.T ∧
      (0 < l.T → surplusFor prev = l.sur) := by
    cases o with
    | none =>
      simp only [prev, dep, l, prevOf, lotAt, depletedPrev_eq, Energy.after_getEnergyAmount,
        Energy.after_locked]
      exact ⟨by simp [Energy.zero, Lot.contrib], rfl, rfl, fun h => absurd h (Nat.lt_irrefl 0)⟩
    | some p =>
      simp only [prev, dep, l, prevOf, lotAt, depletedPrev_eq, Energy.after_getEnergyAmount,
        Energy.after_locked, toNat_sub_nat]
      exact ⟨rfl, trivial, trivial, surplusFor_eq⟩
  exact ⟨h.1, lot_bridge h.1 h.2.1 h.2.2.1 h.2.2.2⟩

/-- the new progress entry `claim_multi` / `update_energy_and_progress` store for `cur` -/
def newOf (cur : Energy) (W : Nat) : Option ClaimProgress :=
  if 0 < cur.getEnergyAmount then some ⟨cur, W⟩ else none

theorem newOf_eq_some {cur : Energy} {W : Nat} {p : ClaimProgress} :
    newOf cur W = some p ↔ 0 < cur.getEnergyAmount ∧ p = ⟨cur, W⟩ := by
  unfold newOf
  split
  · rename_i h
    exact ⟨fun e => ⟨h, (Option.some.inj e).symm⟩, fun e => congrArg some e.2.symm⟩
  · rename_i h
    exact ⟨fun e => (nomatch e), fun e => absurd e.1 h⟩

theorem newOf_week {cur : Energy} {W : Nat} : ∀ p, newOf cur W = some p → p.week = W :=
  fun _ h => congrArg ClaimProgress.week (newOf_eq_some.mp h).2

/-- the user's NEW lot as the code sees it (a fresh lot leaves no orphans) -/
theorem cur_bridge (cur : Energy) (W F : Nat) :
    let l := lotAt (newOf cur W) W
    cur.getEnergyAmount = l.contrib ∧
    (if (bucketIdFor F cur).isSome then cur.totalLocked else 0) = l.tok ∧
    ∀ d, (if bucketIdFor F cur = some (F + d) then cur.totalLocked else 0) = l.bTok d ∧
         (if bucketIdFor F cur = some (F + d) then surplusFor cur else 0) = l.bSur d := by
  unfold newOf
  by_cases ha : 0 < cur.getEnergyAmount
  · rw [if_pos ha]
    intro l
    have h1 : cur.getEnergyAmount = l.contrib := by
      simp only [l, lotAt, Lot.contrib, Nat.sub_self, Nat.mul_zero, Nat.sub_zero]
    have ho : l.orph = 0 := if_neg fun h => by omega
    have := lot_bridge (F := F) (orig := cur) h1 rfl rfl surplusFor_eq
    simp only [ho, ite_self, Nat.add_zero] at this
    exact ⟨h1, this⟩
  · rw [if_neg ha]
    intro l
    have hb : bucketIdFor F cur = none := by
      unfold bucketIdFor
      split
      · rfl
      · rw [if_pos (by omega)]
    have hnl : ¬ Lot.Live ⟨0, 0, W⟩ := fun h => Nat.lt_irrefl 0 h.1
    rw [hb]
    simp [Lot.contrib, Lot.tok, Lot.bTok, Lot.bSur, hnl, l, lotAt]
    omega

/-- user list after a progress write -/
def usersAfter (users : List Nat) (u0 : Nat) (new : Option ClaimProgress) : List Nat :=
  if new.isSome ∧ u0 ∉ users then users ++ [u0] else users

theorem mem_usersAfter {users : List Nat} {u0 u : Nat} {new : Option ClaimProgress} :
    u ∈ usersAfter users u0 new ↔ u ∈ users ∨ (u = u0 ∧ new.isSome) := by
  unfold usersAfter
  by_cases hm : u0 ∈ users
  · rw [if_neg fun h => h.2 hm]
    exact ⟨Or.inl, fun h => h.elim id fun e => e.1 ▸ hm⟩
  · cases new <;> simp [hm]

theorem nodup_usersAfter {users : List Nat} (h : users.Nodup) (u0 : Nat)
    (new : Option ClaimProgress) : (usersAfter users u0 new).Nodup := by
  unfold usersAfter
  split
  · rename_i hc
    exact List.nodup_append.mpr ⟨h, List.nodup_cons.mpr ⟨List.not_mem_nil, List.nodup_nil⟩,
      fun a ha b hb => by rw [List.mem_singleton.mp hb]; rintro rfl; exact hc.2 ha⟩
  · exact h

theorem usum_usersAfter (users : List Nat) (u0 : Nat) (new : Option ClaimProgress) (f : Nat → Nat) :
    usum (usersAfter users u0 new) f =
      usum users f + if new.isSome ∧ u0 ∉ users then f u0 else 0 := by
  unfold usersAfter
  split
  · rw [usum_append, usum_cons, usum_nil, Nat.add_zero]
  · rfl

theorem usum_move_le {users : List Nat} {u : Nat} {o : Option ClaimProgress} {φ ψ : Nat → Nat}
    (hoth : ∀ x, x ≠ u → ψ x = φ x) (hz : ψ u = 0) :
    usum (usersAfter users u o) ψ ≤ usum users φ := by
  rw [usum_usersAfter, hz, ite_self, Nat.add_zero]
  exact usum_le_of_move hoth (by rw [hz]; exact Nat.zero_le _)

/-- replacing one user's entry changes a sum of lot quantities by (new − old); the quantity must
    vanish on empty lots -/
theorem usum_replace {prog : Nat → Option ClaimProgress} {users : List Nat} {W : Nat}
    (hP : PRel prog users W) (u0 : Nat) (new : Option ClaimProgress) (f : Lot → Nat)
    (hf : f ⟨0, 0, W⟩ = 0) :
    usum (usersAfter users u0 new) (fun u => f (lotAt (upd prog u0 new u) W)) + f (lotAt (prog u0) W) =
      usum users (fun u => f (lotAt (prog u) W)) + f (lotAt new W) := by
  simp only [usum_usersAfter, upd_same]
  by_cases hmem : u0 ∈ users
  · rw [if_neg fun h => h.2 hmem, Nat.add_zero]
    have := usum_update hP.nodup hmem (f := fun u => f (lotAt (prog u) W))
      (g := fun u => f (lotAt (upd prog u0 new u) W))
      (fun u _ hne => by simp only [upd_other _ _ hne])
    rwa [upd_same] at this
  · -- `u0` had no entry (an empty lot); it is appended exactly when it gets one
    have hnone : prog u0 = none := Classical.not_not.mp fun hc => hmem (hP.mem u0 hc)
    have hsame : usum users (fun u => f (lotAt (upd prog u0 new u) W)) =
        usum users (fun u => f (lotAt (prog u) W)) :=
      usum_congr fun u hu => by rw [upd_other _ _ (ne_of_mem_of_not_mem hu hmem)]
    have hz : f (lotAt none W) = 0 := hf
    rw [hsame, hnone, hz]
    cases new with
    | none => simp [hz]
    | some p => simp [hmem]

theorem PRel.replace {prog : Nat → Option ClaimProgress} {users : List Nat} {W : Nat}
    (hP : PRel prog users W) (u0 : Nat) (cur : Energy) :
    PRel (upd prog u0 (newOf cur W)) (usersAfter users u0 (newOf cur W)) W := by
  refine ⟨nodup_usersAfter hP.nodup _ _, fun u hu => mem_usersAfter.mpr ?_, fun u p hp => ?_⟩
  · by_cases hu0 : u = u0
    · rw [hu0, upd_same] at hu
      exact Or.inr ⟨hu0, Option.isSome_iff_ne_none.mpr hu⟩
    · rw [upd_other _ _ hu0] at hu
      exact Or.inl (hP.mem u hu)
  · by_cases hu0 : u = u0
    · rw [hu0, upd_same, newOf] at hp
      split at hp
      · rename_i ha
        cases hp
        exact ⟨Int.lt_toNat.mp ha, Nat.le_refl _⟩
      · cases hp
    · rw [upd_other _ _ hu0] at hp
      exact hP.pos u p hp

/-- one summand of a sum `S` is exchanged (`k0` for `k1`, giving `S'`) while the code takes `R` off
    the stored value `x` and adds `A`; what it leaves behind of the old summand is `P` -/
theorem swap_arith {x x' R A S S' k0 k1 O P : Nat} (hx : x' + R = x + A) (hS : x = S + O)
    (hz : S' + k0 = S + k1) (h0 : R + P = k0) (h1 : A = k1) : x' = S' + (O + P) := by
  omega

/-- after `update_user_energy_for_current_week` the global structure matches the table in which
    `u0`'s entry is ALREADY replaced by `(cur, W)` (removed when `cur` has no energy), while
    `g'.progress` is still the old table: the callers write the entry afterwards (`setProgress`) -/
theorem updateUser_GRel {g g' : St} {W u0 : Nat} {cur : Energy} (hW : 1 ≤ W) (hI : GInv g)
    (h : updateUserEnergyForCurrentWeek g W cur (g.progress u0) = some g') :
    (∃ orph, GRel (upd g.progress u0 (newOf cur W)) (usersAfter g.users u0 (newOf cur W)) g' orph) ∧
    g'.lastGlobalUpdateWeek = W ∧ g'.progress = g.progress ∧ g'.users = g.users := by
  rw [updateUserEnergyForCurrentWeek_eq] at h
  obtain ⟨hprog', husers', hlgw', _, _⟩ := updateGlobal_frame h
  obtain ⟨g1, g2, bp, g3, h1, _, hre, htk, hen⟩ := updateGlobal_spec h
  obtain ⟨⟨o, hR⟩, hlgw, _, _⟩ := performWeeklyUpdate_GRel hW hI h1
  have hP := hR.p
  have hL := hR.l
  rw [hlgw] at hP hL
  -- the old lot `l0` goes, the new lot `l1` comes
  obtain ⟨a0, a1, a2⟩ :=
    prev_bridge (g.progress u0) W g1.firstBucketId (fun p hp => (hP.pos u0 p hp).2)
  obtain ⟨b0, b1, b2⟩ := cur_bridge cur W g1.firstBucketId
  obtain ⟨hbp, hbc, hfr, hbk⟩ := reallocate_spec hre
  obtain ⟨t1, _, _, t4, t5, _, _, t8, t9⟩ := updateTotalTokens_spec htk
  obtain ⟨n1, _, _, n4, n5, _, _, n8, n9⟩ := updateTotalEnergy_spec hen
  rw [hbp, hbc] at hbk t9
  have hz := fun f hf => usum_replace hP u0 (newOf cur W) f hf
  have nl0 : ¬ (Lot.Live ⟨0, 0, W⟩) := fun h => Nat.lt_irrefl 0 h.1
  refine ⟨⟨o + (lotAt (g.progress u0) W).orph, ?_⟩, hlgw', hprog', husers'⟩
  refine ⟨by rw [hlgw']; exact hW, by rw [hlgw']; exact hP.replace u0 cur, ?_, ?_⟩
  · rw [hlgw']
    refine ⟨?_, ?_, ?_, ?_⟩
    · have e1 : g3.totalEnergy W = g1.totalEnergy W := by rw [t4, hfr.totalEnergy]
      exact swap_arith (O := 0) (P := 0) (e1 ▸ n9) hL.energy
        (hz Lot.contrib (by simp [Lot.contrib])) a0 b0
    · have e1 : g2.totalLocked W = g1.totalLocked W := by rw [hfr.totalLocked]
      rw [n4]
      exact swap_arith (e1 ▸ t9) hL.tokens (hz Lot.tok (by simp [Lot.tok, nl0])) a1 b1
    · intro d
      rw [n1, t1, hfr.fb, n5, t5]
      have z := hz (fun l => l.bTok d) (by simp [Lot.bTok, nl0])
      have hk := (hbk (g1.firstBucketId + d)).1
      have hq := hL.bTok d
      have ha := (a2 d).1
      by_cases hd : d = 0
      · subst hd
        rw [if_pos rfl] at ha hq ⊢
        exact swap_arith hk hq z ha (b2 0).1
      · rw [if_neg hd] at ha hq ⊢
        exact swap_arith (O := 0) (P := 0) hk hq z ha (b2 d).1
    · intro d
      rw [n1, t1, hfr.fb, n5, t5]
      exact swap_arith (O := 0) (P := 0) (hbk (g1.firstBucketId + d)).2 (hL.bSur d)
        (hz (fun l => l.bSur d) (by simp [Lot.bSur, nl0])) (a2 d).2 (b2 d).2
  · intro w hw
    rw [hlgw'] at hw
    have hne : w ≠ W := Nat.ne_of_gt hw
    rw [n8 w hne, t4, hfr.totalEnergy, n4, t8 w hne, hfr.totalLocked]
    exact hR.fut w (by rw [hlgw]; exact hw)

end Mx.Weekly
