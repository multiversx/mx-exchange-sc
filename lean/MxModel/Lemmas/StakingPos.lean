/-
  Position-token invariant of the farm-staking model (C07, history-level clauses): in every
  reachable state the reported farm-token supply is the sum of the outstanding POSITION units
  (unbond tokens, which live under the same token identifier, excluded), and
  `userTotalFarmPosition(o)` is the sum of the outstanding positions whose recorded original
  owner is `o`.

  The sums are the weighted sums `wsum` over the nonces of Lemmas/Holdings.lean.  Here: the position
  view `pv s` of a state with the invariant `PosOK` and the unbond ledger `UnbOK` on it, and
  `PTrans`: the five shapes a transaction can have on the view (`PTrans.nonce_cases` reads them
  for one nonce).  Every endpoint is characterised
  on the view in Lemmas/StakingTrans.lean (`…_pv`, `step_ptrans`).  The view also carries
  `rps paidBase baseBudget dsc`, which Lemmas/StakingPot.lean needs for the potential-function
  bound (C06 / C05); the endpoint characterisations are shared.
-/
import MxModel.Lemmas.StakingMerge
import MxModel.Lemmas.Holdings
import Mathlib.Data.List.Dedup

namespace Mx.Staking

open Mx.Weekly

/-- the cells of a state the position-token clauses (and the potential-function bound) talk about;
    `accts` = the DISTINCT accounts of the world (`s.accts.dedup`: same members, no repetition, so
    that sums over the accounts count every account once whatever list the world was created with) -/
structure PV where
  accts : List Nat
  hold : Nat → Nat → Nat
  md : Nat → Option Meta
  nonce : Nat
  ut : Nat → Nat
  supply : Nat
  rps : Nat
  paidBase : Nat
  baseBudget : Nat
  dsc : Nat
  /-- the account list as the world was created with it (never changes) -/
  raw : List Nat
  /-- the signed ledger of outstanding unbond amounts -/
  unbondOut : Int

def pv (s : St) : PV :=
  ⟨s.accts.dedup, s.hold, s.md, s.nonce, s.userTotal, s.supply, s.rps, s.paidBase, s.baseBudget, s.dsc,
   s.accts, s.unbondOut⟩

/-- weight "nonce `n` is a staking position" -/
def posW (md : Nat → Option Meta) (n : Nat) : Nat :=
  match posOf md n with
  | some _ => 1
  | none => 0

/-- weight "nonce `n` is a staking position whose recorded original owner is `o`" -/
def ownW (md : Nat → Option Meta) (o n : Nat) : Nat :=
  match posOf md n with
  | some a => if a.owner = o then 1 else 0
  | none => 0

theorem posW_some {md : Nat → Option Meta} {n : Nat} {a : Attrs} (h : posOf md n = some a) :
    posW md n = 1 := by simp only [posW, h]

theorem posW_none {md : Nat → Option Meta} {n : Nat} (h : posOf md n = none) :
    posW md n = 0 := by simp only [posW, h]

theorem ownW_some {md : Nat → Option Meta} {n : Nat} {a : Attrs} (h : posOf md n = some a) (o : Nat) :
    ownW md o n = if a.owner = o then 1 else 0 := by simp only [ownW, h]

theorem ownW_none {md : Nat → Option Meta} {n : Nat} (h : posOf md n = none) (o : Nat) :
    ownW md o n = 0 := by simp only [ownW, h]

theorem posOf_of_md {m : Nat → Option Meta} {n : Nat} {a : Attrs} (h : m n = some (.pos a)) :
    posOf m n = some a := by
  simp only [posOf, h]

theorem posOf_upd_pos (md : Nat → Option Meta) (N : Nat) (a : Attrs) :
    posOf (upd md N (some (.pos a))) N = some a := by simp only [posOf, upd_same]

theorem posOf_upd_unbond (md : Nat → Option Meta) (N e : Nat) :
    posOf (upd md N (some (.unbond e))) N = none := by simp only [posOf, upd_same]

theorem posOf_upd_other (md : Nat → Option Meta) {N n : Nat} (x : Option Meta) (h : n ≠ N) :
    posOf (upd md N x) n = posOf md n := by simp only [posOf, upd_other _ _ h]

theorem posW_upd_lt (md : Nat → Option Meta) {N n : Nat} (x : Option Meta) (h : n < N) :
    posW (upd md N x) n = posW md n := by
  simp only [posW, posOf_upd_other md x (Nat.ne_of_lt h)]

theorem ownW_upd_lt (md : Nat → Option Meta) (o : Nat) {N n : Nat} (x : Option Meta) (h : n < N) :
    ownW (upd md N x) o n = ownW md o n := by
  simp only [ownW, posOf_upd_other md x (Nat.ne_of_lt h)]

theorem unbondOf_posOf {md : Nat → Option Meta} {n e : Nat} (h : unbondOf md n = some e) :
    posOf md n = none := by
  rw [unbondOf_eq_some] at h
  simp only [posOf, h]

structure PosOK (v : PV) : Prop where
  nodup : v.accts.Nodup
  /-- only accounts of the world hold farm-token SFTs, and only of nonces created so far -/
  dom : ∀ a n, v.hold a n ≠ 0 → a ∈ v.accts ∧ n ≤ v.nonce
  /-- supply = Σ outstanding position units -/
  sup : v.supply = wsum v.hold v.accts (v.nonce + 1) (posW v.md)
  /-- `userTotalFarmPosition(o)` = Σ outstanding units of the positions recorded as `o`'s -/
  own : ∀ o, v.ut o = wsum v.hold v.accts (v.nonce + 1) (ownW v.md o)

theorem payW_posW {m : Nat → Option Meta} {pays : List Pay}
    (h : ∀ p ∈ pays, ∃ a, posOf m p.1 = some a) : payW (posW m) pays = payTot pays :=
  payW_one (fun p hp => (h p hp).elim fun _ ha => posW_some ha)

/-- one step of `check_and_update_user_farm_position`: `amt` units recorded for `owner`, whose
    total contains them, move to `user`'s total (the saturating subtraction is exact) -/
theorem moveTotal_apply {ut : Nat → Nat} {owner user amt : Nat} (hle : amt ≤ ut owner) (o : Nat) :
    (if owner = user then ut
      else upd (decreaseUT ut owner amt) user (decreaseUT ut owner amt user + amt)) o
        + (if owner = o then amt else 0) = ut o + (if o = user then amt else 0) := by
  by_cases hau : owner = user
  · subst hau
    simp only [if_true, eq_comm]
  · simp only [if_neg hau, decreaseUT, upd]
    by_cases hou : o = user
    · subst hou
      simp only [↓reduceIte, hau, Ne.symm hau, Nat.add_zero]
    · by_cases hoo : o = owner
      · subst hoo
        simp only [↓reduceIte, hou]
        split <;> omega
      · simp only [↓reduceIte, hou, hoo, Ne.symm hoo]

theorem checkAndUpdate_pos (m : Nat → Option Meta) (user : Nat) :
    ∀ (pays : List Pay) (ut ut1 : Nat → Nat), checkAndUpdate m user ut pays = some ut1 →
      ∀ p ∈ pays, ∃ a, posOf m p.1 = some a
  | [], _, _, _, _, hp => by cases hp
  | p :: ps, ut, ut1, h, q, hq => by
      simp only [checkAndUpdate, Option.bind_eq_bind, Option.bind_eq_some_iff] at h
      obtain ⟨a, ha, h⟩ := h
      rcases List.mem_cons.mp hq with rfl | hq
      · exact ⟨a, ha⟩
      · exact checkAndUpdate_pos m user ps _ ut1 h q hq

/-- `check_and_update_user_farm_position`: every payment recorded for somebody else moves from
    that owner's total to `user`'s -/
theorem checkAndUpdate_total (m : Nat → Option Meta) (user : Nat) :
    ∀ (pays : List Pay) (ut ut1 Y : Nat → Nat), checkAndUpdate m user ut pays = some ut1 →
      (∀ o, ut o = Y o + payW (ownW m o) pays) →
      ∀ o, ut1 o = Y o + (if o = user then payTot pays else 0)
  | [], ut, ut1, Y, h, hY => by
      simp only [checkAndUpdate, Option.some.injEq] at h
      subst h
      intro o
      rw [hY o]; simp [payW, payTot]
  | p :: ps, ut, ut1, Y, h, hY => by
      simp only [checkAndUpdate, Option.bind_eq_bind, Option.bind_eq_some_iff] at h
      obtain ⟨a, ha, h⟩ := h
      have hY' : ∀ o, ut o = Y o + (if a.owner = o then p.2 else 0) + payW (ownW m o) ps := by
        intro o
        rw [hY o]
        simp only [payW, ownW_some ha]
        split <;> omega
      have hle : p.2 ≤ ut a.owner := by
        have := hY' a.owner
        rw [if_pos rfl] at this
        omega
      have r1 := checkAndUpdate_total m user ps _ ut1
        (fun o => Y o + (if o = user then p.2 else 0)) h (fun o => by
          have h1 := moveTotal_apply (user := user) hle o
          have h2 := hY' o
          omega)
      intro o
      rw [r1 o]; simp only [payTot]; split <;> omega

namespace PV

/-- reward generation: the index moves by `inc`, the base budget by `base` -/
def gen (v : PV) (inc base : Nat) : PV :=
  { v with rps := v.rps + inc, baseBudget := v.baseBudget + base }

/-- payments were taken in (`h0` = holdings after the debit) and ONE new position `tok` is minted
    to `c` under the next nonce; user totals and supply are replaced; `paid` base rewards paid -/
def remint (v : PV) (c : Nat) (h0 : Nat → Nat → Nat) (tok : Attrs) (ut2 : Nat → Nat)
    (supply2 paid : Nat) : PV :=
  { v with hold := upd2 h0 c (v.nonce + 1) tok.amount
           md := upd v.md (v.nonce + 1) (some (.pos tok))
           nonce := v.nonce + 1, ut := ut2, supply := supply2, paidBase := v.paidBase + paid }

/-- a position part was taken in and an UNBOND token of `x` units with unlock epoch `e` is minted
    to `c` under the next nonce -/
def burn (v : PV) (c : Nat) (h0 : Nat → Nat → Nat) (e x : Nat) (ut2 : Nat → Nat)
    (supply2 paid : Nat) : PV :=
  { v with hold := upd2 h0 c (v.nonce + 1) x
           md := upd v.md (v.nonce + 1) (some (.unbond e))
           nonce := v.nonce + 1, ut := ut2, supply := supply2, paidBase := v.paidBase + paid
           unbondOut := v.unbondOut + (x : Int) }

def setHold (v : PV) (h : Nat → Nat → Nat) : PV := { v with hold := h }

/-- unbond tokens worth `amt` were redeemed -/
def redeem (v : PV) (h : Nat → Nat → Nat) (amt : Nat) : PV :=
  { v with hold := h, unbondOut := v.unbondOut - (amt : Int) }

end PV

theorem PosOK.gen {v : PV} (hI : PosOK v) (inc base : Nat) : PosOK (v.gen inc base) :=
  ⟨hI.nodup, hI.dom, hI.sup, hI.own⟩

theorem PosOK.fresh {v : PV} (hI : PosOK v) {c : Nat} {pays : List Pay} {h0 : Nat → Nat → Nat}
    (hd : debit v.hold c pays = some h0) (a : Nat) : h0 a (v.nonce + 1) = 0 := by
  by_contra hne
  have h1 := debit_le hd a (v.nonce + 1)
  have := (hI.dom a (v.nonce + 1) (by omega)).2
  omega

theorem PosOK.pay_lt {v : PV} (hI : PosOK v) {c : Nat} {pays : List Pay} {h0 : Nat → Nat → Nat}
    (hd : debit v.hold c pays = some h0) : ∀ p ∈ pays, p.1 < v.nonce + 1 := by
  intro p hp
  have := (hI.dom c p.1 (debit_held hd hp)).2
  omega

/-! The position units held by a sub-list `L` of the accounts move through the transaction shapes
  by what the actor `c` pays in and is handed out, if `c ∈ L`, and not at all otherwise.  `L = v.accts`
  is the supply clause of `PosOK`; the proxies' accounts give `VirtOK` (Lemmas/StakingVirt.lean). -/

theorem outst_upd2_notin {h0 : Nat → Nat → Nat} {L : List Nat} {c k v : Nat} (hc : c ∉ L) (n : Nat) :
    outst (upd2 h0 c k v) L n = outst h0 L n := by
  simp only [outst]
  exact usum_congr (fun a ha => upd2_other _ _ _ _ (Or.inl (by rintro rfl; exact hc ha)))

theorem wsumL_debit {c : Nat} {pays : List Pay} {hold h0 : Nat → Nat → Nat} {L : List Nat} {N : Nat}
    (w : Nat → Nat) (h : debit hold c pays = some h0) (hnd : L.Nodup) (hN : ∀ p ∈ pays, p.1 < N) :
    wsum h0 L N w + (if c ∈ L then payW w pays else 0) = wsum hold L N w := by
  by_cases hc : c ∈ L
  · rw [if_pos hc]
    exact wsum_debit w h hc hnd hN
  · obtain ⟨_, h2, _⟩ := debit_spec' c pays hold h0 h
    rw [if_neg hc]
    refine wsum_congr (fun n _ => ?_) (fun _ _ => rfl)
    exact usum_congr (fun a ha => h2 a n (by rintro rfl; exact hc ha))

theorem wsumL_mint {h0 : Nat → Nat → Nat} {L : List Nat} {c N A : Nat} (w w' : Nat → Nat)
    (hnd : L.Nodup) (hfresh : ∀ a, h0 a N = 0) (hw : ∀ n, n < N → w' n = w n) :
    wsum (upd2 h0 c N A) L (N + 1) w' = wsum h0 L N w + (if c ∈ L then w' N * A else 0) := by
  by_cases hc : c ∈ L
  · rw [if_pos hc]
    exact wsum_mint w w' hc hnd hfresh hw
  · rw [if_neg hc, wsum_congr (hold := h0) (w := w') (fun n _ => outst_upd2_notin hc n) (fun _ _ => rfl),
      wsum_succ_fresh w' hfresh]
    exact wsum_congr (fun _ _ => rfl) hw

theorem wsumL_credit {h0 : Nat → Nat → Nat} {L : List Nat} {dst k v N : Nat} (w : Nat → Nat)
    (hnd : L.Nodup) (hk : k < N) :
    wsum (upd2 h0 dst k (h0 dst k + v)) L N w = wsum h0 L N w + (if dst ∈ L then w k * v else 0) := by
  by_cases hd : dst ∈ L
  · rw [if_pos hd]
    simp only [wsum]
    rw [← usum_single N k v w hk, ← usum_add]
    apply usum_congr
    intro n _
    rw [outst_credit hd hnd n, Nat.mul_add]
    by_cases hn : n = k
    · subst hn; simp
    · rw [if_neg hn, if_neg (fun e => hn e.symm)]
  · rw [if_neg hd]
    exact wsum_congr (fun n _ => outst_upd2_notin hd n) (fun _ _ => rfl)

theorem wsumL_remint {v : PV} (hI : PosOK v) {L : List Nat} (hnd : L.Nodup) {c : Nat}
    {pays : List Pay} {h0 : Nat → Nat → Nat} (hd : debit v.hold c pays = some h0)
    (hpos : ∀ p ∈ pays, ∃ a, posOf v.md p.1 = some a) (tok : Attrs) :
    wsum (upd2 h0 c (v.nonce + 1) tok.amount) L (v.nonce + 1 + 1)
        (posW (upd v.md (v.nonce + 1) (some (.pos tok)))) + (if c ∈ L then payTot pays else 0)
      = wsum v.hold L (v.nonce + 1) (posW v.md) + (if c ∈ L then tok.amount else 0) := by
  have h1 := wsumL_debit (posW v.md) hd hnd (hI.pay_lt hd)
  rw [payW_posW hpos] at h1
  rw [wsumL_mint (posW v.md) _ hnd (hI.fresh hd) (fun _ hn => posW_upd_lt v.md _ hn),
    posW_some (posOf_upd_pos _ _ _), Nat.one_mul]
  omega

theorem wsumL_burn {v : PV} (hI : PosOK v) {L : List Nat} (hnd : L.Nodup) {c : Nat}
    {pay : Pay} {h0 : Nat → Nat → Nat} {attrs : Attrs} (hd : debit v.hold c [pay] = some h0)
    (ha : posOf v.md pay.1 = some attrs) (e x : Nat) :
    wsum (upd2 h0 c (v.nonce + 1) x) L (v.nonce + 1 + 1)
        (posW (upd v.md (v.nonce + 1) (some (.unbond e)))) + (if c ∈ L then pay.2 else 0)
      = wsum v.hold L (v.nonce + 1) (posW v.md) := by
  have h1 := wsumL_debit (posW v.md) hd hnd (hI.pay_lt hd)
  simp only [payW, posW_some ha, Nat.one_mul, Nat.add_zero] at h1
  rw [wsumL_mint (posW v.md) _ hnd (hI.fresh hd) (fun _ hn => posW_upd_lt v.md _ hn),
    posW_none (posOf_upd_unbond _ _ _), Nat.zero_mul, ite_self]
  exact h1

theorem wsumL_redeem {v : PV} (hI : PosOK v) {L : List Nat} (hnd : L.Nodup) {c : Nat}
    {pays : List Pay} {h0 : Nat → Nat → Nat} (hd : debit v.hold c pays = some h0)
    (hz : ∀ p ∈ pays, posOf v.md p.1 = none) :
    wsum h0 L (v.nonce + 1) (posW v.md) = wsum v.hold L (v.nonce + 1) (posW v.md) := by
  have h1 := wsumL_debit (posW v.md) hd hnd (hI.pay_lt hd)
  rw [payW_zero (fun p hp => posW_none (hz p hp)), ite_self] at h1
  exact h1

theorem wsumL_transfer {v : PV} (hI : PosOK v) {L : List Nat} (hnd : L.Nodup) {src dst : Nat}
    {pay : Pay} {h0 : Nat → Nat → Nat} (hd : debit v.hold src [pay] = some h0) :
    wsum (upd2 h0 dst pay.1 (h0 dst pay.1 + pay.2)) L (v.nonce + 1) (posW v.md)
        + (if src ∈ L then posW v.md pay.1 * pay.2 else 0)
      = wsum v.hold L (v.nonce + 1) (posW v.md) + (if dst ∈ L then posW v.md pay.1 * pay.2 else 0) := by
  have h1 := wsumL_debit (posW v.md) hd hnd (hI.pay_lt hd)
  simp only [payW, Nat.add_zero] at h1
  rw [wsumL_credit (posW v.md) hnd (hI.pay_lt hd pay List.mem_cons_self)]
  omega

theorem PosOK.wsum_reissue {v : PV} (hI : PosOK v) {c : Nat} {pays : List Pay}
    {h0 : Nat → Nat → Nat} (hc : c ∈ v.accts) (hd : debit v.hold c pays = some h0) (A : Nat)
    (w w' : Nat → Nat) (hw : ∀ n, n < v.nonce + 1 → w' n = w n) :
    wsum (upd2 h0 c (v.nonce + 1) A) v.accts (v.nonce + 1 + 1) w' + payW w pays
      = wsum v.hold v.accts (v.nonce + 1) w + w' (v.nonce + 1) * A :=
  Staking.wsum_reissue hI.nodup hc hc hd (fun a => hI.fresh (c := c) (pays := []) rfl a) (hI.pay_lt hd) A w w' hw

theorem PosOK.dom_mint {v : PV} (hI : PosOK v) {c : Nat} {pays : List Pay} {h0 : Nat → Nat → Nat}
    (hc : c ∈ v.accts) (hd : debit v.hold c pays = some h0) (x : Nat) :
    ∀ a n, upd2 h0 c (v.nonce + 1) x a n ≠ 0 → a ∈ v.accts ∧ n ≤ v.nonce + 1 := by
  intro a n hne
  rcases upd2_ne_zero hne with ⟨rfl, rfl⟩ | hne
  · exact ⟨hc, Nat.le_refl _⟩
  · have h1 := debit_le hd a n
    obtain ⟨d1, d2⟩ := hI.dom a n (by omega)
    exact ⟨d1, by omega⟩

theorem PosOK.totals_moved {v : PV} (hI : PosOK v) {c user : Nat} {pays : List Pay}
    {h0 : Nat → Nat → Nat} {ut1 : Nat → Nat} (hc : c ∈ v.accts)
    (hd : debit v.hold c pays = some h0) (hk : checkAndUpdate v.md user v.ut pays = some ut1) :
    (∀ o, ut1 o = wsum h0 v.accts (v.nonce + 1) (ownW v.md o)
        + (if o = user then payTot pays else 0)) ∧
    (∀ p ∈ pays, ∃ a, posOf v.md p.1 = some a) :=
  ⟨checkAndUpdate_total v.md user pays v.ut ut1
    (fun o => wsum h0 v.accts (v.nonce + 1) (ownW v.md o)) hk (fun o => by
      rw [hI.own o, ← wsum_debit (ownW v.md o) hd hc hI.nodup (hI.pay_lt hd)]),
    checkAndUpdate_pos v.md user pays v.ut ut1 hk⟩

theorem PosOK.remint {v : PV} (hI : PosOK v) {c user : Nat} {pays : List Pay}
    {h0 : Nat → Nat → Nat} {ut1 ut2 : Nat → Nat} {tok : Attrs} {supply2 : Nat} (paid : Nat)
    (hc : c ∈ v.accts) (hd : debit v.hold c pays = some h0)
    (hk : checkAndUpdate v.md user v.ut pays = some ut1) (ho : tok.owner = user)
    (hs : supply2 + payTot pays = v.supply + tok.amount)
    (hu : ∀ o, ut2 o + (if o = user then payTot pays else 0)
             = ut1 o + (if o = user then tok.amount else 0)) :
    PosOK (v.remint c h0 tok ut2 supply2 paid) := by
  obtain ⟨k1, k2⟩ := hI.totals_moved hc hd hk
  refine ⟨hI.nodup, hI.dom_mint hc hd _, ?_, fun o => ?_⟩
  · have h1 := wsumL_remint hI hI.nodup hd k2 tok
    rw [if_pos hc, if_pos hc, ← hI.sup] at h1
    exact Nat.add_right_cancel (hs.trans h1.symm)
  · dsimp only [PV.remint]
    rw [wsum_mint (ownW v.md o) _ hc hI.nodup (hI.fresh hd) (fun n hn => ownW_upd_lt v.md o _ hn),
      ownW_some (posOf_upd_pos _ _ _), ho]
    have h1 := k1 o
    have h2 := hu o
    by_cases hou : o = user
    · simp only [if_pos hou] at h1 h2
      rw [if_pos hou.symm, Nat.one_mul]
      omega
    · simp only [if_neg hou] at h1 h2
      rw [if_neg (fun e => hou e.symm), Nat.zero_mul]
      omega

theorem PosOK.burn {v : PV} (hI : PosOK v) {c : Nat} {pay : Pay} {h0 : Nat → Nat → Nat}
    {attrs : Attrs} {supply2 : Nat} (e x paid : Nat)
    (hc : c ∈ v.accts) (hd : debit v.hold c [pay] = some h0) (ha : posOf v.md pay.1 = some attrs)
    (hs : supply2 + pay.2 = v.supply) :
    PosOK (v.burn c h0 e x (decreaseUT v.ut attrs.owner pay.2) supply2 paid) := by
  refine ⟨hI.nodup, hI.dom_mint hc hd _, ?_, fun o => ?_⟩
  · have h1 := wsumL_burn hI hI.nodup hd ha e x
    rw [if_pos hc, ← hI.sup] at h1
    dsimp only [PV.burn]
    omega
  · have h1 := hI.wsum_reissue hc hd x (ownW v.md o)
      (ownW (upd v.md (v.nonce + 1) (some (.unbond e))) o) (fun n hn => ownW_upd_lt v.md o _ hn)
    rw [ownW_none (posOf_upd_unbond _ _ _), Nat.zero_mul, ← hI.own o] at h1
    simp only [payW, ownW_some ha, Nat.add_zero] at h1
    simp only [PV.burn, decreaseUT, upd]
    by_cases hoo : o = attrs.owner
    · subst hoo
      simp only [if_true, Nat.one_mul] at h1 ⊢
      split <;> omega
    · rw [if_neg (fun e => hoo e.symm), Nat.zero_mul] at h1
      rw [if_neg hoo]
      omega

/-- unbond tokens (weight 0 in both sums) leave: nothing else changes -/
theorem PosOK.redeem {v : PV} (hI : PosOK v) {c : Nat} {pays : List Pay}
    {h0 : Nat → Nat → Nat} (hc : c ∈ v.accts) (hd : debit v.hold c pays = some h0)
    (hz : ∀ p ∈ pays, ∃ e, unbondOf v.md p.1 = some e) (amt : Nat) : PosOK (v.redeem h0 amt) := by
  have hlt := hI.pay_lt hd
  have hz' : ∀ p ∈ pays, posOf v.md p.1 = none :=
    fun p hp => (hz p hp).elim fun _ he => unbondOf_posOf he
  refine ⟨hI.nodup, fun a n hne => hI.dom a n (by
    have hne' : h0 a n ≠ 0 := hne
    have := debit_le hd a n; omega), ?_, fun o => ?_⟩
  · exact hI.sup.trans (wsumL_redeem hI hI.nodup hd hz').symm
  · have h1 := wsum_debit (ownW v.md o) hd hc hI.nodup hlt
    rw [payW_zero (fun p hp => ownW_none (hz' p hp) o)] at h1
    exact (hI.own o).trans h1.symm

theorem outst_transfer {v : PV} (hI : PosOK v) {src dst : Nat} {pay : Pay} {h0 : Nat → Nat → Nat}
    (hs : src ∈ v.accts) (hdst : dst ∈ v.accts) (hd : debit v.hold src [pay] = some h0) (n : Nat) :
    outst (upd2 h0 dst pay.1 (h0 dst pay.1 + pay.2)) v.accts n = outst v.hold v.accts n :=
  outst_move hI.nodup hs hdst hd n

theorem PosOK.transfer {v : PV} (hI : PosOK v) {src dst : Nat} {pay : Pay} {h0 : Nat → Nat → Nat}
    (hs : src ∈ v.accts) (hdst : dst ∈ v.accts) (hd : debit v.hold src [pay] = some h0) :
    PosOK (v.setHold (upd2 h0 dst pay.1 (h0 dst pay.1 + pay.2))) := by
  have hlt := hI.pay_lt hd
  have hout := outst_transfer hI hs hdst hd
  refine ⟨hI.nodup, ?_, ?_, fun o => ?_⟩
  · intro a n hne
    rcases upd2_ne_zero (f := h0) hne with ⟨rfl, rfl⟩ | hne
    · exact ⟨hdst, Nat.le_of_lt_succ (hlt pay List.mem_cons_self)⟩
    · exact hI.dom a n (by have := debit_le hd a n; omega)
  · exact hI.sup.trans (wsum_congr (fun n _ => hout n) (fun _ _ => rfl)).symm
  · exact (hI.own o).trans (wsum_congr (fun n _ => hout n) (fun _ _ => rfl)).symm

/-- weight "what one unit of nonce `n` can still claim at index `R`" (`R − entry index`,
    saturating; 0 for unbond tokens) — the potential of Lemmas/StakingPot.lean -/
def potW (md : Nat → Option Meta) (R n : Nat) : Nat :=
  match posOf md n with
  | some a => R - a.rps
  | none => 0

theorem potW_some {md : Nat → Option Meta} {n : Nat} {a : Attrs} (h : posOf md n = some a) (R : Nat) :
    potW md R n = R - a.rps := by simp only [potW, h]

theorem potW_none {md : Nat → Option Meta} {n : Nat} (h : posOf md n = none) (R : Nat) :
    potW md R n = 0 := by simp only [potW, h]

theorem potW_upd_lt (md : Nat → Option Meta) (R : Nat) {N n : Nat} (x : Option Meta) (h : n < N) :
    potW (upd md N x) R n = potW md R n := by
  simp only [potW, posOf_upd_other md x (Nat.ne_of_lt h)]

/-- `calculate_base_farm_rewards` as a function of the numbers it reads -/
def baseAmt (R dsc amt r : Nat) : Nat := if r < R then amt * (R - r) / dsc else 0

theorem baseReward_eq (c : Cache) (dsc amt : Nat) (t : Attrs) :
    baseReward c dsc amt t = baseAmt c.rps dsc amt t.rps := rfl

/-- a base reward never exceeds the un-rounded entitlement -/
theorem baseAmt_le (R dsc amt r : Nat) : dsc * baseAmt R dsc amt r ≤ amt * (R - r) := by
  unfold baseAmt
  split
  · exact Nat.mul_div_le _ _
  · simp

/-- the index increment never hands out more than the base share -/
theorem rpsInc_mul_le (dsc base supply : Nat) : supply * rpsInc dsc base supply ≤ dsc * base := by
  unfold rpsInc
  split
  · simp
  · rw [Nat.mul_comm dsc base]; exact Nat.mul_div_le _ _

theorem payW_potW_explicit (md : Nat → Option Meta) (R : Nat) : ∀ l : List Pay,
    payW (potW md R) l =
      (l.map fun p => p.2 * (match posOf md p.1 with | some a => R - a.rps | none => 0)).sum
  | [] => rfl
  | p :: l => by
    have e : potW md R p.1 = (match posOf md p.1 with | some a => R - a.rps | none => 0) := by
      unfold potW; cases posOf md p.1 <;> rfl
    rw [payW, payW_potW_explicit md R l, List.map_cons, List.sum_cons, e, Nat.mul_comm]

/-- `merge_attributes_from_payments` creates no value: at every index `R` the merged position's
    un-rounded entitlement is at most that of the base plus that of the parts merged in -/
theorem mergeParts_pot (m : Nat → Option Meta) (R : Nat) :
    ∀ (pays : List Pay) (base out : Attrs), mergeParts m base pays = some out →
      out.amount * (R - out.rps) ≤ base.amount * (R - base.rps) + payW (potW m R) pays
  | [], base, out, h => by
      simp only [mergeParts, Option.some.injEq] at h
      subst h
      simp [payW]
  | p :: ps, base, out, h => by
      simp only [mergeParts, Option.bind_eq_bind, Option.bind_eq_some_iff] at h
      obtain ⟨a, ha, part, hp, mg, hm, hrest⟩ := h
      obtain ⟨e1, _, e3, _⟩ := intoPart_spec hp
      obtain ⟨m1, m2, _, m4, _⟩ := mergeWith_spec hm
      have ih := mergeParts_pot m R ps mg out hrest
      have hg := merge_no_gain_arith base.rps base.amount part.rps part.amount R m1
      rw [← m4, ← m2, e1, e3] at hg
      simp only [payW, potW_some ha]
      rw [Nat.mul_comm (R - a.rps) p.2]
      omega

theorem mergeParts_amount {m : Nat → Option Meta} {pays : List Pay} {base out : Attrs}
    (h : mergeParts m base pays = some out) :
    out.amount = base.amount + payTot pays ∧ out.owner = base.owner := by
  obtain ⟨h1, h2, _⟩ := mergeParts_spec m pays base out h
  rw [payTot_eq]
  exact ⟨h1, h2⟩

/-- `stakeFarm` WITH farm tokens sent along: the fresh stake enters at the index settled to the
    entering block, so the merged position can claim, at every future index `R`, no more than the
    fresh stake from now on plus what the merged-in positions already could -/
theorem stakeCore_merge_no_retro {s s' : St} {c orig amount : Nat} {v : Bool} {adds : List Pay} {o : Out}
    (h : stakeCore s c orig amount v adds = some (s', o)) :
    ∃ merged : Attrs, s'.md o.a = some (.pos merged) ∧ o.b = merged.amount ∧
      merged.amount = amount + payTot adds ∧
      ∀ R, merged.amount * (R - merged.rps) ≤ amount * (R - s'.rps) + payW (potW s.md R) adds := by
  obtain ⟨hold0, r, ut1, merged, w2, t⟩ := stakeCore_trace h
  obtain rfl := t.state
  obtain rfl := t.out
  exact ⟨merged, upd_same _ _ _, rfl, (mergeParts_amount t.mergeParts).1,
    fun R => mergeParts_pot s.md R adds _ merged t.mergeParts⟩

/-- What ONE successful transaction does to the position view: rewards are generated first
    (`inc`, `base`; both 0 when the endpoint does not settle), and then
    * nothing else (admin endpoints, `claimBoostedRewards`, …), or
    * payments are taken in and one position is re-issued (stake, claim, compound, merge), or
    * a position part is exchanged for an unbond token (unstake), or
    * unbond tokens are redeemed, or
    * SFT units move between two accounts. -/
def PTrans (v v' : PV) : Prop :=
  ∃ inc base, v.supply * inc ≤ v.dsc * base ∧
    (v' = v.gen inc base ∨
     (∃ (c user : Nat) (pays : List Pay) (h0 : Nat → Nat → Nat) (ut1 ut2 : Nat → Nat) (tok : Attrs)
        (supply2 paid : Nat),
        c ∈ v.accts ∧ debit v.hold c pays = some h0 ∧
        checkAndUpdate v.md user v.ut pays = some ut1 ∧ tok.owner = user ∧
        supply2 + payTot pays = v.supply + tok.amount ∧
        (∀ o, ut2 o + (if o = user then payTot pays else 0)
            = ut1 o + (if o = user then tok.amount else 0)) ∧
        tok.amount * (v.rps + inc - tok.rps) + v.dsc * paid ≤ payW (potW v.md (v.rps + inc)) pays ∧
        v' = (v.gen inc base).remint c h0 tok ut2 supply2 paid) ∨
     (∃ (c : Nat) (pay : Pay) (h0 : Nat → Nat → Nat) (attrs : Attrs) (e x supply2 paid : Nat),
        c ∈ v.accts ∧ debit v.hold c [pay] = some h0 ∧ posOf v.md pay.1 = some attrs ∧
        supply2 + pay.2 = v.supply ∧ v.dsc * paid ≤ pay.2 * (v.rps + inc - attrs.rps) ∧
        v' = (v.gen inc base).burn c h0 e x (decreaseUT v.ut attrs.owner pay.2) supply2 paid) ∨
     (∃ (c : Nat) (pays : List Pay) (h0 : Nat → Nat → Nat),
        c ∈ v.accts ∧ debit v.hold c pays = some h0 ∧
        (∀ p ∈ pays, ∃ e, unbondOf v.md p.1 = some e) ∧
        v' = (v.gen inc base).redeem h0 (payTot pays)) ∨
     (∃ (src dst : Nat) (pay : Pay) (h0 : Nat → Nat → Nat),
        src ∈ v.accts ∧ dst ∈ v.accts ∧ debit v.hold src [pay] = some h0 ∧
        v' = (v.gen inc base).setHold (upd2 h0 dst pay.1 (h0 dst pay.1 + pay.2))))

theorem PTrans.refl (v : PV) : PTrans v v :=
  ⟨0, 0, by simp, Or.inl rfl⟩

theorem PTrans.const {v v' : PV} (h : PTrans v v') : v'.raw = v.raw ∧ v'.dsc = v.dsc ∧ v'.accts = v.accts := by
  obtain ⟨inc, base, _, h⟩ := h
  rcases h with h | ⟨_, _, _, _, _, _, _, _, _, _, _, _, _, _, _, _, h⟩ |
    ⟨_, _, _, _, _, _, _, _, _, _, _, _, _, h⟩ | ⟨_, _, _, _, _, _, h⟩ | ⟨_, _, _, _, _, _, _, h⟩ <;>
    rw [h] <;> exact ⟨rfl, rfl, rfl⟩

theorem PosOK.trans {v v' : PV} (hI : PosOK v) (h : PTrans v v') : PosOK v' := by
  obtain ⟨inc, base, _, h⟩ := h
  have hG := hI.gen inc base
  rcases h with rfl | ⟨c, user, pays, h0, ut1, ut2, tok, supply2, paid, hc, hd, hk, ho, hs, hu, _, rfl⟩ |
    ⟨c, pay, h0, attrs, e, x, supply2, paid, hc, hd, ha, hs, _, rfl⟩ |
    ⟨c, pays, h0, hc, hd, hz, rfl⟩ | ⟨src, dst, pay, h0, hs, hdst, hd, rfl⟩
  · exact hG
  · exact hG.remint paid hc hd hk ho hs hu
  · exact hG.burn e x paid hc hd ha hs
  · exact hG.redeem hc hd hz _
  · exact hG.transfer hs hdst hd

/-- weight "nonce `n` is an unbond token" -/
def unbW (md : Nat → Option Meta) (n : Nat) : Nat :=
  match unbondOf md n with
  | some _ => 1
  | none => 0

theorem unbW_some {md : Nat → Option Meta} {n e : Nat} (h : unbondOf md n = some e) : unbW md n = 1 := by
  simp only [unbW, h]

theorem unbW_pos {md : Nat → Option Meta} {n : Nat} {a : Attrs} (h : posOf md n = some a) :
    unbW md n = 0 := by
  have : md n = some (.pos a) := by
    unfold posOf at h
    split at h
    · rename_i a' h'; simp only [Option.some.injEq] at h; subst h; exact h'
    · cases h
  simp only [unbW, unbondOf, this]

theorem unbW_upd_lt (md : Nat → Option Meta) {N n : Nat} (x : Option Meta) (h : n < N) :
    unbW (upd md N x) n = unbW md n := by
  simp only [unbW, unbondOf, upd_other _ _ (Nat.ne_of_lt h)]

/-- the signed ledger `unbondOut` is the sum of the outstanding unbond-token units -/
def UnbOK (v : PV) : Prop :=
  v.unbondOut = (wsum v.hold v.accts (v.nonce + 1) (unbW v.md) : Nat)

theorem UnbOK.trans {v v' : PV} (hI : PosOK v) (hU : UnbOK v) (h : PTrans v v') : UnbOK v' := by
  obtain ⟨inc, base, _, h⟩ := h
  unfold UnbOK at hU
  rcases h with rfl | ⟨c, user, pays, h0, ut1, ut2, tok, supply2, paid, hc, hd, hk, _, _, _, _, rfl⟩ |
    ⟨c, pay, h0, attrs, e, x, supply2, paid, hc, hd, ha, _, _, rfl⟩ |
    ⟨c, pays, h0, hc, hd, hz, rfl⟩ | ⟨src, dst, pay, h0, hs, hdst, hd, rfl⟩
  · exact hU
  · obtain ⟨_, k2⟩ := hI.totals_moved hc hd hk
    have h1 := hI.wsum_reissue hc hd tok.amount (unbW v.md)
      (unbW (upd v.md (v.nonce + 1) (some (.pos tok)))) (fun n hn => unbW_upd_lt v.md _ hn)
    rw [payW_zero (fun p hp => (k2 p hp).elim fun _ ha => unbW_pos ha),
      unbW_pos (posOf_upd_pos _ _ _), Nat.zero_mul] at h1
    exact hU.trans (congrArg Nat.cast h1.symm)
  · have h1 := hI.wsum_reissue hc hd x (unbW v.md)
      (unbW (upd v.md (v.nonce + 1) (some (.unbond e)))) (fun n hn => unbW_upd_lt v.md _ hn)
    have hw : unbW (upd v.md (v.nonce + 1) (some (.unbond e))) (v.nonce + 1) = 1 := by
      simp only [unbW, unbondOf, upd_same]
    rw [hw, Nat.one_mul] at h1
    simp only [payW, unbW_pos ha, Nat.zero_mul, Nat.add_zero] at h1
    dsimp only [UnbOK, PV.burn, PV.gen]
    rw [hU]
    omega
  · have hlt := hI.pay_lt hd
    have h1 := wsum_debit (unbW v.md) hd hc hI.nodup hlt
    rw [payW_one (fun p hp => (hz p hp).elim fun _ he => unbW_some he)] at h1
    dsimp only [UnbOK, PV.redeem, PV.gen]
    rw [hU]
    omega
  · exact hU.trans (congrArg Nat.cast
      (wsum_congr (fun n _ => outst_transfer hI hs hdst hd n) (fun _ _ => rfl)).symm)

/-! `PTrans` read nonce by nonce: the nonce counter only grows, an existing nonce keeps its
  metadata and its outstanding units do not grow, the new nonce is a position or an unbond token. -/

theorem paidOf_single (p : Pay) (n : Nat) : paidOf [p] n = if p.1 = n then p.2 else 0 := by
  simp [paidOf]

theorem outst_mint_le {v : PV} (hI : PosOK v) {c : Nat} {pays : List Pay} {h0 : Nat → Nat → Nat}
    (hc : c ∈ v.accts) (hd : debit v.hold c pays = some h0) (A : Nat) {n : Nat} (hn : n ≠ v.nonce + 1) :
    outst (upd2 h0 c (v.nonce + 1) A) v.accts n ≤ outst v.hold v.accts n := by
  rw [outst_mint hc hI.nodup (hI.fresh hd) n, if_neg hn]
  exact Nat.le.intro (outst_debit hd hc hI.nodup n)

theorem PTrans.nonce_cases {v v' : PV} (hI : PosOK v) (h : PTrans v v') (n : Nat) :
    v.nonce ≤ v'.nonce ∧
    ((v'.md n = v.md n ∧ outst v'.hold v'.accts n ≤ outst v.hold v.accts n) ∨
     (n = v.nonce + 1 ∧
       ((∃ tok, v'.md n = some (.pos tok) ∧ outst v'.hold v'.accts n = tok.amount) ∨
        ∃ e, v'.md n = some (.unbond e)))) := by
  obtain ⟨inc, base, _, h⟩ := h
  rcases h with rfl | ⟨c, user, pays, h0, ut1, ut2, tok, supply2, paid, hc, hd, _, _, _, _, _, rfl⟩ |
    ⟨c, pay, h0, attrs, e', x, supply2, paid, hc, hd, _, _, _, rfl⟩ |
    ⟨c, pays, h0, hc, hd, _, rfl⟩ | ⟨src, dst, pay, h0, hs, hdst, hd, rfl⟩
  · exact ⟨Nat.le_refl _, Or.inl ⟨rfl, Nat.le_refl _⟩⟩
  · refine ⟨Nat.le_succ _, ?_⟩
    by_cases hn : n = v.nonce + 1
    · subst hn
      refine Or.inr ⟨rfl, Or.inl ⟨tok, upd_same _ _ _, ?_⟩⟩
      show outst (upd2 h0 c (v.nonce + 1) tok.amount) v.accts (v.nonce + 1) = tok.amount
      rw [outst_mint hc hI.nodup (hI.fresh hd), if_pos rfl]
    · exact Or.inl ⟨upd_other _ _ hn, outst_mint_le hI hc hd _ hn⟩
  · refine ⟨Nat.le_succ _, ?_⟩
    by_cases hn : n = v.nonce + 1
    · subst hn
      exact Or.inr ⟨rfl, Or.inr ⟨e', upd_same _ _ _⟩⟩
    · exact Or.inl ⟨upd_other _ _ hn, outst_mint_le hI hc hd _ hn⟩
  · exact ⟨Nat.le_refl _, Or.inl ⟨rfl, Nat.le.intro (outst_debit hd hc hI.nodup n)⟩⟩
  · refine ⟨Nat.le_refl _, Or.inl ⟨rfl, ?_⟩⟩
    show outst (upd2 h0 dst pay.1 (h0 dst pay.1 + pay.2)) v.accts n ≤ outst v.hold v.accts n
    rw [outst_credit hdst hI.nodup n, ← outst_debit hd hs hI.nodup n, paidOf_single]
    by_cases hk : n = pay.1
    · subst hk; simp
    · rw [if_neg hk, if_neg (fun e => hk e.symm)]

end Mx.Staking
