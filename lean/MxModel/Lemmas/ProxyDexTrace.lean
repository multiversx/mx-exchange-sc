/-
  What a successful call of each endpoint of the proxy-dex model is made of: the chain of
  building-block calls with the intermediate states, the resulting state and the outputs.
  Every invariant of the model is proved from these, never by unfolding an endpoint again.
-/
import MxModel.Lemmas.OptionDo
import MxModel.Lemmas.ProxyDexBasic

namespace Mx.ProxyDex

theorem energyOf_zero (s : St) (k : Nat) : energyOf s k 0 = 0 := by
  simp [energyOf]

theorem burnLocked_zero (s : St) (k : Nat) : burnLocked s k 0 = s := by
  cases s; simp [burnLocked, energyOf_zero]

theorem ite_burnLocked (s : St) (k e : Nat) :
    (if e = 0 then s else burnLocked s k e) = burnLocked s k e := by
  split
  · rename_i h; rw [h, burnLocked_zero]
  · rfl

theorem ite_energyOf (s : St) (k e : Nat) :
    (if e = 0 then 0 else energyOf s k e) = energyOf s k e := by
  split
  · rename_i h; rw [h, energyOf_zero]
  · rfl

theorem learnOpt_eq (s : St) (t : Option LkTok) :
    learnOpt s t = { s with unl := (learnOpt s t).unl } := by
  cases t <;> rfl


/-- locked tokens `(k, a)` reach the proxy together with the wrapped farm token recording them -/
def recL (s : St) (farm fn fa k a : Nat) : St :=
  (newF { s with lk := s.lk.add k a } farm fn fa .locked k a).1

/-- a wrapped LP token over `total` is created for the proxy itself and recorded by a new wrapped
    farm token -/
def recW (s : St) (farm fn fa total k locked : Nat) : St :=
  (newF (newW s total k locked false).1 farm fn fa .wlp s.wl.length total).1

theorem takeWs_nil {s s' : St} {t : Nat} (h : takeWs s [] = some (s', t)) : s' = s ∧ t = 0 := by
  cases h; exact ⟨rfl, rfl⟩

theorem takeWs_cons {s s' : St} {w x t : Nat} {l : List (Nat × Nat)}
    (h : takeWs s ((w, x) :: l) = some (s', t)) :
    ∃ s1 r p t', takeW s w x = some (s1, r, p) ∧ takeWs s1 l = some (s', t') ∧ t = x + t' := by
  unfold takeWs at h
  obtain ⟨⟨s1, r, p⟩, h1, h⟩ := peel h
  obtain ⟨⟨s2, t'⟩, h2, h⟩ := peel h
  cases h
  exact ⟨s1, r, p, t', h1, h2, rfl⟩

theorem takeFs_nil {s s' : St} {farm t : Nat} {kind : Kind}
    (h : takeFs s farm kind [] = some (s', t)) : s' = s ∧ t = 0 := by
  cases h; exact ⟨rfl, rfl⟩

theorem takeFs_cons {s s' : St} {farm f x tot : Nat} {kind : Kind} {l : List (Nat × Nat)}
    (h : takeFs s farm kind ((f, x) :: l) = some (s', tot)) :
    ∃ s1 t tot', takeF s f x (.dissolve true) = some (s1, t) ∧ t.r.farm = farm ∧ t.r.kind = kind ∧
      takeFs s1 farm kind l = some (s', tot') ∧ tot = t.p + tot' := by
  unfold takeFs at h
  obtain ⟨⟨s1, t⟩, h1, h⟩ := peel h
  obtain ⟨⟨hf, hk⟩, h⟩ := peel_req h
  obtain ⟨⟨s2, tot'⟩, h2, h⟩ := peel h
  cases h
  exact ⟨s1, t, tot', h1, hf, hk, h2, rfl⟩

theorem takeWs_induct {P : St → Prop}
    (hP : ∀ {s s' w x r p}, P s → takeW s w x = some (s', r, p) → P s') :
    ∀ {l : List (Nat × Nat)} {s s' : St} {t : Nat}, P s → takeWs s l = some (s', t) → P s'
  | [], _, _, _, hs, h => (takeWs_nil h).1 ▸ hs
  | (_, _) :: _, _, _, _, hs, h => by
    obtain ⟨s1, r, p, t', h1, h2, -⟩ := takeWs_cons h
    exact takeWs_induct hP (hP hs h1) h2

theorem takeFs_induct {P : St → Prop}
    (hP : ∀ {s s' f x t}, P s → takeF s f x (.dissolve true) = some (s', t) → P s') :
    ∀ {l : List (Nat × Nat)} {s s' : St} {farm tot : Nat} {kind : Kind},
      P s → takeFs s farm kind l = some (s', tot) → P s'
  | [], _, _, _, _, _, hs, h => (takeFs_nil h).1 ▸ hs
  | (_, _) :: _, _, _, _, _, _, hs, h => by
    obtain ⟨s1, t, tot', h1, -, -, h2, -⟩ := takeFs_cons h
    exact takeFs_induct hP (hP hs h1) h2

theorem addStray_induct {P : St → Prop} (hP : ∀ {s : St} (t : LkTok), P s → P (addStray s [t])) :
    ∀ {l : List LkTok} {s : St}, P s → P (addStray s l)
  | [], _, hs => hs
  | t :: ts, s, hs => addStray_induct (@hP) (l := ts) (s := addStray s [t]) (hP t hs)

theorem addLiq_spec {s s' : St} {k la oa lp ul uo : Nat} {merge : List (Nat × Nat)}
    {mk : Option LkTok} {o : Out} (h : addLiq s k la oa merge lp ul uo mk = some (s', o)) :
    ∃ s0, 0 < la ∧ 0 < oa ∧ ul ≤ la ∧ uo ≤ oa ∧
      s0 = { s with minted := s.minted + la, burnB := s.burnB + (la - ul), lp := s.lp + lp } ∧
      ((merge = [] ∧ s' = (newW s0 lp k ul true).1 ∧
          o = { locked := (k, la - ul), other := oa - uo, wOut := (s.wl.length, lp),
                newW := s.wl.length }) ∨
       (∃ a l t s1 sx, merge = a :: l ∧ mk = some t ∧ ul ≠ 0 ∧ takeWs s0 merge = some (s1, sx) ∧
          s' = (newW (learn s1 t) (lp + sx) t.k t.amt true).1 ∧
          o = { locked := (k, la - ul), other := oa - uo, wOut := (s1.wl.length, lp + sx),
                newW := s1.wl.length })) := by
  unfold addLiq at h
  obtain ⟨⟨hla, hoa⟩, h⟩ := peel_req h
  obtain ⟨hul, h⟩ := peel_sub h
  obtain ⟨huo, h⟩ := peel_sub h
  refine ⟨_, hla, hoa, hul, huo, rfl, ?_⟩
  cases merge with
  | nil => cases h; exact Or.inl ⟨rfl, rfl, rfl⟩
  | cons a l =>
    obtain ⟨t, ht, h⟩ := peel h
    obtain ⟨hz, h⟩ := peel_req h
    obtain ⟨⟨s1, sx⟩, h1, h⟩ := peel h
    cases h
    exact Or.inr ⟨a, l, t, s1, sx, rfl, ht, hz, h1, rfl, rfl⟩

/-- both branches of `removeLiquidityProxy` in one state expression: the shortfall `p - rb` of the
    pool's base-asset payment is burned as locked tokens (nothing when `rb > p`), and `min rb p` base
    asset is burned for the locked tokens handed back -/
theorem removeLiq_trace {s s' : St} {w x rb ro : Nat} {o : Out}
    (h : removeLiq s w x rb ro = some (s', o)) :
    ∃ s1 r p, takeW s w x = some (s1, r, p) ∧ x ≤ s1.lp ∧
      s' = { burnLocked { s1 with lp := s1.lp - x } r.k (p - rb) with
             burnB := s1.burnB + min rb p } ∧
      o = (if rb > p then { base := rb - p, locked := (r.k, p), other := ro }
           else { locked := (r.k, rb), other := ro, burned := (r.k, p - rb),
                  eDed := energyOf s1 r.k (p - rb) }) := by
  unfold removeLiq at h
  obtain ⟨⟨s1, r, p⟩, h1, h⟩ := peel h
  obtain ⟨hlp, h⟩ := peel_sub h
  refine ⟨s1, r, p, h1, hlp, ?_⟩
  by_cases hgt : rb > p
  · rw [if_pos hgt] at h ⊢
    cases h
    have e1 : p - rb = 0 := by omega
    have e2 : min rb p = p := by omega
    rw [e1, e2, burnLocked_zero]
    exact ⟨rfl, rfl⟩
  · rw [if_neg hgt] at h ⊢
    cases h
    have e2 : min rb p = rb := by omega
    rw [e2, ite_burnLocked, ite_energyOf]
    exact ⟨rfl, rfl⟩

theorem enterL_spec {s s' : St} {farm k a : Nat} {merge : List (Nat × Nat)} {ft : Nat × Nat}
    {rew : Option LkTok} {m : Option ((Nat × Nat) × LkTok)} {stray : List LkTok} {o : Out}
    (h : enterL s farm k a merge ft rew m stray = some (s', o)) :
    ∃ s0, 0 < a ∧ s0 = learnOpt { s with minted := s.minted + a } rew ∧
      ((merge = [] ∧ s' = recL s0 farm ft.1 ft.2 k a ∧
          o = { fOut := (s.wf.length, ft.2), rew := rewOf rew, newF := s.wf.length }) ∨
       (∃ b l mf t s1 sp, merge = b :: l ∧ m = some (mf, t) ∧
          takeFs s0 farm .locked merge = some (s1, sp) ∧
          s' = addStray (recL (learn s1 t) farm mf.1 mf.2 t.k t.amt) stray ∧
          o = { fOut := (s1.wf.length, mf.2), rew := rewOf rew, newF := s1.wf.length })) := by
  unfold enterL at h
  obtain ⟨ha, h⟩ := peel_req h
  refine ⟨_, ha, rfl, ?_⟩
  cases merge with
  | nil => cases h; cases rew <;> exact Or.inl ⟨rfl, rfl, rfl⟩
  | cons b l =>
    obtain ⟨⟨mf, t⟩, hm, h⟩ := peel h
    obtain ⟨⟨s1, sp⟩, h1, h⟩ := peel h
    cases h
    exact Or.inr ⟨b, l, mf, t, s1, sp, rfl, hm, h1, rfl, rfl⟩

theorem enterW_spec {s s' : St} {farm w a : Nat} {merge : List (Nat × Nat)} {ft : Nat × Nat}
    {rew : Option LkTok} {m : Option ((Nat × Nat) × LkTok)} {stray : List LkTok} {o : Out}
    (h : enterW s farm w a merge ft rew m stray = some (s', o)) :
    ∃ r q, s.wl[w]? = some r ∧ 0 < a ∧ a ≤ r.circ ∧ part r.locked r.total a = some q ∧ a ≤ s.lp ∧
      ((merge = [] ∧
          s' = (newF (learnOpt { setW s w { r with circ := r.circ - a, held := r.held + a } with
                                 lp := s.lp - a } rew) farm ft.1 ft.2 .wlp w a).1 ∧
          o = { fOut := (s.wf.length, ft.2), rew := rewOf rew, newF := s.wf.length }) ∨
       (∃ b l mf t s0 r0 q0 s1 sp, merge = b :: l ∧ m = some (mf, t) ∧
          takeW s w a true = some (s0, r0, q0) ∧
          takeFs (learnOpt { s0 with lp := s.lp - a } rew) farm .wlp merge = some (s1, sp) ∧
          s' = addStray (recW (learn s1 t) farm mf.1 mf.2 (a + sp) t.k t.amt) stray ∧
          o = { fOut := (s1.wf.length, mf.2), rew := rewOf rew, newW := s1.wl.length,
                newF := s1.wf.length })) := by
  unfold enterW at h
  obtain ⟨r, hr, h⟩ := peel h
  obtain ⟨ha, h⟩ := peel_req h
  obtain ⟨hc, h⟩ := peel_sub h
  obtain ⟨q, hq, h⟩ := peel h
  obtain ⟨hlp, h⟩ := peel_sub h
  refine ⟨r, q, hr, ha, hc, hq, hlp, ?_⟩
  cases merge with
  | nil => cases h; cases rew <;> exact Or.inl ⟨rfl, rfl, rfl⟩
  | cons b l =>
    obtain ⟨⟨mf, t⟩, hm, h⟩ := peel h
    obtain ⟨⟨s0, r0, q0⟩, h0, h⟩ := peel h
    obtain ⟨⟨s1, sp⟩, h1, h⟩ := peel h
    cases h
    exact Or.inr ⟨b, l, mf, t, s0, r0, q0, s1, sp, rfl, hm, h0, h1, rfl, rfl⟩

theorem exitFarm_spec {s s' : St} {farm f x farming : Nat} {rew : Option LkTok} {o : Out}
    (h : exitFarm s farm f x farming rew = some (s', o)) :
    ∃ s1 t s2, farming ≤ x ∧
      takeF s f x (if x = farming then .out else .dissolve true) = some (s1, t) ∧
      s2 = { s1 with burnB := s1.burnB + (if farmIsBase t.r.farm then farming else 0),
                     lp := s1.lp + (if farmIsBase t.r.farm then 0 else farming) } ∧
      ((x = farming ∧ s' = learnOpt s2 rew ∧
          ((t.r.kind = .locked ∧ o = { locked := (t.r.pn, t.p), rew := rewOf rew }) ∨
           (t.r.kind = .wlp ∧ o = { wOut := (t.r.pn, t.p), rew := rewOf rew }))) ∨
       (x ≠ farming ∧ x - farming ≤ t.p ∧ t.r.kind = .locked ∧
          s' = learnOpt (burnLocked s2 t.r.pn (x - farming)) rew ∧
          o = { locked := (t.r.pn, t.p - (x - farming)), rew := rewOf rew,
                burned := (t.r.pn, x - farming), eDed := energyOf s2 t.r.pn (x - farming) }) ∨
       (∃ rw qN, x ≠ farming ∧ x - farming ≤ t.p ∧ t.r.kind = .wlp ∧ s.wl[t.r.pn]? = some rw ∧
          part rw.locked rw.total (t.p - (x - farming)) = some qN ∧ qN ≤ t.q ∧
          s' = learnOpt (newW (burnLocked s2 rw.k (t.q - qN)) (t.p - (x - farming)) rw.k qN true).1 rew ∧
          o = { wOut := (s1.wl.length, t.p - (x - farming)), rew := rewOf rew,
                burned := (rw.k, t.q - qN), eDed := energyOf s2 rw.k (t.q - qN),
                newW := s1.wl.length })) := by
  unfold exitFarm at h
  obtain ⟨hfx, h⟩ := peel_req h
  obtain ⟨⟨s1, t⟩, h1, h⟩ := peel h
  have e2 : (if farmIsBase t.r.farm = true then { s1 with burnB := s1.burnB + farming }
      else { s1 with lp := s1.lp + farming }) =
      { s1 with burnB := s1.burnB + (if farmIsBase t.r.farm then farming else 0),
                lp := s1.lp + (if farmIsBase t.r.farm then 0 else farming) } := by
    split <;> rfl
  dsimp only at h
  rw [e2] at h
  refine ⟨s1, t, _, hfx, h1, rfl, ?_⟩
  by_cases hx : x = farming
  · rw [if_pos hx] at h
    refine Or.inl ⟨hx, ?_⟩
    cases hk : t.r.kind <;> rw [hk] at h <;> cases h
    · exact ⟨rfl, Or.inl ⟨rfl, rfl⟩⟩
    · exact ⟨rfl, Or.inr ⟨rfl, rfl⟩⟩
  · rw [if_neg hx] at h
    obtain ⟨hpen, h⟩ := peel_sub h
    refine Or.inr ?_
    cases hk : t.r.kind <;> rw [hk] at h
    · cases h
      exact Or.inl ⟨hx, hpen, rfl, rfl, rfl⟩
    · obtain ⟨rw, hrw, h⟩ := peel h
      obtain ⟨qN, hqN, h⟩ := peel h
      obtain ⟨hle, h⟩ := peel_sub h
      cases h
      rw [ite_burnLocked, ite_energyOf]
      exact Or.inr ⟨rw, qN, hx, hpen, rfl, hrw, hqN, hle, rfl, rfl⟩

theorem claim_spec {s s' : St} {farm f x : Nat} {ft : Nat × Nat} {rew : Option LkTok} {o : Out}
    (h : claim s farm f x ft rew = some (s', o)) :
    ∃ s1 t, takeF s f x .keep = some (s1, t) ∧
      s' = (newF (learnOpt s1 rew) t.r.farm ft.1 ft.2 t.r.kind t.r.pn t.p).1 ∧
      o = { fOut := (s1.wf.length, ft.2), rew := rewOf rew, newF := s1.wf.length } := by
  unfold claim at h
  obtain ⟨⟨s1, t⟩, h1, h⟩ := peel h
  cases h
  cases rew <;> exact ⟨s1, t, h1, rfl, rfl⟩

theorem mergeLp_spec {s s' : St} {l : List (Nat × Nat)} {t : LkTok} {o : Out}
    (h : mergeLp s l t = some (s', o)) :
    ∃ s1 sx, 2 ≤ l.length ∧ takeWs s l = some (s1, sx) ∧
      s' = (newW (learn s1 t) sx t.k t.amt true).1 ∧
      o = { wOut := (s1.wl.length, sx), newW := s1.wl.length } := by
  unfold mergeLp at h
  obtain ⟨hl, h⟩ := peel_req h
  obtain ⟨⟨s1, sx⟩, h1, h⟩ := peel h
  cases h
  exact ⟨s1, sx, hl, h1, rfl, rfl⟩

theorem mergeFarmCore_spec {s s' : St} {farm : Nat} {l : List (Nat × Nat)} {mf : Nat × Nat}
    {t : LkTok} {stray : List LkTok} {o : Out}
    (h : mergeFarmCore s farm l mf t stray = some (s', o)) :
    ∃ f0 x0 r0 s1 sp, 2 ≤ l.length ∧ l.head? = some (f0, x0) ∧ s.wf[f0]? = some r0 ∧
      takeFs s r0.farm r0.kind l = some (s1, sp) ∧
      ((r0.kind = .locked ∧ s' = addStray (recL (learn s1 t) r0.farm mf.1 mf.2 t.k t.amt) stray ∧
          o = { fOut := (s1.wf.length, mf.2), newF := s1.wf.length }) ∨
       (r0.kind = .wlp ∧ s' = addStray (recW (learn s1 t) r0.farm mf.1 mf.2 sp t.k t.amt) stray ∧
          o = { fOut := (s1.wf.length, mf.2), newW := s1.wl.length, newF := s1.wf.length })) := by
  unfold mergeFarmCore at h
  obtain ⟨hl, h⟩ := peel_req h
  obtain ⟨⟨f0, x0⟩, hh, h⟩ := peel h
  obtain ⟨r0, hr0, h⟩ := peel h
  obtain ⟨⟨s1, sp⟩, h1, h⟩ := peel h
  refine ⟨f0, x0, r0, s1, sp, hl, hh, hr0, h1, ?_⟩
  cases hk : r0.kind <;> rw [hk] at h <;> cases h
  · exact Or.inl ⟨rfl, rfl, rfl⟩
  · exact Or.inr ⟨rfl, rfl, rfl⟩

theorem mergeFarm_spec {s s' : St} {farm : Nat} {l : List (Nat × Nat)} {mf : Nat × Nat}
    {t : LkTok} {rew : Option LkTok} {stray : List LkTok} {o : Out}
    (h : mergeFarm s farm l mf t rew stray = some (s', o)) :
    ∃ o1, mergeFarmCore (learnOpt s rew) farm l mf t stray = some (s', o1) ∧
      o = { o1 with rew := rewOf rew } := by
  unfold mergeFarm at h
  obtain ⟨⟨s1, o1⟩, h1, h⟩ := peel h
  cases h
  exact ⟨o1, h1, rfl⟩

theorem incLp_spec {s s' : St} {w x : Nat} {t : LkTok} {o : Out}
    (h : incLp s w x t = some (s', o)) :
    ∃ s1 r p, takeW s w x = some (s1, r, p) ∧ s' = (newW (learn s1 t) x t.k t.amt true).1 ∧
      o = { wOut := (s1.wl.length, x), newW := s1.wl.length } := by
  unfold incLp at h
  obtain ⟨⟨s1, r, p⟩, h1, h⟩ := peel h
  cases h
  exact ⟨s1, r, p, h1, rfl, rfl⟩

theorem incFarm_spec {s s' : St} {f x : Nat} {t : LkTok} {o : Out}
    (h : incFarm s f x t = some (s', o)) :
    ∃ s1 tk, takeF s f x (.dissolve false) = some (s1, tk) ∧
      ((tk.r.kind = .locked ∧ s' = recL (learn s1 t) tk.r.farm tk.r.fn x t.k t.amt ∧
          o = { fOut := (s1.wf.length, x), newF := s1.wf.length }) ∨
       (tk.r.kind = .wlp ∧ s' = recW (learn s1 t) tk.r.farm tk.r.fn x tk.p t.k t.amt ∧
          o = { fOut := (s1.wf.length, x), newW := s1.wl.length, newF := s1.wf.length })) := by
  unfold incFarm at h
  obtain ⟨⟨s1, tk⟩, h1, h⟩ := peel h
  refine ⟨s1, tk, h1, ?_⟩
  dsimp only at h
  cases hk : tk.r.kind <;> rw [hk] at h <;> cases h
  · exact Or.inl ⟨rfl, rfl, rfl⟩
  · exact Or.inr ⟨rfl, rfl, rfl⟩

/-- `G` is a side condition on the state and the rest of the history (callee facts), handed on from
    step to step -/
theorem run_induct {P : St → Prop} {G : St → List Op → Prop}
    (hG : ∀ {s op ops}, G s (op :: ops) →
      G (match step s op with | some (s', _) => s' | none => s) ops)
    (hP : ∀ {s op ops s' o}, P s → G s (op :: ops) → step s op = some (s', o) → P s') :
    ∀ {ops : List Op} {s : St}, P s → G s ops → P (run s ops)
  | [], _, hs, _ => hs
  | op :: ops, s, hs, hg => by
    have hg' := hG hg
    show P (run (match step s op with | some (s', _) => s' | none => s) ops)
    cases h : step s op with
    | none => rw [h] at hg'; exact run_induct hG hP hs hg'
    | some r => rw [h] at hg'; exact run_induct hG hP (hP hs hg h) hg'

end Mx.ProxyDex
