/-
  Trading histories on the per-account ledger: what ALL wallets together gain over a history of
  non-liquidity calls and plain transfers is bounded by what the reserves lose (C02 measured in
  wallet balances, i.e. in the `acct=` column the correspondence run compares with real ESDT
  balances).
-/
import MxModel.Lemmas.PairLedgerInv
import MxModel.Lemmas.PairTrade

namespace Mx.PairLedger
open Mx.Pair

/-- first pool token in the accounts' hands, plain or LOCKED -/
def walletA (l : L) : Nat := sumOf (·.a) l.accts + sumOf (·.lkA) l.accts
/-- second pool token in the accounts' hands, plain or LOCKED -/
def walletB (l : L) : Nat := sumOf (·.b) l.accts + sumOf (·.lkB) l.accts

/-- ledger operations of a trading history: calls that are not liquidity operations, and plain
    transfers between accounts (the faucet creates tokens and is excluded) -/
def isTradeL : LOp → Bool
  | .call _ op => !isLiq op
  | .xfer .. => true
  | .fund .. => false

theorem move_tflow {s s' : St} {op : Op} {o : Out} (hl : isLiq op = false)
    (h : step s op = some (s', o)) :
    (((move op o).getA + (move op o).getLkA : Nat) : Int) - (move op o).payA = (tflow op o).1 ∧
    (((move op o).getB + (move op o).getLkB : Nat) : Int) - (move op o).payB = (tflow op o).2 ∧
    (move op o).payLp = 0 ∧ (move op o).getLp = 0 := by
  have hpl := plain_add_locked o
  cases op <;> simp only [isLiq, Bool.true_eq_false] at hl
  case swapIn d a m =>
    cases d <;> simp only [move, tflow, flowOf] <;> refine ⟨?_, ?_, trivial, trivial⟩ <;> omega
  case swapOut d mx out =>
    simp only [step] at h
    obtain ⟨_, _, _, _, _, hle, _, ho⟩ := swapOut_iff.mp h
    have e3 : o.v3 = mx - o.v2 ∧ o.v2 ≤ mx := by rw [ho]; exact ⟨rfl, hle⟩
    cases d <;> simp only [move, tflow, flowOf] <;> refine ⟨?_, ?_, trivial, trivial⟩ <;> omega
  case swapNoFee c d a =>
    cases d <;> simp only [move, tflow] <;> refine ⟨?_, ?_, trivial, trivial⟩ <;> omega
  case cfg c => simp [move, tflow, flowOf]
  case advance r => simp [move, tflow, flowOf]
  case lock ow lo => simp [move, tflow, flowOf]
  case epoch e => simp [move, tflow, flowOf]

theorem stepL_trade {l l' : L} {op : LOp} {o : Out} (ht : isTradeL op = true)
    (h : stepL l op = some (l', o)) :
    l'.p.S = l.p.S ∧
    (walletA l' : Int) - walletA l ≤ (l.p.r1 : Int) - l'.p.r1 ∧
    (walletB l' : Int) - walletB l ≤ (l.p.r2 : Int) - l'.p.r2 := by
  cases op with
  | fund i f x => simp [isTradeL] at ht
  | xfer i j t x =>
    obtain ⟨accts', ha, rfl⟩ := stepL_xfer_spec h
    obtain ⟨e1, e2, _, e4, e5, _⟩ := xferAccts_sums ha
    refine ⟨rfl, ?_, ?_⟩ <;> simp only [walletA, walletB, e1, e2, e4, e5] <;> omega
  | call i op =>
    have hl : isLiq op = false := by simpa [isTradeL] using ht
    obtain ⟨p', acc, acc', hs, ha, hp, e1, e2, _⟩ := stepL_call_spec h
    obtain ⟨eS, f1, f2⟩ := trade_step hl hs
    obtain ⟨m1, m2, _, _⟩ := move_tflow hl hs
    obtain ⟨q1, q2, _, hacc⟩ := pay_spec hp
    obtain ⟨s1, s2, -, s4, s5⟩ := sums_set l.accts i acc acc' ha
    subst hacc
    simp only at s1 s2 s4 s5
    rw [← e2] at s1 s2 s4 s5
    rw [e1]
    refine ⟨eS, ?_, ?_⟩ <;> simp only [walletA, walletB] <;> omega

theorem runL_trade (ops : List LOp) (hall : ∀ op ∈ ops, isTradeL op = true) (l : L) :
    (runL l ops).p.S = l.p.S ∧
    (walletA (runL l ops) : Int) - walletA l ≤ (l.p.r1 : Int) - (runL l ops).p.r1 ∧
    (walletB (runL l ops) : Int) - walletB l ≤ (l.p.r2 : Int) - (runL l ops).p.r2 := by
  induction ops generalizing l with
  | nil => simp [runL]
  | cons op ops ih =>
    have hop := hall op (List.mem_cons_self ..)
    have hrest : ∀ op' ∈ ops, isTradeL op' = true := fun o' ho' => hall o' (List.mem_cons_of_mem _ ho')
    rw [runL_cons]
    cases h : stepL l op with
    | none => exact ih hrest l
    | some r =>
      obtain ⟨l1, o⟩ := r
      obtain ⟨e, h1, h2⟩ := stepL_trade hop h
      obtain ⟨e', g1, g2⟩ := ih hrest l1
      simp only []
      refine ⟨by rw [e', e], ?_, ?_⟩ <;> omega

theorem pairOps_trade (ops : List LOp) (hall : ∀ op ∈ ops, isTradeL op = true) (l : L) :
    ∀ op ∈ pairOps l ops, isLiq op = false := by
  induction ops generalizing l with
  | nil => intro op h; simp [pairOps] at h
  | cons op ops ih =>
    have hop := hall op (List.mem_cons_self ..)
    have hrest : ∀ op' ∈ ops, isTradeL op' = true := fun o' ho' => hall o' (List.mem_cons_of_mem _ ho')
    simp only [pairOps]
    cases h : stepL l op with
    | none => exact ih hrest l
    | some r =>
      obtain ⟨l1, o⟩ := r
      cases op with
      | fund i f x => simp [isTradeL] at hop
      | xfer i j t x => exact ih hrest l1
      | call i pop =>
        intro q hq
        simp only [List.mem_cons] at hq
        rcases hq with rfl | hq
        · simpa [isTradeL] using hop
        · exact ih hrest l1 q hq

end Mx.PairLedger
