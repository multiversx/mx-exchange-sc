/-
  The unbond token minted by unstake (C12); the unbond gate is `unbondFarm_iff` (StakingSpec).
-/
import MxModel.Lemmas.StakingSpec

namespace Mx.Staking

open Mx.Weekly

/-- `x.getD pay.2`: the amount of the unbond token is the principal taken out (direct unstake) or
    the staking tokens the proxy paid in (`unstakeFarmThroughProxy`) -/
theorem unstakeCore_unbond {s s' : St} {c orig : Nat} {pay : Pay} {x : Option Nat} {o : Out}
    (h : unstakeCore s c orig pay x = some (s', o)) :
    s'.nonce = s.nonce + 1 ∧
    s'.md (s.nonce + 1) = some (.unbond (s.epoch + s.minUnbond)) ∧
    s'.hold c (s.nonce + 1) = x.getD pay.2 ∧ o.a = s.nonce + 1 ∧ o.b = x.getD pay.2 ∧
    s'.unbondOut = s.unbondOut + (x.getD pay.2 : Int) ∧
    s'.supply + pay.2 = s.supply ∧ s'.epoch = s.epoch := by
  obtain ⟨hold0, attrs, tok, r, w2, t⟩ := unstakeCore_trace h
  obtain rfl := t.state
  obtain rfl := t.out
  obtain ⟨_, _, hamt, _⟩ := intoPart_spec t.intoPart
  have hsup := t.supply
  rw [hamt] at hsup
  refine ⟨rfl, upd_same _ _ _, ?_, rfl, hamt ▸ rfl, hamt ▸ rfl, ?_, rfl⟩
  · show upd2 hold0 c (s.nonce + 1) (x.getD tok.amount) c (s.nonce + 1) = x.getD pay.2
    rw [hamt]
    simp [upd2]
  · show s.supply - tok.amount + pay.2 = s.supply
    omega

end Mx.Staking
