/-
  What `claim_multi` of the weekly-rewards-splitting module does, for a reward hook that leaves the
  module's bookkeeping alone (`RwFrame`):

  * `WeekStep`: everything the global update (`update_user_energy_for_current_week`) leaves alone;
  * `eForP`: the energy a progress table still claims for a week, and the entry `ClaimProgress.upTo`
    of a claimer who has been paid up to a week;
  * `HookRun` / `claimMulti_run`: `claim_multi` is the global update, then the reward hook called
    once for every week `w` of the window `claimFrom … ≤ w < W`, in order, with the claimer's STORED
    energy decayed to `w` (`eForP`) against the week's STORED total, then the progress write.  The
    loop's own bookkeeping (`ClaimAcc`, the advancing progress, the skipped weeks) shows only in
    `claimMulti_spec`, `loop_window` and `claimLoop_induction`, for the statements that are about the
    loop itself (the farm's `LoopEff`, `four_weeks_max` of Props/C10.lean).
-/
import MxModel.Lemmas.WeeklyUpdate

namespace Mx.Weekly

/-- everything but `totalRewards` is untouched -/
structure FrameR (g' g : St) : Prop where
  fb : g'.firstBucketId = g.firstBucketId
  progress : g'.progress = g.progress
  users : g'.users = g.users
  totalEnergy : g'.totalEnergy = g.totalEnergy
  totalLocked : g'.totalLocked = g.totalLocked
  buckets : g'.buckets = g.buckets
  lgw : g'.lastGlobalUpdateWeek = g.lastGlobalUpdateWeek

theorem FrameR.refl (g : St) : FrameR g g := ⟨rfl, rfl, rfl, rfl, rfl, rfl, rfl⟩

theorem FrameR.trans {a b c : St} (h1 : FrameR a b) (h2 : FrameR b c) : FrameR a c :=
  ⟨h1.fb.trans h2.fb, h1.progress.trans h2.progress, h1.users.trans h2.users,
   h1.totalEnergy.trans h2.totalEnergy, h1.totalLocked.trans h2.totalLocked,
   h1.buckets.trans h2.buckets, h1.lgw.trans h2.lgw⟩

/-- a reward function that only ever touches `totalRewardsForWeek` of the module state -/
def RwFrame {σ : Type} (rw : RewardFn σ) : Prop :=
  ∀ g c w e E g' c' r, rw g c w e E = some (g', c', r) → FrameR g' g

theorem collectAndGet_frame {σ : Type} (collect : CollectFn σ) (g : St) (c : σ) (week : Nat) :
    FrameR (collectAndGet collect g c week).1 g := by
  unfold collectAndGet
  split
  · exact ⟨rfl, rfl, rfl, rfl, rfl, rfl, rfl⟩
  · exact FrameR.refl g

theorem defaultRewards_frame {σ : Type} (collect : CollectFn σ) : RwFrame (defaultRewards collect) := by
  intro g c w e E g' c' r h
  unfold defaultRewards at h
  split at h
  · cases h
    exact FrameR.refl _
  · cases h
    exact collectAndGet_frame collect g c w

theorem collectAndGet_cases {σ : Type} (collect : CollectFn σ) (g : St) (c : σ) (week : Nat) :
    ((g.totalRewards week).isEmpty ∧
      collectAndGet collect g c week =
        ({ g with totalRewards := upd g.totalRewards week (collect c week).2 },
          (collect c week).1, (collect c week).2)) ∨
    (¬ (g.totalRewards week).isEmpty ∧ collectAndGet collect g c week = (g, c, g.totalRewards week)) := by
  unfold collectAndGet
  by_cases h : (g.totalRewards week).isEmpty
  · exact Or.inl ⟨h, if_pos h⟩
  · exact Or.inr ⟨h, if_neg h⟩

/-- the week length (`EPOCHS_IN_WEEK`) is written as a numeral, which `omega` can divide by -/
theorem weekOf_eq_some {e f W : Nat} :
    weekOf e f = some W ↔ f ≤ e ∧ W = (e - f) / 7 + 1 := by
  unfold weekOf EPOCHS_IN_WEEK
  by_cases h : f ≤ e
  · simp [req, h, eq_comm]
  · simp [req, h]

theorem weekOf_mono {e e' f W W' : Nat} (he : e ≤ e') (h : weekOf e f = some W)
    (h' : weekOf e' f = some W') : W ≤ W' := by
  obtain ⟨_, rfl⟩ := weekOf_eq_some.mp h
  obtain ⟨_, rfl⟩ := weekOf_eq_some.mp h'
  exact Nat.succ_le_succ (Nat.div_le_div_right (by omega))

/-- what `update_user_energy_for_current_week` for week `W` leaves alone: the progress table and the
    user list; of the totals and frozen rewards of the other weeks it only clears those of week `W − 5` -/
structure WeekStep (g g1 : St) (W : Nat) : Prop where
  progress : g1.progress = g.progress
  users : g1.users = g.users
  lgw : g1.lastGlobalUpdateWeek = W
  mono : g.lastGlobalUpdateWeek ≤ W
  energy : ∀ w, w ≠ W → g1.totalEnergy w = g.totalEnergy w ∨ (g1.totalEnergy w = 0 ∧ w + 5 = W)
  rewards : ∀ w, g1.totalRewards w = g.totalRewards w ∨ (g1.totalRewards w = [] ∧ w + 5 = W)

theorem performWeeklyUpdate_rewards {g g1 : St} {W : Nat} (h : performWeeklyUpdate g W = some g1)
    (w : Nat) : g1.totalRewards w = g.totalRewards w ∨ (g1.totalRewards w = [] ∧ w + 5 = W) := by
  rcases performWeeklyUpdate_cases h with ⟨_, rfl⟩ | ⟨_, rfl⟩ | ⟨_, _, g2, t2, _, rfl⟩
  · exact Or.inl rfl
  · exact Or.inl rfl
  · dsimp only
    split
    · rename_i hbig
      simp only [USER_MAX_CLAIM_WEEKS] at hbig ⊢
      by_cases h5 : w = W - 4 - 1
      · exact Or.inr ⟨by rw [h5, upd_same], by omega⟩
      · exact Or.inl (upd_other _ _ h5)
    · exact Or.inl rfl

theorem updateUser_weekStep {g g1 : St} {W : Nat} {cur : Energy} {o : Option ClaimProgress}
    (h : updateUserEnergyForCurrentWeek g W cur o = some g1) : WeekStep g g1 W := by
  rw [updateUserEnergyForCurrentWeek_eq] at h
  obtain ⟨hp, hu, hl, hm, he⟩ := updateGlobal_frame h
  obtain ⟨ga, gb, bp, gc, h1, _, hre, htk, hen⟩ := updateGlobal_spec h
  refine ⟨hp, hu, hl, hm, he, fun w => ?_⟩
  rw [(updateTotalEnergy_spec hen).2.2.2.2.2.1, (updateTotalTokens_spec htk).2.2.2.2.2.1,
    (reallocate_spec hre).2.2.1.totalRewards]
  exact performWeeklyUpdate_rewards h1 w

theorem updateUser_week_le {g g1 : St} {W : Nat} {cur : Energy} {p : ClaimProgress}
    (h : updateUserEnergyForCurrentWeek g W cur (some p) = some g1) : p.week ≤ W := by
  obtain ⟨_, _, _, _, _, hle, _⟩ := updateGlobal_spec h
  exact hle

/-- the claimable weeks keep their totals and their frozen rewards -/
theorem WeekStep.window {g g1 : St} {W : Nat} (h : WeekStep g g1 W) {w : Nat} (hw : w < W)
    (h4 : W ≤ w + 4) : g1.totalEnergy w = g.totalEnergy w ∧ g1.totalRewards w = g.totalRewards w :=
  ⟨(h.energy w (Nat.ne_of_lt hw)).resolve_right fun e => by omega,
    (h.rewards w).resolve_right fun e => by omega⟩


/-- the energy a progress table pays user `u` with for week `w` (0 if `u` is already past `w`) -/
def eForP (prog : Nat → Option ClaimProgress) (u w : Nat) : Nat :=
  match prog u with
  | some p => if p.week ≤ w then (p.energy.after (w - p.week)).getEnergyAmount else 0
  | none => 0

def ClaimProgress.energyFor (p : ClaimProgress) (w : Nat) : Nat :=
  if p.week ≤ w then (p.energy.after (w - p.week)).getEnergyAmount else 0

theorem eForP_some {prog : Nat → Option ClaimProgress} {u : Nat} {p : ClaimProgress}
    (h : prog u = some p) (w : Nat) : eForP prog u w = p.energyFor w := by
  unfold eForP ClaimProgress.energyFor; rw [h]

theorem eForP_none {prog : Nat → Option ClaimProgress} {u : Nat} (h : prog u = none) (w : Nat) :
    eForP prog u w = 0 := by
  unfold eForP; rw [h]

theorem eForP_upd_other (prog : Nat → Option ClaimProgress) (u0 : Nat) (o : Option ClaimProgress)
    {u : Nat} (h : u ≠ u0) (w : Nat) : eForP (upd prog u0 o) u w = eForP prog u w := by
  unfold eForP; rw [upd_other _ _ h]

theorem eForP_settled {prog : Nat → Option ClaimProgress} {u w W : Nat}
    (hs : ∀ p, prog u = some p → W ≤ p.week) (hw : w < W) : eForP prog u w = 0 := by
  cases hp : prog u with
  | none => exact eForP_none hp w
  | some q => rw [eForP_some hp]; exact if_neg (by have := hs q hp; omega)

theorem eForP_newOf (prog : Nat → Option ClaimProgress) (u0 : Nat) (cur : Energy) {W w : Nat}
    (hw : w < W) : eForP (upd prog u0 (newOf cur W)) u0 w = 0 :=
  eForP_settled (fun _ hp =>
    Nat.le_of_eq (congrArg ClaimProgress.week (newOf_eq_some.mp ((upd_same _ _ _).symm.trans hp)).2).symm) hw

/-- the entry of a claimer who has been paid the weeks before `lo`: where the claim loop stands
    when it reaches week `lo` -/
def ClaimProgress.upTo (p : ClaimProgress) (lo : Nat) : ClaimProgress :=
  ⟨p.energy.after (lo - p.week), lo⟩

@[simp] theorem ClaimProgress.upTo_week (p : ClaimProgress) (lo : Nat) : (p.upTo lo).week = lo := rfl

theorem ClaimProgress.upTo_self (p : ClaimProgress) : p.upTo p.week = p := by
  unfold upTo; rw [Nat.sub_self, Energy.after_zero]

theorem ClaimProgress.upTo_advanceWeek (p : ClaimProgress) {lo : Nat} (h : p.week ≤ lo) :
    (p.upTo lo).advanceWeek = p.upTo (lo + 1) := by
  rw [advanceWeek_eq]
  unfold upTo
  rw [Energy.after_after, Nat.sub_add_comm h]

theorem ClaimProgress.upTo_energyFor (p : ClaimProgress) {lo : Nat} (h : p.week ≤ lo) (w : Nat) :
    (p.upTo lo).energyFor w = if lo ≤ w then p.energyFor w else 0 := by
  unfold energyFor upTo
  by_cases hw : lo ≤ w
  · rw [if_pos hw, if_pos hw, if_pos (Nat.le_trans h hw), Energy.after_after,
      show lo - p.week + (w - lo) = w - p.week by omega]
  · rw [if_neg hw, if_neg hw]

theorem eForP_upTo {prog : Nat → Option ClaimProgress} {u0 : Nat} {p : ClaimProgress}
    (hp : prog u0 = some p) {lo : Nat} (h : p.week ≤ lo) (w : Nat) :
    eForP (upd prog u0 (some (p.upTo lo))) u0 w = if lo ≤ w then eForP prog u0 w else 0 := by
  rw [eForP_some (upd_same _ _ _), p.upTo_energyFor h, eForP_some hp]


theorem claimSingle_spec {σ : Type} {rw : RewardFn σ} {a a' : ClaimAcc σ}
    (h : claimSingle rw a = some a') :
    ∃ r, rw a.g a.c a.p.week a.p.energy.getEnergyAmount (a.g.totalEnergy a.p.week) =
        some (a'.g, a'.c, r) ∧
      a'.p = a.p.advanceWeek ∧ a'.rewards = a.rewards ++ r := by
  obtain ⟨⟨g1, c1, r⟩, h1, h⟩ := peel h
  cases h
  exact ⟨r, h1, rfl, rfl⟩

/-- induction from the FRONT: `succ` peels the first `claim_single`, which calls the reward hook for
    the progress' week, advances the progress by a week and appends what the hook returned -/
theorem claimLoop_induction {σ : Type} {rw : RewardFn σ} {R : Nat → ClaimAcc σ → ClaimAcc σ → Prop}
    (zero : ∀ a, R 0 a a)
    (succ : ∀ n a a1 a' r,
      rw a.g a.c a.p.week a.p.energy.getEnergyAmount (a.g.totalEnergy a.p.week) = some (a1.g, a1.c, r) →
      a1.p.week = a.p.week + 1 → a1.p = a.p.advanceWeek → a1.rewards = a.rewards ++ r →
      claimLoop rw n a1 = some a' → R n a1 a' → R (n + 1) a a') :
    ∀ (n : Nat) {a a' : ClaimAcc σ}, claimLoop rw n a = some a' → R n a a' := by
  intro n
  induction n with
  | zero =>
    intro a a' h
    cases h
    exact zero a
  | succ n ih =>
    intro a a' h
    simp only [claimLoop, Option.bind_eq_some_iff] at h
    obtain ⟨a1, h1, h2⟩ := h
    obtain ⟨r, hr, hp, hrew⟩ := claimSingle_spec h1
    exact succ n a a1 a' r hr (by rw [hp]; rfl) hp hrew h2 (ih h2)

/-- the progress `claim_multi` starts from: the stored one, or `(cur, W)` for a new user -/
def startProgress (stored : Option ClaimProgress) (cur : Energy) (W : Nat) : ClaimProgress :=
  match stored with
  | some p => p
  | none => ⟨cur, W⟩

/-- where the claim loop starts: the start progress, advanced past the weeks beyond the last four -/
def loopStart (p0 : ClaimProgress) (W : Nat) : ClaimProgress :=
  if USER_MAX_CLAIM_WEEKS < W - p0.week then
    p0.advanceMultipleWeeks (W - p0.week - USER_MAX_CLAIM_WEEKS)
  else p0

def loopLen (p0 : ClaimProgress) (W : Nat) : Nat := min (W - p0.week) USER_MAX_CLAIM_WEEKS

theorem claimMulti_spec {σ : Type} {rw : RewardFn σ} {g g' : St} {c c' : σ} {user W : Nat}
    {cur : Energy} {r : List (Tok × Nat)}
    (h : claimMulti rw g c user W cur = some (g', c', r)) :
    ∃ g1 a,
      updateUserEnergyForCurrentWeek g W cur (g.progress user) = some g1 ∧
      (startProgress (g.progress user) cur W).week ≤ W ∧
      claimLoop rw (loopLen (startProgress (g.progress user) cur W) W)
        ⟨g1, c, loopStart (startProgress (g.progress user) cur W) W, []⟩ = some a ∧
      g' = setProgress a.g user (newOf cur W) ∧ c' = a.c ∧ r = a.rewards := by
  obtain ⟨g1, h1, h⟩ := peel h
  obtain ⟨_, hle, h⟩ := peel h
  obtain ⟨a, ha, h⟩ := peel h
  cases h
  exact ⟨g1, a, h1, (req_eq_some _).mp hle, ha, rfl, rfl, rfl⟩


/-- the first week `claim_multi` pays in week `W` to a user whose stored progress is `o`: that of the
    progress, but none of the weeks before the last four — and no week at all for a new user -/
def claimFrom (o : Option ClaimProgress) (W : Nat) : Nat :=
  match o with
  | some p => max p.week (W - USER_MAX_CLAIM_WEEKS)
  | none => W

theorem mem_window {o : Option ClaimProgress} {W k : Nat} :
    (claimFrom o W ≤ k ∧ k < W) ↔ ∃ p, o = some p ∧ p.week ≤ k ∧ k < W ∧ W ≤ k + 4 := by
  cases o with
  | none => exact ⟨fun h => absurd h.2 (Nat.not_lt.mpr h.1), fun ⟨p, hp, _⟩ => nomatch hp⟩
  | some p =>
    simp only [claimFrom, USER_MAX_CLAIM_WEEKS]
    exact ⟨fun h => ⟨p, rfl, by omega⟩, fun ⟨q, hq, h⟩ => by cases hq; omega⟩

theorem claimFrom_le {o : Option ClaimProgress} {W : Nat} (h : ∀ p, o = some p → p.week ≤ W) :
    claimFrom o W ≤ W := by
  cases o with
  | none => exact Nat.le_refl _
  | some p => exact Nat.max_le.mpr ⟨h p rfl, Nat.sub_le _ _⟩

theorem le_claimFrom_some (p : ClaimProgress) (W : Nat) : p.week ≤ claimFrom (some p) W :=
  Nat.le_max_left _ _

theorem le_claimFrom (o : Option ClaimProgress) (W : Nat) : W ≤ claimFrom o W + 4 := by
  cases o with
  | none => exact Nat.le_add_right _ _
  | some p => simp only [claimFrom, USER_MAX_CLAIM_WEEKS]; omega

/-- The reward hook called for the weeks `lo, …, hi − 1` in this order, for week `w` with the energy
    `e w` against the total `E w`; the payments are concatenated. -/
inductive HookRun {σ : Type} (rw : RewardFn σ) (e E : Nat → Nat) (hi : Nat) :
    Nat → St → σ → St → σ → List (Tok × Nat) → Prop
  | done {g : St} {c : σ} : HookRun rw e E hi hi g c g c []
  | week {lo : Nat} {g g1 g' : St} {c c1 c' : σ} {r rs : List (Tok × Nat)} (hlo : lo < hi)
      (call : rw g c lo (e lo) (E lo) = some (g1, c1, r))
      (rest : HookRun rw e E hi (lo + 1) g1 c1 g' c' rs) : HookRun rw e E hi lo g c g' c' (r ++ rs)

namespace HookRun

variable {σ : Type} {rw : RewardFn σ} {e E : Nat → Nat} {hi lo : Nat} {g g' : St} {c c' : σ}
  {r : List (Tok × Nat)}

theorem of_eq (h : HookRun rw e E hi hi g c g' c' r) : g' = g ∧ c' = c ∧ r = [] := by
  cases h with
  | done => exact ⟨rfl, rfl, rfl⟩
  | week hlo _ _ => exact absurd hlo (Nat.lt_irrefl _)

theorem of_lt (hlo : lo < hi) (h : HookRun rw e E hi lo g c g' c' r) :
    ∃ g1 c1 r1 rs, rw g c lo (e lo) (E lo) = some (g1, c1, r1) ∧
      HookRun rw e E hi (lo + 1) g1 c1 g' c' rs ∧ r = r1 ++ rs := by
  cases h with
  | done => exact absurd hlo (Nat.lt_irrefl _)
  | week _ call rest => exact ⟨_, _, _, _, call, rest, rfl⟩

theorem frame (hrw : RwFrame rw) (h : HookRun rw e E hi lo g c g' c' r) : FrameR g' g := by
  induction h with
  | done => exact FrameR.refl _
  | week _ call _ ih => exact ih.trans (hrw _ _ _ _ _ _ _ _ call)

theorem pres (P : St → σ → Prop)
    (hP : ∀ g c w g' c' r, lo ≤ w → w < hi → rw g c w (e w) (E w) = some (g', c', r) → P g c → P g' c')
    (h : HookRun rw e E hi lo g c g' c' r) (hp : P g c) : P g' c' := by
  induction h with
  | done => exact hp
  | week hlo call _ ih =>
    exact ih (fun g c w g' c' r h1 => hP g c w g' c' r (Nat.le_of_succ_le h1))
      (hP _ _ _ _ _ _ (Nat.le_refl _) hlo call hp)

/-- One week at a time.  Let `π g c k` be the cells of week `k` (of both states) and let a call of
    the hook for week `w` touch the cells of week `w` only.  Then the run leaves the cells of the
    weeks outside `[lo, hi)` alone, and takes those of a week `k` inside by ONE call of the hook, for
    `k`, in a state with the cells of `k` as at the start, to a state with the cells of `k` as at the end. -/
theorem perWeek {κ : Type} (π : St → σ → Nat → κ)
    (hloc : ∀ g c w e E g' c' r, rw g c w e E = some (g', c', r) → ∀ k, k ≠ w → π g' c' k = π g c k)
    (h : HookRun rw e E hi lo g c g' c' r) :
    (∀ k, (k < lo ∨ hi ≤ k) → π g' c' k = π g c k) ∧
    ∀ k, lo ≤ k → k < hi → ∃ ga ca gb cb rk, rw ga ca k (e k) (E k) = some (gb, cb, rk) ∧
      π ga ca k = π g c k ∧ π gb cb k = π g' c' k := by
  induction h with
  | done => exact ⟨fun _ _ => rfl, fun k h1 h2 => absurd (Nat.lt_of_le_of_lt h1 h2) (Nat.lt_irrefl _)⟩
  | @week lo g g1 g' c c1 c' r rs hlo call rest ih =>
    have h1 := hloc _ _ _ _ _ _ _ _ call
    refine ⟨fun k hk => (ih.1 k (by omega)).trans (h1 k (by omega)), fun k hk1 hk2 => ?_⟩
    by_cases hk : k = lo
    · subst hk
      exact ⟨g, c, g1, c1, r, call, rfl, (ih.1 k (Or.inl (Nat.lt_succ_self k))).symm⟩
    · obtain ⟨ga, ca, gb, cb, rk, hc, ha, hb⟩ := ih.2 k (by omega) hk2
      exact ⟨ga, ca, gb, cb, rk, hc, ha.trans (h1 k hk), hb⟩

end HookRun

namespace HookRun

variable {σ : Type} {rw : RewardFn σ} {e e' E E' : Nat → Nat} {hi lo : Nat} {g g' : St} {c c' : σ}
  {r : List (Tok × Nat)}

theorem congr (he : ∀ w, lo ≤ w → w < hi → e' w = e w ∧ E' w = E w)
    (h : HookRun rw e E hi lo g c g' c' r) : HookRun rw e' E' hi lo g c g' c' r := by
  induction h with
  | done => exact .done
  | week hlo call _ ih =>
    refine .week hlo ?_ (ih fun w h1 h2 => he w (Nat.le_of_succ_le h1) h2)
    rw [(he _ (Nat.le_refl _) hlo).1, (he _ (Nat.le_refl _) hlo).2]
    exact call

/-- over claimable weeks it is all the same whether the totals are read before or after the global
    update -/
theorem of_weekStep {g0 g1 : St} {W : Nat} (st : WeekStep g0 g1 W) (h4 : W ≤ lo + 4)
    (h : HookRun rw e g0.totalEnergy W lo g c g' c' r) : HookRun rw e g1.totalEnergy W lo g c g' c' r :=
  h.congr fun _ h1 h2 => ⟨rfl, (st.window h2 (by omega)).1⟩

end HookRun

/-- the claim loop from a claimer standing at week `lo` is the run of the hook over `lo … lo + n − 1`
    with the stored entry's energies — and the other way round -/
theorem claimLoop_run {σ : Type} {rw : RewardFn σ} (hrw : RwFrame rw) {prog : Nat → Option ClaimProgress}
    {u : Nat} {p : ClaimProgress} (hp : prog u = some p) {E : Nat → Nat} :
    ∀ (n : Nat) {lo : Nat} {g : St} {c : σ} {rs : List (Tok × Nat)} {a : ClaimAcc σ}, p.week ≤ lo →
      g.totalEnergy = E →
      (claimLoop rw n ⟨g, c, p.upTo lo, rs⟩ = some a ↔
        ∃ r, HookRun rw (eForP prog u) E (lo + n) lo g c a.g a.c r ∧ a.rewards = rs ++ r ∧
          a.p = p.upTo (lo + n))
  | 0, lo, g, c, rs, a, _, _ => by
    constructor
    · intro h
      cases h
      exact ⟨[], .done, (List.append_nil _).symm, rfl⟩
    · rintro ⟨r, h, h2, h3⟩
      obtain ⟨ag, ac, ap, ar⟩ := a
      obtain ⟨rfl, rfl, rfl⟩ := h.of_eq
      rw [List.append_nil] at h2
      exact congrArg some (by rw [show ar = rs from h2, show ap = p.upTo lo from h3])
  | n + 1, lo, g, c, rs, a, hlo, hE => by
    have he : (p.upTo lo).energy.getEnergyAmount = eForP prog u lo := by
      rw [eForP_some hp, ClaimProgress.energyFor, if_pos hlo]; rfl
    have hstep : ∀ {g1 : St} {c1 : σ} {r : List (Tok × Nat)},
        rw g c lo (eForP prog u lo) (E lo) = some (g1, c1, r) →
        (claimLoop rw (n + 1) ⟨g, c, p.upTo lo, rs⟩ = claimLoop rw n ⟨g1, c1, p.upTo (lo + 1), rs ++ r⟩ ∧
          g1.totalEnergy = E) := by
      intro g1 c1 r hr
      refine ⟨?_, (hrw _ _ _ _ _ _ _ _ hr).totalEnergy.trans hE⟩
      simp only [claimLoop, claimSingle, ClaimProgress.upTo_week, he, hE, hr, Option.bind_eq_bind,
        Option.bind_some, Option.pure_def, p.upTo_advanceWeek hlo]
    rw [show lo + (n + 1) = lo + 1 + n by omega]
    constructor
    · intro h
      cases hr : rw g c lo (eForP prog u lo) (E lo) with
      | none =>
        simp only [claimLoop, claimSingle, ClaimProgress.upTo_week, he, hE, hr, Option.bind_eq_bind,
          Option.bind_none] at h
        cases h
      | some x =>
        obtain ⟨g1, c1, r⟩ := x
        obtain ⟨e1, hE1⟩ := hstep hr
        rw [e1] at h
        obtain ⟨r', hrun, h2, h3⟩ := (claimLoop_run hrw hp n (Nat.le_succ_of_le hlo) hE1).mp h
        exact ⟨r ++ r', .week (by omega) hr hrun, by rw [h2, List.append_assoc], h3⟩
    · rintro ⟨r, h, h2, h3⟩
      obtain ⟨g1, c1, r1, rs', call, rest, rfl⟩ := h.of_lt (by omega)
      obtain ⟨e1, hE1⟩ := hstep call
      rw [e1]
      exact (claimLoop_run hrw hp n (Nat.le_succ_of_le hlo) hE1).mpr
        ⟨_, rest, by rw [h2, List.append_assoc], h3⟩

theorem loopStart_eq (p : ClaimProgress) {W : Nat} (h : p.week ≤ W) :
    loopStart p W = p.upTo (claimFrom (some p) W) ∧ claimFrom (some p) W + loopLen p W = W ∧
      p.week ≤ claimFrom (some p) W := by
  simp only [loopStart, loopLen, claimFrom, USER_MAX_CLAIM_WEEKS]
  by_cases hb : 4 < W - p.week
  · simp only [hb, if_true, ClaimProgress.advanceMultipleWeeks_eq, Nat.max_eq_right (show p.week ≤ W - 4 by omega)]
    refine ⟨?_, by omega, by omega⟩
    unfold ClaimProgress.upTo
    congr 2 <;> omega
  · simp only [hb, if_false, Nat.max_eq_left (show W - 4 ≤ p.week by omega), p.upTo_self]
    exact ⟨trivial, by omega, Nat.le_refl _⟩

theorem loop_window (p0 : ClaimProgress) (W : Nat) (h : p0.week ≤ W) :
    (loopStart p0 W).week + loopLen p0 W = W ∧ loopLen p0 W ≤ 4 ∧ p0.week ≤ (loopStart p0 W).week := by
  obtain ⟨e1, e2, e3⟩ := loopStart_eq p0 h
  have h4 := le_claimFrom (some p0) W
  rw [e1]
  exact ⟨e2, by omega, e3⟩

theorem claimMulti_eq {σ : Type} (rw : RewardFn σ) (g : St) (c : σ) (user W : Nat) (cur : Energy) :
    claimMulti rw g c user W cur =
      (updateUserEnergyForCurrentWeek g W cur (g.progress user)).bind fun g1 =>
        (req ((startProgress (g.progress user) cur W).week ≤ W)).bind fun _ =>
          (claimLoop rw (loopLen (startProgress (g.progress user) cur W) W)
            ⟨g1, c, loopStart (startProgress (g.progress user) cur W) W, []⟩).bind fun a =>
              some (setProgress a.g user (newOf cur W), a.c, a.rewards) := rfl

/-- an IFF.  The hook runs from `g1`, but energies and totals are those `g` stores: the global update
    does not touch the claimable weeks (`WeekStep.window`).  No guard "progress not from the future"
    appears: the update succeeds only then (`updateUser_week_le`). -/
theorem claimMulti_run {σ : Type} {rw : RewardFn σ} (hrw : RwFrame rw) {g g' : St} {c c' : σ}
    {user W : Nat} {cur : Energy} {r : List (Tok × Nat)} :
    claimMulti rw g c user W cur = some (g', c', r) ↔
      ∃ g1 g2, updateUserEnergyForCurrentWeek g W cur (g.progress user) = some g1 ∧
        HookRun rw (eForP g.progress user) g.totalEnergy W (claimFrom (g.progress user) W) g1 c g2 c' r ∧
        g' = setProgress g2 user (newOf cur W) := by
  rw [claimMulti_eq]
  cases hq : g.progress user with
  | none =>
    -- a new user: no week is walked
    have h0 : loopLen (startProgress none cur W) W = 0 := by
      simp only [loopLen, startProgress, Nat.sub_self, Nat.zero_min]
    simp only [h0, claimLoop, claimFrom, Option.bind_some]
    constructor
    · intro h
      obtain ⟨g1, h1, h⟩ := peel h
      obtain ⟨_, h⟩ := peel_req h
      cases h
      exact ⟨g1, g1, h1, .done, rfl⟩
    · rintro ⟨g1, g2, h1, hrun, rfl⟩
      obtain ⟨rfl, rfl, rfl⟩ := hrun.of_eq
      rw [h1, Option.bind_some, req_pos (show (startProgress none cur W).week ≤ W from Nat.le_refl W)]; rfl
  | some p =>
    have hwin := le_claimFrom (some p) W
    have hsp : startProgress (some p) cur W = p := rfl
    rw [hsp]
    constructor
    · intro h
      obtain ⟨g1, h1, h⟩ := peel h
      obtain ⟨hle, h⟩ := peel_req h
      obtain ⟨a, ha, h⟩ := peel h
      cases h
      obtain ⟨e1, e2, e3⟩ := loopStart_eq p hle
      rw [e1] at ha
      obtain ⟨r, hrun, hr, _⟩ := (claimLoop_run hrw hq _ e3 rfl).mp ha
      rw [e2] at hrun
      refine ⟨g1, a.g, h1, ?_, rfl⟩
      rw [hr, List.nil_append]
      exact hrun.congr fun w _ hw2 =>
        ⟨rfl, ((updateUser_weekStep h1).window hw2 (by omega)).1.symm⟩
    · rintro ⟨g1, g2, h1, hrun, rfl⟩
      have hle := updateUser_week_le h1
      obtain ⟨e1, e2, e3⟩ := loopStart_eq p hle
      have ha := (claimLoop_run hrw hq (loopLen p W) (a := ⟨g2, c', _, r⟩) (rs := []) e3 rfl).mpr
        ⟨r, by rw [e2]; exact hrun.congr fun w _ hw2 =>
          ⟨rfl, ((updateUser_weekStep h1).window hw2 (by omega)).1⟩, (List.nil_append r).symm, rfl⟩
      rw [h1, Option.bind_some, req_pos hle, Option.bind_some, e1, ha]
      rfl

theorem updateUserEnergy_totalRewards {g g1 : St} {W : Nat} {cur : Energy}
    {o : Option ClaimProgress}
    (h : updateUserEnergyForCurrentWeek g W cur o = some g1) (w : Nat) (hw : w + 5 ≠ W) :
    g1.totalRewards w = g.totalRewards w :=
  ((updateUser_weekStep h).rewards w).resolve_right fun e => hw e.2

end Mx.Weekly
