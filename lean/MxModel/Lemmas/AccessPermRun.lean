/-
  Histories of the permission bit-set machine `PermSt` of Core/Access.lean, for an ARBITRARY initial permission
  assignment.  Everything is said through `PermOp.effect s o a b`: what a SUCCESSFUL `o`, run in state `s`, does
  to bit `b` of address `a` (`some true` grants, `some false` revokes, `none` leaves it alone).
  `PermSt.run_get_iff`: the last operation with an effect on a bit wins; `PermSt.run_provenance`: a bit that is
  set at the end was set at the start or `PermSt.Granted` by a caller authorised at that moment.  "No successful
  operation has effect `some v`" comes as a Bool that evaluates (`PermSt.noSet`) and as a Prop over splits of the
  history (`PermSt.Untouched`; `PermSt.noSet_iff`).
  `permOps` and `PauseOp.sets` (the pausable machine `PauseSt`) are only defined here; their theorems are
  `pause_perm_projection` and `pause_kill_switch_provenance` in Props/C19Perm.lean.  Core Lean only.
-/
import MxModel.Lemmas.AccessSM

namespace Mx.Access

inductive Bit | owner | admin | pause
  deriving DecidableEq, Repr

def Perm.get (p : Perm) : Bit → Bool
  | .owner => p.owner
  | .admin => p.admin
  | .pause => p.pause

theorem PermSt.holds_OWNER (s : PermSt) (c : Addr) : s.holds c Perm.OWNER = (s.perms c).owner := by
  simp [PermSt.holds, Perm.intersects, Perm.OWNER]

theorem PermSt.holds_PAUSE (s : PermSt) (c : Addr) : s.holds c Perm.PAUSE = (s.perms c).pause := by
  simp [PermSt.holds, Perm.intersects, Perm.PAUSE]

/-- What a successful `o`, run in state `s`, does to bit `b` of address `a`.
    `updateOwnerOrAdmin c prev` (with `c ≠ prev`) is a TRANSFER: the caller's bit-set is overwritten by the one
    of `prev` (so each of the caller's bits is granted or revoked according to `prev`'s bit), `prev` is cleared. -/
def PermOp.effect (s : PermSt) (o : PermOp) (a : Addr) (b : Bit) : Option Bool :=
  match o with
  | .addAdmin _ x => if x = a ∧ b = .admin then some true else none
  | .removeAdmin _ x => if x = a ∧ b = .admin then some false else none
  | .addPause _ x => if x = a ∧ b = .pause then some true else none
  | .removePause _ x => if x = a ∧ b = .pause then some false else none
  | .updateOwnerOrAdmin c prev =>
      if c = prev then none
      else if a = c then some ((s.perms prev).get b)
      else if a = prev then some false
      else none

theorem PermSt.step_get {s s' : PermSt} {o : PermOp} (h : s.step o = some s') (a : Addr) (b : Bit) :
    (s'.perms a).get b = (o.effect s a b).getD ((s.perms a).get b) := by
  cases o with
  | addAdmin c x | removeAdmin c x | addPause c x | removePause c x =>
    obtain ⟨_, rfl⟩ := PermSt.step_some h
    by_cases hx : a = x
    · subst hx; cases b <;> simp [setAt, PermOp.effect, Perm.get, Perm.union, Perm.diff, Perm.ADMIN, Perm.PAUSE]
    · simp [setAt, PermOp.effect, hx, Ne.symm hx]
  | updateOwnerOrAdmin c prev =>
    obtain ⟨_, rfl⟩ := PermSt.step_some h
    by_cases hcp : c = prev
    · subst hcp
      by_cases hx : a = c
      · subst hx; simp [setAt, PermOp.effect]
      · simp [setAt, PermOp.effect, hx]
    · by_cases hx : a = c
      · subst hx; simp [setAt, PermOp.effect, hcp]
      · by_cases hy : a = prev
        · subst hy; cases b <;> simp [setAt, PermOp.effect, hcp, hx, Perm.get, Perm.none]
        · simp [setAt, PermOp.effect, hcp, hx, hy]

theorem PermSt.grant_cases {s s' : PermSt} {o : PermOp} (h : s.step o = some s') {a : Addr} {b : Bit}
    (he : o.effect s a b = some true) :
    (∃ c, o = .addAdmin c a ∧ b = .admin ∧ (s.perms c).owner = true) ∨
    (∃ c, o = .addPause c a ∧ b = .pause ∧ (s.perms c).owner = true) ∨
    (∃ prev, o = .updateOwnerOrAdmin a prev ∧ a = s.scOwner ∧ prev ≠ a ∧ (s.perms prev).get b = true) := by
  cases o with
  | addAdmin c x =>
    simp only [PermOp.effect, Option.ite_none_right_eq_some] at he
    obtain ⟨⟨rfl, rfl⟩, _⟩ := he
    exact Or.inl ⟨c, rfl, rfl, (PermSt.holds_OWNER s c).symm.trans (PermSt.step_some h).1⟩
  | addPause c x =>
    simp only [PermOp.effect, Option.ite_none_right_eq_some] at he
    obtain ⟨⟨rfl, rfl⟩, _⟩ := he
    exact Or.inr (Or.inl ⟨c, rfl, rfl, (PermSt.holds_OWNER s c).symm.trans (PermSt.step_some h).1⟩)
  | removeAdmin c x | removePause c x =>
    simp only [PermOp.effect] at he
    split at he <;> cases he
  | updateOwnerOrAdmin c prev =>
    simp only [PermOp.effect] at he
    split at he
    · cases he
    · rename_i hcp
      split at he
      · rename_i hac
        subst hac
        exact Or.inr (Or.inr ⟨prev, rfl, (PermSt.step_some h).1, fun e => hcp e.symm, Option.some.inj he⟩)
      · split at he <;> cases he

/-- splitting `x :: xs` at one element: at `x`, or inside `xs` -/
theorem forall_split_cons {α β : Type} {P : List α → α → List α → β → Prop} (x : α) (xs : List α) :
    (∀ pre o post y, x :: xs = pre ++ o :: post → P pre o post y) ↔
      (∀ y, P [] x xs y) ∧ ∀ pre o post y, xs = pre ++ o :: post → P (x :: pre) o post y := by
  constructor
  · exact fun h => ⟨fun y => h [] x xs y rfl, fun pre o post y e => h (x :: pre) o post y (by rw [e]; rfl)⟩
  · rintro ⟨h0, h1⟩ pre o post y e
    cases pre with
    | nil => cases e; exact h0 y
    | cons p pre => cases e; exact h1 pre o post y rfl

theorem exists_split_cons {α β : Type} {P : List α → α → List α → β → Prop} (x : α) (xs : List α) :
    (∃ pre o post y, x :: xs = pre ++ o :: post ∧ P pre o post y) ↔
      (∃ y, P [] x xs y) ∨ ∃ pre o post y, xs = pre ++ o :: post ∧ P (x :: pre) o post y := by
  constructor
  · rintro ⟨pre, o, post, y, e, h⟩
    cases pre with
    | nil => cases e; exact Or.inl ⟨y, h⟩
    | cons p pre => cases e; exact Or.inr ⟨pre, o, post, y, rfl, h⟩
  · rintro (⟨y, h⟩ | ⟨pre, o, post, y, e, h⟩)
    · exact ⟨[], x, xs, y, rfl, h⟩
    · exact ⟨x :: pre, o, post, y, by rw [e]; rfl, h⟩

theorem PermSt.run_nil (s : PermSt) : s.run [] = s := rfl

theorem PermSt.run_cons_some {s s' : PermSt} {o : PermOp} (h : s.step o = some s') (ops : List PermOp) :
    s.run (o :: ops) = s'.run ops := by rw [Run.cons PermSt.run_def, h]; rfl

theorem PermSt.run_cons_none {s : PermSt} {o : PermOp} (h : s.step o = none) (ops : List PermOp) :
    s.run (o :: ops) = s.run ops := by rw [Run.cons PermSt.run_def, h]; rfl

theorem PermSt.run_scOwner (s : PermSt) (ops : List PermOp) : (s.run ops).scOwner = s.scOwner :=
  Run.invariant PermSt.run_def (P := fun t : PermSt => t.scOwner = s.scOwner)
    (fun _ _ _ hP h => (PermSt.step_scOwner h).trans hP) rfl ops

theorem PermSt.run_step_authority {s0 s' : PermSt} {pre : List PermOp} {o : PermOp}
    (h : (s0.run pre).step o = some s') :
    ((s0.run pre).perms o.caller).owner = true ∨ o.caller = s0.scOwner := by
  rcases PermSt.step_authority h with h5 | h5
  · rw [PermSt.holds_OWNER] at h5; exact Or.inl h5
  · rw [PermSt.run_scOwner] at h5; exact Or.inr h5

/-- (decidable) no successful operation of the history `ops`, run from `s`, has effect `some v` on bit `b` of `a` -/
def PermSt.noSet (v : Bool) (a : Addr) (b : Bit) : PermSt → List PermOp → Bool
  | _, [] => true
  | s, o :: ops =>
    match s.step o with
    | none => PermSt.noSet v a b s ops
    | some s' => (o.effect s a b != some v) && PermSt.noSet v a b s' ops

/-- the same, by splitting the history at the operation in question -/
def PermSt.Untouched (v : Bool) (a : Addr) (b : Bit) (s : PermSt) (ops : List PermOp) : Prop :=
  ∀ pre o post s', ops = pre ++ o :: post → (s.run pre).step o = some s' → o.effect (s.run pre) a b ≠ some v

theorem PermSt.noSet_iff (v : Bool) (a : Addr) (b : Bit) (s : PermSt) (ops : List PermOp) :
    PermSt.noSet v a b s ops = true ↔ PermSt.Untouched v a b s ops := by
  induction ops generalizing s with
  | nil => exact ⟨fun _ pre o post s' e => (by cases pre <;> cases e), fun _ => rfl⟩
  | cons o ops ih =>
    rw [PermSt.Untouched, forall_split_cons]
    cases hst : s.step o with
    | none => simpa [PermSt.noSet, PermSt.Untouched, hst, PermSt.run_nil, PermSt.run_cons_none hst] using ih s
    | some s1 => simpa [PermSt.noSet, PermSt.Untouched, hst, PermSt.run_nil, PermSt.run_cons_some hst] using fun _ => ih s1

/-- the last operation with an effect on the bit wins -/
theorem PermSt.run_get_iff (s : PermSt) (ops : List PermOp) (a : Addr) (b : Bit) (v : Bool) :
    ((s.run ops).perms a).get b = v ↔
      ((s.perms a).get b = v ∧ PermSt.noSet (!v) a b s ops = true) ∨
      ∃ pre o post s', ops = pre ++ o :: post ∧ (s.run pre).step o = some s' ∧
        o.effect (s.run pre) a b = some v ∧ PermSt.noSet (!v) a b s' post = true := by
  induction ops generalizing s with
  | nil => simp [PermSt.run_nil, PermSt.noSet]
  | cons o ops ih =>
    rw [exists_split_cons]
    cases hst : s.step o with
    | none =>
      simp only [PermSt.noSet, hst, PermSt.run_nil, PermSt.run_cons_none hst, reduceCtorEq, false_and, exists_false,
        false_or]
      exact ih s
    | some s1 =>
      rw [PermSt.run_cons_some hst, ih s1, PermSt.step_get hst a b]
      simp only [PermSt.noSet, hst, PermSt.run_nil, PermSt.run_cons_some hst, Option.some.injEq, exists_eq_left',
        Bool.and_eq_true, bne_iff_ne, ne_eq]
      cases he : o.effect s a b with
      | none => simp only [Option.getD_none, reduceCtorEq, not_false_eq_true, true_and, false_and, false_or]
      | some w => cases w <;> cases v <;> simp +contextual

/-- "an authorised caller set bit `b` of `a` in the history": a successful operation of the history grants it, and its
    caller held OWNER in the state the operation ran in, or is the contract owner -/
def PermSt.Granted (s0 : PermSt) (ops : List PermOp) (a : Addr) (b : Bit) : Prop :=
  ∃ pre o post s', ops = pre ++ o :: post ∧ (s0.run pre).step o = some s' ∧
    o.effect (s0.run pre) a b = some true ∧
    (((s0.run pre).perms o.caller).owner = true ∨ o.caller = s0.scOwner)

theorem PermSt.run_provenance (s0 : PermSt) (ops : List PermOp) (a : Addr) (b : Bit)
    (h : ((s0.run ops).perms a).get b = true) : (s0.perms a).get b = true ∨ s0.Granted ops a b := by
  rcases (PermSt.run_get_iff s0 ops a b true).mp h with ⟨h1, _⟩ | ⟨pre, o, post, s', h1, h2, h3, _⟩
  · exact Or.inl h1
  · exact Or.inr ⟨pre, o, post, s', h1, h2, h3, PermSt.run_step_authority h2⟩

def PauseOp.permOp? : PauseOp → Option PermOp
  | .perm o => some o
  | _ => none

/-- the permission operations inside a pausable history -/
def permOps (ops : List PauseOp) : List PermOp := ops.filterMap PauseOp.permOp?

/-- value the kill switch gets from a (successful) operation -/
def PauseOp.sets : PauseOp → Option CState
  | .pause _ => some .inactive
  | .resume _ => some .active
  | .setActiveNoSwaps _ => some .partialActive
  | .perm _ => none

end Mx.Access
