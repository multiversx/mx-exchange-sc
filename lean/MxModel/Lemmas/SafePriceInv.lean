/-
  `RingInv` is kept by every `gstep`.  All the proof knows of a pair operation is its `StepKind`, read off
  `Pair.step_kept` and `Pair.step_admin` (`step_kind`).
-/
import MxModel.Lemmas.SafePriceRing
import MxModel.Lemmas.PairInv

namespace Mx.SafePrice
open Mx Mx.Pair

/-- what a successful transaction does to the observation buffer, one disjunct each: it records
    from the PRE-operation values in the unchanged round (nothing, while a reserve or the LP
    supply is zero: the first deposit falls here); or it changes neither buffer nor reserves
    (configuration, clock). -/
def StepKind (s s' : St) : Prop :=
  (s'.round = s.round ∧ s'.sp = s.sp.update s.round s.r1 s.r2 s.S) ∨
  (s.round ≤ s'.round ∧ s'.sp = s.sp ∧ s'.r1 = s.r1 ∧ s'.r2 = s.r2 ∧ s'.S = s.S)

theorem step_kind {s s' : St} {op : Op} {o : Out} (h : step s op = some (s', o)) :
    StepKind s s' := by
  cases ha : isAdmin op
  · have hf := step_kept ha h
    exact Or.inl ⟨hf.round, hf.obs⟩
  · have t := step_admin ha h
    have hr := t.round
    obtain ⟨_, _, _, _, _, _, _, _, _, _, _, _, _, rfl⟩ := t.state
    exact Or.inr ⟨hr, rfl, rfl, rfl, rfl⟩

theorem next_round (o : Obs) (now r1 r2 S : Nat) : (o.next now r1 r2 S).round = now := rfl

theorem ginit_inv (t sp : Nat) (ad : Option Nat) (cap : Nat) (hc : 1 ≤ cap) :
    RingInv (ginit t sp ad cap) := by
  refine ⟨inv_init t sp ad cap, ⟨hc, by simp [ginit, init], by simp [ginit, init],
    fun h => absurd rfl h, fun _ => rfl⟩, trivial, ?_, ?_, ?_, ?_, ?_⟩
  · intro o ho; simp [ginit, init] at ho
  · intro o ho; simp [ginit, init] at ho
  · simp [ginit, init, SP.last, Obs.zero]
  · intro h; exact absurd rfl h
  · intro h; exact absurd rfl h

theorem RingInv.same_sp {g : G} (hi : RingInv g) {s' : St} {log' : Log} (hpair : Pair.Inv s')
    (hsp : s'.sp = g.s.sp) (hr : g.s.round ≤ s'.round)
    (hlog : ∀ k, k ≤ g.s.round → log' k = g.log k)
    (hlive : g.s.sp.obs ≠ [] → 0 < s'.r1 ∧ 0 < s'.r2 ∧ 0 < s'.S)
    (hcur : g.s.sp.obs ≠ [] → ∀ k, g.s.sp.last.round < k → k ≤ s'.round →
      log' k = ⟨s'.r1, s'.r2, s'.S⟩) : RingInv ⟨s', log'⟩ := by
  refine ⟨hpair, ?_, ?_, ?_, ?_, ?_, ?_, ?_⟩ <;> simp only [hsp]
  · exact hi.shape
  · exact Linked.congr g.s.round hlog (fun o ho => (hi.roundBnd o (mem_logical.mp ho)).2) hi.linked
  · exact fun o ho => ⟨(hi.roundBnd o ho).1, Nat.le_trans (hi.roundBnd o ho).2 hr⟩
  · exact hi.accPos
  · exact Nat.le_trans hi.lastLe hr
  · exact hlive
  · exact hcur

theorem gstep_inv {g : G} (op : Op) (hi : RingInv g) : RingInv (gstep g op) := by
  unfold gstep
  cases hst : step g.s op with
  | none => exact hi
  | some r =>
    obtain ⟨s', o⟩ := r
    simp only []
    have hpair' := step_inv hi.pair hst
    have hSpos : 0 < g.s.S → 0 < s'.S := fun h => step_S_pos h hst
    have hlive' : 0 < s'.S → 0 < s'.r1 ∧ 0 < s'.r2 ∧ 0 < s'.S := fun h =>
      ⟨(hpair'.pos h).1, (hpair'.pos h).2.1, h⟩
    -- with an empty buffer nothing is live yet
    have hempty : ∀ (log' : Log), s'.sp = g.s.sp → g.s.round ≤ s'.round →
        (∀ k, k ≤ g.s.round → log' k = g.log k) → g.s.sp.obs = [] → RingInv ⟨s', log'⟩ :=
      fun log' hsp hr hlog he =>
        hi.same_sp hpair' hsp hr hlog (fun h => absurd he h) (fun h => absurd he h)
    have hlog : ∀ k, k ≤ g.s.round →
        (if g.s.round < k ∧ k ≤ s'.round then (⟨g.s.r1, g.s.r2, g.s.S⟩ : Res) else g.log k) =
          g.log k :=
      fun k hk => if_neg (fun h => Nat.not_lt_of_le hk h.1)
    rcases step_kind hst with ⟨hr, hsp⟩ | ⟨hr, hsp, e1, e2, e3⟩
    · -- the operation ran `update_safe_price` on the pre-operation values
      by_cases hpos : 0 < g.s.r1 ∧ 0 < g.s.r2 ∧ 0 < g.s.S
      · rcases update_cases hi.shape g.s.round g.s.r1 g.s.r2 g.s.S hpos with
          ⟨hsame, hup⟩ | ⟨hne, hsh', _, hl', hne', hlg', hmem'⟩
        · -- an observation of this round already exists
          rw [hup] at hsp
          refine hi.same_sp hpair' hsp (Nat.le_of_eq hr.symm) hlog
            (fun _ => hlive' (hSpos hpos.2.2)) (fun _ k h1 h2 => ?_)
          rw [hsame] at h1
          rw [hr] at h2
          exact absurd h2 (Nat.not_le_of_lt h1)
        · -- a new observation is recorded
          obtain ⟨hpair, hshape, hlinked, hbnd, hacc, hlast, hlive, hcur⟩ := hi
          have hlogeq : (fun k => if g.s.round < k ∧ k ≤ s'.round then
              (⟨g.s.r1, g.s.r2, g.s.S⟩ : Res) else g.log k) = g.log := by
            funext k
            rw [if_neg (by omega)]
          rw [hlogeq]
          have hnow : 1 ≤ g.s.round := by omega
          refine ⟨hpair', by simpa only [hsp] using hsh', ?_, ?_, ?_, ?_, ?_, ?_⟩
          · simp only [hsp, hlg']
            have key : ∀ a, (logical g.s.sp).getLast? = some a →
                Link g.log a (g.s.sp.last.next g.s.round g.s.r1 g.s.r2 g.s.S) := by
              intro a ha
              have hne0 : g.s.sp.obs ≠ [] := by
                intro he; rw [logical_empty he] at ha; simp at ha
              rw [logical_getLast hshape hne0] at ha
              simp only [Option.some.injEq] at ha
              subst ha
              have hb := hbnd _ (last_mem hshape hne0)
              have hr0 : g.s.sp.last.round ≠ 0 := by omega
              refine ⟨by simp only [next_round]; omega, ?_, ?_⟩
              · simp only [Obs.next, hr0, if_false]
              · intro k hk1 hk2
                simp only [next_round] at hk2
                rw [hcur hne0 k hk1 hk2]
                simp only [Obs.next, hr0, if_false, and_self, and_true]
                exact hpos
            split
            · refine Linked.snoc _ hlinked.tail (fun a ha => key a ?_)
              rw [List.getLast?_tail] at ha
              split at ha
              · simp at ha
              · exact ha
            · exact Linked.snoc _ hlinked key
          · intro o ho
            simp only [hsp] at ho
            simp only [hr]
            rcases hmem' o ho with h | h
            · exact hbnd o h
            · subst h; simp only [next_round]; omega
          · intro o ho
            simp only [hsp] at ho
            rcases hmem' o ho with h | h
            · exact hacc o h
            · subst h
              simp only [Obs.next]
              have : 0 < (if g.s.sp.last.round = 0 then 1 else g.s.round - g.s.sp.last.round) := by
                split <;> omega
              have := Nat.mul_pos this hpos.2.2
              omega
          · simp only [hsp, hl', next_round, hr]; exact Nat.le_refl _
          · intro _; exact hlive' (hSpos hpos.2.2)
          · intro _ k h1 h2
            simp only [hsp, hl', next_round, hr] at h1 h2
            omega
      · -- nothing to observe: the buffer must be empty
        have he : g.s.sp.obs = [] := by
          by_contra hne
          exact hpos (hi.live hne)
        have hup : g.s.sp.update g.s.round g.s.r1 g.s.r2 g.s.S = g.s.sp := by
          unfold SP.update
          rw [if_pos (by omega)]
        rw [hup] at hsp
        exact hempty _ hsp (Nat.le_of_eq hr.symm) hlog he
    · -- quiet: clock or configuration
      refine hi.same_sp hpair' hsp hr hlog (fun h => ?_) (fun h k h1 h2 => ?_)
      · rw [e1, e2, e3]; exact hi.live h
      · simp only [e1, e2, e3]
        by_cases hk : k ≤ g.s.round
        · rw [if_neg (by omega)]; exact hi.current h k h1 hk
        · rw [if_pos ⟨by omega, h2⟩]

theorem grun_inv (ops : List Op) {g : G} (hi : RingInv g) : RingInv (grun g ops) := by
  induction ops generalizing g with
  | nil => exact hi
  | cons op ops ih =>
    simp only [grun, List.foldl_cons]
    exact ih (gstep_inv op hi)

end Mx.SafePrice
