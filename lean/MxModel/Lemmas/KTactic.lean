/-
  What the "model computes what the translated source computes" theorems (Props/K*.lean) rest on.

  A translated function (Gen/K*.lean) is a `do` block in `Option` over checked subtraction, division and
  remainder, `require!` and `if`.  `k_defs [f, g, e₁, …]` unfolds the listed definitions (the translated
  function, the model function beside it), rewrites with the listed equations (a callee's own theorem, a
  model constant `hM : M = 100000`) and brings both sides to ONE form: nested `if`s whose leaves are
  `some v` or `none`.  A callee is not unfolded: its theorem rewrites it to the MODEL's kernel, which stays
  folded (`amountIn total out rIn rOut`, `quote a r₁ r₂`), so both sides speak the model's vocabulary and
  differ at most in the order and spelling of conditions and in the order of operands.  Unlike `unfold` it
  does not fail when a listed name does not occur (a callee that a refactor inlined).

  Two such trees are compared by `grind`: case analysis on the conditions, linear arithmetic, congruence.
  Where a leaf has products under `/` or `min`, `k_ac` first brings both to one associative / commutative
  normal form (of `+` and `*`; the arguments of a `min` or `max` are ordered, nested ones not regrouped).  Where the hypotheses decide every condition (an abort case, the arithmetic left of a
  `*_runs_source` corollary) there is nothing to compare: `k_ifs` decides the `if`s.
  No proof names a condition, an operand order, a local or the order of two statements of the generated
  text: a rewrite of the Rust source that keeps its meaning keeps the theorems; a changed operator,
  operand, guard or rounding makes `grind` fail.

  `k_defs` is a `simp only`, so it ends the proof by itself when the two trees come out syntactically
  equal.  `grind` then stands under `try` (it fails on "no goals"): it has work to do as soon as a rewrite
  of the source commutes two operands or reorders two conditions.  Functions in which nothing can be
  moved (a getter, a single checked subtraction) have no closing step.

  Two traps shape the code.
  * The equations about `Option.bind` below are NOT stated `:= rfl`.  `simp` applies an equation proved by
    `rfl` (core's `Option.bind_some`) without writing a proof step, and the kernel then has to find the
    reduction itself by comparing the whole block before and after; below ten nested binds it tries the
    continuations against each other and unfolds `x * 100000` on the way (15 M heartbeats for one
    `(some a).bind f` in `perform_swap_fixed_output`).
  * `grind` must only ever see `if`-trees.  On `(some v).bind f = (some v).bind g` it does not terminate
    (and does not stop at the heartbeat limit).  So a Bool, `Option` or condition of the MODEL is split
    BEFORE `k_defs`, and the equation handed to it: `cases h : priceOf c l a <;> k_defs [.., h] <;> grind`.
-/
import MxModel.Gen.Prelude

namespace Mx

variable {α β : Type}

theorem some_bind (a : α) (f : α → Option β) : (some a).bind f = f a := by
  cases h : f a <;> simp only [Option.bind_some, h]

theorem none_bind (f : α → Option β) : (none : Option α).bind f = none := by
  cases h : (none : Option α).bind f with
  | none => exact rfl
  | some b => cases h

theorem ite_bind (c : Prop) [Decidable c] (x y : Option α) (f : α → Option β) :
    (if c then x else y).bind f = if c then x.bind f else y.bind f := by
  split <;> exact rfl

theorem ite_map (c : Prop) [Decidable c] (x y : Option α) (f : α → β) :
    (if c then x else y).map f = if c then x.map f else y.map f := by
  split <;> exact rfl

syntax "k_defs" "[" Lean.Parser.Tactic.simpLemma,* "]" : tactic
macro_rules
  | `(tactic| k_defs [$ls,*]) => `(tactic|
      simp only [$ls,*, sub?, div?, mod?, req, Option.bind_eq_bind, Option.pure_def, some_bind, none_bind,
        ite_bind, ite_map, Option.map_some, Option.map_none,
        gt_iff_lt, ge_iff_le, decide_eq_true_eq, Bool.false_eq_true, if_false, if_true,
        Bool.not_eq_true, true_and, and_true, false_and, and_false, true_or, or_true, false_or,
        or_false, not_true_eq_false, not_false_eq_true])

/-- decides every `if` (and with it every checked subtraction / division and `require!`) whose
    condition or its negation follows from the hypotheses by linear arithmetic -/
macro "k_ifs" : tactic => `(tactic| simp (disch := omega) only [if_pos, if_neg])

/-- associativity / commutativity normal form of `+` and `*` on ℕ (two sides reach the same form iff they
    are AC-equal); for `min` and `max` only the two arguments are ordered (commutativity, no
    associativity: a nested `min` is not regrouped) -/
macro "k_ac" : tactic => `(tactic|
  simp only [Nat.mul_comm, Nat.mul_left_comm, Nat.mul_assoc, Nat.add_comm, Nat.add_left_comm,
    Nat.add_assoc, Nat.min_comm, Nat.max_comm])

end Mx
