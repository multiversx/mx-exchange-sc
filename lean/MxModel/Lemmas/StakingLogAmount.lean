/-
  Farm-staking: every logged boosted payment IS the boosted formula.  The boosted claim books
  `payOf …` for every week of the claimer's window (`Hook.paid` on the cells of the week), with the
  week's frozen pool read AFTER the call and everything else read before it; every endpoint with a
  claimer runs that claim for the claimer's total position BEFORE the operation (`step_via`), in the
  entry state or in the entry state after reward generation, which does not touch what the formula
  reads.
-/
import MxModel.Lemmas.StakingLog

namespace Mx.Staking

open Mx.Weekly

theorem payOf_pos {fa : Option Factors} {R f F e E : Nat} (h : 0 < payOf fa R f F e E) :
    ∃ x, fa = some x ∧ E ≠ 0 ∧ F ≠ 0 ∧ x.minE ≤ e ∧ x.minF ≤ f ∧ R ≠ 0 ∧
      payOf fa R f F e E = boostedAmount x R f F e E := by
  unfold payOf at h ⊢
  split at h
  · omega
  · rename_i hEF
    cases fa with
    | none => simp at h
    | some x =>
      simp only at h ⊢
      split at h
      · omega
      · rename_i hmin
        refine ⟨x, rfl, fun h0 => hEF (Or.inl h0), fun h0 => hEF (Or.inr h0), by omega, by omega, ?_, ?_⟩
        · intro hR; rw [hR, boostedAmount_zero] at h; omega
        · rw [if_neg hEF, if_neg hmin]

/-- **`claim_boosted_yields_rewards(u, f)`** books, for every week of `u`'s claim window, `payOf`
    of the factors in force, the week's frozen pool (read afterwards), `f`, the week's recorded
    farm supply, `u`'s stored energy decayed to the week and the week's total energy -/
theorem claimBoostedYields_amounts {s : St} {u f : Nat} {r : Weekly.St × B × Nat}
    (h : claimBoostedYields s u f = some r) {w : Nat}
    (hin : InWindow (s.w.progress u) s.week w) :
    r.2.1.paid w = s.b.paid w +
      payOf (facOf s.b.cfg s.week w) (rOf (r.1.totalRewards w)) f (s.b.farmSupply w)
        (eForP s.w.progress u w) (s.w.totalEnergy w) :=
  ((claimBoostedYields_cells h).1 w (mem_window.mpr hin).1 (mem_window.mpr hin).2).paid

/-- the user update only ever CLEARS one old week's frozen pool (week `W − 5`) -/
theorem updateUser_rewards_frame {g g' : Weekly.St} {W : Nat} {cur : Energy} {o : Option ClaimProgress}
    (h : updateUserEnergyForCurrentWeek g W cur o = some g') :
    ∀ w, (W ≤ w + 4 → g'.totalRewards w = g.totalRewards w) ∧
      (g'.totalRewards w = g.totalRewards w ∨ g'.totalRewards w = []) := fun w =>
  ⟨fun hw => ((updateUser_weekStep h).rewards w).resolve_right fun e => by omega,
    ((updateUser_weekStep h).rewards w).imp_right And.left⟩

theorem updateEnergyAndProgress_rewards_frame {g g' : Weekly.St} {u W : Nat} {cur : Energy}
    (h : updateEnergyAndProgress g u W cur = some g') :
    ∀ w, (W ≤ w + 4 → g'.totalRewards w = g.totalRewards w) ∧
      (g'.totalRewards w = g.totalRewards w ∨ g'.totalRewards w = []) := by
  obtain ⟨g1, h1, rfl⟩ := updateEnergyAndProgress_iff.mp h
  exact updateUser_rewards_frame (g' := g1) h1

/-- the boosted part of the operation IS `claim_boosted_yields_rewards(u, total position of u
    BEFORE the operation)`, run in the entry state (`t = s`: stake, merge) or in the entry state
    after reward generation (`t = genSt s`: claim, compound, unstake, claimBoostedRewards); the
    operation's `paid` / `collected` ghosts are the ones that call leaves, and so are the frozen
    pools of the four claimable weeks (an older week's frozen pool may be cleared afterwards) -/
def Via (s s' : St) (u : Nat) : Prop :=
  ∃ t r, (t = s ∨ t = genSt s) ∧ claimBoostedYields t u (s.userTotal u) = some r ∧
    s'.b.paid = r.2.1.paid ∧ s'.b.collected = r.2.1.collected ∧
    ∀ w, (s.week ≤ w + 4 → s'.w.totalRewards w = r.1.totalRewards w) ∧
      (s'.w.totalRewards w = r.1.totalRewards w ∨ s'.w.totalRewards w = [])

theorem step_via {s s' : St} {op : Op} {o : Out} (h : step s op = some (s', o)) {u : Nat}
    (hu : claimerOf s op = some u) : Via s s' u := by
  obtain ⟨t, r, hc⟩ := (Step.of_step h).claims hu
  refine ⟨t, r, hc.entry, hc.claim, hc.pools.1, hc.pools.2.2.1, ?_⟩
  rcases hc.w with e | ⟨cur, hw⟩
  · rw [e]; exact fun _ => ⟨fun _ => rfl, Or.inl rfl⟩
  · exact updateEnergyAndProgress_rewards_frame hw

/-- what user `u` is due for week `w` in state `s`, given the week's frozen pool `R` -/
def dueOf (s : St) (u w R : Nat) : Nat :=
  payOf (facOf s.b.cfg s.week w) R (s.userTotal u) (s.b.farmSupply w)
    (eForP s.w.progress u w) (s.w.totalEnergy w)

/-- **every successful operation, every week**: inside the claimer's claim window `paid(w)` grows by
    exactly what the claimer is due for `w` (with the week's frozen pool read after the operation,
    everything else read BEFORE it); outside the window — and under operations without a claimer —
    `paid(w)` does not move -/
theorem step_paid_exact {s s' : St} {op : Op} {o : Out} (h : step s op = some (s', o)) (w : Nat) :
    (∀ u, claimerOf s op = some u → InWindow (s.w.progress u) s.week w →
      s'.b.paid w = s.b.paid w + dueOf s u w (rOf (s'.w.totalRewards w))) ∧
    ((∀ u, claimerOf s op = some u → ¬ InWindow (s.w.progress u) s.week w) →
      s'.b.paid w = s.b.paid w) := by
  constructor
  · intro u hu hin
    obtain ⟨t, r, ht, hr, hpaid, _, hrew⟩ := step_via h hu
    have hw4 : s.week ≤ w + 4 := by
      obtain ⟨_, _, _, _, h4⟩ := hin
      exact h4
    rw [hpaid, (hrew w).1 hw4]
    rcases ht with rfl | rfl
    · exact claimBoostedYields_amounts hr hin
    · exact claimBoostedYields_amounts hr (w := w) hin
  · intro hno
    by_contra hne
    obtain ⟨u, p, hc, hp, h1, h2, h3, _⟩ := (step_fx h).paid_gate hne
    exact hno u hc ⟨p, hp, h1, h2, h3⟩

/-- every log entry is the boosted formula, read in the state BEFORE the operation but for the
    week's frozen pool, read after it -/
theorem stepLog_amount {s : St} {op : Op} {e : Entry} (h : e ∈ stepLog s op) :
    ∃ fa, facOf s.b.cfg s.week e.week = some fa ∧
      e.amount = boostedAmount fa (rOf ((next s op).w.totalRewards e.week)) (s.userTotal e.user)
        (s.b.farmSupply e.week) (eForP s.w.progress e.user e.week) (s.w.totalEnergy e.week) ∧
      s.w.totalEnergy e.week ≠ 0 ∧ s.b.farmSupply e.week ≠ 0 ∧
      fa.minE ≤ eForP s.w.progress e.user e.week ∧ fa.minF ≤ s.userTotal e.user ∧
      rOf ((next s op).w.totalRewards e.week) ≠ 0 := by
  have hpos := stepLog_pos h
  obtain ⟨hcu, h4, hlt, p, hp, hple⟩ := stepLog_window h
  obtain ⟨u, r, hu, hs, hm⟩ := stepLog_cases h
  obtain ⟨_, _, _, hamt⟩ := mem_entriesOf hm
  rw [next_of_some hs]
  have hex := (step_paid_exact (s := s) (s' := r.1) (o := r.2) hs e.week).1 e.user hcu
    ⟨p, hp, hple, hlt, h4⟩
  have hdue : e.amount = dueOf s e.user e.week (rOf (r.1.w.totalRewards e.week)) := by
    rw [hamt, hex]; omega
  rw [hdue] at hpos
  obtain ⟨fa, hfa, hE, hF, hme, hmf, hR, heq⟩ := payOf_pos hpos
  exact ⟨fa, hfa, hdue.trans heq, hE, hF, hme, hmf, hR⟩

end Mx.Staking
