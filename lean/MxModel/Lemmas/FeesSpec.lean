/-
  Characterisation lemmas of the fees-collector model (Core/FeesCollector.lean): the reward hook
  (share formula, ledger frame, the cells of one week: `weekCells`), `claimCore` (`Claim`: the global
  update, the hook run over the claimer's window, the progress write), and `Step`: what a successful
  operation of the world is, in the five shapes the invariants distinguish.
-/
import MxModel.Core.FeesCollector
import MxModel.Lemmas.WeeklyInv

namespace Mx.Fees

open Mx.Weekly

/-- the current week as a total function of the state -/
def curWeek (s : St) : Nat := (s.epoch - s.firstWeek) / EPOCHS_IN_WEEK + 1

theorem week_some {s : St} {W : Nat} (h : s.week = some W) : W = curWeek s ∧ s.firstWeek ≤ s.epoch :=
  (weekOf_eq_some.mp h).symm

theorem curWeek_mono {s s' : St} (hf : s'.firstWeek = s.firstWeek) (he : s.epoch ≤ s'.epoch) :
    curWeek s ≤ curWeek s' := by
  unfold curWeek
  rw [hf]
  exact Nat.succ_le_succ (Nat.div_le_div_right (Nat.sub_le_sub_right he _))

theorem curWeek_pos (s : St) : 1 ≤ curWeek s := Nat.le_add_left 1 _

theorem feesRewards_frame : RwFrame feesRewards := by
  intro g a w e E g' a' r h
  simp only [feesRewards, Option.map_eq_some_iff, Prod.mk.injEq] at h
  obtain ⟨⟨g1, a1, r1⟩, h1, rfl, _, _⟩ := h
  exact defaultRewards_frame collectFees g a w e E g1 a1 r1 h1

def amountOf (t : Tok) (l : List (Tok × Nat)) : Nat :=
  ((l.filter fun p => p.1 = t).map (·.2)).sum

@[simp] theorem amountOf_nil (t : Tok) : amountOf t [] = 0 := rfl

theorem amountOf_cons (t : Tok) (p : Tok × Nat) (l : List (Tok × Nat)) :
    amountOf t (p :: l) = (if p.1 = t then p.2 else 0) + amountOf t l := by
  unfold amountOf
  by_cases h : p.1 = t <;> simp [h]

theorem amountOf_append (t : Tok) (l1 l2 : List (Tok × Nat)) :
    amountOf t (l1 ++ l2) = amountOf t l1 + amountOf t l2 := by
  induction l1 with
  | nil => simp
  | cons p l ih => simp only [List.cons_append, amountOf_cons, ih]; omega

theorem recordPaid_apply (paid : Nat → Tok → Nat) (week : Nat) (l : List (Tok × Nat)) (w : Nat)
    (t : Tok) :
    recordPaid paid week l w t = paid w t + (if w = week then amountOf t l else 0) := by
  induction l generalizing paid with
  | nil => simp [recordPaid]
  | cons p ps ih =>
    simp only [recordPaid, ih, amountOf_cons, upd2]
    by_cases hw : w = week
    · subst hw
      by_cases ht : t = p.1
      · subst ht; simp; omega
      · have : ¬ (p.1 = t) := fun h => ht h.symm
        simp [ht, this]
    · simp [hw]

/-- the share formula at the hook, for `week`, a user energy amount `e` and the week's total energy
    `E`: nothing (and no state change) when either is 0; otherwise, for every entry `(tok, total)` of
    the week's frozen total rewards — frozen by this very call if it is the first one — the payment
    `⌊total · e / E⌋`, zero payments dropped.  The conjuncts from `allTokens` on say what the ghost
    ledgers book. -/
theorem feesRewards_spec {g g' : Weekly.St} {a a' : Acc} {week e E : Nat} {r : List (Tok × Nat)}
    (h : feesRewards g a week e E = some (g', a', r)) :
    ((e = 0 ∨ E = 0) ∧ g' = g ∧ a' = a ∧ r = []) ∨
    (e ≠ 0 ∧ E ≠ 0 ∧ r = sharesOf (g'.totalRewards week) e E ∧
      (∀ w, w ≠ week → g'.totalRewards w = g.totalRewards w) ∧
      g'.totalRewards week =
        (if (g.totalRewards week).isEmpty then (collectFees a week).2 else g.totalRewards week) ∧
      a'.allTokens = a.allTokens ∧
      (∀ w t, a'.paid w t = a.paid w t + (if w = week then amountOf t r else 0)) ∧
      (∀ w t, w ≠ week → a'.accumulated w t = a.accumulated w t ∧ a'.collected w t = a.collected w t) ∧
      (∀ t, a'.accumulated week t + a'.collected week t = a.accumulated week t + a.collected week t) ∧
      (∀ t, a'.collected week t =
        if (g.totalRewards week).isEmpty ∧ t ∈ a.allTokens then
          a.collected week t + a.accumulated week t else a.collected week t)) := by
  simp only [feesRewards, Option.map_eq_some_iff, Prod.mk.injEq] at h
  obtain ⟨⟨g1, a1, r1⟩, h1, rfl, rfl, rfl⟩ := h
  unfold defaultRewards at h1
  split at h1
  · rename_i hz
    simp only [Option.some.injEq, Prod.mk.injEq] at h1
    obtain ⟨rfl, rfl, rfl⟩ := h1
    exact Or.inl ⟨hz, rfl, rfl, rfl⟩
  · rename_i hz
    simp only [Option.some.injEq, Prod.mk.injEq] at h1
    obtain ⟨rfl, rfl, rfl⟩ := h1
    have he : e ≠ 0 := fun h => hz (Or.inl h)
    have hE : E ≠ 0 := fun h => hz (Or.inr h)
    refine Or.inr ⟨he, hE, ?_⟩
    rcases collectAndGet_cases collectFees g a week with ⟨hemp, e⟩ | ⟨hemp, e⟩ <;> rw [e]
    · simp only [hemp, if_true]
      refine ⟨by simp, fun w hw => by simp [upd_other _ _ hw], by simp, rfl,
        fun w t => recordPaid_apply _ _ _ _ _, ?_, ?_, fun t => by simp [collectFees]⟩
      · intro w t hw
        simp [collectFees, hw]
      · intro t
        simp only [collectFees]
        by_cases ht : t ∈ a.allTokens <;> simp [ht]
        omega
    · simp only [hemp, Bool.false_eq_true, if_false, false_and]
      refine ⟨trivial, fun _ _ => trivial, trivial, trivial, fun w t => recordPaid_apply _ _ _ _ _,
        fun _ _ _ => ⟨trivial, trivial⟩, fun _ => trivial, fun _ => trivial⟩

theorem feesRewards_payment {g g' : Weekly.St} {a a' : Acc} {week e E : Nat} {r : List (Tok × Nat)}
    (h : feesRewards g a week e E = some (g', a', r)) :
    ∀ t p, (t, p) ∈ r → ∃ total, (t, total) ∈ g'.totalRewards week ∧ p = total * e / E ∧ 0 < p := by
  intro t p hm
  rcases feesRewards_spec h with ⟨_, _, _, rfl⟩ | ⟨_, _, hr, _⟩
  · simp at hm
  · rw [hr] at hm
    simp only [sharesOf, List.mem_filter, List.mem_map, Prod.mk.injEq, Prod.exists] at hm
    obtain ⟨⟨t', total, hmem, rfl, rfl⟩, hne⟩ := hm
    refine ⟨total, hmem, rfl, ?_⟩
    simp only [share] at hne ⊢
    exact Nat.pos_of_ne_zero (of_decide_eq_true hne)

theorem feesRewards_paid {g g' : Weekly.St} {a a' : Acc} {week e E : Nat} {r : List (Tok × Nat)}
    (h : feesRewards g a week e E = some (g', a', r)) (w : Nat) (t : Tok) :
    a'.paid w t = a.paid w t + (if w = week then amountOf t r else 0) := by
  rcases feesRewards_spec h with ⟨_, _, rfl, rfl⟩ | ⟨_, _, _, _, _, _, hp, _⟩
  · simp
  · exact hp w t

/-- the hook only moves deposits from `accumulated` to `collected` -/
theorem feesRewards_owed {g g' : Weekly.St} {a a' : Acc} {week e E : Nat} {r : List (Tok × Nat)}
    (h : feesRewards g a week e E = some (g', a', r)) (w : Nat) (t : Tok) :
    a'.accumulated w t + a'.collected w t = a.accumulated w t + a.collected w t := by
  rcases feesRewards_spec h with ⟨_, _, rfl, _⟩ | ⟨_, _, _, _, _, _, _, hoth, hsame, _⟩
  · rfl
  · by_cases hw : w = week
    · subst hw; exact hsame t
    · rw [(hoth w t hw).1, (hoth w t hw).2]

/-- what the collector keeps per week: the frozen rewards, and the three ledgers -/
def weekCells (g : Weekly.St) (a : Acc) (k : Nat) :
    List (Tok × Nat) × (Tok → Nat) × (Tok → Nat) × (Tok → Nat) :=
  (g.totalRewards k, a.accumulated k, a.collected k, a.paid k)

theorem feesRewards_local (g : Weekly.St) (a : Acc) (week e E : Nat) (g' : Weekly.St) (a' : Acc)
    (r : List (Tok × Nat)) (h : feesRewards g a week e E = some (g', a', r)) (k : Nat) (hk : k ≠ week) :
    weekCells g' a' k = weekCells g a k := by
  rcases feesRewards_spec h with ⟨_, rfl, rfl, _⟩ | ⟨_, _, _, hR, _, _, hp, ho, _⟩
  · rfl
  · have h4 : a'.paid k = a.paid k := funext fun t => by rw [hp k t, if_neg hk, Nat.add_zero]
    unfold weekCells
    rw [hR k hk, funext fun t => (ho k t hk).1, funext fun t => (ho k t hk).2, h4]

theorem payOut_spec : ∀ (l : List (Tok × Nat)) {bal bal' : Tok → Nat}, payOut bal l = some bal' →
    ∀ t, bal' t + amountOf t l = bal t := by
  intro l
  induction l with
  | nil =>
    intro bal bal' h t
    simp only [payOut, Option.some.injEq] at h
    subst h; simp
  | cons p ps ih =>
    intro bal bal' h t
    simp only [payOut, Option.bind_eq_some_iff, sub?_eq_some] at h
    obtain ⟨v, ⟨hle, rfl⟩, h2⟩ := h
    have := ih h2 t
    rw [amountOf_cons]
    by_cases ht : t = p.1
    · subst ht
      simp only [upd_same] at this
      simp
      omega
    · have hne : ¬ (p.1 = t) := fun h => ht h.symm
      simp only [upd_other _ _ ht] at this
      simp [hne]
      exact this

theorem amountOf_filter_ne (t : Tok) (l : List (Tok × Nat)) (ht : t ≠ lockedTok) :
    amountOf t (l.filter fun p => p.1 ≠ lockedTok) = amountOf t l := by
  unfold amountOf
  rw [List.filter_filter]
  congr 2
  apply List.filter_congr
  intro p _
  by_cases h : p.1 = t
  · subst h; simp [ht]
  · simp [h]

theorem accumulateAdditional_frame (s : St) (W : Nat) :
    ∃ acc l, accumulateAdditional s W =
      { s with a := { s.a with accumulated := acc }, lastAddWeek := l } := by
  unfold accumulateAdditional
  split
  · exact ⟨_, _, rfl⟩
  · exact ⟨_, _, rfl⟩

@[simp] theorem accumulateAdditional_paid (s : St) (W : Nat) :
    (accumulateAdditional s W).a.paid = s.a.paid := by
  obtain ⟨acc, l, e⟩ := accumulateAdditional_frame s W
  rw [e]

@[simp] theorem accumulateAdditional_collected (s : St) (W : Nat) :
    (accumulateAdditional s W).a.collected = s.a.collected := by
  obtain ⟨acc, l, e⟩ := accumulateAdditional_frame s W
  rw [e]

@[simp] theorem accumulateAdditional_allTokens (s : St) (W : Nat) :
    (accumulateAdditional s W).a.allTokens = s.a.allTokens := by
  obtain ⟨acc, l, e⟩ := accumulateAdditional_frame s W
  rw [e]

/-- A successful `claim_rewards` for `orig` in week `W = curWeek s`: the top-up of the locked token, the
    weekly module's global update (`g1`), the reward hook over `orig`'s claim window (`g2`, paying `r`),
    the progress write; the payments in other tokens than the locked one leave the balance. -/
structure Claim (s s' : St) (orig : Nat) (g1 g2 : Weekly.St) (r : List (Tok × Nat)) : Prop where
  week : s.week = some (curWeek s)
  update : updateUserEnergyForCurrentWeek s.w (curWeek s) (Energy.queried (s.energy orig) s.epoch)
    (s.w.progress orig) = some g1
  run : HookRun feesRewards (eForP s.w.progress orig) s.w.totalEnergy (curWeek s)
    (claimFrom (s.w.progress orig) (curWeek s)) g1 (accumulateAdditional s (curWeek s)).a g2 s'.a r
  w : s'.w = setProgress g2 orig (newOf (Energy.queried (s.energy orig) s.epoch) (curWeek s))
  epoch : s'.epoch = s.epoch
  firstWeek : s'.firstWeek = s.firstWeek
  bal : ∀ t, t ≠ lockedTok → s'.bal t + amountOf t r = s.bal t

theorem claimCore_spec {s s' : St} {orig : Nat} {o : Out} (h : claimCore s orig = some (s', o)) :
    ∃ g1 g2 r, Claim s s' orig g1 g2 r := by
  obtain ⟨W, hW, h⟩ := peel h
  obtain ⟨⟨g', a', r⟩, hc, h⟩ := peel h
  obtain ⟨rfl, _⟩ := week_some hW
  -- `accumulate_additional_locked_tokens` writes `accumulated` and `lastAddWeek` only
  obtain ⟨acc, l, e⟩ := accumulateAdditional_frame s (curWeek s)
  rw [e] at hc h
  dsimp only at hc h
  obtain ⟨g1, g2, h1, hrun, rfl⟩ := (claimMulti_run feesRewards_frame).mp hc
  replace hrun : HookRun feesRewards (eForP s.w.progress orig) s.w.totalEnergy (curWeek s)
      (claimFrom (s.w.progress orig) (curWeek s)) g1 (accumulateAdditional s (curWeek s)).a g2 a' r := by
    rw [e]; exact hrun
  refine ⟨g1, g2, r, ?_⟩
  split at h
  · rename_i hemp
    obtain ⟨rfl, _⟩ := Prod.mk.inj (Option.some.inj h)
    have hr : r = [] := List.isEmpty_iff.mp hemp
    exact ⟨hW, h1, hrun, rfl, rfl, rfl, fun t _ => by simp [hr]⟩
  · obtain ⟨bal, hpay, h⟩ := peel h
    have hp : ∀ t, t ≠ lockedTok → bal t + amountOf t r = s.bal t := by
      intro t ht
      rw [← amountOf_filter_ne t r ht]
      exact payOut_spec _ hpay t
    split at h
    · obtain ⟨rfl, _⟩ := Prod.mk.inj (Option.some.inj h)
      exact ⟨hW, h1, hrun, rfl, rfl, rfl, hp⟩
    · obtain ⟨_, _, h⟩ := peel h
      obtain ⟨rfl, _⟩ := Prod.mk.inj (Option.some.inj h)
      exact ⟨hW, h1, hrun, rfl, rfl, rfl, hp⟩

theorem Claim.curWeek {s s' : St} {orig : Nat} {g1 g2 : Weekly.St} {r : List (Tok × Nat)}
    (k : Claim s s' orig g1 g2 r) : curWeek s' = curWeek s := by
  unfold Fees.curWeek
  rw [k.firstWeek, k.epoch]

theorem Claim.userStep {s s' : St} {orig : Nat} {g1 g2 : Weekly.St} {r : List (Tok × Nat)}
    (k : Claim s s' orig g1 g2 r) :
    UserStep s.w s'.w orig (Fees.curWeek s) (Energy.queried (s.energy orig) s.epoch) :=
  ⟨g1, g2, k.update, k.run.frame feesRewards_frame, k.w⟩

/-- the state after `op` (unchanged when the transaction fails) -/
def next (s : St) (op : Op) : St :=
  match step s op with
  | some r => r.1
  | none => s

theorem run_cons (s : St) (op : Op) (ops : List Op) : run s (op :: ops) = run (next s op) ops := rfl

theorem next_of_some {s : St} {op : Op} {r : St × Out} (h : step s op = some r) : next s op = r.1 := by
  unfold next; rw [h]

theorem next_of_none {s : St} {op : Op} (h : step s op = none) : next s op = s := by
  unfold next; rw [h]

theorem run_induction {P : St → Prop} (hnext : ∀ s op, P s → P (next s op)) (ops : List Op) {s : St}
    (h : P s) : P (run s ops) := by
  induction ops generalizing s with
  | nil => exact h
  | cons op ops ih => exact ih (hnext s op h)

/-- the user whose rewards a claim operation computes (`original_caller`, else the caller) -/
def claimUser : Op → Option Nat
  | .claim c o => some (o.getD c)
  | .claimBoosted c o => some (o.getD c)
  | _ => none

/-- the operations that change only configuration, the factory's energy table or the clock -/
def Op.quiet : Op → Prop
  | .deposit .. | .claim .. | .claimBoosted .. | .updateEnergy _ | .setPerBlock _ => False
  | _ => True

theorem claimUser_quiet {op : Op} (hq : op.quiet) : claimUser op = none := by
  cases op with
  | claim | claimBoosted => exact hq.elim
  | _ => rfl

/-- what a quiet operation leaves alone: the weekly module, the ledgers, the balance; the token
    list stays duplicate-free and the clock does not go back -/
structure Quiet (s s' : St) : Prop where
  w : s'.w = s.w
  accumulated : s'.a.accumulated = s.a.accumulated
  collected : s'.a.collected = s.a.collected
  paid : s'.a.paid = s.a.paid
  tokNodup : s.a.allTokens.Nodup → s'.a.allTokens.Nodup
  bal : s'.bal = s.bal
  firstWeek : s'.firstWeek = s.firstWeek
  epoch : s.epoch ≤ s'.epoch

theorem addTok_nodup {l : List Tok} (h : l.Nodup) (t : Tok) : (addTok l t).Nodup := by
  unfold addTok
  split
  · exact h
  · rename_i hn
    exact List.nodup_append.mpr ⟨h, List.nodup_cons.mpr ⟨by simp, List.nodup_nil⟩, by
      intro a ha b hb; simp only [List.mem_singleton] at hb; subst hb
      rintro rfl; exact hn ha⟩

/-- A successful operation, in the shapes the invariants distinguish: a deposit into the running
    week, a claim (either endpoint) of its claim user, `updateEnergyForUser`, the owner's
    `setLockedTokensPerBlock`, or a quiet operation. -/
inductive Step (s : St) : Op → St → Prop
  | deposit {c : Nat} {tok : Tok} {n amt : Nat} (hn : 0 < n → tok = lockedTok) :
      Step s (.deposit c tok n amt)
        { s with
          a := { s.a with accumulated := upd2 s.a.accumulated (curWeek s) tok
                            (s.a.accumulated (curWeek s) tok + amt) }
          bal := if n = 0 then upd s.bal tok (s.bal tok + amt) else s.bal }
  | claim {op : Op} {u : Nat} {s' : St} {o : Out} (hu : claimUser op = some u)
      (hc : claimCore s u = some (s', o)) : Step s op s'
  | updateEnergy {u : Nat} {g : Weekly.St}
      (hg : updateEnergyForUser s.w u (curWeek s) (Energy.queried (s.energy u) s.epoch) = some g) :
      Step s (.updateEnergy u) { s with w := g }
  | setPerBlock {n : Nat} :
      Step s (.setPerBlock n) { accumulateAdditional s (curWeek s) with perBlock := n }
  | quiet {op : Op} {s' : St} (hq : op.quiet) (h : Quiet s s') : Step s op s'

/-- both claim endpoints run `claim_rewards(·, user)` for their claim user -/
theorem claim_cases {s : St} {c : Nat} {og : Option Nat} {r : St × Out} {guard : Nat → Prop}
    [DecidablePred guard]
    (h : (match og with
      | some o => (req (guard o)).bind fun _ => claimCore s o
      | none => claimCore s c) = some r) : claimCore s (og.getD c) = some r := by
  cases og with
  | none => exact h
  | some x =>
    simp only [Option.bind_eq_some_iff] at h
    obtain ⟨_, _, h⟩ := h
    exact h

theorem step_cases {s s' : St} {op : Op} {o : Out} (h : step s op = some (s', o)) :
    Step s op s' := by
  cases op with
  | deposit c tok n amt =>
    simp only [step, deposit, Option.bind_eq_bind, Option.bind_eq_some_iff, req_eq_some,
      Option.pure_def, Option.some.injEq, Prod.mk.injEq] at h
    obtain ⟨_, _, _, _, _, _, W, hW, _, hn, rfl, _⟩ := h
    obtain ⟨rfl, _⟩ := week_some hW
    exact .deposit hn
  | claim c og =>
    simp only [step, claimRewards, Option.bind_eq_bind, Option.bind_eq_some_iff] at h
    obtain ⟨_, _, h⟩ := h
    exact .claim rfl (claim_cases h)
  | claimBoosted c og =>
    simp only [step, claimBoosted, Option.bind_eq_bind, Option.bind_eq_some_iff] at h
    obtain ⟨_, _, h⟩ := h
    exact .claim rfl (claim_cases h)
  | updateEnergy u =>
    simp only [step, updateEnergy, Option.bind_eq_bind, Option.bind_eq_some_iff, Option.pure_def,
      Option.some.injEq, Prod.mk.injEq] at h
    obtain ⟨W, hW, g, hg, rfl, _⟩ := h
    obtain ⟨rfl, _⟩ := week_some hW
    exact .updateEnergy hg
  | setPerBlock n =>
    simp only [step, setPerBlock, Option.bind_eq_bind, Option.bind_eq_some_iff, Option.pure_def,
      Option.some.injEq, Prod.mk.injEq] at h
    obtain ⟨W, hW, rfl, _⟩ := h
    obtain ⟨rfl, _⟩ := week_some hW
    exact .setPerBlock
  | setEnergy | addContract | removeContract | allowExternal | pause =>
    cases h
    exact .quiet trivial ⟨rfl, rfl, rfl, rfl, id, rfl, rfl, Nat.le_refl _⟩
  | addToken t =>
    cases h
    exact .quiet trivial ⟨rfl, rfl, rfl, rfl, fun h => addTok_nodup h t, rfl, rfl, Nat.le_refl _⟩
  | removeToken t =>
    cases h
    exact .quiet trivial ⟨rfl, rfl, rfl, rfl, fun h => h.erase t, rfl, rfl, Nat.le_refl _⟩
  | advance n =>
    cases h
    exact .quiet trivial ⟨rfl, rfl, rfl, rfl, id, rfl, rfl, Nat.le_add_right _ _⟩

theorem next_cases (s : St) (op : Op) :
    (step s op = none ∧ next s op = s) ∨ ((step s op).isSome ∧ Step s op (next s op)) := by
  cases hs : step s op with
  | none => exact Or.inl ⟨rfl, next_of_none hs⟩
  | some r => rw [next_of_some hs]; exact Or.inr ⟨rfl, step_cases (o := r.2) hs⟩

/-- As far as the weekly module goes, a successful operation is a touch by one user in the current
    week — the claim user, when the operation is a claim — or nothing; the week does not go back. -/
theorem Step.userStep {s s' : St} {op : Op} (h : Step s op s') :
    curWeek s ≤ curWeek s' ∧
    ((∃ u cur, UserStep s.w s'.w u (curWeek s) cur ∧ ∀ v, claimUser op = some v → v = u) ∨
      (claimUser op = none ∧ s'.w = s.w)) := by
  cases h with
  | deposit _ => exact ⟨Nat.le_refl _, Or.inr ⟨rfl, rfl⟩⟩
  | claim hu hc =>
    obtain ⟨g1, g2, r, k⟩ := claimCore_spec hc
    exact ⟨Nat.le_of_eq k.curWeek.symm,
      Or.inl ⟨_, _, k.userStep, fun v hv => Option.some.inj (hv.symm.trans hu)⟩⟩
  | updateEnergy hg =>
    exact ⟨Nat.le_refl _, Or.inl ⟨_, _, updateEnergyForUser_step hg, fun v hv => by cases hv⟩⟩
  | setPerBlock =>
    obtain ⟨acc, l, e⟩ := accumulateAdditional_frame s (curWeek s)
    rw [e]
    exact ⟨Nat.le_refl _, Or.inr ⟨rfl, rfl⟩⟩
  | quiet hq q => exact ⟨curWeek_mono q.firstWeek q.epoch, Or.inr ⟨claimUser_quiet hq, q.w⟩⟩

end Mx.Fees
