/-
  Governance: what each definition of the model does — reading and writing the proposal list,
  the status function, and for propose / vote / cancel / withdrawDeposit the guards and the
  post-state a successful call implies ("spec" lemmas).
  Property theorems (Props/C18) are proved from these, never by unfolding `step`.
-/
import MxModel.Core.Governance
import Mathlib.Data.Nat.Sqrt

namespace Mx.Gov

theorem get?_eq_some {s : St} {id : Nat} {p : Proposal} (h : s.get? id = some p) :
    1 ≤ id ∧ id ≤ s.props.length ∧ s.props[id - 1]? = some p := by
  unfold St.get? at h
  split at h
  · cases h
  · obtain ⟨hlt, _⟩ := List.getElem?_eq_some_iff.1 h
    exact ⟨by omega, by omega, h⟩

theorem get?_of_valid {s : St} {id : Nat} (h1 : 1 ≤ id) (h2 : id ≤ s.props.length) :
    ∃ p, s.get? id = some p := by
  unfold St.get?
  rw [if_neg (by omega)]
  exact ⟨s.props[id - 1]'(by omega), List.getElem?_eq_getElem (by omega)⟩

@[simp] theorem set_props (s : St) (id : Nat) (q : Proposal) :
    (s.set id q).props = s.props.set (id - 1) q := rfl
@[simp] theorem set_block (s : St) (id : Nat) (q : Proposal) : (s.set id q).block = s.block := rfl
@[simp] theorem set_bal (s : St) (id : Nat) (q : Proposal) : (s.set id q).bal = s.bal := rfl
@[simp] theorem set_burned (s : St) (id : Nat) (q : Proposal) : (s.set id q).burned = s.burned := rfl
@[simp] theorem set_wallet (s : St) (id : Nat) (q : Proposal) : (s.set id q).wallet = s.wallet := rfl
@[simp] theorem set_energy (s : St) (id : Nat) (q : Proposal) : (s.set id q).energy = s.energy := rfl
@[simp] theorem set_total (s : St) (id : Nat) (q : Proposal) : (s.set id q).total = s.total := rfl
@[simp] theorem set_n (s : St) (id : Nat) (q : Proposal) : (s.set id q).n = s.n := rfl

theorem get?_set {s s' : St} {id : Nat} {p q : Proposal} (hp : s'.props = s.props.set (id - 1) q)
    (h : s.get? id = some p) (id' : Nat) :
    s'.get? id' = if id' = id then some q else s.get? id' := by
  obtain ⟨h1, h2, _⟩ := get?_eq_some h
  unfold St.get?
  rw [hp]
  by_cases hid : id' = id
  · subst hid
    rw [if_pos rfl, if_neg (by omega), List.getElem?_set_self (by omega)]
  · rw [if_neg hid]
    split
    · rfl
    · rw [List.getElem?_set_ne (by omega)]

theorem get?_set_same {s : St} {id : Nat} {p : Proposal} (q : Proposal) (h : s.get? id = some p) :
    (s.set id q).get? id = some q := by
  rw [get?_set rfl h, if_pos rfl]

theorem get?_append {s s' : St} {q : Proposal} (hp : s'.props = s.props ++ [q]) (id : Nat) :
    s'.get? id = if id = s.props.length + 1 then some q else s.get? id := by
  unfold St.get?
  rw [hp]
  split
  · rw [if_neg (by omega)]
  · split
    · subst id
      simp
    · rcases Nat.lt_or_ge (id - 1) s.props.length with hl | hl
      · rw [List.getElem?_append_left hl]
      · rw [List.getElem?_eq_none hl, List.getElem?_eq_none (by simp; omega)]

theorem get?_congr {s s' : St} (hp : s'.props = s.props) (id : Nat) : s'.get? id = s.get? id := by
  unfold St.get?; rw [hp]

@[simp] theorem upd_same (f : Nat → Nat) (c v : Nat) : upd f c v c = v := by simp [upd]
theorem upd_ne (f : Nat → Nat) {c u : Nat} (v : Nat) (h : u ≠ c) : upd f c v u = f u := by
  simp [upd, h]

theorem status_of_get {s : St} {id : Nat} {p : Proposal} (h : s.get? id = some p) :
    s.status id = if p.cleared then .none else p.statusAt s.block := by
  simp [St.status, h]

theorem status_none_of_get_none {s : St} {id : Nat} (h : s.get? id = none) : s.status id = .none := by
  simp [St.status, h]

theorem statusAt_ne_none (p : Proposal) (b : Nat) : p.statusAt b ≠ .none := by
  unfold Proposal.statusAt
  repeat' split
  all_goals simp

theorem get_of_status {s : St} {id : Nat} (h : s.status id ≠ .none) :
    ∃ p, s.get? id = some p ∧ p.cleared = false ∧ s.status id = p.statusAt s.block := by
  cases hg : s.get? id with
  | none => exact absurd (status_none_of_get_none hg) h
  | some p =>
    rw [status_of_get hg] at h ⊢
    cases hc : p.cleared with
    | true => simp [hc] at h
    | false => exact ⟨p, rfl, hc, by simp⟩

theorem statusAt_pending {p : Proposal} {b : Nat} :
    p.statusAt b = .pending ↔ b < p.start + p.delay := by
  unfold Proposal.statusAt
  repeat' split
  all_goals simp_all

theorem statusAt_active {p : Proposal} {b : Nat} :
    p.statusAt b = .active ↔ p.start + p.delay ≤ b ∧ b < p.start + p.delay + p.period := by
  unfold Proposal.statusAt
  repeat' split
  all_goals simp_all
  all_goals omega

theorem statusAt_ended {p : Proposal} {b : Nat} :
    (p.statusAt b = .succeeded ∨ p.statusAt b = .defeated ∨ p.statusAt b = .vetoed) ↔
      p.start + p.delay + p.period ≤ b := by
  unfold Proposal.statusAt
  repeat' split
  all_goals simp_all
  all_goals omega

theorem status_get {s : St} {id : Nat} {p : Proposal} {x : Status} (hg : s.get? id = some p)
    (hst : s.status id = x) (hx : x ≠ .none) : p.cleared = false ∧ p.statusAt s.block = x := by
  obtain ⟨p', hg', hc, e⟩ := get_of_status (hst ▸ hx)
  rw [hg] at hg'
  cases hg'
  exact ⟨hc, e.symm.trans hst⟩

/-- `amt` of the fee token moved from the contract to `to` -/
def refunded (s : St) (to amt : Nat) : St :=
  { s with bal := s.bal - amt, wallet := upd s.wallet to (s.wallet to + amt) }

theorem refund_eq_some {s s1 : St} {to amt : Nat} :
    s.refund to amt = some s1 ↔ amt ≤ s.bal ∧ s1 = refunded s to amt := by
  simp only [St.refund, Option.bind_eq_bind, Option.bind_eq_some_iff, sub?_eq_some,
    Option.pure_def, Option.some.injEq]
  constructor
  · rintro ⟨b, ⟨h, rfl⟩, rfl⟩; exact ⟨h, rfl⟩
  · rintro ⟨h, rfl⟩; exact ⟨_, ⟨h, rfl⟩, rfl⟩

/-- the proposal `propose` stores -/
def newProposal (s : St) (c fee : Nat) : Proposal :=
  { proposer := c, fee := fee, minQuorum := s.quorumPct, delay := s.delay, period := s.period,
    wpct := s.wpct, totalQuorum := 0, start := s.block, withdrawn := false,
    up := 0, down := 0, veto := 0, abstain := 0, quorum := 0, voters := [], cleared := false }

/-- the proposal after user `c` with energy `e` cast vote `v` while the fees collector reported
    `total`: the first vote snapshots the total, the power `⌊√e⌋` goes to the chosen tally -/
def voted (p : Proposal) (total : Nat) (v : Vote) (e c : Nat) : Proposal :=
  { p with totalQuorum := if p.quorum = 0 then total else p.totalQuorum,
           up := p.up + (if v = .up then Nat.sqrt e else 0),
           down := p.down + (if v = .down then Nat.sqrt e else 0),
           veto := p.veto + (if v = .veto then Nat.sqrt e else 0),
           abstain := p.abstain + (if v = .abstain then Nat.sqrt e else 0),
           quorum := p.quorum + e, voters := p.voters ++ [c] }

theorem propose_spec {s s' : St} {c fee : Nat} {o : Out} (h : propose s c fee = some (s', o)) :
    s.isUser c ∧ s.minEnergy ≤ s.energy c ∧ 0 < fee ∧ fee ≤ s.wallet c ∧ s.minFee = fee ∧
    o = ⟨s.props.length + 1, 0, 0⟩ ∧
    s' = { s with props := s.props ++ [newProposal s c fee],
                  wallet := upd s.wallet c (s.wallet c - fee), bal := s.bal + fee } := by
  simp only [propose, Option.bind_eq_bind, Option.bind_eq_some_iff, req_eq_some, sub?_eq_some,
    Option.pure_def, Option.some.injEq, Prod.mk.injEq] at h
  obtain ⟨_, h1, _, h2, _, h3, w, ⟨h4, rfl⟩, _, h5, rfl, rfl⟩ := h
  exact ⟨h1, h2, h3, h4, h5, rfl, rfl⟩

/-- A successful `vote` on the stored proposal `p`: a field bears the name of the guard or call
    of the model's `do` block it records. -/
structure VoteRun (s : St) (c id : Nat) (v : Vote) (p : Proposal) (s' : St) (o : Out) : Prop where
  isUser : s.isUser c
  id_pos : 1 ≤ id
  id_le : id ≤ s.props.length
  active : s.status id = .active
  get : s.get? id = some p
  not_voted : c ∉ p.voters
  energy : 0 < s.energy c
  out : o = ⟨Nat.sqrt (s.energy c), s.energy c, 0⟩
  state : s' = s.set id (voted p s.total v (s.energy c) c)

theorem vote_spec {s s' : St} {c id : Nat} {v : Vote} {o : Out}
    (h : vote s c id v = some (s', o)) : ∃ p, VoteRun s c id v p s' o := by
  simp only [vote, Option.bind_eq_bind, Option.bind_eq_some_iff, req_eq_some,
    Option.pure_def, Option.some.injEq, Prod.mk.injEq] at h
  obtain ⟨_, h1, _, h2, _, h3, p, h4, _, h5, _, h6, rfl, rfl⟩ := h
  refine ⟨p, h1, h2.1, h2.2, h3, h4, h5, h6, rfl, congrArg (s.set id) ?_⟩
  unfold voted
  by_cases hq : p.quorum = 0 <;> cases v <;> simp [Proposal.addVote, hq]

theorem cancel_spec {s s' : St} {c id : Nat} {o : Out} (h : cancel s c id = some (s', o)) :
    ∃ p, s.isUser c ∧ s.status id = .pending ∧ s.get? id = some p ∧ c = p.proposer ∧
      p.fee ≤ s.bal ∧ o = ⟨p.fee, 0, 0⟩ ∧
      s' = (refunded s p.proposer p.fee).set id { p with cleared := true } := by
  simp only [cancel, Option.bind_eq_bind, Option.bind_eq_some_iff, req_eq_some,
    Option.pure_def, Option.some.injEq, Prod.mk.injEq] at h
  obtain ⟨_, h1, _, h2, p, h3, _, h4, s1, h5, rfl, rfl⟩ := h
  obtain ⟨h6, rfl⟩ := refund_eq_some.1 h5
  exact ⟨p, h1, h2, h3, h4, h6, rfl, rfl⟩

/-- the state after the burn of `rest` in the veto branch -/
def burnedSt (s : St) (rest : Nat) : St := { s with bal := s.bal - rest, burned := s.burned + rest }

theorem withdraw_spec {s s' : St} {c id : Nat} {o : Out} (h : withdraw s c id = some (s', o)) :
    ∃ p, s.isUser c ∧ s.get? id = some p ∧ p.withdrawn = false ∧
      (((s.status id = .succeeded ∨ s.status id = .defeated) ∧ c = p.proposer ∧ p.fee ≤ s.bal ∧
          o = ⟨p.fee, 0, 0⟩ ∧
          s' = (refunded s p.proposer p.fee).set id { p with withdrawn := true }) ∨
       (s.status id = .vetoed ∧ p.wpct * p.fee / FULL ≤ p.fee ∧
          p.fee - p.wpct * p.fee / FULL ≤ s.bal ∧
          p.wpct * p.fee / FULL ≤ s.bal - (p.fee - p.wpct * p.fee / FULL) ∧
          o = ⟨p.wpct * p.fee / FULL, p.fee - p.wpct * p.fee / FULL, 0⟩ ∧
          s' = (refunded (burnedSt s (p.fee - p.wpct * p.fee / FULL)) p.proposer
                  (p.wpct * p.fee / FULL)).set id { p with withdrawn := true })) := by
  simp only [withdraw, Option.bind_eq_bind, Option.bind_eq_some_iff, req_eq_some] at h
  obtain ⟨_, h1, p, h2, h⟩ := h
  split at h
  case h_1 hst | h_2 hst =>
    simp only [Option.bind_eq_some_iff, req_eq_some,
      Option.pure_def, Option.some.injEq, Prod.mk.injEq] at h
    obtain ⟨_, h3, _, h4, s1, h5, rfl, rfl⟩ := h
    obtain ⟨h6, rfl⟩ := refund_eq_some.1 h5
    exact ⟨p, h1, h2, h4, .inl ⟨by simp [hst], h3, h6, rfl, rfl⟩⟩
  · rename_i hst
    simp only [Option.bind_eq_some_iff, req_eq_some, sub?_eq_some,
      Option.pure_def, Option.some.injEq, Prod.mk.injEq] at h
    obtain ⟨_, h4, rest, ⟨h5, rfl⟩, b, ⟨h6, rfl⟩, s2, h7, rfl, rfl⟩ := h
    obtain ⟨h8, rfl⟩ := refund_eq_some.1 h7
    exact ⟨p, h1, h2, h4, .inr ⟨hst, h5, h6, h8, rfl, rfl⟩⟩
  · cases h

/-- both branches of `withdrawDeposit` at once: the voting period is over, `refund` goes to the
    proposer and `rest` is burned (nothing after success or defeat) -/
structure WithdrawEnded (s : St) (id : Nat) (p : Proposal) (refund rest : Nat) (s' : St) :
    Prop where
  get : s.get? id = some p
  cleared : p.cleared = false
  withdrawn : p.withdrawn = false
  ended : p.start + p.delay + p.period ≤ s.block
  status : s.status id = .succeeded ∨ s.status id = .defeated ∨ s.status id = .vetoed
  split : refund + rest = p.fee
  bal : p.fee ≤ s.bal
  state : s' = (refunded (burnedSt s rest) p.proposer refund).set id { p with withdrawn := true }

theorem withdraw_ended {s s' : St} {c id : Nat} {o : Out} (h : withdraw s c id = some (s', o)) :
    ∃ p refund rest, WithdrawEnded s id p refund rest s' := by
  obtain ⟨p, _, hg, hw, hcase⟩ := withdraw_spec h
  have hst : s.status id = .succeeded ∨ s.status id = .defeated ∨ s.status id = .vetoed := by
    rcases hcase with ⟨h1 | h1, _⟩ | ⟨h1, _⟩
    · exact .inl h1
    · exact .inr (.inl h1)
    · exact .inr (.inr h1)
  obtain ⟨hc, e⟩ := status_get hg rfl (by rcases hst with h1 | h1 | h1 <;> rw [h1] <;> decide)
  have hend := statusAt_ended.1 (e ▸ hst)
  rcases hcase with ⟨_, _, hb, _, rfl⟩ | ⟨_, hr, hb1, _, _, rfl⟩
  · exact ⟨p, p.fee, 0, hg, hc, hw, hend, hst, rfl, hb, rfl⟩
  · exact ⟨p, _, _, hg, hc, hw, hend, hst, by omega, by omega, rfl⟩

theorem cfg_spec {s s1 : St} {o : CfgOp} (h : cfg s o = some s1) :
    s1.props = s.props ∧ s1.block = s.block ∧ s1.bal = s.bal ∧ s1.burned = s.burned ∧
    s1.wallet = s.wallet ∧ s1.energy = s.energy ∧ s1.total = s.total ∧ s1.n = s.n := by
  cases o <;>
    simp only [cfg, Option.bind_eq_bind, Option.bind_eq_some_iff, req_eq_some,
      Option.pure_def, Option.some.injEq] at h
  case minEnergy => subst h; simp
  all_goals (obtain ⟨_, _, rfl⟩ := h; simp)

theorem step_cases {s s' : St} {op : Op} {o : Out} (h : step s op = some (s', o)) :
    (∃ c fee, op = .propose c fee ∧ propose s c fee = some (s', o)) ∨
    (∃ c id v, op = .vote c id v ∧ vote s c id v = some (s', o)) ∨
    (∃ c id, op = .cancel c id ∧ cancel s c id = some (s', o)) ∨
    (∃ c id, op = .withdraw c id ∧ withdraw s c id = some (s', o)) ∨
    (s'.props = s.props ∧ s'.bal = s.bal ∧ s'.burned = s.burned ∧ s'.wallet = s.wallet ∧
      s.block ≤ s'.block) := by
  cases op with
  | propose c fee => exact .inl ⟨c, fee, rfl, h⟩
  | vote c id v => exact .inr (.inl ⟨c, id, v, rfl, h⟩)
  | cancel c id => exact .inr (.inr (.inl ⟨c, id, rfl, h⟩))
  | withdraw c id => exact .inr (.inr (.inr (.inl ⟨c, id, rfl, h⟩)))
  | cfg o' =>
    simp only [step, Option.map_eq_some_iff, Prod.mk.injEq] at h
    obtain ⟨s1, h1, rfl, _⟩ := h
    obtain ⟨hp, hk, hb, hu, hw, _⟩ := cfg_spec h1
    exact .inr (.inr (.inr (.inr ⟨hp, hb, hu, hw, Nat.le_of_eq hk.symm⟩)))
  | setEnergy u e =>
    obtain ⟨_, h⟩ := Option.ite_none_right_eq_some.1 h
    cases h
    exact .inr (.inr (.inr (.inr ⟨rfl, rfl, rfl, rfl, Nat.le_refl _⟩)))
  | setTotal x =>
    cases h
    exact .inr (.inr (.inr (.inr ⟨rfl, rfl, rfl, rfl, Nat.le_refl _⟩)))
  | claim u =>
    simp only [step, Option.bind_eq_bind, Option.bind_eq_some_iff, req_eq_some, sub?_eq_some,
      Option.pure_def, Option.some.injEq, Prod.mk.injEq] at h
    obtain ⟨_, _, t, _, rfl, _⟩ := h
    exact .inr (.inr (.inr (.inr ⟨rfl, rfl, rfl, rfl, Nat.le_refl _⟩)))
  | advance b =>
    obtain ⟨hb, h⟩ := Option.ite_none_right_eq_some.1 h
    cases h
    exact .inr (.inr (.inr (.inr ⟨rfl, rfl, rfl, rfl, hb⟩)))

end Mx.Gov
