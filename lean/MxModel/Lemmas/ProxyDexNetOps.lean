/-
  Supply ledger of the proxy-dex model, per operation and per history.

  Callee facts, stated as EXECUTABLE checks on the recorded answers (Core/ProxyDexCheck.lean; the
  driver evaluates them on every recorded answer of a correspondence run):
  * `factoryOKb s op` (`FactoryMergeOK`): the locked token the energy factory hands back for a merge
    (`mergeTokens`) or an extension (`extendLockPeriod`) is for exactly the sum of the locked
    amounts the proxy sent in;
  * `farmEqb op` (`FarmExact`): a farm mints as many farm tokens as farming tokens entered /
    claimed / merged, locked tokens go to the base-asset farm and wrapped LP to an LP farm.
  Under these facts `minted = burnB + burnL + RT` is inductive (`NetInv`).
-/
import MxModel.Lemmas.ProxyDexBooks

namespace Mx.ProxyDex

def FactoryMergeOK (s : St) (op : Op) : Prop := factoryOKb s op = true

def FarmExact (op : Op) : Prop := farmEqb op = true

instance (s : St) (op : Op) : Decidable (FactoryMergeOK s op) :=
  inferInstanceAs (Decidable (factoryOKb s op = true))

instance (op : Op) : Decidable (FarmExact op) := inferInstanceAs (Decidable (farmEqb op = true))

/-- base asset and locked tokens created through the proxy and not destroyed again are exactly the
    locked tokens reserved by outstanding wrapped tokens -/
structure NetInv (s : St) : Prop where
  sup : s.minted = s.burnB + s.burnL + RT s
  kind : KindInv s

theorem netinv_init (now : Nat) : NetInv (init now) := by
  refine ⟨by simp [init, RT, lkF, WLp.dummy, WFarm.dummy], ?_⟩
  intro a ha
  simp [St.af, init, attrF, WFarm.dummy] at ha
  subst ha
  simp [KindOK, farmIsBase]

/-- the supply ledger is kept by a movement that mints what it burns and adds to the reserves, and
    creates only wrapped farm tokens with sound attributes -/
theorem NetInv.moved {s s' : St} {δ : Delta} (hi : NetInv s) (h : Moved s s' δ)
    (e : δ.minted + δ.rtOut = δ.burnB + δ.burnL + δ.rtIn) (hk : ∀ a ∈ δ.fs, KindOK a) :
    NetInv s' :=
  ⟨by have := hi.sup; have := h.minted; have := h.burnB; have := h.burnL; have := h.rt; omega,
   h.attrs hi.kind hk⟩

theorem step_net {s s' : St} {op : Op} {o : Out} (hi : NetInv s) (hc : calleeOKb s op = true)
    (h : step s op = some (s', o)) : NetInv s' := by
  simp only [calleeOKb, Bool.and_eq_true] at hc
  obtain ⟨hf, hk⟩ := hc
  have nil := List.forall_mem_nil KindOK
  cases op with
  | lock t => cases h; exact ⟨hi.sup, hi.kind⟩
  | advance e => cases h; exact ⟨hi.sup, hi.kind⟩
  | noop => cases h; exact hi
  | addLiq k la oa merge lp ul uo mk =>
    obtain ⟨hul, -, ⟨rfl, m⟩ | ⟨b, l, t, rfl, rfl, m⟩⟩ := addLiq_moved h
    · exact hi.moved m (by dsimp only; omega) nil
    · simp only [factoryOKb, beq_iff_eq] at hk
      exact hi.moved m (by dsimp only; omega) nil
  | removeLiq w x rb ro =>
    obtain ⟨r, p, t⟩ := removeLiq_moved h
    exact hi.moved t.moved (by dsimp only; omega) nil
  | enterL farm k a merge ft rew m stray =>
    obtain ⟨-, ⟨rfl, m⟩ | ⟨b, l, mf, t, rfl, rfl, m, hs⟩⟩ := enterL_moved h
    · simp only [farmEqb, Bool.and_eq_true, beq_iff_eq] at hf
      exact hi.moved m (by dsimp only; omega)
        (List.forall_mem_singleton.2 ⟨fun _ => ⟨hf.2.symm, hf.1⟩, fun h' => nomatch h'⟩)
    · simp only [farmEqb, Bool.and_eq_true, beq_iff_eq, paySum_eq] at hf
      simp only [factoryOKb, beq_iff_eq] at hk
      have := hs hi.kind
      exact hi.moved m (by dsimp only; omega)
        (List.forall_mem_singleton.2 ⟨fun _ => ⟨by omega, hf.1⟩, fun h' => nomatch h'⟩)
  | enterW farm w a merge ft rew m stray =>
    simp only [farmEqb, Bool.not_eq_true'] at hf
    obtain ⟨-, -, ⟨rfl, m⟩ | ⟨b, l, mf, t, sp, rfl, rfl, m, -⟩⟩ := enterW_moved h
    · exact hi.moved m rfl
        (List.forall_mem_singleton.2 ⟨(fun h' => nomatch h'), fun _ => hf⟩)
    · simp only [factoryOKb, beq_iff_eq] at hk
      exact hi.moved m (by dsimp only; omega)
        (List.forall_mem_singleton.2 ⟨(fun h' => nomatch h'), fun _ => hf⟩)
  | exitFarm farm f x farming rew =>
    obtain ⟨r, p, t⟩ := exitFarm_moved (farm := farm) h
    have hfx := t.farming_le
    obtain ⟨kl, kw⟩ := hi.kind.of_get t.lookup
    cases hk' : r.kind with
    | locked =>
      -- a locked-token position: base-asset farm, one farm token per locked token
      have m := (t.locked hk').moved
      obtain ⟨hpa, hbase⟩ := kl hk'
      have hp := t.part
      rw [hpa] at hp
      have := part_self hp
      rw [hbase] at m
      exact hi.moved m (by simp only [↓reduceIte]; omega) nil
    | wlp =>
      obtain ⟨rw, -, -, h0, h1⟩ := t.wlp hk'
      by_cases hx : x = farming
      · obtain ⟨-, -, -, m⟩ := h0 hx
        rw [kw hk'] at m
        exact hi.moved m (by simp only [Bool.false_eq_true, ↓reduceIte]) nil
      · obtain ⟨q, qN, u⟩ := h1 hx
        have hle := u.extra
        have m := u.moved
        rw [kw hk'] at m
        exact hi.moved m (by simp only [Bool.false_eq_true, ↓reduceIte]; omega) nil
  | claim farm f x ft rew =>
    obtain ⟨r, p, hr, hp, -, m⟩ := claim_moved (farm := farm) h
    simp only [farmEqb, beq_iff_eq] at hf
    obtain ⟨kl, kw⟩ := hi.kind.of_get hr
    refine hi.moved m (by dsimp only) (List.forall_mem_singleton.2 ⟨fun hk' => ?_, kw⟩)
    obtain ⟨hpa, hbase⟩ := kl hk'
    rw [hpa] at hp
    exact ⟨by rw [part_self hp, hf], hbase⟩
  | mergeLp l t =>
    obtain ⟨-, -, m⟩ := mergeLp_moved h
    simp only [factoryOKb, beq_iff_eq] at hk
    exact hi.moved m (by dsimp only; omega) nil
  | mergeFarm farm l mf t rew stray =>
    obtain ⟨f0, x0, r0, sp, -, hr0, -, -, hs, hcase⟩ := mergeFarm_moved h
    simp only [farmEqb, beq_iff_eq, paySum_eq] at hf
    simp only [factoryOKb, beq_iff_eq] at hk
    obtain ⟨kl, kw⟩ := hi.kind.of_get hr0
    rcases hcase with ⟨hk', m⟩ | ⟨hk', m⟩
    · have := hs hi.kind hk'
      exact hi.moved m (by dsimp only; omega)
        (List.forall_mem_singleton.2 ⟨fun _ => ⟨by omega, (kl hk').2⟩, fun h' => nomatch h'⟩)
    · exact hi.moved m (by dsimp only; omega)
        (List.forall_mem_singleton.2 ⟨(fun h' => nomatch h'), fun _ => kw hk'⟩)
  | incLp w x t =>
    obtain ⟨-, m⟩ := incLp_moved h
    simp only [factoryOKb, beq_iff_eq] at hk
    exact hi.moved m (by dsimp only; omega) nil
  | incFarm f x t =>
    obtain ⟨r, p, hr, hp, -, hcase⟩ := incFarm_moved h
    simp only [factoryOKb, beq_iff_eq] at hk
    obtain ⟨kl, kw⟩ := hi.kind.of_get hr
    rcases hcase with ⟨hk', hfa, m⟩ | ⟨hk', m⟩
    · obtain ⟨hpa, hbase⟩ := kl hk'
      rw [hpa] at hp
      have := part_self hp
      exact hi.moved m (by dsimp only; omega)
        (List.forall_mem_singleton.2 ⟨fun _ => ⟨by omega, hbase⟩, fun h' => nomatch h'⟩)
    · exact hi.moved m (by dsimp only; omega)
        (List.forall_mem_singleton.2 ⟨(fun h' => nomatch h'), fun _ => kw hk'⟩)

theorem run_net {s : St} (ops : List Op) (hi : NetInv s) (hok : runOKb s ops = true) :
    NetInv (run s ops) :=
  run_induct (G := fun s ops => runOKb s ops = true)
    (fun hg => (Bool.and_eq_true _ _ ▸ hg : _ ∧ _).2)
    (fun hi hg h => step_net hi (Bool.and_eq_true _ _ ▸ hg : _ ∧ _).1 h) hi hok

theorem RT_eq_zero {s : St} (hw : ∀ r ∈ s.wl, r.rem = 0)
    (hf : ∀ q ∈ s.wf, q.kind = .locked → q.remP = 0) : RT s = 0 := by
  unfold RT
  rw [sumOf_eq_zero _ _ hw, sumOf_eq_zero lkF s.wf]
  intro q hq
  unfold lkF
  split
  · rename_i hk; exact hf q hq hk
  · rfl

theorem NetInv.net_eq {s : St} (h : NetInv s) : s.net = (RT s : Int) := by
  have := h.sup
  unfold St.net; omega

end Mx.ProxyDex
