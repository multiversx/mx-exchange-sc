/-
  The locked-token payments the proxy-dex MODEL sends to the energy factory when it merges wrapped
  tokens: for every wrapped LP payment `(w, x)` the locked nonce of the record and the part
  `into_part` assigns to `x` (`lockedA`), for every wrapped farm payment the locked tokens behind
  it (`lockedFA`).  `takeWs_sends`: these are exactly the locked tokens that leave the proxy's
  balance `lk`, nonce by nonce.  Used by Props/C16Compose.lean.
-/
import MxModel.Lemmas.ProxyDexBooks

namespace Mx.ProxyDex

/-- locked-token nonce recorded by wrapped LP nonce `w` -/
def kOfW (aw : List (Nat × Nat × Nat)) (w : Nat) : Nat :=
  match aw[w]? with
  | some (_, k, _) => k
  | none => 0

/-- locked-token nonce behind wrapped farm nonce `f` -/
def kOfF (aw : List (Nat × Nat × Nat)) (af : List (Nat × Nat × Nat × Kind × Nat × Nat)) (f : Nat) :
    Nat :=
  match af[f]? with
  | some (_, _, _, kind, pn, _) => (match kind with | .locked => pn | .wlp => kOfW aw pn)
  | none => 0

/-- the locked-token payments behind a list of wrapped LP payments, in the state they are paid in -/
def sentW (s : St) (l : List (Nat × Nat)) : List (Nat × Nat) :=
  l.map fun wx => (kOfW s.aw wx.1, lockedA s.aw wx.1 wx.2)

/-- the locked-token payments behind a list of wrapped farm payments -/
def sentF (s : St) (l : List (Nat × Nat)) : List (Nat × Nat) :=
  l.map fun fx => (kOfF s.aw s.af fx.1, lockedFA s.aw s.af fx.1 fx.2)

def amtOf (κ : Nat) (ps : List (Nat × Nat)) : Nat := sumOf (fun p => if p.1 = κ then p.2 else 0) ps

theorem sentW_sum (s : St) (l : List (Nat × Nat)) : ((sentW s l).map (·.2)).sum = lockedWs s l := by
  simp only [sentW, lockedWs, List.map_map]; rfl

theorem sentF_sum (s : St) (l : List (Nat × Nat)) : ((sentF s l).map (·.2)).sum = lockedFs s l := by
  simp only [sentF, lockedFs, List.map_map]; rfl

theorem sentW_congr {s s' : St} (h : s'.aw = s.aw) (l : List (Nat × Nat)) : sentW s' l = sentW s l := by
  unfold sentW; rw [h]

theorem kOfW_of {s : St} {w : Nat} {r : WLp} (h : s.wl[w]? = some r) : kOfW s.aw w = r.k := by
  unfold kOfW; rw [aw_get h]; rfl

theorem takeWs_sends {s s' : St} {l : List (Nat × Nat)} {sx : Nat} (h : takeWs s l = some (s', sx)) :
    ∀ κ, s'.lk κ + amtOf κ (sentW s l) = s.lk κ := by
  induction l generalizing s sx with
  | nil =>
    obtain ⟨rfl, rfl⟩ := takeWs_nil h
    intro κ; rfl
  | cons a l ih =>
    obtain ⟨w, x⟩ := a
    obtain ⟨s1, r, p, t2, h1, h2, rfl⟩ := takeWs_cons h
    have hp := takeW_part h1
    have hA := ((Moved.refl s).takeW h1).aw_eq rfl
    obtain ⟨hr, -⟩ := takeW_spec h1
    obtain ⟨-, hlk, -⟩ := takeW_delta h1
    have ih' := ih h2
    intro κ
    have e1 := hlk κ
    have e2 := ih' κ
    rw [sentW_congr hA l] at e2
    have hk : kOfW s.aw w = r.k := kOfW_of hr
    simp only [sentW, List.map_cons, amtOf, sumOf_cons] at e2 ⊢
    rw [hk, ← hp]
    omega

end Mx.ProxyDex
