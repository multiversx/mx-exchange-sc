/-
  Weekly module: precise frame of the global update on `totalEnergyForWeek` — the only entry other
  than the current week's that can change is week `W − 5`, which is cleared; the last globally
  updated week only moves forward (`EStep`).  On top of it `CloseInv`: once the global week has moved
  past week `w`, its stored total is the sum of the recorded energies (`recordedSum`) it had when it
  was last the running week, unless it was cleared — "the denominator of a closed week is frozen".
-/
import MxModel.Lemmas.WeeklyInv

namespace Mx.Weekly

/-- how one transaction may change the per-week energy totals: the last updated week only moves
    forward, and any week other than the (new) last updated week keeps its total — or is week
    `lastGlobalUpdateWeek − 5`, which is cleared -/
structure EStep (g g' : St) : Prop where
  mono : g.lastGlobalUpdateWeek ≤ g'.lastGlobalUpdateWeek
  frame : ∀ w, w ≠ g'.lastGlobalUpdateWeek →
    g'.totalEnergy w = g.totalEnergy w ∨ (g'.totalEnergy w = 0 ∧ w + 5 = g'.lastGlobalUpdateWeek)

theorem EStep.refl (g : St) : EStep g g := ⟨Nat.le_refl _, fun _ _ => Or.inl rfl⟩

theorem EStep.of_eq {g g' g'' : St} (h : EStep g g') (e1 : g''.lastGlobalUpdateWeek = g'.lastGlobalUpdateWeek)
    (e2 : g''.totalEnergy = g'.totalEnergy) : EStep g g'' :=
  ⟨by rw [e1]; exact h.mono, fun w hw => by rw [e1] at hw ⊢; rw [e2]; exact h.frame w hw⟩

/-- two steps compose when the second leaves the last updated week where the first put it -/
theorem EStep.trans_same {g g' g'' : St} (h1 : EStep g g') (h2 : EStep g' g'')
    (e : g''.lastGlobalUpdateWeek = g'.lastGlobalUpdateWeek) : EStep g g'' := by
  refine ⟨Nat.le_trans h1.mono h2.mono, fun w hw => ?_⟩
  have hw' : w ≠ g'.lastGlobalUpdateWeek := by rw [← e]; exact hw
  rcases h2.frame w hw with e2 | ⟨e2, e5⟩
  · rcases h1.frame w hw' with e1 | ⟨e1, e5⟩
    · left; rw [e2, e1]
    · right; exact ⟨by rw [e2, e1], by rw [e]; exact e5⟩
  · right; exact ⟨e2, e5⟩

theorem updateUser_EStep {g g' : St} {W : Nat} {cur : Energy} {o : Option ClaimProgress}
    (h : updateUserEnergyForCurrentWeek g W cur o = some g') : EStep g g' :=
  have st := updateUser_weekStep h
  ⟨st.lgw ▸ st.mono, st.lgw ▸ st.energy⟩

theorem UserStep.estep {g g' : St} {user W : Nat} {cur : Energy} (h : UserStep g g' user W cur) :
    EStep g g' := by
  obtain ⟨g1, g2, h1, fr, rfl⟩ := h
  exact (updateUser_EStep h1).of_eq fr.lgw fr.totalEnergy

/-- user `u`'s recorded energy decayed to week `w` -/
def recordedEnergy (g : St) (u w : Nat) : Nat :=
  match g.progress u with
  | some p => (p.energy.after (w - p.week)).getEnergyAmount
  | none => 0

/-- Σ over the participants of their recorded energies decayed to week `w` -/
def recordedSum (g : St) (w : Nat) : Nat := usum g.users (fun u => recordedEnergy g u w)

theorem GInv.energy_eq {g : St} (hI : GInv g) :
    g.totalEnergy g.lastGlobalUpdateWeek = recordedSum g g.lastGlobalUpdateWeek := by
  unfold recordedSum
  rcases hI with hp | ⟨o, hr⟩
  · rw [hp.energy, hp.noUsers]; rfl
  · rw [hr.l.energy]
    refine usum_congr fun u _ => ?_
    unfold recordedEnergy
    cases g.progress u with
    | none => simp [lotAt, Lot.contrib]
    | some p => exact lotAt_contrib p _

theorem GInv.future_zero {g : St} (hI : GInv g) {w : Nat} (hw : g.lastGlobalUpdateWeek < w) :
    g.totalEnergy w = 0 := by
  rcases hI with hp | ⟨o, hr⟩
  · exact hp.energy w
  · exact (hr.fut w hw).1

/-- invariant tying a week's stored total to the value `acc` it had when it was last the running
    week: before the week is reached nothing is stored and `acc = 0`; once the global week has
    moved past it the total is `acc` — or was cleared (only possible 5 weeks later) -/
def CloseInv (g : St) (acc w : Nat) : Prop :=
  (g.lastGlobalUpdateWeek < w → acc = 0) ∧
  (w < g.lastGlobalUpdateWeek →
    g.totalEnergy w = acc ∨ (g.totalEnergy w = 0 ∧ w + 4 < g.lastGlobalUpdateWeek))

/-- the value to remember for week `w` when leaving state `g` -/
def closeAcc (g : St) (acc w : Nat) : Nat :=
  if g.lastGlobalUpdateWeek = w then recordedSum g w else acc

theorem CloseInv.read {g : St} {acc w : Nat} (hI : GInv g) (hC : CloseInv g acc w) :
    g.totalEnergy w = closeAcc g acc w ∨
      (g.totalEnergy w = 0 ∧ w + 4 < g.lastGlobalUpdateWeek) := by
  unfold closeAcc
  rcases Nat.lt_trichotomy g.lastGlobalUpdateWeek w with h1 | h1 | h1
  · rw [if_neg (Nat.ne_of_lt h1), hC.1 h1]
    exact Or.inl (hI.future_zero h1)
  · rw [if_pos h1]
    exact Or.inl (h1 ▸ hI.energy_eq)
  · rw [if_neg (Nat.ne_of_gt h1)]
    exact hC.2 h1

theorem CloseInv.step {g g' : St} {acc w : Nat} (hI : GInv g) (hC : CloseInv g acc w)
    (hE : EStep g g') : CloseInv g' (closeAcc g acc w) w := by
  constructor
  · intro hlt
    have : g.lastGlobalUpdateWeek < w := Nat.lt_of_le_of_lt hE.mono hlt
    rw [closeAcc, if_neg (Nat.ne_of_lt this)]
    exact hC.1 this
  · intro hlt
    rcases hE.frame w (Nat.ne_of_lt hlt) with e | ⟨e, e5⟩
    · rw [e]
      exact (hC.read hI).imp_right fun ⟨hz, h4⟩ => ⟨hz, Nat.lt_of_lt_of_le h4 hE.mono⟩
    · exact Or.inr ⟨e, by omega⟩

end Mx.Weekly
