/-
  C19 — the access table as a finite object.  The endpoint names of a contract's table are pairwise distinct, so
  looking up the name of a row returns that row; a statement about `allowed c ent.name` for the rows `ent` of the
  table is therefore a statement about `allowedBy c ent`, which the kernel evaluates without comparing strings, and
  a list of rows that is found in the table in one pass (`sub`) gives the look-up of each of their names (`Rows`).
  Strings are what the kernel pays for here: it re-encodes every string literal it evaluates anything about, in every
  declaration it checks (about 2 k heartbeats per character), so the two facts that must read every name — the names
  are distinct, the generated ABI inventory agrees with the table — are ONE evaluation (`table_ok`), and where names
  have to be compared the kernel compares a number computed once per name (`nameCode`).
-/
import MxModel.Core.Access
import MxModel.Gen.Endpoints

namespace Mx.Access

theorem find?_name_of_mem {l : List Entry} (hn : (l.map (·.name)).Nodup) {ent : Entry} (h : ent ∈ l) :
    l.find? (·.name == ent.name) = some ent := by
  induction l with
  | nil => cases h
  | cons a l ih =>
    rw [List.map_cons, List.nodup_cons] at hn
    rcases List.mem_cons.1 h with rfl | h'
    · exact List.find?_cons_of_pos (beq_self_eq_true _)
    · have hne : (a.name == ent.name) = false :=
        beq_false_of_ne fun e => hn.1 (e ▸ List.mem_map_of_mem h')
      rw [List.find?_cons_of_neg (by rw [hne]; exact Bool.false_ne_true)]
      exact ih hn.2 h'

/-- a number for an endpoint name.  Different names of the tables have different numbers (UTF-8 bytes as base-256
    digits), but nothing below relies on that: equal numbers are never taken for equal names. -/
def nameCode (s : String) : Nat := s.toByteArray.data.toList.foldl (fun n b => 256 * n + b.toNat) 0

/-- `Nodup` of numbers as a Boolean the kernel evaluates with its own number comparison -/
def distinct : List Nat → Bool
  | [] => true
  | a :: l => !l.contains a && distinct l

theorem nodup_of_distinct : ∀ {l : List Nat}, distinct l = true → l.Nodup
  | [], _ => List.nodup_nil
  | a :: l, h => by
    simp only [distinct, Bool.and_eq_true, Bool.not_eq_true', List.contains_eq_mem, decide_eq_false_iff_not] at h
    exact List.nodup_cons.2 ⟨h.1, nodup_of_distinct h.2⟩

theorem mem_Contract_all (c : Contract) : c ∈ Contract.all := by cases c <;> decide

/-- `lookup`, comparing the numbers of the names before the names themselves -/
def lookupByCode (c : Contract) (e : String) : Option Entry :=
  (table c).find? fun r => nameCode r.name == nameCode e && r.name == e

theorem lookupByCode_eq (c : Contract) (e : String) : lookupByCode c e = lookup c e := by
  unfold lookupByCode lookup
  congr; funext r
  by_cases h : r.name = e <;> simp [h]

/-- what `Props/C19` asks of one entry `(contract, name, only_owner, readonly, payable)` of the generated ABI
    inventory, as one Boolean, so that one evaluation of the inventory against the table serves all of it -/
def abiEntryOk (x : Contract × String × Bool × Bool × Bool) : Bool :=
  match (lookupByCode x.1 x.2.1).orElse fun _ => abiDefault x.2.1 x.2.2.1 x.2.2.2.1 with
  | none => false
  | some ent => (x.2.2.1 == decide (ent.guard = .scOwner)) && (!x.2.2.2.1 || decide (ent.cls = .view))

theorem abiEntryOk_iff {x : Contract × String × Bool × Bool × Bool} :
    abiEntryOk x = true ↔ ∃ ent, classify x.1 x.2.1 x.2.2.1 x.2.2.2.1 = some ent ∧
      (x.2.2.1 = true ↔ ent.guard = .scOwner) ∧ (x.2.2.2.1 = true → ent.cls = .view) := by
  have hc : classify x.1 x.2.1 x.2.2.1 x.2.2.2.1 =
      (lookupByCode x.1 x.2.1).orElse fun _ => abiDefault x.2.1 x.2.2.1 x.2.2.2.1 := by
    rw [lookupByCode_eq, classify]
    cases lookup x.1 x.2.1 <;> rfl
  rw [abiEntryOk, ← hc]
  cases classify x.1 x.2.1 x.2.2.1 x.2.2.2.1 with
  | none => simp
  | some ent => cases x.2.2.1 <;> cases x.2.2.2.1 <;> simp

/-- the one evaluation that reads every name of the table: the names of each contract's table have distinct numbers,
    and every entry of the generated ABI inventory is classified in agreement with its flags -/
theorem table_ok :
    (∀ c ∈ Contract.all, distinct ((table c).map fun r => nameCode r.name) = true) ∧
    ∀ x ∈ Mx.Gen.endpoints, abiEntryOk x = true := by decide +kernel

theorem codes_distinct : ∀ c ∈ Contract.all, distinct ((table c).map fun r => nameCode r.name) = true := table_ok.1

theorem inventory_ok : ∀ x ∈ Mx.Gen.endpoints, abiEntryOk x = true := table_ok.2

theorem names_nodup : ∀ c ∈ Contract.all, ((table c).map (·.name)).Nodup := fun c hc =>
  List.pairwise_map.2 ((List.pairwise_map.1 (nodup_of_distinct (codes_distinct c hc))).imp
    fun h e => h (congrArg nameCode e))

theorem lookup_of_mem {c : Contract} {ent : Entry} (h : ent ∈ table c) : lookup c ent.name = some ent :=
  find?_name_of_mem (names_nodup c (mem_Contract_all c)) h

theorem allowed_of_mem {c : Contract} {ent : Entry} (h : ent ∈ table c) (r : Role) (s : CState) :
    allowed c ent.name r s = allowedBy c ent r s := by
  rw [allowed, lookup_of_mem h, allowedBy]

/-- the rows of `a` occur among the rows `b` of a table, in the table's order: one pass over the table.  The names are
    compared only where the other columns agree, so most names of the table are never evaluated. -/
def sub : List Entry → List Entry → Bool
  | [], _ => true
  | _ :: _, [] => false
  | x :: a, y :: b =>
    if x.cls = y.cls ∧ x.guard = y.guard ∧ x.st = y.st ∧ x.payee = y.payee ∧ x.name = y.name then sub a b
    else sub (x :: a) b

/-- looking up the name of each row of the list returns that row.  Once the rows are known to be rows of the table
    (`sub`), this needs no search by name: the names of a table are distinct (`lookup_of_mem`). -/
def Rows (c : Contract) : List Entry → Prop
  | [] => True
  | e :: l => lookup c e.name = some e ∧ Rows c l

theorem rows_of_sub {c : Contract} : ∀ {a b : List Entry}, (∀ x ∈ b, x ∈ table c) → sub a b = true → Rows c a
  | [], _, _, _ => trivial
  | _ :: _, [], _, h => nomatch h
  | x :: a, y :: b, hb, h => by
    have hb' : ∀ z ∈ b, z ∈ table c := fun z hz => hb z (List.mem_cons_of_mem _ hz)
    unfold sub at h
    split at h
    · next e =>
      have : x = y := by
        cases x; cases y
        obtain ⟨rfl, rfl, rfl, rfl, rfl⟩ := e; rfl
      exact ⟨lookup_of_mem (this ▸ hb y List.mem_cons_self), rows_of_sub hb' h⟩
    · exact rows_of_sub hb' h

theorem rows {c : Contract} {l : List Entry} (h : sub l (table c) = true) : Rows c l :=
  rows_of_sub (fun _ h => h) h

end Mx.Access
