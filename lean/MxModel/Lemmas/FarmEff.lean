/-
  The farm endpoints in closed form.

  An endpoint keeps `reward_reserve`, `reward_per_share` and `farm_token_supply` in a cache from its
  first line to its last, so none of its intermediate states means anything; what means something
  is the state it leaves.  For every long endpoint `X_effect` says: success ⇒ the result — the
  endpoint's tail call (pay out / weekly bookkeeping; `mergeFarmTokens` and `claimBoostedRewards` have
  none) applied to a state `T` written out field by field over the start state `s`, with only `w` and
  `b` taken from the boosted claim's result —, the output, the ONE call of the weekly-rewards module
  that depends on the state in a way no formula captures (the boosted claim, on a state `P` written
  out over `s`), then the guards.  A fact about fields the endpoint writes by formula is read off by
  `rfl`; the invariants of the weekly module see at most two real calls, the boosted claim and the tail.

  The data (`orig`, `att`, `h'`, `t`, `boosted`, `W`, …) stay existential; the facts about them are the
  fields of a structure per endpoint (`ExitRun`, `ClaimRun`, `EnterRun`, `MergeRun`, `BoostedRun`), named
  after what they speak of in Core/Farm.lean: `tail` (or `state`, where there is no tail call), `out`,
  `claim`, then the guards and checked subtractions (`active`, `orig`, `attr`, `take`, `totals`, `merge`,
  `gen`, `week`, `reserve`, `mint`, …).  A consumer writes
  `obtain ⟨…, x⟩ := exitFarm_effect h; obtain rfl := x.out; … x.claim …`.

  The energy table `e` after the payment carries no fact: no invariant of the farm reads it.  That the
  payment writes the payee's entry only is `payReward_spec` (Lemmas/FarmSpec.lean), read off the tail call
  where it is wanted (`AccessModelsFarm.claimCore_payee`).
-/
import MxModel.Lemmas.FarmOps

namespace Mx.Farm

open Mx.Weekly (upd)

/-! Merging reads `attrs` only, so the closed forms state it on the start state `s`. -/

theorem mergeParts_attrs {s t : St} (h : t.attrs = s.attrs) : ∀ (l : List (Nat × Nat)) (base : Attr),
    mergeParts t base l = mergeParts s base l
  | [], _ => rfl
  | (n, a) :: rest, base => by
    simp only [mergeParts, h, Option.bind_eq_bind]
    refine congrArg _ (funext fun att => congrArg _ (funext fun part => congrArg _ (funext fun m => ?_)))
    exact mergeParts_attrs h rest m

theorem mergeParts_of_attrs {s t : St} {base m : Attr} {l : List (Nat × Nat)}
    (hm : mergeParts t base l = some m) (h : t.attrs = s.attrs) : mergeParts s base l = some m :=
  mergeParts_attrs h l base ▸ hm

theorem mergeAll_of_attrs {s t : St} {m : Attr} {l : List (Nat × Nat)}
    (hm : mergeAll t l = some m) (h : t.attrs = s.attrs) : mergeAll s l = some m := by
  cases l with
  | nil => exact hm
  | cons p rest =>
    obtain ⟨n, a⟩ := p
    simp only [mergeAll, h, mergeParts_attrs h] at hm ⊢
    exact hm

/-- the state a settlement leaves: `cache; generate; drop` -/
def settleSt (s : St) : St := { genSt s with reserve := s.reserve + minted s, rps := s.rps + rpsIncr s }

theorem settle_eq {s s' : St} (h : settle s = some s') : GenOk s ∧ s' = settleSt s := by
  obtain ⟨s1, c1, h1, rfl⟩ := settle_some h
  obtain ⟨hok, rfl, rfl⟩ := generate_eq h1
  exact ⟨hok, rfl⟩

/-! `T` lists every written field over `s` itself.  Written over a defined state (`{ settleSt s with … }`)
it reads better, but then a consumer's closing `rfl` compares `St.f (settleSt s …)` with `St.f s` by
first trying to unify the two records field by field, which costs thousands of heartbeats per goal
instead of tens. -/

/-- What a successful `exit_farm` of `a` tokens of nonce `n` did.  `orig` is the user the position is
    recorded for, `att` the token's attributes, `h'` the holdings after the debit, `t` the state the
    boosted claim leaves (only its `w`, `b` are read), `W` the running week, `pen` the exit penalty,
    `e` the energy table after the payment, `B` the base reward. -/
structure ExitRun (s s' : St) (caller : Nat) (opt : Option Nat) (n a : Nat) (o : Out) (orig : Nat) (att : Attr)
    (h' : Nat → Nat → Nat) (t : St) (boosted W pen : Nat) (e : Nat → Option Weekly.Energy) (B : Nat) : Prop where
  tail : clearUserEnergyIfNeeded
      { s with
          lastBlock := (if s.lastBlock < s.block then s.block else s.lastBlock)
          generated := s.generated + minted s
          baseBudget := s.baseBudget + baseShare s
          rps := s.rps + rpsIncr s
          hold := h'
          userTotal := upd s.userTotal att.owner (s.userTotal att.owner - a)
          reserve := s.reserve + minted s - (B + boosted)
          supply := s.supply - a
          balFarming := s.balFarming - a
          penaltyBurned := s.penaltyBurned + pen
          paid := s.paid + (B + boosted)
          paidBase := s.paidBase + B
          paidBoosted := s.paidBoosted + boosted
          balReward := (if s.kind = .mint then s.balReward + minted s else s.balReward) - (if s.kind = .mint then B + boosted else 0)
          energy := e
          w := t.w
          b := { t.b with farmSupplyWeek := upd t.b.farmSupplyWeek W (s.supply - a) } } orig = some s'
  out : o = { rew := B + boosted, farming := a - pen, base := B, boosted := boosted }
  claim : claimBoostedYields (genSt { s with hold := h' }) orig = some (t, boosted)
  base : B = baseReward s.dsc (s.rps + rpsIncr s) a att.rps
  penalty : pen = (if s.minFarmingEpochs ≤ s.epoch - att.epoch then 0 else a * s.penaltyPct / MAXPCT)
  orig : origCaller s caller opt = some orig
  active : s.active = true
  attr : s.attrs n = some att
  take : takeHold s.attrs s.hold caller [(n, a)] = some h'
  gen : GenOk s
  week : s.week = some W
  reserve : B + boosted ≤ s.reserve + minted s
  supply : a ≤ s.supply
  farming : a ≤ s.balFarming
  mint : s.kind = .mint → B + boosted ≤ s.balReward + minted s
  epoch : att.epoch ≤ s.epoch
  penLe : pen ≤ a

theorem exitFarm_effect {s s' : St} {caller : Nat} {opt : Option Nat} {n a : Nat} {o : Out}
    (h : exitFarm s caller opt n a = some (s', o)) :
    ∃ orig att h' t boosted W pen e B, ExitRun s s' caller opt n a o orig att h' t boosted W pen e B := by
  unfold exitFarm at h
  obtain ⟨orig, horig, h⟩ := peel h
  obtain ⟨s0, h0, h⟩ := peel h
  obtain ⟨hact, h⟩ := peel_req h
  obtain ⟨att, hat, h⟩ := peel h
  obtain ⟨⟨s1, c1⟩, h1, h⟩ := peel h
  obtain ⟨part, hpart, h⟩ := peel h
  obtain ⟨⟨s2, boosted⟩, h2, h⟩ := peel h
  obtain ⟨hle, h⟩ := peel_sub h
  obtain ⟨hsup, h⟩ := peel_sub h
  obtain ⟨s4, h4, h⟩ := peel h
  obtain ⟨pen, hpen, h⟩ := peel h
  obtain ⟨hpl, h⟩ := peel_sub h
  obtain ⟨s6, h6, h⟩ := peel h
  obtain ⟨s7, h7, h⟩ := peel h
  obtain ⟨s8, h8, h⟩ := peel h
  obtain ⟨rfl, ho⟩ := Prod.mk.inj (Option.some.inj h)
  generalize hB : baseReward s1.dsc c1.rps a part.rps = B at *
  replace hB := hB.symm
  replace ho := ho.symm
  obtain ⟨h', hh, rfl⟩ := takePayments_some h0
  obtain ⟨hok, rfl, rfl⟩ := generate_eq h1
  obtain ⟨pa, pr, pe, -⟩ := intoPart_spec hpart
  rw [pa] at hsup h4 hpen hpl h6 ho
  rw [pr] at hB
  rw [pe] at hpen
  obtain ⟨w2, b2, e2⟩ := claimBoostedYields_struct h2
  rw [e2] at h4
  obtain ⟨W, hW, rfl⟩ := setFarmSupplyWeek_spec h4
  obtain ⟨hep, hpv⟩ := exitPenalty_spec hpen
  obtain ⟨hbf, rfl⟩ := removeFarming_spec h6
  obtain ⟨hm, e, rfl⟩ := payReward_eq h7
  subst e2
  simp only [Cache.drop, Cache.read, genCache, decreaseOwner, genSt] at hB hle hsup hbf hm hW hep hpv h8 h2 ⊢
  refine ⟨orig, att, h', _, boosted, W, pen, e, B, ?_, ho, h2, hB, hpv, horig, hact, hat, hh, hok, hW, hle, hsup,
    hbf, fun hk => ?_, hep, hpl⟩
  · exact h8
  · have := hm hk
    rw [if_pos hk] at this
    exact this

/-- What a successful `claim_rewards_base` / `compound_rewards_base` (`cmp`) did.  Only the first payment
    `(n1, a1)`, of attributes `at1`, earns (`first_farm_token` in `claim_rewards.rs`, the other payments are
    merged in): `B` is its base reward at the settled index; `R` is paid out (`cmp = false`) or added to the
    position (`cmp = true`).  `h'` are the holdings after the debit, `ut` the recorded totals after the
    payments are taken off, `t` the state the boosted claim leaves (only its `w`, `b` are read), `merged`
    the new token, `W` the running week. -/
structure ClaimRun (s s' : St) (caller orig : Nat) (pays : List (Nat × Nat)) (cmp : Bool) (o : Out)
    (n1 a1 : Nat) (at1 part : Attr) (h' : Nat → Nat → Nat) (t : St) (boosted : Nat) (ut : Nat → Nat)
    (merged : Attr) (W B R : Nat) : Prop where
  tail : claimTail
      { s with
          lastBlock := (if s.lastBlock < s.block then s.block else s.lastBlock)
          generated := s.generated + minted s
          baseBudget := s.baseBudget + baseShare s
          rps := s.rps + rpsIncr s
          hold := upd h' caller (upd (h' caller) (s.lastNonce + 1) (h' caller (s.lastNonce + 1) + merged.amt))
          attrs := upd s.attrs (s.lastNonce + 1) (some merged)
          lastNonce := s.lastNonce + 1
          userTotal := (if cmp then upd ut orig (ut orig + R) else ut)
          reserve := s.reserve + minted s - R
          supply := (if cmp then s.supply + R else s.supply)
          balReward := (if s.kind = .mint then s.balReward + minted s else s.balReward)
          w := t.w
          b := { t.b with farmSupplyWeek := upd t.b.farmSupplyWeek W (if cmp then s.supply + R else s.supply) } }
      cmp orig B boosted = some s'
  out : o = { nonce := s.lastNonce + 1, amt := merged.amt, rew := R, base := B, boosted := boosted }
  claim : claimBoostedYields (genSt { s with hold := h' }) orig = some (t, boosted)
  base : B = baseReward s.dsc (s.rps + rpsIncr s) a1 at1.rps
  rew : R = B + boosted
  head : pays.head? = some (n1, a1)
  attr : s.attrs n1 = some at1
  intoPart : at1.intoPart a1 = some part
  merge : mergeParts s
      (if cmp then { rps := s.rps + rpsIncr s, epoch := s.epoch, comp := part.comp + R, amt := a1 + R, owner := orig }
       else { rps := s.rps + rpsIncr s, epoch := at1.epoch, comp := part.comp, amt := a1, owner := orig })
      pays.tail = some merged
  take : takeHold s.attrs s.hold caller pays = some h'
  totals : checkTotals s.attrs s.userTotal orig pays = some ut
  active : s.active = true
  sameTok : cmp = true → s.sameTok = true
  gen : GenOk s
  week : s.week = some W
  reserve : R ≤ s.reserve + minted s
  amt : merged.amt ≠ 0

theorem claimCore_effect {s s' : St} {caller orig : Nat} {pays : List (Nat × Nat)} {cmp : Bool} {o : Out}
    (h : claimCore s caller orig pays cmp = some (s', o)) :
    ∃ n1 a1 at1 part h' t boosted ut merged W B R,
      ClaimRun s s' caller orig pays cmp o n1 a1 at1 part h' t boosted ut merged W B R := by
  unfold claimCore at h
  obtain ⟨⟨n1, a1⟩, hhead, h⟩ := peel h
  obtain ⟨s0, h0, h⟩ := peel h
  obtain ⟨hact, h⟩ := peel_req h
  obtain ⟨hsame, h⟩ := peel_req h
  obtain ⟨at1, hat, h⟩ := peel h
  obtain ⟨⟨s1, c1⟩, h1, h⟩ := peel h
  obtain ⟨part, hpart, h⟩ := peel h
  obtain ⟨⟨s2, boosted⟩, h2, h⟩ := peel h
  obtain ⟨hle, h⟩ := peel_sub h
  obtain ⟨s3, h3, h⟩ := peel h
  obtain ⟨merged, hm, h⟩ := peel h
  obtain ⟨⟨s5, n⟩, h5, h⟩ := peel h
  obtain ⟨s6, h6, h⟩ := peel h
  obtain ⟨s8, h8, h⟩ := peel h
  obtain ⟨rfl, ho⟩ := Prod.mk.inj (Option.some.inj h)
  generalize hB : baseReward s1.dsc c1.rps a1 part.rps = B at *
  replace hB := hB.symm
  replace ho := ho.symm
  obtain ⟨h', hh, rfl⟩ := takePayments_some h0
  obtain ⟨hok, rfl, rfl⟩ := generate_eq h1
  obtain ⟨pa, pr, pe, -⟩ := intoPart_spec hpart
  rw [pr] at hB
  rw [pa, pe] at hm
  obtain ⟨w2, b2, e2⟩ := claimBoostedYields_struct h2
  rw [e2] at h3
  obtain ⟨ut, hut, rfl⟩ := checkAndUpdate_some h3
  by_cases hc : cmp = true
  on_goal 1 => simp only [if_pos hc] at hm h5 h6 h8
  on_goal 2 => simp only [if_neg hc] at hm h5 h6 h8
  all_goals
    obtain ⟨hne, rfl, rfl⟩ := createToken_spec h5
    obtain ⟨W, hW, rfl⟩ := setFarmSupplyWeek_spec h6
    subst e2
    have hm := mergeParts_of_attrs (s := s) hm rfl
    have hsame : cmp = true → s.sameTok = true := hsame
    simp only [Cache.drop, Cache.read, genCache, increaseUser, genSt] at hB hle hut hm hW h8 h2
    refine ⟨n1, a1, at1, part, h', _, boosted, ut, merged, W, B, B + boosted, ?_, ho, h2, hB, rfl, hhead, hat, hpart,
      ?_, hh, hut, hact, hsame, hok, hW, hle, hne⟩
  · simp only [if_pos hc]; exact h8
  · simp only [if_pos hc]; exact hm
  · simp only [if_neg hc]; exact h8
  · simp only [if_neg hc]; exact hm

/-- What a successful `merge_farm_tokens` did (no settlement; the boosted claim of `orig` is paid on the
    way).  `orig` is the user the merged position is recorded for, `h'` the holdings after the debit, `ut` the
    recorded totals, `t` the state the boosted claim leaves (only its `w`, `b` are read), `merged` the new
    token before its owner is set, `e` the energy table after the payment. -/
structure MergeRun (s s' : St) (caller : Nat) (opt : Option Nat) (pays : List (Nat × Nat)) (o : Out)
    (orig : Nat) (h' : Nat → Nat → Nat) (t : St) (boosted : Nat) (ut : Nat → Nat) (merged : Attr)
    (e : Nat → Option Weekly.Energy) : Prop where
  state : s' = { s with
      hold := upd h' caller (upd (h' caller) (s.lastNonce + 1) (h' caller (s.lastNonce + 1) + merged.amt))
      attrs := upd s.attrs (s.lastNonce + 1) (some { merged with owner := orig })
      lastNonce := s.lastNonce + 1
      userTotal := ut
      reserve := s.reserve - boosted
      paid := s.paid + boosted
      paidBoosted := s.paidBoosted + boosted
      balReward := s.balReward - (if s.kind = .mint then boosted else 0)
      energy := e
      w := t.w
      b := t.b }
  out : o = { nonce := s.lastNonce + 1, amt := merged.amt, rew := boosted, boosted := boosted }
  claim : claimBoostedYields { s with hold := h' } orig = some (t, boosted)
  merge : mergeAll s pays = some merged
  take : takeHold s.attrs s.hold caller pays = some h'
  totals : checkTotals s.attrs s.userTotal orig pays = some ut
  active : s.active = true
  orig : origCaller s caller opt = some orig
  nonempty : pays ≠ []
  reserve : boosted ≤ s.reserve
  mint : s.kind = .mint → boosted ≤ s.balReward
  amt : merged.amt ≠ 0

theorem mergeFarmTokens_effect {s s' : St} {caller : Nat} {opt : Option Nat} {pays : List (Nat × Nat)} {o : Out}
    (h : mergeFarmTokens s caller opt pays = some (s', o)) :
    ∃ orig h' t boosted ut merged e, MergeRun s s' caller opt pays o orig h' t boosted ut merged e := by
  unfold mergeFarmTokens at h
  obtain ⟨hact, h⟩ := peel_req h
  obtain ⟨orig, horig, h⟩ := peel h
  obtain ⟨hne, h⟩ := peel_req h
  obtain ⟨s0, h0, h⟩ := peel h
  obtain ⟨⟨s1, boosted⟩, h1, h⟩ := peel h
  obtain ⟨s2, h2, h⟩ := peel h
  obtain ⟨merged, hm, h⟩ := peel h
  obtain ⟨⟨s3, n⟩, h3, h⟩ := peel h
  obtain ⟨s4, h4, h⟩ := peel h
  obtain ⟨rfl, ho⟩ := Prod.mk.inj (Option.some.inj h)
  replace ho := ho.symm
  obtain ⟨h', hh, rfl⟩ := takePayments_some h0
  obtain ⟨t, ht, hle, rfl⟩ := claimOnlyBoostedPayment_spec h1
  obtain ⟨w2, b2, e2⟩ := claimBoostedYields_struct ht
  rw [e2] at h2 hle
  obtain ⟨ut, hut, rfl⟩ := checkAndUpdate_some h2
  have hm := mergeAll_of_attrs (s := s) hm rfl
  obtain ⟨hna, rfl, rfl⟩ := createToken_spec h3
  obtain ⟨hmint, e, rfl⟩ := payReward_eq h4
  subst e2
  simp only [Nat.zero_add] at hmint ⊢
  exact ⟨orig, h', { ({ s with hold := h' } : St) with w := w2, b := b2 }, boosted, ut, merged, e, rfl, ho, ht, hm, hh, hut, hact, horig, hne, hle, hmint, hna⟩

/-- What a successful `claim_boosted_rewards` did: a settlement and the caller's boosted claim, paid out.
    `t` is the state the boosted claim leaves (only its `w`, `b` are read), `W` the running week, `e` the
    energy table after the payment. -/
structure BoostedRun (s s' : St) (caller : Nat) (optUser : Option Nat) (o : Out)
    (t : St) (boosted W : Nat) (e : Nat → Option Weekly.Energy) : Prop where
  state : s' = { s with
      lastBlock := (if s.lastBlock < s.block then s.block else s.lastBlock)
      generated := s.generated + minted s
      baseBudget := s.baseBudget + baseShare s
      rps := s.rps + rpsIncr s
      reserve := s.reserve + minted s - boosted
      paid := s.paid + boosted
      paidBoosted := s.paidBoosted + boosted
      balReward := (if s.kind = .mint then s.balReward + minted s else s.balReward) - (if s.kind = .mint then boosted else 0)
      energy := e
      w := t.w
      b := { t.b with farmSupplyWeek := upd t.b.farmSupplyWeek W s.supply } }
  out : o = { rew := boosted, boosted := boosted }
  claim : claimBoostedYields (genSt s) caller = some (t, boosted)
  user : optUser.getD caller = caller
  position : s.userTotal caller ≠ 0
  active : s.active = true
  gen : GenOk s
  week : s.week = some W
  reserve : boosted ≤ s.reserve + minted s
  mint : s.kind = .mint → boosted ≤ s.balReward + minted s

theorem claimBoostedRewards_effect {s s' : St} {caller : Nat} {optUser : Option Nat} {o : Out}
    (h : claimBoostedRewards s caller optUser = some (s', o)) :
    ∃ t boosted W e, BoostedRun s s' caller optUser o t boosted W e := by
  unfold claimBoostedRewards at h
  obtain ⟨huser, h⟩ := peel_req h
  rw [huser] at h
  obtain ⟨htot, h⟩ := peel_req h
  obtain ⟨hact, h⟩ := peel_req h
  obtain ⟨⟨s1, c1⟩, h1, h⟩ := peel h
  obtain ⟨⟨s2, boosted⟩, h2, h⟩ := peel h
  obtain ⟨hle, h⟩ := peel_sub h
  obtain ⟨s3, h3, h⟩ := peel h
  obtain ⟨s4, h4, h⟩ := peel h
  obtain ⟨rfl, ho⟩ := Prod.mk.inj (Option.some.inj h)
  replace ho := ho.symm
  obtain ⟨hok, rfl, rfl⟩ := generate_eq h1
  obtain ⟨w2, b2, e2⟩ := claimBoostedYields_struct h2
  rw [e2] at h3
  obtain ⟨W, hW, rfl⟩ := setFarmSupplyWeek_spec h3
  obtain ⟨hmint, e, rfl⟩ := payReward_eq h4
  subst e2
  simp only [Nat.zero_add, genSt, genCache, Cache.read] at hmint hle hW ⊢
  exact ⟨{ genSt s with w := w2, b := b2 }, boosted, W, e, rfl, ho, h2, huser, htot, hact, hok, hW, hle,
    fun hk => (if_pos hk ▸ hmint hk :)⟩

/-- What a successful `enter_farm_base` of `amt` farming tokens (with the farm tokens `extra` merged in)
    did.  The boosted claim comes first (no settlement before it, reserve written directly); the two farm
    kinds pay it at different points, with the same result.  `h'` are the holdings after the debit, `ut`
    the recorded totals after the payments are taken off, `t` the state the boosted claim leaves (only its
    `w`, `b` are read), `merged` the new token, `W` the running week, `e` the energy table after the
    payment. -/
structure EnterRun (s s' : St) (caller orig tokenTo amt : Nat) (extra : List (Nat × Nat)) (o : Out)
    (h' : Nat → Nat → Nat) (t : St) (boosted : Nat) (ut : Nat → Nat) (merged : Attr) (W : Nat)
    (e : Nat → Option Weekly.Energy) : Prop where
  tail : updateEnergyAndProgress
      { s with
          lastBlock := (if s.lastBlock < s.block then s.block else s.lastBlock)
          generated := s.generated + minted s
          baseBudget := s.baseBudget + baseShare s
          rps := s.rps + rpsIncr s
          hold := upd h' tokenTo (upd (h' tokenTo) (s.lastNonce + 1) (h' tokenTo (s.lastNonce + 1) + merged.amt))
          attrs := upd s.attrs (s.lastNonce + 1) (some merged)
          lastNonce := s.lastNonce + 1
          userTotal := upd ut orig (ut orig + amt)
          balFarming := s.balFarming + amt
          reserve := s.reserve - boosted + minted s
          supply := s.supply + amt
          paid := s.paid + boosted
          paidBoosted := s.paidBoosted + boosted
          balReward := (if s.kind = .mint then s.balReward + minted s else s.balReward) - (if s.kind = .mint then boosted else 0)
          energy := e
          w := t.w
          b := { addCut s t.b with
                   farmSupplyWeek := upd (addCut s t.b).farmSupplyWeek W (s.supply + amt) } } orig = some s'
  out : o = { nonce := s.lastNonce + 1, amt := merged.amt, rew := boosted, boosted := boosted }
  claim : claimBoostedYields { s with hold := h', balFarming := s.balFarming + amt } orig = some (t, boosted)
  merge : mergeParts s { rps := s.rps + rpsIncr s, epoch := s.epoch, comp := 0, amt := amt, owner := orig } extra
    = some merged
  take : takeHold s.attrs s.hold caller extra = some h'
  totals : checkTotals s.attrs s.userTotal orig extra = some ut
  entered : amt ≠ 0
  active : s.active = true
  gen : GenOk s
  week : s.week = some W
  reserve : boosted ≤ s.reserve
  mint : s.kind = .mint → boosted ≤ s.balReward + minted s
  amt : merged.amt ≠ 0

theorem enterCore_effect {s s' : St} {caller orig tokenTo amt : Nat} {extra : List (Nat × Nat)} {o : Out}
    (h : enterCore s caller orig tokenTo amt extra = some (s', o)) :
    ∃ h' t boosted ut merged W e, EnterRun s s' caller orig tokenTo amt extra o h' t boosted ut merged W e := by
  unfold enterCore at h
  obtain ⟨hamt, h⟩ := peel_req h
  obtain ⟨s0, h0, h⟩ := peel h
  obtain ⟨⟨s1, boosted⟩, h1, h⟩ := peel h
  obtain ⟨s1', h1', h⟩ := peel h
  obtain ⟨hact, h⟩ := peel_req h
  obtain ⟨s2, h2, h⟩ := peel h
  obtain ⟨⟨s4, c1⟩, h4, h⟩ := peel h
  obtain ⟨merged, hm, h⟩ := peel h
  obtain ⟨⟨s5, n⟩, h5, h⟩ := peel h
  obtain ⟨s6, h6, h⟩ := peel h
  obtain ⟨s8, h8, h⟩ := peel h
  obtain ⟨s9, h9, h⟩ := peel h
  obtain ⟨rfl, ho⟩ := Prod.mk.inj (Option.some.inj h)
  replace ho := ho.symm
  obtain ⟨h', hh, rfl⟩ := takePayments_some h0
  obtain ⟨t, ht, hle, rfl⟩ := claimOnlyBoostedPayment_spec h1
  obtain ⟨w2, b2, rfl⟩ := claimBoostedYields_struct ht
  simp only [addFarming] at h1' hle
  -- of the two conditional payments exactly one pays; each state is flattened before the next
  -- characterisation is applied to it, so that no `if` is decided on a nested record
  by_cases hk : s.kind = .mint
  · obtain ⟨hc, -⟩ | ⟨-, rfl⟩ := payRewardIf_spec h1'
    · exact absurd (hk.symm.trans hc) (fun e => Kind.noConfusion e)
    obtain ⟨ut, hut, rfl⟩ := checkAndUpdate_some h2
    simp only [increaseUser, Cache.read] at h4
    obtain ⟨hok, rfl, rfl⟩ := generate_eq h4
    have hm := mergeParts_of_attrs (s := s) hm rfl
    obtain ⟨hna, rfl, rfl⟩ := createToken_spec h5
    obtain ⟨W, hW, rfl⟩ := setFarmSupplyWeek_spec h6
    simp only [Cache.drop, genSt, genCache] at h8
    obtain ⟨-, h8⟩ | ⟨hc, -⟩ := payRewardIf_spec h8
    swap
    · exact absurd hk hc
    obtain ⟨hmint, e, rfl⟩ := payReward_eq h8
    simp only [genSt, genCache, if_pos hk, Nat.zero_add] at hle hmint hm hW hut h9
    refine ⟨h', { ({ s with hold := h', balFarming := s.balFarming + amt } : St) with w := w2, b := b2 }, boosted, ut,
      merged, W, e, ?_, ho, ht, hm, hh, hut, hamt, hact, hok, hW, hle, fun _ => hmint hk, hna⟩
    simp only [if_pos hk]
    exact h9
  · have hn : s.kind = .noMint := by cases hs : s.kind <;> first | rfl | exact absurd hs hk
    obtain ⟨-, h1'⟩ | ⟨hc, -⟩ := payRewardIf_spec h1'
    swap
    · exact absurd hn hc
    obtain ⟨-, e, rfl⟩ := payReward_eq h1'
    obtain ⟨ut, hut, rfl⟩ := checkAndUpdate_some h2
    simp only [increaseUser, Cache.read] at h4
    obtain ⟨hok, rfl, rfl⟩ := generate_eq h4
    have hm := mergeParts_of_attrs (s := s) hm rfl
    obtain ⟨hna, rfl, rfl⟩ := createToken_spec h5
    obtain ⟨W, hW, rfl⟩ := setFarmSupplyWeek_spec h6
    obtain ⟨hc, -⟩ | ⟨-, rfl⟩ := payRewardIf_spec h8
    · exact absurd hc hk
    simp only [Cache.drop, genSt, genCache, if_neg hk, Nat.zero_add] at hle hm hW hut h9
    refine ⟨h', { ({ s with hold := h', balFarming := s.balFarming + amt } : St) with w := w2, b := b2 }, boosted, ut,
      merged, W, e, ?_, ho, ht, hm, hh, hut, hamt, hact, hok, hW, hle, fun hc => absurd hc hk, hna⟩
    simp only [if_neg hk]
    exact h9

/-- `claimTail` as one record update for both values of `cmp`: a compound moves the reward from the
    reward balance to the farming balance -/
theorem claimTail_flat {s s' : St} {cmp : Bool} {u b bo : Nat} (h : claimTail s cmp u b bo = some s') :
    (cmp = true ∨ s.kind = .mint → b + bo ≤ s.balReward) ∧
    ∃ e w', s' = { s with paid := s.paid + (b + bo), paidBase := s.paidBase + b
                          paidBoosted := s.paidBoosted + bo
                          balReward := s.balReward - (if cmp = true ∨ s.kind = .mint then b + bo else 0)
                          balFarming := s.balFarming + (if cmp then b + bo else 0)
                          energy := e, w := w' } := by
  rcases claimTail_spec h with ⟨rfl, s1, h1, h2⟩ | ⟨rfl, h⟩
  · obtain ⟨hle, rfl⟩ := compoundMove_spec h1
    obtain ⟨g, rfl⟩ := updateEnergyAndProgress_spec h2
    exact ⟨fun _ => hle, s.energy, g, by simp only [true_or, if_true]⟩
  · obtain ⟨hm, e, rfl⟩ := payReward_eq h
    refine ⟨fun hc => hm (hc.resolve_left (fun hf => Bool.noConfusion hf)), e, s.w, ?_⟩
    simp only [Bool.false_eq_true, false_or, if_false, Nat.add_zero]

theorem enterCore_fixed {s s' : St} {caller orig tokenTo amt : Nat} {extra : List (Nat × Nat)} {o : Out}
    (h : enterCore s caller orig tokenTo amt extra = some (s', o)) : fixed s' = fixed s := by
  obtain ⟨_, _, _, _, _, _, _, x⟩ := enterCore_effect h
  obtain ⟨_, rfl⟩ := updateEnergyAndProgress_spec x.tail
  rfl

theorem claimCore_fixed {s s' : St} {caller orig : Nat} {pays : List (Nat × Nat)} {cmp : Bool} {o : Out}
    (h : claimCore s caller orig pays cmp = some (s', o)) : fixed s' = fixed s := by
  obtain ⟨_, _, _, _, _, _, _, _, _, _, _, _, x⟩ := claimCore_effect h
  obtain ⟨-, _, _, rfl⟩ := claimTail_flat x.tail
  rfl

theorem exitFarm_fixed {s s' : St} {caller : Nat} {opt : Option Nat} {n a : Nat} {o : Out}
    (h : exitFarm s caller opt n a = some (s', o)) : fixed s' = fixed s := by
  obtain ⟨_, _, _, _, _, _, _, _, _, x⟩ := exitFarm_effect h
  obtain ⟨_, rfl⟩ := clearUserEnergyIfNeeded_spec x.tail
  rfl

theorem mergeFarmTokens_fixed {s s' : St} {caller : Nat} {opt : Option Nat} {pays : List (Nat × Nat)}
    {o : Out} (h : mergeFarmTokens s caller opt pays = some (s', o)) : fixed s' = fixed s := by
  obtain ⟨_, _, _, _, _, _, _, x⟩ := mergeFarmTokens_effect h
  obtain rfl := x.state
  rfl

theorem claimBoostedRewards_fixed {s s' : St} {caller : Nat} {optUser : Option Nat} {o : Out}
    (h : claimBoostedRewards s caller optUser = some (s', o)) : fixed s' = fixed s := by
  obtain ⟨_, _, _, _, x⟩ := claimBoostedRewards_effect h
  obtain rfl := x.state
  rfl

theorem settle_fixed {s s' : St} (h : settle s = some s') : fixed s' = fixed s := by
  obtain ⟨_, rfl⟩ := settle_eq h; rfl

theorem step_fixed {s s' : St} {op : Op} {o : Out} (h : step s op = some (s', o)) : fixed s' = fixed s := by
  have hs := step_step h
  clear h
  cases hs with
  | enter _ _ h => exact enterCore_fixed h
  | claim _ _ _ h => exact claimCore_fixed h
  | exit _ _ h => exact exitFarm_fixed h
  | merge _ _ h => exact mergeFarmTokens_fixed h
  | claimBoosted _ _ h => exact claimBoostedRewards_fixed h
  | updateEnergy _ _ h => obtain ⟨_, rfl⟩ := updateEnergyForUser_spec h; rfl
  | transfer _ _ _ _ h => obtain ⟨_, _, _, _, _, _, rfl⟩ := transfer_some h; rfl
  | settled _ _ h _ e => subst e; exact (settle_fixed h :)
  | startProduce _ _ _ _ e => subst e; rfl
  | setFactors _ _ _ _ _ _ e => subst e; rfl
  | collect _ _ _ _ e => subst e; split <;> rfl
  | advance _ _ _ _ e => subst e; rfl
  | config _ _ e _ => subst e; rfl

theorem run_fixed (ops : List Op) (s : St) : fixed (run s ops) = fixed s :=
  run_induction (P := fun s' => fixed s' = fixed s) ops rfl fun h hs => (step_fixed hs).trans h

end Mx.Farm
