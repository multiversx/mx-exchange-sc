/-
  For "no legitimate operation fails on an internal counter" (C05, the `no_underflow_*` theorems):
  the small invariant `XInv` and success of the building blocks that do not call the weekly-rewards
  module (`generate`, `payReward`, …).
-/
import MxModel.Lemmas.FarmPool

namespace Mx.Farm

open Mx.Weekly (upd upd_same upd_other)

structure XV where
  attrs : Nat → Option Attr
  epoch : Nat
  penaltyPct : Nat
  lockEpochs : Nat

def xv (s : St) : XV := ⟨s.attrs, s.epoch, s.penaltyPct, s.lockEpochs⟩

def XV.Ok (x : XV) : Prop :=
  (∀ n att, x.attrs n = some att → att.amt ≠ 0 ∧ att.epoch ≤ x.epoch) ∧
  x.penaltyPct ≤ MAXPCT ∧ x.lockEpochs = 360

/-- what the building blocks need besides the accounting invariants: `intoPart` divides by a token's
    amount, `exitPenalty` subtracts its entering epoch from the current one and takes
    `penaltyPct / MAX_PERCENT` of the amount, `lockVirtual` requires the unlock epoch (rounded down
    to a month) to lie ahead; 360 is the `lockEpochs` of `init` -/
def XInv (s : St) : Prop := (xv s).Ok

theorem XV.Ok.create {x : XV} (h : x.Ok) {a : Attr} (k : Nat) (ha : a.amt ≠ 0) (he : a.epoch ≤ x.epoch) :
    XV.Ok { x with attrs := upd x.attrs k (some a) } := by
  refine ⟨?_, h.2.1, h.2.2⟩
  intro n att hn
  by_cases hk : n = k
  · subst hk
    simp only [upd_same, Option.some.injEq] at hn
    subst hn
    exact ⟨ha, he⟩
  · simp only [upd_other _ _ hk] at hn
    exact h.1 n att hn

theorem takePayments_xv {l : List (Nat × Nat)} {s s' : St} {c : Nat} (h : takePayments s c l = some s') :
    xv s' = xv s := by obtain ⟨_, rfl⟩ := takePayments_spec l h; rfl
theorem checkAndUpdate_xv {l : List (Nat × Nat)} {s s' : St} {c : Nat} (h : checkAndUpdate s c l = some s') :
    xv s' = xv s := by obtain ⟨_, rfl⟩ := checkAndUpdate_spec l h; rfl
theorem claimBoostedYields_xv {s s' : St} {u r : Nat} (h : claimBoostedYields s u = some (s', r)) :
    xv s' = xv s := by obtain ⟨_, _, rfl⟩ := claimBoostedYields_struct h; rfl
theorem setFarmSupplyWeek_xv {s s' : St} {v : Nat} (h : setFarmSupplyWeek s v = some s') :
    xv s' = xv s := by obtain ⟨_, _, rfl⟩ := setFarmSupplyWeek_spec h; rfl
theorem generate_xv {s s' : St} {c c' : Cache} (h : generate s c = some (s', c')) :
    xv s' = xv s := by obtain ⟨_, rfl, _⟩ := generate_spec h; rfl
theorem payReward_xv {s s' : St} {u b bo : Nat} (h : payReward s u b bo = some s') :
    xv s' = xv s := by obtain ⟨_, _, rfl, _⟩ := payReward_spec h; rfl
theorem payRewardIf_xv {s s' : St} {k : Kind} {u b bo : Nat} (h : payRewardIf s k u b bo = some s') :
    xv s' = xv s := by
  rcases payRewardIf_spec h with ⟨_, h⟩ | ⟨_, rfl⟩
  · exact payReward_xv h
  · rfl
theorem claimOnlyBoostedPayment_xv {s s' : St} {u r : Nat} (h : claimOnlyBoostedPayment s u = some (s', r)) :
    xv s' = xv s := by
  obtain ⟨s1, h1, _, rfl⟩ := claimOnlyBoostedPayment_spec h
  exact (claimBoostedYields_xv h1 : xv s1 = xv s)
theorem removeFarming_xv {s s' : St} {a p : Nat} (h : removeFarming s a p = some s') : xv s' = xv s := by
  obtain ⟨_, rfl⟩ := removeFarming_spec h; rfl
theorem settle_xv {s s' : St} (h : settle s = some s') : xv s' = xv s := by
  obtain ⟨s1, c1, h1, rfl⟩ := settle_some h
  exact (generate_xv h1 : xv s1 = xv s)

theorem mergeParts_epoch : ∀ (l : List (Nat × Nat)) {s : St} {base m : Attr} (E : Nat),
    mergeParts s base l = some m → base.epoch ≤ E →
    (∀ n att, s.attrs n = some att → att.epoch ≤ E) → m.epoch ≤ E := by
  intro l
  induction l with
  | nil =>
    intro s base m E h hb _
    simp only [mergeParts, Option.some.injEq] at h
    subst h; exact hb
  | cons p rest ih =>
    intro s base m E h hb hall
    obtain ⟨n, a⟩ := p
    obtain ⟨att, part, m1, hat, hp, hm1, h2⟩ := mergeParts_cons.mp h
    have e1 := (intoPart_spec hp).2.2.1
    have e2 := (mergeWith_spec hm1).2.2.2.1
    have e3 := hall n att hat
    exact ih E h2 (by rw [e2, e1]; exact Nat.max_le.mpr ⟨hb, e3⟩) hall

theorem mergeAll_epoch {s : St} {l : List (Nat × Nat)} {m : Attr} (E : Nat) (h : mergeAll s l = some m)
    (hall : ∀ n att, s.attrs n = some att → att.epoch ≤ E) : m.epoch ≤ E := by
  obtain ⟨n, a, rest, att, part, rfl, hat, hp, h2⟩ := mergeAll_spec h
  exact mergeParts_epoch rest E h2 (by rw [(intoPart_spec hp).2.2.1]; exact hall n att hat) hall

theorem XInv.minted {s s' : St} {m : Attr} (hX : XInv s) (ha : m.amt ≠ 0) (he : m.epoch ≤ s.epoch)
    (h : xv s' = { xv s with attrs := upd s.attrs (s.lastNonce + 1) (some m) }) : XInv s' := by
  unfold XInv; rw [h]; exact XV.Ok.create hX _ ha he

theorem XInv.of_xv {s s' : St} (hX : XInv s) (h : xv s' = xv s) : XInv s' := by
  unfold XInv; rw [h]; exact hX

theorem enterCore_xinv {s s' : St} {caller orig tokenTo amt : Nat} {extra : List (Nat × Nat)} {o : Out}
    (hX : XInv s) (h : enterCore s caller orig tokenTo amt extra = some (s', o)) : XInv s' := by
  obtain ⟨h', t, boosted, ut, merged, W, e, x⟩ := enterCore_effect h
  obtain ⟨g, rfl⟩ := updateEnergyAndProgress_spec x.tail
  exact hX.minted x.amt (mergeParts_epoch extra s.epoch x.merge (Nat.le_refl _) fun n att hn => (hX.1 n att hn).2) rfl

theorem claimCore_xinv {s s' : St} {caller orig : Nat} {pays : List (Nat × Nat)} {cmp : Bool} {o : Out}
    (hX : XInv s) (h : claimCore s caller orig pays cmp = some (s', o)) : XInv s' := by
  obtain ⟨n1, a1, at1, part, h', t, boosted, ut, merged, W, B, R, x⟩ := claimCore_effect h
  obtain ⟨-, e, w', rfl⟩ := claimTail_flat x.tail
  refine hX.minted x.amt (mergeParts_epoch _ s.epoch x.merge ?_ fun n att hn => (hX.1 n att hn).2) rfl
  cases cmp
  · exact (hX.1 n1 at1 x.attr).2
  · exact Nat.le_refl _

theorem exitFarm_xv {s s' : St} {caller : Nat} {opt : Option Nat} {n a : Nat} {o : Out}
    (h : exitFarm s caller opt n a = some (s', o)) : xv s' = xv s := by
  obtain ⟨orig, att, h', t, boosted, W, pen, e, B, x⟩ := exitFarm_effect h
  obtain ⟨g, rfl⟩ := clearUserEnergyIfNeeded_spec x.tail
  rfl

theorem mergeFarmTokens_xinv {s s' : St} {caller : Nat} {opt : Option Nat} {pays : List (Nat × Nat)}
    {o : Out} (hX : XInv s) (h : mergeFarmTokens s caller opt pays = some (s', o)) : XInv s' := by
  obtain ⟨orig, h', t, boosted, ut, merged, e, x⟩ := mergeFarmTokens_effect h
  obtain rfl := x.state
  have he : merged.epoch ≤ s.epoch := mergeAll_epoch s.epoch x.merge fun n att hn => (hX.1 n att hn).2
  exact hX.minted (m := { merged with owner := orig }) x.amt he rfl

theorem claimBoostedRewards_xv {s s' : St} {caller : Nat} {optUser : Option Nat} {o : Out}
    (h : claimBoostedRewards s caller optUser = some (s', o)) : xv s' = xv s := by
  obtain ⟨t, boosted, W, e, x⟩ := claimBoostedRewards_effect h
  obtain rfl := x.state
  rfl

theorem init_xinv (kind : Kind) (sameTok : Bool) (dsc perBlock : Nat) (produce : Bool)
    (users : List Nat) (e0 : Nat) : XInv (init kind sameTok dsc perBlock produce users e0) := by
  refine ⟨fun n att h => ?_, ?_, rfl⟩
  · cases h
  · show 100 ≤ 10000
    omega

theorem step_xinv {s s' : St} {op : Op} {o : Out} (hX : XInv s) (h : step s op = some (s', o)) :
    XInv s' := by
  cases step_step h with
  | enter _ _ h => exact enterCore_xinv hX h
  | claim _ _ _ h => exact claimCore_xinv hX h
  | exit _ _ h => exact hX.of_xv (exitFarm_xv h)
  | merge _ _ h => exact mergeFarmTokens_xinv hX h
  | claimBoosted _ _ h => exact hX.of_xv (claimBoostedRewards_xv h)
  | updateEnergy _ _ h =>
    obtain ⟨_, rfl⟩ := updateEnergyForUser_spec h
    exact hX
  | transfer _ _ _ _ h =>
    obtain ⟨_, _, _, _, _, _, rfl⟩ := transfer_some h
    exact hX
  | settled _ _ h1 _ e => subst e; exact hX.of_xv (settle_xv h1 : xv _ = xv s)
  | startProduce _ _ _ _ e | setFactors _ _ _ _ _ _ e => subst e; exact hX
  | collect _ _ _ _ e =>
    subst e
    split
    · exact hX
    · exact hX
  | advance _ _ _ he e =>
    subst e
    exact ⟨fun n att hn => ⟨(hX.1 n att hn).1, Nat.le_trans (hX.1 n att hn).2 he⟩, hX.2.1, hX.2.2⟩
  | config _ _ e hp =>
    subst e
    refine ⟨hX.1, ?_, hX.2.2⟩
    rcases hp with e | hp
    · exact e ▸ hX.2.1
    · exact Nat.le_of_lt hp

theorem run_xinv (ops : List Op) {s : St} (hX : XInv s) : XInv (run s ops) :=
  run_induction ops hX step_xinv

theorem generate_ok {s : St} (c : Cache) (hT : s.firstWeekStart ≤ s.epoch) (hp : s.pct ≤ MAXPCT) :
    ∃ s1 c1, generate s c = some (s1, c1) :=
  ⟨_, _, generate_of_ok ⟨cutOf_le s hp, fun _ => week_of_time hT⟩ c⟩

theorem intoPart_ok {att : Attr} (a : Nat) (h : att.amt ≠ 0) : ∃ p, att.intoPart a = some p := by
  unfold Attr.intoPart
  split
  · exact ⟨_, rfl⟩
  · exact ⟨{ att with comp := att.comp * a / att.amt, amt := a }, by simp [req, h]⟩

theorem exitPenalty_ok {s : St} (amt e : Nat) (he : e ≤ s.epoch) (hp : s.penaltyPct ≤ MAXPCT) :
    ∃ pen, exitPenalty s amt e = some pen ∧ pen ≤ amt := by
  unfold exitPenalty
  simp only [Option.bind_eq_bind, sub?_pos he, Option.bind_some]
  split
  · exact ⟨0, rfl, Nat.zero_le _⟩
  · exact ⟨_, rfl, pct_div_le hp⟩

theorem lockVirtual_ok {s : St} (u amount : Nat) (hl : s.lockEpochs = 360) :
    ∃ s', lockVirtual s u amount = some s' := by
  unfold lockVirtual
  have hE : EPOCHS_PER_MONTH = 30 := rfl
  have : s.epoch < s.epoch + s.lockEpochs - (s.epoch + s.lockEpochs) % EPOCHS_PER_MONTH := by
    rw [hl, hE]; omega
  simp only [Option.bind_eq_bind, req, this, if_true, Option.bind_some, Option.pure_def]
  exact ⟨_, rfl⟩

theorem payReward_ok {s : St} (u base boosted : Nat)
    (hbal : s.kind = .mint → base + boosted ≤ s.balReward) (hl : s.lockEpochs = 360) :
    ∃ s', payReward s u base boosted = some s' := by
  unfold payReward
  simp only [Option.bind_eq_bind, Option.pure_def]
  split
  · exact ⟨_, rfl⟩
  · cases hk : s.kind with
    | mint =>
      simp only [sub?_pos (hbal hk), Option.bind_some]
      exact ⟨_, rfl⟩
    | noMint =>
      simp only
      exact lockVirtual_ok u (base + boosted) hl

theorem setFarmSupplyWeek_ok {s : St} {W : Nat} (v : Nat) (hW : s.week = some W) :
    ∃ s', setFarmSupplyWeek s v = some s' := by
  simp only [setFarmSupplyWeek, hW, Option.bind_eq_bind, Option.bind_some, Option.pure_def]
  exact ⟨_, rfl⟩

theorem removeFarming_ok {s : St} {a : Nat} (p : Nat) (h : a ≤ s.balFarming) :
    ∃ s', removeFarming s a p = some s' :=
  ⟨_, by unfold removeFarming; rw [sub?_pos h]; rfl⟩

theorem takePayments_single {s : St} {u n a : Nat} (ha : a ≠ 0) (hs : (s.attrs n).isSome)
    (hle : a ≤ s.hold u n) :
    takePayments s u [(n, a)] = some { s with hold := upd s.hold u (upd (s.hold u) n (s.hold u n - a)) } := by
  simp [takePayments, req, sub?, ha, hs, hle]

theorem reachable_xinv (kind : Kind) (sameTok : Bool) (dsc perBlock : Nat) (produce : Bool)
    (users : List Nat) (e0 : Nat) (ops : List Op) :
    XInv (run (init kind sameTok dsc perBlock produce users e0) ops) :=
  run_xinv ops (init_xinv kind sameTok dsc perBlock produce users e0)

end Mx.Farm
