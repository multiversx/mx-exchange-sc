/-
  Fees collector: the PAID LOG of a history — one entry `(user, week, token, amount)` per payment,
  read off the successful claim operations (who claimed: the operation's original caller; what was
  paid for which week and token: the delta of the per-week payment ledger over the frozen entries
  of that week).

  Here the definitions and what ONE operation logs; the amount formula per entry and the
  history-level facts (no key twice, log = ledger) are in Lemmas/FeesLogRun.lean.
-/
import MxModel.Lemmas.FeesLedger

namespace Mx.Fees

open Mx.Weekly

theorem Step.paid {s s' : St} {op : Op} (h : Step s op s') :
    (∃ u o, claimUser op = some u ∧ claimCore s u = some (s', o)) ∨
    (claimUser op = none ∧ s'.a.paid = s.a.paid) := by
  cases h with
  | claim hu hc => exact Or.inl ⟨_, _, hu, hc⟩
  | updateEnergy _ => exact Or.inr ⟨rfl, rfl⟩
  | deposit _ => exact Or.inr ⟨rfl, rfl⟩
  | setPerBlock =>
    obtain ⟨acc, l, e⟩ := accumulateAdditional_frame s (curWeek s)
    rw [e]
    exact Or.inr ⟨rfl, rfl⟩
  | quiet hq q => exact Or.inr ⟨claimUser_quiet hq, q.paid⟩

/-- one payment: `user` received `amount` of token `tok` for week `week` -/
structure Entry where
  user : Nat
  week : Nat
  tok : Tok
  amount : Nat
  deriving DecidableEq, Repr

/-- the payments of one successful claim of `u` (`s` before, `s'` after): for every completed
    week and every entry of the week's frozen total rewards, the growth of the week's payment
    ledger in that token, when there is one -/
def entriesOf (u : Nat) (s s' : St) : List Entry :=
  (List.range (curWeek s)).flatMap fun w =>
    (s'.w.totalRewards w).filterMap fun p =>
      if s'.a.paid w p.1 ≠ s.a.paid w p.1 then
        some ⟨u, w, p.1, s'.a.paid w p.1 - s.a.paid w p.1⟩
      else none

/-- the log entries produced by one operation (nothing unless it is a successful claim) -/
def stepLog (s : St) (op : Op) : List Entry :=
  match claimUser op, step s op with
  | some u, some r => entriesOf u s r.1
  | _, _ => []

/-- the paid log of a history started in `s` -/
def paidLog (s : St) : List Op → List Entry
  | [] => []
  | op :: ops => stepLog s op ++ paidLog (next s op) ops

theorem mem_entriesOf {u : Nat} {s s' : St} {e : Entry} : e ∈ entriesOf u s s' ↔
    e.user = u ∧ e.week < curWeek s ∧ s'.a.paid e.week e.tok ≠ s.a.paid e.week e.tok ∧
    e.amount = s'.a.paid e.week e.tok - s.a.paid e.week e.tok ∧
    ∃ total, (e.tok, total) ∈ s'.w.totalRewards e.week := by
  simp only [entriesOf, List.mem_flatMap, List.mem_range, List.mem_filterMap]
  constructor
  · rintro ⟨w, hw, p, hp, hsome⟩
    split at hsome
    · rename_i hne
      cases hsome
      exact ⟨rfl, hw, hne, rfl, p.2, hp⟩
    · cases hsome
  · rintro ⟨rfl, hw, hne, hamt, total, hp⟩
    refine ⟨e.week, hw, (e.tok, total), hp, ?_⟩
    rw [if_pos hne, ← hamt]

theorem entriesOf_self (u : Nat) (s : St) : entriesOf u s s = [] := by
  simp [entriesOf]

/-- the log of a claim operation: its entries (none when it fails, since then nothing moves) -/
theorem stepLog_of_claim {s : St} {op : Op} {u : Nat} (hu : claimUser op = some u) :
    stepLog s op = entriesOf u s (next s op) := by
  unfold stepLog next
  rw [hu]
  cases step s op with
  | none => exact (entriesOf_self u s).symm
  | some r => rfl

theorem stepLog_of_not_claim {s : St} {op : Op} (h : claimUser op = none) : stepLog s op = [] := by
  unfold stepLog; rw [h]

theorem stepLog_of_none {s : St} {op : Op} (h : step s op = none) : stepLog s op = [] := by
  cases hu : claimUser op with
  | none => exact stepLog_of_not_claim hu
  | some u => rw [stepLog_of_claim hu, next_of_none h, entriesOf_self]

theorem stepLog_cases {s : St} {op : Op} {e : Entry} (h : e ∈ stepLog s op) :
    ∃ u o, claimUser op = some u ∧ claimCore s u = some (next s op, o) ∧
      e ∈ entriesOf u s (next s op) := by
  cases hu : claimUser op with
  | none => rw [stepLog_of_not_claim hu] at h; cases h
  | some u =>
    rw [stepLog_of_claim hu] at h
    rcases next_cases s op with ⟨_, e0⟩ | ⟨_, hst⟩
    · rw [e0, entriesOf_self] at h; cases h
    · rcases hst.paid with ⟨u', o, hu', hc⟩ | ⟨hn, _⟩
      · rw [hu] at hu'; cases hu'
        exact ⟨u, o, rfl, hc, h⟩
      · rw [hu] at hn; cases hn

theorem stepLog_window {s : St} {op : Op} {e : Entry} (h : e ∈ stepLog s op) :
    claimUser op = some e.user ∧ curWeek s ≤ e.week + 4 ∧ e.week < curWeek s ∧
    ∃ p, s.w.progress e.user = some p ∧ p.week ≤ e.week := by
  obtain ⟨u, o, hu, hc, hm⟩ := stepLog_cases h
  obtain ⟨heu, _, hne, _, _⟩ := mem_entriesOf.mp hm
  subst heu
  obtain ⟨_, _, _, k⟩ := claimCore_spec hc
  obtain ⟨h1, h2, hp⟩ := (claimCore_once k.week hc).2.2 e.week e.tok hne
  exact ⟨hu, h1, h2, hp⟩

/-- what the payments of one `claim_single` are, as a function of the frozen list after it -/
def paysFor (lst : List (Tok × Nat)) (e E : Nat) : List (Tok × Nat) :=
  if e = 0 ∨ E = 0 then [] else sharesOf lst e E

/-- the frozen list is read AFTER the call (`g'`): the first claim of a week freezes it -/
theorem feesRewards_amounts {g g' : Weekly.St} {a a' : Acc} {week e E : Nat} {r : List (Tok × Nat)}
    (h : feesRewards g a week e E = some (g', a', r)) (t : Tok) :
    a'.paid week t = a.paid week t + amountOf t (paysFor (g'.totalRewards week) e E) := by
  rcases feesRewards_spec h with ⟨hz, _, rfl, _⟩ | ⟨he, hE, hrr, _, _, _, hpd, _⟩
  · simp [paysFor, hz]
  · rw [hpd week t, if_pos rfl, paysFor, if_neg (fun h => h.elim he hE), hrr]

theorem amountOf_paysFor (c : Tok → Nat) (e E : Nat) (t : Tok) (lst : List (Tok × Nat))
    (hnd : (lst.map Prod.fst).Nodup) (hc : ∀ p ∈ lst, p.2 = c p.1) :
    amountOf t (paysFor lst e E) = if t ∈ lst.map Prod.fst then share (c t) e E else 0 := by
  unfold paysFor
  split
  · rename_i hz
    rcases hz with hz | hz <;> subst hz <;> simp
  · exact amountOf_sharesOf_eq c e E t lst hnd hc

end Mx.Fees
