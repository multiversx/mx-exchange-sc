/-
  Telescoping along the ring (any two retained observations differ by the sum of the start-of-round
  reserves of the rounds between them), and the translation between 1-based physical indices (`nth`) and
  positions in the logical order (`pos`).
-/
import MxModel.Lemmas.SafePriceSum
import MxModel.Lemmas.SafePriceRing
import MxModel.Lemmas.SafePriceSearch

namespace Mx.SafePrice
open Mx Mx.Pair

def l1 (log : Log) : Nat → Nat := fun k => (log k).r1
def l2 (log : Log) : Nat → Nat := fun k => (log k).r2
def lS (log : Log) : Nat → Nat := fun k => (log k).S

/-- `b` is `a` plus everything that happened in the rounds `(a.round, b.round]` -/
structure Tele (log : Log) (a b : Obs) : Prop where
  le : a.round ≤ b.round
  w : b.w = a.w + (b.round - a.round)
  acc1 : b.acc1 = a.acc1 + rsum (l1 log) a.round b.round
  acc2 : b.acc2 = a.acc2 + rsum (l2 log) a.round b.round
  accS : b.accS = a.accS + rsum (lS log) a.round b.round
  pos : ∀ k, a.round < k → k ≤ b.round → 0 < (log k).r1 ∧ 0 < (log k).r2 ∧ 0 < (log k).S

theorem Tele.refl (log : Log) (a : Obs) : Tele log a a :=
  ⟨Nat.le_refl _, by omega, by simp [rsum_of_le], by simp [rsum_of_le], by simp [rsum_of_le],
   fun k h1 h2 => by omega⟩

theorem Tele.trans {log : Log} {a b c : Obs} (h1 : Tele log a b) (h2 : Tele log b c) :
    Tele log a c := by
  have hab := h1.le
  have hbc := h2.le
  refine ⟨Nat.le_trans hab hbc, ?_, ?_, ?_, ?_, fun k k1 k2 => ?_⟩
  · rw [h2.w, h1.w]; omega
  · rw [h2.acc1, h1.acc1, rsum_split (l1 log) hab hbc, Nat.add_assoc]
  · rw [h2.acc2, h1.acc2, rsum_split (l2 log) hab hbc, Nat.add_assoc]
  · rw [h2.accS, h1.accS, rsum_split (lS log) hab hbc, Nat.add_assoc]
  · by_cases hk : k ≤ b.round
    · exact h1.pos k k1 hk
    · exact h2.pos k (Nat.lt_of_not_le hk) k2

theorem Link.const {log : Log} {a b : Obs} (h : Link log a b) :
    ∀ k, a.round < k → k ≤ b.round →
      (log k).r1 = (log b.round).r1 ∧ (log k).r2 = (log b.round).r2 ∧ (log k).S = (log b.round).S := by
  obtain ⟨h1, _, h3⟩ := h
  intro k k1 k2
  obtain ⟨_, _, _, e1, e2, e3⟩ := h3 k k1 k2
  obtain ⟨_, _, _, f1, f2, f3⟩ := h3 b.round h1 (Nat.le_refl _)
  have hg : 0 < b.round - a.round := Nat.sub_pos_of_lt h1
  exact ⟨Nat.eq_of_mul_eq_mul_left hg (Nat.add_left_cancel (e1.symm.trans f1)),
    Nat.eq_of_mul_eq_mul_left hg (Nat.add_left_cancel (e2.symm.trans f2)),
    Nat.eq_of_mul_eq_mul_left hg (Nat.add_left_cancel (e3.symm.trans f3))⟩

theorem Link.tele {log : Log} {a b : Obs} (h : Link log a b) : Tele log a b := by
  have hc := h.const
  obtain ⟨h1, h2, h3⟩ := h
  obtain ⟨_, _, _, f1, f2, f3⟩ := h3 b.round h1 (Nat.le_refl _)
  refine ⟨Nat.le_of_lt h1, h2, ?_, ?_, ?_, fun k k1 k2 => ?_⟩
  · rw [rsum_const (l1 log) (c := (log b.round).r1) (fun k k1 k2 => (hc k k1 k2).1)]; exact f1
  · rw [rsum_const (l2 log) (c := (log b.round).r2) (fun k k1 k2 => (hc k k1 k2).2.1)]; exact f2
  · rw [rsum_const (lS log) (c := (log b.round).S) (fun k k1 k2 => (hc k k1 k2).2.2)]; exact f3
  · obtain ⟨p1, p2, p3, _⟩ := h3 k k1 k2
    exact ⟨p1, p2, p3⟩

def TeleLt (log : Log) (a b : Obs) : Prop := Tele log a b ∧ a.round < b.round

theorem linked_pairwise {log : Log} : ∀ {l : List Obs}, Linked log l → l.Pairwise (TeleLt log)
  | [], _ => List.Pairwise.nil
  | [_], _ => by simp
  | a :: b :: t, h => by
    have ih0 := linked_pairwise (l := b :: t) h.2
    have ih := List.pairwise_cons.mp ih0
    rw [List.pairwise_cons]
    refine ⟨fun x hx => ?_, ih0⟩
    have hab : TeleLt log a b := ⟨h.1.tele, h.1.1⟩
    rcases List.mem_cons.mp hx with rfl | hx
    · exact hab
    · have hbx := ih.1 x hx
      exact ⟨hab.1.trans hbx.1, by have := hab.2; have := hbx.2; omega⟩

theorem linked_getElem {log : Log} : ∀ {l : List Obs}, Linked log l →
    ∀ (i : Nat) (h : i + 1 < l.length), Link log (l[i]'(by omega)) l[i + 1]
  | [], _, i, h => by simp at h
  | [_], _, i, h => by simp at h
  | a :: b :: t, hl, 0, _ => hl.1
  | a :: b :: t, hl, i + 1, h => by
    have := linked_getElem (l := b :: t) hl.2 i (by simpa using h)
    simpa using this

/-- logical position (0 = oldest) of the 1-based physical index `i` -/
def pos (p : SP) (i : Nat) : Nat :=
  if i ≤ p.cur then p.obs.length - p.cur + (i - 1) else i - p.cur - 1

theorem logical_length (p : SP) (h : p.cur ≤ p.obs.length) : (logical p).length = p.obs.length := by
  simp [logical]; omega

theorem nth_eq_getElem {p : SP} {i : Nat} (h1 : 1 ≤ i) (h2 : i ≤ p.obs.length) :
    nth p i = p.obs[i - 1]'(by omega) := by
  unfold nth
  rw [List.getD_eq_getElem?_getD, List.getElem?_eq_getElem (by omega)]
  rfl

theorem pos_lt_length {p : SP} (hc : p.cur ≤ p.obs.length) {i : Nat} (h1 : 1 ≤ i)
    (h2 : i ≤ p.obs.length) : pos p i < (logical p).length := by
  rw [logical_length p hc]; unfold pos; split <;> omega

theorem logical_getElem {p : SP} (hc : p.cur ≤ p.obs.length) {i : Nat} (h1 : 1 ≤ i)
    (h2 : i ≤ p.obs.length) :
    (logical p)[pos p i]'(pos_lt_length hc h1 h2) = nth p i := by
  rw [nth_eq_getElem h1 h2]
  unfold logical
  by_cases hi : i ≤ p.cur
  · have hp : pos p i = p.obs.length - p.cur + (i - 1) := by simp [pos, hi]
    simp only [hp]
    rw [List.getElem_append_right (by simp)]
    simp
  · have hp : pos p i = i - p.cur - 1 := by simp [pos, hi]
    simp only [hp]
    rw [List.getElem_append_left (by simp; omega)]
    simp only [List.getElem_drop]
    congr 1
    omega

theorem ring_pairwise {R : Obs → Obs → Prop} {p : SP} (hc : p.cur ≤ p.obs.length)
    (hl : (logical p).Pairwise R)
    {i j : Nat} (i1 : 1 ≤ i) (i2 : i ≤ p.obs.length) (j1 : 1 ≤ j) (j2 : j ≤ p.obs.length)
    (h : pos p i < pos p j) : R (nth p i) (nth p j) := by
  have hp := List.pairwise_iff_getElem.mp hl (pos p i) (pos p j)
    (pos_lt_length hc i1 i2) (pos_lt_length hc j1 j2) h
  rwa [logical_getElem hc i1 i2, logical_getElem hc j1 j2] at hp

theorem ring_tele {log : Log} {p : SP} (hc : p.cur ≤ p.obs.length) (hl : Linked log (logical p))
    {i j : Nat} (i1 : 1 ≤ i) (i2 : i ≤ p.obs.length) (j1 : 1 ≤ j) (j2 : j ≤ p.obs.length)
    (h : pos p i < pos p j) : TeleLt log (nth p i) (nth p j) :=
  ring_pairwise hc (linked_pairwise hl) i1 i2 j1 j2 h

theorem nth_eq_of_pos {p : SP} (hc : p.cur ≤ p.obs.length)
    {i j : Nat} (i1 : 1 ≤ i) (i2 : i ≤ p.obs.length) (j1 : 1 ≤ j) (j2 : j ≤ p.obs.length)
    (h : pos p i = pos p j) : nth p i = nth p j := by
  have e1 := logical_getElem hc i1 i2
  have e2 := logical_getElem hc j1 j2
  simp only [h] at e1
  rw [← e1, ← e2]

theorem ring_link {log : Log} {p : SP} (hc : p.cur ≤ p.obs.length) (hl : Linked log (logical p))
    {i j : Nat} (i1 : 1 ≤ i) (i2 : i ≤ p.obs.length) (j1 : 1 ≤ j) (j2 : j ≤ p.obs.length)
    (h : pos p i + 1 = pos p j) : Link log (nth p i) (nth p j) := by
  have hj := pos_lt_length hc j1 j2
  have hp := linked_getElem hl (pos p i) (by omega)
  simp only [h] at hp
  rwa [logical_getElem hc i1 i2, logical_getElem hc j1 j2] at hp

end Mx.SafePrice
