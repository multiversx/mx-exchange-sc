/-
  The weekly-rewards module embedded in the farm keeps its global energy invariant (`Weekly.GInv`)
  and the all-weeks energy bound (`Weekly.EB`) in every reachable farm state:

      totalEnergyForWeek(w) = 0  ∨  Σ_{u : progress(u).week ≤ w} energy of u decayed to w ≤ totalEnergyForWeek(w)

  i.e. the ENERGY half (`Σ e ≤ E`) of the week budget (Lemmas/FarmWeekSafe.lean) holds for every
  week and every reachable state.  The invariants are those of Lemmas/WeeklyGlobal.lean /
  WeeklyHist.lean, kept by every `Weekly.UserStep` (Lemmas/WeeklyInv.lean); only two moves touch
  `w`: the boosted claim (`claim_multi`) and the other calls into the weekly module (`Weekly.Touch`).
-/
import MxModel.Lemmas.FarmPool
import MxModel.Lemmas.WeeklyHist

namespace Mx.Farm

open Mx.Weekly (Energy)

def WInv (s : St) : Prop := Weekly.GInv s.w ∧ Weekly.EB s.w

theorem WInv.of_w {s s' : St} (h : WInv s) (e : s'.w = s.w) : WInv s' := by
  unfold WInv; rw [e]; exact h

theorem week_pos {s : St} {W : Nat} (h : s.week = some W) : 1 ≤ W := by
  have := (week_eq_some.mp h).2
  omega

theorem WInv.step {s : St} {W u : Nat} {cur : Energy} {g : Weekly.St} (hI : WInv s)
    (hW : s.week = some W) (h : Weekly.UserStep s.w g u W cur) : WInv { s with w := g } :=
  ⟨h.ginv (week_pos hW) hI.1, h.eb (week_pos hW) hI.1 hI.2⟩

theorem claimBoostedYields_winv {s s' : St} {u r : Nat} (hI : WInv s)
    (h : claimBoostedYields s u = some (s', r)) : WInv s' := by
  obtain ⟨W, cur, hW, hs⟩ := claimBoostedYields_userStep h
  obtain ⟨_, _, rfl⟩ := claimBoostedYields_struct h
  exact (hI.step hW hs).of_w rfl

theorem Move.winv {v v' : WkV} {d d' : Nat} (m : Move v d v' d')
    (hI : Weekly.GInv v.w ∧ Weekly.EB v.w) : Weekly.GInv v'.w ∧ Weekly.EB v'.w := by
  cases m with
  | claim hv h => subst hv; exact claimBoostedYields_winv hI h
  | touch hW h =>
    have h1 : 1 ≤ _ := (Weekly.weekOf_eq_some.mp hW).2 ▸ Nat.le_add_left 1 _
    exact ⟨h.userStep.ginv h1 hI.1, h.userStep.eb h1 hI.1 hI.2⟩
  | _ => exact hI

theorem init_winv (kind : Kind) (sameTok : Bool) (dsc perBlock : Nat) (produce : Bool)
    (users : List Nat) (e0 : Nat) : WInv (init kind sameTok dsc perBlock produce users e0) :=
  ⟨Weekly.GInv.init, Weekly.EB.init⟩

theorem step_winv {s s' : St} {op : Op} {o : Out} (hI : WInv s) (h : step s op = some (s', o)) :
    WInv s' := by
  rcases step_path h with ⟨b, e, _, rfl⟩ | ⟨_, _, _, _, _, _, e⟩ | p
  · exact hI
  · exact hI.of_w (congrArg WkV.w e)
  · exact p.inv (P := fun v _ => Weekly.GInv v.w ∧ Weekly.EB v.w) Move.winv hI

theorem run_winv (ops : List Op) {s : St} (hI : WInv s) : WInv (run s ops) :=
  run_induction ops hI step_winv

theorem reachable_winv (kind : Kind) (sameTok : Bool) (dsc perBlock : Nat) (produce : Bool)
    (users : List Nat) (e0 : Nat) (ops : List Op) :
    WInv (run (init kind sameTok dsc perBlock produce users e0) ops) :=
  run_winv ops (init_winv kind sameTok dsc perBlock produce users e0)

end Mx.Farm
