/-
  Price discovery: the inductive invariant (tracked = real + paid out, supply = circulating +
  redeemed, payouts bounded by the pool) and its preservation by every operation.  Before the redeem
  phase nothing has been redeemed or paid out and the invariant of a side is two equations
  (`SideInv.early` / `.of_early`), so `deposit` and `withdraw` only check those (`Inv.setSide_early`);
  `redeem` is the one operation that meets the pro-rata clause (`prorata_fits`).
-/
import MxModel.Lemmas.PdPhase
import MxModel.Lemmas.PdSpec

namespace Mx.PD

/-- sum over the user accounts `1 … n` -/
def sumU : Nat → (Nat → Nat) → Nat
  | 0, _ => 0
  | n + 1, f => sumU n f + f (n + 1)

theorem sumU_upd_out (n : Nat) (f : Nat → Nat) {c : Nat} (v : Nat) (h : n < c) :
    sumU n (upd f c v) = sumU n f := by
  induction n with
  | zero => rfl
  | succ n ih =>
    simp only [sumU]
    rw [ih (by omega), upd_ne f v (by omega)]

theorem sumU_upd (n : Nat) (f : Nat → Nat) {c : Nat} (v : Nat) (h1 : 1 ≤ c) (h2 : c ≤ n) :
    sumU n (upd f c v) + f c = sumU n f + v := by
  induction n with
  | zero => omega
  | succ n ih =>
    simp only [sumU]
    by_cases hc : c = n + 1
    · subst hc
      rw [sumU_upd_out n f v (by omega), upd_same]
      omega
    · have := ih (by omega)
      rw [upd_ne f v (by omega : n + 1 ≠ c)]
      omega

theorem le_sumU (n : Nat) (f : Nat → Nat) {c : Nat} (h1 : 1 ≤ c) (h2 : c ≤ n) : f c ≤ sumU n f := by
  have := sumU_upd n f 0 h1 h2
  omega

/-- per side `t` (redeem tokens of nonce `t`, pool of token `t`) -/
structure SideInv (s : St) (t : Tok) : Prop where
  /-- tracked pool = real holdings + what `redeem` paid out of it -/
  real_paid : (s.side t).real + (s.side t).paid = (s.side t).bal
  /-- reported supply = redeem tokens in users' hands + those handed in through `redeem` -/
  sup_eq : sumU s.n (s.side t).h + (s.side t).red = (s.side t).sup
  /-- the opposite token is paid out pro rata to the redeem tokens handed in -/
  paid_prod : (s.side t.other).paid * (s.side t).sup ≤ (s.side t.other).bal * (s.side t).red
  paid_zero : (s.side t).sup = 0 → (s.side t.other).paid = 0
  /-- nothing is redeemed or paid out before the redeem phase -/
  pre_redeem : s.block < s.cfg.e3 → (s.side t).red = 0 ∧ (s.side t).paid = 0

def Inv (s : St) : Prop := ∀ t, SideInv s t

theorem Inv.of_pair {s : St} (t : Tok) (h1 : SideInv s t) (h2 : SideInv s t.other) : Inv s := by
  intro t'
  by_cases ht : t' = t
  · rw [ht]; exact h1
  · rw [side_of_ne ht]; exact h2

theorem SideInv.early {s : St} {t : Tok} (i : SideInv s t) (hb : s.block < s.cfg.e3) :
    (s.side t).real = (s.side t).bal ∧ sumU s.n (s.side t).h = (s.side t).sup ∧
    (s.side t).red = 0 ∧ (s.side t).paid = 0 := by
  obtain ⟨r, p⟩ := i.pre_redeem hb
  have := i.real_paid
  have := i.sup_eq
  omega

theorem SideInv.of_early {s : St} {t : Tok}
    (h : (s.side t).real = (s.side t).bal ∧ sumU s.n (s.side t).h = (s.side t).sup ∧
      (s.side t).red = 0 ∧ (s.side t).paid = 0)
    (ho : (s.side t.other).paid = 0) : SideInv s t := by
  obtain ⟨hr, hs, r, p⟩ := h
  refine ⟨by omega, by omega, ?_, fun _ => ho, fun _ => ⟨r, p⟩⟩
  rw [ho, r]
  exact Nat.le_of_eq (Nat.zero_mul _)

theorem inv_init (cfg : Cfg) (n fL fA : Nat) : Inv (init cfg n fL fA) := by
  have hs : ∀ n : Nat, sumU n (fun _ => 0) = 0 := by
    intro n; induction n with
    | zero => rfl
    | succ n ih => simp [sumU, ih]
  exact fun t => .of_early (by cases t <;> exact ⟨rfl, hs n, rfl, rfl⟩) (by cases t <;> rfl)

theorem Inv.setSide_early {s : St} (hi : Inv s) (hb : s.block < s.cfg.e3) {t : Tok} {x : Side}
    (hx : x.real = x.bal ∧ sumU s.n x.h = x.sup ∧ x.red = 0 ∧ x.paid = 0) :
    Inv (s.setSide t x) := by
  have eo := (hi t.other).early hb
  refine Inv.of_pair t (.of_early ?_ ?_) (.of_early ?_ ?_) <;>
    simp only [side_setSide, side_setSide_other, other_other, setSide_n]
  · exact hx
  · exact eo.2.2.2
  · exact eo
  · exact hx.2.2.2

theorem deposit_inv {s s' : St} {c : Nat} {t : Tok} {amt : Nat} {o : Out} (hi : Inv s)
    (h : deposit s c t amt = some (s', o)) : Inv s' := by
  obtain ⟨p, d⟩ := deposit_spec h
  obtain rfl := d.state
  have hu := d.isUser
  have hw := d.w
  have hb : s.block < s.cfg.e3 := by
    have := (depositAllowed_iff _ _).1 d.allowed
    have := thresholds_le s.cfg
    omega
  obtain ⟨hr, hs, r, p⟩ := (hi t).early hb
  have hsum := sumU_upd s.n (s.side t).h ((s.side t).h c + amt) hu.1 hu.2
  refine hi.setSide_early hb ⟨?_, ?_, r, p⟩
  · simp only [depSide, hr]
  · simp only [depSide]; omega

theorem withdraw_inv {s s' : St} {c : Nat} {t : Tok} {amt : Nat} {o : Out} (hi : Inv s)
    (h : withdraw s c t amt = some (s', o)) : Inv s' := by
  obtain ⟨_, pen, w⟩ := withdraw_spec h
  obtain rfl := w.state
  have hh := w.h
  have hsup := w.sup
  have hb : s.block < s.cfg.e3 := ((withdrawAllowed_iff _ _).1 w.allowed).2
  obtain ⟨hr, hs, r, p⟩ := (hi t).early hb
  have hsum := sumU_upd s.n (s.side t).h ((s.side t).h c - amt) w.isUser.1 w.isUser.2
  refine hi.setSide_early hb ⟨?_, ?_, r, p⟩
  · simp only [wdSide, hr]
  · simp only [wdSide]; omega

theorem redeem_inv {s s' : St} {c : Nat} {t : Tok} {amt : Nat} {o : Out} (hi : Inv s)
    (h : redeem s c t amt = some (s', o)) : Inv s' := by
  obtain ⟨bought, r⟩ := redeem_spec h
  obtain rfl := r.state
  have hh := r.h
  have hreal := r.real
  have hb : s.cfg.e3 ≤ s.block := (redeemAllowed_iff _ _).1 r.allowed
  have it := hi t
  have io := hi t.other
  have hsum := sumU_upd s.n (s.side t).h ((s.side t).h c - amt) r.isUser.1 r.isUser.2
  have hdiv : bought * (s.side t).sup ≤ (s.side t.other).bal * amt := by
    rw [r.bought]; exact Nat.div_mul_le_self _ _
  refine Inv.of_pair t ⟨?_, ?_, ?_, ?_, ?_⟩ ⟨?_, ?_, ?_, ?_, ?_⟩ <;>
    simp only [side_setSide, side_other_setSide, setSide_n, setSide_block, setSide_cfg, rdSideX,
      rdSideY, other_other]
  · exact it.real_paid
  · have := it.sup_eq; omega
  · have := it.paid_prod
    rw [Nat.add_mul, Nat.mul_add]
    omega
  · exact fun h0 => absurd h0 r.sup_ne
  · intro; omega
  · have := io.real_paid; omega
  · exact io.sup_eq
  · have := io.paid_prod; rwa [other_other] at this
  · have := io.paid_zero; rwa [other_other] at this
  · intro; omega

theorem step_inv {s s' : St} {op : Op} {o : Out} (hi : Inv s) (h : step s op = some (s', o)) :
    Inv s' := by
  cases op with
  | deposit c t a => exact deposit_inv hi h
  | withdraw c t a => exact withdraw_inv hi h
  | redeem c t a => exact redeem_inv hi h
  | advance b =>
    obtain ⟨hb, rfl⟩ := step_advance h
    exact fun t => ⟨(hi t).real_paid, (hi t).sup_eq, (hi t).paid_prod, (hi t).paid_zero,
      fun hlt => (hi t).pre_redeem (Nat.lt_of_le_of_lt hb hlt)⟩
  | epoch e =>
    obtain ⟨_, rfl⟩ := step_epoch h
    exact fun t => ⟨(hi t).real_paid, (hi t).sup_eq, (hi t).paid_prod, (hi t).paid_zero,
      (hi t).pre_redeem⟩

theorem run_cons (s : St) (op : Op) (ops : List Op) :
    run s (op :: ops) = run (match step s op with | some (s', _) => s' | none => s) ops := rfl

theorem run_append (s : St) (a b : List Op) : run s (a ++ b) = run (run s a) b := by
  simp [run, List.foldl_append]

theorem run_ind {P : St → Prop}
    (hstep : ∀ {s s' : St} {op : Op} {o : Out}, P s → step s op = some (s', o) → P s')
    (ops : List Op) {s : St} (h : P s) : P (run s ops) := by
  induction ops generalizing s with
  | nil => exact h
  | cons op ops ih =>
    rw [run_cons]
    cases hst : step s op with
    | none => exact ih h
    | some r => exact ih (hstep h hst)

theorem run_inv (ops : List Op) {s : St} (hi : Inv s) : Inv (run s ops) :=
  run_ind step_inv ops hi

/-- pro-rata payouts fit into the pool: if `paid` was paid out for `red` of `sup` shares at no
    more than the pro-rata rate, the floor share of `amt` further ones is still there -/
theorem prorata_fits {bal paid sup red amt : Nat} (hs : sup ≠ 0) (h1 : amt + red ≤ sup)
    (h2 : paid * sup ≤ bal * red) : bal * amt / sup + paid ≤ bal := by
  have h3 : bal * amt / sup * sup ≤ bal * amt := Nat.div_mul_le_self _ _
  have h4 : (bal * amt / sup + paid) * sup ≤ bal * sup := by
    rw [Nat.add_mul]
    calc _ ≤ bal * amt + bal * red := Nat.add_le_add h3 h2
      _ = bal * (amt + red) := (Nat.mul_add _ _ _).symm
      _ ≤ _ := Nat.mul_le_mul_left _ h1
  exact Nat.le_of_mul_le_mul_right h4 (by omega)

theorem Inv.paid_le_bal {s : St} (hi : Inv s) (t : Tok) : (s.side t).paid ≤ (s.side t).bal := by
  have i := hi t.other
  have pz := i.paid_zero
  have pp := i.paid_prod
  rw [other_other] at pz pp
  by_cases h0 : (s.side t.other).sup = 0
  · have := pz h0; omega
  · have := prorata_fits (amt := 0) h0 (by have := i.sup_eq; omega) pp
    rwa [Nat.mul_zero, Nat.zero_div, Nat.zero_add] at this

/-- the `bought ≤ real` guard of `redeem` passes for every amount of redeem tokens users hold -/
theorem Inv.redeem_funded {s : St} (hi : Inv s) (t : Tok) {amt : Nat}
    (hamt : amt ≤ sumU s.n (s.side t).h) (hsup : (s.side t).sup ≠ 0) :
    (s.side t.other).bal * amt / (s.side t).sup ≤ (s.side t.other).real := by
  have i := hi t
  have := prorata_fits (amt := amt) hsup (by have := i.sup_eq; omega) i.paid_prod
  have := (hi t.other).real_paid
  omega

theorem step_cfg {s s' : St} {op : Op} {o : Out} (h : step s op = some (s', o)) :
    s'.cfg = s.cfg ∧ s'.n = s.n ∧ s.block ≤ s'.block ∧ s.epoch ≤ s'.epoch := by
  cases op with
  | deposit c t a =>
    obtain ⟨_, d⟩ := deposit_spec h
    obtain rfl := d.state
    simp
  | withdraw c t a =>
    obtain ⟨_, _, w⟩ := withdraw_spec h
    obtain rfl := w.state
    simp
  | redeem c t a =>
    obtain ⟨_, r⟩ := redeem_spec h
    obtain rfl := r.state
    simp
  | advance b =>
    obtain ⟨hb, rfl⟩ := step_advance h
    exact ⟨rfl, rfl, hb, Nat.le_refl _⟩
  | epoch e =>
    obtain ⟨he, rfl⟩ := step_epoch h
    exact ⟨rfl, rfl, Nat.le_refl _, he⟩

theorem run_cfg (ops : List Op) (s : St) :
    (run s ops).cfg = s.cfg ∧ (run s ops).n = s.n ∧ s.block ≤ (run s ops).block := by
  refine run_ind (P := fun s' => s'.cfg = s.cfg ∧ s'.n = s.n ∧ s.block ≤ s'.block)
    (fun h hst => ?_) ops ⟨rfl, rfl, Nat.le_refl _⟩
  have h1 := step_cfg hst
  exact ⟨h1.1.trans h.1, h1.2.1.trans h.2.1, Nat.le_trans h.2.2 h1.2.2.1⟩

theorem run_phase (ops : List Op) (s : St) :
    (run s ops).phase = s.cfg.phaseAt (run s ops).block := by
  show (run s ops).cfg.phaseAt _ = _
  rw [(run_cfg ops s).1]

/-- what operation `op` with result `o` paid out of pool `t` through `redeem` -/
def payoutOf (t : Tok) (op : Op) (o : Out) : Nat :=
  match op with
  | .redeem _ t' _ => if t'.other = t then o.v1 else 0
  | _ => 0

/-- total paid out of pool `t` by the successful `redeem` calls of a history -/
def payouts (t : Tok) : St → List Op → Nat
  | _, [] => 0
  | s, op :: ops =>
    match step s op with
    | some (s', o) => payoutOf t op o + payouts t s' ops
    | none => payouts t s ops

theorem step_paid {s s' : St} {op : Op} {o : Out} (h : step s op = some (s', o)) (t : Tok) :
    (s'.side t).paid = (s.side t).paid + payoutOf t op o := by
  cases op with
  | deposit c t1 a =>
    obtain ⟨_, d⟩ := deposit_spec h
    obtain rfl := d.state
    exact setSide_frame Side.paid (by rfl) t
  | withdraw c t1 a =>
    obtain ⟨_, _, w⟩ := withdraw_spec h
    obtain rfl := w.state
    exact setSide_frame Side.paid (by rfl) t
  | redeem c t1 a =>
    obtain ⟨bought, r⟩ := redeem_spec h
    obtain rfl := r.out
    obtain rfl := r.state
    simp only [payoutOf]
    by_cases ht : t = t1
    · rw [ht, if_neg (other_ne t1), side_other_setSide, side_setSide]; rfl
    · rw [side_of_ne ht, if_pos rfl, side_setSide]; rfl
  | advance b =>
    obtain ⟨_, rfl⟩ := step_advance h
    rfl
  | epoch e =>
    obtain ⟨_, rfl⟩ := step_epoch h
    rfl

theorem paid_eq_payouts (t : Tok) (ops : List Op) (s : St) :
    ((run s ops).side t).paid = (s.side t).paid + payouts t s ops := by
  induction ops generalizing s with
  | nil => rfl
  | cons op ops ih =>
    rw [run_cons]
    simp only [payouts]
    cases hst : step s op with
    | none => exact ih s
    | some r =>
      obtain ⟨s1, o⟩ := r
      simp only
      rw [ih s1, step_paid hst t]
      omega

end Mx.PD
