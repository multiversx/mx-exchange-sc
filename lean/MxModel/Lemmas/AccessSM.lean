/-
  Lemmas about the access-control state machines of Core/Access.lean (permission bit-set, pausable,
  sc-whitelist, permissions hub).  All four run a history in the same way — a failed operation is
  skipped — so what is said about histories rests on the two facts of `Run`: what every successful
  step preserves holds after every history (`Run.invariant`), and what holds after a history and did
  not hold before it was brought about by a successful step of that history (`Run.first`).
  Core Lean only.
-/
import MxModel.Core.Access

namespace Mx.Access

theorem setAt_same {α} (f : Addr → α) (a : Addr) (v : α) : setAt f a v a = v := by simp [setAt]
theorem setAt_other {α} (f : Addr → α) (a x : Addr) (v : α) (h : x ≠ a) : setAt f a v x = f x := by
  simp [setAt, h]

namespace Run
variable {σ ο : Type} {step : σ → ο → Option σ} {run : σ → List ο → σ}
  (hrun : ∀ s ops, run s ops = ops.foldl (fun s o => (step s o).getD s) s)
include hrun

theorem nil (s : σ) : run s [] = s := hrun s []

theorem cons (s : σ) (o : ο) (ops : List ο) :
    run s (o :: ops) = run ((step s o).getD s) ops := by
  simp only [hrun, List.foldl_cons]

theorem invariant {P : σ → Prop} (hstep : ∀ s o s', P s → step s o = some s' → P s') {s : σ} (h : P s)
    (ops : List ο) : P (run s ops) := by
  induction ops generalizing s with
  | nil => rw [nil hrun]; exact h
  | cons o ops ih =>
    rw [cons hrun]
    cases hst : step s o with
    | none => exact ih h
    | some s' => exact ih (hstep s o s' h hst)

theorem first {Q : σ → Prop} {s : σ} {ops : List ο} (h0 : ¬ Q s) (h : Q (run s ops)) :
    ∃ pre o post s', ops = pre ++ o :: post ∧ step (run s pre) o = some s' ∧ ¬ Q (run s pre) ∧ Q s' := by
  induction ops generalizing s with
  | nil => rw [nil hrun] at h; exact absurd h h0
  | cons o ops ih =>
    rw [cons hrun] at h
    by_cases hq : Q ((step s o).getD s)
    · cases hst : step s o with
      | none => rw [hst] at hq; exact absurd hq h0
      | some s1 =>
        rw [hst] at hq
        exact ⟨[], o, ops, s1, rfl, by rwa [nil hrun], by rwa [nil hrun], hq⟩
    · obtain ⟨pre, o', post, s', h1, h2, h3, h4⟩ := ih hq h
      exact ⟨o :: pre, o', post, s', by rw [h1]; rfl, by rwa [cons hrun], by rwa [cons hrun], h4⟩

end Run

theorem PermSt.run_def (s : PermSt) (ops : List PermOp) : s.run ops = ops.foldl (fun s o => (s.step o).getD s) s := by
  unfold PermSt.run; congr; funext s o; cases s.step o <;> rfl

theorem PermSt.step_some {s s' : PermSt} {o : PermOp} (h : s.step o = some s') :
    match o with
    | .addAdmin c a =>
        s.holds c Perm.OWNER = true ∧ { s with perms := setAt s.perms a ((s.perms a).union Perm.ADMIN) } = s'
    | .removeAdmin c a =>
        s.holds c Perm.OWNER = true ∧ { s with perms := setAt s.perms a ((s.perms a).diff Perm.ADMIN) } = s'
    | .addPause c a =>
        s.holds c Perm.OWNER = true ∧ { s with perms := setAt s.perms a ((s.perms a).union Perm.PAUSE) } = s'
    | .removePause c a =>
        s.holds c Perm.OWNER = true ∧ { s with perms := setAt s.perms a ((s.perms a).diff Perm.PAUSE) } = s'
    | .updateOwnerOrAdmin c prev =>
        c = s.scOwner ∧ { s with perms := setAt (setAt s.perms prev Perm.none) c (s.perms prev) } = s' := by
  cases o <;> simpa only [PermSt.step, Option.ite_none_right_eq_some, Option.some.injEq] using h

theorem PermSt.step_authority {s s' : PermSt} {o : PermOp} (h : s.step o = some s') :
    s.holds o.caller Perm.OWNER = true ∨ o.caller = s.scOwner := by
  cases o with
  | updateOwnerOrAdmin c p => exact Or.inr (PermSt.step_some h).1
  | _ => exact Or.inl (PermSt.step_some h).1

theorem PermSt.step_unauthorised {s s' : PermSt} {o : PermOp}
    (h : s.holds o.caller Perm.OWNER = false ∧ o.caller ≠ s.scOwner) : s.step o ≠ some s' := by
  intro hst
  rcases PermSt.step_authority hst with h1 | h1
  · rw [h.1] at h1; cases h1
  · exact h.2 h1

theorem PermSt.step_scOwner {s s' : PermSt} {o : PermOp} (h : s.step o = some s') : s'.scOwner = s.scOwner := by
  cases o <;> obtain ⟨_, rfl⟩ := PermSt.step_some h <;> rfl

theorem PermSt.run_changed {s : PermSt} {ops : List PermOp} (h : s.run ops ≠ s) :
    ∃ pre o post s', ops = pre ++ o :: post ∧ s.run pre = s ∧ s.step o = some s' := by
  obtain ⟨pre, o, post, s', h1, h2, h3, _⟩ := Run.first PermSt.run_def (Q := fun t : PermSt => t ≠ s) (fun h => h rfl) h
  have h3 : s.run pre = s := Classical.not_not.mp h3
  rw [h3] at h2
  exact ⟨pre, o, post, s', h1, h3, h2⟩

theorem PermSt.run_unauthorised (s : PermSt) (ops : List PermOp)
    (h : ∀ o ∈ ops, s.holds o.caller Perm.OWNER = false ∧ o.caller ≠ s.scOwner) : s.run ops = s := by
  by_cases hne : s.run ops = s
  · exact hne
  · obtain ⟨pre, o, post, s', rfl, _, hst⟩ := PermSt.run_changed hne
    exact absurd hst (PermSt.step_unauthorised (h o (List.mem_append_right _ (List.mem_cons_self ..))))

theorem PauseSt.run_def (s : PauseSt) (ops : List PauseOp) : s.run ops = ops.foldl (fun s o => (s.step o).getD s) s := by
  unfold PauseSt.run; congr; funext s o; cases s.step o <;> rfl

theorem PauseSt.step_some {s s' : PauseSt} {o : PauseOp} (h : s.step o = some s') :
    match o with
    | .pause c => s.perm.holds c Perm.PAUSE = true ∧ { s with state := .inactive } = s'
    | .resume c => s.perm.holds c Perm.PAUSE = true ∧ { s with state := .active } = s'
    | .setActiveNoSwaps c => s.perm.holds c Perm.OWNER = true ∧ { s with state := .partialActive } = s'
    | .perm o => ∃ p, s.perm.step o = some p ∧ { s with perm := p } = s' := by
  cases o <;>
    simpa only [PauseSt.step, Option.ite_none_right_eq_some, Option.some.injEq, Option.map_eq_some_iff] using h

theorem WlSt.run_def (s : WlSt) (ops : List WlOp) : s.run ops = ops.foldl (fun s o => (s.step o).getD s) s := by
  unfold WlSt.run; congr; funext s o; cases s.step o <;> rfl

theorem WlSt.step_some {s s' : WlSt} {o : WlOp} (h : s.step o = some s') :
    match o with
    | .add c a => (c = s.scOwner ∧ a ∉ s.members) ∧ { s with members := a :: s.members } = s'
    | .remove c a => (c = s.scOwner ∧ a ∈ s.members) ∧ { s with members := s.members.filter (· ≠ a) } = s' := by
  cases o <;> simpa only [WlSt.step, Option.ite_none_right_eq_some, Option.some.injEq] using h

theorem WlSt.run_scOwner (s : WlSt) (ops : List WlOp) : (s.run ops).scOwner = s.scOwner :=
  Run.invariant WlSt.run_def (P := fun t : WlSt => t.scOwner = s.scOwner)
    (fun _ o _ hP h => by cases o <;> obtain ⟨_, rfl⟩ := WlSt.step_some h <;> exact hP) rfl ops

theorem WlSt.remove_effective {s s' : WlSt} {c a : Addr} (h : s.step (.remove c a) = some s') : a ∉ s'.members := by
  obtain ⟨_, rfl⟩ := WlSt.step_some h
  simp [List.mem_filter]

theorem HubSt.run_def (s : HubSt) (ops : List HubOp) : s.run ops = ops.foldl (fun s o => (s.step o).getD s) s := by
  unfold HubSt.run; congr; funext s o; cases s.step o <;> rfl

def HubOp.caller : HubOp → Addr
  | .whitelist c _ | .removeWhitelist c _ | .blacklist c _ | .removeBlacklist c _ => c

theorem HubSt.step_some {s s' : HubSt} {o : HubOp} (h : s.step o = some s') :
    match o with
    | .whitelist c a => a ∉ s.wl c ∧ { s with wl := setAt s.wl c (a :: s.wl c) } = s'
    | .removeWhitelist c a => a ∈ s.wl c ∧ { s with wl := setAt s.wl c ((s.wl c).filter (· ≠ a)) } = s'
    | .blacklist c a => c = s.scOwner ∧ { s with bl := if a ∈ s.bl then s.bl else a :: s.bl } = s'
    | .removeBlacklist c a => c = s.scOwner ∧ { s with bl := s.bl.filter (· ≠ a) } = s' := by
  cases o <;> simpa only [HubSt.step, Option.ite_none_right_eq_some, Option.some.injEq] using h

theorem HubSt.run_scOwner (s : HubSt) (ops : List HubOp) : (s.run ops).scOwner = s.scOwner :=
  Run.invariant HubSt.run_def (P := fun t : HubSt => t.scOwner = s.scOwner)
    (fun _ o _ hP h => by cases o <;> obtain ⟨_, rfl⟩ := HubSt.step_some h <;> exact hP) rfl ops

theorem HubSt.step_wl_other {s s' : HubSt} {o : HubOp} (h : s.step o = some s') (u : Addr) (hu : o.caller ≠ u) :
    s'.wl u = s.wl u := by
  cases o with
  | whitelist c a | removeWhitelist c a =>
    obtain ⟨_, rfl⟩ := HubSt.step_some h
    exact setAt_other _ _ _ _ (Ne.symm hu)
  | blacklist c a | removeBlacklist c a =>
    obtain ⟨_, rfl⟩ := HubSt.step_some h
    rfl

theorem HubSt.run_wl (s : HubSt) (ops : List HubOp) (u a : Addr) (h : a ∈ (s.run ops).wl u) :
    a ∈ s.wl u ∨ HubOp.whitelist u a ∈ ops := by
  by_cases h0 : a ∈ s.wl u
  · exact Or.inl h0
  · obtain ⟨pre, o, post, s', rfl, hst, hn, hy⟩ := Run.first HubSt.run_def (Q := fun t : HubSt => a ∈ t.wl u) h0 h
    by_cases hc : o.caller = u
    · cases o with
      | whitelist c b =>
        obtain ⟨_, rfl⟩ := HubSt.step_some hst
        cases hc
        have hy : a ∈ setAt (s.run pre).wl c (b :: (s.run pre).wl c) c := hy
        rw [setAt_same] at hy
        rcases List.mem_cons.mp hy with rfl | h2
        · exact Or.inr (List.mem_append_right _ (List.mem_cons_self ..))
        · exact absurd h2 hn
      | removeWhitelist c b =>
        obtain ⟨_, rfl⟩ := HubSt.step_some hst
        cases hc
        have hy : a ∈ setAt (s.run pre).wl c (((s.run pre).wl c).filter (· ≠ b)) c := hy
        rw [setAt_same] at hy
        exact absurd (List.mem_filter.mp hy).1 hn
      | blacklist c b | removeBlacklist c b =>
        obtain ⟨_, rfl⟩ := HubSt.step_some hst
        exact absurd hy hn
    · rw [HubSt.step_wl_other hst u hc] at hy
      exact absurd hy hn

theorem HubSt.run_bl (s : HubSt) (ops : List HubOp) (a : Addr) (h : a ∈ (s.run ops).bl) :
    a ∈ s.bl ∨ HubOp.blacklist s.scOwner a ∈ ops := by
  by_cases h0 : a ∈ s.bl
  · exact Or.inl h0
  · obtain ⟨pre, o, post, s', rfl, hst, hn, hy⟩ := Run.first HubSt.run_def (Q := fun t : HubSt => a ∈ t.bl) h0 h
    cases o with
    | whitelist c b | removeWhitelist c b =>
      obtain ⟨_, rfl⟩ := HubSt.step_some hst
      exact absurd hy hn
    | blacklist c b =>
      obtain ⟨rfl, rfl⟩ := HubSt.step_some hst
      rw [HubSt.run_scOwner]
      have hy : a ∈ if b ∈ (s.run pre).bl then (s.run pre).bl else b :: (s.run pre).bl := hy
      split at hy
      · exact absurd hy hn
      · rcases List.mem_cons.mp hy with rfl | h2
        · exact Or.inr (List.mem_append_right _ (List.mem_cons_self ..))
        · exact absurd h2 hn
    | removeBlacklist c b =>
      obtain ⟨_, rfl⟩ := HubSt.step_some hst
      exact absurd (List.mem_filter.mp hy).1 hn

end Mx.Access
