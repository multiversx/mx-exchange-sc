/-
  The binary search over the ROTATED ring (`price_observation_by_binary_search` + the neighbour choice of
  `price_observation_by_linear_interpolation`) is correct for every capacity, fill level and wrap
  position: the ring is searched as one of two segments, each on one side of `cur`, where the logical
  order is the physical one (`seg_search` over `bsLoop_spec`).
-/
import MxModel.Lemmas.OptionDo
import MxModel.Lemmas.SafePriceTele

namespace Mx.SafePrice
open Mx Mx.Pair

def SortedRing (p : SP) : Prop := (logical p).Pairwise (fun a b => a.round < b.round)

theorem sorted_of_linked {log : Log} {p : SP} (h : Linked log (logical p)) : SortedRing p :=
  (linked_pairwise h).imp (fun h => h.2)

theorem last_nth {p : SP} (hs : Shape p) (hne : p.obs ≠ []) : p.last = nth p p.cur := by
  obtain ⟨h, e⟩ := last_eq hs hne
  rw [e, nth_eq_getElem (hs.curPos hne) hs.curLe]

/-- `get_oldest_price_observation` returns the logically first element -/
theorem oldest_spec {p : SP} (hs : Shape p) {old : Obs} (h : oldest p = some old) :
    p.obs ≠ [] ∧ ∃ io, 1 ≤ io ∧ io ≤ p.obs.length ∧ pos p io = 0 ∧ old = nth p io ∧
      io = (if p.obs.length = p.cap then p.cur % p.cap + 1 else 1) := by
  simp only [oldest, Option.bind_eq_bind, Option.bind_eq_some_iff, req_eq_some] at h
  obtain ⟨_, hne, h⟩ := h
  refine ⟨hne, _, ?_, ?_, ?_, ?_, rfl⟩
  all_goals
    have hlen : 1 ≤ p.obs.length := by
      cases hp : p.obs with
      | nil => exact absurd hp hne
      | cons a t => simp
    have hc1 := hs.curPos hne
    have hc2 := hs.curLe
    have hcap := hs.lenLe
  · split <;> omega
  · split
    · rename_i hf
      by_cases hc : p.cur < p.cap
      · rw [Nat.mod_eq_of_lt hc]; omega
      · have : p.cur = p.cap := by omega
        rw [this, Nat.mod_self]; omega
    · exact hlen
  · split
    · rename_i hf
      by_cases hc : p.cur < p.cap
      · rw [Nat.mod_eq_of_lt hc]
        unfold pos
        rw [if_neg (by omega)]; omega
      · have : p.cur = p.cap := by omega
        rw [this, Nat.mod_self]
        unfold pos
        rw [if_pos (by omega)]; omega
    · rename_i hf
      have := hs.notFull (by omega)
      unfold pos
      rw [if_pos (by omega)]; omega
  · generalize (if p.obs.length = p.cap then p.cur % p.cap + 1 else 1) = io at h
    by_cases hio : 1 ≤ io ∧ io ≤ p.obs.length
    · rw [get?_some hio.1 hio.2] at h
      exact (Option.some.inj h).symm
    · rw [get?_none hio] at h
      simp at h

theorem neighbours_right {p : SP} {q si nx : Nat} (h1 : 1 ≤ si) (h2 : si ≤ p.obs.length)
    (hlt : (nth p si).round < q) (hnx : si % p.cap + 1 = nx) (hn : nx ≤ p.obs.length) :
    neighbours p q si = some (nth p si, nth p nx) := by
  subst hnx
  unfold neighbours
  rw [get?_some h1 h2]
  simp only [Option.bind_eq_bind, Option.bind_some]
  rw [if_pos hlt, get?_some (Nat.succ_pos _) hn]
  rfl

theorem neighbours_left {p : SP} {q si : Nat} (h1 : 2 ≤ si) (h2 : si ≤ p.obs.length)
    (hge : ¬ (nth p si).round < q) :
    neighbours p q si = some (nth p (si - 1), nth p si) := by
  unfold neighbours
  rw [get?_some (by omega) h2]
  simp only [Option.bind_eq_bind, Option.bind_some]
  rw [if_neg hge, if_neg (by omega), get?_some (by omega) (by omega)]
  rfl

theorem pos_succ {p : SP} {i : Nat} (h1 : 1 ≤ i) (h : i < p.cur ∨ p.cur < i) :
    pos p i + 1 = pos p (i + 1) := by
  unfold pos
  split <;> split <;> omega

theorem pos_lt {p : SP} {i j : Nat} (h1 : 1 ≤ i) (hij : i < j) (h : j ≤ p.cur ∨ p.cur < i) :
    pos p i < pos p j := by
  unfold pos
  split <;> split <;> omega

/-- the search on a segment `[lo, hi]` of slots on one side of `cur`, whose first element is not
    newer than `q` and whose ring successor `nx` is newer: a hit, or a miss after which the last
    probe and the neighbour the interpolation picks are logically consecutive and bracket `q` -/
theorem seg_search {p : SP} {q lo hi nx : Nat} (hs : Shape p) (hsorted : SortedRing p)
    (h1 : 1 ≤ lo) (hlh : lo ≤ hi) (h2 : hi ≤ p.obs.length) (hside : hi < p.cur ∨ p.cur < lo)
    (hlo : (nth p lo).round ≤ q)
    (hnx : hi % p.cap + 1 = nx) (hnx2 : nx ≤ p.obs.length) (hnxpos : pos p hi + 1 = pos p nx)
    (hnxq : q < (nth p nx).round) (si0 : Nat) :
    ∃ o si, bsLoop p q (hi + 1 - lo) lo hi si0 = some (o, si) ∧
      ((o = nth p si ∧ o.round = q ∧ 1 ≤ si ∧ si ≤ p.obs.length) ∨
       (o = Obs.zero ∧ ∃ iL iR, 1 ≤ iL ∧ iL ≤ p.obs.length ∧ 1 ≤ iR ∧ iR ≤ p.obs.length ∧
          pos p iL + 1 = pos p iR ∧ (nth p iL).round < q ∧ q < (nth p iR).round ∧
          neighbours p q si = some (nth p iL, nth p iR))) := by
  have hcap := hs.lenLe
  have hpos : ∀ i, lo ≤ i → i < hi → pos p i + 1 = pos p (i + 1) := fun i a b =>
    pos_succ (Nat.le_trans h1 a)
      (hside.imp (fun h => Nat.lt_trans b h) (fun h => Nat.lt_of_lt_of_le h a))
  have hsort : SortedSeg p lo hi := fun i j a b c =>
    ring_pairwise hs.curLe hsorted (Nat.le_trans h1 a)
      (Nat.le_trans (Nat.le_of_lt b) (Nat.le_trans c h2))
      (Nat.le_trans h1 (Nat.le_trans a (Nat.le_of_lt b))) (Nat.le_trans c h2)
      (pos_lt (Nat.le_trans h1 a) b
        (hside.imp (fun h => Nat.le_trans c (Nat.le_of_lt h)) (fun h => Nat.lt_of_lt_of_le h a)))
  obtain ⟨o, si, he, hres⟩ := bsLoop_spec p q (hi + 1 - lo) lo hi si0 h1 h2 (Nat.le_refl _) hsort
  refine ⟨o, si, he, ?_⟩
  rcases hres with ⟨e1, e2, e3, e4⟩ | ⟨e1, ⟨a, _⟩ | ⟨a, b, c, d, e⟩⟩
  · exact Or.inl ⟨e1, e2, Nat.le_trans h1 e3, Nat.le_trans e4 h2⟩
  · exact absurd hlh (Nat.not_le_of_lt a)
  · refine Or.inr ⟨e1, ?_⟩
    have s1 : 1 ≤ si := Nat.le_trans h1 a
    have s2 : si ≤ p.obs.length := Nat.le_trans b h2
    by_cases hlt : (nth p si).round < q
    · by_cases hs : si < hi
      · have s3 : si + 1 ≤ p.obs.length := Nat.le_trans hs h2
        have hn : si % p.cap + 1 = si + 1 := by
          rw [Nat.mod_eq_of_lt (Nat.lt_of_lt_of_le s3 hcap)]
        exact ⟨si, si + 1, s1, s2, Nat.succ_pos _, s3, hpos si a hs, hlt,
          e (si + 1) (Nat.lt_succ_self _) hs, neighbours_right s1 s2 hlt hn s3⟩
      · -- the last slot of the segment: the successor is `nx`
        have hsi : si = hi := Nat.le_antisymm b (Nat.le_of_not_lt hs)
        subst hsi
        exact ⟨si, nx, s1, s2, hnx ▸ Nat.succ_pos _, hnx2, hnxpos, hlt, hnxq,
          neighbours_right s1 s2 hlt hnx hnx2⟩
    · -- the last probe is newer than `q`, so it is not the first slot of the segment
      have hgt : q < (nth p si).round := Nat.lt_of_le_of_ne (Nat.le_of_not_lt hlt) (Ne.symm c)
      have hlo' : lo < si := Nat.lt_of_le_of_ne a (fun h => Nat.not_lt_of_le hlo (h ▸ hgt))
      have s4 : 2 ≤ si := Nat.lt_of_le_of_lt h1 hlo'
      have s5 : si - 1 < si := Nat.sub_lt s1 Nat.one_pos
      have hp := hpos (si - 1) (Nat.le_sub_one_of_lt hlo') (Nat.lt_of_lt_of_le s5 b)
      rw [Nat.sub_add_cancel s1] at hp
      exact ⟨si - 1, si, Nat.le_sub_one_of_lt s4, Nat.le_trans (Nat.sub_le _ _) s2, s1, s2, hp,
        d (si - 1) (Nat.le_sub_one_of_lt hlo') s5, hgt, neighbours_left s4 s2 hlt⟩

/-- For any capacity, fill level and wrap position: if `q` is not older than the oldest retained
    observation and older than the newest one, the search either returns the stored observation of round
    `q`, or misses, and then the two observations the interpolation picks (the last probed element and its
    ring neighbour) are LOGICALLY CONSECUTIVE retained observations that bracket `q`. -/
theorem binSearch_spec {p : SP} (hs : Shape p) (hsorted : SortedRing p)
    {old : Obs} (hold : oldest p = some old) {q : Nat} (h1 : old.round ≤ q)
    (h2 : q < p.last.round) :
    ∃ o si, binSearch p q = some (o, si) ∧
      ((o = nth p si ∧ o.round = q ∧ 1 ≤ si ∧ si ≤ p.obs.length) ∨
       (o = Obs.zero ∧ ∃ iL iR, 1 ≤ iL ∧ iL ≤ p.obs.length ∧ 1 ≤ iR ∧ iR ≤ p.obs.length ∧
          pos p iL + 1 = pos p iR ∧ (nth p iL).round < q ∧ q < (nth p iR).round ∧
          neighbours p q si = some (nth p iL, nth p iR))) := by
  obtain ⟨hne, io, io1, io2, hpos0, rfl, hio⟩ := oldest_spec hs hold
  have hc1 := hs.curPos hne
  have hc2 := hs.curLe
  have hcap := hs.lenLe
  have hlast := last_nth hs hne
  rw [hlast] at h2
  unfold binSearch
  rw [get?_some (Nat.le_refl 1) (by omega)]
  simp only [Option.bind_eq_bind, Option.bind_some]
  by_cases hb : (nth p 1).round ≤ q
  · -- the target is in the newer part: physical indices 1 … cur − 1, followed by cur
    rw [if_pos hb, sub?_pos hc1]
    simp only [Option.bind_some]
    have hcur2 : 2 ≤ p.cur := by
      by_contra h
      have : p.cur = 1 := by omega
      rw [this] at h2; omega
    have hnx := pos_succ (p := p) (i := p.cur - 1) (by omega) (Or.inl (by omega))
    rw [Nat.sub_add_cancel hc1] at hnx
    refine seg_search hs hsorted (Nat.le_refl 1) (by omega) (by omega) (Or.inl (by omega)) hb ?_
      hc2 hnx h2 1
    rw [Nat.mod_eq_of_lt (by omega), Nat.sub_add_cancel hc1]
  · -- the target is in the older part: the ring is full and wrapped, physical cur + 1 … len,
    -- followed by slot 1
    rw [if_neg hb]
    have hfull : p.obs.length = p.cap ∧ p.cur < p.cap := by
      by_contra hcon
      have : io = 1 := by
        rw [hio]
        split
        · rename_i hf
          have : p.cur = p.cap := by omega
          rw [this, Nat.mod_self]
        · rfl
      rw [this] at h1; omega
    have hio' : io = p.cur + 1 := by
      rw [hio, if_pos hfull.1, Nat.mod_eq_of_lt hfull.2]
    subst hio'
    refine seg_search (nx := 1) hs hsorted (by omega) (by omega) (Nat.le_refl _)
      (Or.inr (Nat.lt_succ_self _)) h1 ?_ (by omega) ?_ (by omega) 1
    · rw [hfull.1, Nat.mod_self]
    · unfold pos; rw [if_neg (by omega), if_pos (by omega)]; omega

end Mx.SafePrice
