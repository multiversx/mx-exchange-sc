/-
  Farm: what a transaction does to the boosted-rewards storage.

  `wk s` is the part of the state the weekly invariants read.  Inside one week a successful
  operation acts on it by a short sequence of `Move`s — a settlement cuts into the running week's
  pool, a boosted claim for `u`, its payment, the totals rewritten, a weekly-module call for `u`, the
  supply recorded for the running week, a new percentage, new factors —, or it is a collection of
  undistributed rewards (`Collects`), or time passes (`step_path`).  Next to the view a move carries
  the amount `d` that has been claimed out of the weekly pools and is not booked as paid yet; it is
  0 between transactions.  An invariant of the boosted-rewards storage is a predicate on the view
  kept by every `Move`, by a collection and by the passing of time; of the model's functions on
  `St` only `claimBoostedYields` appears in a move.
-/
import MxModel.Lemmas.FarmEff
import MxModel.Lemmas.FarmBoost
import MxModel.Lemmas.FarmArith

namespace Mx.Farm

open Mx.Weekly (upd Energy)
open Relation (ReflTransGen)

/-- the cells the invariants of the boosted-rewards storage read: the weekly pools and the config
    (`b`), the weekly-rewards module (`w`), `userTotalFarmPosition`, `farm_token_supply`, the clock,
    the boosted percentage, the emission and payment counters, the undistributed rewards and their
    collection marker -/
structure WkV where
  b : BSt
  w : Weekly.St
  total : Nat → Nat
  supply : Nat
  epoch : Nat
  fws : Nat
  pct : Nat
  generated : Nat
  baseBudget : Nat
  paidBoosted : Nat
  undist : Nat
  lastCollect : Nat

def wk (s : St) : WkV :=
  ⟨s.b, s.w, s.userTotal, s.supply, s.epoch, s.firstWeekStart, s.pct, s.generated, s.baseBudget,
    s.paidBoosted, s.undist, s.lastCollect⟩

/-! The moves of `Move` are written with these.  `WV` (Lemmas/WeekView.lean), the part of this view the
position invariant reads, has setters of the same names; `Move.weekPos` passes from one to the other. -/
namespace WkV

def week (v : WkV) : Option Nat := Weekly.weekOf v.epoch v.fws

def setTotal (v : WkV) (t : Nat → Nat) : WkV := { v with total := t }
def pay (v : WkV) (r : Nat) : WkV := { v with paidBoosted := v.paidBoosted + r }
def setFsw (v : WkV) (W x : Nat) : WkV :=
  { v with b := { v.b with farmSupplyWeek := upd v.b.farmSupplyWeek W x } }
def setSupply (v : WkV) (x : Nat) : WkV := { v with supply := x }

end WkV

/-- what a successful operation does to the view (and to the amount claimed but not yet booked)
    without moving the clock -/
inductive Move (v : WkV) (d : Nat) : WkV → Nat → Prop
  /-- a settlement: `M` emitted, `C` of it cut into the running week's pool -/
  | gen {M C W : Nat} {b' : BSt} (hle : C ≤ M)
      (hb : (C = 0 ∧ b' = v.b) ∨ (0 < C ∧ v.week = some W ∧
        b' = { v.b with accum := upd v.b.accum W (v.b.accum W + C)
                        cutW := upd v.b.cutW W (v.b.cutW W + C) })) :
      Move v d { v with b := b', generated := v.generated + M, baseBudget := v.baseBudget + (M - C) } d
  /-- the boosted claim of `u` in a state with this view -/
  | claim {s s1 : St} {u r : Nat} (hv : wk s = v) (h : claimBoostedYields s u = some (s1, r)) :
      Move v d { v with w := s1.w, b := s1.b } (d + r)
  | pay {r d' : Nat} (hd : d = d' + r) : Move v d (v.pay r) d'
  /-- the totals are rewritten; only users whose progress is at the running week (or cleared) grow -/
  | totals {W : Nat} {t : Nat → Nat} (hW : v.week = some W)
      (ht : ∀ x, t x ≤ v.total x ∨ ∀ p, v.w.progress x = some p → W ≤ p.week) :
      Move v d (v.setTotal t) d
  | touch {u W : Nat} {cur : Energy} {g : Weekly.St} (hW : v.week = some W)
      (h : Weekly.Touch v.w g u W cur) : Move v d { v with w := g } d
  /-- `set_farm_supply_for_current_week(x)` and the write-back of a cache with supply `x` -/
  | record {W : Nat} (x : Nat) (hW : v.week = some W) : Move v d ((v.setFsw W x).setSupply x) d
  | setPct {p : Nat} (hp : p ≤ MAXPCT) : Move v d { v with pct := p } d
  | setFactors {W : Nat} {f : Factors} {c' : BCfg} (hW : v.week = some W) (hf : 0 < f.cE ∨ 0 < f.cF)
      (hc : match v.b.cfg with
        | some cfg => cfg.update W (some f) = some c'
        | none => c' = BCfg.new W f) :
      Move v d { v with b := { v.b with cfg := some c' } } d

theorem Move.clock {v v' : WkV} {d d' : Nat} (m : Move v d v' d') : v'.epoch = v.epoch ∧ v'.fws = v.fws := by
  cases m <;> exact ⟨rfl, rfl⟩

theorem Move.week {v v' : WkV} {d d' : Nat} (m : Move v d v' d') : v'.week = v.week := by
  unfold WkV.week; rw [m.clock.1, m.clock.2]

/-- `collect_undistributed_boosted_rewards` in week `W`, when it moves the marker (to `W − 5`) -/
def Collects (v v' : WkV) (W : Nat) : Prop :=
  v.week = some W ∧ 5 < W ∧ v.lastCollect + 1 ≤ W - 5 ∧
  v' = { v with
    b := (collectWeeks v.b v.undist (v.lastCollect + 1) (W - 5 + 1 - (v.lastCollect + 1))).1
    undist := (collectWeeks v.b v.undist (v.lastCollect + 1) (W - 5 + 1 - (v.lastCollect + 1))).2
    lastCollect := W - 5 }

/-- What a collection in week `W` did to the boosted-yields storage (`b'`) and the undistributed counter
    (`u'`), in terms of the marker it moves from `v.lastCollect` to `W − 5`: the pools of the weeks it passes
    are emptied into those weeks' collected ghosts and added to the counter; nothing else is written. -/
structure Collected (v : WkV) (W : Nat) (b' : BSt) (u' : Nat) : Prop where
  week : v.week = some W
  marker : v.lastCollect < W - 5
  passed : ∀ w, v.lastCollect < w → w ≤ W - 5 →
    b'.remaining w = 0 ∧ b'.collW w = v.b.collW w + v.b.remaining w
  other : ∀ w, (w ≤ v.lastCollect ∨ W - 5 < w) →
    b'.remaining w = v.b.remaining w ∧ b'.collW w = v.b.collW w
  accum : b'.accum = v.b.accum
  farmSupplyWeek : b'.farmSupplyWeek = v.b.farmSupplyWeek
  cfg : b'.cfg = v.b.cfg
  cutW : b'.cutW = v.b.cutW
  paidW : b'.paidW = v.b.paidW
  undist : u' = v.undist +
    ((List.range (W - 5 - v.lastCollect)).map fun i => v.b.remaining (v.lastCollect + 1 + i)).sum

theorem Collects.weeks {v v' : WkV} {W : Nat} (h : Collects v v' W) :
    ∃ b' u', v' = { v with b := b', undist := u', lastCollect := W - 5 } ∧ Collected v W b' u' := by
  obtain ⟨hW, _, hlt, e⟩ := h
  have k := collectWeeks_spec (W - 5 + 1 - (v.lastCollect + 1)) v.b v.undist (v.lastCollect + 1)
  rw [show W - 5 + 1 - (v.lastCollect + 1) = W - 5 - v.lastCollect by omega] at k e
  exact ⟨_, _, e, hW, hlt, fun w h1 h2 => k.passed w h1 (by omega), fun w hw => k.other w (by omega),
    k.accum, k.farmSupplyWeek, k.cfg, k.cutW, k.paidW, k.undist⟩

def Path (v : WkV) (d : Nat) (v' : WkV) (d' : Nat) : Prop :=
  ReflTransGen (fun p q : WkV × Nat => Move p.1 p.2 q.1 q.2) (v, d) (v', d')

theorem Path.refl {v : WkV} {d : Nat} : Path v d v d := ReflTransGen.refl
theorem Move.path {v v' : WkV} {d d' : Nat} (m : Move v d v' d') : Path v d v' d' := ReflTransGen.single m
theorem Path.trans {a b c : WkV} {i j k : Nat} (p : Path a i b j) (q : Path b j c k) : Path a i c k :=
  ReflTransGen.trans p q
theorem Path.then {a b c : WkV} {i j k : Nat} (p : Path a i b j) (m : Move b j c k) : Path a i c k :=
  ReflTransGen.tail p m
theorem Path.of_eq {v v' : WkV} {d : Nat} (e : v' = v) : Path v d v' d := e ▸ .refl

theorem Path.inv {P : WkV → Nat → Prop} (hm : ∀ {v d v' d'}, Move v d v' d' → P v d → P v' d')
    {v v' : WkV} {d d' : Nat} (p : Path v d v' d') (h : P v d) : P v' d' := by
  unfold Path at p
  generalize hx : (v, d) = x at p
  generalize hy : (v', d') = y at p
  induction p generalizing v' d' with
  | refl => cases hx; cases hy; exact h
  | tail _ m ih => cases hy; exact hm m (ih rfl)

theorem takePayments_wk {l : List (Nat × Nat)} {s s' : St} {c : Nat} (h : takePayments s c l = some s') :
    wk s' = wk s := by obtain ⟨_, rfl⟩ := takePayments_spec l h; rfl
theorem createToken_wk {s s' : St} {d n : Nat} {a : Attr} (h : createToken s d a = some (s', n)) :
    wk s' = wk s := by obtain ⟨_, _, rfl⟩ := createToken_spec h; rfl
theorem payReward_move {s s' : St} {u b bo d : Nat} (h : payReward s u b bo = some s') :
    Move (wk s) (d + bo) (wk s') d := by
  obtain ⟨_, _, rfl, _⟩ := payReward_spec h
  exact .pay (v := wk s) rfl

theorem payRewardIf_move {s s' : St} {k : Kind} {u bo d : Nat} (h : payRewardIf s k u 0 bo = some s') :
    Path (wk s) (d + if s.kind = k then bo else 0) (wk s') d := by
  rcases payRewardIf_spec h with ⟨hk, h⟩ | ⟨hk, rfl⟩
  · rw [if_pos hk]; exact (payReward_move h).path
  · rw [if_neg hk]; exact .refl

theorem compoundMove_move {s s' : St} {b bo d : Nat} (h : compoundMove s b bo = some s') :
    Move (wk s) (d + bo) (wk s') d := by
  obtain ⟨_, rfl⟩ := compoundMove_spec h
  exact .pay (v := wk s) rfl

theorem record_move {s s' : St} {x d : Nat} (h : setFarmSupplyWeek s x = some s') (c : Cache)
    (hc : c.supply = x) : Move (wk s) d (wk (Cache.drop s' c)) d := by
  obtain ⟨W, hW, rfl⟩ := setFarmSupplyWeek_spec h
  subst hc
  exact .record (v := wk s) c.supply hW

theorem checkAndUpdate_le : ∀ (l : List (Nat × Nat)) {s s' : St} {u : Nat},
    checkAndUpdate s u l = some s' → ∀ x, x ≠ u → s'.userTotal x ≤ s.userTotal x := by
  intro l
  induction l with
  | nil => intro s s' u h; cases h; exact fun _ _ => Nat.le_refl _
  | cons p rest ih =>
    intro s s' u h x hx
    obtain ⟨att, _, h2⟩ := peel h
    by_cases ho : att.owner ≠ u
    · rw [if_pos ho] at h2
      refine Nat.le_trans (ih h2 x hx) ?_
      show upd (upd s.userTotal att.owner (s.userTotal att.owner - p.2)) u _ x ≤ s.userTotal x
      rw [Weekly.upd_other _ _ hx]
      exact Weekly.upd_sub_le _ _ _ _
    · rw [if_neg ho] at h2
      exact ih h2 x hx

/-- `u`'s claim progress is cleared or at the running week `W` -/
def Settled (s : St) (u : Nat) : Prop :=
  ∃ W, s.week = some W ∧ ∀ p, s.w.progress u = some p → W ≤ p.week

theorem Settled.congr {s s' : St} {u : Nat} (h : Settled s u) (ew : s'.w = s.w)
    (ee : s'.epoch = s.epoch) (ef : s'.firstWeekStart = s.firstWeekStart) : Settled s' u := by
  unfold Settled St.week
  rw [ew, ee, ef]
  exact h

theorem totals_move {s : St} {u d : Nat} (hs : Settled s u) {t : Nat → Nat}
    (ht : ∀ x, x ≠ u → t x ≤ s.userTotal x) : Move (wk s) d (wk { s with userTotal := t }) d := by
  obtain ⟨W, hW, hp⟩ := hs
  refine .totals (v := wk s) hW fun x => ?_
  by_cases hx : x = u
  · subst hx; exact Or.inr hp
  · exact Or.inl (ht x hx)

theorem checkAndUpdate_move {l : List (Nat × Nat)} {s s' : St} {u d : Nat} (hs : Settled s u)
    (h : checkAndUpdate s u l = some s') : Move (wk s) d (wk s') d ∧ Settled s' u := by
  have ht := checkAndUpdate_le l h
  obtain ⟨t, rfl⟩ := checkAndUpdate_spec l h
  exact ⟨totals_move hs ht, hs⟩

theorem increaseUser_move {s : St} {u d : Nat} (hs : Settled s u) (a : Nat) :
    Move (wk s) d (wk (increaseUser s u a)) d :=
  totals_move hs fun _ hx => Nat.le_of_eq (Weekly.upd_other _ _ hx)

/-- stated for any view in `s`'s week, not for `wk s`: in `enterCore` the settlement comes after the boosted claim
    has rewritten `b` -/
theorem addCut_move {s : St} (h : GenOk s) {v : WkV} {d : Nat} (hw : v.week = s.week) :
    Move v d { v with b := addCut s v.b, generated := v.generated + minted s
                      baseBudget := v.baseBudget + (minted s - cutOf s) } d := by
  by_cases hc : cutOf s = 0
  · exact .gen (W := 0) h.1 (Or.inl ⟨hc, by simp only [addCut, hc, if_true]⟩)
  · obtain ⟨W, hW⟩ := h.2 hc
    exact .gen h.1 (Or.inr ⟨Nat.pos_of_ne_zero hc, hw.trans hW, by simp only [addCut, hc, if_false, hW]⟩)

theorem generate_move {s s' : St} {c c' : Cache} {d : Nat} (h : generate s c = some (s', c')) :
    Move (wk s) d (wk s') d ∧ c'.supply = c.supply := by
  obtain ⟨hok, rfl, rfl⟩ := generate_eq h
  exact ⟨addCut_move hok rfl, rfl⟩

theorem settle_move {s s' : St} {d : Nat} (h : settle s = some s') : Move (wk s) d (wk s') d := by
  obtain ⟨hok, rfl⟩ := settle_eq h
  exact addCut_move hok rfl

theorem updateEnergyAndProgress_move {s s' : St} {u d : Nat} (h : updateEnergyAndProgress s u = some s') :
    Move (wk s) d (wk s') d := by
  obtain ⟨W, g, hW, hg, rfl⟩ := updateEnergyAndProgress_some h
  exact .touch (v := wk s) hW (Weekly.updateEnergyAndProgress_iff.mp hg)

theorem updateEnergyForUser_move {s s' : St} {u d : Nat} (h : updateEnergyForUser s u = some s') :
    Move (wk s) d (wk s') d := by
  obtain ⟨W, g, hW, hg, rfl⟩ := updateEnergyForUser_some h
  exact .touch (v := wk s) hW (Weekly.updateEnergyForUser_iff.mp hg).2

theorem clearUserEnergyIfNeeded_path {s s' : St} {u d : Nat} (h : clearUserEnergyIfNeeded s u = some s') :
    Path (wk s) d (wk s') d := by
  rcases clearUserEnergyIfNeeded_some h with ⟨_, rfl⟩ | ⟨_, W, _, g, _, hW, _, hg, rfl⟩
  · exact .refl
  · rcases Weekly.clearUserEnergy_iff.mp hg with ⟨_, rfl⟩ | ⟨_, ht⟩
    · exact .refl
    · exact (Move.touch (v := wk s) hW ht).path

theorem claim_wk {s s' : St} {u r : Nat} (h : claimBoostedYields s u = some (s', r)) :
    wk s' = { wk s with w := s'.w, b := s'.b } := by
  obtain ⟨w', b', rfl⟩ := claimBoostedYields_struct h
  rfl

theorem claim_move {s s' : St} {u r d : Nat} (h : claimBoostedYields s u = some (s', r)) :
    Move (wk s) d (wk s') (d + r) ∧ Settled s' u := by
  obtain ⟨W, t⟩ := claimBoostedYields_touched h
  rw [claim_wk h]
  exact ⟨.claim (v := wk s) rfl h, W, (congrArg WkV.week (claim_wk h)).trans t.week,
    fun p hq => Nat.le_of_eq (t.settled p hq).symm⟩

theorem claimOnly_move {s s' : St} {u r d : Nat} (h : claimOnlyBoostedPayment s u = some (s', r)) :
    Move (wk s) d (wk s') (d + r) ∧ Settled s' u := by
  obtain ⟨s1, h1, _, rfl⟩ := claimOnlyBoostedPayment_spec h
  obtain ⟨m, hs⟩ := claim_move (d := d) h1
  exact ⟨m, hs.congr rfl rfl rfl⟩

theorem claimTail_path {s s' : St} {c : Bool} {u b bo d : Nat} (h : claimTail s c u b bo = some s') :
    Path (wk s) (d + bo) (wk s') d := by
  rcases claimTail_spec h with ⟨_, s1, h1, h2⟩ | ⟨_, h⟩
  · exact (compoundMove_move h1).path.then (updateEnergyAndProgress_move h2)
  · exact (payReward_move h).path

theorem payRewardIf_settled {s s' : St} {k : Kind} {u v b bo : Nat} (hs : Settled s u)
    (h : payRewardIf s k v b bo = some s') : Settled s' u := by
  rcases payRewardIf_spec h with ⟨_, h⟩ | ⟨_, rfl⟩
  · obtain ⟨_, _, rfl, _⟩ := payReward_spec h
    exact hs.congr rfl rfl rfl
  · exact hs

/-- after `u`'s claim the totals are rewritten by `check_and_update_user_farm_position(u, …)`, and
    `u`'s own may be raised further -/
theorem checkTotals_move {s t : St} {u r d : Nat} {l : List (Nat × Nat)} {ut T : Nat → Nat}
    (h2 : claimBoostedYields s u = some (t, r)) (hut : checkTotals t.attrs t.userTotal u l = some ut)
    (hT : ∀ x, x ≠ u → T x = ut x) : Move (wk t) d ((wk t).setTotal T) d :=
  totals_move (claim_move (d := 0) h2).2 fun x hx =>
    hT x hx ▸ checkAndUpdate_le l (checkAndUpdate_of_checkTotals (s := t) hut) x hx

theorem exitFarm_path {s s' : St} {caller : Nat} {opt : Option Nat} {n a : Nat} {o : Out}
    (h : exitFarm s caller opt n a = some (s', o)) : Path (wk s) 0 (wk s') 0 := by
  obtain ⟨u, att, h', t, boosted, W, pen, e, B, x⟩ := exitFarm_effect h
  obtain ⟨w2, b2, rfl⟩ := claimBoostedYields_struct x.claim
  exact ((((((addCut_move (v := wk s) x.gen rfl).path.then (.claim (s := genSt { s with hold := h' }) rfl x.claim)).then
    (.totals (t := upd s.userTotal att.owner (s.userTotal att.owner - a)) x.week
      fun _ => Or.inl (Weekly.upd_sub_le _ _ _ _))).then (.record (s.supply - a) x.week)).then
    (.pay (r := boosted) (d' := 0) rfl)).trans (clearUserEnergyIfNeeded_path x.tail))

theorem claimCore_path {s s' : St} {caller u : Nat} {pays : List (Nat × Nat)} {cmp : Bool} {o : Out}
    (h : claimCore s caller u pays cmp = some (s', o)) : Path (wk s) 0 (wk s') 0 := by
  obtain ⟨n1, a1, at1, part, h', t, boosted, ut, merged, W, B, R, x⟩ := claimCore_effect h
  obtain ⟨w2, b2, rfl⟩ := claimBoostedYields_struct x.claim
  exact ((((addCut_move (v := wk s) x.gen rfl).path.then (.claim (s := genSt { s with hold := h' }) rfl x.claim)).then
    (checkTotals_move x.claim (T := if cmp then upd ut u (ut u + R) else ut) x.totals fun y hy => by
      cases cmp
      · rfl
      · exact Weekly.upd_other _ _ hy)).then
    (.record (if cmp then s.supply + R else s.supply) x.week)).trans (claimTail_path x.tail)

theorem mergeFarmTokens_path {s s' : St} {caller : Nat} {opt : Option Nat} {pays : List (Nat × Nat)}
    {o : Out} (h : mergeFarmTokens s caller opt pays = some (s', o)) : Path (wk s) 0 (wk s') 0 := by
  obtain ⟨u, h', t, boosted, ut, merged, e, x⟩ := mergeFarmTokens_effect h
  obtain rfl := x.state
  obtain ⟨w2, b2, rfl⟩ := claimBoostedYields_struct x.claim
  exact ((Move.claim (v := wk s) (s := { s with hold := h' }) rfl x.claim).path.then
    (checkTotals_move x.claim x.totals fun _ _ => rfl)).then (.pay (r := boosted) (d' := 0) rfl)

theorem claimBoostedRewards_path {s s' : St} {caller : Nat} {optUser : Option Nat} {o : Out}
    (h : claimBoostedRewards s caller optUser = some (s', o)) : Path (wk s) 0 (wk s') 0 := by
  obtain ⟨t, boosted, W, e, x⟩ := claimBoostedRewards_effect h
  obtain rfl := x.state
  obtain ⟨w2, b2, rfl⟩ := claimBoostedYields_struct x.claim
  exact (((addCut_move (v := wk s) x.gen rfl).path.then (.claim (s := genSt s) rfl x.claim)).then
    (.record s.supply x.week)).then (.pay (r := boosted) (d' := 0) rfl)

theorem enterCore_path {s s' : St} {caller u tokenTo amt : Nat} {extra : List (Nat × Nat)} {o : Out}
    (h : enterCore s caller u tokenTo amt extra = some (s', o)) : Path (wk s) 0 (wk s') 0 := by
  obtain ⟨h', t, boosted, ut, merged, W, e, x⟩ := enterCore_effect h
  obtain ⟨w2, b2, rfl⟩ := claimBoostedYields_struct x.claim
  exact (((((Move.claim (v := wk s) (s := { s with hold := h', balFarming := s.balFarming + amt }) rfl x.claim).path.then
    (checkTotals_move x.claim (T := upd ut u (ut u + amt)) x.totals fun _ hx => Weekly.upd_other _ _ hx)).then
    (addCut_move x.gen rfl)).then (.record (s.supply + amt) x.week)).then (.pay (r := boosted) (d' := 0) rfl)).then
    (updateEnergyAndProgress_move x.tail)

theorem step_path {s s' : St} {op : Op} {o : Out} (h : step s op = some (s', o)) :
    (∃ b e, s.epoch ≤ e ∧ s' = { s with block := b, epoch := e }) ∨
    (∃ c, op = .collect c ∧ ∃ W, Collects (wk s) (wk s') W) ∨ Path (wk s) 0 (wk s') 0 := by
  cases step_step h with
  | advance _ _ _ he e => exact Or.inl ⟨_, _, he, e⟩
  | @collect c W hop _ hW hlt e =>
    subst e
    split
    · exact Or.inr (Or.inr .refl)
    · exact Or.inr (Or.inl ⟨c, hop, W, hW, hlt, Nat.le_of_not_lt ‹_›, rfl⟩)
  | enter _ _ h => exact Or.inr (Or.inr (enterCore_path h))
  | claim _ _ _ h => exact Or.inr (Or.inr (claimCore_path h))
  | exit _ _ h => exact Or.inr (Or.inr (exitFarm_path h))
  | merge _ _ h => exact Or.inr (Or.inr (mergeFarmTokens_path h))
  | claimBoosted _ _ h => exact Or.inr (Or.inr (claimBoostedRewards_path h))
  | updateEnergy _ _ h => exact Or.inr (Or.inr (updateEnergyForUser_move h).path)
  | transfer _ _ _ _ h =>
    obtain ⟨_, _, _, _, _, _, rfl⟩ := transfer_some h
    exact Or.inr (Or.inr .refl)
  | @settled s1 _ _ pct _ _ hs hp e =>
    subst e
    refine Or.inr (Or.inr ((settle_move hs).path.trans ?_))
    rcases hp with rfl | hp
    · exact .of_eq (congrArg (fun p => ({ wk s1 with pct := p } : WkV)) (settle_pct hs).symm)
    · exact (Move.setPct (v := wk s1) hp).path
  | startProduce _ _ _ _ e => subst e; exact Or.inr (Or.inr .refl)
  | setFactors _ _ hW _ hf hc e => subst e; exact Or.inr (Or.inr (Move.setFactors (v := wk s) hW hf hc).path)
  | config _ _ e _ => subst e; exact Or.inr (Or.inr .refl)

theorem step_clock {s s' : St} {op : Op} {o : Out} (h : step s op = some (s', o)) :
    s'.firstWeekStart = s.firstWeekStart ∧ s.epoch ≤ s'.epoch := by
  rcases step_path h with ⟨b, e, he, rfl⟩ | ⟨_, _, _, _, _, _, e⟩ | p
  · exact ⟨rfl, he⟩
  · exact ⟨congrArg WkV.fws e, Nat.le_of_eq (congrArg WkV.epoch e).symm⟩
  · have k := p.inv (P := fun v _ => v.epoch = s.epoch ∧ v.fws = s.firstWeekStart)
      (fun m hP => ⟨m.clock.1.trans hP.1, m.clock.2.trans hP.2⟩) ⟨rfl, rfl⟩
    exact ⟨k.2, Nat.le_of_eq k.1.symm⟩

end Mx.Farm
