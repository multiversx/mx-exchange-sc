/-
  What a hop of `multiPairSwap` is once the hops are real pair contracts (`pairResp`); spec lemmas
  of the router endpoints of contract.rs / config.rs / multi_pair_swap.rs
  (`op s args = some (s', o) → guards ∧ o = … ∧ s' = …`); and the users' direct calls to pair
  contracts (`directOp`, `PairCall`, `direct_call`).
-/
import MxModel.Lemmas.RouterMulti

namespace Mx.Router

/-! ### token ids reported by the pair contracts are never rewritten -/

theorem tokOf_upd_keep {w : Pairs} {a : Addr} {p : PairRec} (p' : PairRec) (hw : w a = some p)
    (h1 : p'.t1 = p.t1) (h2 : p'.t2 = p.t2) (x : Addr) :
    tokOf (upd w a (some p')) x = tokOf w x := by
  unfold tokOf
  by_cases hx : x = a
  · subst hx; simp [hw, h1, h2]
  · simp [upd_other _ _ hx]

theorem tokOf_setPairSt {w : Pairs} {a : Addr} {p : PairRec} (hw : w a = some p)
    (st : Mx.Pair.St) (x : Addr) : tokOf (setPairSt w a p st) x = tokOf w x :=
  tokOf_upd_keep { p with st := st } hw rfl rfl x

theorem setPairSt_other (w : Pairs) {a x : Addr} (p : PairRec) (st : Mx.Pair.St) (h : x ≠ a) :
    setPairSt w a p st x = w x := by
  simp [setPairSt, upd_other _ _ h]

theorem pairResp_spec {m : Reg} {w w' : Pairs} {h : Hop} {tok : Tok} {amt out resid : Nat}
    (hr : pairResp m w h tok amt = some (w', out, resid)) :
    checkIsPairSc m w h.pair = some () ∧
    ∃ p d, w h.pair = some p ∧ dirOf p tok h.tokOut = some d ∧
      ((h.kind = .fixedIn ∧ ∃ st' o, Mx.Pair.swapIn p.st d amt h.amt = some (st', o) ∧
          out = o.v1 ∧ resid = 0 ∧ w' = setPairSt w h.pair p st') ∨
       (h.kind = .fixedOut ∧ ∃ st' o, Mx.Pair.swapOut p.st d amt h.amt = some (st', o) ∧
          out = o.v1 ∧ resid = o.v3 ∧ w' = setPairSt w h.pair p st')) := by
  simp only [pairResp, Option.bind_eq_bind, Option.bind_eq_some_iff] at hr
  obtain ⟨u, hc, p, hp, d, hd, hk⟩ := hr
  cases u
  refine ⟨hc, p, d, hp, hd, ?_⟩
  cases hkind : h.kind with
  | fixedIn =>
    simp only [hkind, Option.bind_eq_some_iff, Option.pure_def,
      Option.some.injEq, Prod.mk.injEq] at hk
    obtain ⟨r, hr, rfl, rfl, rfl⟩ := hk
    exact Or.inl ⟨rfl, r.1, r.2, hr, rfl, rfl, rfl⟩
  | fixedOut =>
    simp only [hkind, Option.bind_eq_some_iff, Option.pure_def,
      Option.some.injEq, Prod.mk.injEq] at hk
    obtain ⟨r, hr, rfl, rfl, rfl⟩ := hk
    exact Or.inr ⟨rfl, r.1, r.2, hr, rfl, rfl, rfl⟩
  | bad => simp [hkind] at hk

theorem pairResp_tok {m : Reg} {w w' : Pairs} {h : Hop} {tok : Tok} {amt out resid : Nat}
    (hr : pairResp m w h tok amt = some (w', out, resid)) (x : Addr) :
    tokOf w' x = tokOf w x := by
  obtain ⟨_, p, d, hp, _, hk⟩ := pairResp_spec hr
  rcases hk with ⟨_, st', o, _, _, _, rfl⟩ | ⟨_, st', o, _, _, _, rfl⟩
  · exact tokOf_setPairSt hp st' x
  · exact tokOf_setPairSt hp st' x

theorem hopTrace_tok {m : Reg} (hops : List Hop) {w w' : Pairs} {tok : Tok} {amt : Nat}
    {rs : List (Nat × Nat)} (h : hopTrace (pairResp m) hops w tok amt = some (w', rs)) (x : Addr) :
    tokOf w' x = tokOf w x :=
  hopTrace_induction (P := fun v => tokOf v x = tokOf w x) hops
    (fun _ _ _ _ _ _ hr hv => (pairResp_tok hr x).trans hv) h rfl

/-- the check is stated in the world as it was BEFORE the call: it only reads token ids, which never change -/
theorem hopTrace_registered {m : Reg} (hops : List Hop) {w w' : Pairs} {tok : Tok} {amt : Nat}
    {rs : List (Nat × Nat)} (h : hopTrace (pairResp m) hops w tok amt = some (w', rs)) :
    ∀ g ∈ hops, checkIsPairSc m w g.pair = some () := by
  induction hops generalizing w tok amt rs with
  | nil => intro g hg; cases hg
  | cons g0 hs ih =>
    simp only [hopTrace, Option.bind_eq_bind, Option.bind_eq_some_iff, Option.pure_def,
      Option.some.injEq, Prod.mk.injEq] at h
    obtain ⟨r, hr, t, ht, rfl, rfl⟩ := h
    obtain ⟨w1, out, resid⟩ := r
    intro g hg
    rcases List.mem_cons.mp hg with hg | hg
    · subst hg; exact (pairResp_spec hr).1
    · have := ih (by simpa using ht) g hg
      rw [← this]
      exact (checkIsPairSc_congr (pairResp_tok hr g.pair)).symm

theorem hopTrace_untouched {m : Reg} (hops : List Hop) {w w' : Pairs} {tok : Tok} {amt : Nat}
    {rs : List (Nat × Nat)} (h : hopTrace (pairResp m) hops w tok amt = some (w', rs))
    {x : Addr} (hx : ∀ g ∈ hops, g.pair ≠ x) : w' x = w x := by
  refine hopTrace_induction (P := fun v => v x = w x) hops (fun g hg v _ _ r hr hv => ?_) h rfl
  obtain ⟨_, p, d, _, _, hk⟩ := pairResp_spec hr
  have hne : x ≠ g.pair := fun e => hx g hg e.symm
  rcases hk with ⟨_, st', o, _, _, _, e⟩ | ⟨_, st', o, _, _, _, e⟩
  · rw [e, setPairSt_other v p st' hne]; exact hv
  · rw [e, setPairSt_other v p st' hne]; exact hv

theorem feePercents_owner {fees : Option (Nat × Nat)} {f : Nat × Nat}
    (h : feePercents true fees = some f) : fees = some f ∧ f.2 ≤ f.1 ∧ f.1 < MAX_TOTAL := by
  unfold feePercents at h
  simp only [if_true] at h
  cases fees with
  | none => cases h
  | some g =>
    simp only at h
    split at h
    · rename_i hg
      simp only [Option.some.injEq] at h
      subst h
      exact ⟨rfl, hg.1, hg.2⟩
    · cases h

theorem feePercents_other {fees : Option (Nat × Nat)} {f : Nat × Nat}
    (h : feePercents false fees = some f) : f = (DEFAULT_TOTAL, DEFAULT_SPECIAL) := by
  unfold feePercents at h
  simpa using h.symm

/-! The characterisation of `createPair` states a structure `…Run`: its parameters are the
  endpoint's arguments, the result of the helper call, the final state and the output, and a field
  bears the name of the guard or call of the model's `do` block it records (`special_le`,
  `total_le`: the two halves of the fee guard of `Pair::init`). -/

structure CreatePairRun (s : St) (c : Addr) (t1 t2 : Tok) (adder : Addr)
    (fees : Option (Nat × Nat)) (fp : Nat × Nat) (s' : St) (o : Out) : Prop where
  active : s.active = true
  caller : c = s.owner ∨ s.creationEnabled = true
  tokens_ne : t1 ≠ t2
  valid1 : validTok t1
  valid2 : validTok t2
  getPair : getPair s.pairMap t1 t2 = 0
  feePercents : feePercents (decide (c = s.owner)) fees = some fp
  templateSet : s.templateSet = true
  special_le : fp.2 ≤ fp.1
  total_le : fp.1 ≤ Mx.Pair.MAXFEE
  out : o = { addr := s.nextAddr }
  state : s' = { s with
    pairMap := s.pairMap ++ [((t1, t2), s.nextAddr)],
    pairs := upd s.pairs s.nextAddr (some (newPair t1 t2 fp.1 fp.2 adder)),
    addrs := s.addrs ++ [s.nextAddr],
    nextAddr := s.nextAddr + 1,
    tmpOwners := tmpInsert s.tmpOwners s.nextAddr (c, s.block),
    noLp := if s.bareNext then s.noLp ++ [s.nextAddr] else s.noLp }

theorem createPair_spec {s s' : St} {c : Addr} {t1 t2 : Tok} {adder : Addr}
    {fees : Option (Nat × Nat)} {o : Out} (h : createPair s c t1 t2 adder fees = some (s', o)) :
    ∃ fp, CreatePairRun s c t1 t2 adder fees fp s' o := by
  simp only [createPair, Option.bind_eq_bind, Option.bind_eq_some_iff, req_eq_some,
    Option.pure_def, Option.some.injEq, Prod.mk.injEq] at h
  obtain ⟨_, h1, _, h2, _, h3, _, h4, _, h5, _, h6, fp, h7, _, h8, _, h9, rfl, rfl⟩ := h
  exact ⟨fp, h1, h2, h3, h4, h5, h6, h7, h8, h9.1, h9.2, rfl, rfl⟩

/-- the registry after `removePair(t1, t2)` -/
def removed (m : Reg) (t1 t2 : Tok) : Reg :=
  if (lookup m (t1, t2)).getD 0 ≠ 0 then erase m (t1, t2) else erase (erase m (t1, t2)) (t2, t1)

theorem removed_sublist (m : Reg) (t1 t2 : Tok) : (removed m t1 t2).Sublist m := by
  unfold removed
  split
  · exact erase_sublist _ _
  · exact (erase_sublist _ _).trans (erase_sublist _ _)

theorem removePair_spec {s s' : St} {c : Addr} {t1 t2 : Tok} {o : Out}
    (h : removePair s c t1 t2 = some (s', o)) :
    c = s.owner ∧ s.active = true ∧ t1 ≠ t2 ∧ validTok t1 ∧ validTok t2 ∧
    getPair s.pairMap t1 t2 ≠ 0 ∧ o = { addr := getPair s.pairMap t1 t2 } ∧
    s' = { s with pairMap := removed s.pairMap t1 t2 } := by
  simp only [removePair, Option.bind_eq_bind, Option.bind_eq_some_iff, req_eq_some] at h
  obtain ⟨_, h1, _, h2, _, h3, _, h4, _, h5, _, h6, h7⟩ := h
  refine ⟨h1, h2, h3, h4, h5, h6, ?_⟩
  have hne : (t2, t1) ≠ (t1, t2) := by
    intro e; simp only [Prod.mk.injEq] at e; exact h3 e.2
  by_cases ha : (lookup s.pairMap (t1, t2)).getD 0 ≠ 0
  · simp only [ha, if_true, Option.pure_def, Option.some.injEq, Prod.mk.injEq, ne_eq,
      not_false_eq_true] at h7
    obtain ⟨rfl, rfl⟩ := h7
    constructor
    · have : getPair s.pairMap t1 t2 = (lookup s.pairMap (t1, t2)).getD 0 := by
        unfold getPair; simp only; rw [if_neg ha]
      rw [this]
    · simp [removed, ha]
  · have ha' : (lookup s.pairMap (t1, t2)).getD 0 = 0 := by
      simpa using ha
    simp only [ha', ne_eq, not_true_eq_false, if_false, Option.pure_def, Option.some.injEq,
      Prod.mk.injEq] at h7
    obtain ⟨rfl, rfl⟩ := h7
    constructor
    · have : getPair s.pairMap t1 t2 = (lookup s.pairMap (t2, t1)).getD 0 := by
        unfold getPair; simp only; rw [if_pos ha']
      rw [this, lookup_erase_other _ hne]
    · simp [removed, ha']

/-- the pair state after the router's `pause` / `resume` reached it -/
def withStatus (st : Mx.Pair.St) (on : Bool) : Mx.Pair.St :=
  { st with status := if on then .active else .inactive }

theorem setState_spec {s s' : St} {c a : Addr} {on : Bool} {o : Out}
    (h : setState s c a on = some (s', o)) :
    c = s.owner ∧
    ((a = s.self ∧ s' = { s with active := on }) ∨
     (a ≠ s.self ∧ checkIsPairSc s.pairMap s.pairs a = some () ∧ ∃ p, s.pairs a = some p ∧
        s' = { s with pairs := setPairSt s.pairs a p (withStatus p.st on) })) := by
  simp only [setState, Option.bind_eq_bind, Option.bind_eq_some_iff, req_eq_some] at h
  obtain ⟨_, h1, h2⟩ := h
  refine ⟨h1, ?_⟩
  by_cases ha : a = s.self
  · simp only [ha, if_true, Option.pure_def, Option.some.injEq, Prod.mk.injEq] at h2
    exact Or.inl ⟨ha, h2.1.symm⟩
  · simp only [ha, if_false, Option.bind_eq_some_iff, Mx.Pair.cfg,
      Option.pure_def, Option.some.injEq, Prod.mk.injEq] at h2
    obtain ⟨u, hc, p, hp, st, rfl, rfl, _⟩ := h2
    cases u
    exact Or.inr ⟨ha, hc, p, hp, rfl⟩

/-- a pair after `setFeeOn` added a destination asking for `tok` -/
def withDest (p : PairRec) (tok : Tok) : PairRec :=
  { p with st := { p.st with dests := p.st.dests ++ [wantOf p tok] },
           destToks := p.destToks ++ [tok] }

/-- a pair after `setFeeOff` removed its `i`-th destination -/
def withoutDest (p : PairRec) (i : Nat) : PairRec :=
  { p with st := { p.st with dests := p.st.dests.eraseIdx i },
           destToks := p.destToks.eraseIdx i }

theorem setFeeOn_spec {s s' : St} {c a : Addr} {tok : Tok} {o : Out}
    (h : setFeeOn s c a tok = some (s', o)) :
    c = s.owner ∧ s.active = true ∧ checkIsPairSc s.pairMap s.pairs a = some () ∧
    ∃ p, s.pairs a = some p ∧
      s' = { s with pairs := upd s.pairs a (some (withDest p tok)) } := by
  simp only [setFeeOn, Option.bind_eq_bind, Option.bind_eq_some_iff, req_eq_some, Mx.Pair.cfg,
    Option.pure_def, Option.some.injEq, Prod.mk.injEq] at h
  obtain ⟨_, h1, _, h2, u, hc, p, hp, st, rfl, rfl, _⟩ := h
  cases u
  exact ⟨h1, h2, hc, p, hp, rfl⟩

theorem setFeeOff_spec {s s' : St} {c a : Addr} {i : Nat} {tok : Tok} {o : Out}
    (h : setFeeOff s c a i tok = some (s', o)) :
    c = s.owner ∧ s.active = true ∧ checkIsPairSc s.pairMap s.pairs a = some () ∧
    ∃ p, s.pairs a = some p ∧ p.destToks[i]? = some tok ∧ i < p.st.dests.length ∧
      s' = { s with pairs := upd s.pairs a (some (withoutDest p i)) } := by
  simp only [setFeeOff, Option.bind_eq_bind, Option.bind_eq_some_iff, req_eq_some, Mx.Pair.cfg,
    Option.pure_def, Option.some.injEq, Prod.mk.injEq] at h
  obtain ⟨_, h1, _, h2, u, hc, p, hp, _, _, _, h4, st, ⟨_, h5, rfl⟩, rfl, _⟩ := h
  cases u
  exact ⟨h1, h2, hc, p, hp, h4, h5, rfl⟩

theorem multiPairSwap_spec {s s' : St} {c : Addr} {tokIn : Tok} {amount : Nat} {hops : List Hop}
    {o : Out} (h : multiPairSwap s c tokIn amount hops = some (s', o)) :
    ∃ r : MultiRes Pairs,
      s.active = true ∧
      multiG (pairResp s.pairMap) s.pairs s.rbal (s.ubal c) tokIn amount hops = some r ∧
      o = { pays := r.pays } ∧
      s' = { s with pairs := r.w, rbal := r.rb, ubal := upd s.ubal c r.cb } := by
  simp only [multiPairSwap, Option.bind_eq_bind, Option.bind_eq_some_iff, req_eq_some,
    Option.pure_def, Option.some.injEq, Prod.mk.injEq] at h
  obtain ⟨_, h1, r, hr, rfl, rfl⟩ := h
  exact ⟨r, h1, hr, rfl, rfl⟩

theorem setCreation_spec {s s' : St} {c : Addr} {b : Bool} {o : Out}
    (h : setCreation s c b = some (s', o)) : c = s.owner ∧ s' = { s with creationEnabled := b } := by
  simp only [setCreation, Option.bind_eq_bind, Option.bind_eq_some_iff, req_eq_some,
    Option.pure_def, Option.some.injEq, Prod.mk.injEq] at h
  obtain ⟨_, h1, rfl, _⟩ := h
  exact ⟨h1, rfl⟩

theorem setTemplate_spec {s s' : St} {c : Addr} {o : Out}
    (h : setTemplate s c = some (s', o)) : c = s.owner ∧ s' = { s with templateSet := true } := by
  simp only [setTemplate, Option.bind_eq_bind, Option.bind_eq_some_iff, req_eq_some,
    Option.pure_def, Option.some.injEq, Prod.mk.injEq] at h
  obtain ⟨_, h1, rfl, _⟩ := h
  exact ⟨h1, rfl⟩

/-- the operation of the pair model that a user's direct call runs on the pair contract it addresses (`d`: the
    direction the pair works out from the two token ids of a swap) -/
def directOp (d : Mx.Pair.Dir) : Op → Option (Addr × Mx.Pair.Op)
  | .addInitial u a a1 a2 => some (a, .addInitial u a1 a2)
  | .addLiq _ a a1 a2 m1 m2 => some (a, .addLiq a1 a2 m1 m2)
  | .removeLiq _ a lp m1 m2 => some (a, .removeLiq lp m1 m2)
  | .swapIn _ a _ x _ m => some (a, .swapIn d x m)
  | .swapOut _ a _ mx _ out => some (a, .swapOut d mx out)
  | _ => none

/-- a user's direct call `op` to the pair contract at `a`: an operation of the pair model runs on that pair's
    state; besides that state only balances of the accounts move -/
def PairCall (s : St) (op : Op) (s' : St) (a : Addr) : Prop :=
  ∃ p d pop r ub, s.pairs a = some p ∧ directOp d op = some (a, pop) ∧ Mx.Pair.step p.st pop = some r ∧
    s' = { s with pairs := setPairSt s.pairs a p r.1, ubal := ub }

/-- a user's successful direct call to pair contract `a` IS a successful step of the pair model on that pair's
    state, so what the pair world proves of its steps holds of the direct calls of the composed world -/
theorem direct_call {s s' : St} {op : Op} {o : Out} {a : Addr} (h : step s op = some (s', o))
    (ha : ∃ d pop, directOp d op = some (a, pop)) : PairCall s op s' a := by
  obtain ⟨d0, pop0, ha⟩ := ha
  cases op with
  | addInitial u x a1 a2 =>
    simp only [directOp, Option.some.injEq, Prod.mk.injEq] at ha
    obtain ⟨rfl, -⟩ := ha
    simp only [step, addInitial, Option.bind_eq_bind, Option.bind_eq_some_iff, Option.pure_def,
      Option.some.injEq, Prod.mk.injEq] at h
    obtain ⟨p, hp, _, _, _, _, r, hr, rfl, _⟩ := h
    exact ⟨p, d0, _, r, _, hp, rfl, hr, rfl⟩
  | addLiq u x a1 a2 m1 m2 =>
    simp only [directOp, Option.some.injEq, Prod.mk.injEq] at ha
    obtain ⟨rfl, -⟩ := ha
    simp only [step, addLiq, Option.bind_eq_bind, Option.bind_eq_some_iff, Option.pure_def,
      Option.some.injEq, Prod.mk.injEq] at h
    obtain ⟨p, hp, _, _, r, hr, _, _, _, _, rfl, _⟩ := h
    exact ⟨p, d0, _, r, _, hp, rfl, hr, rfl⟩
  | removeLiq u x lp m1 m2 =>
    simp only [directOp, Option.some.injEq, Prod.mk.injEq] at ha
    obtain ⟨rfl, -⟩ := ha
    simp only [step, removeLiq, Option.bind_eq_bind, Option.bind_eq_some_iff, Option.pure_def,
      Option.some.injEq, Prod.mk.injEq] at h
    obtain ⟨p, hp, _, _, r, hr, rfl, _⟩ := h
    exact ⟨p, d0, _, r, _, hp, rfl, hr, rfl⟩
  | swapIn u x ti y tq m =>
    simp only [directOp, Option.some.injEq, Prod.mk.injEq] at ha
    obtain ⟨rfl, -⟩ := ha
    simp only [step, swapIn, Option.bind_eq_bind, Option.bind_eq_some_iff, Option.pure_def,
      Option.some.injEq, Prod.mk.injEq] at h
    obtain ⟨p, hp, d, _, _, _, r, hr, rfl, _⟩ := h
    exact ⟨p, d, _, r, _, hp, rfl, hr, rfl⟩
  | swapOut u x ti mx tq out =>
    simp only [directOp, Option.some.injEq, Prod.mk.injEq] at ha
    obtain ⟨rfl, -⟩ := ha
    simp only [step, swapOut, Option.bind_eq_bind, Option.bind_eq_some_iff, Option.pure_def,
      Option.some.injEq, Prod.mk.injEq] at h
    obtain ⟨p, hp, d, _, _, _, r, hr, rfl, _⟩ := h
    exact ⟨p, d, _, r, _, hp, rfl, hr, rfl⟩
  | _ => simp only [directOp, reduceCtorEq] at ha

theorem direct_step {s : St} {op : Op} {r : St × Out} {a : Addr} (h : step s op = some r)
    (ha : ∃ d pop, directOp d op = some (a, pop)) :
    ∃ p d pop q, s.pairs a = some p ∧ directOp d op = some (a, pop) ∧ Mx.Pair.step p.st pop = some q := by
  obtain ⟨p, d, pop, q, _, hp, hd, hq, _⟩ := direct_call (s' := r.1) (o := r.2) h ha
  exact ⟨p, d, pop, q, hp, hd, hq⟩

end Mx.Router
