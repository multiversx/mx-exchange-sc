/-
  Access / pause facts about the EXECUTABLE pair model (Core/Pair.lean), proved from the
  per-endpoint spec lemmas of Lemmas/PairSpec.lean (helper lemmas for Props/C19Models.lean).
-/
import MxModel.Lemmas.PairSpec

namespace Mx.Pair

theorem swapIn_active {s : St} {d : Dir} {a m : Nat} {r : St × Out}
    (h : swapIn s d a m = some r) : s.status = .active := by
  obtain ⟨s', o⟩ := r
  obtain ⟨_, _, h3, _⟩ := swapIn_iff.mp h
  exact h3

theorem swapOut_active {s : St} {d : Dir} {mx o : Nat} {r : St × Out}
    (h : swapOut s d mx o = some r) : s.status = .active := by
  obtain ⟨s', o'⟩ := r
  obtain ⟨_, _, h3, _⟩ := swapOut_iff.mp h
  exact h3

theorem swapNoFee_active {s : St} {c : Nat} {d : Dir} {a : Nat} {r : St × Out}
    (h : swapNoFee s c d a = some r) : s.status = .active ∧ c ∈ s.wl := by
  obtain ⟨s', o'⟩ := r
  obtain ⟨h1, _, h3, _⟩ := swapNoFee_spec h
  exact ⟨h3, h1⟩

theorem addLiq_state {s : St} {a1 a2 m1 m2 : Nat} {r : St × Out}
    (h : addLiq s a1 a2 m1 m2 = some r) : s.status = .active ∨ s.status = .partialActive := by
  obtain ⟨s', o'⟩ := r
  by_cases hS : s.S = 0
  · exact (addLiq_first_spec hS h).2.2.1
  · obtain ⟨_, _, t⟩ := addLiq_spec hS h
    exact t.status

theorem removeLiq_state {s : St} {lp m1 m2 : Nat} {r : St × Out}
    (h : removeLiq s lp m1 m2 = some r) : s.status = .active ∨ s.status = .partialActive := by
  obtain ⟨s', o'⟩ := r
  exact (removeLiq_spec h).status

theorem addInitial_state {s : St} {c a1 a2 : Nat} {r : St × Out}
    (h : addInitial s c a1 a2 = some r) :
    s.status = .inactive ∧ s.S = 0 ∧ (s.adder = none ∨ s.adder = some c) := by
  obtain ⟨s', o'⟩ := r
  obtain ⟨h1, _, _, h4, h5, _⟩ := addInitial_spec h
  exact ⟨h4, h5, h1⟩

theorem buyback_wl {s : St} {c lp : Nat} {w : Want} {r : St × Out}
    (h : buyback s c lp w = some r) : c ∈ s.wl := by
  obtain ⟨s', o'⟩ := r
  obtain ⟨_, _, _, t⟩ := buyback_spec h
  exact t.wl

/-- "paused with liquidity": the state a pair is in after `pause` once a first deposit happened.
    `S ≠ 0` shuts out `addInitialLiquidity`, which runs on an Inactive pair and leaves it PartialActive. -/
def PausedLiq (s : St) : Prop := s.status = .inactive ∧ s.S ≠ 0

theorem step_keeps_paused {s s' : St} {op : Op} {o : Out} (hp : PausedLiq s)
    (h : step s op = some (s', o)) (hop : isSetState op = false) : PausedLiq s' := by
  cases ha : isAdmin op
  · have hf := step_kept ha h
    exact ⟨(hf.status.resolve_right hp.2).trans hp.1,
      Nat.ne_of_gt (hf.S_pos (Nat.pos_of_ne_zero hp.2))⟩
  · have t := step_admin ha h
    obtain ⟨_, _, _, _, _, _, _, _, _, _, _, _, _, hs'⟩ := t.state
    exact ⟨(t.status hop).trans hp.1, by rw [hs']; exact hp.2⟩

theorem run_keeps_paused (ops : List Op) {s : St} (hp : PausedLiq s)
    (hno : ∀ op ∈ ops, isSetState op = false) : PausedLiq (run s ops) := by
  induction ops generalizing s with
  | nil => exact hp
  | cons op rest ih =>
    simp only [run, List.foldl_cons]
    have hrest : ∀ x ∈ rest, isSetState x = false := fun x hx => hno x (List.mem_cons_of_mem _ hx)
    cases hs : step s op with
    | none => exact ih hp hrest
    | some r =>
      obtain ⟨s', o⟩ := r
      exact ih (step_keeps_paused hp hs (hno op List.mem_cons_self)) hrest

end Mx.Pair
