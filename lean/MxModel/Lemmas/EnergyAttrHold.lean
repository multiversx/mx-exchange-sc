/-
  C08 with an explicit attribution ledger — attribution versus holding.

  * `div_effect`: the divergence `attributed − held` of an ordinary account changes only by the
    holder's row change, booked `+` on the energy address and `−` on the holder; so it moves only
    when the two differ.
  * `Agree`: attribution = holding on every ordinary account, nothing attributed to the escrow
    contracts — preserved by every operation whose energy address is its holder (`Op.Plain`).
  * `Cons`: nonce by nonce, the total attributed to all accounts = the total held outside the four
    escrow contracts — preserved by EVERY operation (escrowed tokens are attributed to nobody).
-/
import MxModel.Lemmas.EnergyAttrStep

namespace Mx.Energy

theorem div_effect {s s' : St} {A : Nat → Nat → Int} {h ea : Nat} (eff : Effect s s' h ea)
    (a n : Nat) (ha : ¬ IsEsc a) :
    (if a = ea then A a n + dRow s s' h n else A a n) - (s'.bal a n : Int) =
      (A a n - (s.bal a n : Int)) + (if a = ea then dRow s s' h n else 0)
        - (if a = h then dRow s s' h n else 0) := by
  by_cases hah : a = h
  · subst hah
    have hd : dRow s s' a n = (s'.bal a n : Int) - (s.bal a n : Int) := rfl
    by_cases hae : a = ea
    · subst hae; simp only [if_true]; rw [hd]; ring
    · simp only [if_neg hae, if_true]; rw [hd]; ring
  · rw [eff.other a hah ha]
    by_cases hae : a = ea
    · subst hae; simp only [if_true, if_neg hah]; ring
    · simp only [if_neg hae, if_neg hah]; ring

structure Agree (s : St) (A : Nat → Nat → Int) : Prop where
  user : ∀ a, ¬ IsEsc a → ∀ n, A a n = (s.bal a n : Int)
  esc : ∀ a, IsEsc a → ∀ n, A a n = 0

theorem agree_effect {s s' : St} {A : Nat → Nat → Int} {h : Nat} (hg : Agree s A)
    (eff : Effect s s' h h) (hh : ¬ IsEsc h) :
    Agree s' (fun a n => if a = h then A a n + dRow s s' h n else A a n) := by
  refine ⟨?_, ?_⟩
  · intro a ha n
    have := div_effect (A := A) eff a n ha
    rw [hg.user a ha n] at this ⊢
    by_cases hah : a = h
    · simp only [hah, if_true] at this ⊢; linarith
    · simp only [hah, if_false] at this ⊢; linarith
  · intro a ha n
    have : a ≠ h := fun hx => hh (hx ▸ ha)
    simp only [this, if_false]
    exact hg.esc a ha n

theorem agree_quiet {s s' : St} {A : Nat → Nat → Int} (hg : Agree s A) (q : Quiet s s') :
    Agree s' A :=
  ⟨fun a ha n => by rw [q.other a ha]; exact hg.user a ha n, hg.esc⟩

theorem step_agree {s s' : St} {A : Nat → Nat → Int} {op : Op} {o : Out} (hg : Agree s A)
    (hw : op.NoEsc) (hp : op.Plain) (h : step s op = some (s', o)) :
    Agree s' (attrStep A s s' op) := by
  rcases step_kind hw h with ⟨hh, ea, hpar, eff⟩ | ⟨hpar, q⟩ | ⟨e, hpar, hle, rfl⟩
  · simp only [Op.Plain, hpar] at hp
    simp only [Op.NoEsc, hpar] at hw
    subst hp
    simp only [attrStep, hpar]; exact agree_effect hg eff.effect hw
  · simp only [attrStep, hpar]; exact agree_quiet hg q
  · simp only [attrStep, hpar]; exact ⟨hg.user, hg.esc⟩

theorem init_agree (c : Cfg) : Agree (init c) (fun _ _ => 0) :=
  ⟨fun _ _ _ => rfl, fun _ _ _ => rfl⟩

theorem runA_agree (ops : List Op) {s : St} {A : Nat → Nat → Int} (hg : Agree s A)
    (hw : ∀ op ∈ ops, op.NoEsc) (hp : ∀ op ∈ ops, op.Plain) :
    Agree (runA s A ops).1 (runA s A ops).2 :=
  runA_induction ops hg (fun _ _ _ op _ hm hg h => step_agree hg (hw op hm) (hp op hm) h)


def sumAcc (f : Nat → Int) : Nat → Int
  | 0 => 0
  | N + 1 => sumAcc f N + f N

theorem sumAcc_congr {f f' : Nat → Int} (N : Nat) (h : ∀ a, a < N → f' a = f a) :
    sumAcc f' N = sumAcc f N := by
  induction N with
  | zero => rfl
  | succ N ih =>
    simp only [sumAcc]
    rw [ih (fun a ha => h a (by omega)), h N (by omega)]

theorem sumAcc_point {f f' : Nat → Int} {k N : Nat} {d : Int} (hk : k < N)
    (hat : f' k = f k + d) (hoth : ∀ a, a ≠ k → f' a = f a) :
    sumAcc f' N = sumAcc f N + d := by
  induction N with
  | zero => omega
  | succ N ih =>
    simp only [sumAcc]
    rcases Nat.eq_or_lt_of_le (Nat.le_of_lt_succ hk) with heq | hlt
    · subst heq
      rw [sumAcc_congr k (fun a ha => hoth a (by omega)), hat]; ring
    · rw [ih hlt, hoth N (by omega)]; ring

/-- nonce `n`: total attributed (over the accounts below `N`) = total held outside escrow -/
def Cons (s : St) (A : Nat → Nat → Int) (N n : Nat) : Prop :=
  sumAcc (fun a => A a n) N = sumAcc (fun a => if IsEsc a then 0 else (s.bal a n : Int)) N

theorem cons_effect {s s' : St} {A : Nat → Nat → Int} {h ea N n : Nat} (hc : Cons s A N n)
    (eff : Effect s s' h ea) (hh : ¬ IsEsc h) (hN : h < N) (heN : ea < N) :
    Cons s' (fun a n => if a = ea then A a n + dRow s s' h n else A a n) N n := by
  unfold Cons at hc ⊢
  have l : sumAcc (fun a => if a = ea then A a n + dRow s s' h n else A a n) N =
      sumAcc (fun a => A a n) N + dRow s s' h n :=
    sumAcc_point heN (by simp) (fun a ha => by simp [ha])
  have r : sumAcc (fun a => if IsEsc a then 0 else (s'.bal a n : Int)) N =
      sumAcc (fun a => if IsEsc a then 0 else (s.bal a n : Int)) N + dRow s s' h n := by
    refine sumAcc_point hN ?_ ?_
    · simp only [hh, if_false, dRow]; ring
    · intro a ha
      by_cases hae : IsEsc a
      · simp [hae]
      · simp only [hae, if_false]; rw [eff.other a ha hae]
  rw [l, r, hc]

theorem cons_quiet {s s' : St} {A : Nat → Nat → Int} {N n : Nat} (hc : Cons s A N n)
    (q : Quiet s s') : Cons s' A N n := by
  unfold Cons at hc ⊢
  rw [hc]
  refine (sumAcc_congr N (fun a _ => ?_)).symm
  by_cases hae : IsEsc a
  · simp [hae]
  · simp only [hae, if_false]; rw [q.other a hae]

theorem step_cons {s s' : St} {A : Nat → Nat → Int} {op : Op} {o : Out} {N n : Nat}
    (hc : Cons s A N n) (hw : op.NoEsc) (hb : op.Below N) (h : step s op = some (s', o)) :
    Cons s' (attrStep A s s' op) N n := by
  rcases step_kind hw h with ⟨hh, ea, hpar, eff⟩ | ⟨hpar, q⟩ | ⟨e, hpar, hle, rfl⟩
  · simp only [Op.Below, hpar] at hb
    simp only [Op.NoEsc, hpar] at hw
    simp only [attrStep, hpar]; exact cons_effect hc eff.effect hw hb.1 hb.2
  · simp only [attrStep, hpar]; exact cons_quiet hc q
  · simp only [attrStep, hpar]; exact hc

theorem init_cons (c : Cfg) (N n : Nat) : Cons (init c) (fun _ _ => 0) N n := by
  unfold Cons
  refine sumAcc_congr N (fun a _ => ?_)
  by_cases hae : IsEsc a
  · simp [hae]
  · simp [hae, init]

theorem runA_cons (ops : List Op) {s : St} {A : Nat → Nat → Int} {N n : Nat} (hc : Cons s A N n)
    (hw : ∀ op ∈ ops, op.NoEsc) (hb : ∀ op ∈ ops, op.Below N) :
    Cons (runA s A ops).1 (runA s A ops).2 N n :=
  runA_induction (P := fun s A => Cons s A N n) ops hc
    (fun _ _ _ op _ hm hc h => step_cons hc (hw op hm) (hb op hm) h)


theorem sumAcc_zero (N : Nat) : sumAcc (fun _ => 0) N = 0 := by
  induction N with
  | zero => rfl
  | succ N ih => simp [sumAcc, ih]

theorem sumAcc_add (f g : Nat → Int) (N : Nat) :
    sumAcc (fun a => f a + g a) N = sumAcc f N + sumAcc g N := by
  induction N with
  | zero => simp [sumAcc]
  | succ N ih => simp only [sumAcc, ih]; ring

theorem sumAcc_mul (f : Nat → Int) (c : Int) (N : Nat) :
    sumAcc (fun a => f a * c) N = sumAcc f N * c := by
  induction N with
  | zero => simp [sumAcc]
  | succ N ih => simp only [sumAcc, ih]; ring

theorem sumAcc_sumTZ (g : Nat → Nat → Int) (N k : Nat) (ns : List Nat) :
    sumAcc (fun a => sumTZ (g a) k ns) N = sumTZ (fun n => sumAcc (fun a => g a n) N) k ns := by
  induction ns generalizing k with
  | nil => simp only [sumTZ]; exact sumAcc_zero N
  | cons x xs ih => simp only [sumTZ]; rw [sumAcc_add, ih (k + 1)]

theorem sumAcc_sumEZ (g : Nat → Nat → Int) (now N k : Nat) (ns : List Nat) :
    sumAcc (fun a => sumEZ (g a) now k ns) N =
      sumEZ (fun n => sumAcc (fun a => g a n) N) now k ns := by
  induction ns generalizing k with
  | nil => simp only [sumEZ]; exact sumAcc_zero N
  | cons x xs ih => simp only [sumEZ]; rw [sumAcc_add, ih (k + 1), sumAcc_mul]

/-- the attribution ledger after a history from a freshly deployed world -/
def attr (c : Cfg) (ops : List Op) : Nat → Nat → Int := (runA (init c) (fun _ _ => 0) ops).2

end Mx.Energy
