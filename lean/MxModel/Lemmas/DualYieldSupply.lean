/-
  Supply invariant of the dual-yield token: for every nonce the outstanding supply (minted −
  burned) is the sum of what the accounts hold — the proxy itself keeps none.
  Accounts are natural numbers; `B` bounds the accounts that ever held a token.
-/
import MxModel.Lemmas.DualYieldSpec

namespace Mx.DualYield

/-- outstanding supply of dual-yield nonce `d` (0 for a nonce that does not exist) -/
def outOf (ts : List Tok) (d : Nat) : Nat :=
  if d = 0 then 0 else match ts[d - 1]? with
    | some t => t.out
    | none => 0

/-- what the accounts `0 … B-1` hold of nonce `d` -/
def held (f : Nat → Nat → Nat) (B d : Nat) : Nat := ((List.range B).map fun u => f u d).sum

theorem held_succ (f : Nat → Nat → Nat) (B d : Nat) : held f (B + 1) d = held f B d + f B d := by
  simp [held, List.range_succ]

theorem held_extend {f : Nat → Nat → Nat} {B : Nat} (hz : ∀ u d, B ≤ u → f u d = 0) (d : Nat) :
    ∀ k, held f (B + k) d = held f B d
  | 0 => rfl
  | k + 1 => by
      rw [← Nat.add_assoc, held_succ, held_extend hz d k, hz (B + k) d (Nat.le_add_right _ _)]
      rfl

theorem held_congr {f f' : Nat → Nat → Nat} {B d : Nat} (h : ∀ u, u < B → f' u d = f u d) :
    held f' B d = held f B d :=
  congrArg List.sum (List.map_congr_left fun u hu => h u (List.mem_range.1 hu))

theorem held_upd2_same (f : Nat → Nat → Nat) (u d v : Nat) :
    ∀ B, u < B → held (upd2 f u d v) B d + f u d = held f B d + v
  | B + 1, h => by
      rw [held_succ, held_succ]
      rcases Nat.lt_succ_iff_lt_or_eq.1 h with hlt | rfl
      · have ih := held_upd2_same f u d v B hlt
        rw [upd2_apply, if_neg (fun hh => by omega)]
        omega
      · rw [held_congr (fun a ha => if_neg (fun hh => by omega)), upd2_same]
        omega

theorem held_upd2_other (f : Nat → Nat → Nat) (u d v B : Nat) {d' : Nat} (h : d' ≠ d) :
    held (upd2 f u d v) B d' = held f B d' :=
  held_congr fun _ _ => if_neg fun hh => h hh.2

/-- the columns of `f` vanish from row `B` on and sum to `g` -/
def Sums (f : Nat → Nat → Nat) (g : Nat → Nat) (B : Nat) : Prop :=
  (∀ u d, B ≤ u → f u d = 0) ∧ ∀ d, held f B d = g d

theorem Sums.upd2 {f : Nat → Nat → Nat} {g g' : Nat → Nat} {B u d v : Nat} (h : Sums f g B)
    (hlt : u < B) (hd : g' d + f u d = g d + v) (ho : ∀ d', d' ≠ d → g' d' = g d') :
    Sums (upd2 f u d v) g' B := by
  refine ⟨fun u' d' hu' => ?_, fun d' => ?_⟩
  · rw [upd2_apply, if_neg (fun hh => by omega)]
    exact h.1 u' d' hu'
  · by_cases hdd : d' = d
    · subst hdd
      have e := held_upd2_same f u d' v B hlt
      have := h.2 d'
      omega
    · rw [held_upd2_other _ _ _ _ _ hdd, ho d' hdd]
      exact h.2 d'

structure Supply (s : St) (B : Nat) : Prop where
  bound : ∀ u d, B ≤ u → s.user u d = 0
  sum : ∀ d, held s.user B d = outOf s.toks d

theorem supply_init : Supply init 0 :=
  ⟨fun _ _ _ => rfl, fun d => by simp [held, outOf, init]⟩

theorem Supply.extend {s : St} {B : Nat} (h : Supply s B) {B' : Nat} (hb : B ≤ B') : Supply s B' := by
  obtain ⟨k, rfl⟩ := Nat.exists_eq_add_of_le hb
  exact ⟨fun u d hu => h.bound u d (by omega), fun d => by rw [held_extend h.bound d k, h.sum d]⟩

theorem Supply.sums {s : St} {B : Nat} (h : Supply s B) : Sums s.user (outOf s.toks) B :=
  ⟨h.bound, h.sum⟩

theorem Sums.supply {s : St} {B : Nat} (h : Sums s.user (outOf s.toks) B) : Supply s B :=
  ⟨h.1, h.2⟩

theorem Supply.lt {s : St} {B u d : Nat} (h : Supply s B) (hu : s.user u d ≠ 0) : u < B :=
  Nat.lt_of_not_le fun hle => hu (h.bound u d hle)

theorem holding_le_out {s : St} (h : ∃ B, Supply s B) (u d : Nat) : s.user u d ≤ outOf s.toks d := by
  obtain ⟨B, hB⟩ := h
  by_cases hu : s.user u d = 0
  · omega
  · have := held_upd2_same s.user u d 0 B (hB.lt hu)
    rw [← hB.sum d]
    omega

theorem outOf_eq {ts : List Tok} {d : Nat} {t : Tok} (hd : d ≠ 0) (ht : ts[d - 1]? = some t) :
    outOf ts d = t.out := by
  rw [outOf, if_neg hd, ht]

theorem outOf_set_same {ts : List Tok} {d : Nat} {t : Tok} (t' : Tok) (hd : d ≠ 0)
    (ht : ts[d - 1]? = some t) : outOf (ts.set (d - 1) t') d = t'.out :=
  outOf_eq hd (by rw [List.getElem?_set_self', ht]; rfl)

theorem outOf_set_other {ts : List Tok} {d d' : Nat} (t' : Tok) (hd : d ≠ 0) (h : d' ≠ d) :
    outOf (ts.set (d - 1) t') d' = outOf ts d' := by
  unfold outOf
  split
  · rfl
  · rw [List.getElem?_set_ne (by omega)]

theorem outOf_append (ts : List Tok) (a : Tok) (d : Nat) :
    outOf (ts ++ [a]) d = if d = ts.length + 1 then a.out else outOf ts d := by
  unfold outOf
  rcases Nat.lt_trichotomy d (ts.length + 1) with h | rfl | h
  · rw [if_neg (Nat.ne_of_lt h)]
    by_cases hd : d = 0
    · rw [if_pos hd, if_pos hd]
    · rw [if_neg hd, if_neg hd, List.getElem?_append_left (by omega)]
  · simp
  · rw [if_neg (by omega : d ≠ 0), if_neg (by omega : d ≠ ts.length + 1),
      List.getElem?_eq_none (by simp; omega), List.getElem?_eq_none (by omega),
      if_neg (by omega : d ≠ 0)]

theorem release_supply {s s' : St} {u d x p : Nat} {B : Nat} (hs : Supply s B)
    (h : release s u d x = some (s', p)) : Supply s' B := by
  obtain ⟨t, r⟩ := release_spec h
  obtain rfl := r.state
  have hd := r.d_ne
  have ht := r.lookup
  have hx := r.x_ne
  have hu := r.user
  have ho := r.out
  refine (hs.sums.upd2 (hs.lt (d := d) (by omega)) ?_ fun d' hdd => outOf_set_other _ hd hdd).supply
  rw [outOf_set_same _ hd ht, outOf_eq hd ht]
  show t.out - x + _ = _
  omega

theorem mint_supply {s : St} {B : Nat} (u lpN lpA stN stA : Nat) (hs : Supply s B) :
    Supply (mint s u lpN lpA stN stA).1 (max B (u + 1)) := by
  rw [mint_fst]
  refine ((hs.extend (Nat.le_max_left B (u + 1))).sums.upd2 (by omega) ?_ fun d' hdd => ?_).supply
  · rw [outOf_append, if_pos rfl, outOf, if_neg (by omega), List.getElem?_eq_none (by omega)]
    show stA + _ = 0 + _
    omega
  · rw [outOf_append, if_neg hdd]

theorem xfer_supply {s s' : St} {u v d x : Nat} {o : Out} {B : Nat} (hs : Supply s B)
    (h : xfer s u v d x = some (s', o)) : Supply s' (max B (v + 1)) := by
  obtain ⟨huv, hx, hu, -, rfl⟩ := xfer_spec h
  have hs' := hs.extend (Nat.le_max_left B (v + 1))
  have hle := holding_le_out ⟨B, hs⟩ u d
  have h1 := hs'.sums.upd2 (u := u) (d := d) (v := s.user u d - x) (g' := upd (outOf s.toks) d (outOf s.toks d - x))
    (hs'.lt (d := d) (by omega)) (by rw [upd_same]; omega) (fun d' hdd => upd_other _ _ hdd)
  refine (h1.upd2 (u := v) (by omega) ?_ fun d' hdd => (upd_other _ _ hdd).symm).supply
  rw [upd_same, upd2_apply, if_neg (fun hh => huv hh.1.symm)]
  omega

theorem step_supply {s s' : St} {op : Op} {o : Out} (hs : ∃ B, Supply s B)
    (h : step s op = some (s', o)) : ∃ B, Supply s' B :=
  step_induct (P := fun s => ∃ B, Supply s B) (M := fun _ => True)
    (fun ⟨B, hs⟩ h => ⟨B, release_supply hs h⟩)
    (fun u lpN lpA stN _ ⟨_, hs⟩ _ => ⟨_, mint_supply u lpN lpA stN _ hs⟩)
    (fun ⟨_, hs⟩ h => ⟨_, xfer_supply hs h⟩)
    hs (fun _ _ => trivial) h

theorem run_supply {s : St} (ops : List Op) (hs : ∃ B, Supply s B) : ∃ B, Supply (run s ops) B :=
  run_induct (P := fun s => ∃ B, Supply s B) (G := fun _ => True) (fun hs _ h => step_supply hs h)
    hs (fun _ _ => trivial)

theorem supply_run (ops : List Op) : ∃ B, Supply (run init ops) B :=
  run_supply ops ⟨0, supply_init⟩

/-- the merge loop touches existing nonces only: nobody's balance of the nonce the following mint
    creates has changed -/
theorem releaseAll_user_fresh {s : St} {u : Nat} {ms : List (Nat × Nat)} {q : St × Nat × Nat}
    (h : releaseAll s u ms = some q) {c : Nat} :
    q.1.user c (q.1.toks.length + 1) = s.user c (q.1.toks.length + 1) := by
  have := releaseAll_induct
    (P := fun s' => s'.toks.length = s.toks.length ∧
      ∀ c, s'.user c (s.toks.length + 1) = s.user c (s.toks.length + 1))
    (fun hs hr => by
      refine ⟨(release_length hr).trans hs.1, fun c => Eq.trans ?_ (hs.2 c)⟩
      obtain ⟨t, r⟩ := release_spec hr
      obtain rfl := r.state
      obtain ⟨hlt, -⟩ := List.getElem?_eq_some_iff.1 r.lookup
      exact if_neg fun hh => by omega)
    ⟨rfl, fun _ => rfl⟩ h
  rw [this.1]
  exact this.2 c

end Mx.DualYield
