/-
  The boosted-yields part of the farm model: what one call of the reward hook `boostedRewards`, the
  claim loop over it and `claimBoostedYields` do to the weekly pools, field by field
  (`HookEff → LoopEff → BoostEff`): the reward formula of one week, each week's pool
  `accum + remaining + paidW` conserved, what is paid exactly the growth of the paid ghost; and
  "a second claim in the same week pays nothing" (C11).

  One call of the hook has four descriptions, each a corollary of the one before: `boostedRewards_paths` (the
  only unfolding: one disjunct per path with the condition that selects it — for facts about WHICH path is
  taken, Lemmas/FarmLogAmt.lean), `boostedRewards_cases` (the paths that pay nothing merged — what the loop
  invariants split on), `boostedRewards_eff : HookEff` (field by field, no case split left — the usual
  entry) and `boostedRewards_spec` (formula and pool accounting in the words of Props/C11.lean, its one
  reader).  The claim has two routes: `claimBoostedYields_spec : BoostEff` gives per-field facts and the
  weeks outside the claimer's window, through the loop's own bookkeeping; a joint fact about the cells of
  one week, or an invariant kept by every call, goes through `claimBoostedYields_run` and `HookRun.pres` /
  `.perWeek` (Lemmas/WeeklyClaim.lean).

  Modelling fact (faithful to `collect_rewards_for_week`, which does
  `remaining_boosted_rewards_to_distribute(week).set(total)`): freezing a week OVERWRITES the
  week's `remaining`.  The pool of a week is therefore only conserved when `remaining week = 0`
  at the moment the week is frozen — `RemOk`.  That is a state invariant of the farm (`RemInv`: a
  week's `remaining` is only ever written by the freeze itself, by payments out of it and by
  `collectUndistributed`); it is a HYPOTHESIS of every `PoolRel` statement below and every
  statement also says that it is preserved.
-/
import MxModel.Lemmas.FarmSpec
import MxModel.Lemmas.WeeklyInv
import MxModel.Lemmas.ListSum

namespace Mx.Farm

open Mx.Weekly (upd Energy ClaimProgress)

/-- per week, `accum + remaining + paidW` is conserved and the paid ghost only grows; nothing else
    of the boosted sub-state moves -/
structure PoolRel (c c' : BSt) : Prop where
  cons : ∀ w, c'.accum w + c'.remaining w + c'.paidW w = c.accum w + c.remaining w + c.paidW w
  mono : ∀ w, c.paidW w ≤ c'.paidW w
  cutW : c'.cutW = c.cutW
  collW : c'.collW = c.collW
  fsw : c'.farmSupplyWeek = c.farmSupplyWeek

theorem PoolRel.refl (c : BSt) : PoolRel c c := ⟨fun _ => rfl, fun _ => Nat.le_refl _, rfl, rfl, rfl⟩

theorem PoolRel.trans {a b c : BSt} (h1 : PoolRel a b) (h2 : PoolRel b c) : PoolRel a c :=
  ⟨fun w => (h2.cons w).trans (h1.cons w), fun w => Nat.le_trans (h1.mono w) (h2.mono w),
   h2.cutW.trans h1.cutW, h2.collW.trans h1.collW, h2.fsw.trans h1.fsw⟩

/-- a week whose rewards are not frozen yet (`totalRewardsForWeek` empty) has no remaining pool:
    the freeze overwrites `remaining`, so this is what makes the freeze conservative -/
def RemOk (g : Weekly.St) (c : BSt) (w : Nat) : Prop :=
  (g.totalRewards w).isEmpty → c.remaining w = 0

theorem sumRewards_nil : sumRewards [] = 0 := rfl

theorem sumRewards_single (t : Weekly.Tok) (x : Nat) : sumRewards [(t, x)] = x := by
  simp [sumRewards]

theorem sumRewards_append (l1 l2 : List (Weekly.Tok × Nat)) :
    sumRewards (l1 ++ l2) = sumRewards l1 + sumRewards l2 := by
  simp [sumRewards, List.map_append, List.sum_append]

theorem collectAndGet_boosted {mem : BCfg} {g g1 : Weekly.St} {c c1 : BSt} {week : Nat}
    {l : List (Weekly.Tok × Nat)}
    (h : Weekly.collectAndGet (collectBoosted mem) g c week = (g1, c1, l)) :
    (((g.totalRewards week).isEmpty ∧ l = [(REW, c.accum week)] ∧
        g1.totalRewards week = [(REW, c.accum week)] ∧ c1.accum week = 0 ∧
        c1.remaining week = c.accum week ∧ c1.cfg = some mem) ∨
      (¬ (g.totalRewards week).isEmpty ∧ g1 = g ∧ c1 = c ∧ l = g.totalRewards week)) ∧
    (∀ w, w ≠ week → g1.totalRewards w = g.totalRewards w ∧ c1.accum w = c.accum w ∧
      c1.remaining w = c.remaining w) ∧
    c1.paidW = c.paidW ∧ c1.cutW = c.cutW ∧ c1.collW = c.collW ∧
    c1.farmSupplyWeek = c.farmSupplyWeek ∧ Weekly.FrameR g1 g := by
  rcases Weekly.collectAndGet_cases (collectBoosted mem) g c week with ⟨hemp, e⟩ | ⟨hemp, e⟩ <;> rw [e] at h
  · simp only [collectBoosted, Prod.mk.injEq] at h
    obtain ⟨rfl, rfl, rfl⟩ := h
    refine ⟨Or.inl ⟨hemp, rfl, by simp, by simp, by simp, rfl⟩, ?_, rfl, rfl, rfl, rfl,
      ⟨rfl, rfl, rfl, rfl, rfl, rfl, rfl⟩⟩
    intro w hw
    simp [Weekly.upd_other _ _ hw]
  · simp only [Prod.mk.injEq] at h
    obtain ⟨rfl, rfl, rfl⟩ := h
    exact ⟨Or.inr ⟨hemp, rfl, rfl, rfl⟩, fun _ _ => ⟨rfl, rfl, rfl⟩, rfl, rfl, rfl, rfl,
      Weekly.FrameR.refl _⟩

/-- one disjunct per path through `get_user_rewards_for_week`, each with the condition that selects it; `R` is the
    week's frozen pool (0 for an empty list `l`) -/
theorem boostedRewards_paths {mem : BCfg} {f : Nat} {g g' : Weekly.St} {c c' : BSt} {week e E : Nat}
    {r : List (Weekly.Tok × Nat)}
    (h : boostedRewards mem f g c week e E = some (g', c', r)) :
    ((E = 0 ∨ c.farmSupplyWeek week = 0) ∧ r = [] ∧ g' = g ∧ c' = c) ∨
    ∃ fa, mem.factorsForWeek week = some fa ∧ E ≠ 0 ∧ c.farmSupplyWeek week ≠ 0 ∧
      (((e < fa.minE ∨ f < fa.minF) ∧ r = [] ∧ g' = g ∧ c' = c) ∨
       ∃ c1 l R, fa.minE ≤ e ∧ fa.minF ≤ f ∧
         Weekly.collectAndGet (collectBoosted mem) g c week = (g', c1, l) ∧
         ((boostedAmount fa R f (c.farmSupplyWeek week) e E = 0 ∧
             (l = [] ∧ R = 0 ∨ ∃ tok, l = [(tok, R)]) ∧ r = [] ∧ c' = c1) ∨
          ∃ tok, l = [(tok, R)] ∧ R ≠ 0 ∧ fa.cE + fa.cF ≠ 0 ∧
            boostedAmount fa R f (c.farmSupplyWeek week) e E ≠ 0 ∧
            boostedAmount fa R f (c.farmSupplyWeek week) e E ≤ c1.remaining week ∧
            r = [(tok, boostedAmount fa R f (c.farmSupplyWeek week) e E)] ∧
            c' = { c1 with
                   remaining := upd c1.remaining week
                     (c1.remaining week - boostedAmount fa R f (c.farmSupplyWeek week) e E)
                   paidW := upd c1.paidW week
                     (c1.paidW week + boostedAmount fa R f (c.farmSupplyWeek week) e E) })) := by
  unfold boostedRewards at h
  simp only at h
  split at h
  · rename_i h0
    obtain ⟨rfl, rfl, rfl⟩ := Prod.mk.inj (Option.some.inj h)
    exact Or.inl ⟨h0, rfl, rfl, rfl⟩
  · rename_i h0
    obtain ⟨fa, hfa, h⟩ := peel h
    refine Or.inr ⟨fa, hfa, fun hh => h0 (Or.inl hh), fun hh => h0 (Or.inr hh), ?_⟩
    split at h
    · rename_i h1
      obtain ⟨rfl, rfl, rfl⟩ := Prod.mk.inj (Option.some.inj h)
      exact Or.inl ⟨h1, rfl, rfl, rfl⟩
    · rename_i h1
      generalize hcg : Weekly.collectAndGet (collectBoosted mem) g c week = x at h
      obtain ⟨g1, c1, l⟩ := x
      have hz : boostedAmount fa 0 f (c.farmSupplyWeek week) e E = 0 := by simp [boostedAmount]
      have hme : fa.minE ≤ e := Nat.le_of_not_lt fun hh => h1 (Or.inl hh)
      have hmf : fa.minF ≤ f := Nat.le_of_not_lt fun hh => h1 (Or.inr hh)
      simp only at h
      split at h
      · obtain ⟨rfl, rfl, rfl⟩ := Prod.mk.inj (Option.some.inj h)
        exact Or.inr ⟨_, _, 0, hme, hmf, rfl, Or.inl ⟨hz, Or.inl ⟨rfl, rfl⟩, rfl, rfl⟩⟩
      · rename_i tok R
        split at h
        · rename_i hR
          obtain ⟨rfl, rfl, rfl⟩ := Prod.mk.inj (Option.some.inj h)
          exact Or.inr ⟨_, _, R, hme, hmf, rfl, Or.inl ⟨hR ▸ hz, Or.inr ⟨tok, rfl⟩, rfl, rfl⟩⟩
        · rename_i hR
          obtain ⟨_, hc, h⟩ := peel h
          split at h
          · rename_i hu
            obtain ⟨rfl, rfl, rfl⟩ := Prod.mk.inj (Option.some.inj h)
            exact Or.inr ⟨_, _, R, hme, hmf, rfl, Or.inl ⟨hu, Or.inr ⟨tok, rfl⟩, rfl, rfl⟩⟩
          · rename_i hu
            obtain ⟨rem, hrem, h⟩ := peel h
            obtain ⟨hle, rfl⟩ := sub?_eq_some.mp hrem
            obtain ⟨rfl, rfl, rfl⟩ := Prod.mk.inj (Option.some.inj h)
            exact Or.inr ⟨_, _, R, hme, hmf, rfl,
              Or.inr ⟨tok, rfl, hR, (req_eq_some _).mp hc, hu, hle, rfl, rfl⟩⟩
      · cases h

/-- `boostedRewards_paths` with the paths that pay nothing merged and their conditions dropped -/
theorem boostedRewards_cases {mem : BCfg} {f : Nat} {g g' : Weekly.St} {c c' : BSt} {week e E : Nat}
    {r : List (Weekly.Tok × Nat)}
    (h : boostedRewards mem f g c week e E = some (g', c', r)) :
    (r = [] ∧ g' = g ∧ c' = c) ∨
    ∃ fa c1 l, mem.factorsForWeek week = some fa ∧ E ≠ 0 ∧ c.farmSupplyWeek week ≠ 0 ∧
      fa.minE ≤ e ∧ fa.minF ≤ f ∧
      Weekly.collectAndGet (collectBoosted mem) g c week = (g', c1, l) ∧
      ((r = [] ∧ c' = c1) ∨
       ∃ tok R, l = [(tok, R)] ∧ R ≠ 0 ∧ fa.cE + fa.cF ≠ 0 ∧
         boostedAmount fa R f (c.farmSupplyWeek week) e E ≠ 0 ∧
         boostedAmount fa R f (c.farmSupplyWeek week) e E ≤ c1.remaining week ∧
         r = [(tok, boostedAmount fa R f (c.farmSupplyWeek week) e E)] ∧
         c' = { c1 with
                remaining := upd c1.remaining week
                  (c1.remaining week - boostedAmount fa R f (c.farmSupplyWeek week) e E)
                paidW := upd c1.paidW week
                  (c1.paidW week + boostedAmount fa R f (c.farmSupplyWeek week) e E) }) := by
  rcases boostedRewards_paths h with ⟨_, h1⟩ | ⟨fa, hfa, hE, hF, ⟨_, h1⟩ | ⟨c1, l, R, hme, hmf, hcg, hrest⟩⟩
  · exact Or.inl h1
  · exact Or.inl h1
  · refine Or.inr ⟨fa, c1, l, hfa, hE, hF, hme, hmf, hcg, ?_⟩
    rcases hrest with ⟨_, _, hr, hc⟩ | ⟨tok, hp⟩
    · exact Or.inl ⟨hr, hc⟩
    · exact Or.inr ⟨tok, R, hp⟩

/-- the effect of one `boostedRewards` call on the two states, field by field -/
structure HookEff (mem : BCfg) (g : Weekly.St) (c : BSt) (week : Nat) (g' : Weekly.St) (c' : BSt)
    (r : List (Weekly.Tok × Nat)) : Prop where
  frame : Weekly.FrameR g' g
  other : ∀ w, w ≠ week → g'.totalRewards w = g.totalRewards w ∧ c'.accum w = c.accum w ∧
    c'.remaining w = c.remaining w ∧ c'.paidW w = c.paidW w
  cutW : c'.cutW = c.cutW
  collW : c'.collW = c.collW
  fsw : c'.farmSupplyWeek = c.farmSupplyWeek
  paid : c'.paidW week = c.paidW week + sumRewards r
  bound : sumRewards r ≤ c.accum week + c.remaining week
  cons : RemOk g c week → c'.accum week + c'.remaining week + c'.paidW week =
    c.accum week + c.remaining week + c.paidW week
  remOk : RemOk g c week → RemOk g' c' week
  cfg : c'.cfg = c.cfg ∨ c'.cfg = some mem

theorem boostedRewards_eff {mem : BCfg} {f : Nat} {g g' : Weekly.St} {c c' : BSt} {week e E : Nat}
    {r : List (Weekly.Tok × Nat)}
    (h : boostedRewards mem f g c week e E = some (g', c', r)) : HookEff mem g c week g' c' r := by
  rcases boostedRewards_cases h with ⟨rfl, rfl, rfl⟩ | ⟨fa, c1, l, _, _, _, _, _, hcg, hrest⟩
  · exact ⟨Weekly.FrameR.refl _, fun _ _ => ⟨rfl, rfl, rfl, rfl⟩, rfl, rfl, rfl, rfl,
      Nat.zero_le _, fun _ => rfl, fun hh => hh, Or.inl rfl⟩
  · obtain ⟨hcase, hoth, hpw, hcut, hcoll, hfsw, hfr⟩ := collectAndGet_boosted hcg
    have k1 : c1.paidW week = c.paidW week := by rw [hpw]
    have k2 : c1.accum week + c1.remaining week ≤ c.accum week + c.remaining week := by
      rcases hcase with ⟨_, _, _, ha, hr, _⟩ | ⟨_, _, rfl, _⟩
      · rw [ha, hr]; omega
      · exact Nat.le_refl _
    have k3 : RemOk g c week →
        c1.accum week + c1.remaining week = c.accum week + c.remaining week := by
      intro hok
      rcases hcase with ⟨hemp, _, _, ha, hr, _⟩ | ⟨_, _, rfl, _⟩
      · rw [ha, hr, hok hemp]; omega
      · rfl
    have k4 : c1.cfg = c.cfg ∨ c1.cfg = some mem := by
      rcases hcase with ⟨_, _, _, _, _, hc⟩ | ⟨_, _, rfl, _⟩
      · exact Or.inr hc
      · exact Or.inl rfl
    have k5 : RemOk g c week → (g'.totalRewards week).isEmpty → c1.remaining week = 0 := by
      intro hok hemp'
      rcases hcase with ⟨_, _, ht, _, _, _⟩ | ⟨_, rfl, rfl, _⟩
      · rw [ht] at hemp'; simp at hemp'
      · exact hok hemp'
    rcases hrest with ⟨rfl, rfl⟩ | ⟨tok, R, rfl, _, _, _, hle, rfl, rfl⟩
    · refine ⟨hfr, fun w hw => ⟨(hoth w hw).1, (hoth w hw).2.1, (hoth w hw).2.2, by rw [hpw]⟩,
        hcut, hcoll, hfsw, by rw [k1, sumRewards_nil]; rfl, Nat.zero_le _, ?_, k5, k4⟩
      intro hok
      rw [k1, k3 hok]
    · refine ⟨hfr, fun w hw => ⟨(hoth w hw).1, (hoth w hw).2.1, ?_, ?_⟩, hcut, hcoll, hfsw, ?_, ?_,
        ?_, ?_, k4⟩
      · simp only [Weekly.upd_other _ _ hw]; exact (hoth w hw).2.2
      · simp only [Weekly.upd_other _ _ hw]; rw [hpw]
      · simp only [Weekly.upd_same, sumRewards_single, k1]
      · rw [sumRewards_single]; omega
      · intro hok
        have := k3 hok
        simp only [Weekly.upd_same, k1]
        omega
      · intro hok hemp'
        have := k5 hok hemp'
        simp only [Weekly.upd_same]
        omega

theorem HookEff.poolRel {mem : BCfg} {g g' : Weekly.St} {c c' : BSt} {week : Nat}
    {r : List (Weekly.Tok × Nat)} (h : HookEff mem g c week g' c' r) (hok : RemOk g c week) :
    PoolRel c c' := by
  refine ⟨fun w => ?_, fun w => ?_, h.cutW, h.collW, h.fsw⟩
  · by_cases hw : w = week
    · subst hw; exact h.cons hok
    · obtain ⟨_, h1, h2, h3⟩ := h.other w hw
      rw [h1, h2, h3]
  · by_cases hw : w = week
    · subst hw; rw [h.paid]; omega
    · rw [(h.other w hw).2.2.2]

theorem HookEff.remOk_all {mem : BCfg} {g g' : Weekly.St} {c c' : BSt} {week : Nat}
    {r : List (Weekly.Tok × Nat)} (h : HookEff mem g c week g' c' r) (w : Nat)
    (hok : RemOk g c w) : RemOk g' c' w := by
  by_cases hw : w = week
  · subst hw; exact h.remOk hok
  · obtain ⟨h0, _, h2, _⟩ := h.other w hw
    unfold RemOk
    rw [h0, h2]
    exact hok

theorem boostedRewards_frame (mem : BCfg) (f : Nat) : Weekly.RwFrame (boostedRewards mem f) :=
  fun _ _ _ _ _ _ _ _ h => (boostedRewards_eff h).frame

theorem boostedRewards_zero {mem : BCfg} {f : Nat} {g g' : Weekly.St} {c c' : BSt} {week e E : Nat}
    {r : List (Weekly.Tok × Nat)}
    (h : boostedRewards mem f g c week e E = some (g', c', r))
    (hz : E = 0 ∨ c.farmSupplyWeek week = 0) : r = [] ∧ g' = g ∧ c' = c := by
  rcases boostedRewards_cases h with h1 | ⟨_, _, _, _, hE, hF, _⟩
  · exact h1
  · rcases hz with hz | hz
    · exact absurd hz hE
    · exact absurd hz hF

/-- a user below the week's minima does not freeze the week either (`g' = g`): `get_user_rewards_for_week` checks
    the minima before `collect_and_get_rewards_for_week` -/
theorem boostedRewards_below_min {mem : BCfg} {f : Nat} {g g' : Weekly.St} {c c' : BSt}
    {week e E : Nat} {r : List (Weekly.Tok × Nat)} {fa : Factors}
    (h : boostedRewards mem f g c week e E = some (g', c', r))
    (hfa : mem.factorsForWeek week = some fa) (hm : e < fa.minE ∨ f < fa.minF) :
    r = [] ∧ g' = g ∧ c' = c := by
  rcases boostedRewards_cases h with h1 | ⟨fa', _, _, hfa', _, _, hme, hmf, _⟩
  · exact h1
  · rw [hfa] at hfa'
    simp only [Option.some.injEq] at hfa'
    subst hfa'
    omega

/-- the boosted reward formula (C11) and the pool accounting of one week.  `R` is the week's frozen pool: the
    week's accumulated rewards if this call freezes the week, the already frozen amount otherwise; `tok` is the
    token recorded at the freeze (`REW` whenever this call freezes it). -/
theorem boostedRewards_spec {mem : BCfg} {f : Nat} {g g' : Weekly.St} {c c' : BSt} {week e E : Nat}
    {r : List (Weekly.Tok × Nat)}
    (h : boostedRewards mem f g c week e E = some (g', c', r)) :
    (r = [] ∨
      ∃ fa tok R, mem.factorsForWeek week = some fa ∧ E ≠ 0 ∧ c.farmSupplyWeek week ≠ 0 ∧
        fa.minE ≤ e ∧ fa.minF ≤ f ∧ fa.cE + fa.cF ≠ 0 ∧ R ≠ 0 ∧
        g'.totalRewards week = [(tok, R)] ∧
        ((g.totalRewards week).isEmpty → tok = REW ∧ R = c.accum week) ∧
        (¬ (g.totalRewards week).isEmpty → g.totalRewards week = [(tok, R)]) ∧
        r = [(tok, boostedAmount fa R f (c.farmSupplyWeek week) e E)] ∧
        boostedAmount fa R f (c.farmSupplyWeek week) e E ≠ 0) ∧
    sumRewards r = c'.paidW week - c.paidW week ∧
    c.paidW week ≤ c'.paidW week ∧
    sumRewards r ≤ c.accum week + c.remaining week ∧
    (RemOk g c week → PoolRel c c') ∧
    (∀ w, RemOk g c w → RemOk g' c' w) ∧
    (∀ w, w ≠ week → c'.accum w = c.accum w ∧ c'.remaining w = c.remaining w ∧
      c'.paidW w = c.paidW w) := by
  have he := boostedRewards_eff h
  refine ⟨?_, by rw [he.paid]; omega, by rw [he.paid]; omega, he.bound, he.poolRel, he.remOk_all,
    fun w hw => (he.other w hw).2⟩
  rcases boostedRewards_cases h with ⟨rfl, _, _⟩ | ⟨fa, c1, l, hfa, hE, hF, hme, hmf, hcg, hrest⟩
  · exact Or.inl rfl
  · rcases hrest with ⟨rfl, _⟩ | ⟨tok, R, rfl, hR, hc, hu, _, rfl, _⟩
    · exact Or.inl rfl
    · refine Or.inr ⟨fa, tok, R, hfa, hE, hF, hme, hmf, hc, hR, ?_, ?_, ?_, rfl, hu⟩
      · rcases (collectAndGet_boosted hcg).1 with ⟨_, hl, ht, _⟩ | ⟨_, rfl, _, hl⟩
        · rw [ht, ← hl]
        · exact hl.symm
      · intro hemp
        rcases (collectAndGet_boosted hcg).1 with ⟨_, hl, _⟩ | ⟨hne, _⟩
        · simp only [List.cons.injEq, Prod.mk.injEq, and_true] at hl
          exact hl
        · exact absurd hemp hne
      · intro hne
        rcases (collectAndGet_boosted hcg).1 with ⟨hemp, _⟩ | ⟨_, _, _, hl⟩
        · exact absurd hemp hne
        · exact hl.symm

/-- the effect of the claim loop over `n` weeks starting at `a.p.week` -/
structure LoopEff (mem : BCfg) (n : Nat) (a a' : Weekly.ClaimAcc BSt) : Prop where
  week : a'.p.week = a.p.week + n
  frame : Weekly.FrameR a'.g a.g
  outside : ∀ w, (w < a.p.week ∨ a.p.week + n ≤ w) →
    a'.g.totalRewards w = a.g.totalRewards w ∧ a'.c.accum w = a.c.accum w ∧
    a'.c.remaining w = a.c.remaining w ∧ a'.c.paidW w = a.c.paidW w
  cutW : a'.c.cutW = a.c.cutW
  collW : a'.c.collW = a.c.collW
  fsw : a'.c.farmSupplyWeek = a.c.farmSupplyWeek
  mono : ∀ w, a.c.paidW w ≤ a'.c.paidW w
  rewards : sumRewards a'.rewards = sumRewards a.rewards +
    ((List.range n).map fun i => a'.c.paidW (a.p.week + i) - a.c.paidW (a.p.week + i)).sum
  pool : (∀ w, a.p.week ≤ w → w < a.p.week + n → RemOk a.g a.c w) → PoolRel a.c a'.c
  remOk : ∀ w, RemOk a.g a.c w → RemOk a'.g a'.c w
  cfg : a'.c.cfg = a.c.cfg ∨ a'.c.cfg = some mem

theorem claimLoop_pool {mem : BCfg} {f : Nat} :
    ∀ (n : Nat) {a a' : Weekly.ClaimAcc BSt},
      Weekly.claimLoop (boostedRewards mem f) n a = some a' → LoopEff mem n a a' := by
  refine Weekly.claimLoop_induction (R := fun n a a' => LoopEff mem n a a')
    (fun a => ⟨rfl, Weekly.FrameR.refl _, fun _ _ => ⟨rfl, rfl, rfl, rfl⟩, rfl, rfl, rfl,
      fun _ => Nat.le_refl _, by simp, fun _ => PoolRel.refl _, fun _ hh => hh, Or.inl rfl⟩)
    fun n a a1 a' r hr hw1 _ hrw _ e2 => ?_
  · have e1 := boostedRewards_eff hr
    have hout2 := e2.outside
    rw [hw1] at hout2
    refine ⟨by rw [e2.week, hw1]; omega, e2.frame.trans e1.frame, ?_, e2.cutW.trans e1.cutW,
      e2.collW.trans e1.collW, e2.fsw.trans e1.fsw, ?_, ?_, ?_, ?_, ?_⟩
    · intro w hw
      obtain ⟨x1, x2, x3, x4⟩ := hout2 w (by omega)
      obtain ⟨y1, y2, y3, y4⟩ := e1.other w (by omega)
      exact ⟨x1.trans y1, x2.trans y2, x3.trans y3, x4.trans y4⟩
    · intro w
      refine Nat.le_trans ?_ (e2.mono w)
      by_cases hw : w = a.p.week
      · subst hw; rw [e1.paid]; omega
      · rw [(e1.other w hw).2.2.2]
    · have hfun : (fun i => a'.c.paidW (a1.p.week + i) - a1.c.paidW (a1.p.week + i)) =
          (fun i => a'.c.paidW (a.p.week + (i + 1)) - a.c.paidW (a.p.week + (i + 1))) := by
        funext i
        rw [hw1, show a.p.week + 1 + i = a.p.week + (i + 1) by omega,
          (e1.other (a.p.week + (i + 1)) (by omega)).2.2.2]
      have hp0 : a'.c.paidW a.p.week = a1.c.paidW a.p.week := (hout2 a.p.week (by omega)).2.2.2
      rw [e2.rewards, hfun, hrw, sumRewards_append, List.range_succ_eq_map, List.map_cons,
        List.sum_cons, List.map_map]
      have : a'.c.paidW (a.p.week + 0) - a.c.paidW (a.p.week + 0) = sumRewards r := by
        rw [Nat.add_zero, hp0, e1.paid]; omega
      rw [this]
      simp only [Function.comp_def, Nat.succ_eq_add_one]
      omega
    · intro hok
      have p1 := e1.poolRel (hok _ (Nat.le_refl _) (by omega))
      refine p1.trans (e2.pool ?_)
      intro w hw1' hw2'
      exact e1.remOk_all w (hok w (by omega) (by omega))
    · intro w hok
      exact e2.remOk w (e1.remOk_all w hok)
    · rcases e2.cfg with h2c | h2c
      · rw [h2c]; exact e1.cfg
      · exact Or.inr h2c

/-- what a successful `claimBoostedYields` does to the boosted sub-state, field by field -/
structure BoostEff (s s' : St) (r : Nat) : Prop where
  struct : ∃ w' b', s' = { s with w := w', b := b' }
  /-- the `None` branch of `claim_boosted_yields_rewards`; what it does to the weekly sub-state is
      `claimBoostedYields_none_spec` -/
  noCfg : s.b.cfg = none → r = 0 ∧ s'.b = s.b
  cfg : s'.b.cfg = s.b.cfg ∨ ∃ cfg W mem, s.b.cfg = some cfg ∧ s.week = some W ∧
    cfg.update W none = some mem ∧ s'.b.cfg = some mem
  cutW : s'.b.cutW = s.b.cutW
  collW : s'.b.collW = s.b.collW
  fsw : s'.b.farmSupplyWeek = s.b.farmSupplyWeek
  mono : ∀ w, s.b.paidW w ≤ s'.b.paidW w
  /-- only the last four completed weeks can change (`USER_MAX_CLAIM_WEEKS`) -/
  outside : ∀ W, s.week = some W → ∀ w, (w + 4 < W ∨ W ≤ w) →
    s'.b.accum w = s.b.accum w ∧ s'.b.remaining w = s.b.remaining w ∧ s'.b.paidW w = s.b.paidW w
  result : ∀ W, s.week = some W →
    r = ((List.range 4).map fun i => s'.b.paidW (W - 4 + i) - s.b.paidW (W - 4 + i)).sum
  pool : (∀ W w, s.week = some W → W ≤ w + 4 → w < W → RemOk s.w s.b w) → PoolRel s.b s'.b
  remOk : ∀ W w, s.week = some W → w + 5 ≠ W → RemOk s.w s.b w → RemOk s'.w s'.b w

theorem claimBoostedYields_spec {s s' : St} {u r : Nat} (h : claimBoostedYields s u = some (s', r)) :
    BoostEff s s' r := by
  have hstruct := claimBoostedYields_struct h
  rcases claimBoostedYields_some h with ⟨hc, rfl, hu⟩ | ⟨cfg, W, mem, g', c', rl, hc, hW, hmem, hx, hs', rfl⟩
  · obtain ⟨W, g, hW, hg, rfl⟩ := updateEnergyAndProgress_some hu
    refine ⟨hstruct, fun _ => ⟨rfl, rfl⟩, Or.inl rfl, rfl, rfl, rfl, fun _ => Nat.le_refl _,
      fun _ _ _ _ => ⟨rfl, rfl, rfl⟩,
      fun _ _ => (sum_map_zero _ _ fun _ _ => Nat.sub_self _).symm, fun _ => PoolRel.refl _, ?_⟩
    intro W' w hW' hw5 hok
    cases hW.symm.trans hW'
    unfold RemOk at hok ⊢
    rw [(Weekly.updateEnergyAndProgress_iff.mp hg).totalRewards w hw5]
    exact hok
  · obtain ⟨g1, a, h1, hle, ha, hg', hc', hrl⟩ := Weekly.claimMulti_spec hx
    have hb : s'.b = a.c := by rw [hs', ← hc']
    have hw : s'.w = Weekly.setProgress a.g u (Weekly.newOf (Energy.queried (s.energy u) s.epoch) W) := by
      rw [hs', ← hg']
    have hwt : s'.w.totalRewards = a.g.totalRewards := by rw [hw]; rfl
    have le := claimLoop_pool _ ha
    obtain ⟨hwin, hlen, _⟩ := Weekly.loop_window _ W hle
    generalize Weekly.loopLen (Weekly.startProgress (s.w.progress u) (Energy.queried (s.energy u) s.epoch) W) W = n at *
    generalize hst : (Weekly.loopStart (Weekly.startProgress (s.w.progress u) (Energy.queried (s.energy u) s.epoch) W) W) = p1 at *
    have hout := le.outside
    have hrew := le.rewards
    have hpool := le.pool
    have hrem := le.remOk
    simp only at hout hrew hpool hrem
    refine ⟨hstruct, fun hn => by rw [hc] at hn; simp at hn, ?_, by rw [hb]; exact le.cutW,
      by rw [hb]; exact le.collW, by rw [hb]; exact le.fsw, by rw [hb]; exact le.mono, ?_, ?_, ?_, ?_⟩
    · rcases le.cfg with hh | hh
      · exact Or.inl (by rw [hb]; exact hh)
      · exact Or.inr ⟨cfg, W, mem, hc, hW, hmem, by rw [hb]; exact hh⟩
    · intro W' hW' w hw'
      cases hW.symm.trans hW'
      rw [hb]
      exact (hout w (by omega)).2
    · intro W' hW'
      cases hW.symm.trans hW'
      rw [hrl, hrew, sumRewards_nil, Nat.zero_add, hb]
      exact (sum_window (fun w => a.c.paidW w - s.b.paidW w) p1.week n (W - 4) 4
        (fun w hw' => by rw [(hout w hw').2.2.2]; exact Nat.sub_self _) (by omega) (by omega)).symm
    · intro hinv
      rw [hb]
      apply hpool
      intro w hw1 hw2
      have := hinv W w hW (by omega) (by omega)
      unfold RemOk at this ⊢
      rw [Weekly.updateUserEnergy_totalRewards h1 w (by omega)]
      exact this
    · intro W' w hW' hw5 hok
      cases hW.symm.trans hW'
      have hok1 : RemOk g1 s.b w := by
        unfold RemOk at hok ⊢
        rw [Weekly.updateUserEnergy_totalRewards h1 w hw5]
        exact hok
      have := hrem w hok1
      unfold RemOk at this ⊢
      rw [hwt, hb]
      exact this

/-- the state invariant that makes every freeze conservative: a claimable or future week that is
    not frozen yet has no remaining pool.  (Inductive: the weekly update only clears
    `totalRewardsForWeek(W − 5)`, see `Weekly.WeekStep.rewards`.) -/
def RemInv (s : St) : Prop := ∀ W w, s.week = some W → W ≤ w + 4 → RemOk s.w s.b w

theorem claimBoostedYields_remInv {s s' : St} {u r : Nat}
    (h : claimBoostedYields s u = some (s', r)) (hI : RemInv s) :
    RemInv s' ∧ PoolRel s.b s'.b := by
  have e := claimBoostedYields_spec h
  refine ⟨?_, e.pool (fun W w hW h1 _ => hI W w hW h1)⟩
  intro W w hW hw
  obtain ⟨w', b', rfl⟩ := e.struct
  have hW0 : s.week = some W := hW
  exact e.remOk W w hW0 (by omega) (hI W w hW0 hw)

/-- the C11 fact in the engine's own terms, for any two reward hooks; `claimBoostedYields_spec` does not go
    through it -/
theorem claimMulti_twice {σ : Type} {rw rw' : Weekly.RewardFn σ} (hrw : Weekly.RwFrame rw)
    {g g1 g2 g3 : Weekly.St} {c c1 c2 c3 : σ} {u W : Nat} {cur cur' : Energy}
    {r1 r2 : List (Weekly.Tok × Nat)}
    (h1 : Weekly.claimMulti rw g c u W cur = some (g1, c1, r1))
    (hg : g2.progress u = g1.progress u)
    (h2 : Weekly.claimMulti rw' g2 c2 u W cur' = some (g3, c3, r2)) : r2 = [] ∧ c3 = c2 :=
  Weekly.claimMulti_same_week h2 (fun p hp => Weekly.claimMulti_progress_week hrw h1 p (hg ▸ hp))

/-- The boosted claim as a run of the weekly engine: the global update for the running week `W`, then the
    reward hook over the weeks `lo ≤ w < W` from the updated state `g1`, then the progress write.  With a
    configuration `lo` is where the claimer's window begins and `mem` the configuration the hook reads;
    without one no week is walked (`lo = W`, so the run is `.done` whatever `mem` is). -/
theorem claimBoostedYields_run {s s' : St} {u r : Nat} (h : claimBoostedYields s u = some (s', r)) :
    ∃ W g1 g2 c' rl mem lo, s.week = some W ∧
      Weekly.updateUserEnergyForCurrentWeek s.w W (Energy.queried (s.energy u) s.epoch) (s.w.progress u)
        = some g1 ∧
      Weekly.HookRun (boostedRewards mem (s.userTotal u)) (Weekly.eForP s.w.progress u) s.w.totalEnergy W lo
        g1 s.b g2 c' rl ∧
      s' = { s with w := Weekly.setProgress g2 u (Weekly.newOf (Energy.queried (s.energy u) s.epoch) W), b := c' } ∧
      r = sumRewards rl ∧
      ((s.b.cfg = none ∧ lo = W) ∨
       ∃ cfg, s.b.cfg = some cfg ∧ cfg.update W none = some mem ∧ lo = Weekly.claimFrom (s.w.progress u) W) := by
  rcases claimBoostedYields_some h with ⟨hc, rfl, hu⟩ | ⟨cfg, W, mem, _, c', rl, hc, hW, hm, hx, rfl, rfl⟩
  · obtain ⟨W, _, hW, hg, rfl⟩ := updateEnergyAndProgress_some hu
    obtain ⟨g1, h1, rfl⟩ := Weekly.updateEnergyAndProgress_iff.mp hg
    exact ⟨W, g1, g1, s.b, [], BCfg.new W default, W, hW, h1, .done, rfl, rfl, Or.inl ⟨hc, rfl⟩⟩
  · obtain ⟨g1, g2, h1, hrun, rfl⟩ := (Weekly.claimMulti_run (boostedRewards_frame _ _)).mp hx
    exact ⟨W, g1, g2, c', rl, mem, _, hW, h1, hrun, rfl, rfl, Or.inr ⟨cfg, hc, hm, rfl⟩⟩

/-- the boosted claim is one entry point of the weekly module, with or without a configuration -/
theorem claimBoostedYields_userStep {s s' : St} {u r : Nat} (h : claimBoostedYields s u = some (s', r)) :
    ∃ W cur, s.week = some W ∧ Weekly.UserStep s.w s'.w u W cur := by
  rcases claimBoostedYields_some h with ⟨_, _, hu⟩ | ⟨_, W, _, _, _, _, _, hW, _, hx, rfl, _⟩
  · obtain ⟨W, g, hW, hg, rfl⟩ := updateEnergyAndProgress_some hu
    exact ⟨W, _, hW, Weekly.updateEnergyAndProgress_step hg⟩
  · exact ⟨W, _, hW, Weekly.claimMulti_step (boostedRewards_frame _ _) hx⟩

def SettledAt (o : Option ClaimProgress) (W : Nat) : Prop := ∀ p, o = some p → p.week = W

theorem newOf_settled (cur : Energy) (W : Nat) : SettledAt (Weekly.newOf cur W) W :=
  fun _ hp => Weekly.newOf_week _ hp

/-- what a call into the weekly module for `u` in week `W` does to the clock (nothing) and to the claim progress:
    `u`'s entry is replaced by one at week `W`, or cleared -/
structure Touched (s s' : St) (u W : Nat) : Prop where
  week : s.week = some W
  epoch : s'.epoch = s.epoch
  fws : s'.firstWeekStart = s.firstWeekStart
  prog : ∃ o, SettledAt o W ∧ s'.w.progress = upd s.w.progress u o

theorem updateEnergyAndProgress_touched {s s' : St} {u : Nat} (h : updateEnergyAndProgress s u = some s') :
    ∃ W, Touched s s' u W ∧ s'.b = s.b := by
  obtain ⟨W, g, hW, hg, rfl⟩ := updateEnergyAndProgress_some h
  exact ⟨W, ⟨hW, rfl, rfl, _, newOf_settled _ W,
    (Weekly.updateEnergyAndProgress_step hg).move.1⟩, rfl⟩

theorem updateEnergyForUser_touched {s s' : St} {u : Nat} (h : updateEnergyForUser s u = some s') :
    ∃ W, Touched s s' u W ∧ s'.b = s.b := by
  obtain ⟨W, g, hW, hg, rfl⟩ := updateEnergyForUser_some h
  exact ⟨W, ⟨hW, rfl, rfl, _, newOf_settled _ W,
    (Weekly.updateEnergyForUser_step hg).move.1⟩, rfl⟩

theorem claimBoostedYields_touched {s s' : St} {u r : Nat} (h : claimBoostedYields s u = some (s', r)) :
    ∃ W, Touched s s' u W := by
  obtain ⟨W, cur, hW, hs⟩ := claimBoostedYields_userStep h
  obtain ⟨_, _, rfl⟩ := claimBoostedYields_struct h
  exact ⟨W, hW, rfl, rfl, _, newOf_settled cur W, hs.move.1⟩

theorem Touched.week_eq {s s' : St} {u W : Nat} (h : Touched s s' u W) : s'.week = s.week := by
  unfold St.week; rw [h.epoch, h.fws]

theorem Touched.settled {s s' : St} {u W : Nat} (h : Touched s s' u W) :
    ∀ p, s'.w.progress u = some p → p.week = W := by
  obtain ⟨o, ho, e⟩ := h.prog
  rw [e, Weekly.upd_same]
  exact ho

theorem claimBoostedYields_same_week {s s' : St} {u r W : Nat}
    (h : claimBoostedYields s u = some (s', r)) (hW : s.week = some W)
    (hp : ∀ p, s.w.progress u = some p → p.week = W) : r = 0 ∧ s'.b = s.b := by
  rcases claimBoostedYields_some h with ⟨_, hr, hu⟩ | ⟨_, W', _, _, _, _, _, hW', _, hx, rfl, rfl⟩
  · obtain ⟨g, rfl⟩ := updateEnergyAndProgress_spec hu
    exact ⟨hr, rfl⟩
  · cases hW.symm.trans hW'
    obtain ⟨rfl, hc'⟩ := Weekly.claimMulti_same_week hx hp
    exact ⟨rfl, hc'⟩

/-- C11 `paid_once`.  `s2` is ANY state of the same week in which `u`'s progress entry is as the first claim
    left it: whatever happened in between, the second claim pays nothing. -/
theorem paid_once {s s1 s2 s3 : St} {u r1 r2 : Nat}
    (h1 : claimBoostedYields s u = some (s1, r1))
    (hprog : s2.w.progress u = s1.w.progress u) (hweek : s2.week = s.week)
    (h2 : claimBoostedYields s2 u = some (s3, r2)) : r2 = 0 ∧ s3.b = s2.b := by
  obtain ⟨W, t⟩ := claimBoostedYields_touched h1
  exact claimBoostedYields_same_week h2 (hweek.trans t.week) (fun p hq => t.settled p (hprog ▸ hq))

theorem claimBoostedYields_userTotal (s : St) (u : Nat) (t : Nat → Nat) (ht : t u = s.userTotal u) :
    claimBoostedYields { s with userTotal := t } u =
      (claimBoostedYields s u).map (fun r => ({ r.1 with userTotal := t }, r.2)) := by
  unfold claimBoostedYields
  cases hc : s.b.cfg with
  | none =>
    simp only [updateEnergyAndProgress, St.week]
    cases Weekly.weekOf s.epoch s.firstWeekStart with
    | none => rfl
    | some W =>
      simp only [Option.bind_eq_bind, Option.bind_some]
      cases Weekly.updateEnergyAndProgress s.w u W (Energy.queried (s.energy u) s.epoch) with
      | none => rfl
      | some g => rfl
  | some cfg =>
    simp only [St.week, ht]
    cases Weekly.weekOf s.epoch s.firstWeekStart with
    | none => rfl
    | some W =>
      simp only [Option.bind_eq_bind, Option.bind_some]
      cases cfg.update W none with
      | none => rfl
      | some mem =>
        simp only [Option.bind_some]
        cases Weekly.claimMulti (boostedRewards mem (s.userTotal u)) s.w s.b u W
            (Energy.queried (s.energy u) s.epoch) with
        | none => rfl
        | some x => rfl

end Mx.Farm
