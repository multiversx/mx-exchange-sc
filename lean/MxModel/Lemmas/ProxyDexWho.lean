/-
  Lemmas for Core/ProxyDexWho.lean (callers and original callers of the proxy): `origOf?` and `stepA`
  as relations, induction over a history of calls, that every operation moves the cumulative energy
  deduction by exactly what it reports (`step_eDed`, read off the books), and the total of a
  per-account ledger (`sumTo`).
-/
import MxModel.Lemmas.ProxyDexBooks
import MxModel.Core.ProxyDexWho

namespace Mx.ProxyDex

theorem origOf?_eq_some {a : StA} {c : Call} {u : Nat} :
    origOf? a c = some u ↔
      (c.opt = none ∧ u = c.caller) ∨
      (c.opt = some u ∧ hasOrigArg c.op = true ∧ a.wlist c.caller = true) := by
  unfold origOf?
  cases hc : c.opt with
  | none =>
      constructor
      · intro h
        exact Or.inl ⟨rfl, (Option.some.inj h).symm⟩
      · rintro (⟨_, rfl⟩ | ⟨h, _⟩)
        · rfl
        · cases h
  | some v =>
      show (if (hasOrigArg c.op && a.wlist c.caller) = true then some v else none) = some u ↔ _
      by_cases hw : (hasOrigArg c.op && a.wlist c.caller) = true
      · rw [if_pos hw]
        simp only [Bool.and_eq_true] at hw
        constructor
        · intro h
          cases Option.some.inj h
          exact Or.inr ⟨rfl, hw.1, hw.2⟩
        · rintro (⟨h, _⟩ | ⟨h, _, _⟩)
          · cases h
          · exact h
      · rw [if_neg hw]
        constructor
        · intro h; cases h
        · rintro (⟨h, _⟩ | ⟨_, h1, h2⟩)
          · cases h
          · exact absurd (by simp [h1, h2]) hw

theorem stepA_eq_some {a a' : StA} {c : Call} {o : OutA} :
    stepA a c = some (a', o) ↔
      ∃ u s' o', origOf? a c = some u ∧ step a.s c.op = some (s', o') ∧
        a' = { a with s := s', eBy := fun i => if i = u then a.eBy i + o'.eDed else a.eBy i } ∧
        o = ⟨o', c.caller, u⟩ := by
  simp only [stepA, Option.bind_eq_bind, Option.bind_eq_some_iff, Option.pure_def,
    Option.some.injEq, Prod.mk.injEq]
  constructor
  · rintro ⟨u, hu, ⟨s', o'⟩, hs, rfl, rfl⟩
    exact ⟨u, s', o', hu, hs, rfl, rfl⟩
  · rintro ⟨u, s', o', hu, hs, rfl, rfl⟩
    exact ⟨u, hu, (s', o'), hs, rfl, rfl⟩

theorem runA_induct {P : StA → StA → Prop} (cs : List Call) (h0 : ∀ a, P a a)
    (hs : ∀ c ∈ cs, ∀ {a a' b o}, stepA a c = some (a', o) → P a' b → P a b) (a : StA) :
    P a (runA a cs) := by
  induction cs generalizing a with
  | nil => exact h0 a
  | cons c cs ih =>
    have ih := fun a => ih (fun c' hc' => hs c' (List.mem_cons_of_mem _ hc')) a
    show P a (runA (match stepA a c with | some (a', _) => a' | none => a) cs)
    cases hc : stepA a c with
    | none => exact ih a
    | some r => exact hs c List.mem_cons_self hc (ih r.1)

theorem stepA_eq_none_of_orig {a : StA} {c : Call} (h : origOf? a c = none) : stepA a c = none := by
  simp [stepA, h]

theorem step_eDed {s s' : St} {op : Op} {o : Out} (h : step s op = some (s', o)) :
    s'.eDed = s.eDed + o.eDed := by
  cases op with
  | lock t => cases h; exact (Int.add_zero _).symm
  | advance e => cases h; exact (Int.add_zero _).symm
  | noop => cases h; exact (Int.add_zero _).symm
  | addLiq k la oa merge lp ul uo mk =>
    obtain ⟨-, e, ⟨-, m⟩ | ⟨_, _, _, -, -, m⟩⟩ := addLiq_moved h <;> exact e ▸ m.eDed
  | removeLiq w x rb ro =>
    obtain ⟨r, p, t⟩ := removeLiq_moved h
    exact t.eDed ▸ t.moved.eDed
  | enterL farm k a merge ft rew m stray =>
    obtain ⟨e, ⟨-, m⟩ | ⟨_, _, _, _, -, -, m, -⟩⟩ := enterL_moved h <;> exact e ▸ m.eDed
  | enterW farm w a merge ft rew m stray =>
    obtain ⟨e, -, ⟨-, m⟩ | ⟨_, _, _, _, _, -, -, m, -⟩⟩ := enterW_moved h <;> exact e ▸ m.eDed
  | exitFarm farm f x farming rew =>
    obtain ⟨r, p, t⟩ := exitFarm_moved (farm := farm) h
    cases hk : r.kind with
    | locked =>
      have u := t.locked hk
      exact u.eDed ▸ u.moved.eDed
    | wlp =>
      obtain ⟨rw, -, -, h0, h1⟩ := t.wlp hk
      by_cases hx : x = farming
      · obtain ⟨-, -, e, m⟩ := h0 hx
        exact e ▸ m.eDed
      · obtain ⟨q, qN, u⟩ := h1 hx
        exact u.eDed ▸ u.moved.eDed
  | claim farm f x ft rew =>
    obtain ⟨r, p, -, -, e, m⟩ := claim_moved (farm := farm) h
    exact e ▸ m.eDed
  | mergeLp l t =>
    obtain ⟨e, -, m⟩ := mergeLp_moved h
    exact e ▸ m.eDed
  | mergeFarm farm l mf t rew stray =>
    obtain ⟨_, _, _, _, -, -, e, -, -, ⟨-, m⟩ | ⟨-, m⟩⟩ := mergeFarm_moved h <;> exact e ▸ m.eDed
  | incLp w x t =>
    obtain ⟨e, m⟩ := incLp_moved h
    exact e ▸ m.eDed
  | incFarm f x t =>
    obtain ⟨_, _, -, -, e, ⟨-, -, m⟩ | ⟨-, m⟩⟩ := incFarm_moved h <;> exact e ▸ m.eDed

def sumTo (f : Nat → Int) : Nat → Int
  | 0 => 0
  | n + 1 => sumTo f n + f n

theorem sumTo_congr {f g : Nat → Int} {n : Nat} (h : ∀ i, i < n → g i = f i) :
    sumTo g n = sumTo f n := by
  induction n with
  | zero => rfl
  | succ n ih =>
      simp only [sumTo]
      rw [ih (fun i hi => h i (Nat.lt_succ_of_lt hi)), h n (Nat.lt_succ_self n)]

theorem sumTo_update (f : Nat → Int) (u : Nat) (d : Int) {n : Nat} (h : u < n) :
    sumTo (fun i => if i = u then f i + d else f i) n = sumTo f n + d := by
  induction n with
  | zero => exact absurd h (Nat.not_lt_zero _)
  | succ n ih =>
      simp only [sumTo]
      by_cases hu : u = n
      · subst hu
        rw [sumTo_congr (f := f) (fun i hi => by simp [Nat.ne_of_lt hi])]
        simp only [if_true]
        omega
      · have hlt : u < n := by omega
        rw [ih hlt, if_neg (fun e => hu e.symm)]
        omega

end Mx.ProxyDex
