/-
  Position tokens as a table `hold account nonce`: the outstanding units of a nonce (`outst`), sums
  over the nonces created so far weighted by a function of the nonce (`wsum`: weight 1 on positions
  gives the supply, weight "recorded owner is `o`" the owner's total, weight "index − entry index"
  the potential), and how they move when payments leave an account (`debit`), when units of the next
  nonce are minted, and when units are credited.  Nothing here reads a model state: the position
  invariants of the farm and of the farm-staking world are both stated with these sums.  The names
  live under `Mx.Staking`, and this module (which Lemmas/FarmPos.lean imports) imports the staking
  model, because `debit`, `upd2` and `Pay` are defined in Core/Staking.lean; nothing else of that
  model is used here.
-/
import MxModel.Core.Staking
import MxModel.Lemmas.OptionDo
import MxModel.Lemmas.WeeklySum

namespace Mx.Staking

open Mx.Weekly

theorem upd2_same (f : Nat → Nat → Nat) (a n v : Nat) : upd2 f a n v a n = v := by
  simp [upd2]

theorem upd2_other (f : Nat → Nat → Nat) (a n v : Nat) {a' n' : Nat} (h : a' ≠ a ∨ n' ≠ n) :
    upd2 f a n v a' n' = f a' n' := by
  have : ¬(a' = a ∧ n' = n) := by
    rintro ⟨h1, h2⟩
    rcases h with h | h
    · exact h h1
    · exact h h2
  simp [upd2, this]

theorem upd2_ne_zero {f : Nat → Nat → Nat} {a n v a' n' : Nat} (h : upd2 f a n v a' n' ≠ 0) :
    (a' = a ∧ n' = n) ∨ f a' n' ≠ 0 := by
  by_cases han : a' = a ∧ n' = n
  · exact Or.inl han
  · rw [upd2, if_neg han] at h
    exact Or.inr h

/-- outstanding units of nonce `n`: what all accounts of the world hold of it -/
def outst (hold : Nat → Nat → Nat) (accts : List Nat) (n : Nat) : Nat :=
  usum accts (fun a => hold a n)

def wsum (hold : Nat → Nat → Nat) (accts : List Nat) (N : Nat) (w : Nat → Nat) : Nat :=
  usum (List.range N) (fun n => w n * outst hold accts n)

/-- what the payments `pays` take of nonce `n` -/
def paidOf : List Pay → Nat → Nat
  | [], _ => 0
  | p :: ps, n => (if p.1 = n then p.2 else 0) + paidOf ps n

def payW (w : Nat → Nat) : List Pay → Nat
  | [] => 0
  | p :: ps => w p.1 * p.2 + payW w ps

def payTot : List Pay → Nat
  | [] => 0
  | p :: ps => p.2 + payTot ps

theorem payTot_eq (pays : List Pay) : payTot pays = (pays.map (·.2)).sum := by
  induction pays with
  | nil => rfl
  | cons p ps ih => simp [payTot, ih]

theorem payW_zero {w : Nat → Nat} : ∀ {pays : List Pay}, (∀ p ∈ pays, w p.1 = 0) → payW w pays = 0
  | [], _ => rfl
  | p :: ps, h => by
      simp only [payW, h p List.mem_cons_self, Nat.zero_mul, Nat.zero_add]
      exact payW_zero (fun q hq => h q (List.mem_cons_of_mem _ hq))

theorem payW_one {w : Nat → Nat} : ∀ {pays : List Pay}, (∀ p ∈ pays, w p.1 = 1) →
    payW w pays = payTot pays
  | [], _ => rfl
  | p :: ps, h => by
      simp only [payW, payTot, h p List.mem_cons_self, Nat.one_mul]
      rw [payW_one (fun q hq => h q (List.mem_cons_of_mem _ hq))]

theorem paidOf_mem {pays : List Pay} {p : Pay} (h : p ∈ pays) : p.2 ≤ paidOf pays p.1 := by
  induction pays with
  | nil => cases h
  | cons q qs ih =>
    simp only [paidOf]
    rcases List.mem_cons.mp h with rfl | h
    · simp
    · have := ih h; omega

theorem debit_spec' (c : Nat) : ∀ (pays : List Pay) (hold h0 : Nat → Nat → Nat),
    debit hold c pays = some h0 →
      (∀ n, paidOf pays n ≤ hold c n ∧ h0 c n = hold c n - paidOf pays n) ∧
      (∀ a n, a ≠ c → h0 a n = hold a n) ∧ (∀ p ∈ pays, 0 < p.2)
  | [], hold, h0, h => by
      simp only [debit, Option.some.injEq] at h
      subst h
      exact ⟨fun n => ⟨Nat.zero_le _, rfl⟩, fun _ _ _ => rfl, fun _ hp => by cases hp⟩
  | p :: ps, hold, h0, h => by
      simp only [debit, Option.bind_eq_bind, Option.bind_eq_some_iff, req_eq_some] at h
      obtain ⟨_, hp0, _, hple, h⟩ := h
      obtain ⟨ih1, ih2, ih3⟩ := debit_spec' c ps _ h0 h
      refine ⟨fun n => ?_, fun a n ha => ?_, ?_⟩
      · obtain ⟨i1, i2⟩ := ih1 n
        simp only [paidOf]
        by_cases hn : p.1 = n
        · subst hn
          rw [upd2_same] at i1 i2
          rw [if_pos rfl]
          omega
        · rw [upd2_other _ _ _ _ (Or.inr (fun e => hn e.symm))] at i1 i2
          rw [if_neg hn]
          omega
      · rw [ih2 a n ha, upd2_other _ _ _ _ (Or.inl ha)]
      · intro q hq
        rcases List.mem_cons.mp hq with rfl | hq
        · exact hp0
        · exact ih3 q hq

theorem debit_le {c : Nat} {pays : List Pay} {hold h0 : Nat → Nat → Nat}
    (h : debit hold c pays = some h0) (a n : Nat) : h0 a n ≤ hold a n := by
  obtain ⟨h1, h2, _⟩ := debit_spec' c pays hold h0 h
  by_cases ha : a = c
  · subst ha; have := (h1 n).2; omega
  · rw [h2 a n ha]

theorem debit_held {c : Nat} {pays : List Pay} {hold h0 : Nat → Nat → Nat}
    (h : debit hold c pays = some h0) {p : Pay} (hp : p ∈ pays) : hold c p.1 ≠ 0 := by
  obtain ⟨h1, _, h3⟩ := debit_spec' c pays hold h0 h
  have := (h1 p.1).1
  have := paidOf_mem hp
  have := h3 p hp
  omega

theorem outst_debit {c : Nat} {pays : List Pay} {hold h0 : Nat → Nat → Nat} {accts : List Nat}
    (h : debit hold c pays = some h0) (hc : c ∈ accts) (hnd : accts.Nodup) (n : Nat) :
    outst h0 accts n + paidOf pays n = outst hold accts n := by
  obtain ⟨h1, h2, _⟩ := debit_spec' c pays hold h0 h
  obtain ⟨i1, i2⟩ := h1 n
  have := usum_update hnd hc (f := fun a => hold a n) (g := fun a => h0 a n)
    (fun a _ ha => h2 a n ha)
  simp only [outst] at this ⊢
  omega

theorem usum_single (N k v : Nat) (w : Nat → Nat) (hk : k < N) :
    usum (List.range N) (fun n => w n * (if k = n then v else 0)) = w k * v := by
  have h := usum_update (List.nodup_range (n := N)) (List.mem_range.mpr hk) (f := fun _ => 0)
    (g := fun n => w n * (if k = n then v else 0))
    (fun n _ hn => by rw [if_neg (Ne.symm hn), Nat.mul_zero])
  rw [usum_zero (fun _ _ => rfl)] at h
  simpa using h

theorem usum_paidOf (N : Nat) (w : Nat → Nat) : ∀ (pays : List Pay), (∀ p ∈ pays, p.1 < N) →
    usum (List.range N) (fun n => w n * paidOf pays n) = payW w pays
  | [], _ => by
      simp only [paidOf, Nat.mul_zero, payW]
      exact usum_zero (fun _ _ => rfl)
  | p :: ps, h => by
      have ih := usum_paidOf N w ps (fun q hq => h q (List.mem_cons_of_mem _ hq))
      have hp := h p (List.mem_cons_self)
      simp only [paidOf, Nat.mul_add, payW]
      rw [usum_add, ih, usum_single N p.1 p.2 w hp]

theorem wsum_debit {c : Nat} {pays : List Pay} {hold h0 : Nat → Nat → Nat} {accts : List Nat} {N : Nat}
    (w : Nat → Nat) (h : debit hold c pays = some h0) (hc : c ∈ accts) (hnd : accts.Nodup)
    (hN : ∀ p ∈ pays, p.1 < N) :
    wsum h0 accts N w + payW w pays = wsum hold accts N w := by
  rw [← usum_paidOf N w pays hN]
  simp only [wsum]
  rw [← usum_add]
  apply usum_congr
  intro n _
  have := outst_debit h hc hnd n
  rw [← this, Nat.mul_add]

theorem outst_credit {h0 : Nat → Nat → Nat} {accts : List Nat} {dst k v : Nat} (hd : dst ∈ accts)
    (hnd : accts.Nodup) (n : Nat) :
    outst (upd2 h0 dst k (h0 dst k + v)) accts n = outst h0 accts n + (if n = k then v else 0) := by
  have := usum_update hnd hd (f := fun a => h0 a n) (g := fun a => upd2 h0 dst k (h0 dst k + v) a n)
    (fun a _ ha => by rw [upd2_other _ _ _ _ (Or.inl ha)])
  simp only [outst]
  by_cases hn : n = k
  · subst hn
    rw [upd2_same] at this
    rw [if_pos rfl]
    omega
  · rw [upd2_other _ _ _ _ (Or.inr hn)] at this
    rw [if_neg hn]
    omega

theorem outst_mint {h0 : Nat → Nat → Nat} {accts : List Nat} {c N A : Nat} (hc : c ∈ accts)
    (hnd : accts.Nodup) (hfresh : ∀ a, h0 a N = 0) (n : Nat) :
    outst (upd2 h0 c N A) accts n = if n = N then A else outst h0 accts n := by
  have h := outst_credit (h0 := h0) (k := N) (v := A) hc hnd n
  rw [hfresh c, Nat.zero_add] at h
  rw [h]
  by_cases hn : n = N
  · subst hn
    have : outst h0 accts n = 0 := usum_zero (fun a _ => hfresh a)
    rw [if_pos rfl, if_pos rfl, this, Nat.zero_add]
  · rw [if_neg hn, if_neg hn, Nat.add_zero]

/-- Two weights `w`, `w'` that agree below `N`: the mint is what writes the attributes of `N`, and the
    weights of the position invariants are functions of the attributes. -/
theorem wsum_mint {h0 : Nat → Nat → Nat} {accts : List Nat} {c N A : Nat} (w w' : Nat → Nat)
    (hc : c ∈ accts) (hnd : accts.Nodup) (hfresh : ∀ a, h0 a N = 0) (hw : ∀ n, n < N → w' n = w n) :
    wsum (upd2 h0 c N A) accts (N + 1) w' = wsum h0 accts N w + w' N * A := by
  simp only [wsum]
  rw [List.range_succ, usum_append]
  simp only [usum_cons, usum_nil, Nat.add_zero]
  rw [outst_mint hc hnd hfresh N, if_pos rfl]
  congr 1
  apply usum_congr
  intro n hn
  have hn' := List.mem_range.mp hn
  rw [outst_mint hc hnd hfresh n, if_neg (by omega), hw n hn']

theorem wsum_congr {hold hold' : Nat → Nat → Nat} {accts : List Nat} {N : Nat} {w w' : Nat → Nat}
    (ho : ∀ n, n < N → outst hold' accts n = outst hold accts n) (hw : ∀ n, n < N → w' n = w n) :
    wsum hold' accts N w' = wsum hold accts N w := by
  simp only [wsum]
  apply usum_congr
  intro n hn
  have hn' := List.mem_range.mp hn
  rw [ho n hn', hw n hn']

theorem wsum_le {hold : Nat → Nat → Nat} {accts : List Nat} {N : Nat} {w w' : Nat → Nat}
    (hw : ∀ n, n < N → w' n ≤ w n) : wsum hold accts N w' ≤ wsum hold accts N w := by
  simp only [wsum]
  apply usum_le
  intro n hn
  exact Nat.mul_le_mul_right _ (hw n (List.mem_range.mp hn))

theorem wsum_add_mul (hold : Nat → Nat → Nat) (accts : List Nat) (N : Nat) (w1 w2 : Nat → Nat) (k : Nat) :
    wsum hold accts N (fun n => w1 n + k * w2 n) = wsum hold accts N w1 + k * wsum hold accts N w2 := by
  simp only [wsum]
  rw [← usum_mul, ← usum_add]
  apply usum_congr
  intro n _
  rw [Nat.add_mul, Nat.mul_assoc]

theorem wsum_succ_fresh {hold : Nat → Nat → Nat} {accts : List Nat} {N : Nat} (w : Nat → Nat)
    (hfresh : ∀ a, hold a N = 0) : wsum hold accts (N + 1) w = wsum hold accts N w := by
  simp only [wsum]
  rw [List.range_succ, usum_append]
  simp only [usum_cons, usum_nil, Nat.add_zero]
  have : outst hold accts N = 0 := usum_zero (fun a _ => hfresh a)
  rw [this]; simp

theorem wsum_hold_zero {hold : Nat → Nat → Nat} {accts : List Nat} {N : Nat} {w : Nat → Nat}
    (h : ∀ a n, hold a n = 0) : wsum hold accts N w = 0 := by
  simp only [wsum]
  apply usum_zero
  intro n _
  have : outst hold accts n = 0 := usum_zero (fun a _ => h a n)
  rw [this, Nat.mul_zero]

theorem wsum_explicit {hold : Nat → Nat → Nat} {accts : List Nat} {w g : Nat → Nat} (N : Nat)
    (h : ∀ n, w n * (accts.map fun a => hold a n).sum = g n) :
    wsum hold accts N w = ((List.range N).map g).sum := by
  simp only [wsum, usum, outst]
  congr 1
  exact List.map_congr_left (fun n _ => h n)

/-- The shape of an endpoint that reissues a position: burn `pays` of `c`, mint `A` units of the
    fresh nonce `N` to `dst`.  Additive on both sides (no truncated subtraction). -/
theorem wsum_reissue {hold h0 : Nat → Nat → Nat} {accts : List Nat} {c dst N : Nat} {pays : List Pay}
    (hnd : accts.Nodup) (hc : c ∈ accts) (hdst : dst ∈ accts) (hd : debit hold c pays = some h0)
    (hfresh : ∀ a, hold a N = 0) (hN : ∀ p ∈ pays, p.1 < N) (A : Nat) (w w' : Nat → Nat)
    (hw : ∀ n, n < N → w' n = w n) :
    wsum (upd2 h0 dst N A) accts (N + 1) w' + payW w pays = wsum hold accts N w + w' N * A := by
  have hf0 : ∀ a, h0 a N = 0 := fun a => Nat.le_zero.mp ((hfresh a) ▸ debit_le hd a N)
  rw [wsum_mint w w' hdst hnd hf0 hw, ← wsum_debit w hd hc hnd hN]
  omega

theorem outst_shift {h : Nat → Nat → Nat} {accts : List Nat} {src dst n a : Nat} (hnd : accts.Nodup)
    (hs : src ∈ accts) (hdst : dst ∈ accts) (hle : a ≤ h src n) (m : Nat) :
    outst (upd2 (upd2 h src n (h src n - a)) dst n (upd2 h src n (h src n - a) dst n + a)) accts m
      = outst h accts m := by
  have back : h = upd2 (upd2 h src n (h src n - a)) src n (upd2 h src n (h src n - a) src n + a) := by
    funext x y
    by_cases hxy : x = src ∧ y = n
    · obtain ⟨rfl, rfl⟩ := hxy
      rw [upd2_same, upd2_same]; omega
    · have hxy' : x ≠ src ∨ y ≠ n := by
        by_cases hx : x = src
        · exact Or.inr fun hy => hxy ⟨hx, hy⟩
        · exact Or.inl hx
      rw [upd2_other _ _ _ _ hxy', upd2_other _ _ _ _ hxy']
  rw [outst_credit hdst hnd m]
  conv_rhs => rw [back, outst_credit hs hnd m]

theorem outst_move {hold h0 : Nat → Nat → Nat} {accts : List Nat} {src dst : Nat} {pay : Pay}
    (hnd : accts.Nodup) (hs : src ∈ accts) (hdst : dst ∈ accts)
    (hd : debit hold src [pay] = some h0) (n : Nat) :
    outst (upd2 h0 dst pay.1 (h0 dst pay.1 + pay.2)) accts n = outst hold accts n := by
  obtain ⟨_, h⟩ := peel_req hd
  obtain ⟨hle, h⟩ := peel_req h
  obtain rfl := Option.some.inj h
  exact outst_shift hnd hs hdst hle n

end Mx.Staking
