/-
  C08 with an explicit attribution ledger — the token-movement layer.

  `Link s s2 h e e2`: between the states `s` and `s2` (same epoch, same nonce list, same stored
  entries) the balance row of the holder `h` changed by the signed row `dRow s s2 h`, no other
  ordinary account's row changed, and the entry `e` became `e2` by being moved by exactly the
  time-weighted sum / the sum of that row change.  Every multi-payment loop of the energy world
  that carries an entry (`unlockPays`, `mergePays`, `deductPays`, `addPays`, `cancelEntries`) is
  such a link for the paying / receiving account — whatever the entry tracked before.  The loops are
  proved for `Moved`, the same with the domain of the balance rows kept row by row.  `claimEntries`
  carries no entry and only debits token-unstake (`claimEntries_frameZ`).
-/
import MxModel.Lemmas.EnergyInv

namespace Mx.Energy

/-- the four contracts that hold locked tokens which are nobody's: the factory (the residual
    unit of every nonce), token-unstake (unbonding), lkmex-transfer (pending transfers) and the
    wrapper (wrapped tokens) -/
def IsEsc (a : Nat) : Prop := a = FACTORY ∨ a = UNSTAKE ∨ a = TRANSFER ∨ a = WRAPPER

instance : DecidablePred IsEsc := fun a => by unfold IsEsc; exact inferInstance

def Dom (s : St) (a : Nat) : Prop := ∀ n, (n = 0 ∨ s.nonces.length < n) → s.bal a n = 0

def DomAll (s : St) : Prop := ∀ a n, (n = 0 ∨ s.nonces.length < n) → s.bal a n = 0

def dRow (s s2 : St) (h : Nat) : Nat → Int := fun n => (s2.bal h n : Int) - (s.bal h n : Int)

structure Link (s s2 : St) (h : Nat) (e e2 : Entry) : Prop where
  epoch : s2.epoch = s.epoch
  nonces : s2.nonces = s.nonces
  energy : s2.energy = s.energy
  other : ∀ x, x ≠ h → ¬ IsEsc x → s2.bal x = s.bal x
  dom : DomAll s → DomAll s2
  last : e2.last = e.last
  E : e2.E = e.E + sumEZ (dRow s s2 h) s.epoch 1 s.nonces
  T : (e2.T : Int) = (e.T : Int) + sumTZ (dRow s s2 h) 1 s.nonces

/-- a `Link` that keeps the domain row by row: the held-form invariant `Inv` (Lemmas/EnergyInv,
    used by Props/C08) knows the rows of users only, so it needs `Dom` preserved for the one row it
    follows, not for all rows at once -/
structure Moved (s s2 : St) (h : Nat) (e e2 : Entry) : Prop extends Link s s2 h e e2 where
  rows : ∀ x, Dom s x → Dom s2 x

theorem IsNonce.in_range {ns : List Nat} {n u m : Nat} (h : IsNonce ns n u)
    (hm : m = 0 ∨ ns.length < m) : m ≠ n := by
  have := (List.getElem?_eq_some_iff.mp h.2).1
  have := h.1
  omega

theorem Moved.refl (s : St) (h : Nat) (e : Entry) : Moved s s h e e := by
  refine ⟨⟨rfl, rfl, rfl, fun _ _ _ => rfl, fun hd => hd, rfl, ?_, ?_⟩, fun _ hd => hd⟩
  · rw [sumEZ_zero _ _ _ _ (fun m _ => by simp [dRow])]; simp
  · rw [sumTZ_zero _ _ _ (fun m _ => by simp [dRow])]; simp

theorem Moved.trans {s s1 s2 : St} {h : Nat} {e e1 e2 : Entry}
    (a : Moved s s1 h e e1) (b : Moved s1 s2 h e1 e2) : Moved s s2 h e e2 := by
  have hrow : dRow s s2 h = fun n => dRow s s1 h n + dRow s1 s2 h n := by
    funext n; simp only [dRow]; ring
  refine ⟨⟨b.epoch.trans a.epoch, b.nonces.trans a.nonces, b.energy.trans a.energy,
    fun x hx he => (b.other x hx he).trans (a.other x hx he), fun hd => b.dom (a.dom hd),
    b.last.trans a.last, ?_, ?_⟩, fun x hd => b.rows x (a.rows x hd)⟩
  · rw [hrow, sumEZ_add, b.E, a.E, a.epoch, a.nonces]; ring
  · rw [hrow, sumTZ_add, b.T, a.T, a.nonces]; ring

theorem Link.same {s s2 s3 : St} {h : Nat} {e e2 : Entry} (a : Link s s2 h e e2)
    (hep : s3.epoch = s2.epoch) (hns : s3.nonces = s2.nonces) (hen : s3.energy = s2.energy)
    (hb : s3.bal = s2.bal) : Link s s3 h e e2 := by
  have hrow : dRow s s3 h = dRow s s2 h := by unfold dRow; rw [hb]
  refine ⟨hep.trans a.epoch, hns.trans a.nonces, hen.trans a.energy, ?_, ?_, a.last, ?_, ?_⟩
  · intro x hx he; rw [hb]; exact a.other x hx he
  · intro hd x m hm
    rw [hb]; rw [hns] at hm
    exact a.dom hd x m hm
  · rw [hrow]; exact a.E
  · rw [hrow]; exact a.T

theorem moved_at {s s1 : St} {h n u : Nat} {e e1 : Entry} {d : Int}
    (hep : s1.epoch = s.epoch) (hns : s1.nonces = s.nonces) (hen : s1.energy = s.energy)
    (hrow : ∀ m, m ≠ n → s1.bal h m = s.bal h m) (hd : (s1.bal h n : Int) = (s.bal h n : Int) + d)
    (hother : ∀ x, x ≠ h → ¬ IsEsc x → s1.bal x = s.bal x)
    (hdom : ∀ x, Dom s x → Dom s1 x)
    (hN : IsNonce s.nonces n u) (hm : Moves e e1 d u s.epoch) : Moved s s1 h e e1 := by
  obtain ⟨m1, m2, m3⟩ := hm
  obtain ⟨h1, hget⟩ := hN
  have h0 : ∀ m, m ≠ n → dRow s s1 h m = 0 := by
    intro m hm; simp [dRow, hrow m hm]
  have hdn : dRow s s1 h n = d := by
    simp only [dRow]; rw [hd]; ring
  refine ⟨⟨hep, hns, hen, hother, fun hd x => hdom x (hd x), m3, ?_, ?_⟩, hdom⟩
  · rw [sumEZ_single _ s.epoch n 1 u s.nonces h1 hget h0, hdn]; exact m1
  · rw [sumTZ_single _ n 1 u s.nonces h1 hget h0, hdn]; exact m2

theorem moved_frame {s s1 : St} {h : Nat} (e : Entry)
    (hep : s1.epoch = s.epoch) (hns : s1.nonces = s.nonces) (hen : s1.energy = s.energy)
    (hrow : s1.bal h = s.bal h) (hother : ∀ x, x ≠ h → ¬ IsEsc x → s1.bal x = s.bal x)
    (hdom : ∀ x, Dom s x → Dom s1 x) : Moved s s1 h e e := by
  refine ⟨⟨hep, hns, hen, hother, fun hd x => hdom x (hd x), rfl, ?_, ?_⟩, hdom⟩
  · rw [sumEZ_zero _ _ _ _ (fun m _ => by simp [dRow, hrow])]; simp
  · rw [sumTZ_zero _ _ _ (fun m _ => by simp [dRow, hrow])]; simp

theorem debit_bal {s s1 : St} {a n amt : Nat} (h : s.debit a n amt = some s1) :
    amt ≤ s.bal a n ∧ s1.epoch = s.epoch ∧ s1.nonces = s.nonces ∧ s1.energy = s.energy ∧
    s1.bal a n + amt = s.bal a n ∧ (∀ m, m ≠ n → s1.bal a m = s.bal a m) ∧
    (∀ x, x ≠ a → s1.bal x = s.bal x) ∧ (∀ x, Dom s x → Dom s1 x) := by
  obtain ⟨hle, rfl⟩ := debit_spec h
  refine ⟨hle, rfl, rfl, rfl, ?_, ?_, ?_, ?_⟩
  · show upd2 s.bal a n (s.bal a n - amt) a n + amt = _
    rw [upd2_same, upd_same]; omega
  · intro m hm
    show upd2 s.bal a n (s.bal a n - amt) a m = _
    rw [upd2_same, upd_other _ _ hm]
  · intro x hx; exact upd2_other _ _ _ hx
  · intro x hd m hm
    show upd2 s.bal a n (s.bal a n - amt) x m = 0
    by_cases hx : x = a
    · subst hx
      rw [upd2_same]
      by_cases hmn : m = n
      · subst hmn
        rw [upd_same, hd m hm]; omega
      · rw [upd_other _ _ hmn]; exact hd m hm
    · rw [upd2_other _ _ _ hx]; exact hd m hm

/-- about any `X` with the balances of `s0.credit a n amt`, not about that state: `cancelEntries`
    credits a state that differs from `s0` in other fields as well -/
theorem credit_facts {s0 X : St} {a n amt u : Nat} (hns : X.nonces = s0.nonces)
    (hb : X.bal = upd2 s0.bal a n (s0.bal a n + amt)) (hN : IsNonce s0.nonces n u) :
    X.bal a n = s0.bal a n + amt ∧ (∀ m, m ≠ n → X.bal a m = s0.bal a m) ∧
    (∀ x, x ≠ a → X.bal x = s0.bal x) ∧ (∀ x, Dom s0 x → Dom X x) := by
  refine ⟨?_, ?_, ?_, ?_⟩
  · rw [hb, upd2_same, upd_same]
  · intro m hm; rw [hb, upd2_same, upd_other _ _ hm]
  · intro x hx; rw [hb, upd2_other _ _ _ hx]
  · intro x hd m hm
    rw [hns] at hm
    rw [hb]
    by_cases hx : x = a
    · subst hx
      rw [upd2_same, upd_other _ _ (hN.in_range hm)]; exact hd m hm
    · rw [upd2_other _ _ _ hx]; exact hd m hm

theorem moved_debit {s s1 : St} {h n amt u : Nat} {e e1 : Entry}
    (hdeb : s.debit h n amt = some s1) (hu : s.unlockOf n = some u)
    (hm : Moves e e1 (-(amt : Int)) u s.epoch) : Moved s s1 h e e1 := by
  obtain ⟨_, a1, a2, a3, a4, a5, a6, a7⟩ := debit_bal hdeb
  refine moved_at a1 a2 a3 a5 ?_ (fun x hx _ => a6 x hx) a7 (unlockOf_isNonce hu) hm
  have : (s.bal h n : Int) = (s1.bal h n : Int) + (amt : Int) := by exact_mod_cast a4.symm
  rw [this]; ring

theorem moved_debit_other {s s1 : St} {h x n amt : Nat} (e : Entry)
    (hdeb : s.debit x n amt = some s1) (hx : x ≠ h) (hesc : IsEsc x) : Moved s s1 h e e := by
  obtain ⟨_, a1, a2, a3, _, _, a6, a7⟩ := debit_bal hdeb
  refine moved_frame e a1 a2 a3 (a6 h (Ne.symm hx)) (fun y _ hy => a6 y ?_) a7
  intro hyx; subst hyx; exact hy hesc

theorem moved_credit {s0 X : St} {h n amt u : Nat} {e e1 : Entry}
    (hep : X.epoch = s0.epoch) (hns : X.nonces = s0.nonces) (hen : X.energy = s0.energy)
    (hb : X.bal = upd2 s0.bal h n (s0.bal h n + amt)) (hu : s0.unlockOf n = some u)
    (hm : Moves e e1 (amt : Int) u s0.epoch) : Moved s0 X h e e1 := by
  obtain ⟨c1, c2, c3, c4⟩ := credit_facts hns hb (unlockOf_isNonce hu)
  refine moved_at hep hns hen c2 ?_ (fun x hx _ => c3 x hx) c4 (unlockOf_isNonce hu) hm
  rw [c1]; push_cast; ring

theorem moved_credit_other {s0 X : St} {h x n amt u : Nat} (e : Entry)
    (hep : X.epoch = s0.epoch) (hns : X.nonces = s0.nonces) (hen : X.energy = s0.energy)
    (hb : X.bal = upd2 s0.bal x n (s0.bal x n + amt)) (hu : s0.unlockOf n = some u)
    (hx : x ≠ h) (hesc : IsEsc x) : Moved s0 X h e e := by
  obtain ⟨_, _, c3, c4⟩ := credit_facts hns hb (unlockOf_isNonce hu)
  refine moved_frame e hep hns hen (c3 h (Ne.symm hx)) (fun y _ hy => c3 y ?_) c4
  intro hyx; subst hyx; exact hy hesc

theorem unlockPays_moved {c : Nat} (ps : List (Nat × Nat)) {s s2 : St} {e e2 : Entry} {tot : Nat}
    (h : unlockPays s c e ps = some (s2, e2, tot)) : Moved s s2 c e e2 := by
  induction ps generalizing s e tot with
  | nil =>
    obtain ⟨rfl, rfl, -⟩ := Prod.mk.inj (Option.some.inj h) |>.imp_right Prod.mk.inj
    exact Moved.refl _ _ _
  | cons p ps ih =>
    obtain ⟨u, s1, e1, tot', hu, hdeb, hle, -, hr, hrec, -⟩ := unlockPays_cons h
    exact (moved_debit hdeb hu (moves_refund hle hr)).trans (ih hrec)

theorem mergePays_moved {c : Nat} (ps : List (Nat × Nat)) {s s2 : St} {e e2 : Entry}
    {accE accW accE' accW' : Nat}
    (h : mergePays s c e accE accW ps = some (s2, e2, accE', accW')) : Moved s s2 c e e2 := by
  induction ps generalizing s e accE accW with
  | nil =>
    obtain ⟨rfl, rfl, -⟩ := Prod.mk.inj (Option.some.inj h) |>.imp_right Prod.mk.inj
    exact Moved.refl _ _ _
  | cons p ps ih =>
    obtain ⟨u, s1, e1, hu, hdeb, -, hr, -, hrec⟩ := mergePays_cons h
    exact (moved_debit hdeb hu (moves_unlockAny hr)).trans (ih hrec)

theorem deductPays_moved {esc c : Nat} (hesc : IsEsc esc) (hc : esc ≠ c) (ps : List (Nat × Nat))
    {s s2 : St} {e e2 : Entry}
    (h : deductPays s esc c e ps = some (s2, e2)) : Moved s s2 c e e2 := by
  induction ps generalizing s e with
  | nil =>
    obtain ⟨rfl, rfl⟩ := Prod.mk.inj (Option.some.inj h)
    exact Moved.refl _ _ _
  | cons p ps ih =>
    obtain ⟨n, amt⟩ := p
    obtain ⟨u, s1, e1, hu, hdeb, hlt, hr, hrec⟩ := deductPays_cons h
    have l1 := moved_debit hdeb hu (moves_early (Nat.le_of_lt hlt) hr)
    have hu1 : s1.unlockOf n = some u := (unlockOf_congr l1.nonces n).trans hu
    have l2 : Moved s1 (s1.credit esc n amt) c e1 e1 :=
      moved_credit_other e1 rfl rfl rfl rfl hu1 hc hesc
    exact (l1.trans l2).trans (ih hrec)

theorem addPays_moved {esc c : Nat} (hesc : IsEsc esc) (hc : esc ≠ c) (ps : List (Nat × Nat))
    {s s2 : St} {e e2 : Entry}
    (h : addPays s esc c e ps = some (s2, e2)) : Moved s s2 c e e2 := by
  induction ps generalizing s e with
  | nil =>
    obtain ⟨rfl, rfl⟩ := Prod.mk.inj (Option.some.inj h)
    exact Moved.refl _ _ _
  | cons p ps ih =>
    obtain ⟨n, amt⟩ := p
    obtain ⟨u, s1, hu, hdeb, hrec⟩ := addPays_cons h
    have l1 : Moved s s1 c e e := moved_debit_other e hdeb hc hesc
    have hu1 : s1.unlockOf n = some u := (unlockOf_congr l1.nonces n).trans hu
    have hm : Moves e (e.addDest amt u s.epoch) (amt : Int) u s1.epoch := by
      rw [l1.epoch]; exact moves_addDest e amt u s.epoch
    have l2 : Moved s1 (s1.credit c n amt) c e (e.addDest amt u s.epoch) :=
      moved_credit rfl rfl rfl rfl hu1 hm
    exact (l1.trans l2).trans (ih hrec)

theorem cancelEntries_moved {c : Nat} (hc : UNSTAKE ≠ c) (qs : List UEntry) {s s2 : St} {e e2 : Entry}
    (h : cancelEntries s c e qs = some (s2, e2)) : Moved s s2 c e e2 := by
  induction qs generalizing s e with
  | nil =>
    obtain ⟨rfl, rfl⟩ := Prod.mk.inj (Option.some.inj h)
    exact Moved.refl _ _ _
  | cons q qs ih =>
    obtain ⟨u, s1, hu, hdeb, -, -, -, -, hrec⟩ := cancelEntries_cons h
    have hesc : IsEsc UNSTAKE := Or.inr (Or.inl rfl)
    have l1 : Moved s s1 c e e := moved_debit_other e hdeb hc hesc
    have hu1 : s1.unlockOf q.nonce = some u := (unlockOf_congr l1.nonces _).trans hu
    have hm : Moves e (e.restoreCancel q.locked u s.epoch) (q.locked : Int) u s1.epoch := by
      rw [l1.epoch]; exact moves_restoreCancel e q.locked u s.epoch
    generalize hX : St.credit _ c q.nonce q.locked = X at hrec
    have l2 : Moved s1 X c e (e.restoreCancel q.locked u s.epoch) := by
      subst hX
      exact moved_credit rfl rfl rfl rfl hu1 hm
    exact (l1.trans l2).trans (ih hrec)

theorem claimEntries_frameZ (qs : List UEntry) {s s2 : St} {paid : Nat}
    (h : claimEntries s qs = some (s2, paid)) :
    s2.epoch = s.epoch ∧ s2.nonces = s.nonces ∧ s2.energy = s.energy ∧
    (∀ x, x ≠ UNSTAKE → s2.bal x = s.bal x) ∧ (∀ x, Dom s x → Dom s2 x) := by
  induction qs generalizing s paid with
  | nil =>
    obtain ⟨rfl, -⟩ := Prod.mk.inj (Option.some.inj h)
    exact ⟨rfl, rfl, rfl, fun _ _ => rfl, fun _ hd => hd⟩
  | cons q qs ih =>
    obtain ⟨s1, paid', hdeb, -, -, -, hrec, -⟩ := claimEntries_cons h
    obtain ⟨_, d1, d2, d3, _, _, d6, d7⟩ := debit_bal hdeb
    obtain ⟨a1, a2, a3, a4, a5⟩ := ih hrec
    exact ⟨a1.trans d1, a2.trans d2, a3.trans d3, fun x hx => (a4 x hx).trans (d6 x hx),
      fun x hd => a5 x (d7 x hd)⟩

end Mx.Energy
