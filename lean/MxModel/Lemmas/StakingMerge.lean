/-
  Arithmetic of position tokens (C07, staking side): `into_part`, `merge_with`,
  `merge_attributes_from_payments`; the rounding of the merged index is in Lemmas/WAvg.lean.
-/
import MxModel.Lemmas.StakingSpec
import MxModel.Lemmas.WeeklySum
import MxModel.Lemmas.WAvg

namespace Mx.Staking

open Mx.Weekly

theorem mergeWith_spec {t o m : Attrs} (h : t.mergeWith o = some m) :
    0 < t.amount + o.amount ∧ m.amount = t.amount + o.amount ∧
    m.compounded = t.compounded + o.compounded ∧
    m.rps = weightedAvgRoundUp t.rps t.amount o.rps o.amount ∧ m.owner = t.owner := by
  simp only [Attrs.mergeWith, Option.bind_eq_bind, Option.bind_eq_some_iff, req_eq_some,
    Option.pure_def, Option.some.injEq] at h
  obtain ⟨_, h1, rfl⟩ := h
  exact ⟨by omega, rfl, rfl, rfl, rfl⟩

/-- splitting a position into two parts: principal exact, compounded rewards floor (the parts
    never carry more than the whole), index and owner unchanged -/
theorem split_spec {t a b : Attrs} {x y : Nat} (hx : t.intoPart x = some a) (hy : t.intoPart y = some b)
    (hxy : x + y = t.amount) (hx0 : 0 < x) (hy0 : 0 < y) :
    a.amount + b.amount = t.amount ∧ a.compounded + b.compounded ≤ t.compounded ∧
    a.rps = t.rps ∧ b.rps = t.rps ∧ a.owner = t.owner ∧ b.owner = t.owner := by
  obtain ⟨a1, a2, a3, a4⟩ := intoPart_spec hx
  obtain ⟨b1, b2, b3, b4⟩ := intoPart_spec hy
  have nx : x ≠ t.amount := by omega
  have ny : y ≠ t.amount := by omega
  rw [if_neg nx] at a4
  rw [if_neg ny] at b4
  refine ⟨by omega, ?_, a1, b1, a2, b2⟩
  rw [a4, b4]
  have h := div_add_div_le (t.compounded * x) (t.compounded * y) t.amount
  have e : t.compounded * x + t.compounded * y = t.compounded * t.amount := by
    rw [← Nat.mul_add, hxy]
  rw [e] at h
  have hpos : 0 < t.amount := by omega
  rw [Nat.mul_div_cancel _ hpos] at h
  exact h

/-- `merge_attributes_from_payments` -/
theorem mergeParts_spec (m : Nat → Option Meta) :
    ∀ (pays : List Pay) (base out : Attrs), mergeParts m base pays = some out →
      out.amount = base.amount + (pays.map (·.2)).sum ∧ out.owner = base.owner ∧
      base.compounded ≤ out.compounded
  | [], base, out, h => by
      simp only [mergeParts, Option.some.injEq] at h
      subst h
      simp
  | p :: ps, base, out, h => by
      simp only [mergeParts, Option.bind_eq_bind, Option.bind_eq_some_iff] at h
      obtain ⟨a, _, part, hp, mg, hm, hrest⟩ := h
      obtain ⟨_, _, e3, _⟩ := intoPart_spec hp
      obtain ⟨_, m2, m3, _, m5⟩ := mergeWith_spec hm
      obtain ⟨r1, r2, r3⟩ := mergeParts_spec m ps mg out hrest
      simp only [List.map_cons, List.sum_cons]
      refine ⟨by omega, by rw [r2, m5], by omega⟩

end Mx.Staking
