/-
  Liveness of `unstakeFarm` and `claimRewards` of the farm-staking model (C05 "no legitimate call
  fails because an internal counter would go negative", farm-staking side; property theorems:
  Props/C05StakingLive.lean).  Every guard and checked subtraction of the two endpoints is discharged
  from the invariants (`unstakeCore_ok`, `claimCore_ok`: the reward is covered by the reserve, the
  reserve is in the balance); the calls into the weekly-rewards module are hypotheses there, and
  cannot abort without a boosted-yields config (`cby_none_ok`, `clear_none_ok`), by the weekly
  module's own invariant (`WLInv`).
-/
import MxModel.Lemmas.StakingLedger
import MxModel.Lemmas.StakingCover
import MxModel.Lemmas.StakingWeekPos
import MxModel.Lemmas.WeeklyLive

namespace Mx.Staking

open Mx.Weekly

/-! The units outstanding of a position nonce never exceed the `amount` recorded in its attributes
  (they are equal when the nonce is minted, and only burns follow): this is what makes the division
  of `into_part` (`rule_of_three`) safe. -/

def AmtOK (v : PV) : Prop :=
  ∀ n a, posOf v.md n = some a → outst v.hold v.accts n ≤ a.amount

theorem AmtOK.trans {v v' : PV} (hI : PosOK v) (hA : AmtOK v) (h : PTrans v v') : AmtOK v' := by
  intro n a ha
  unfold posOf at ha
  rcases (PTrans.nonce_cases hI h n).2 with ⟨hmd, ho⟩ | ⟨_, ⟨tok, hmd, ho⟩ | ⟨e, hmd⟩⟩
  · refine Nat.le_trans ho (hA n a ?_)
    unfold posOf
    rw [← hmd]
    exact ha
  · rw [hmd] at ha
    obtain rfl : tok = a := Option.some.inj ha
    exact Nat.le_of_eq ho
  · rw [hmd] at ha
    cases ha

def AmtInv (s : St) : Prop := AmtOK (pv s)

theorem amtInv_init (epoch block dsc maxApr minUnbond perBlock : Nat) (accts wl : List Nat) :
    AmtInv (init epoch block dsc maxApr minUnbond perBlock accts wl) := by
  intro n a ha
  have : posOf (fun _ => none) n = some a := ha
  simp [posOf] at this

theorem step_amtInv {s s' : St} {op : Op} {o : Out} (hI : PosInv s) (hA : AmtInv s)
    (h : step s op = some (s', o)) : AmtInv s' :=
  AmtOK.trans hI hA (step_ptrans h)

theorem run_amtInv (ops : List Op) {s : St} (hI : PosInv s) (hA : AmtInv s) : AmtInv (run s ops) :=
  (run_induction (P := fun t => PosInv t ∧ AmtInv t)
    (fun hI h => ⟨step_posInv hI.1 h, step_amtInv hI.1 hI.2 h⟩) ops ⟨hI, hA⟩).2

theorem hold_le_amount {s : St} (hP : PosInv s) (hA : AmtInv s) {c n : Nat} {a : Attrs}
    (ha : posOf s.md n = some a) (hne : s.hold c n ≠ 0) : s.hold c n ≤ a.amount := by
  have h1 := (hold_le_outst hP hne).1
  have h2 : outst s.hold s.accts.dedup n ≤ a.amount := hA n a ha
  omega

theorem hold_le_supply {s : St} (hP : PosInv s) {c n : Nat} {a : Attrs}
    (ha : posOf s.md n = some a) (hne : s.hold c n ≠ 0) : s.hold c n ≤ s.supply := by
  have hP' : PosOK (pv s) := hP
  have h3 : s.supply = wsum s.hold s.accts.dedup (s.nonce + 1) (posW s.md) := hP'.sup
  rw [h3]
  exact hold_le_wsum hP (posW_some ha) hne

theorem intoPart_ok {t : Attrs} {x : Nat} (hx : 0 < x) (hle : x ≤ t.amount) :
    ∃ tok, t.intoPart x = some tok ∧ tok.rps = t.rps ∧ tok.amount = x := by
  unfold Attrs.intoPart
  by_cases h : x = t.amount
  · rw [if_pos h]; exact ⟨t, rfl, rfl, h.symm⟩
  · rw [if_neg h]
    have hne : t.amount ≠ 0 := by omega
    have e : req (t.amount ≠ 0) = some () := req_pos hne
    simp only [e, Option.bind_eq_bind, Option.bind_some, Option.pure_def]
    exact ⟨_, rfl, rfl, rfl⟩

/-! The settled state `settle s` is itself reachable in one step — `setBoostedYieldsRewardsPercentage`
  with the CURRENT percentage only settles — so every inductive invariant holds in it. -/

theorem settle_step {s : St} (hI : Inv s) :
    step s (.setBoostedPct s.boostedPct) = some (settle s, {}) := by
  have hg := generate_ok s.cache hI.acc_le hI.pct_le
  have e : req (s.boostedPct ≤ MAX_PERCENT) = some () := req_pos hI.pct_le
  rw [step_eq_stepCore rfl]
  simp only [stepCore, setBoostedPct, e, settleThen, hg, Option.bind_eq_bind, Option.bind_some,
    Option.pure_def]
  rfl

@[simp] theorem settle_reserve (s : St) : (settle s).reserve = s.reserve + genTot s := rfl
@[simp] theorem settle_bal (s : St) : (settle s).bal = s.bal := rfl
@[simp] theorem settle_md (s : St) : (settle s).md = s.md := rfl
@[simp] theorem settle_hold (s : St) : (settle s).hold = s.hold := rfl
@[simp] theorem settle_dsc (s : St) : (settle s).dsc = s.dsc := rfl
@[simp] theorem settle_supply (s : St) : (settle s).supply = s.supply := rfl
@[simp] theorem settle_rps (s : St) : (settle s).rps = (genCache s s.cache).rps := rfl

/-- **the reward of a held part is in the reserve.**  `x` units of a position held by `c`; the
    base reward at the index after settling plus whatever the boosted claim of ANY user returns on
    the settled state never exceeds the cached reserve after settling. -/
theorem reward_covered {s : St} (hI : Inv s) (hP : PosInv s) (hPot : PotInv s) (hB : BoostInv s)
    (hd : 0 < s.dsc) {c n x : Nat} {attrs : Attrs} (ha : posOf s.md n = some attrs)
    (hx : 0 < x) (hh : x ≤ s.hold c n) {orig f : Nat} {r : Weekly.St × B × Nat}
    (hr : claimBoostedYields (genSt s) orig f = some r) :
    baseAmt (genCache s s.cache).rps s.dsc x attrs.rps + r.2.2 ≤ s.reserve + genTot s := by
  have hst := settle_step hI
  have hI' : Inv (settle s) := step_inv hI hst
  have hP' : PosInv (settle s) := step_posInv hP hst
  have hPot' : PotInv (settle s) := step_potInv hP hPot hst
  have hB' : BoostInv (settle s) := step_boostInv hB hst
  -- base part: the part's term of the pot, which `PotInv` bounds by the unspent base budget
  have hne : (settle s).hold c n ≠ 0 := by show s.hold c n ≠ 0; omega
  obtain ⟨h1, hn⟩ := hold_le_outst hP' hne
  have h2 : potW (settle s).md (settle s).rps n * outst (settle s).hold (settle s).accts.dedup n ≤
      (pv (settle s)).pot :=
    le_usum (f := fun k => potW (settle s).md (settle s).rps k *
      outst (settle s).hold (settle s).accts.dedup k) (List.mem_range.mpr hn)
  have ha' : posOf (settle s).md n = some attrs := ha
  rw [potW_some ha'] at h2
  have h3 : (pv (settle s)).pot + (settle s).dsc * (settle s).paidBase ≤
      (settle s).dsc * (settle s).baseBudget := hPot'
  have h4 := baseAmt_le (genCache s s.cache).rps s.dsc x attrs.rps
  have h5 : x * ((genCache s s.cache).rps - attrs.rps) ≤
      ((settle s).rps - attrs.rps) * outst (settle s).hold (settle s).accts.dedup n := by
    rw [Nat.mul_comm]
    apply Nat.mul_le_mul_left
    have : x ≤ (settle s).hold c n := hh
    omega
  have h6 : s.dsc * (baseAmt (genCache s s.cache).rps s.dsc x attrs.rps + (settle s).paidBase) ≤
      s.dsc * (settle s).baseBudget := by
    rw [Nat.mul_add]
    have e : (settle s).dsc = s.dsc := rfl
    rw [e] at h3
    omega
  have h7 := Nat.le_of_mul_le_mul_left h6 hd
  -- boosted part: paid out of the week pools, which `BoostInv` bounds by the unspent boosted budget
  obtain ⟨M, hM⟩ := claimBoostedYields_pool_le hr
  have h8 := hM M (Nat.le_refl _)
  have h9 : psum M (settle s).b.accumulated (settle s).b.remaining + (settle s).undistributed +
      (settle s).paidBoosted ≤ (settle s).boostedBudget := hB' M
  have e9 : psum M (settle s).b.accumulated (settle s).b.remaining =
      psum M (genSt s).b.accumulated (genSt s).b.remaining := rfl
  rw [e9] at h9
  have h10 := hI'.res_eq
  have h11 := hI'.budget
  rw [settle_reserve] at h10
  omega

/-- the settled reserve is part of the contract's balance as soon as the proxy-virtual stake does
    not exceed the supply and the unbond ledger is non-negative -/
theorem reserve_le_bal {P : List Nat} {s : St} (hI : Inv s) (hP : PosInv s) (hU : UnbInv s)
    (hV : VirtOK P s) : s.reserve + genTot s ≤ s.bal := by
  have hst := settle_step hI
  have hI' : Inv (settle s) := step_inv hI hst
  have hP' : PosOK (pv s) := hP
  have h1 := hI'.bal_eq
  have h2 := hI'.acc_le
  have h3 : s.unbondOut = ((wsum s.hold s.accts.dedup (s.nonce + 1) (unbW s.md) : Nat) : Int) := hU
  have h4 : s.virt = ((pv s).held P : Nat) := hV
  have h5 : (pv s).held P ≤ s.supply := hP'.held_le P
  have e1 : (settle s).virt = s.virt := rfl
  have e2 : (settle s).unbondOut = s.unbondOut := rfl
  rw [settle_bal, settle_reserve, settle_supply, e1, e2] at h1
  omega

structure LiveInv (P : List Nat) (s : St) : Prop where
  inv : Inv s
  pos : PosInv s
  pot : PotInv s
  boost : BoostInv s
  unb : UnbInv s
  virt : VirtOK P s
  amt : AmtInv s
  dsc : 0 < s.dsc

theorem part_live {P : List Nat} {s : St} (hL : LiveInv P s) {c n x : Nat} {attrs : Attrs}
    (ha : posOf s.md n = some attrs) (hx : 0 < x) (hh : x ≤ s.hold c n) :
    ∃ tok, attrs.intoPart x = some tok ∧ tok.amount = x ∧ x ≤ s.supply ∧
      s.reserve + genTot s ≤ s.bal ∧
      ∀ {orig f : Nat} {r : Weekly.St × B × Nat}, claimBoostedYields (genSt s) orig f = some r →
        baseReward (genCache s s.cache) s.dsc x tok + r.2.2 ≤ s.reserve + genTot s := by
  obtain ⟨hI, hP, hPot, hB, hU, hV, hA, hd⟩ := hL
  have hne : s.hold c n ≠ 0 := by omega
  obtain ⟨tok, htok, hrps, htamt⟩ :=
    intoPart_ok (t := attrs) hx (Nat.le_trans hh (hold_le_amount hP hA ha hne))
  refine ⟨tok, htok, htamt, Nat.le_trans hh (hold_le_supply hP ha hne), reserve_le_bal hI hP hU hV,
    fun hr => ?_⟩
  rw [baseReward_eq, hrps]
  exact reward_covered hI hP hPot hB hd ha hx hh hr

/-- **progress of `unstake_farm_common`** (direct variant, no staking tokens sent along):
    `caller` holds `x > 0` units of the position `n`; `orig` is whoever the endpoint treats as the
    original caller.  Every guard is discharged except the two calls into the weekly module. -/
theorem unstakeCore_ok {P : List Nat} {s : St} (hL : LiveInv P s) (hact : s.active = true)
    {c orig n x : Nat} {attrs : Attrs} (ha : s.md n = some (.pos attrs)) (hx : 0 < x)
    (hh : x ≤ s.hold c n) {r : Weekly.St × B × Nat}
    (hr : claimBoostedYields (genSt s) orig (s.userTotal orig) = some r)
    (hcl : (clearEnergyIfNeeded
      { genSt s with userTotal := decreaseUT s.userTotal attrs.owner x, b := r.2.1 } r.1 orig).isSome) :
    (unstakeCore s c orig (n, x) none).isSome := by
  have hpos : posOf s.md n = some attrs := posOf_of_md ha
  obtain ⟨tok, htok, htamt, hsup, hbal, hcov⟩ := part_live hL hpos hx hh
  obtain ⟨w2, hw2⟩ := Option.isSome_iff_exists.mp hcl
  unfold unstakeCore
  refine isSome_bind (a := ()) (by simp [req]) ?_
  refine isSome_bind (debit_single.2 ⟨hx, hh, rfl⟩) ?_
  refine isSome_bind (a := ()) (req_pos hact) ?_
  refine isSome_bind hpos ?_
  refine isSome_bind (generate_ok s.cache hL.inv.acc_le hL.inv.pct_le) ?_
  refine isSome_bind htok ?_
  refine isSome_bind hr ?_
  refine isSome_bind (sub?_pos (hcov hr)) ?_
  refine isSome_bind (sub?_pos (htamt.trans_le hsup)) ?_
  refine isSome_bind hw2 ?_
  refine isSome_bind (sub?_pos (Nat.le_trans (hcov hr) hbal)) ?_
  rfl

/-- **progress of `claim_rewards` with one payment** (`claimRewards`, no new farming value):
    every guard is discharged except the two calls into the weekly module (the boosted claim and
    the final `update_energy_and_progress`). -/
theorem claimCore_ok {P : List Nat} {s : St} (hL : LiveInv P s) (hact : s.active = true)
    {c orig n x : Nat} {attrs : Attrs} (ha : s.md n = some (.pos attrs)) (hx : 0 < x)
    (hh : x ≤ s.hold c n) {r : Weekly.St × B × Nat}
    (hr : claimBoostedYields (genSt s) orig (s.userTotal orig) = some r)
    (hup : (updateEnergyAndProgress r.1 orig s.week (Energy.queried (s.energy orig) s.epoch)).isSome) :
    (claimCore s c orig [(n, x)] none).isSome := by
  have hpos : posOf s.md n = some attrs := posOf_of_md ha
  obtain ⟨tok, htok, htamt, -, hbal, hcov⟩ := part_live hL hpos hx hh
  obtain ⟨w2, hw2⟩ := Option.isSome_iff_exists.mp hup
  have hcu : checkAndUpdate s.md orig (genSt s).userTotal [(n, x)] =
      some (if attrs.owner = orig then s.userTotal
        else upd (decreaseUT s.userTotal attrs.owner x) orig
          (decreaseUT s.userTotal attrs.owner x orig + x)) := by
    simp only [checkAndUpdate, hpos, Option.bind_eq_bind, Option.bind_some]
    rfl
  have hbaseOk : claimBase s c orig [(n, x)] = some
      { hold0 := upd2 s.hold c n (s.hold c n - x), s1 := genSt s, c1 := genCache s s.cache,
        w1 := r.1, b1 := r.2.1, boosted := r.2.2,
        base := baseReward (genCache s s.cache) s.dsc x tok,
        ut1 := (if attrs.owner = orig then s.userTotal
          else upd (decreaseUT s.userTotal attrs.owner x) orig
            (decreaseUT s.userTotal attrs.owner x orig + x)),
        merged := ⟨(genCache s s.cache).rps, tok.compounded, tok.amount, orig⟩ } := by
    have e0 : debit s.hold c [(n, x)] = some (upd2 s.hold c n (s.hold c n - x)) :=
      debit_single.2 ⟨hx, hh, rfl⟩
    have e1 : req (s.active = true) = some () := req_pos hact
    have hr' : claimBoostedYields (genSt s) orig ((genSt s).userTotal orig) = some r := hr
    simp only [claimBase, e0, e1, List.head?_cons, hpos,
      generate_ok s.cache hL.inv.acc_le hL.inv.pct_le, htok, hr', hcu, List.tail_cons,
      mergeParts, Option.bind_eq_bind, Option.bind_some, Option.pure_def]
  unfold claimCore
  refine isSome_bind hbaseOk ?_
  unfold claimFinish
  refine isSome_bind (sub?_pos (hcov hr)) ?_
  refine isSome_bind (a := (genCache s s.cache).supply) rfl ?_
  refine isSome_bind (a := (if attrs.owner = orig then s.userTotal
          else upd (decreaseUT s.userTotal attrs.owner x) orig
            (decreaseUT s.userTotal attrs.owner x orig + x))) rfl ?_
  refine isSome_bind (a := ()) (req_pos (htamt.symm ▸ hx)) ?_
  refine isSome_bind hw2 ?_
  refine isSome_bind (sub?_pos (Nat.le_trans (hcov hr) hbal)) ?_
  rfl

/-- the shape of `stakeFarm`, `claimRewards`, `unstakeFarm`: the sender acts for itself or — being
    whitelisted — names an original caller -/
theorem orig_getD {β : Type} (F : Nat → Option β) {wl : List Nat} {c : Nat} {opt : Option Nat}
    (hw : opt = none ∨ c ∈ wl) :
    (match (generalizing := false) opt with
      | none => F c
      | some o => req (c ∈ wl) >>= fun _ => F o) = F (opt.getD c) := by
  cases opt with
  | none => rfl
  | some o =>
    have e : req (c ∈ wl) = some () := req_pos (hw.resolve_left (Option.some_ne_none o))
    simp only [e, Option.bind_eq_bind, Option.bind_some, Option.getD_some]

theorem step_unstake_eq {s : St} {c : Nat} {opt : Option Nat} {pay : Pay} (hc : c ∈ s.accts)
    (hw : opt = none ∨ c ∈ s.whitelist) :
    step s (.unstake c opt pay) = unstakeCore s c (opt.getD c) pay none :=
  Eq.trans (step_eq_stepCore (decide_eq_true hc)) (orig_getD (unstakeCore s c · pay none) hw)

theorem step_claim_eq {s : St} {c : Nat} {opt : Option Nat} {pay : Pay} (hc : c ∈ s.accts)
    (hw : opt = none ∨ c ∈ s.whitelist) :
    step s (.claim c opt pay) = claimCore s c (opt.getD c) [pay] none :=
  Eq.trans (step_eq_stepCore (decide_eq_true hc)) (orig_getD (claimCore s c · [pay] none) hw)

/-! The embedded weekly-rewards module keeps its global invariant `Weekly.GInv` and
  `lastGlobalUpdateWeek ≤ current week` in every reachable staking state (as `GInv` in the farm's
  Lemmas/FarmEnergy.lean; the energy bound `EB` kept there is not needed for this), hence
  `update_energy_and_progress` cannot abort. -/

def WLInv (s : St) : Prop := GInv s.w ∧ s.w.lastGlobalUpdateWeek ≤ s.week

theorem week_pos (s : St) : 1 ≤ s.week := Nat.le_add_left 1 _

theorem userStep_wl {g g' : Weekly.St} {user W : Nat} {cur : Energy} (hW : 1 ≤ W) (hI : GInv g)
    (h : UserStep g g' user W cur) : GInv g' ∧ g'.lastGlobalUpdateWeek ≤ W :=
  ⟨h.ginv hW hI, Nat.le_of_eq h.lgw⟩

theorem cby_wl {s : St} {user f : Nat} {r : Weekly.St × B × Nat} (hI : GInv s.w)
    (h : claimBoostedYields s user f = some r) : GInv r.1 ∧ r.1.lastGlobalUpdateWeek ≤ s.week :=
  userStep_wl (week_pos s) hI (claimBoostedYields_step h)

theorem Claims.wl {s s' t : St} {u : Nat} {r : Weekly.St × B × Nat} (k : Claims s s' u t r)
    (hI : WLInv s) : WLInv s' := by
  obtain ⟨ew, ek, _⟩ := k.entry_frame
  obtain ⟨k1, k2⟩ := cby_wl (by rw [ew]; exact hI.1) k.claim
  rw [ek] at k2
  unfold WLInv
  rw [week_eq k.firstWeek k.epoch]
  rcases k.w with e | ⟨cur, hw⟩
  · rw [e]
    exact ⟨k1, k2⟩
  · exact userStep_wl (week_pos s) k1 (updateEnergyAndProgress_step hw)

theorem WLInv.of_wb {s₀ s' : St} (e : wb s' = wb s₀) (hI : WLInv s₀) : WLInv s' := by
  obtain ⟨ew, -, -, -, -, -, -, -, ee, ef⟩ := WB.mk.inj e
  unfold WLInv
  rw [ew, week_eq ef ee]
  exact hI

theorem step_wl {s s' : St} {op : Op} {o : Out} (hI : WLInv s) (h : step s op = some (s', o)) :
    WLInv s' := by
  cases step_kind h with
  | claim _ k => exact k.wl hI
  | same _ e | settle _ e | factors _ _ e | sweep _ _ e => exact .of_wb e hI
  | energy _ hg e =>
    exact .of_wb e (userStep_wl (week_pos s) hI.1 (updateEnergyAndProgress_step hg))
  | tick _ d e =>
    exact .of_wb e ⟨hI.1, Nat.le_trans hI.2 (week_mono rfl (Nat.le_add_right _ d))⟩

theorem wlInv_init (epoch block dsc maxApr minUnbond perBlock : Nat) (accts wl : List Nat) :
    WLInv (init epoch block dsc maxApr minUnbond perBlock accts wl) :=
  ⟨GInv.init, Nat.zero_le _⟩

theorem run_wl (ops : List Op) {s : St} (hI : WLInv s) : WLInv (run s ops) :=
  run_induction (fun hI h => step_wl hI h) ops hI

theorem uep_ok {g : Weekly.St} {W : Nat} (hW : 1 ≤ W) (hI : GInv g) (hle : g.lastGlobalUpdateWeek ≤ W)
    (u : Nat) (cur : Energy) : (updateEnergyAndProgress g u W cur).isSome = true := by
  obtain ⟨g', hg'⟩ := updateUser_ok (u0 := u) cur hW hI hle
  exact Option.isSome_iff_exists.mpr ⟨_, updateEnergyAndProgress_iff.mpr ⟨g', hg', rfl⟩⟩

theorem cby_none_ok {s : St} (hW : WLInv s) (hc : s.b.cfg = none) (u f : Nat) :
    ∃ r, claimBoostedYields (genSt s) u f = some r ∧ r.2.1 = (genSt s).b ∧ r.2.2 = 0 := by
  have hc' : (genSt s).b.cfg = none := hc
  obtain ⟨w, hw⟩ := Option.isSome_iff_exists.mp
    (uep_ok (week_pos s) hW.1 hW.2 u (Energy.queried (s.energy u) s.epoch))
  have hw' : updateEnergyAndProgress (genSt s).w u (genSt s).week
      (Energy.queried ((genSt s).energy u) (genSt s).epoch) = some w := hw
  refine ⟨(w, (genSt s).b, 0), ?_, rfl, rfl⟩
  unfold claimBoostedYields
  rw [hc']
  simp only [hw', Option.map_some]

theorem clear_none_ok {t : St} (hc : t.b.cfg = none) (g : Weekly.St) (u : Nat) :
    clearEnergyIfNeeded t g u = some g := by
  unfold clearEnergyIfNeeded
  rw [hc]

end Mx.Staking
