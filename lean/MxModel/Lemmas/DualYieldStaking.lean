/-
  Composition of the metastaking proxy model (Core/DualYield.lean) with the MODEL of its callee, the
  staking farm (Core/Staking.lean): what `stakeFarmThroughProxy` / `unstakeFarmThroughProxy` return
  for the values the proxy passes.  Used by Props/C15Run and Props/C15Compose to discharge the callee
  hypotheses of Props/C15 (`hfarm`, `RespPos`).
-/
import MxModel.Lemmas.DualYieldSupply
import MxModel.Lemmas.StakingPos
import MxModel.Lemmas.AccessModelsStaking
import MxModel.Lemmas.StakingGate

namespace Mx.DualYield

/-- the staking farm creates a position for the staked amount plus the merged-in positions, and
    refuses a zero amount (`stake_farm_common`, `merge_attributes_from_payments`) -/
theorem stakeCore_amount {σ σ' : Staking.St} {c orig amount : Nat} {v : Bool}
    {adds : List Staking.Pay} {o : Staking.Out}
    (h : Staking.stakeCore σ c orig amount v adds = some (σ', o)) :
    0 < amount ∧ o.b = amount + Staking.payTot adds := by
  obtain ⟨hold0, r, ut1, merged, w2, t⟩ := Staking.stakeCore_trace h
  obtain rfl := t.out
  exact ⟨t.amount_pos, (Staking.mergeParts_amount t.mergeParts).1⟩

/-- `unstakeFarmThroughProxy(amount)`: only for a whitelisted caller; the answer is a new unbond
    token for `amount`, held by the caller and unlocking `minUnbond` epochs from now -/
theorem unstakeProxy_unbond {σ σ' : Staking.St} {proxy orig amount : Nat} {pay : Staking.Pay}
    {so : Staking.Out} (h : Staking.unstakeProxy σ proxy orig amount pay = some (σ', so)) :
    proxy ∈ σ.whitelist ∧ so.a = σ.nonce + 1 ∧ so.b = amount ∧
      σ'.md (σ.nonce + 1) = some (.unbond (σ.epoch + σ.minUnbond)) ∧
      σ'.hold proxy (σ.nonce + 1) = amount := by
  obtain ⟨hw, hcore⟩ := Staking.unstakeProxy_spec h
  obtain ⟨-, hmd, hhold, ha, hb, -⟩ := Staking.unstakeCore_unbond hcore
  exact ⟨hw, ha, hb, hmd, hhold⟩

/-- `claimRewardsWithNewValue(new_farming_amount)`: the staking model's new position is for
    exactly the new amount, which it refuses when zero -/
theorem claimNewValue_amount {σ σ' : Staking.St} {proxy orig nv : Nat} {pay : Staking.Pay}
    {so : Staking.Out} (hst : Staking.claimNewValue σ proxy orig nv pay = some (σ', so)) :
    so.b = nv ∧ 0 < nv ∧ proxy ∈ σ.whitelist := by
  obtain ⟨hw, hcore⟩ := Staking.claimNewValue_spec hst
  obtain ⟨m, -, hfin⟩ := Option.bind_eq_some_iff.mp hcore
  obtain ⟨_, _, _, f⟩ := Staking.claimFinish_trace hfin
  obtain rfl := f.out
  exact ⟨rfl, f.amount_pos, hw⟩

/-- the staking-farm amount a stake with merging hands to the staking farm as additional payments
    is the sum of the dual-yield amounts paid -/
theorem releaseAll_stTotal {s : St} {u : Nat} {ms : List (Nat × Nat)} {q : St × Nat × Nat}
    (h : releaseAll s u ms = some q) : q.2.2 = (ms.map (·.2)).sum := by
  induction ms generalizing s q with
  | nil => cases h; rfl
  | cons a ms ih =>
    obtain ⟨d, x⟩ := a
    obtain ⟨s1, p, q1, -, h2, rfl⟩ := releaseAll_cons h
    exact (congrArg (x + ·) (ih h2)).trans List.sum_cons.symm

end Mx.DualYield
