/-
  Trading histories (C02, "no sequence of swaps returns more than was put in"): not only lists of
  `swapIn`/`swapOut` but every history without a LIQUIDITY operation: swaps by anyone,
  `swapNoFeeAndForward` by whitelisted contracts, configuration changes (fee percents, fee
  destinations, collector, state, whitelist, trusted pairs, locking setters) and the two clocks.
  Over such a history the LP supply is constant and the callers together net, of each token, at
  most what its reserve loses (`trade_run`); `flow_product` and `flow_no_profit` are the arithmetic
  that turns these bounds plus K-monotonicity into "no profit" (composed in Props/C02Mixed.lean).
-/
import MxModel.Lemmas.PairK

namespace Mx.Pair

/-- the operations that mint or burn LP tokens -/
def isLiq : Op → Bool
  | .addInitial .. => true
  | .addLiq .. => true
  | .removeLiq .. => true
  | .buyback .. => true
  | _ => false

/-- signed amounts of (first, second) token the caller of a successful non-liquidity operation
    nets: swaps as `flowOf`; `swapNoFeeAndForward` pays its input and receives nothing (the
    output is burned); configuration and clock operations move nothing -/
def tflow (op : Op) (o : Out) : Int × Int :=
  match op with
  | .swapNoFee _ .ab a => (-(a : Int), 0)
  | .swapNoFee _ .ba a => (0, -(a : Int))
  | op => flowOf op o

/-- run a history, accumulating what the callers netted; failed transactions net nothing -/
def runT : St → List Op → St × Int × Int
  | s, [] => (s, 0, 0)
  | s, op :: ops =>
    match step s op with
    | some (s1, o) =>
      ((runT s1 ops).1, (tflow op o).1 + (runT s1 ops).2.1, (tflow op o).2 + (runT s1 ops).2.2)
    | none => runT s ops

theorem runT_fst (s : St) (ops : List Op) : (runT s ops).1 = run s ops := by
  induction ops generalizing s with
  | nil => rfl
  | cons op ops ih =>
    simp only [runT, run, List.foldl_cons]
    cases h : step s op with
    | none => simpa [run] using ih s
    | some r => obtain ⟨s1, o⟩ := r; simpa [run] using ih s1

theorem isLiq_of_isSwap {op : Op} (h : isSwap op = true) : isLiq op = false := by
  cases op <;> first | rfl | cases h

theorem runFlow_eq_runT (ops : List Op) (hall : ∀ op ∈ ops, isSwap op = true) (s : St) :
    runFlow s ops = runT s ops := by
  induction ops generalizing s with
  | nil => rfl
  | cons op ops ih =>
    have e : ∀ o, tflow op o = flowOf op o := fun o => by
      cases op <;> first | rfl | cases hall _ List.mem_cons_self
    have hrest : ∀ op' ∈ ops, isSwap op' = true := fun o' ho' => hall o' (List.mem_cons_of_mem _ ho')
    simp only [runFlow, runT, e, ih hrest]
    cases step s op <;> rfl

theorem trade_step {s s' : St} {op : Op} {o : Out} (hl : isLiq op = false)
    (h : step s op = some (s', o)) :
    s'.S = s.S ∧ (tflow op o).1 ≤ (s.r1 : Int) - s'.r1 ∧ (tflow op o).2 ≤ (s.r2 : Int) - s'.r2 := by
  refine step_cases (motive := fun op => isLiq op = false → (s'.S = s.S ∧
    (tflow op o).1 ≤ (s.r1 : Int) - s'.r1 ∧ (tflow op o).2 ≤ (s.r2 : Int) - s'.r2)) h
    ?_ ?_ ?_ ?_ ?_ ?_ ?_ hl
  · exact fun _ _ _ _ hl => by cases hl
  · exact fun _ _ _ _ _ hl => by cases hl
  · exact fun _ _ _ _ hl => by cases hl
  · intro op hsw h _
    have hf := swap_flow_step hsw h
    have e : tflow op o = flowOf op o := by cases op <;> first | rfl | cases hsw
    rw [e]
    obtain ⟨_, _, _, _, _, hc⟩ := swap_moved hsw h
    exact ⟨hc.S, hf⟩
  · intro c d a h _
    obtain ⟨_, _, _, _, rfl, h6, _, _, rfl⟩ := swapNoFee_spec h
    cases d <;> dir_simp <;> dir_simp at h6 <;> simp only [tflow] <;>
      refine ⟨trivial, ?_, ?_⟩ <;> omega
  · exact fun _ _ _ _ hl => by cases hl
  · intro op ha h _
    obtain ⟨_, _, _, _, _, _, _, _, _, _, _, _, _, rfl⟩ := (step_admin ha h).state
    have e : tflow op o = (0, 0) := by cases op <;> first | rfl | cases ha
    rw [e]
    exact ⟨rfl, by simp, by simp⟩

theorem trade_run (ops : List Op) (hall : ∀ op ∈ ops, isLiq op = false) (s : St) :
    (run s ops).S = s.S ∧
    (runT s ops).2.1 ≤ (s.r1 : Int) - (run s ops).r1 ∧
    (runT s ops).2.2 ≤ (s.r2 : Int) - (run s ops).r2 := by
  induction ops generalizing s with
  | nil => simp [runT, run]
  | cons op ops ih =>
    have hop := hall op (List.mem_cons_self ..)
    have hrest : ∀ op' ∈ ops, isLiq op' = false := fun o' ho' => hall o' (List.mem_cons_of_mem _ ho')
    simp only [runT, run, List.foldl_cons]
    cases h : step s op with
    | none => exact ih hrest s
    | some r =>
      obtain ⟨s1, o⟩ := r
      obtain ⟨e, h1, h2⟩ := trade_step hop h
      obtain ⟨e', g1, g2⟩ := ih hrest s1
      simp only [run] at e' g1 g2
      simp only []
      refine ⟨by rw [e', e], ?_, ?_⟩ <;> omega

/-- the conclusion reads: the flows are no better than a fee-less constant-product trade against the
    initial reserves -/
theorem flow_product (r1 r2 r1' r2' : Nat) (f1 f2 : Int)
    (h1 : f1 ≤ (r1 : Int) - r1') (h2 : f2 ≤ (r2 : Int) - r2') (hk : r1 * r2 ≤ r1' * r2') :
    0 ≤ (r1 : Int) - f1 ∧ 0 ≤ (r2 : Int) - f2 ∧
    (r1 : Int) * r2 ≤ ((r1 : Int) - f1) * ((r2 : Int) - f2) := by
  have a1 : (r1' : Int) ≤ (r1 : Int) - f1 := by omega
  have a2 : (r2' : Int) ≤ (r2 : Int) - f2 := by omega
  have p1 : (0 : Int) ≤ r1' := Int.natCast_nonneg _
  have p2 : (0 : Int) ≤ r2' := Int.natCast_nonneg _
  have hk' : (r1 : Int) * r2 ≤ (r1' : Int) * r2' := by exact_mod_cast hk
  refine ⟨by omega, by omega, Int.le_trans hk' ?_⟩
  exact Int.mul_le_mul a1 a2 p2 (by omega)

theorem flow_no_profit (r1 r2 : Nat) (f1 f2 : Int)
    (hr : (0 < r1 ∧ 0 < r2) ∨ (r1 = 0 ∧ r2 = 0))
    (b1 : 0 ≤ (r1 : Int) - f1) (b2 : 0 ≤ (r2 : Int) - f2)
    (hp : (r1 : Int) * r2 ≤ ((r1 : Int) - f1) * ((r2 : Int) - f2)) :
    ¬ (0 ≤ f1 ∧ 0 ≤ f2 ∧ 0 < f1 + f2) := by
  rintro ⟨g1, g2, g3⟩
  rcases hr with ⟨p1, p2⟩ | ⟨z1, z2⟩
  · have q1 : (0 : Int) < r1 := by exact_mod_cast p1
    have q2 : (0 : Int) < r2 := by exact_mod_cast p2
    have e : ((r1 : Int) - f1) * ((r2 : Int) - f2) = (r1 : Int) * r2 - (f1 * ((r2 : Int) - f2) + f2 * r1) := by
      ring
    rw [e] at hp
    have n1 : 0 ≤ f1 * ((r2 : Int) - f2) := Int.mul_nonneg g1 b2
    have n2 : 0 ≤ f2 * (r1 : Int) := Int.mul_nonneg g2 (by omega)
    rcases Int.lt_or_le 0 f2 with c | c
    · have : 0 < f2 * (r1 : Int) := Int.mul_pos c q1
      omega
    · have f20 : f2 = 0 := by omega
      have f1p : 0 < f1 := by omega
      subst f20
      have : 0 < f1 * ((r2 : Int) - 0) := Int.mul_pos f1p (by omega)
      omega
  · subst z1; subst z2
    simp only [Int.natCast_zero] at b1 b2
    omega

end Mx.Pair
