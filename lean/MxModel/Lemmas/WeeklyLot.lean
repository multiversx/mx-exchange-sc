/-
  "Lots": the arithmetic of ONE recorded energy inside the global weekly bookkeeping
  (DESIGN.md, C10).  A lot is what a user contributed when its progress was recorded:
  `a` = recorded energy amount (> 0 for stored progress), `T` = locked tokens, `j` = whole weeks
  elapsed since then.  Pure `Nat` arithmetic, no contract state.

    contribution to the total energy  `a − 7·T·j`          (truncated)
    live (still inside a bucket)      `0 < T ∧ 0 < a ∧ 7·T·j ≤ a`
    bucket offset from `firstBucketId` `a / T / 7 − j`
    surplus                            `a mod 7·T`

  One weekly shift is `j ↦ j + 1`; the lemmas below say what that does to each quantity —
  exactly what `shift_buckets_and_update_tokens_energy` subtracts.
-/
import MxModel.Core.Weekly

namespace Mx.Weekly

structure Lot where
  a : Nat
  T : Nat
  j : Nat
  deriving DecidableEq, Repr

namespace Lot

def contrib (l : Lot) : Nat := l.a - 7 * l.T * l.j
def Live (l : Lot) : Prop := 0 < l.T ∧ 0 < l.a ∧ 7 * l.T * l.j ≤ l.a
instance (l : Lot) : Decidable l.Live := by unfold Live; infer_instance
def tok (l : Lot) : Nat := if l.Live then l.T else 0
def off (l : Lot) : Nat := l.a / l.T / 7 - l.j
def sur (l : Lot) : Nat := l.a % (l.T * 7)
/-- tokens / surplus the lot keeps in the bucket `firstBucketId + d` -/
def bTok (l : Lot) (d : Nat) : Nat := if l.Live ∧ l.off = d then l.T else 0
def bSur (l : Lot) (d : Nat) : Nat := if l.Live ∧ l.off = d then l.sur else 0
def next (l : Lot) : Lot := { l with j := l.j + 1 }

@[simp] theorem next_a (l : Lot) : l.next.a = l.a := rfl
@[simp] theorem next_T (l : Lot) : l.next.T = l.T := rfl
@[simp] theorem next_j (l : Lot) : l.next.j = l.j + 1 := rfl

theorem decomp (l : Lot) : l.a = 7 * l.T * (l.a / l.T / 7) + l.sur := by
  unfold sur
  rw [Nat.div_div_eq_div_mul, Nat.mul_comm 7 l.T]
  exact (Nat.div_add_mod l.a (l.T * 7)).symm

theorem sur_lt (l : Lot) (h : 0 < l.T) : l.sur < 7 * l.T := by
  unfold sur
  rw [Nat.mul_comm 7]
  exact Nat.mod_lt _ (Nat.mul_pos h (by decide))

theorem live_iff (l : Lot) : l.Live ↔ 0 < l.T ∧ 0 < l.a ∧ l.j ≤ l.a / l.T / 7 := by
  unfold Live
  refine and_congr_right fun hT => and_congr_right fun _ => ?_
  rw [Nat.div_div_eq_div_mul, Nat.le_div_iff_mul_le (Nat.mul_pos hT (by decide)),
    Nat.mul_comm l.j, Nat.mul_comm l.T]

/-- the bucket index `get_bucket_id_for_energy` computes from the depleted energy is the lot's offset -/
theorem contrib_div (l : Lot) (h : l.Live) : l.contrib / l.T / 7 = l.off := by
  unfold contrib off
  rw [Nat.div_div_eq_div_mul, Nat.div_div_eq_div_mul, Nat.mul_comm 7 l.T]
  exact Nat.sub_mul_div_of_le _ _ _ (Nat.mul_comm 7 l.T ▸ h.2.2)

theorem contrib_pos_live (l : Lot) (hT : 0 < l.T) (h : 0 < l.contrib) : l.Live := by
  unfold contrib at h
  exact ⟨hT, by omega, by omega⟩

@[simp] theorem next_sur (l : Lot) : l.next.sur = l.sur := rfl

theorem next_off (l : Lot) : l.next.off = l.off - 1 := Nat.sub_add_eq _ _ _

theorem next_live (l : Lot) : l.next.Live ↔ l.Live ∧ l.off ≠ 0 := by
  rw [live_iff, live_iff]
  unfold off
  simp only [next_a, next_T, next_j]
  generalize l.a / l.T / 7 = k
  omega

theorem contrib_first {l : Lot} (hl : l.Live) (h0 : l.off = 0) :
    l.contrib = l.sur ∧ l.sur < 7 * l.T := by
  have hd := l.decomp
  have hs := l.sur_lt hl.1
  have hk := ((live_iff l).mp hl).2.2
  unfold off at h0
  unfold contrib
  have hj : l.a / l.T / 7 = l.j := by omega
  rw [hj] at hd
  omega

theorem tok_shift (l : Lot) : l.tok = l.next.tok + l.bTok 0 := by
  unfold tok bTok
  simp only [next_live, next_T]
  by_cases hl : l.Live <;> by_cases h0 : l.off = 0 <;> simp [hl, h0]

/-- energy: a lot loses `7·T` per week while it stays live, its surplus when it leaves the
    first bucket, nothing afterwards (and nothing ever without tokens) -/
theorem contrib_shift (l : Lot) (ha : l.T = 0 ∨ 0 < l.a) :
    l.contrib = l.next.contrib + 7 * l.next.tok + l.bSur 0 := by
  have hn : l.next.contrib = l.contrib - 7 * l.T := by
    unfold contrib
    rw [next_a, next_T, next_j, Nat.mul_add, Nat.mul_one, Nat.sub_add_eq]
  unfold tok bSur
  rw [hn, next_T]
  simp only [next_live]
  by_cases hl : l.Live
  · by_cases h0 : l.off = 0
    · obtain ⟨hc, hs⟩ := contrib_first hl h0
      simp only [hl, h0, ne_eq, not_true_eq_false, and_false, if_false, and_self, if_true]
      omega
    · have h7 : 7 * l.T ≤ l.contrib := by
        have := ((next_live l).mpr ⟨hl, h0⟩).2.2
        unfold contrib
        rw [next_a, next_T, next_j, Nat.mul_add, Nat.mul_one] at this
        omega
      simp only [hl, h0, ne_eq, not_false_eq_true, and_self, if_true, and_false, if_false]
      omega
  · -- without tokens nothing is lost; otherwise a dead lot has no energy left
    have hc : l.T = 0 ∨ l.contrib = 0 := by
      rcases ha with hT | ha
      · exact Or.inl hT
      · unfold Live at hl
        unfold contrib
        omega
    simp only [hl, false_and, if_false]
    omega

theorem bucket_shift (l : Lot) (d : Nat) :
    l.next.bTok d = l.bTok (d + 1) ∧ l.next.bSur d = l.bSur (d + 1) := by
  unfold bTok bSur
  have : (l.Live ∧ l.off ≠ 0) ∧ l.off - 1 = d ↔ l.Live ∧ l.off = d + 1 := by
    rw [and_assoc]
    exact and_congr_right fun _ => by omega
  simp only [next_live, next_off, next_T, next_sur, this]
  exact ⟨trivial, trivial⟩

theorem bTok_le_tok (l : Lot) (d : Nat) : l.bTok d ≤ l.tok := by
  unfold bTok tok
  by_cases h : l.Live <;> simp [h]
  split <;> omega

/-- tokens of a live lot whose remaining energy is exactly 0: the code no longer finds the
    bucket of such a lot, so its tokens stay behind (in the first bucket) as orphans -/
def orph (l : Lot) : Nat := if l.Live ∧ l.contrib = 0 then l.T else 0

theorem orphan_off {l : Lot} (hl : l.Live) (hc : l.contrib = 0) : l.off = 0 ∧ l.sur = 0 := by
  have heq : l.a = l.T * 7 * l.j := by
    have := hl.2.2
    unfold contrib at hc
    rw [Nat.mul_comm 7 l.T] at this hc
    omega
  constructor
  · unfold off
    rw [Nat.div_div_eq_div_mul, heq, Nat.mul_div_cancel_left _ (Nat.mul_pos hl.1 (by decide)),
      Nat.sub_self]
  · unfold sur
    rw [heq, Nat.mul_mod_right]

end Lot

end Mx.Weekly
