/-
  Fees collector: the per-week payment ledger never exceeds what was frozen for the week
  (`paid w t ≤ collected w t`), over all histories.

  Core of the argument (`L6rel`): for every week `w` and token `t`

      paid w t  +  Σ_{users u} ⌊collected w t · e_u(w) / E(w)⌋   ≤   collected w t

  where `e_u(w)` is the energy `u` can still be paid with for `w` (`eForP`).  A claim of week `w`
  by `u` moves at most `u`'s term from the sum into `paid`; freezing a week's total starts from
  `paid = 0` and is covered by the all-weeks energy bound (`EB`).  Inside `claim_multi` the
  claimer's entry is tracked "virtually" as the entry of a claimer paid up to the week the hook is
  called for (`LoopInv` with `ClaimProgress.upTo`; `LoopInv.start`, `run_LoopInv`, `LoopInv.finish`).

  `LInv` is the invariant on the collector state (the ledger relation plus the facts tying the
  frozen lists `totalRewards` to `collected`); `AllInv` bundles it with the weekly invariants
  (`WInv` = `GInv ∧ EB`) and the balance invariant (`BalInv`), and `run_AllInv` / `init_AllInv`
  are what the property files start from.
-/
import MxModel.Lemmas.FeesBal
import MxModel.Lemmas.WeeklyHist

namespace Mx.Fees

open Mx.Weekly

theorem share_mono (c E : Nat) {e e' : Nat} (h : e ≤ e') : share c e E ≤ share c e' E := by
  unfold share
  exact Nat.div_le_div_right (Nat.mul_le_mul_left _ h)

@[simp] theorem share_zero_total (e E : Nat) : share 0 e E = 0 := by simp [share]
@[simp] theorem share_zero_energy (c E : Nat) : share c 0 E = 0 := by simp [share]
@[simp] theorem share_zero_den (c e : Nat) : share c e 0 = 0 := by simp [share]

theorem amountOf_sharesOf_cons (t : Tok) (p : Tok × Nat) (ps : List (Tok × Nat)) (e E : Nat) :
    amountOf t (sharesOf (p :: ps) e E) =
      (if p.1 = t then share p.2 e E else 0) + amountOf t (sharesOf ps e E) := by
  unfold sharesOf
  rw [List.map_cons, List.filter_cons]
  split
  · rw [amountOf_cons]
  · rename_i hz
    have : share p.2 e E = 0 := by simpa using hz
    rw [this, ite_self, Nat.zero_add]

theorem amountOf_sharesOf_eq (c : Tok → Nat) (e E : Nat) (t : Tok) :
    ∀ (lst : List (Tok × Nat)), (lst.map Prod.fst).Nodup → (∀ p ∈ lst, p.2 = c p.1) →
      amountOf t (sharesOf lst e E) = if t ∈ lst.map Prod.fst then share (c t) e E else 0 := by
  intro lst
  induction lst with
  | nil => intro _ _; rfl
  | cons p ps ih =>
    intro hnd hc
    rw [List.map_cons, List.nodup_cons] at hnd
    rw [amountOf_sharesOf_cons, ih hnd.2 (fun q hq => hc q (List.mem_cons_of_mem _ hq))]
    simp only [List.map_cons, List.mem_cons]
    by_cases hpt : p.1 = t
    · subst hpt
      rw [if_pos rfl, if_neg hnd.1, if_pos (Or.inl rfl), hc p List.mem_cons_self, Nat.add_zero]
    · rw [if_neg hpt, Nat.zero_add]
      have hne : ¬ t = p.1 := fun h => hpt h.symm
      simp only [hne, false_or]

theorem amountOf_sharesOf_le (c : Tok → Nat) (e E : Nat) (t : Tok) (lst : List (Tok × Nat))
    (hnd : (lst.map Prod.fst).Nodup) (hc : ∀ p ∈ lst, p.2 = c p.1) :
    amountOf t (sharesOf lst e E) ≤ share (c t) e E := by
  rw [amountOf_sharesOf_eq c e E t lst hnd hc]
  split
  · exact Nat.le_refl _
  · exact Nat.zero_le _

/-- the ledger relation, w.r.t. a progress table, a user list and the weekly energy totals: for
    every week and token, what has been paid of the frozen amount plus the shares all users can
    still claim of it fit into it.  It is the `ledger` clause, the sixth, of `LInv` and of `LoopInv`. -/
def L6rel (prog : Nat → Option ClaimProgress) (users : List Nat) (E : Nat → Nat)
    (coll paid : Nat → Tok → Nat) : Prop :=
  ∀ w t, paid w t + usum users (fun u => share (coll w t) (eForP prog u w) (E w)) ≤ coll w t

/-- weakening: smaller claimable energies, totals unchanged or cleared — or nothing frozen -/
theorem L6rel.mono {prog prog' : Nat → Option ClaimProgress} {users : List Nat} {E E' : Nat → Nat}
    {coll paid : Nat → Tok → Nat} (h : L6rel prog users E coll paid)
    (hle : ∀ w, (∀ t, coll w t = 0) ∨
      ((E' w = E w ∨ E' w = 0) ∧ ∀ u ∈ users, eForP prog' u w ≤ eForP prog u w)) :
    L6rel prog' users E' coll paid := by
  intro w t
  have h0 := h w t
  rcases hle w with hz | ⟨hE, hu⟩
  · have hc := hz t
    rw [hc] at h0 ⊢
    have : usum users (fun u => share 0 (eForP prog' u w) (E' w)) = 0 :=
      usum_zero (fun _ _ => by simp)
    omega
  · rcases hE with hE | hE
    · rw [hE]
      have : usum users (fun u => share (coll w t) (eForP prog' u w) (E w)) ≤
          usum users (fun u => share (coll w t) (eForP prog u w) (E w)) :=
        usum_le (fun u hu' => share_mono _ _ (hu u hu'))
      omega
    · rw [hE]
      have : usum users (fun u => share (coll w t) (eForP prog' u w) 0) = 0 :=
        usum_zero (fun _ _ => by simp)
      omega

/-- a claim of week `wk` by `u0`: its term leaves the sum, at most that much enters `paid` -/
theorem L6rel.claim {prog prog' : Nat → Option ClaimProgress} {users : List Nat} {E : Nat → Nat}
    {coll paid paid' : Nat → Tok → Nat} {u0 wk : Nat} (h : L6rel prog users E coll paid)
    (hnd : users.Nodup) (hu0 : u0 ∈ users)
    (hoth : ∀ u, u ≠ u0 → ∀ w, eForP prog' u w = eForP prog u w)
    (hwk : eForP prog' u0 wk = 0) (hle : ∀ w, eForP prog' u0 w ≤ eForP prog u0 w)
    (hp1 : ∀ w t, w ≠ wk → paid' w t = paid w t)
    (hp2 : ∀ t, paid' wk t ≤ paid wk t + share (coll wk t) (eForP prog u0 wk) (E wk)) :
    L6rel prog' users E coll paid' := by
  intro w t
  have h0 := h w t
  by_cases hw : w = wk
  · subst hw
    have hup := usum_update hnd hu0
      (f := fun u => share (coll w t) (eForP prog u w) (E w))
      (g := fun u => share (coll w t) (eForP prog' u w) (E w))
      (fun u _ hne => by rw [hoth u hne w])
    simp only [hwk, share_zero_energy, Nat.add_zero] at hup
    have := hp2 t
    omega
  · rw [hp1 w t hw]
    have : usum users (fun u => share (coll w t) (eForP prog' u w) (E w)) ≤
        usum users (fun u => share (coll w t) (eForP prog u w) (E w)) :=
      usum_le (fun u _ => by
        by_cases hu : u = u0
        · subst hu; exact share_mono _ _ (hle w)
        · rw [hoth u hu w])
    omega

/-- freezing the total of week `wk` (nothing frozen, hence nothing paid, before) -/
theorem L6rel.collect {prog : Nat → Option ClaimProgress} {users : List Nat} {E : Nat → Nat}
    {coll coll' paid : Nat → Tok → Nat} {wk : Nat} (h : L6rel prog users E coll paid)
    (hoth : ∀ w t, w ≠ wk → coll' w t = coll w t) (hz : ∀ t, coll wk t = 0)
    (hE : E wk = 0 ∨ usum users (fun u => eForP prog u wk) ≤ E wk) :
    L6rel prog users E coll' paid := by
  intro w t
  by_cases hw : w = wk
  · subst hw
    have h0 := h w t
    rw [hz t] at h0
    have hp : paid w t = 0 := by omega
    rw [hp, Nat.zero_add]
    rcases hE with hE | hE
    · rw [hE]
      have : usum users (fun u => share (coll' w t) (eForP prog u w) 0) = 0 :=
        usum_zero (fun _ _ => by simp)
      omega
    · exact usum_share_le_total _ _ _ _ hE
  · rw [hoth w t hw]; exact h w t

/-- extending the user list by a user without claimable energy wherever something is frozen -/
theorem L6rel.append {prog : Nat → Option ClaimProgress} {users : List Nat} {E : Nat → Nat}
    {coll paid : Nat → Tok → Nat} {u0 : Nat} (h : L6rel prog users E coll paid)
    (hz : ∀ w, (∀ t, coll w t = 0) ∨ eForP prog u0 w = 0) :
    L6rel prog (users ++ [u0]) E coll paid := by
  intro w t
  rw [usum_append]
  have h0 := h w t
  have : usum [u0] (fun u => share (coll w t) (eForP prog u w) (E w)) = 0 := by
    simp only [usum_cons, usum_nil, Nat.add_zero]
    rcases hz w with hc | he
    · rw [hc t]; simp
    · rw [he]; simp
  omega

/-- the collected list has the known tokens as keys: distinct, amounts non-zero -/
theorem collected_list (toks : List Tok) (f : Tok → Nat) (hnd : toks.Nodup) :
    ((toks.filterMap fun t => if f t ≠ 0 then some (t, f t) else none).map Prod.fst).Nodup ∧
    ∀ p ∈ (toks.filterMap fun t => if f t ≠ 0 then some (t, f t) else none),
      p.1 ∈ toks ∧ p.2 = f p.1 ∧ f p.1 ≠ 0 := by
  refine ⟨?_, fun p hp => ?_⟩
  · refine List.pairwise_map.mpr (List.Pairwise.filterMap _ (fun a a' hne b hb b' hb' => ?_) hnd)
    split at hb
    · split at hb'
      · cases hb; cases hb'; exact hne
      · cases hb'
    · cases hb
  obtain ⟨t, ht, hp⟩ := List.mem_filterMap.mp hp
  split at hp
  · cases hp; exact ⟨ht, rfl, ‹_›⟩
  · cases hp

theorem collected_list_nil (toks : List Tok) (f : Tok → Nat)
    (h : (toks.filterMap fun t => if f t ≠ 0 then some (t, f t) else none) = []) :
    ∀ t ∈ toks, f t = 0 := by
  intro t ht
  have := List.filterMap_eq_nil_iff.mp h t ht
  by_contra hf
  rw [if_pos hf] at this
  cases this

/-- the frozen lists `tr = totalRewards` against the `collected` ledger, `W` being the current week
    (`LInv` and `LoopInv` carry these four fields under the same names): nothing is frozen or paid
    for the running week or later; a frozen entry is the `collected` amount of its token; tokens of a
    frozen list are distinct; a claimable week with an empty list has nothing collected -/
structure Frozen (W : Nat) (tr : Nat → List (Tok × Nat)) (coll paid : Nat → Tok → Nat) : Prop where
  fresh : ∀ w, W ≤ w → (∀ t, coll w t = 0 ∧ paid w t = 0) ∧ tr w = []
  frozen : ∀ w p, p ∈ tr w → p.2 = coll w p.1
  frozenNodup : ∀ w, ((tr w).map Prod.fst).Nodup
  unfrozen : ∀ w, W ≤ w + 4 → tr w = [] → ∀ t, coll w t = 0

/-- the global update keeps the frozen lists of the claimable weeks and may clear older ones -/
theorem Frozen.cleared {W : Nat} {tr tr' : Nat → List (Tok × Nat)} {coll paid : Nat → Tok → Nat}
    (f : Frozen W tr coll paid) (h : ∀ w, tr' w = tr w ∨ (tr' w = [] ∧ w + 5 = W)) :
    Frozen W tr' coll paid := by
  refine ⟨fun w hw => ⟨(f.fresh w hw).1, ?_⟩, fun w p hp => ?_, fun w => ?_, fun w hw hnil => ?_⟩
  · rcases h w with e | ⟨e, _⟩
    · rw [e]; exact (f.fresh w hw).2
    · exact e
  · rcases h w with e | ⟨e, _⟩
    · rw [e] at hp; exact f.frozen w p hp
    · rw [e] at hp; cases hp
  · rcases h w with e | ⟨e, _⟩
    · rw [e]; exact f.frozenNodup w
    · rw [e]; exact List.nodup_nil
  · rw [(h w).resolve_right fun e => by omega] at hnil
    exact f.unfrozen w hw hnil

theorem Frozen.pay {W : Nat} {tr : Nat → List (Tok × Nat)} {coll paid paid' : Nat → Tok → Nat}
    (f : Frozen W tr coll paid) (h : ∀ w, W ≤ w → ∀ t, paid' w t = paid w t) :
    Frozen W tr coll paid' := by
  refine ⟨fun w hw => ⟨fun t => ?_, (f.fresh w hw).2⟩, f.frozen, f.frozenNodup, f.unfrozen⟩
  rw [h w hw t]
  exact (f.fresh w hw).1 t

/-- the first claim of a claimable week `wk`: what `collect_rewards_for_week` finds accumulated
    for the known tokens becomes the week's frozen list and moves to `collected` -/
theorem Frozen.freeze {W wk : Nat} {tr tr' : Nat → List (Tok × Nat)} {coll coll' paid : Nat → Tok → Nat}
    {toks : List Tok} {acc : Tok → Nat} (f : Frozen W tr coll paid) (hlo : W ≤ wk + 4) (hhi : wk < W)
    (hnil : tr wk = []) (hnd : toks.Nodup)
    (htr : tr' wk = toks.filterMap fun t => if acc t ≠ 0 then some (t, acc t) else none)
    (htrO : ∀ w, w ≠ wk → tr' w = tr w)
    (hcoll : ∀ t, coll' wk t = if t ∈ toks then coll wk t + acc t else coll wk t)
    (hcollO : ∀ w t, w ≠ wk → coll' w t = coll w t) : Frozen W tr' coll' paid := by
  have hz := f.unfrozen wk hlo hnil
  refine ⟨fun w hw => ?_, fun w p hp => ?_, fun w => ?_, fun w hw hn t => ?_⟩
  · have hne : w ≠ wk := by omega
    rw [htrO w hne]
    refine ⟨fun t => ?_, (f.fresh w hw).2⟩
    rw [hcollO w t hne]
    exact (f.fresh w hw).1 t
  · by_cases hwk : w = wk
    · subst hwk
      rw [htr] at hp
      obtain ⟨h1, h2, _⟩ := (collected_list _ _ hnd).2 p hp
      rw [hcoll, if_pos h1, hz, Nat.zero_add]
      exact h2
    · rw [htrO w hwk] at hp
      rw [hcollO w _ hwk]
      exact f.frozen w p hp
  · by_cases hwk : w = wk
    · subst hwk
      rw [htr]
      exact (collected_list _ _ hnd).1
    · rw [htrO w hwk]
      exact f.frozenNodup w
  · by_cases hwk : w = wk
    · subst hwk
      rw [htr] at hn
      rw [hcoll, hz]
      split
      · rw [collected_list_nil _ _ hn t ‹_›]
      · rfl
    · rw [htrO w hwk] at hn
      rw [hcollO w t hwk]
      exact f.unfrozen w hw hn t

/-- invariant of the claim loop; the claimer's entry is the loop's advancing progress -/
structure LoopInv (prog : Nat → Option ClaimProgress) (users : List Nat) (E : Nat → Nat)
    (u0 W : Nat) (a : ClaimAcc Acc) : Prop where
  tokNodup : a.c.allTokens.Nodup
  fresh : ∀ w, W ≤ w → (∀ t, a.c.collected w t = 0 ∧ a.c.paid w t = 0) ∧ a.g.totalRewards w = []
  frozen : ∀ w p, p ∈ a.g.totalRewards w → p.2 = a.c.collected w p.1
  frozenNodup : ∀ w, ((a.g.totalRewards w).map Prod.fst).Nodup
  unfrozen : ∀ w, W ≤ w + 4 → a.g.totalRewards w = [] → ∀ t, a.c.collected w t = 0
  ledger : L6rel (upd prog u0 (some a.p)) users E a.c.collected a.c.paid
  eb : ∀ w, w < W → E w = 0 ∨ usum users (fun u => eForP (upd prog u0 (some a.p)) u w) ≤ E w
  energy : a.g.totalEnergy = E

/-- one call of the hook, for week `lo` where the claimer (stored entry `p0`) stands: the week is
    frozen if this is its first claim, the claimer is paid its share and moves on to week `lo + 1` -/
theorem hook_LoopInv {prog : Nat → Option ClaimProgress} {users : List Nat} {E : Nat → Nat}
    {u0 W lo : Nat} {p0 : ClaimProgress} {g g1 : Weekly.St} {c c1 : Acc} {r rs rs' : List (Tok × Nat)}
    (hnd : users.Nodup) (hu0 : u0 ∈ users) (hp0 : prog u0 = some p0) (hle : p0.week ≤ lo)
    (hI : LoopInv prog users E u0 W ⟨g, c, p0.upTo lo, rs⟩) (hlo : W ≤ lo + 4) (hhi : lo < W)
    (hr : feesRewards g c lo (eForP prog u0 lo) (E lo) = some (g1, c1, r)) :
    LoopInv prog users E u0 W ⟨g1, c1, p0.upTo (lo + 1), rs'⟩ := by
  have hEn : g1.totalEnergy = E := (feesRewards_frame _ _ _ _ _ _ _ _ hr).totalEnergy.trans hI.energy
  -- the virtual tables before / after the step
  have hoth : ∀ u, u ≠ u0 → ∀ w, eForP (upd prog u0 (some (p0.upTo (lo + 1)))) u w =
      eForP (upd prog u0 (some (p0.upTo lo))) u w := by
    intro u hu w; rw [eForP_upd_other _ _ _ hu, eForP_upd_other _ _ _ hu]
  have hle0 : ∀ w, eForP (upd prog u0 (some (p0.upTo (lo + 1)))) u0 w ≤
      eForP (upd prog u0 (some (p0.upTo lo))) u0 w := by
    intro w
    rw [eForP_upTo hp0 (Nat.le_succ_of_le hle), eForP_upTo hp0 hle]
    split
    · rw [if_pos (by omega)]
    · exact Nat.zero_le _
  have hwk0 : eForP (upd prog u0 (some (p0.upTo (lo + 1)))) u0 lo = 0 := by
    rw [eForP_upTo hp0 (Nat.le_succ_of_le hle), if_neg (Nat.not_succ_le_self _)]
  have heq0 : eForP (upd prog u0 (some (p0.upTo lo))) u0 lo = eForP prog u0 lo := by
    rw [eForP_upTo hp0 hle, if_pos (Nat.le_refl _)]
  have hleAll : ∀ w u, eForP (upd prog u0 (some (p0.upTo (lo + 1)))) u w ≤
      eForP (upd prog u0 (some (p0.upTo lo))) u w := by
    intro w u
    by_cases hu : u = u0
    · subst hu; exact hle0 w
    · rw [hoth u hu w]
  have heb' : ∀ w, w < W → E w = 0 ∨
      usum users (fun u => eForP (upd prog u0 (some (p0.upTo (lo + 1)))) u w) ≤ E w :=
    fun w hw => (hI.eb w hw).imp_right (Nat.le_trans (usum_le fun u _ => hleAll w u))
  have f : Frozen W g.totalRewards c.collected c.paid :=
    ⟨hI.fresh, hI.frozen, hI.frozenNodup, hI.unfrozen⟩
  rcases feesRewards_spec hr with ⟨_, rfl, rfl, _⟩ |
    ⟨he, hE, hrr, hrewO, hrewW, htoks, hpaid, hothA, _, hcoll⟩
  · -- nothing paid, nothing frozen
    exact ⟨hI.tokNodup, hI.fresh, hI.frozen, hI.frozenNodup, hI.unfrozen,
      hI.ledger.mono (fun w => Or.inr ⟨Or.inl rfl, fun u _ => hleAll w u⟩), heb', hEn⟩
  · have hcollO : ∀ w t, w ≠ lo → c1.collected w t = c.collected w t :=
      fun w t hw => (hothA w t hw).2
    -- first the week is frozen, if this is its first claim; the payments are not booked yet
    have h1 : Frozen W g1.totalRewards c1.collected c.paid ∧
        L6rel (upd prog u0 (some (p0.upTo lo))) users E c1.collected c.paid := by
      by_cases hemp : (g.totalRewards lo).isEmpty
      · have hnil := List.isEmpty_iff.mp hemp
        simp only [hemp, if_true, true_and] at hrewW hcoll
        exact ⟨f.freeze (acc := c.accumulated lo) hlo hhi hnil hI.tokNodup hrewW hrewO hcoll hcollO,
          hI.ledger.collect hcollO (hI.unfrozen lo hlo hnil) (hI.eb lo hhi)⟩
      · simp only [hemp, Bool.false_eq_true, if_false, false_and] at hrewW hcoll
        have htr : g1.totalRewards = g.totalRewards := funext fun w => by
          by_cases hw : w = lo
          · rw [hw, hrewW]
          · exact hrewO w hw
        have hco : c1.collected = c.collected := funext fun w => funext fun t => by
          by_cases hw : w = lo
          · rw [hw, hcoll]
          · exact hcollO w t hw
        rw [htr, hco]
        exact ⟨f, hI.ledger⟩
    -- then the claimer is paid its share
    have f' : Frozen W g1.totalRewards c1.collected c1.paid :=
      h1.1.pay (fun w hw t => by rw [hpaid, if_neg (by omega)]; rfl)
    refine ⟨by rw [htoks]; exact hI.tokNodup, f'.fresh, f'.frozen, f'.frozenNodup, f'.unfrozen, ?_,
      heb', hEn⟩
    refine h1.2.claim hnd hu0 hoth hwk0 hle0 (fun w t hw => by rw [hpaid w t]; simp [hw]) ?_
    intro t
    rw [hpaid lo t, heq0, if_pos rfl]
    have := amountOf_sharesOf_le (fun t => c1.collected lo t) (eForP prog u0 lo) (E lo) t
      (g1.totalRewards lo) (f'.frozenNodup _) (f'.frozen _)
    rw [← hrr] at this
    omega

theorem run_LoopInv {prog : Nat → Option ClaimProgress} {users : List Nat} {E : Nat → Nat}
    {u0 W : Nat} {p0 : ClaimProgress} (hnd : users.Nodup) (hu0 : u0 ∈ users) (hp0 : prog u0 = some p0)
    {lo : Nat} {g g' : Weekly.St} {c c' : Acc} {r : List (Tok × Nat)}
    (h : HookRun feesRewards (eForP prog u0) E W lo g c g' c' r) :
    p0.week ≤ lo → W ≤ lo + 4 → LoopInv prog users E u0 W ⟨g, c, p0.upTo lo, []⟩ →
      LoopInv prog users E u0 W ⟨g', c', p0.upTo W, []⟩ := by
  induction h with
  | done => exact fun _ _ hI => hI
  | week hlo call _ ih =>
    exact fun hle h4 hI => ih (Nat.le_succ_of_le hle) (by omega)
      (hook_LoopInv hnd hu0 hp0 hle hI h4 hlo call)

structure LInv (s : St) : Prop where
  tokNodup : s.a.allTokens.Nodup
  fresh : ∀ w, curWeek s ≤ w →
    (∀ t, s.a.collected w t = 0 ∧ s.a.paid w t = 0) ∧ s.w.totalRewards w = []
  frozen : ∀ w p, p ∈ s.w.totalRewards w → p.2 = s.a.collected w p.1
  frozenNodup : ∀ w, ((s.w.totalRewards w).map Prod.fst).Nodup
  unfrozen : ∀ w, curWeek s ≤ w + 4 → s.w.totalRewards w = [] → ∀ t, s.a.collected w t = 0
  ledger : L6rel s.w.progress s.w.users s.w.totalEnergy s.a.collected s.a.paid

theorem LInv.toFrozen {s : St} (h : LInv s) :
    Frozen (curWeek s) s.w.totalRewards s.a.collected s.a.paid :=
  ⟨h.fresh, h.frozen, h.frozenNodup, h.unfrozen⟩

/-- the ledger relation after the global part of a user touch: totals of completed weeks are
    unchanged or cleared, and the toucher's entry is replaced by anything that claims no more
    than before for completed weeks -/
theorem ledger_after_update {prog : Nat → Option ClaimProgress} {users : List Nat}
    {E E' : Nat → Nat} {coll paid : Nat → Tok → Nat} {u0 W : Nat} {o' : Option ClaimProgress}
    (h : L6rel prog users E coll paid) (hfresh : ∀ w, W ≤ w → ∀ t, coll w t = 0)
    (hE : ∀ w, w ≠ W → E' w = E w ∨ E' w = 0)
    (ho : ∀ w, w < W → eForP (upd prog u0 o') u0 w ≤ eForP prog u0 w) :
    L6rel (upd prog u0 o') users E' coll paid := by
  refine h.mono (fun w => ?_)
  by_cases hw : W ≤ w
  · exact Or.inl (hfresh w hw)
  · exact Or.inr ⟨hE w (by omega), fun u _ => eForP_upd_le ho u (by omega)⟩

/-- the ledger relation after the final write of the toucher's entry `new` (an entry at week `W`,
    or none): `new` claims nothing for completed weeks, so it may replace any entry `o1`, and the
    toucher may join the user list -/
theorem ledger_finish {prog : Nat → Option ClaimProgress} {users : List Nat} {E : Nat → Nat}
    {coll paid : Nat → Tok → Nat} {u0 W : Nat} {o1 new : Option ClaimProgress}
    (h : L6rel (upd prog u0 o1) users E coll paid) (hfresh : ∀ w, W ≤ w → ∀ t, coll w t = 0)
    (hnew : ∀ w, w < W → eForP (upd prog u0 new) u0 w = 0) :
    L6rel (upd prog u0 new) (usersAfter users u0 new) E coll paid := by
  have h1 : L6rel (upd prog u0 new) users E coll paid := by
    refine h.mono (fun w => ?_)
    by_cases hw : W ≤ w
    · exact Or.inl (hfresh w hw)
    · refine Or.inr ⟨Or.inl rfl, fun u _ => ?_⟩
      by_cases hu : u = u0
      · subst hu; rw [hnew w (by omega)]; exact Nat.zero_le _
      · rw [eForP_upd_other _ _ _ hu, eForP_upd_other _ _ _ hu]
  unfold usersAfter
  split
  · refine h1.append (fun w => ?_)
    by_cases hw : W ≤ w
    · exact Or.inl (hfresh w hw)
    · exact Or.inr (hnew w (by omega))
  · exact h1

theorem foldl_addTok_nodup (known : List Tok) : ∀ {l : List Tok}, l.Nodup →
    (known.foldl addTok l).Nodup := by
  induction known with
  | nil => intro l h; exact h
  | cons t ts ih => intro l h; exact ih (addTok_nodup h t)

theorem init_LInv (epoch lockEpochs : Nat) (known : List Tok) (contracts whitelist : List Nat) :
    LInv (init epoch lockEpochs known contracts whitelist) := by
  refine ⟨foldl_addTok_nodup known (List.nodup_cons.mpr ⟨by simp, List.nodup_nil⟩),
    fun w _ => ⟨fun t => ⟨rfl, rfl⟩, rfl⟩, ?_, fun w => List.nodup_nil,
    fun _ _ _ _ => rfl, ?_⟩
  · intro w p hp
    exact absurd hp (by simp [init, Weekly.St.init])
  intro w t
  show 0 + usum [] _ ≤ 0
  simp

def WInv (g : Weekly.St) : Prop := GInv g ∧ EB g

theorem step_WInv {s s' : St} {op : Op} (hI : WInv s.w) (h : Step s op s') : WInv s'.w := by
  rcases h.userStep.2 with ⟨u, cur, hu, _⟩ | ⟨_, hw⟩
  · exact ⟨hu.ginv (curWeek_pos s) hI.1, hu.eb (curWeek_pos s) hI.1 hI.2⟩
  · rw [hw]; exact hI

/-- the loop invariant after the global update of a user touch, for any entry `q` of the toucher that
    claims no more than the stored one for the completed weeks: the update clears at most old frozen
    lists and totals -/
theorem LoopInv.start {s : St} {orig : Nat} {g1 : Weekly.St} {a0 : Acc} (hW : WInv s.w) (hL : LInv s)
    (st : WeekStep s.w g1 (curWeek s)) (h1 : a0.allTokens = s.a.allTokens)
    (h2 : a0.collected = s.a.collected) (h3 : a0.paid = s.a.paid) {q : ClaimProgress}
    (hq : ∀ w, w < curWeek s →
      eForP (upd s.w.progress orig (some q)) orig w ≤ eForP s.w.progress orig w) :
    LoopInv s.w.progress s.w.users g1.totalEnergy orig (curWeek s) ⟨g1, a0, q, []⟩ := by
  have f := hL.toFrozen.cleared st.rewards
  refine ⟨h1 ▸ hL.tokNodup, ?_, ?_, f.frozenNodup, ?_, ?_,
    hW.2.after_update st fun u w hw => eForP_upd_le hq u hw, rfl⟩
  · rw [h2, h3]; exact f.fresh
  · rw [h2]; exact f.frozen
  · rw [h2]; exact f.unfrozen
  · rw [h2, h3]
    exact ledger_after_update hL.ledger (fun w hw t => ((hL.fresh w hw).1 t).1)
      (fun w hw => (st.energy w hw).imp_right And.left) hq

/-- the end of a claim: from the loop invariant at the empty window (`LoopInv.start`, `run_LoopInv`
    lead there) the ledger invariant `LInv` after the final progress write, which claims nothing for
    the completed weeks -/
theorem LoopInv.finish {s s' : St} {orig : Nat} {g1 g2 : Weekly.St} {q : ClaimProgress} {cur : Energy}
    (hend : LoopInv s.w.progress s.w.users g1.totalEnergy orig (curWeek s) ⟨g2, s'.a, q, []⟩)
    (st : WeekStep s.w g1 (curWeek s)) (fr : FrameR g2 g1)
    (hw : s'.w = setProgress g2 orig (newOf cur (curWeek s))) (hcw : curWeek s' = curWeek s) :
    LInv s' := by
  rw [← hcw] at hend
  refine ⟨hend.tokNodup, by rw [hw]; exact hend.fresh, by rw [hw]; exact hend.frozen,
    by rw [hw]; exact hend.frozenNodup, by rw [hw]; exact hend.unfrozen, ?_⟩
  rw [hw]
  show L6rel (upd g2.progress orig _) (usersAfter g2.users orig _) g2.totalEnergy _ _
  rw [fr.progress, st.progress, fr.users, st.users, fr.totalEnergy]
  exact ledger_finish hend.ledger (fun w hw t => ((hend.fresh w hw).1 t).1)
    (fun w hw => eForP_newOf _ _ _ (hcw ▸ hw))

/-- `LoopInv.start`, the hook over the claimer's window (`run_LoopInv`; no week at all for a new
    user), `LoopInv.finish` -/
theorem claimCore_LInv {s s' : St} {orig : Nat} {o : Out} (hW : WInv s.w) (hL : LInv s)
    (h : claimCore s orig = some (s', o)) : LInv s' := by
  obtain ⟨g1, g2, r, k⟩ := claimCore_spec h
  have st := updateUser_weekStep k.update
  have hrun := k.run
  cases hq : s.w.progress orig with
  | none =>
    rw [hq] at hrun
    obtain ⟨rfl, e, _⟩ := hrun.of_eq
    refine LoopInv.finish (q := ⟨Energy.zero, curWeek s⟩) ?_ st (FrameR.refl _) k.w k.curWeek
    rw [e]
    exact LoopInv.start hW hL st (accumulateAdditional_allTokens ..) (accumulateAdditional_collected ..)
      (accumulateAdditional_paid ..)
      fun w hw => Nat.le_of_eq (eForP_settled (fun _ hp =>
        Nat.le_of_eq (congrArg ClaimProgress.week (Option.some.inj ((upd_same _ _ _).symm.trans hp)))) hw) |>.trans
        (Nat.zero_le _)
  | some p0 =>
    have h3 := le_claimFrom_some p0 (curWeek s)
    rw [hq] at hrun
    exact LoopInv.finish (run_LoopInv (GInv.nodup hW.1) (GInv.mem_users hW.1 hq) hq
      (hrun.of_weekStep st (le_claimFrom _ _)) h3 (le_claimFrom _ _) (LoopInv.start hW hL st (accumulateAdditional_allTokens ..)
        (accumulateAdditional_collected ..) (accumulateAdditional_paid ..)
        fun w hw => by rw [eForP_upTo hq h3]; split <;> omega))
      st (k.run.frame feesRewards_frame) k.w k.curWeek

theorem updateEnergyAndProgress_LInv {s : St} {g' : Weekly.St} {user : Nat} {cur : Energy}
    (hW : WInv s.w) (hL : LInv s)
    (h : updateEnergyAndProgress s.w user (curWeek s) cur = some g') : LInv { s with w := g' } := by
  obtain ⟨g1, h1, rfl⟩ := updateEnergyAndProgress_iff.mp h
  have st := updateUser_weekStep h1
  exact LoopInv.finish (q := ⟨Energy.zero, curWeek s⟩) (s' := { s with w := _ })
    (LoopInv.start hW hL st rfl rfl rfl fun w hw => Nat.le_of_eq (eForP_settled (fun _ hp =>
      Nat.le_of_eq (congrArg ClaimProgress.week (Option.some.inj ((upd_same _ _ _).symm.trans hp)))) hw)
        |>.trans (Nat.zero_le _))
    st (FrameR.refl _) rfl rfl

theorem LInv.frame {s s' : St} (hL : LInv s) (hw : s'.w = s.w)
    (htok : s.a.allTokens.Nodup → s'.a.allTokens.Nodup) (hc : s'.a.collected = s.a.collected)
    (hp : s'.a.paid = s.a.paid) (hcw : curWeek s ≤ curWeek s') : LInv s' := by
  refine ⟨htok hL.tokNodup, ?_, ?_, ?_, ?_, ?_⟩
  · rw [hw, hc, hp]
    exact fun w hw => hL.fresh w (Nat.le_trans hcw hw)
  · rw [hw, hc]; exact hL.frozen
  · rw [hw]; exact hL.frozenNodup
  · rw [hw, hc]
    exact fun w hw => hL.unfrozen w (Nat.le_trans hcw hw)
  · rw [hw, hc, hp]; exact hL.ledger

theorem step_LInv {s s' : St} {op : Op} (hW : WInv s.w) (hL : LInv s) (h : Step s op s') :
    LInv s' := by
  cases h with
  | deposit _ => exact hL.frame rfl id rfl rfl (Nat.le_refl _)
  | claim _ hc => exact claimCore_LInv hW hL hc
  | updateEnergy hg =>
    exact updateEnergyAndProgress_LInv hW hL (updateEnergyAndProgress_iff.mpr (updateEnergyForUser_iff.mp hg).2)
  | setPerBlock =>
    obtain ⟨acc, l, e⟩ := accumulateAdditional_frame s (curWeek s)
    rw [e]
    exact hL.frame rfl id rfl rfl (Nat.le_refl _)
  | quiet _ q => exact hL.frame q.w q.tokNodup q.collected q.paid (curWeek_mono q.firstWeek q.epoch)

structure AllInv (s : St) : Prop where
  w : WInv s.w
  b : BalInv s
  l : LInv s

theorem next_AllInv {s : St} (hI : AllInv s) (op : Op) : AllInv (next s op) := by
  rcases next_cases s op with ⟨_, e⟩ | ⟨_, h⟩
  · rw [e]; exact hI
  · exact ⟨step_WInv hI.w h, step_BalInv hI.b h, step_LInv hI.w hI.l h⟩

theorem run_AllInv (ops : List Op) {s : St} (hI : AllInv s) : AllInv (run s ops) :=
  run_induction (P := AllInv) (fun _ op h => next_AllInv h op) ops hI

theorem init_AllInv (epoch lockEpochs : Nat) (known : List Tok) (contracts whitelist : List Nat) :
    AllInv (init epoch lockEpochs known contracts whitelist) :=
  ⟨⟨GInv.init, EB.init⟩, init_BalInv _ _ _ _ _, init_LInv _ _ _ _ _⟩

theorem LInv.paid_le {s : St} (h : LInv s) (w : Nat) (t : Tok) : s.a.paid w t ≤ s.a.collected w t := by
  have := h.ledger w t
  omega

end Mx.Fees
