/-
  Every operation of the energy world preserves the C08 invariant (`step_inv`), hence every
  history does (`run_inv`).  Under `Op.WF` the account whose tokens move is a user and is its own
  energy address, so `step_kind` (EnergyAttrStep) says that the user's entry moves by exactly the
  change of the user's own balance row.
-/
import MxModel.Lemmas.EnergyAttrStep

namespace Mx.Energy

/-- which operations the invariant is about: user-facing calls are made by user accounts, and
    the two "on behalf of" arguments that only whitelisted contracts may use (`mergeTokens`'s
    original caller, `lockVirtual`'s energy address) name the account that receives the tokens —
    the contract is trusted to pass on what it holds for that account. -/
def Op.WF : Op → Prop
  | .lock c _ _ d => c < SCBASE ∧ d < SCBASE
  | .extend c _ _ _ _ => c < SCBASE
  | .unlock c _ => c < SCBASE
  | .merge c orig _ => c < SCBASE ∧ (orig = 0 ∨ orig = c)
  | .unlockEarly c _ _ => c < SCBASE
  | .reduce c _ _ _ => c < SCBASE
  | .lockVirtual _ _ _ d ea => d < SCBASE ∧ ea = d
  | .claim _ => True
  | .cancel c => c < SCBASE
  | .lockFunds c _ _ => c < SCBASE
  | .withdraw c _ => c < SCBASE
  | .cancelTransfer sd _ => sd < SCBASE
  | .wrap c _ _ => c < SCBASE
  | .unwrap c _ _ => c < SCBASE
  | .xferWrapped _ _ _ _ => True
  | .cfg _ => True
  | .advance _ => True

theorem user_not_esc {x : Nat} (hx : x < SCBASE) : ¬ IsEsc x := by
  rintro (rfl | rfl | rfl | rfl) <;> exact absurd hx (by decide)

theorem below_noEsc {op : Op} (h : op.Below SCBASE) : op.NoEsc := by
  cases hp : op.parties with
  | none => simp only [Op.NoEsc, hp]
  | some p =>
    simp only [Op.Below, Op.NoEsc, hp] at h ⊢
    exact user_not_esc h.1

theorem WF_below {op : Op} (h : op.WF) : op.Below SCBASE := by
  cases op <;> simp only [Op.Below, Op.parties] <;> simp only [Op.WF] at h
  case lock c amt ep d => split <;> [exact ⟨h.1, h.1⟩; exact ⟨h.2, h.2⟩]
  case extend => exact ⟨h, h⟩
  case unlock => exact ⟨h, h⟩
  case merge c orig ps => rcases h.2 with h0 | h0 <;> simp [h0, h.1]
  case unlockEarly => exact ⟨h, h⟩
  case reduce => exact ⟨h, h⟩
  case lockVirtual => exact ⟨h.1, h.2 ▸ h.1⟩
  case cancel => exact ⟨h, h⟩
  case lockFunds => exact ⟨h, h⟩
  case withdraw => exact ⟨h, h⟩
  case cancelTransfer => exact ⟨h, h⟩
  case wrap => exact ⟨h, h⟩
  case unwrap => exact ⟨h, h⟩

theorem WF_noEsc {op : Op} (h : op.WF) : op.NoEsc := below_noEsc (WF_below h)

theorem WF_plain {op : Op} (h : op.WF) : op.Plain := by
  cases op <;> simp only [Op.Plain, Op.parties] <;> simp only [Op.WF] at h
  case merge c orig ps =>
    rcases h.2 with h0 | h0
    · simp [h0]
    · simp [h0]
  case lockVirtual => exact h.2

theorem inv_booked {s s' : St} {a : Nat} (hi : Inv s) (ha : a < SCBASE) (b : Booked s s' a a) :
    Inv s' := by
  obtain ⟨e', he', hl', hE', hT'⟩ := b.entry (fun n hn => hi.dom a n ha hn)
  refine ⟨fun x hx => ?_, fun x e hx => ?_, fun x n hx hn => ?_, fun x hx => ?_⟩
  · have h0 := hi.dom x _ hx (Or.inr (Nat.lt_succ_self _))
    by_cases hxa : x = a
    · subst hxa
      have hrow : (fun n => (s'.bal x n : Int)) = fun n => (s.bal x n : Int) + dRow s s' x n := by
        funext n; simp only [dRow]; ring
      obtain ⟨t1, t2, -⟩ := tracksZ_grow (tracksZ_cast.mpr (hi.track x hx)) b.nonces (by rw [h0]; rfl)
      rw [view_of_some he' (by rw [b.epoch]; exact hl'), b.epoch]
      refine tracksZ_cast.mp ⟨?_, ?_, hl'⟩
      · rw [hrow, sumEZ_add, hE', t1]
      · rw [hrow, sumTZ_add, hT', t2]
    · rw [view_congr (b.energy x hxa) b.epoch, b.other x hxa (user_not_esc hx), b.epoch]
      exact tracks_of_nonces (hi.track x hx) b.nonces h0
  · by_cases hxa : x = a
    · subst hxa
      rw [he'] at hx
      obtain rfl := Option.some.inj hx
      rw [b.epoch, hl']
    · rw [b.energy x hxa] at hx
      rw [b.epoch]; exact hi.last x e hx
  · exact b.rows x (fun n hn => hi.dom x n hx hn) n hn
  · rw [b.energy x (by omega)]; exact hi.sc x hx

theorem inv_quiet {s s' : St} (hi : Inv s) (q : Quiet s s') : Inv s' := by
  have hb : ∀ x, x < SCBASE → s'.bal x = s.bal x := fun x hx => q.other x (user_not_esc hx)
  refine ⟨fun a ha => ?_, fun a e he => ?_, fun a n ha hn => ?_, fun a ha => ?_⟩
  · rw [view_congr (by rw [q.energy]) q.epoch, hb a ha, q.nonces, q.epoch]
    exact hi.track a ha
  · rw [q.energy] at he
    rw [q.epoch]; exact hi.last a e he
  · rw [hb a ha]; rw [q.nonces] at hn
    exact hi.dom a n ha hn
  · rw [q.energy]; exact hi.sc a ha

theorem advance_inv {s : St} {e : Nat} (hi : Inv s) (hle : s.epoch ≤ e) : Inv { s with epoch := e } := by
  refine ⟨fun a ha => ?_, fun a x hx => Nat.le_trans (hi.last a x hx) hle, hi.dom, hi.sc⟩
  rw [view_advance a (hi.last a) hle]
  exact (hi.track a ha).deplete hle

theorem step_inv {s s' : St} {op : Op} {o : Out} (hi : Inv s) (hw : op.WF)
    (h : step s op = some (s', o)) : Inv s' := by
  rcases step_kind (WF_noEsc hw) h with ⟨a, ea, hp, eff⟩ | ⟨-, q⟩ | ⟨e, -, hle, rfl⟩
  · have hb := WF_below hw
    have hpl := WF_plain hw
    simp only [Op.Below, Op.Plain, hp] at hb hpl
    subst hpl
    exact inv_booked hi hb.1 eff
  · exact inv_quiet hi q
  · exact advance_inv hi hle

theorem init_inv (c : Cfg) : Inv (init c) := by
  refine ⟨?_, ?_, ?_, ?_⟩
  · intro a _
    exact ⟨rfl, rfl, rfl⟩
  · intro a e he; simp [init] at he
  · intro a n _ _; rfl
  · intro a _; rfl

theorem run_inv (ops : List Op) {s : St} (hi : Inv s) (hw : ∀ op ∈ ops, op.WF) : Inv (run s ops) :=
  run_induction ops hi (fun _ _ op _ hm hi h => step_inv hi (hw op hm) h)

end Mx.Energy
