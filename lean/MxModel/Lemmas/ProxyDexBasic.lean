/-
  Basic facts for the proxy-dex model: the rule of three (`part`), bags, sums over the token
  tables (`sumOf`) and how `List.set` / append change them.  Every proxy-dex lemma file imports
  this one, also where it uses none of these lemmas: all of them are stated in the scope `sumOf`
  is defined in (see the note at the last import).
-/
import MxModel.Core.ProxyDex
import MxModel.Lemmas.ListSum
-- not used by a tactic here: with it in scope `sumOf` elaborates its `Zero ℕ` instance through Mathlib's
-- hierarchy, and that is the term every statement about `sumOf` carries
import Mathlib.Tactic.Linarith

namespace Mx.ProxyDex

theorem part_eq_some {full total x p : Nat} :
    part full total x = some p ↔
      p ≠ 0 ∧ p = (if x = total then full else full * x / total) := by
  unfold part
  simp only
  generalize (if x = total then full else full * x / total) = r
  by_cases h : r = 0
  · simp only [h, if_true]
    constructor
    · intro h'; cases h'
    · rintro ⟨h1, h2⟩; exact absurd h2 h1
  · simp only [h, if_false, Option.some.injEq]
    constructor
    · intro h'; subst h'; exact ⟨h, rfl⟩
    · rintro ⟨_, h2⟩; exact h2.symm

theorem part_mul_le {full total x p : Nat} (h : part full total x = some p) :
    p * total ≤ full * x := by
  obtain ⟨_, hp⟩ := part_eq_some.mp h
  split at hp
  · rename_i hx; subst hx; subst hp; exact Nat.le_refl _
  · subst hp; exact Nat.div_mul_le_self _ _

theorem part_full {full total : Nat} (h : full ≠ 0) : part full total total = some full := by
  unfold part; simp [h]

theorem part_self {fa x p : Nat} (h : part fa fa x = some p) : p = x := by
  obtain ⟨h0, hp⟩ := part_eq_some.mp h
  split at hp
  · omega
  · by_cases hf : fa = 0
    · subst hf; simp at hp; exact absurd hp h0
    · rw [hp]; exact Nat.mul_div_cancel_left _ (Nat.pos_of_ne_zero hf)

theorem part_le_of_le {full total x p : Nat} (h : part full total x = some p) (hle : full ≤ total) :
    p ≤ x := by
  obtain ⟨_, hp⟩ := part_eq_some.mp h
  split at hp
  · rename_i hx; subst hx; omega
  · subst hp
    by_cases ht : total = 0
    · subst ht; simp
    · calc full * x / total ≤ total * x / total := Nat.div_le_div_right (Nat.mul_le_mul_right _ hle)
        _ = x := Nat.mul_div_cancel_left _ (Nat.pos_of_ne_zero ht)

theorem part_le_full {full total x p : Nat} (h : part full total x = some p) (hx : x ≤ total) :
    p ≤ full := by
  obtain ⟨_, hp⟩ := part_eq_some.mp h
  split at hp
  · omega
  · subst hp
    by_cases ht : total = 0
    · subst ht; simp
    · calc full * x / total ≤ full * total / total := Nat.div_le_div_right (Nat.mul_le_mul_left _ hx)
        _ = full := Nat.mul_div_cancel _ (Nat.pos_of_ne_zero ht)

/-- a reserve `rem` that covers an outstanding amount `out` pro rata (`full` per `total`) still
    covers what is left after `x` is redeemed for a part `p` of the reserve -/
theorem cover_sub {full total out x rem p : Nat} (h0 : full * out ≤ rem * total)
    (hp : p * total ≤ full * x) (hx : x ≤ out) (hpr : p ≤ rem) :
    full * (out - x) ≤ (rem - p) * total := by
  have e1 : (rem - p) * total + p * total = rem * total := by
    rw [← Nat.add_mul, Nat.sub_add_cancel hpr]
  have e2 : full * (out - x) + full * x = full * out := by
    rw [← Nat.mul_add, Nat.sub_add_cancel hx]
  omega

theorem Bag.sub?_eq_some {b b' : Bag} {k a : Nat} :
    b.sub? k a = some b' ↔ a ≤ b k ∧ b' = fun i => if i = k then b i - a else b i := by
  unfold Bag.sub?
  split <;> simp [*, eq_comm]

@[simp] theorem Bag.add_apply (b : Bag) (k a i : Nat) :
    b.add k a i = if i = k then b i + a else b i := rfl

theorem Bag.le_add (b : Bag) (k a i : Nat) : b i ≤ b.add k a i := by
  rw [Bag.add_apply]; split <;> omega

@[simp] theorem Bag.set_apply (b : Bag) (k v i : Nat) :
    b.set k v i = if i = k then v else b i := rfl

def sumOf {α : Type} (f : α → Nat) (l : List α) : Nat := (l.map f).sum

@[simp] theorem sumOf_nil {α : Type} (f : α → Nat) : sumOf f [] = 0 := rfl

@[simp] theorem sumOf_cons {α : Type} (f : α → Nat) (a : α) (l : List α) :
    sumOf f (a :: l) = f a + sumOf f l := by
  simp [sumOf]

@[simp] theorem sumOf_append {α : Type} (f : α → Nat) (l m : List α) :
    sumOf f (l ++ m) = sumOf f l + sumOf f m := by
  simp [sumOf]

/-- additive on both sides: no truncated subtraction -/
theorem sumOf_set {α : Type} (f : α → Nat) (l : List α) (i : Nat) (a b : α)
    (h : l[i]? = some a) : sumOf f (l.set i b) + f a = sumOf f l + f b :=
  sum_map_set f l i a b h

/-- a summand that counts `g` only for the elements with key `c`: when element `i` keeps its key and
    its `g` shrinks by `d`, the sum shrinks by `d` if the key matches -/
theorem sumOf_set_keyed {α : Type} (c : α → Prop) [DecidablePred c] (g : α → Nat) (l : List α)
    (i : Nat) (a b : α) (h : l[i]? = some a) (hc : c b ↔ c a) (d : Nat) (hd : g b + d = g a) :
    sumOf (fun r => if c r then g r else 0) (l.set i b) + (if c a then d else 0) =
      sumOf (fun r => if c r then g r else 0) l :=
  sum_map_set_keyed c g l i a b h hc d hd

theorem sumOf_le_of_mem {α : Type} (f : α → Nat) (l : List α) (i : Nat) (a : α)
    (h : l[i]? = some a) : f a ≤ sumOf f l :=
  le_sum_map_of_getElem? f l i a h

theorem sumOf_eq_zero {α : Type} (f : α → Nat) (l : List α) (h : ∀ a ∈ l, f a = 0) :
    sumOf f l = 0 :=
  sum_map_zero f l h

theorem mem_set_cases {α : Type} {l : List α} {i : Nat} {b x : α} (h : x ∈ l.set i b) :
    x = b ∨ x ∈ l := by
  rcases List.mem_or_eq_of_mem_set h with h | h
  · exact Or.inr h
  · exact Or.inl h

end Mx.ProxyDex
