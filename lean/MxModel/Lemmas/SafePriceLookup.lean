/-
  Extrapolation and interpolation telescope, so `get_price_observation` (`lookup`) returns the ideal
  observation in all four of its cases.
-/
import MxModel.Lemmas.OptionDo
import MxModel.Lemmas.SafePriceBin

namespace Mx.SafePrice
open Mx Mx.Pair

/-- the observation the contract WOULD hold for round `q` had it recorded every round:
    the oldest retained one plus the start-of-round reserves of every round since -/
def ideal (log : Log) (old : Obs) (q : Nat) : Obs :=
  ⟨old.acc1 + rsum (l1 log) old.round q, old.acc2 + rsum (l2 log) old.round q,
   old.accS + rsum (lS log) old.round q, old.w + (q - old.round), q⟩

theorem Tele.eq_ideal {log : Log} {old o : Obs} (h : Tele log old o) :
    o = ideal log old o.round := by
  obtain ⟨_, hw, h1, h2, hS, _⟩ := h
  cases o
  simp only [ideal] at *
  simp [*]

theorem nth_mem {p : SP} {i : Nat} (h1 : 1 ≤ i) (h2 : i ≤ p.obs.length) : nth p i ∈ p.obs := by
  rw [nth_eq_getElem h1 h2]
  exact List.getElem_mem _

theorem next_tele {log : Log} {last : Obs} {q r1 r2 S : Nat} (hr0 : last.round ≠ 0)
    (hq : last.round < q) (hpos : 0 < r1 ∧ 0 < r2 ∧ 0 < S)
    (hcur : ∀ k, last.round < k → k ≤ q → log k = ⟨r1, r2, S⟩) :
    Tele log last (last.next q r1 r2 S) := by
  have c1 : rsum (l1 log) last.round q = (q - last.round) * r1 :=
    rsum_const _ (fun k a b => by simp only [l1, hcur k a b])
  have c2 : rsum (l2 log) last.round q = (q - last.round) * r2 :=
    rsum_const _ (fun k a b => by simp only [l2, hcur k a b])
  have c3 : rsum (lS log) last.round q = (q - last.round) * S :=
    rsum_const _ (fun k a b => by simp only [lS, hcur k a b])
  refine ⟨?_, ?_, ?_, ?_, ?_, fun k a b => ?_⟩ <;>
    simp only [Obs.next, hr0, if_false] at *
  · omega
  · rw [c1]
  · rw [c2]
  · rw [c3]
  · rw [hcur k a b]; exact hpos

/-- interpolation is exact: between two observations recorded one right after the other the contract's
    weighted mean of the two accumulators IS the accumulator of round `q` (`interp_kernel`) -/
theorem interp_tele {log : Log} {L R : Obs} (h : Link log L R) {q : Nat} (h1 : L.round < q)
    (h2 : q < R.round) : ∃ o, interp L R q = some o ∧ o.round = q ∧ Tele log L o := by
  have hc := h.const
  obtain ⟨g1, g2, g3⟩ := h
  obtain ⟨_, _, _, f1, f2, f3⟩ := g3 R.round g1 (Nat.le_refl _)
  have c1 : rsum (l1 log) L.round q = (q - L.round) * (log R.round).r1 :=
    rsum_const _ (fun k a b => (hc k a (by omega)).1)
  have c2 : rsum (l2 log) L.round q = (q - L.round) * (log R.round).r2 :=
    rsum_const _ (fun k a b => (hc k a (by omega)).2.1)
  have c3 : rsum (lS log) L.round q = (q - L.round) * (log R.round).S :=
    rsum_const _ (fun k a b => (hc k a (by omega)).2.2)
  unfold interp
  rw [sub?_pos (by omega), sub?_pos (by omega)]
  simp only [Option.bind_eq_bind, Option.bind_some]
  rw [req_pos (by omega), sub?_pos (by omega)]
  simp only [Option.bind_some, Option.pure_def]
  refine ⟨_, rfl, rfl, ?_⟩
  refine ⟨by simp only []; omega, by simp only []; omega, ?_, ?_, ?_, fun k a b => ?_⟩
  · simp only []
    rw [f1, interp_kernel _ _ _ _ _ h1 h2, c1]
  · simp only []
    rw [f2, interp_kernel _ _ _ _ _ h1 h2, c2]
  · simp only []
    rw [f3, interp_kernel _ _ _ _ _ h1 h2, c3]
  · simp only [] at b
    obtain ⟨p1, p2, p3, _⟩ := g3 k a (by omega)
    exact ⟨p1, p2, p3⟩

theorem oldest_tele {log : Log} {p : SP} (hs : Shape p) (hl : Linked log (logical p)) {old : Obs}
    (hold : oldest p = some old) {i : Nat} (i1 : 1 ≤ i) (i2 : i ≤ p.obs.length) :
    Tele log old (nth p i) := by
  obtain ⟨_, io, io1, io2, hpos0, rfl, _⟩ := oldest_spec hs hold
  by_cases hp : pos p i = 0
  · rw [nth_eq_of_pos hs.curLe i1 i2 io1 io2 (hp.trans hpos0.symm)]; exact Tele.refl _ _
  · exact (ring_tele hs.curLe hl io1 io2 i1 i2 (by omega)).1

/-- the four cases: newest / after the newest / stored / between two stored observations, including
    across the wrap seam -/
theorem lookup_exact {g : G} (hi : RingInv g) {old : Obs} (hold : oldest g.s.sp = some old)
    {q : Nat} (h1 : old.round ≤ q) (h2 : q ≤ g.s.round) :
    lookup g.s q = some (ideal g.log old q) := by
  obtain ⟨hpair, hshape, hlinked, hbnd, hacc, hlast, hlive, hcur⟩ := hi
  obtain ⟨hne, io, io1, io2, hpos0, hold', hio⟩ := oldest_spec hshape hold
  have hc1 := hshape.curPos hne
  have hc2 := hshape.curLe
  have hlastn := last_nth hshape hne
  have htele := fun i i1 i2 => oldest_tele (i := i) hshape hlinked hold i1 i2
  have hlastT := htele g.s.sp.cur hc1 hc2
  rw [← hlastn] at hlastT
  have hold1 : 1 ≤ old.round := by
    rw [hold']; exact (hbnd _ (nth_mem io1 io2)).1
  unfold lookup
  rw [req_pos hne, get?_some hc1 hc2, ← hlastn]
  simp only [Option.bind_eq_bind, Option.bind_some, Option.pure_def]
  by_cases e1 : g.s.sp.last.round = q
  · rw [if_pos e1, ← e1]
    exact congrArg some hlastT.eq_ideal
  · rw [if_neg e1]
    by_cases e2 : g.s.sp.last.round < q
    · rw [if_pos e2, req_pos h2]
      simp only [Option.bind_some]
      have hr0 : g.s.sp.last.round ≠ 0 := by
        have := (hbnd _ (last_mem hshape hne)).1; omega
      have ht := hlastT.trans (next_tele hr0 e2 (hlive hne)
        (fun k a b => hcur hne k a (by omega)))
      exact congrArg some ht.eq_ideal
    · rw [if_neg e2]
      obtain ⟨o, si, hbs, hres⟩ := binSearch_spec hshape (sorted_of_linked hlinked) hold h1
        (by omega : q < g.s.sp.last.round)
      rw [hbs]
      simp only [Option.bind_some]
      rcases hres with ⟨r1, r2, r3, r4⟩ | ⟨r1, iL, iR, a1, a2, b1, b2, hp, hl, hr, hn⟩
      · rw [if_pos (by omega)]
        have := (htele si r3 r4).eq_ideal
        rw [← r1, r2] at this
        exact congrArg some this
      · rw [r1, if_neg (by simp [Obs.zero])]
        unfold interpolate
        rw [hn]
        simp only [Option.bind_eq_bind, Option.bind_some]
        obtain ⟨o', ho1, ho2, ho3⟩ := interp_tele (ring_link hc2 hlinked a1 a2 b1 b2 hp) hl hr
        rw [ho1]
        have := ((htele iL a1 a2).trans ho3).eq_ideal
        rw [ho2] at this
        exact congrArg some this

end Mx.SafePrice
