/-
  Model of `farm-staking/farm-staking` (single-token staking farm: farming token = reward token,
  rewards come out of an admin-topped-up capacity, APR cap, unbonding, boosted yields).
  Imports only Core/Arith and the shared Core/Weekly.

  Transcribed from farm-staking/farm-staking/src/
      lib.rs (init, mergeFarmTokens, setBoostedYieldsRewardsPercentage, calculateRewardsForGivenPosition)
      base_impl_wrapper.rs (mint_per_block_rewards, generate_aggregated_rewards, calculate_rewards,
                            check_and_update_user_farm_position, decrease_user_farm_position)
      custom_rewards.rs (topUpRewards, withdrawRewards, setMaxApr, setPerBlockRewardAmount,
                         start/endProduceRewards, setMinUnbondEpochs, get_amount_apr_bounded)
      stake_farm.rs  claim_stake_farm_rewards.rs  compound_stake_farm_rewards.rs  unstake_farm.rs
      unbond_farm.rs  claim_only_boosted_staking_rewards.rs  external_interaction.rs  token_attributes.rs
  and the shared modules
      common/modules/farm/contexts/src/storage_cache.rs       (StorageCache: read at start, write on drop)
      common/modules/farm/farm_base_impl/src/{enter_farm,claim_rewards,compound_rewards,exit_farm}.rs
      common/modules/farm/rewards/src/rewards.rs              (start_produce_rewards)
      common/modules/utils/src/lib.rs                         (merge_attributes_from_payments)
      energy-integration/farm-boosted-yields/src/{lib.rs, boosted_yields_factors.rs}
      dex/permissions-hub/src/lib.rs, energy-integration/energy-factory-mock/src/lib.rs.

  Conventions (CONTRIBUTING.md): `BigUint` = `Nat`; a failed transaction is `none`; every
  `require!` is `req`, every `BigUint` subtraction that can underflow is `sub?`.

  StorageCache.  The farm `StorageCache` caches `reward_reserve`, `reward_per_share`,
  `farm_token_supply` (read when created, written back when dropped = at the end of the
  endpoint).  It is modelled as the transient record `Cache`: `s.cache` reads, `s.flush c` writes
  back.  Everything else (`last_reward_block_nonce`, `accumulatedRewards`, the weekly pools,
  `userTotalFarmPosition`, …) is written to storage directly, i.e. to `St`.  The one place where
  the reserve is written directly (`claim_only_boosted_payment`, used by stake / merge) runs
  BEFORE a cache exists, exactly as in the code.

  Value-preserving simplifications (each early `return` of the code coincides with adding 0):
    * `generate`: `total_reward == 0 ⇒ return` and `current_block <= last ⇒ 0` are folded into
      unconditional `+ tot`, `+ cut`, `+ inc` with `tot = cut = inc = 0` in those cases;
      `last_reward_block_nonce := max last block`.
    * `get_current_week` cannot fail: `firstWeekStartEpoch` is the deployment epoch and epochs
      only grow (`St.week` is total; `Lemmas/StakingInv.lean` proves `firstWeek ≤ epoch`).
    * `division_safety_constant ≠ 0` is an `init` requirement and the cell is never written again.

  Platform rules modelled as guards: an ESDT payment has a strictly positive amount and the
  payer holds it; an SFT is created with a strictly positive quantity; the account exists.

  Addresses are naturals: users `1..n`, whitelisted "proxy" accounts from 101, `0` is the zero
  address.  The staking token has no model-side wallet
  ledger except the contract's own balance `bal` (ghost).
-/
import MxModel.Core.Arith
import MxModel.Core.Weekly

namespace Mx.Staking

open Mx.Weekly

/-- `custom_rewards::MAX_PERCENT` / `farm::MAX_PERCENT` -/
def MAX_PERCENT : Nat := 10000
/-- `custom_rewards::BLOCKS_IN_YEAR` = 31_536_000 / 6 -/
def BLOCKS_IN_YEAR : Nat := 5256000
/-- `custom_rewards::MAX_MIN_UNBOND_EPOCHS` -/
def MAX_MIN_UNBOND_EPOCHS : Nat := 30

/-- two-key point update (`hold account nonce`) -/
def upd2 (f : Nat → Nat → Nat) (a n v : Nat) : Nat → Nat → Nat :=
  fun a' n' => if a' = a ∧ n' = n then v else f a' n'

/-! ### token attributes (token_attributes.rs) -/

/-- `StakingFarmTokenAttributes` -/
structure Attrs where
  rps : Nat
  compounded : Nat
  amount : Nat
  owner : Nat
  deriving DecidableEq, Repr, Inhabited

/-- metadata of one nonce of the farm token: a staking position or an unbond token
    (`UnbondSftAttributes`); both live under the same token identifier and nonce counter, and
    decoding one as the other fails (the encodings have different lengths). -/
inductive Meta
  | pos (a : Attrs)
  | unbond (unlock : Nat)
  deriving DecidableEq, Repr

/-- `FixedSupplyToken::into_part(payment_amount)`: the whole token unchanged; otherwise
    `compounded := ⌊compounded · x / amount⌋` (`rule_of_three`), `amount := x`. -/
def Attrs.intoPart (t : Attrs) (x : Nat) : Option Attrs :=
  if x = t.amount then some t
  else do
    req (t.amount ≠ 0)
    pure { t with compounded := t.compounded * x / t.amount, amount := x }

/-- `Mergeable::merge_with`: index = weighted average rounded UP, amounts and compounded add;
    `original_owner` of the receiver is kept. -/
def Attrs.mergeWith (t o : Attrs) : Option Attrs := do
  req (t.amount + o.amount ≠ 0)
  pure { t with rps := weightedAvgRoundUp t.rps t.amount o.rps o.amount
                compounded := t.compounded + o.compounded
                amount := t.amount + o.amount }

/-! ### boosted yields configuration (boosted_yields_factors.rs) -/

/-- `BoostedYieldsFactors` -/
structure Factors where
  maxF : Nat
  cE : Nat
  cF : Nat
  minE : Nat
  minF : Nat
  deriving DecidableEq, Repr, Inhabited

/-- `BoostedYieldsConfig`: factors of the last update week and of the four weeks before it
    (`f[4]` = latest, `f[4 - k]` = `k` weeks earlier). -/
structure BCfg where
  lastUpdateWeek : Nat
  f : List Factors
  deriving DecidableEq, Repr

def BCfg.new (W : Nat) (x : Factors) : BCfg := ⟨W, List.replicate 5 x⟩

/-- `BoostedYieldsConfig::update(current_week, opt_new_factors)` -/
def BCfg.update (c : BCfg) (W : Nat) (new : Option Factors) : Option BCfg := do
  req (c.lastUpdateWeek ≤ W)
  let last ← c.f[4]?
  let d := min (W - c.lastUpdateWeek) 5
  if d = 0 then
    match new with
    | some x => pure { c with f := c.f.set 4 x }
    | none => pure c
  else
    pure { lastUpdateWeek := W
           f := c.f.drop d ++ List.replicate (d - 1) last ++ [new.getD last] }

/-- `get_factors_for_week(week)` -/
def BCfg.factorsForWeek (c : BCfg) (week : Nat) : Option Factors := do
  req (week < c.lastUpdateWeek)
  req (c.lastUpdateWeek - week < 5)
  c.f[4 - (c.lastUpdateWeek - week)]?

/-- `get_latest_factors()` -/
def BCfg.latest (c : BCfg) : Option Factors := c.f[4]?

/-! ### state of the farm-boosted-yields module (the part the weekly reward hook touches) -/

structure B where
  /-- `accumulatedRewardsForWeek(week)` -/
  accumulated : Nat → Nat
  /-- `remainingBoostedRewardsToDistribute(week)` -/
  remaining : Nat → Nat
  /-- `farmSupplyForWeek(week)` -/
  farmSupply : Nat → Nat
  /-- `boostedYieldsConfig` -/
  cfg : Option BCfg
  /-- ghost: what was moved from `accumulated` to `remaining` for the week (the pool `R(week)`) -/
  collected : Nat → Nat
  /-- ghost: boosted rewards paid for the week -/
  paid : Nat → Nat

def B.init : B :=
  { accumulated := fun _ => 0, remaining := fun _ => 0, farmSupply := fun _ => 0, cfg := none,
    collected := fun _ => 0, paid := fun _ => 0 }

/-- `collect_rewards_for_week(week)`: stores the config updated to the current week (`c'`, the
    value `try_get_boosted_yields_config` computed for this call), TAKES the week's accumulated
    rewards, records them as `remaining`, returns ONE entry (also when the amount is 0). -/
def collectBoosted (c' : BCfg) : CollectFn B := fun b week =>
  ({ b with cfg := some c'
            accumulated := upd b.accumulated week 0
            remaining := upd b.remaining week (b.accumulated week)
            collected := upd b.collected week (b.collected week + b.accumulated week) },
   [(0, b.accumulated week)])

/-- the user's reward for a week whose pool is `R`:
    `min ⌊maxF·R·f/F⌋ ⌊(⌊R·cE·e/E⌋ + ⌊R·cF·f/F⌋)/(cE+cF)⌋` -/
def boostedAmount (x : Factors) (R userFarm F e E : Nat) : Nat :=
  min (x.maxF * R * userFarm / F) ((R * x.cE * e / E + R * x.cF * userFarm / F) / (x.cE + x.cF))

/-- `FarmBoostedYieldsWrapper::get_user_rewards_for_week` -/
def boostedRewards (c' : BCfg) (userFarm : Nat) : RewardFn B := fun g b week e E =>
  if E = 0 ∨ b.farmSupply week = 0 then some (g, b, [])
  else do
    let x ← c'.factorsForWeek week
    if e < x.minE ∨ userFarm < x.minF then pure (g, b, [])
    else
      let r := collectAndGet (collectBoosted c') g b week
      match r.2.2 with
      | [] => pure (r.1, r.2.1, [])
      | [p] =>
          if p.2 = 0 then pure (r.1, r.2.1, [])
          else do
            req (x.cE + x.cF ≠ 0)
            let reward := boostedAmount x p.2 userFarm (b.farmSupply week) e E
            if reward = 0 then pure (r.1, r.2.1, [])
            else do
              let rem ← sub? (r.2.1.remaining week) reward
              pure (r.1,
                    { r.2.1 with remaining := upd r.2.1.remaining week rem
                                 paid := upd r.2.1.paid week (r.2.1.paid week + reward) },
                    [(0, reward)])
      | _ => none

/-! ### contract state -/

structure St where
  /-- weekly-rewards-splitting module storage -/
  w : Weekly.St
  /-- farm-boosted-yields module storage -/
  b : B
  rps : Nat
  reserve : Nat
  supply : Nat
  lastBlock : Nat
  perBlock : Nat
  produce : Bool
  dsc : Nat
  boostedPct : Nat
  maxApr : Nat
  minUnbond : Nat
  capacity : Nat
  accumulated : Nat
  /-- `state == Active` -/
  active : Bool
  /-- `userTotalFarmPosition(user)` (empty = 0) -/
  userTotal : Nat → Nat
  /-- `undistributedBoostedRewards` -/
  undistributed : Nat
  /-- `lastUndistributedBoostedRewardsCollectWeek` -/
  lastCollectWeek : Nat
  /-- `firstWeekStartEpoch` -/
  firstWeek : Nat
  /-- `scWhitelistAddresses` -/
  whitelist : List Nat
  /-- permissions hub: `(user, address the user authorised)` -/
  hub : List (Nat × Nat)
  /-- last nonce created under the farm token identifier -/
  nonce : Nat
  /-- metadata per nonce -/
  md : Nat → Option Meta
  /-- holdings: account → nonce → amount -/
  hold : Nat → Nat → Nat
  /-- ghost: the accounts of the world (users, proxies) -/
  accts : List Nat
  block : Nat
  epoch : Nat
  /-- energy factory (mock) entries -/
  energy : Nat → Option Energy
  /-- ghost: real staking-token balance of the contract -/
  bal : Nat
  /-- ghost: proxy-virtual stake (staked through `stakeFarmThroughProxy` /
      `claimRewardsWithNewValue` without tokens moving), signed -/
  virt : Int
  /-- ghost: outstanding unbond amounts (a signed ledger: `+ amount` when an unbond token is
      minted, `− amount` when one is redeemed; `Staking.UnbInv.explicit` in
      `Lemmas/StakingTrans.lean` shows it equals the sum of the unbond tokens held by the accounts) -/
  unbondOut : Int
  /-- ghost: base / boosted rewards paid out or compounded so far -/
  paidBase : Nat
  paidBoosted : Nat
  /-- ghost: Σ over all accruals of the base share / of the boosted cut -/
  baseBudget : Nat
  boostedBudget : Nat

/-- results of an operation (meaning documented per operation) -/
structure Out where
  a : Nat := 0
  b : Nat := 0
  c : Nat := 0
  deriving DecidableEq, Repr

/-- a payment of farm-token SFTs: `(nonce, amount)` -/
abbrev Pay := Nat × Nat

/-- `get_current_week()` -/
def St.week (s : St) : Nat := (s.epoch - s.firstWeek) / EPOCHS_IN_WEEK + 1

/-- the cached cells of the farm `StorageCache` -/
structure Cache where
  reserve : Nat
  rps : Nat
  supply : Nat
  deriving DecidableEq, Repr

/-- `StorageCache::new` -/
def St.cache (s : St) : Cache := ⟨s.reserve, s.rps, s.supply⟩

/-- `Drop for StorageCache` -/
def St.flush (s : St) (c : Cache) : St :=
  { s with reserve := c.reserve, rps := c.rps, supply := c.supply }

/-! ### reward generation (base_impl_wrapper.rs) -/

/-- `get_amount_apr_bounded(supply)`: per-block bound `⌊⌊supply·maxApr/10000⌋/blocksPerYear⌋` -/
def aprPerBlock (supply maxApr : Nat) : Nat := supply * maxApr / MAX_PERCENT / BLOCKS_IN_YEAR

/-- `mint_per_block_rewards` as a function of the cells it reads: `min(perBlock·Δ, aprBound·Δ)`
    with `Δ = block − last`, 0 when no block has passed; the unbounded amount is 0 while
    production is off. -/
def mintOf (block lastBlock perBlock : Nat) (produce : Bool) (supply maxApr : Nat) : Nat :=
  if block ≤ lastBlock then 0
  else
    min (if produce then perBlock * (block - lastBlock) else 0)
        (aprPerBlock supply maxApr * (block - lastBlock))

/-- `mint_per_block_rewards` (reads the STORED supply) -/
def mintAmount (s : St) : Nat := mintOf s.block s.lastBlock s.perBlock s.produce s.supply s.maxApr

/-- the total reward of `generate_aggregated_rewards` as a function of the cells it reads:
    additionally capped by `capacity − accumulated` -/
def genTotOf (block lastBlock perBlock : Nat) (produce : Bool) (supply maxApr capacity accumulated : Nat) : Nat :=
  min (mintOf block lastBlock perBlock produce supply maxApr) (capacity - accumulated)

def genTot (s : St) : Nat :=
  genTotOf s.block s.lastBlock s.perBlock s.produce s.supply s.maxApr s.capacity s.accumulated

/-- `take_reward_slice`: the boosted cut `⌊tot·pct/10000⌋` -/
def cutOf (pct tot : Nat) : Nat := tot * pct / MAX_PERCENT

def genCut (s : St) (tot : Nat) : Nat := cutOf s.boostedPct tot

/-- the index increment `⌊base·dsc/supply⌋`, none at zero (cached) supply -/
def rpsInc (dsc base supply : Nat) : Nat := if supply = 0 then 0 else base * dsc / supply

/-- `FarmStakingWrapper::generate_aggregated_rewards(storage_cache)` -/
def generate (s : St) (c : Cache) : Option (St × Cache) := do
  req (s.accumulated ≤ s.capacity)
  let tot := genTot s
  let cut := genCut s tot
  req (cut ≤ tot)
  let base := tot - cut
  pure ({ s with lastBlock := max s.lastBlock s.block
                 accumulated := s.accumulated + tot
                 b := { s.b with accumulated := upd s.b.accumulated s.week (s.b.accumulated s.week + cut) }
                 baseBudget := s.baseBudget + base
                 boostedBudget := s.boostedBudget + cut },
        { c with reserve := c.reserve + tot, rps := c.rps + rpsInc s.dsc base c.supply })

/-- `calculate_base_farm_rewards` -/
def baseReward (c : Cache) (dsc amt : Nat) (t : Attrs) : Nat :=
  if t.rps < c.rps then amt * (c.rps - t.rps) / dsc else 0

/-- `claim_boosted_yields_rewards(user, farm_amount)`: without a config the reward is 0, but the
    user's energy and claim progress are still moved to the current week
    (`update_energy_and_progress(user)`, the repair of finding F6); otherwise
    `claim_multi` with the config updated (in memory) to the current week.
    Result: new weekly storage, new boosted storage, total paid. -/
def claimBoostedYields (s : St) (user farmAmt : Nat) : Option (Weekly.St × B × Nat) :=
  match s.b.cfg with
  | none =>
      (updateEnergyAndProgress s.w user s.week (Energy.queried (s.energy user) s.epoch)).map
        fun w => (w, s.b, 0)
  | some c => do
      let c' ← c.update s.week none
      let cur := Energy.queried (s.energy user) s.epoch
      let r ← claimMulti (boostedRewards c' farmAmt) s.w s.b user s.week cur
      pure (r.1, r.2.1, (r.2.2.map (·.2)).sum)

/-! ### tokens and user totals -/

/-- the VM moves the payments out of the caller's account first -/
def debit (hold : Nat → Nat → Nat) (c : Nat) : List Pay → Option (Nat → Nat → Nat)
  | [] => some hold
  | p :: ps => do
      req (0 < p.2)
      req (p.2 ≤ hold c p.1)
      debit (upd2 hold c p.1 (hold c p.1 - p.2)) c ps

/-- decode the attributes of nonce `n` as a staking position -/
def posOf (m : Nat → Option Meta) (n : Nat) : Option Attrs :=
  match m n with
  | some (.pos a) => some a
  | _ => none

/-- decode the attributes of nonce `n` as an unbond token -/
def unbondOf (m : Nat → Option Meta) (n : Nat) : Option Nat :=
  match m n with
  | some (.unbond e) => some e
  | _ => none

/-- `decrease_user_farm_position`: `total > amt ? total − amt : clear` -/
def decreaseUT (ut : Nat → Nat) (owner amt : Nat) : Nat → Nat :=
  upd ut owner (if amt < ut owner then ut owner - amt else 0)

/-- `check_and_update_user_farm_position(user, payments)`: every payment whose recorded owner is
    not `user` is moved from the owner's total to `user`'s. -/
def checkAndUpdate (m : Nat → Option Meta) (user : Nat) : (Nat → Nat) → List Pay → Option (Nat → Nat)
  | ut, [] => some ut
  | ut, p :: ps => do
      let a ← posOf m p.1
      let ut1 := if a.owner = user then ut
        else upd (decreaseUT ut a.owner p.2) user (decreaseUT ut a.owner p.2 user + p.2)
      checkAndUpdate m user ut1 ps

/-- `merge_attributes_from_payments(base, payments)` -/
def mergeParts (m : Nat → Option Meta) : Attrs → List Pay → Option Attrs
  | base, [] => some base
  | base, p :: ps => do
      let a ← posOf m p.1
      let part ← a.intoPart p.2
      let merged ← base.mergeWith part
      mergeParts m merged ps

/-- every payment's recorded owner is `user` (`check_additional_payments_original_owner`) -/
def allOwnedBy (m : Nat → Option Meta) (user : Nat) : List Pay → Option Unit
  | [] => some ()
  | p :: ps => do
      let a ← posOf m p.1
      req (a.owner = user)
      allOwnedBy m user ps

/-! ### stake (stake_farm.rs, enter_farm.rs, external_interaction.rs) -/

/-- common part of `stakeFarm`, `stakeFarmThroughProxy`, `stakeFarmOnBehalf`.
    `caller` pays and receives the new position; `orig` owns it; `virtual` = the staked amount is
    simulated (no staking tokens move).  Out = (new nonce, new position amount, boosted reward). -/
def stakeCore (s : St) (caller orig amount : Nat) (virtual : Bool) (adds : List Pay) :
    Option (St × Out) := do
  req (0 < amount)
  let hold0 ← debit s.hold caller adds
  -- claim_only_boosted_payment(orig): direct storage write of the reserve, no cache alive
  let r ← claimBoostedYields s orig (s.userTotal orig)
  let reserve1 ← sub? s.reserve r.2.2
  let s1 := { s with w := r.1, b := r.2.1, reserve := reserve1 }
  -- enter_farm_base
  req (s1.active = true)
  let ut1 ← checkAndUpdate s1.md orig s1.userTotal adds
  let s2 := { s1 with userTotal := upd ut1 orig (ut1 orig + amount) }
  let g ← generate s2 s2.cache
  let c1 : Cache := { g.2 with supply := g.2.supply + amount }
  let merged ← mergeParts s.md ⟨c1.rps, 0, amount, orig⟩ adds
  let s3 := g.1
  -- set_farm_supply_for_current_week, update_energy_and_progress(orig)
  let w2 ← updateEnergyAndProgress s3.w orig s3.week (Energy.queried (s3.energy orig) s3.epoch)
  let bal1 ← sub? (if virtual then s3.bal else s3.bal + amount) r.2.2
  pure ({ s3 with reserve := c1.reserve, rps := c1.rps, supply := c1.supply
                  w := w2
                  b := { s3.b with farmSupply := upd s3.b.farmSupply s3.week c1.supply }
                  nonce := s3.nonce + 1
                  md := upd s3.md (s3.nonce + 1) (some (.pos merged))
                  hold := upd2 hold0 caller (s3.nonce + 1) merged.amount
                  bal := bal1
                  virt := if virtual then s3.virt + (amount : Int) else s3.virt
                  paidBoosted := s3.paidBoosted + r.2.2 },
        ⟨s3.nonce + 1, merged.amount, r.2.2⟩)

/-- `stakeFarm(opt_original_caller)`: an original caller may only be named by a whitelisted address -/
def stakeFarm (s : St) (caller : Nat) (orig : Option Nat) (amount : Nat) (adds : List Pay) :
    Option (St × Out) :=
  match orig with
  | none => stakeCore s caller caller amount false adds
  | some o => do
      req (caller ∈ s.whitelist)
      stakeCore s caller o amount false adds

/-- `stakeFarmThroughProxy(staked_token_amount, original_caller)` -/
def stakeProxy (s : St) (caller orig amount : Nat) (adds : List Pay) : Option (St × Out) := do
  req (caller ∈ s.whitelist)
  stakeCore s caller orig amount true adds

/-- `stakeFarmOnBehalf(user)`: hub authorisation; with additional farm tokens, all must record
    `user` as owner. -/
def stakeOnBehalf (s : St) (caller user amount : Nat) (adds : List Pay) : Option (St × Out) := do
  req ((user, caller) ∈ s.hub)
  allOwnedBy s.md user adds
  stakeCore s caller user amount false adds

/-! ### claim (claim_stake_farm_rewards.rs, claim_rewards.rs) -/

/-- `claimRewardsWithNewValue`: `farm_token_supply −= amount; += new` (checked) -/
def newSupply (supply amount : Nat) : Option Nat → Option Nat
  | none => some supply
  | some nv => (sub? supply amount).map (· + nv)

/-- `claimRewardsWithNewValue`: `userTotalFarmPosition(orig) −= amount; += new` (checked) -/
def newUserTotal (ut : Nat → Nat) (orig amount : Nat) : Option Nat → Option (Nat → Nat)
  | none => some ut
  | some nv => (sub? (ut orig) amount).map fun v => upd ut orig (v + nv)

/-- intermediate result of `claim_rewards_base_no_farm_token_mint` -/
structure ClaimMid where
  /-- holdings after the payments left the caller -/
  hold0 : Nat → Nat → Nat
  /-- storage after `generate` -/
  s1 : St
  /-- cache after `generate` (reserve not yet reduced) -/
  c1 : Cache
  /-- result of the boosted claim of `orig` -/
  w1 : Weekly.St
  b1 : B
  boosted : Nat
  base : Nat
  /-- `userTotalFarmPosition` after `check_and_update_user_farm_position` -/
  ut1 : Nat → Nat
  merged : Attrs

/-- `claim_rewards_base_no_farm_token_mint(orig, payments)` up to the merged attributes -/
def claimBase (s : St) (caller orig : Nat) (pays : List Pay) : Option ClaimMid := do
  let hold0 ← debit s.hold caller pays
  req (s.active = true)
  let p ← pays.head?
  let first ← posOf s.md p.1
  let g ← generate s s.cache
  let tok ← first.intoPart p.2
  let r ← claimBoostedYields g.1 orig (g.1.userTotal orig)
  let ut1 ← checkAndUpdate s.md orig g.1.userTotal pays
  let merged ← mergeParts s.md ⟨g.2.rps, tok.compounded, tok.amount, orig⟩ pays.tail
  pure { hold0 := hold0, s1 := g.1, c1 := g.2, w1 := r.1, b1 := r.2.1, boosted := r.2.2,
         base := baseReward g.2 s.dsc p.2 tok, ut1 := ut1, merged := merged }

/-- the rest of `claim_rewards_base_no_farm_token_mint` (reserve) and of `claim_rewards_common`:
    optional new farming amount (proxy), `farmSupplyForWeek`, energy update, new token, payout.
    Out = (new nonce, new position amount, reward). -/
def claimFinish (m : ClaimMid) (caller orig : Nat) (newVal : Option Nat) : Option (St × Out) := do
  let reserve1 ← sub? m.c1.reserve (m.base + m.boosted)
  let supply1 ← newSupply m.c1.supply m.merged.amount newVal
  let ut2 ← newUserTotal m.ut1 orig m.merged.amount newVal
  req (0 < newVal.getD m.merged.amount)
  let w2 ← updateEnergyAndProgress m.w1 orig m.s1.week (Energy.queried (m.s1.energy orig) m.s1.epoch)
  let bal1 ← sub? m.s1.bal (m.base + m.boosted)
  pure ({ m.s1 with reserve := reserve1, rps := m.c1.rps, supply := supply1
                    w := w2
                    b := { m.b1 with farmSupply := upd m.b1.farmSupply m.s1.week supply1 }
                    userTotal := ut2
                    nonce := m.s1.nonce + 1
                    md := upd m.s1.md (m.s1.nonce + 1)
                            (some (.pos { m.merged with amount := newVal.getD m.merged.amount }))
                    hold := upd2 m.hold0 caller (m.s1.nonce + 1) (newVal.getD m.merged.amount)
                    bal := bal1
                    virt := m.s1.virt + (newVal.getD m.merged.amount : Int) - (m.merged.amount : Int)
                    paidBase := m.s1.paidBase + m.base
                    paidBoosted := m.s1.paidBoosted + m.boosted },
        ⟨m.s1.nonce + 1, newVal.getD m.merged.amount, m.base + m.boosted⟩)

def claimCore (s : St) (caller orig : Nat) (pays : List Pay) (newVal : Option Nat) :
    Option (St × Out) := do
  let m ← claimBase s caller orig pays
  claimFinish m caller orig newVal

/-- `claimRewards(opt_original_caller)` with exactly one payment -/
def claimRewards (s : St) (caller : Nat) (orig : Option Nat) (pay : Pay) : Option (St × Out) :=
  match orig with
  | none => claimCore s caller caller [pay] none
  | some o => do
      req (caller ∈ s.whitelist)
      claimCore s caller o [pay] none

/-- `claimRewardsWithNewValue(new_farming_amount, original_caller)` -/
def claimNewValue (s : St) (caller orig newAmt : Nat) (pay : Pay) : Option (St × Out) := do
  req (caller ∈ s.whitelist)
  claimCore s caller orig [pay] (some newAmt)

/-- `get_claim_original_owner`: the common recorded owner of all payments (non-zero) -/
def claimOwner (m : Nat → Option Meta) (pays : List Pay) : Option Nat := do
  let p ← pays.head?
  let a ← posOf m p.1
  req (a.owner ≠ 0)
  allOwnedBy m a.owner pays
  pure a.owner

/-- `claimRewardsOnBehalf`: the new position goes to the caller, the rewards to the owner -/
def claimOnBehalf (s : St) (caller : Nat) (pays : List Pay) : Option (St × Out) := do
  let user ← claimOwner s.md pays
  req ((user, caller) ∈ s.hub)
  claimCore s caller user pays none

/-! ### compound (compound_stake_farm_rewards.rs, compound_rewards.rs) -/

/-- `compoundRewards`: Out = (new nonce, new position amount, compounded reward) -/
def compound (s : St) (caller : Nat) (pays : List Pay) : Option (St × Out) := do
  let hold0 ← debit s.hold caller pays
  req (s.active = true)
  let p ← pays.head?
  let first ← posOf s.md p.1
  let g ← generate s s.cache
  let s1 := g.1
  let tok ← first.intoPart p.2
  let base := baseReward g.2 s.dsc p.2 tok
  let r ← claimBoostedYields s1 caller (s1.userTotal caller)
  let reward := base + r.2.2
  let reserve1 ← sub? g.2.reserve reward
  let ut1 ← checkAndUpdate s.md caller s1.userTotal pays
  let merged ← mergeParts s.md ⟨g.2.rps, tok.compounded + reward, tok.amount + reward, caller⟩ pays.tail
  pure ({ s1 with reserve := reserve1, rps := g.2.rps, supply := g.2.supply + reward
                  w := r.1
                  b := { r.2.1 with farmSupply := upd r.2.1.farmSupply s1.week (g.2.supply + reward) }
                  userTotal := upd ut1 caller (ut1 caller + reward)
                  nonce := s1.nonce + 1
                  md := upd s1.md (s1.nonce + 1) (some (.pos merged))
                  hold := upd2 hold0 caller (s1.nonce + 1) merged.amount
                  paidBase := s1.paidBase + base
                  paidBoosted := s1.paidBoosted + r.2.2 },
        ⟨s1.nonce + 1, merged.amount, reward⟩)

/-! ### unstake / unbond (unstake_farm.rs, exit_farm.rs, unbond_farm.rs) -/

/-- `clear_user_energy_if_needed(orig)` -/
def clearEnergyIfNeeded (s : St) (g : Weekly.St) (orig : Nat) : Option Weekly.St :=
  match s.b.cfg with
  | none => some g
  | some c => do
      let c' ← c.update s.week none
      let x ← c'.latest
      clearUserEnergy g orig s.week s.epoch (s.userTotal orig) x.minF

/-- common part of `unstakeFarm` and `unstakeFarmThroughProxy`.  `proxyAmt` = staking tokens
    received as first payment (they back the unbond token).
    Out = (unbond nonce, unbond amount, reward). -/
def unstakeCore (s : St) (caller orig : Nat) (pay : Pay) (proxyAmt : Option Nat) :
    Option (St × Out) := do
  req (proxyAmt ≠ some 0)
  let hold0 ← debit s.hold caller [pay]
  req (s.active = true)
  let attrs ← posOf s.md pay.1
  let g ← generate s s.cache
  let s1 := g.1
  let tok ← attrs.intoPart pay.2
  let base := baseReward g.2 s.dsc pay.2 tok
  let r ← claimBoostedYields s1 orig (s1.userTotal orig)
  let reward := base + r.2.2
  let reserve1 ← sub? g.2.reserve reward
  let ut1 := decreaseUT s1.userTotal attrs.owner pay.2
  let supply1 ← sub? g.2.supply tok.amount
  let unbondAmt := proxyAmt.getD tok.amount
  let s2 := { s1 with userTotal := ut1, b := r.2.1 }
  let w2 ← clearEnergyIfNeeded s2 r.1 orig
  let bal1 ← sub? (s1.bal + proxyAmt.getD 0) reward
  pure ({ s2 with reserve := reserve1, rps := g.2.rps, supply := supply1
                  w := w2
                  b := { r.2.1 with farmSupply := upd r.2.1.farmSupply s1.week supply1 }
                  nonce := s1.nonce + 1
                  md := upd s1.md (s1.nonce + 1) (some (.unbond (s1.epoch + s1.minUnbond)))
                  hold := upd2 hold0 caller (s1.nonce + 1) unbondAmt
                  bal := bal1
                  virt := match proxyAmt with
                    | some _ => s1.virt - (tok.amount : Int)
                    | none => s1.virt
                  unbondOut := s1.unbondOut + (unbondAmt : Int)
                  paidBase := s1.paidBase + base
                  paidBoosted := s1.paidBoosted + r.2.2 },
        ⟨s1.nonce + 1, unbondAmt, reward⟩)

/-- `unstakeFarm(opt_original_caller)` -/
def unstakeFarm (s : St) (caller : Nat) (orig : Option Nat) (pay : Pay) : Option (St × Out) :=
  match orig with
  | none => unstakeCore s caller caller pay none
  | some o => do
      req (caller ∈ s.whitelist)
      unstakeCore s caller o pay none

/-- `unstakeFarmThroughProxy(original_caller)` with payments `[x staking tokens, position]` -/
def unstakeProxy (s : St) (caller orig x : Nat) (pay : Pay) : Option (St × Out) := do
  req (caller ∈ s.whitelist)
  unstakeCore s caller orig pay (some x)

/-- `unbondFarm`: Out = (0, amount paid, 0) -/
def unbondFarm (s : St) (caller : Nat) (pay : Pay) : Option (St × Out) := do
  let hold0 ← debit s.hold caller [pay]
  req (s.active = true)
  let unlock ← unbondOf s.md pay.1
  req (unlock ≤ s.epoch)
  let bal1 ← sub? s.bal pay.2
  pure ({ s with hold := hold0, bal := bal1, unbondOut := s.unbondOut - (pay.2 : Int) }, ⟨0, pay.2, 0⟩)

/-! ### merge, claimBoostedRewards (lib.rs, claim_only_boosted_staking_rewards.rs) -/

/-- `mergeFarmTokens`: Out = (new nonce, merged amount, boosted reward).  No reward generation,
    no `farmSupplyForWeek` update. -/
def mergeTokens (s : St) (caller : Nat) (pays : List Pay) : Option (St × Out) := do
  let hold0 ← debit s.hold caller pays
  req (s.active = true)
  let r ← claimBoostedYields s caller (s.userTotal caller)
  let reserve1 ← sub? s.reserve r.2.2
  let p ← pays.head?
  let ut1 ← checkAndUpdate s.md caller s.userTotal pays
  let first ← posOf s.md p.1
  let part ← first.intoPart p.2
  let merged ← mergeParts s.md part pays.tail
  let bal1 ← sub? s.bal r.2.2
  pure ({ s with w := r.1, b := r.2.1, reserve := reserve1, userTotal := ut1
                 nonce := s.nonce + 1
                 md := upd s.md (s.nonce + 1) (some (.pos { merged with owner := caller }))
                 hold := upd2 hold0 caller (s.nonce + 1) merged.amount
                 bal := bal1
                 paidBoosted := s.paidBoosted + r.2.2 },
        ⟨s.nonce + 1, merged.amount, r.2.2⟩)

/-- `claimBoostedRewards(opt_user)`: for another user only with `allowExternalClaim` (which no
    endpoint can set); the user's total position must be non-empty.  Out = (0, 0, boosted).
    The payout is subtracted from the CACHED reserve (repo commit adb7e0d; before it the
    subtraction was a direct storage write that the cache overwrote — finding F1). -/
def claimBoostedRewards (s : St) (caller : Nat) (user : Option Nat) : Option (St × Out) := do
  req (user = none ∨ user = some caller)
  req (s.userTotal caller ≠ 0)
  req (s.active = true)
  let g ← generate s s.cache
  let s1 := g.1
  let r ← claimBoostedYields s1 caller (s1.userTotal caller)
  let reserve1 ← sub? g.2.reserve r.2.2
  let bal1 ← sub? s1.bal r.2.2
  pure ({ s1 with reserve := reserve1, rps := g.2.rps, supply := g.2.supply
                  w := r.1
                  b := { r.2.1 with farmSupply := upd r.2.1.farmSupply s1.week g.2.supply }
                  bal := bal1
                  paidBoosted := s1.paidBoosted + r.2.2 },
        ⟨0, 0, r.2.2⟩)

/-! ### the reward view (lib.rs) -/

/-- `calculateRewardsForGivenPosition(amount, attributes)`: only callable by the contract itself
    (VM query); settles rewards, then `calculate_rewards` for the position's recorded
    `original_owner` (repo commit da24d8b; before it the zero address was passed and the quote
    omitted the boosted part — finding F3).  The result pairs the state the query WOULD leave
    (a VM query is discarded on chain: `step` keeps the old state) with the quoted amount. -/
def calcRewards (s : St) (queried : Bool) (amt : Nat) (t : Attrs) : Option (St × Nat) := do
  req (queried = true)
  let g ← generate s s.cache
  let base := baseReward g.2 s.dsc amt t
  let r ← claimBoostedYields g.1 t.owner (g.1.userTotal t.owner)
  pure ((({ g.1 with w := r.1, b := r.2.1 } : St).flush g.2), base + r.2.2)

/-! ### admin endpoints (custom_rewards.rs, lib.rs, rewards.rs, farm-boosted-yields) -/

/-- `topUpRewards` with a payment of `x` reward tokens -/
def topUp (s : St) (x : Nat) : Option (St × Out) := do
  req (0 < x)
  pure ({ s with capacity := s.capacity + x, bal := s.bal + x }, {})

/-- `withdrawRewards(w)`: settle first, then `w ≤ capacity − accumulated`.  Out = (0, w, 0) -/
def withdraw (s : St) (x : Nat) : Option (St × Out) := do
  let g ← generate s s.cache
  let remaining ← sub? g.1.capacity g.1.accumulated
  req (x ≤ remaining)
  let cap ← sub? g.1.capacity x
  let bal1 ← sub? g.1.bal x
  pure ((({ g.1 with capacity := cap, bal := bal1 } : St).flush g.2), ⟨0, x, 0⟩)

/-- the shape shared by `setMaxApr`, `setPerBlockRewardAmount`, `endProduceRewards`,
    `setBoostedYieldsRewardsPercentage`: settle under the OLD configuration, then write the cell. -/
def settleThen (s : St) (f : St → St) : Option (St × Out) := do
  let g ← generate s s.cache
  pure (f (g.1.flush g.2), {})

def setMaxApr (s : St) (x : Nat) : Option (St × Out) := do
  req (x ≠ 0)
  settleThen s fun t => { t with maxApr := x }

def setPerBlock (s : St) (x : Nat) : Option (St × Out) := do
  req (x ≠ 0)
  settleThen s fun t => { t with perBlock := x }

def endProduce (s : St) : Option (St × Out) :=
  settleThen s fun t => { t with produce := false }

def setBoostedPct (s : St) (p : Nat) : Option (St × Out) := do
  req (p ≤ MAX_PERCENT)
  settleThen s fun t => { t with boostedPct := p }

/-- `startProduceRewards` -/
def startProduce (s : St) : Option (St × Out) := do
  req (s.perBlock ≠ 0)
  req (s.produce = false)
  pure ({ s with produce := true, lastBlock := s.block }, {})

/-- `setMinUnbondEpochs` -/
def setMinUnbond (s : St) (e : Nat) : Option (St × Out) := do
  req (e ≤ MAX_MIN_UNBOND_EPOCHS)
  pure ({ s with minUnbond := e }, {})

/-- the configuration `setBoostedYieldsFactors` stores -/
def nextCfg (cfg : Option BCfg) (W : Nat) (x : Factors) : Option BCfg :=
  match cfg with
  | some c => c.update W (some x)
  | none => some (BCfg.new W x)

/-- `setBoostedYieldsFactors` -/
def setFactors (s : St) (x : Factors) : Option (St × Out) := do
  req (0 < x.minE ∧ 0 < x.minF)
  req (0 < x.cE ∨ 0 < x.cF)   -- repair of finding F7 (shared farm-boosted-yields module)
  let c ← nextCfg s.b.cfg s.week x
  pure ({ s with b := { s.b with cfg := some c } }, {})

/-- the loop of `collect_undistributed_boosted_rewards` over `count` weeks starting at `week` -/
def collectWeeks : Nat → Nat → (Nat → Nat) → Nat → (Nat → Nat) × Nat
  | 0, _, rem, und => (rem, und)
  | n + 1, week, rem, und => collectWeeks n (week + 1) (upd rem week 0) (und + rem week)

/-- `collectUndistributedBoostedRewards`: weeks `lastCollect+1 … current−5` -/
def collectUndistributed (s : St) : Option (St × Out) := do
  req (USER_MAX_CLAIM_WEEKS + 1 < s.week)
  let first := s.lastCollectWeek + 1
  let last := s.week - (USER_MAX_CLAIM_WEEKS + 1)
  if last < first then pure (s, {})
  else
    let r := collectWeeks (last + 1 - first) first s.b.remaining s.undistributed
    pure ({ s with b := { s.b with remaining := r.1 }, undistributed := r.2, lastCollectWeek := last }, {})

/-- endpoint `updateEnergyForUser(user)` of the weekly module -/
def updateEnergy (s : St) (user : Nat) : Option (St × Out) := do
  let g ← updateEnergyForUser s.w user s.week (Energy.queried (s.energy user) s.epoch)
  pure ({ s with w := g }, {})

/-- a plain ESDT transfer of farm-token SFTs between two accounts -/
def transfer (s : St) (src dst : Nat) (pay : Pay) : Option (St × Out) := do
  req (dst ∈ s.accts)
  let hold0 ← debit s.hold src [pay]
  pure ({ s with hold := upd2 hold0 dst pay.1 (hold0 dst pay.1 + pay.2) }, {})

/-! ### the state machine -/

inductive Op
  | stake (c : Nat) (orig : Option Nat) (amount : Nat) (adds : List Pay)
  | stakeProxy (c orig amount : Nat) (adds : List Pay)
  | stakeBehalf (c user amount : Nat) (adds : List Pay)
  | claim (c : Nat) (orig : Option Nat) (pay : Pay)
  | claimNew (c orig newAmt : Nat) (pay : Pay)
  | claimBehalf (c : Nat) (pays : List Pay)
  | compound (c : Nat) (pays : List Pay)
  | unstake (c : Nat) (orig : Option Nat) (pay : Pay)
  | unstakeProxy (c orig x : Nat) (pay : Pay)
  | unbond (c : Nat) (pay : Pay)
  | merge (c : Nat) (pays : List Pay)
  | claimBoosted (c : Nat) (user : Option Nat)
  | calc (queried : Bool) (amt : Nat) (t : Attrs)
  | transfer (src dst : Nat) (pay : Pay)
  | setEnergy (user amount locked : Nat)
  | updateEnergy (user : Nat)
  | topUp (x : Nat)
  | withdraw (x : Nat)
  | setMaxApr (x : Nat)
  | setPerBlock (x : Nat)
  | startProduce
  | endProduce
  | setMinUnbond (e : Nat)
  | setBoostedPct (p : Nat)
  | setFactors (x : Factors)
  | collectUndistributed
  | pause
  | resume
  | hubWhitelist (user addr : Nat)
  | hubRemove (user addr : Nat)
  | advance (blocks epochs : Nat)

/-- user operations are sent by an existing account -/
def Op.caller : Op → Option Nat
  | .stake c _ _ _ | .stakeProxy c _ _ _ | .stakeBehalf c _ _ _ | .claim c _ _ | .claimNew c _ _ _
  | .claimBehalf c _ | .compound c _ | .unstake c _ _ | .unstakeProxy c _ _ _ | .unbond c _
  | .merge c _ | .claimBoosted c _ | .transfer c _ _ => some c
  | _ => none

def stepCore (s : St) : Op → Option (St × Out)
  | .stake c o a adds => stakeFarm s c o a adds
  | .stakeProxy c o a adds => stakeProxy s c o a adds
  | .stakeBehalf c u a adds => stakeOnBehalf s c u a adds
  | .claim c o p => claimRewards s c o p
  | .claimNew c o nv p => claimNewValue s c o nv p
  | .claimBehalf c ps => claimOnBehalf s c ps
  | .compound c ps => compound s c ps
  | .unstake c o p => unstakeFarm s c o p
  | .unstakeProxy c o x p => unstakeProxy s c o x p
  | .unbond c p => unbondFarm s c p
  | .merge c ps => mergeTokens s c ps
  | .claimBoosted c u => claimBoostedRewards s c u
  | .calc q a t => (calcRewards s q a t).map fun r => (s, ⟨0, 0, r.2⟩)
  | .transfer a b p => transfer s a b p
  | .setEnergy u a l => some ({ s with energy := upd s.energy u (some ⟨(a : Int), s.epoch, l⟩) }, {})
  | .updateEnergy u => updateEnergy s u
  | .topUp x => topUp s x
  | .withdraw x => withdraw s x
  | .setMaxApr x => setMaxApr s x
  | .setPerBlock x => setPerBlock s x
  | .startProduce => startProduce s
  | .endProduce => endProduce s
  | .setMinUnbond e => setMinUnbond s e
  | .setBoostedPct p => setBoostedPct s p
  | .setFactors x => setFactors s x
  | .collectUndistributed => collectUndistributed s
  | .pause => some ({ s with active := false }, {})
  | .resume => some ({ s with active := true }, {})
  | .hubWhitelist u a => do
      req ((u, a) ∉ s.hub)
      pure ({ s with hub := s.hub ++ [(u, a)] }, {})
  | .hubRemove u a => do
      req ((u, a) ∈ s.hub)
      pure ({ s with hub := s.hub.erase (u, a) }, {})
  | .advance b e => some ({ s with block := s.block + b, epoch := s.epoch + e }, {})

/-- the sender of a user operation is one of the world's accounts -/
def callerOk (s : St) (op : Op) : Bool :=
  match op.caller with
  | some c => decide (c ∈ s.accts)
  | none => true

def step (s : St) (op : Op) : Option (St × Out) := do
  req (callerOk s op = true)
  stepCore s op

/-- the state after a history: failed transactions leave the state unchanged -/
def run (s : St) (ops : List Op) : St :=
  ops.foldl (fun s o => match step s o with | some r => r.1 | none => s) s

/-- a freshly deployed staking farm, configured as the repository's tests configure it
    (farm token installed, state Active, rewards produced at `perBlock`), at block `block` and
    epoch `epoch`, with the given accounts; `whitelist` = SC whitelist. -/
def init (epoch block dsc maxApr minUnbond perBlock : Nat) (accts whitelist : List Nat) : St :=
  { w := Weekly.St.init, b := B.init
    rps := 0, reserve := 0, supply := 0, lastBlock := 0, perBlock := perBlock, produce := true
    dsc := dsc, boostedPct := 0, maxApr := maxApr, minUnbond := minUnbond
    capacity := 0, accumulated := 0, active := true
    userTotal := fun _ => 0, undistributed := 0, lastCollectWeek := 0, firstWeek := epoch
    whitelist := whitelist, hub := []
    nonce := 0, md := fun _ => none, hold := fun _ _ => 0, accts := accts
    block := block, epoch := epoch, energy := fun _ => none
    bal := 0, virt := 0, unbondOut := 0
    paidBase := 0, paidBoosted := 0, baseBudget := 0, boostedBudget := 0 }

end Mx.Staking
