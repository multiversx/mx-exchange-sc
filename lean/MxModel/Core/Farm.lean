/-
  Model of the farm engine: `dex/farm` (kind `mint`) and `dex/farm-with-locked-rewards`
  (kind `noMint`, rewards are locked through the energy factory; the farm's reward counters are
  pure accounting).  Imports only Core/Arith and Core/Weekly.

  Transcribed from
    common/modules/farm/contexts/src/storage_cache.rs      StorageCache = read at start, write back on drop
    common/modules/farm/farm_base_impl/src/*.rs            generate / calculate_rewards / enter / claim / compound / exit,
                                                           check_and_update_user_farm_position
    common/common_structs/src/farm_types.rs                FarmTokenAttributes: into_part, merge_with
    common/modules/math, common/traits/fixed-supply-token  weighted_average_round_up, rule_of_three
    common/modules/utils                                   merge_attributes_from_payments, merge_from_payments_and_burn
    dex/farm/src/{lib,base_functions,external_interaction,exit_penalty}.rs
    dex/farm-with-locked-rewards/src/{lib,external_interaction}.rs
    energy-integration/farm-boosted-yields/src/{lib,boosted_yields_factors}.rs
    energy-integration/common-modules/weekly-rewards-splitting (through Core/Weekly.lean)
    energy-integration/energy-factory-mock, locked-asset/energy-factory/src/virtual_lock.rs (lockVirtual: energy effect)
    dex/permissions-hub, common/modules/{sc_whitelist_module,permissions_hub_module,original_owner_helper,pausable}

  Conventions (CONTRIBUTING.md): `BigUint` = `Nat`; a failed transaction is `none`; every `require!`
  is `req`; every checked subtraction `sub?`; every division by a possibly-zero value is guarded.
  The storage cells `reward_reserve`, `reward_per_share`, `farm_token_supply` are only touched
  through `Cache` inside the endpoints that create a `StorageCache` (`Cache.read` … `Cache.drop`):
  a direct write to `St.reserve` between the two would be overwritten by `drop`, exactly as in
  the code (DESIGN.md finding F1, fixed by /repo commit adb7e0d — `claimBoostedRewards` below subtracts
  from the cache).

  Addresses are `Nat`: users `1 … n`, the owner/admin is `OWNER`.
  Not modelled: events, gas, the ESDT system SC issue flow, legacy position migration
  (`farm_position_migration_nonce` is 1, so no position is "old"), a configured pair address for
  penalty burning (penalties are burned locally), `allowExternalClaim` (never settable), u64 overflow.
-/
import MxModel.Core.Arith
import MxModel.Core.Weekly

namespace Mx.Farm

open Mx.Weekly (upd Energy ClaimProgress)

/-- `MAX_PERCENT` -/
def MAXPCT : Nat := 10000
/-- address of the owner (has OWNER | ADMIN | PAUSE permissions) -/
def OWNER : Nat := 100
/-- `EPOCHS_PER_MONTH` of the energy factory -/
def EPOCHS_PER_MONTH : Nat := 30
/-- `MAX_MINIMUM_FARMING_EPOCHS` -/
def MAX_MIN_EPOCHS : Nat := 30
/-- role number of the reward token in reward lists -/
def REW : Nat := 0

inductive Kind | mint | noMint
  deriving DecidableEq, Repr

/-! ### Position-token attributes (`FarmTokenAttributes`) -/

structure Attr where
  /-- `reward_per_share` at creation / last settlement -/
  rps : Nat
  /-- `entering_epoch` -/
  epoch : Nat
  /-- `compounded_reward` -/
  comp : Nat
  /-- `current_farm_amount` -/
  amt : Nat
  /-- `original_owner` -/
  owner : Nat
  deriving DecidableEq, Repr, Inhabited

/-- `FixedSupplyToken::into_part(payment_amount)`: the whole token for the full amount, otherwise the
    compounded reward is scaled by the rule of three (floor); index, epoch, owner unchanged. -/
def Attr.intoPart (a : Attr) (x : Nat) : Option Attr :=
  if x = a.amt then some a
  else do
    req (a.amt ≠ 0)
    pure { a with comp := a.comp * x / a.amt, amt := x }

/-- `Mergeable::merge_with`: index = amount-weighted average rounded UP, amounts and compounded add,
    epoch = max, owner of the left operand. -/
def Attr.mergeWith (a b : Attr) : Option Attr := do
  req (a.amt + b.amt ≠ 0)
  pure { rps := weightedAvgRoundUp a.rps a.amt b.rps b.amt
         epoch := max a.epoch b.epoch
         comp := a.comp + b.comp
         amt := a.amt + b.amt
         owner := a.owner }

/-! ### Boosted-yields factors (`boosted_yields_factors.rs`) -/

structure Factors where
  maxF : Nat
  cE : Nat
  cF : Nat
  minE : Nat
  minF : Nat
  deriving DecidableEq, Repr, Inhabited

/-- `BoostedYieldsConfig { last_update_week, factors_per_week }`: `ring` has 5 slots, slot 4 is the
    current week's, slot `4 − k` the factors in force `k` weeks before `lastUpdateWeek`. -/
structure BCfg where
  lastUpdateWeek : Nat
  ring : List Factors
  deriving DecidableEq, Repr

def RING : Nat := 5

/-- `BoostedYieldsConfig::new` -/
def BCfg.new (W : Nat) (f : Factors) : BCfg := ⟨W, List.replicate RING f⟩

def BCfg.latest (c : BCfg) : Factors := c.ring.getD (RING - 1) default

/-- `BoostedYieldsConfig::update(current_week, opt_new)` -/
def BCfg.update (c : BCfg) (W : Nat) (new : Option Factors) : Option BCfg := do
  req (c.lastUpdateWeek ≤ W)
  let d := min (W - c.lastUpdateWeek) RING
  if d = 0 then
    match new with
    | some f => pure { c with ring := c.ring.set (RING - 1) f }
    | none => pure c
  else
    let last := c.latest
    pure { lastUpdateWeek := W
           ring := c.ring.drop d ++ List.replicate (d - 1) last ++ [new.getD last] }

/-- `get_factors_for_week(week)`: only for the four weeks before `last_update_week`. -/
def BCfg.factorsForWeek (c : BCfg) (week : Nat) : Option Factors := do
  req (week < c.lastUpdateWeek)
  let off := c.lastUpdateWeek - week
  req (off < RING)
  c.ring[RING - 1 - off]?

/-! ### The part of the farm's storage the weekly-splitting callbacks touch -/

structure BSt where
  /-- `accumulatedRewardsForWeek(week)` -/
  accum : Nat → Nat
  /-- `remainingBoostedRewardsToDistribute(week)` -/
  remaining : Nat → Nat
  /-- `farmSupplyForWeek(week)` -/
  farmSupplyWeek : Nat → Nat
  /-- `boostedYieldsConfig` as stored (`none` = empty mapper) -/
  cfg : Option BCfg
  /-- ghost: boosted cut accumulated into week `w`'s pool so far -/
  cutW : Nat → Nat
  /-- ghost: boosted rewards paid out of week `w`'s pool so far -/
  paidW : Nat → Nat
  /-- ghost: what was moved from week `w`'s pool to the undistributed counter -/
  collW : Nat → Nat

/-- `FarmBoostedYieldsWrapper::collect_rewards_for_week`: store the config updated to the current
    week, take the week's accumulated rewards, set them as the week's remaining pool. -/
def collectBoosted (mem : BCfg) : Weekly.CollectFn BSt := fun c week =>
  let total := c.accum week
  ({ c with cfg := some mem, accum := upd c.accum week 0, remaining := upd c.remaining week total },
   [(REW, total)])

/-- the boosted reward of one week: `min(maxF·R·f/F, (R·cE·e/E + R·cF·f/F)/(cE+cF))` -/
def boostedAmount (fa : Factors) (R f F e E : Nat) : Nat :=
  min (fa.maxF * R * f / F) ((R * fa.cE * e / E + R * fa.cF * f / F) / (fa.cE + fa.cF))

/-- `FarmBoostedYieldsWrapper::get_user_rewards_for_week`.  `mem` = the config updated (in memory) to
    the current week, `userFarm` = the user's total farm position read before the claim. -/
def boostedRewards (mem : BCfg) (userFarm : Nat) : Weekly.RewardFn BSt :=
  fun g c week energy totalEnergy =>
    let F := c.farmSupplyWeek week
    if totalEnergy = 0 ∨ F = 0 then some (g, c, [])
    else do
      let fa ← mem.factorsForWeek week
      if energy < fa.minE ∨ userFarm < fa.minF then pure (g, c, [])
      else
        let r := Weekly.collectAndGet (collectBoosted mem) g c week
        match r.2.2 with
        | [] => pure (r.1, r.2.1, [])
        | [(tok, R)] =>
          if R = 0 then pure (r.1, r.2.1, [])
          else do
            req (fa.cE + fa.cF ≠ 0)
            let u := boostedAmount fa R userFarm F energy totalEnergy
            if u = 0 then pure (r.1, r.2.1, [])
            else do
              let rem ← sub? (r.2.1.remaining week) u
              pure (r.1, { r.2.1 with remaining := upd r.2.1.remaining week rem
                                      paidW := upd r.2.1.paidW week (r.2.1.paidW week + u) }, [(tok, u)])
        | _ => none

/-! ### State -/

structure St where
  kind : Kind
  /-- farming token = reward token (only meaningful for `mint`; enables `compoundRewards`) -/
  sameTok : Bool
  -- configuration
  dsc : Nat
  perBlock : Nat
  produce : Bool
  active : Bool
  /-- `boostedYieldsRewardsPercentage` -/
  pct : Nat
  penaltyPct : Nat
  minFarmingEpochs : Nat
  -- the three cached cells + last reward block
  rps : Nat
  reserve : Nat
  supply : Nat
  lastBlock : Nat
  -- time
  block : Nat
  epoch : Nat
  firstWeekStart : Nat
  -- position tokens
  /-- last created farm-token nonce -/
  lastNonce : Nat
  attrs : Nat → Option Attr
  /-- `hold user nonce` = farm tokens of that nonce in the user's account -/
  hold : Nat → Nat → Nat
  /-- `userTotalFarmPosition(user)` (0 = empty mapper) -/
  userTotal : Nat → Nat
  /-- ghost: the accounts that may hold tokens -/
  users : List Nat
  -- boosted yields
  b : BSt
  undist : Nat
  lastCollect : Nat
  w : Weekly.St
  -- energy factory (mock for `mint`, real factory for `noMint`)
  energy : Nat → Option Energy
  lockEpochs : Nat
  -- access
  /-- permissions hub: `(user, authorised address)` -/
  hubWl : List (Nat × Nat)
  hubBl : List Nat
  /-- `scWhitelistAddresses` -/
  scWl : List Nat
  -- ghost: real balances of the farm contract and cumulative counters
  balFarming : Nat
  balReward : Nat
  generated : Nat
  paid : Nat
  paidBase : Nat
  paidBoosted : Nat
  /-- Σ over settled intervals of the base share `perBlock·Δblocks − boosted cut` -/
  baseBudget : Nat
  penaltyBurned : Nat

/-- result of an operation -/
structure Out where
  /-- nonce and amount of the farm token created (0 0 = none) -/
  nonce : Nat := 0
  amt : Nat := 0
  /-- reward payment (base + boosted, or boosted only) -/
  rew : Nat := 0
  /-- farming tokens paid out (exit) -/
  farming : Nat := 0
  /-- ghost split of `rew` -/
  base : Nat := 0
  boosted : Nat := 0
  deriving DecidableEq, Repr

def BSt.init : BSt :=
  { accum := fun _ => 0, remaining := fun _ => 0, farmSupplyWeek := fun _ => 0, cfg := none
    cutW := fun _ => 0, paidW := fun _ => 0, collW := fun _ => 0 }

def init (kind : Kind) (sameTok : Bool) (dsc perBlock : Nat) (produce : Bool) (users : List Nat)
    (epoch0 : Nat) : St :=
  { kind := kind, sameTok := sameTok, dsc := dsc, perBlock := perBlock, produce := produce
    active := true, pct := 0, penaltyPct := 100, minFarmingEpochs := 3
    rps := 0, reserve := 0, supply := 0, lastBlock := 0
    block := 0, epoch := epoch0, firstWeekStart := epoch0
    lastNonce := 0, attrs := fun _ => none, hold := fun _ _ => 0, userTotal := fun _ => 0
    users := users
    b := BSt.init, undist := 0, lastCollect := 0, w := Weekly.St.init
    energy := fun _ => none, lockEpochs := 360
    hubWl := [], hubBl := [], scWl := []
    balFarming := 0, balReward := 0, generated := 0, paid := 0, paidBase := 0, paidBoosted := 0
    baseBudget := 0, penaltyBurned := 0 }

/-- `get_current_week()` -/
def St.week (s : St) : Option Nat := Weekly.weekOf s.epoch s.firstWeekStart

def St.isAdmin (_s : St) (caller : Nat) : Bool := caller = OWNER

/-! ### StorageCache -/

structure Cache where
  reserve : Nat
  rps : Nat
  supply : Nat
  deriving DecidableEq, Repr

/-- `StorageCache::new` -/
def Cache.read (s : St) : Cache := ⟨s.reserve, s.rps, s.supply⟩

/-- `Drop for StorageCache`: the three mutable cells are written back unconditionally. -/
def Cache.drop (s : St) (c : Cache) : St :=
  { s with reserve := c.reserve, rps := c.rps, supply := c.supply }

/-! ### Reward generation (`mint_per_block_rewards`, `generate_aggregated_rewards`, `take_reward_slice`) -/

/-- `take_reward_slice(full)`: returns the boosted cut; the cut is added to the current week's pool. -/
def takeRewardSlice (s : St) (full : Nat) : Option (St × Nat) :=
  if s.pct = 0 then some (s, 0)
  else
    let cut := full * s.pct / MAXPCT
    if cut = 0 then some (s, 0)
    else do
      let W ← s.week
      pure ({ s with b := { s.b with accum := upd s.b.accum W (s.b.accum W + cut)
                                     cutW := upd s.b.cutW W (s.b.cutW W + cut) } }, cut)

/-- `generate_aggregated_rewards` of `Wrapper` / `NoMintWrapper` on a live cache. -/
def generate (s : St) (c : Cache) : Option (St × Cache) :=
  if s.lastBlock < s.block then
    let minted := if s.produce then s.perBlock * (s.block - s.lastBlock) else 0
    let s1 := { s with lastBlock := s.block }
    if minted = 0 then some (s1, c)
    else do
      let s2 := { s1 with generated := s1.generated + minted
                          balReward := if s1.kind = .mint then s1.balReward + minted else s1.balReward }
      let c1 := { c with reserve := c.reserve + minted }
      let (s3, cut) ← takeRewardSlice s2 minted
      let base ← sub? minted cut
      let s4 := { s3 with baseBudget := s3.baseBudget + base }
      if c1.supply = 0 then pure (s4, c1)
      else pure (s4, { c1 with rps := c1.rps + base * s4.dsc / c1.supply })
  else some (s, c)

/-- `DefaultFarmWrapper::calculate_rewards`: `⌊amount·(rps − rps_token)/dsc⌋`, 0 if the token's index is not below. -/
def baseReward (dsc rpsNow : Nat) (amount rpsTok : Nat) : Nat :=
  if rpsTok < rpsNow then amount * (rpsNow - rpsTok) / dsc else 0

/-! ### Boosted claim (`claim_boosted_yields_rewards`, `claim_multi`) -/

def sumRewards (l : List (Weekly.Tok × Nat)) : Nat := (l.map (·.2)).sum

/-- `update_energy_and_progress(user)` -/
def updateEnergyAndProgress (s : St) (user : Nat) : Option St := do
  let W ← s.week
  let cur := Energy.queried (s.energy user) s.epoch
  let g ← Weekly.updateEnergyAndProgress s.w user W cur
  pure { s with w := g }

/-- `Wrapper::calculate_boosted_rewards(user)` = `claim_boosted_yields_rewards`: no config ⇒ reward 0,
    but the user's energy and claim progress are still moved to the current week
    (`update_energy_and_progress(user)`, the repair of finding F6); otherwise
    `claim_multi` with the user's total farm position read now. -/
def claimBoostedYields (s : St) (user : Nat) : Option (St × Nat) :=
  match s.b.cfg with
  | none => (updateEnergyAndProgress s user).map fun s' => (s', 0)
  | some cfg => do
    let W ← s.week
    let mem ← cfg.update W none
    let cur := Energy.queried (s.energy user) s.epoch
    let r ← Weekly.claimMulti (boostedRewards mem (s.userTotal user)) s.w s.b user W cur
    pure ({ s with w := r.1, b := r.2.1 }, sumRewards r.2.2)

/-! ### Paying rewards out -/

/-- energy-factory `lockVirtual(amount, lock_epochs, dest, energy_address)`: the entry of
    `energy_address` is depleted to now, gains `amount·(unlock − now)` and `amount` locked tokens. -/
def lockVirtual (s : St) (energyUser amount : Nat) : Option St := do
  let unlock := (s.epoch + s.lockEpochs) - (s.epoch + s.lockEpochs) % EPOCHS_PER_MONTH
  req (s.epoch < unlock)
  let e := Energy.queried (s.energy energyUser) s.epoch
  let e' : Energy := { amount := e.amount + ((amount * (unlock - s.epoch) : Nat) : Int)
                       lastUpdateEpoch := e.lastUpdateEpoch
                       totalLocked := e.totalLocked + amount }
  pure { s with energy := upd s.energy energyUser (some e') }

/-- `send_payment_non_zero` of the reward token (farm) / `send_to_lock_contract_non_zero` (fwlr);
    `base`/`boosted` only split the ghost counters. -/
def payReward (s : St) (energyUser base boosted : Nat) : Option St := do
  let amount := base + boosted
  let s1 := { s with paid := s.paid + amount, paidBase := s.paidBase + base
                     paidBoosted := s.paidBoosted + boosted }
  if amount = 0 then pure s1
  else match s.kind with
    | .mint => do
        let bal ← sub? s1.balReward amount
        pure { s1 with balReward := bal }
    | .noMint => lockVirtual s1 energyUser amount

/-- pay only in farms of kind `k` (the two contracts pay the boosted part of `enterFarm` at different points) -/
def payRewardIf (s : St) (k : Kind) (energyUser base boosted : Nat) : Option St :=
  if s.kind = k then payReward s energyUser base boosted else some s

/-- `claim_only_boosted_payment(caller)`: boosted rewards, subtracted from `reward_reserve` DIRECTLY
    in storage (only called while no cache is alive). -/
def claimOnlyBoostedPayment (s : St) (user : Nat) : Option (St × Nat) := do
  let (s1, r) ← claimBoostedYields s user
  if r = 0 then pure (s1, 0)
  else do
    let res ← sub? s1.reserve r
    pure ({ s1 with reserve := res }, r)

/-! ### Position bookkeeping -/

/-- debit the caller's account with the farm-token payments, in order (ESDT multi-transfer). -/
def takePayments (s : St) (caller : Nat) : List (Nat × Nat) → Option St
  | [] => some s
  | (n, a) :: rest => do
      req (a ≠ 0)
      req ((s.attrs n).isSome)
      let h ← sub? (s.hold caller n) a
      takePayments { s with hold := upd s.hold caller (upd (s.hold caller) n h) } caller rest

/-- `decrease_user_farm_position`: the recorded owner's total loses the amount (cleared if `≤`). -/
def decreaseOwner (s : St) (owner amount : Nat) : St :=
  { s with userTotal := upd s.userTotal owner (s.userTotal owner - amount) }

def increaseUser (s : St) (user amount : Nat) : St :=
  { s with userTotal := upd s.userTotal user (s.userTotal user + amount) }

/-- the farming tokens of an `enterFarm` arrive in the contract -/
def addFarming (s : St) (amt : Nat) : St := { s with balFarming := s.balFarming + amt }

/-- `amt` farming tokens leave the contract (paid to the user, `pen` of them burned as penalty) -/
def removeFarming (s : St) (amt pen : Nat) : Option St := do
  let bal ← sub? s.balFarming amt
  pure { s with balFarming := bal, penaltyBurned := s.penaltyBurned + pen }

/-- a compounded reward stays in the contract: it moves from the reward part of the balance to the
    farming part and counts as paid -/
def compoundMove (s : St) (base boosted : Nat) : Option St := do
  let bal ← sub? s.balReward (base + boosted)
  pure { s with balReward := bal, balFarming := s.balFarming + (base + boosted)
                paid := s.paid + (base + boosted), paidBase := s.paidBase + base
                paidBoosted := s.paidBoosted + boosted }

/-- `check_and_update_user_farm_position(user, payments)` -/
def checkAndUpdate (s : St) (user : Nat) : List (Nat × Nat) → Option St
  | [] => some s
  | (n, a) :: rest => do
      let att ← s.attrs n
      let s1 := if att.owner ≠ user then increaseUser (decreaseOwner s att.owner a) user a else s
      checkAndUpdate s1 user rest

/-- `merge_attributes_from_payments(base, payments)` -/
def mergeParts (s : St) (base : Attr) : List (Nat × Nat) → Option Attr
  | [] => some base
  | (n, a) :: rest => do
      let att ← s.attrs n
      let part ← att.intoPart a
      let m ← base.mergeWith part
      mergeParts s m rest

/-- `nft_create(amount, attributes)` + send to `to` -/
def createToken (s : St) (to : Nat) (a : Attr) : Option (St × Nat) := do
  req (a.amt ≠ 0)
  let n := s.lastNonce + 1
  pure ({ s with lastNonce := n, attrs := upd s.attrs n (some a)
                 hold := upd s.hold to (upd (s.hold to) n (s.hold to n + a.amt)) }, n)

/-- `set_farm_supply_for_current_week(supply)` -/
def setFarmSupplyWeek (s : St) (supply : Nat) : Option St := do
  let W ← s.week
  pure { s with b := { s.b with farmSupplyWeek := upd s.b.farmSupplyWeek W supply } }

/-- `get_orig_caller_from_opt` -/
def origCaller (s : St) (caller : Nat) (opt : Option Nat) : Option Nat :=
  match opt with
  | some o => do
      req (caller ∈ s.scWl)
      pure o
  | none => some caller

/-- permissions hub `isWhitelisted(user, caller)` -/
def hubAllows (s : St) (user caller : Nat) : Bool :=
  !(s.hubBl.contains caller) && s.hubWl.contains (user, caller)

/-! ### Endpoints -/

/-- common body of `enterFarm` / `enterFarmOnBehalf` after the caller checks:
    boosted claim for `orig` (direct reserve write, no cache alive), then `enter_farm_base`.
    Token goes to `tokenTo`; the boosted reward to `rewTo` (its energy address is `orig`). -/
def enterCore (s : St) (caller orig tokenTo : Nat) (amt : Nat) (extra : List (Nat × Nat)) :
    Option (St × Out) := do
  req (amt ≠ 0)
  let s0 ← takePayments s caller extra
  let (s1, boosted) ← claimOnlyBoostedPayment (addFarming s0 amt) orig
  -- fwlr locks the boosted part before entering; farm sends it afterwards: same net effect on the farm,
  -- but the energy of `orig` changes before `update_energy_and_progress` in fwlr
  let s1 ← payRewardIf s1 .noMint orig 0 boosted
  let c := Cache.read s1
  req s1.active
  let s2 ← checkAndUpdate s1 orig extra
  let s3 := increaseUser s2 orig amt
  let (s4, c1) ← generate s3 c
  let c2 := { c1 with supply := c1.supply + amt }
  let base : Attr := { rps := c2.rps, epoch := s4.epoch, comp := 0, amt := amt, owner := orig }
  let merged ← mergeParts s4 base extra
  let (s5, n) ← createToken s4 tokenTo merged
  let s6 ← setFarmSupplyWeek s5 c2.supply
  let s7 := Cache.drop s6 c2
  let s8 ← payRewardIf s7 .mint orig 0 boosted
  let s9 ← updateEnergyAndProgress s8 orig
  pure (s9, { nonce := n, amt := merged.amt, rew := boosted, boosted := boosted })

/-- `enterFarm(opt_orig_caller)` with payments `[farming amt] ++ extra farm tokens` -/
def enterFarm (s : St) (caller : Nat) (opt : Option Nat) (amt : Nat) (extra : List (Nat × Nat)) :
    Option (St × Out) := do
  let orig ← origCaller s caller opt
  enterCore s caller orig caller amt extra

/-- every farm-token payment must record `user` as original owner (only checked when there is more
    than one payment) -/
def allOwnedBy (s : St) (user : Nat) : List (Nat × Nat) → Bool
  | [] => true
  | (n, _) :: rest => (match s.attrs n with
      | some a => a.owner = user
      | none => false) && allOwnedBy s user rest

/-- `enterFarmOnBehalf(user)`: new token to the caller, boosted rewards to `user`. -/
def enterFarmOnBehalf (s : St) (caller user : Nat) (amt : Nat) (extra : List (Nat × Nat)) :
    Option (St × Out) := do
  req (hubAllows s user caller)
  req (allOwnedBy s user extra)
  enterCore s caller user caller amt extra

/-- the end of `claimRewards` (pay the reward out) / of `compoundRewards` (the reward stays in the
    contract as farming tokens; `update_energy_and_progress`) -/
def claimTail (s : St) (compound : Bool) (orig base boosted : Nat) : Option St :=
  if compound then (compoundMove s base boosted).bind fun s1 => updateEnergyAndProgress s1 orig
  else payReward s orig base boosted

/-- `claim_rewards_base` + endpoint tail; `compound = true` is `compound_rewards_base`. -/
def claimCore (s : St) (caller orig : Nat) (pays : List (Nat × Nat)) (compound : Bool) :
    Option (St × Out) := do
  let (n1, a1) ← pays.head?
  let s0 ← takePayments s caller pays
  let c := Cache.read s0
  req s0.active
  req (compound = true → s0.sameTok = true)
  let at1 ← s0.attrs n1
  let (s1, c1) ← generate s0 c
  let part ← at1.intoPart a1
  let base := baseReward s1.dsc c1.rps a1 part.rps
  let (s2, boosted) ← claimBoostedYields s1 orig
  let reward := base + boosted
  let res ← sub? c1.reserve reward
  let c2 : Cache := { c1 with reserve := res, supply := if compound then c1.supply + reward else c1.supply }
  let s3 ← checkAndUpdate s2 orig pays
  let baseAttr : Attr :=
    if compound then
      { rps := c2.rps, epoch := s3.epoch, comp := part.comp + reward, amt := part.amt + reward, owner := orig }
    else
      { rps := c2.rps, epoch := part.epoch, comp := part.comp, amt := part.amt, owner := orig }
  let merged ← mergeParts s3 baseAttr pays.tail
  let s4 := if compound then increaseUser s3 orig reward else s3
  let (s5, n) ← createToken s4 caller merged
  let s6 ← setFarmSupplyWeek s5 c2.supply
  let s7 := Cache.drop s6 c2
  let s8 ← claimTail s7 compound orig base boosted
  pure (s8, { nonce := n, amt := merged.amt, rew := reward, base := base, boosted := boosted })

/-- `claimRewards(opt_orig_caller)` -/
def claimRewards (s : St) (caller : Nat) (opt : Option Nat) (pays : List (Nat × Nat)) :
    Option (St × Out) := do
  let orig ← origCaller s caller opt
  claimCore s caller orig pays false

/-- `get_claim_original_owner`: all payments record the same, non-zero owner -/
def claimOwner (s : St) : List (Nat × Nat) → Option Nat
  | [] => none
  | (n, _) :: rest => do
      let a ← s.attrs n
      match rest with
      | [] => pure a.owner
      | _ => do
          let o ← claimOwner s rest
          req (o = a.owner)
          pure o

/-- `claimRewardsOnBehalf`: the user is the recorded owner of the payments; new token to the caller,
    rewards to the user. -/
def claimRewardsOnBehalf (s : St) (caller : Nat) (pays : List (Nat × Nat)) : Option (St × Out) := do
  -- the payments have to arrive before their attributes can be read
  let _ ← takePayments s caller pays
  let user ← claimOwner s pays
  req (hubAllows s user caller)
  claimCore s caller user pays false

/-- `compoundRewards(opt_orig_caller)` (dex/farm only) -/
def compoundRewards (s : St) (caller : Nat) (opt : Option Nat) (pays : List (Nat × Nat)) :
    Option (St × Out) := do
  req (s.kind = .mint)
  let orig ← origCaller s caller opt
  claimCore s caller orig pays true

/-- `get_exit_penalty` -/
def exitPenalty (s : St) (amount enteringEpoch : Nat) : Option Nat := do
  let d ← sub? s.epoch enteringEpoch
  if s.minFarmingEpochs ≤ d then pure 0 else pure (amount * s.penaltyPct / MAXPCT)

/-- `clear_user_energy_if_needed(orig)` -/
def clearUserEnergyIfNeeded (s : St) (orig : Nat) : Option St :=
  match s.b.cfg with
  | none => some s
  | some cfg => do
      let W ← s.week
      let mem ← cfg.update W none
      let g ← Weekly.clearUserEnergy s.w orig W s.epoch (s.userTotal orig) mem.latest.minF
      pure { s with w := g }

/-- `exitFarm(opt_orig_caller)` with one farm-token payment -/
def exitFarm (s : St) (caller : Nat) (opt : Option Nat) (n a : Nat) : Option (St × Out) := do
  let orig ← origCaller s caller opt
  let s0 ← takePayments s caller [(n, a)]
  let c := Cache.read s0
  req s0.active
  let att ← s0.attrs n
  let (s1, c1) ← generate s0 c
  let part ← att.intoPart a
  let base := baseReward s1.dsc c1.rps a part.rps
  let (s2, boosted) ← claimBoostedYields s1 orig
  let reward := base + boosted
  let res ← sub? c1.reserve reward
  let s3 := decreaseOwner s2 att.owner a
  let sup ← sub? c1.supply part.amt
  let c2 : Cache := { c1 with reserve := res, supply := sup }
  let s4 ← setFarmSupplyWeek s3 c2.supply
  let pen ← exitPenalty s4 part.amt part.epoch
  let out ← sub? part.amt pen
  let s6 ← removeFarming (Cache.drop s4 c2) part.amt pen
  let s7 ← payReward s6 orig base boosted
  let s8 ← clearUserEnergyIfNeeded s7 orig
  pure (s8, { rew := reward, farming := out, base := base, boosted := boosted })

/-- `merge_from_payments_and_burn` -/
def mergeAll (s : St) : List (Nat × Nat) → Option Attr
  | [] => none
  | (n1, a1) :: rest => do
      let at1 ← s.attrs n1
      let part ← at1.intoPart a1
      mergeParts s part rest

/-- `mergeFarmTokens(opt_orig_caller)`: requires an active contract (fix of F2, /repo 9918e72). -/
def mergeFarmTokens (s : St) (caller : Nat) (opt : Option Nat) (pays : List (Nat × Nat)) :
    Option (St × Out) := do
  req s.active
  let orig ← origCaller s caller opt
  req (pays ≠ [])
  let s0 ← takePayments s caller pays
  let (s1, boosted) ← claimOnlyBoostedPayment s0 orig
  let s2 ← checkAndUpdate s1 orig pays
  let merged ← mergeAll s2 pays
  let (s3, n) ← createToken s2 caller { merged with owner := orig }
  let s4 ← payReward s3 orig 0 boosted
  pure (s4, { nonce := n, amt := merged.amt, rew := boosted, boosted := boosted })

/-- `claimBoostedRewards(opt_user)`; `allowExternalClaim` can never be set, so a foreign user fails. -/
def claimBoostedRewards (s : St) (caller : Nat) (optUser : Option Nat) : Option (St × Out) := do
  let user := optUser.getD caller
  req (user = caller)
  req (s.userTotal user ≠ 0)
  let c := Cache.read s
  req s.active
  let (s1, c1) ← generate s c
  let (s2, boosted) ← claimBoostedYields s1 user
  let res ← sub? c1.reserve boosted
  let c2 := { c1 with reserve := res }
  let s3 ← setFarmSupplyWeek s2 c2.supply
  let s4 ← payReward s3 user 0 boosted
  let s5 := Cache.drop s4 c2
  pure (s5, { rew := boosted, boosted := boosted })

/-! ### Admin -/

/-- cache; generate; drop — what every rate-changing admin endpoint does first -/
def settle (s : St) : Option St := do
  let (s1, c1) ← generate s (Cache.read s)
  pure (Cache.drop s1 c1)

def setPerBlock (s : St) (caller x : Nat) : Option St := do
  req (s.isAdmin caller)
  req (x ≠ 0)
  let s1 ← settle s
  pure { s1 with perBlock := x }

def endProduce (s : St) (caller : Nat) : Option St := do
  req (s.isAdmin caller)
  let s1 ← settle s
  pure { s1 with produce := false }

def startProduce (s : St) (caller : Nat) : Option St := do
  req (s.isAdmin caller)
  req (s.perBlock ≠ 0)
  req (!s.produce)
  pure { s with produce := true, lastBlock := s.block }

def setPct (s : St) (caller p : Nat) : Option St := do
  req (s.isAdmin caller)
  req (p ≤ MAXPCT)
  let s1 ← settle s
  pure { s1 with pct := p }

def setFactors (s : St) (caller : Nat) (f : Factors) : Option St := do
  req (s.isAdmin caller)
  req (0 < f.minE ∧ 0 < f.minF)
  req (0 < f.cE ∨ 0 < f.cF)   -- repair of finding F7: the divisor `cE + cF` of the weekly formula must not be zero
  let W ← s.week
  match s.b.cfg with
  | some cfg => do
      let c' ← cfg.update W (some f)
      pure { s with b := { s.b with cfg := some c' } }
  | none => pure { s with b := { s.b with cfg := some (BCfg.new W f) } }

/-- the loop of `collect_undistributed_boosted_rewards` over weeks `first … first + n − 1` -/
def collectWeeks (b : BSt) (undist : Nat) (first : Nat) : Nat → BSt × Nat
  | 0 => (b, undist)
  | n + 1 =>
      collectWeeks { b with remaining := upd b.remaining first 0
                            collW := upd b.collW first (b.collW first + b.remaining first) }
        (undist + b.remaining first) (first + 1) n

def collectUndistributed (s : St) (caller : Nat) : Option St := do
  req (s.isAdmin caller)
  let W ← s.week
  req (Weekly.USER_MAX_CLAIM_WEEKS + 1 < W)
  let first := s.lastCollect + 1
  let last := W - (Weekly.USER_MAX_CLAIM_WEEKS + 1)
  if last < first then pure s
  else
    let r := collectWeeks s.b s.undist first (last + 1 - first)
    pure { s with b := r.1, undist := r.2, lastCollect := last }

def setActive (s : St) (caller : Nat) (v : Bool) : Option St := do
  req (s.isAdmin caller)
  pure { s with active := v }

def setPenalty (s : St) (caller p : Nat) : Option St := do
  req (s.isAdmin caller)
  req (p < MAXPCT)
  pure { s with penaltyPct := p }

def setMinEpochs (s : St) (caller n : Nat) : Option St := do
  req (s.isAdmin caller)
  req (n ≤ MAX_MIN_EPOCHS)
  pure { s with minFarmingEpochs := n }

/-- endpoint `updateEnergyForUser(user)` (anyone may call it) -/
def updateEnergyForUser (s : St) (user : Nat) : Option St := do
  let W ← s.week
  let cur := Energy.queried (s.energy user) s.epoch
  let g ← Weekly.updateEnergyForUser s.w user W cur
  pure { s with w := g }

/-- plain ESDT transfer of a position token between two accounts -/
def transfer (s : St) (src dst n a : Nat) : Option St := do
  req (a ≠ 0)
  req (src ≠ dst)
  req ((s.attrs n).isSome)
  let h ← sub? (s.hold src n) a
  let s1 := { s with hold := upd s.hold src (upd (s.hold src) n h) }
  pure { s1 with hold := upd s1.hold dst (upd (s1.hold dst) n (s1.hold dst n + a)) }

/-- view `calculateRewardsForGivenPosition(user, amount, attributes)` evaluated as a VM query
    (effects discarded): generate, then base reward of `(amount, attributes.rps)` + boosted of `user`. -/
def calcRewards (s : St) (user amount rpsTok : Nat) : Option Nat := do
  let (s1, c1) ← generate s (Cache.read s)
  let base := baseReward s1.dsc c1.rps amount rpsTok
  let (_, boosted) ← claimBoostedYields s1 user
  pure (base + boosted)

/-! ### Step -/

inductive Op
  | enter (caller : Nat) (orig : Option Nat) (amt : Nat) (extra : List (Nat × Nat))
  | enterOB (caller user amt : Nat) (extra : List (Nat × Nat))
  | claim (caller : Nat) (orig : Option Nat) (pays : List (Nat × Nat))
  | claimOB (caller : Nat) (pays : List (Nat × Nat))
  | compound (caller : Nat) (orig : Option Nat) (pays : List (Nat × Nat))
  | exit (caller : Nat) (orig : Option Nat) (nonce amt : Nat)
  | merge (caller : Nat) (orig : Option Nat) (pays : List (Nat × Nat))
  | claimBoosted (caller : Nat) (user : Option Nat)
  | transfer (src dst nonce amt : Nat)
  | setEnergy (user : Nat) (amount : Int) (last locked : Nat)
  | updateEnergy (user : Nat)
  | setPerBlock (caller x : Nat)
  | startProduce (caller : Nat)
  | endProduce (caller : Nat)
  | setPct (caller p : Nat)
  | setFactors (caller : Nat) (f : Factors)
  | collect (caller : Nat)
  | pause (caller : Nat)
  | resume (caller : Nat)
  | setPenalty (caller p : Nat)
  | setMinEpochs (caller n : Nat)
  | hubWhitelist (user addr : Nat)
  | hubRemove (user addr : Nat)
  | hubBlacklist (addr : Nat)
  | scWhitelist (addr : Nat)
  | scUnwhitelist (addr : Nat)
  | advance (block epoch : Nat)
  | bad

def noOut (r : Option St) : Option (St × Out) := r.map fun s => (s, {})

/-- only accounts of the world (`s.users`) act and hold position tokens -/
def known (s : St) (c : Nat) (r : Option (St × Out)) : Option (St × Out) :=
  if c ∈ s.users then r else none

def step (s : St) : Op → Option (St × Out)
  | .enter c o a e => known s c (enterFarm s c o a e)
  | .enterOB c u a e => known s c (enterFarmOnBehalf s c u a e)
  | .claim c o p => known s c (claimRewards s c o p)
  | .claimOB c p => known s c (claimRewardsOnBehalf s c p)
  | .compound c o p => known s c (compoundRewards s c o p)
  | .exit c o n a => known s c (exitFarm s c o n a)
  | .merge c o p => known s c (mergeFarmTokens s c o p)
  | .claimBoosted c u => known s c (claimBoostedRewards s c u)
  | .transfer a b n x => known s a (known s b (noOut (transfer s a b n x)))
  | .setEnergy u a l t => some ({ s with energy := upd s.energy u (some ⟨a, l, t⟩) }, {})
  | .updateEnergy u => noOut (updateEnergyForUser s u)
  | .setPerBlock c x => noOut (setPerBlock s c x)
  | .startProduce c => noOut (startProduce s c)
  | .endProduce c => noOut (endProduce s c)
  | .setPct c p => noOut (setPct s c p)
  | .setFactors c f => noOut (setFactors s c f)
  | .collect c => noOut (collectUndistributed s c)
  | .pause c => noOut (setActive s c false)
  | .resume c => noOut (setActive s c true)
  | .setPenalty c p => noOut (setPenalty s c p)
  | .setMinEpochs c n => noOut (setMinEpochs s c n)
  | .hubWhitelist u a =>
      if s.hubWl.contains (u, a) then none else some ({ s with hubWl := s.hubWl ++ [(u, a)] }, {})
  | .hubRemove u a =>
      if s.hubWl.contains (u, a) then some ({ s with hubWl := s.hubWl.filter (· ≠ (u, a)) }, {}) else none
  | .hubBlacklist a => some ({ s with hubBl := if s.hubBl.contains a then s.hubBl else s.hubBl ++ [a] }, {})
  | .scWhitelist a =>
      if s.scWl.contains a then none else some ({ s with scWl := s.scWl ++ [a] }, {})
  | .scUnwhitelist a =>
      if s.scWl.contains a then some ({ s with scWl := s.scWl.filter (· ≠ a) }, {}) else none
  | .advance b e =>
      if s.block ≤ b ∧ s.epoch ≤ e then some ({ s with block := b, epoch := e }, {}) else none
  | .bad => none

/-- a history: failed operations leave the state unchanged -/
def run (s : St) (ops : List Op) : St :=
  ops.foldl (fun s o => match step s o with
    | some r => r.1
    | none => s) s

end Mx.Farm
