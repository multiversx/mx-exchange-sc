/-
  C05 — Farm reward accounting is exact and principal is fully backed (dex/farm = kind `mint`,
  dex/farm-with-locked-rewards = kind `noMint`; farm-staking has its own file).

  Statement: the reward reserve the contract reports equals rewards generated so far minus rewards
  paid out (for reward-minting farms: equals the contract's reward-token balance) and covers all
  claimable base rewards plus all not-yet-claimed boosted pools; the farming tokens held equal the
  reported farm-token supply; no legitimate call fails because an internal counter would go negative.

  Model: Core/Farm.lean.  Ghost fields the statements talk about: `generated` (Σ emissions),
  `paid = paidBase + paidBoosted` (Σ rewards paid or locked or compounded), `balFarming`/`balReward`
  (the contract's real balances: principal part / reward part; with farming = reward token the one
  real balance is their sum).  `StorageCache` is modelled as read-at-start / write-back-on-drop.
  This file holds the accounting, backing and no-underflow theorems; the "covers" clause is
  `reserve_covers` in Props/C05Cover.lean.
-/
import MxModel.Lemmas.FarmAcct
import MxModel.Lemmas.FarmSafe

namespace Mx.C05
open Mx.Farm

theorem acct_step {s s' : St} {op : Op} {o : Out} (hA : Acct s) (h : step s op = some (s', o)) : Acct s' :=
  step_acct hA h

/-- **reserve_exact.**  After every history on a freshly deployed farm of either kind, with any
    division-safety constant, rate and configuration changes along the way:
    `reward_reserve = generated − paid`. -/
theorem reserve_exact (kind : Kind) (same : Bool) (dsc pb : Nat) (produce : Bool) (users : List Nat)
    (e0 : Nat) (ops : List Op) :
    let s := run (init kind same dsc pb produce users e0) ops
    s.reserve = s.generated - s.paid ∧ s.paid ≤ s.generated ∧ s.paid = s.paidBase + s.paidBoosted := by
  intro s
  have h := run_acct ops (init_acct kind same dsc pb produce users e0)
  have h1 : s.reserve + s.paid = s.generated := h.res
  have h2 : s.paid = s.paidBase + s.paidBoosted := h.split
  exact ⟨by omega, by omega, h2⟩

/-- **reserve_is_balance.**  In a reward-minting farm the reward part of the contract's balance is
    exactly the reported reserve (with farming ≠ reward token this is the whole reward-token balance;
    with farming = reward token the single real balance is `supply + reserve`, see `same_token_balance`).
    A locked-rewards farm never holds reward tokens. -/
theorem reserve_is_balance (kind : Kind) (same : Bool) (dsc pb : Nat) (produce : Bool) (users : List Nat)
    (e0 : Nat) (ops : List Op) :
    let s := run (init kind same dsc pb produce users e0) ops
    (kind = .mint → s.balReward = s.reserve) ∧ (kind = .noMint → s.balReward = 0) := by
  intro s
  have h := run_acct ops (init_acct kind same dsc pb produce users e0)
  have hk : s.kind = kind := by
    show (run (init kind same dsc pb produce users e0) ops).kind = kind
    exact run_kind ops _
  exact ⟨fun hm => h.bal (hk.trans hm), fun hn => h.balN (hk.trans hn)⟩

/-- **principal_backed.**  The farming tokens held for positions always equal the reported
    farm-token supply: every position's principal is there to be withdrawn. -/
theorem principal_backed (kind : Kind) (same : Bool) (dsc pb : Nat) (produce : Bool) (users : List Nat)
    (e0 : Nat) (ops : List Op) :
    (run (init kind same dsc pb produce users e0) ops).balFarming =
      (run (init kind same dsc pb produce users e0) ops).supply :=
  (run_acct ops (init_acct kind same dsc pb produce users e0)).prin

/-- the real single-token balance of a farm whose farming token is its reward token -/
theorem same_token_balance (same : Bool) (dsc pb : Nat) (produce : Bool) (users : List Nat)
    (e0 : Nat) (ops : List Op) :
    let s := run (init .mint same dsc pb produce users e0) ops
    s.balFarming + s.balReward = s.supply + s.reserve := by
  intro s
  have h := run_acct ops (init_acct .mint same dsc pb produce users e0)
  have hk : s.kind = .mint := run_kind ops _
  have h1 : s.balReward = s.reserve := h.bal hk
  have h2 : s.balFarming = s.supply := h.prin
  omega

/-- **no_underflow (supply).**  In every reachable state, whoever holds `a > 0` of a position can
    take it out: `a ≤ farm_token_supply`, so the checked subtraction of `exitFarm` cannot fail. -/
theorem no_underflow_supply (kind : Kind) (same : Bool) (dsc pb : Nat) (produce : Bool) (users : List Nat)
    (e0 : Nat) (hnd : users.Nodup) (ops : List Op) (u n a : Nat) :
    let s := run (init kind same dsc pb produce users e0) ops
    a ≠ 0 → a ≤ s.hold u n → a ≤ s.supply ∧ a ≤ s.balFarming := by
  intro s ha h
  have hP := reachable_posInv kind same dsc pb produce users e0 hnd ops
  have hA := run_acct ops (init_acct kind same dsc pb produce users e0)
  have h1 : a ≤ s.supply := held_le_supply hP ha h
  have h2 : s.balFarming = s.supply := hA.prin
  exact ⟨h1, by omega⟩

/-- **no_underflow (owner total).**  … and out of the recorded owner's tracked total: the saturating
    `decrease_user_farm_position` never actually saturates, whoever the acting account is. -/
theorem no_underflow_owner_total (kind : Kind) (same : Bool) (dsc pb : Nat) (produce : Bool)
    (users : List Nat) (e0 : Nat) (hnd : users.Nodup) (ops : List Op) (u n a : Nat) (att : Attr) :
    let s := run (init kind same dsc pb produce users e0) ops
    a ≠ 0 → a ≤ s.hold u n → s.attrs n = some att → a ≤ s.userTotal att.owner := by
  intro s ha h hat
  exact held_le_ownerTotal (reachable_posInv kind same dsc pb produce users e0 hnd ops) ha h hat

/-- a failed transaction leaves the state untouched (atomicity as modelled) -/
theorem failed_tx_no_effect (s : St) (op : Op) (h : step s op = none) : run s [op] = s := by
  simp [run, h]

/-- non-vacuity: the history of corpus/farm/f1_claim_boosted.ops (boosted 25 %, one week of 10
    blocks, `claimBoostedRewards` in the second week) — every counter of the invariant is live -/
example :
    let s := run (init .mint false 1000000000000 1000 true [1, 2] 0)
      [.setFactors OWNER ⟨10, 3, 2, 1, 1⟩, .setPct OWNER 2500, .setEnergy 1 1000000 0 1000,
       .enter 1 none 100000000 [], .advance 10 6, .claim 1 none [(1, 100000000)], .advance 10 7,
       .claimBoosted 1 none]
    s.reserve = 0 ∧ s.generated = 10000 ∧ s.paid = 10000 ∧ s.paidBoosted = 2500 ∧
      s.balReward = 0 ∧ s.balFarming = 100000000 ∧ s.supply = 100000000 := by decide

end Mx.C05
