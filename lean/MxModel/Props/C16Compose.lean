/-
  C16 composed with the MODELS of the proxy-dex's callees — the energy factory (Core/Energy.lean)
  and the farm (Core/Farm.lean, both kinds; `noMint` = farm-with-locked-rewards).

  Props/C16.lean and Props/C16Run.lean quantify over the callees' recorded answers and assume the
  named callee facts `FactoryMergeOK` (the factory's merge / extension returns the sum of the locked
  amounts sent), `FarmExact` and `FarmOK` (a farm creates as many farm tokens as farming tokens
  entered / claimed / merged).  The driver checks them on every recorded answer; here they are
  PROVED from the callee models: whatever state the factory / farm model is in, if the recorded
  answer is what that model returns for the payments the proxy model sends, the fact holds.
  So for the triple (proxy model, factory model, farm model) the C16 theorems need no assumption
  about the callees' amounts.

  Beyond the amounts: the SCHEDULE of a merged / extended locked token (C16, first sentence:
  "… the same lock schedule").  A merged token is a NEW nonce whose unlock epoch is the factory's
  `token_merging.rs` rule — pairwise amount-weighted average rounded up, then
  `unlock_epoch_to_start_of_month_upper_estimate`.  What is true and proved: the merged token is
  still locked; its epoch is a month start; it is never earlier than the month start of the
  earliest merged epoch and never later than one month after the month start of the latest; and,
  since every epoch the factory model hands out is a month start in every reachable state
  (`run_aligned`, Lemmas/EnergyMerge.lean), it lies between the earliest and the latest merged
  epoch (`merged_between_inputs`).  So merging never lets locked tokens out before the earliest
  input would have been free — but it DOES shorten the lock of the later inputs (not "the same
  schedule": by design of the factory's merge, see the example at the end).  An extended token
  unlocks strictly later than before.

  Caveat: the tied factory model has no `extendLockPeriod(epochs, user)` endpoint (used by
  `increaseProxy…TokenEnergy`); its `extendLock` is `lockTokens` paid with a locked token, which runs
  the same `extend_new_token_period` but on the CALLER's energy entry, so the proxy cannot run it for
  a user.  `Energy.extendPeriodFor` (Lemmas/EnergyMerge.lean) transcribes the endpoint with the
  energy address as a parameter; it equals the tied operation for `user = caller`
  (`extension_is_model_op`) but is itself NOT exercised by a correspondence run.  The farm model has
  one farming token, so "locked tokens go to the base-asset farm, wrapped LP to an LP farm" (the
  farm rejecting a foreign token) stays a hypothesis (`farmIsBase farm = …`).
-/
import MxModel.Lemmas.EnergyMerge
import MxModel.Lemmas.FarmAnswers
import MxModel.Lemmas.ProxyDexFactory
import MxModel.Lemmas.ProxyDexNetOps
import MxModel.Lemmas.ProxyDexLpOps

namespace Mx.C16Compose
open Mx.ProxyDex


/-- **what the factory model answers to `mergeTokens`**, for every state, caller, original caller
    and payment list: ONE locked token for the SUM of the merged amounts (non-zero), credited to
    the caller; an original caller may only be named by a whitelisted contract. -/
theorem factory_merge_answer {σ σ' : Energy.St} {c orig : Nat} {ps : List (Nat × Nat)}
    {eo : Energy.Out} (h : Energy.mergeTokens σ c orig ps = some (σ', eo)) :
    eo.v2 = (ps.map (·.2)).sum ∧ 0 < eo.v2 ∧ eo.v2 ≤ σ'.bal c eo.v1 ∧ (orig = 0 ∨ c ∈ σ.wl) := by
  obtain ⟨h1, h2, h3, -⟩ := Energy.mergeTokens_answer h
  exact ⟨h1, h2, Energy.mergeTokens_credited h, h3⟩

/-- **schedule of a merged token** (token_merging.rs): every merged token was still locked; the
    answer is still locked, its unlock epoch `unl` is a month start, and for every interval
    `[lo, hi]` containing the unlock epochs of all merged tokens
    `startOfMonth lo ≤ unl ≤ startOfMonth hi + 30`; if `lo`, `hi` are month starts, `lo ≤ unl ≤ hi`:
    never earlier than the earliest input, never later than the latest. -/
theorem merged_schedule {σ σ' : Energy.St} {c orig : Nat} {ps : List (Nat × Nat)}
    {eo : Energy.Out} (h : Energy.mergeTokens σ c orig ps = some (σ', eo)) :
    (∀ p ∈ ps, ∃ u, σ.unlockOf p.1 = some u ∧ σ.epoch < u) ∧
    ∃ unl, σ'.unlockOf eo.v1 = some unl ∧ σ.epoch < unl ∧ unl % 30 = 0 ∧
      ∀ lo hi, (∀ p ∈ ps, ∀ u, σ.unlockOf p.1 = some u → lo ≤ u ∧ u ≤ hi) →
        Energy.startOfMonth lo ≤ unl ∧ unl ≤ Energy.startOfMonth hi + 30 ∧
        (lo % 30 = 0 → hi % 30 = 0 → lo ≤ unl ∧ unl ≤ hi) := by
  obtain ⟨-, -, -, h4, h5, -⟩ := Energy.mergeTokens_answer h
  exact ⟨h4, h5⟩

/-- **schedule of a merged token, in every reachable state of the factory model** (any
    configuration, any history): every unlock epoch the factory ever handed out is a month start
    (`Energy.run_aligned`), so the merged token unlocks NOT BEFORE the earliest and NOT AFTER the
    latest of the merged tokens: if `lo` and `hi` are the unlock epochs of two of the payments and
    bound all of them, `lo ≤ unl ≤ hi`.  In particular merging tokens of one unlock epoch keeps
    that epoch, and no merge can make anything unlockable earlier than its earliest input. -/
theorem merged_between_inputs (cfg : Energy.Cfg) (ops : List Energy.Op) {σ' : Energy.St}
    {c orig : Nat} {ps : List (Nat × Nat)} {eo : Energy.Out}
    (h : Energy.mergeTokens (Energy.run (Energy.init cfg) ops) c orig ps = some (σ', eo)) :
    let σ := Energy.run (Energy.init cfg) ops
    ∃ unl, σ'.unlockOf eo.v1 = some unl ∧ σ.epoch < unl ∧
      ∀ lo hi, (∀ p ∈ ps, ∀ u, σ.unlockOf p.1 = some u → lo ≤ u ∧ u ≤ hi) →
        (∃ p ∈ ps, σ.unlockOf p.1 = some lo) → (∃ p ∈ ps, σ.unlockOf p.1 = some hi) →
        lo ≤ unl ∧ unl ≤ hi := by
  intro σ
  have hal : Energy.MonthAligned σ.nonces := Energy.run_aligned ops (Energy.init_aligned cfg)
  obtain ⟨-, unl, h1, h2, -, hB⟩ := merged_schedule h
  refine ⟨unl, h1, h2, fun lo hi hb hlo hhi => ?_⟩
  obtain ⟨_, _, hlo'⟩ := hlo
  obtain ⟨_, _, hhi'⟩ := hhi
  exact (hB lo hi hb).2.2 (hal.unlockOf hlo') (hal.unlockOf hhi')


/-- `mergeWrappedLpTokens`: the proxy model sends `sentW s l` (the locked parts of the merged
    wrapped LP tokens — `takeWs_sends`); the factory model's answer satisfies `FactoryMergeOK` -/
theorem factoryMergeOK_mergeLp {s : St} {l : List (Nat × Nat)} {t : LkTok}
    {σ σ' : Energy.St} {c orig : Nat} {eo : Energy.Out}
    (hE : Energy.mergeTokens σ c orig (sentW s l) = some (σ', eo)) (hrec : t.amt = eo.v2) :
    FactoryMergeOK s (.mergeLp l t) := by
  have := (factory_merge_answer hE).1
  rw [sentW_sum] at this
  simp [FactoryMergeOK, factoryOKb, hrec, this]

/-- `mergeWrappedFarmTokens`: payments `sentF s l` (the locked tokens behind the merged wrapped
    farm tokens, `Moved.takeF`) -/
theorem factoryMergeOK_mergeFarm {s : St} {farm : Nat} {l : List (Nat × Nat)} {mf : Nat × Nat}
    {t : LkTok} {rew : Option LkTok} {stray : List LkTok}
    {σ σ' : Energy.St} {c orig : Nat} {eo : Energy.Out}
    (hE : Energy.mergeTokens σ c orig (sentF s l) = some (σ', eo)) (hrec : t.amt = eo.v2) :
    FactoryMergeOK s (.mergeFarm farm l mf t rew stray) := by
  have := (factory_merge_answer hE).1
  rw [sentF_sum] at this
  simp [FactoryMergeOK, factoryOKb, hrec, this]

/-- `addLiquidityProxy` with merging: the new position's locked tokens `(k, ul)` and the locked
    parts of the merged wrapped LP tokens -/
theorem factoryMergeOK_addLiq {s : St} {k la oa lp ul uo : Nat} {a : Nat × Nat}
    {l : List (Nat × Nat)} {t : LkTok} {σ σ' : Energy.St} {c orig : Nat} {eo : Energy.Out}
    (hE : Energy.mergeTokens σ c orig ((k, ul) :: sentW s (a :: l)) = some (σ', eo))
    (hrec : t.amt = eo.v2) :
    FactoryMergeOK s (.addLiq k la oa (a :: l) lp ul uo (some t)) := by
  have := (factory_merge_answer hE).1
  rw [List.map_cons, List.sum_cons, sentW_sum] at this
  simp only [FactoryMergeOK, factoryOKb, hrec, this, beq_self_eq_true]

/-- `enterFarmProxy` with locked tokens and merging -/
theorem factoryMergeOK_enterL {s : St} {farm k a : Nat} {b : Nat × Nat} {l : List (Nat × Nat)}
    {ft mf : Nat × Nat} {rew : Option LkTok} {t : LkTok} {stray : List LkTok}
    {σ σ' : Energy.St} {c orig : Nat} {eo : Energy.Out}
    (hE : Energy.mergeTokens σ c orig ((k, a) :: sentF s (b :: l)) = some (σ', eo))
    (hrec : t.amt = eo.v2) :
    FactoryMergeOK s (.enterL farm k a (b :: l) ft rew (some (mf, t)) stray) := by
  have := (factory_merge_answer hE).1
  rw [List.map_cons, List.sum_cons, sentF_sum] at this
  simp only [FactoryMergeOK, factoryOKb, hrec, this, beq_self_eq_true]

/-- `enterFarmProxy` with a wrapped LP token and merging -/
theorem factoryMergeOK_enterW {s : St} {farm w a : Nat} {b : Nat × Nat} {l : List (Nat × Nat)}
    {ft mf : Nat × Nat} {rew : Option LkTok} {t : LkTok} {stray : List LkTok}
    {σ σ' : Energy.St} {c orig : Nat} {eo : Energy.Out}
    (hE : Energy.mergeTokens σ c orig
            ((kOfW s.aw w, lockedA s.aw w a) :: sentF s (b :: l)) = some (σ', eo))
    (hrec : t.amt = eo.v2) :
    FactoryMergeOK s (.enterW farm w a (b :: l) ft rew (some (mf, t)) stray) := by
  have := (factory_merge_answer hE).1
  rw [List.map_cons, List.sum_cons, sentF_sum] at this
  simp only [FactoryMergeOK, factoryOKb, hrec, this, beq_self_eq_true]

/-- **period extension** (`extendLockPeriod(epochs, user)`, `Energy.extendPeriodFor` — see its
    caveat: the tied factory model has the same code only with the caller's own energy entry,
    `extension_is_model_op`): the SAME amount comes back, credited to the caller, under a nonce that
    unlocks at the requested month start, strictly later than the old epoch and than now; hence
    `FactoryMergeOK` for `increaseProxyPairTokenEnergy` / `increaseProxyFarmTokenEnergy`, and the
    schedule clause for an extended token: it unlocks strictly LATER than before. -/
theorem factoryMergeOK_increase {s : St} {t : LkTok} {σ σ' : Energy.St} {c user n amt ep : Nat}
    {eo : Energy.Out} (hE : Energy.extendPeriodFor σ c user n amt ep = some (σ', eo))
    (hrec : t.amt = eo.v2) :
    (∀ w x, n = kOfW s.aw w → amt = lockedA s.aw w x → FactoryMergeOK s (.incLp w x t)) ∧
    (∀ f x, n = kOfF s.aw s.af f → amt = lockedFA s.aw s.af f x →
      FactoryMergeOK s (.incFarm f x t)) ∧
    eo.v2 ≤ σ'.bal c eo.v1 ∧
    ∃ old, σ.unlockOf n = some old ∧ old < Energy.startOfMonth (σ.epoch + ep) ∧
      σ.epoch < Energy.startOfMonth (σ.epoch + ep) ∧
      σ'.unlockOf eo.v1 = some (Energy.startOfMonth (σ.epoch + ep)) := by
  obtain ⟨h1, -, -, hc, old, h2, h3, h4, h5, -⟩ := Energy.extendPeriodFor_answer hE
  refine ⟨fun w x _ ha => ?_, fun f x _ ha => ?_, by rw [h1]; exact hc, old, h2, h3, h4, h5⟩
  · simp [FactoryMergeOK, factoryOKb, hrec, h1, ha]
  · simp [FactoryMergeOK, factoryOKb, hrec, h1, ha]

/-- the extension a user runs for himself in the tied factory model (`lockTokens` paid with a locked
    token) is the same function with `user = caller` -/
theorem extension_is_model_op (σ : Energy.St) (c n amt ep dest : Nat) (hd : dest = 0 ∨ dest = c) :
    Energy.step σ (.extend c n amt ep dest) = Energy.extendPeriodFor σ c c n amt ep :=
  Energy.extendLock_eq σ c n amt ep dest hd


/-- **`mergeWrappedLpTokens` ∘ energy factory model.**  Let the merge succeed in the proxy model
    with recorded answer `t`, and let `t` be what the factory model returns when the proxy `c`
    (a whitelisted contract, on behalf of `orig`) sends the locked parts `sentW s l`; let the
    proxy's knowledge of the merged nonces' unlock epochs (`s.unl`) agree with the factory.  Then
    * nothing the merged tokens record is lost: reserved locked tokens `RT`, wrapped LP in user
      hands `C`, the proxy's LP balance and the base+locked supply ledger `net` are unchanged;
    * per locked nonce the proxy's balance moves by exactly what it sent and what it got back, and
      the factory model did credit the answer to the proxy;
    * the new wrapped token records nonce `t.k`, whose unlock epoch `t.unl` the proxy now knows; it
      is in the future, a month start, and for every `[lo, hi]` containing the known unlock epochs
      of the merged tokens `startOfMonth lo ≤ t.unl ≤ startOfMonth hi + 30`, and `lo ≤ t.unl ≤ hi`
      when `lo`, `hi` are month starts. -/
theorem merge_lp_composed {s s' : St} {l : List (Nat × Nat)} {t : LkTok} {o : Out}
    (h : mergeLp s l t = some (s', o))
    {σ σ' : Energy.St} {c orig : Nat} {eo : Energy.Out}
    (hE : Energy.mergeTokens σ c orig (sentW s l) = some (σ', eo))
    (hrec : t.k = eo.v1 ∧ t.amt = eo.v2 ∧ σ'.unlockOf eo.v1 = some t.unl)
    (hknow : ∀ wx ∈ l, σ.unlockOf (kOfW s.aw wx.1) = some (s.unl (kOfW s.aw wx.1))) :
    (RT s' = RT s ∧ C s' = C s ∧ s'.lp = s.lp ∧ s'.net = s.net) ∧
    (∀ κ, s'.lk κ + amtOf κ (sentW s l) = s.lk κ + (if κ = t.k then t.amt else 0)) ∧
    t.amt ≤ σ'.bal c t.k ∧
    (s'.unl t.k = t.unl ∧ σ.epoch < t.unl ∧ t.unl % 30 = 0 ∧
      ∀ lo hi, (∀ wx ∈ l, lo ≤ s.unl (kOfW s.aw wx.1) ∧ s.unl (kOfW s.aw wx.1) ≤ hi) →
        Energy.startOfMonth lo ≤ t.unl ∧ t.unl ≤ Energy.startOfMonth hi + 30 ∧
        (lo % 30 = 0 → hi % 30 = 0 → lo ≤ t.unl ∧ t.unl ≤ hi)) := by
  obtain ⟨hk, ha, hu⟩ := hrec
  have hok : FactoryMergeOK s (.mergeLp l t) := factoryMergeOK_mergeLp hE ha
  have hamt : t.amt = lockedWs s l := by simpa [FactoryMergeOK, factoryOKb] using hok
  obtain ⟨-, -, m⟩ := mergeLp_moved h
  have d1 : RT s' + lockedWs s l = RT s + t.amt := m.rt
  have d3 : C s' + sumX l = C s + sumX l := m.c
  obtain ⟨-, -, hcred, -⟩ := factory_merge_answer hE
  obtain ⟨-, unl, hu', hlt, hal, hB⟩ := merged_schedule hE
  rw [hu] at hu'
  simp only [Option.some.injEq] at hu'
  subst hu'
  -- the proxy's own state
  obtain ⟨s1, sx, -, h1, rfl, -⟩ := mergeLp_spec h
  have hs := takeWs_sends h1
  refine ⟨⟨by omega, by omega, m.lp, m.net.trans (by dsimp only; omega)⟩, ?_, ?_, ?_, hlt, hal, ?_⟩
  · intro κ
    have := hs κ
    show (if κ = t.k then s1.lk κ + t.amt else s1.lk κ) + _ = _
    split <;> omega
  · rw [hk, ha]; exact hcred
  · show (if t.k = t.k then t.unl else s1.unl t.k) = t.unl
    rw [if_pos rfl]
  · intro lo hi hb
    refine hB lo hi ?_
    intro p hp u hpu
    simp only [sentW, List.mem_map] at hp
    obtain ⟨wx, hwx, rfl⟩ := hp
    rw [hknow wx hwx] at hpu
    simp only [Option.some.injEq] at hpu
    subst hpu
    exact hb wx hwx


/-- `enterFarmProxy` with locked tokens, no merging: the proxy mints `a` base asset and enters the
    farm on behalf of the user; the farm model's token is for exactly `a` -/
theorem farmExact_enterL {φ φ' : Farm.St} {proxy : Nat} {user : Option Nat} {fo : Farm.Out}
    {farm k a : Nat} {ft : Nat × Nat} {rew : Option LkTok} {m : Option ((Nat × Nat) × LkTok)}
    {stray : List LkTok} (hfarm : farmIsBase farm = true)
    (hF : Farm.enterFarm φ proxy user a [] = some (φ', fo)) (hrec : ft = (fo.nonce, fo.amt)) :
    FarmExact (.enterL farm k a [] ft rew m stray) := by
  obtain ⟨-, h2, -⟩ := Farm.enterFarm_answer hF
  simp [FarmExact, farmEqb, hfarm, hrec, h2, Farm.paySum]

/-- `enterFarmProxy` with locked tokens and merging: the proxy enters with `a`, then sends the new
    farm token together with the farm tokens `fps` behind the merged wrapped farm tokens (same
    amounts as the wrapped payments) to the farm's `mergeFarmTokens`; the merged farm token is for
    `a + Σ merged` -/
theorem farmExact_enterL_merge {φ φ1 φ2 : Farm.St} {proxy : Nat} {user : Option Nat}
    {fo mo : Farm.Out} {farm k a : Nat} {b : Nat × Nat} {l : List (Nat × Nat)}
    {fps : List (Nat × Nat)} {ft mf : Nat × Nat} {rew : Option LkTok} {t : LkTok}
    {stray : List LkTok} (hfarm : farmIsBase farm = true)
    (hF : Farm.enterFarm φ proxy user a [] = some (φ1, fo))
    (hM : Farm.mergeFarmTokens φ1 proxy user ((fo.nonce, fo.amt) :: fps) = some (φ2, mo))
    (hamts : fps.map (·.2) = (b :: l).map (·.2)) (hrec : mf = (mo.nonce, mo.amt)) :
    FarmExact (.enterL farm k a (b :: l) ft rew (some (mf, t)) stray) := by
  obtain ⟨-, h2, -⟩ := Farm.enterFarm_answer hF
  have h3 := Farm.mergeFarmTokens_answer hM
  have h4 : mo.amt = a + paySum (b :: l) := by
    rw [h3]; simp only [Farm.paySum]; rw [Farm.paySum_eq_sum, hamts, h2]; simp [Farm.paySum, paySum]
  simp only [FarmExact, farmEqb, hfarm, hrec, h4, beq_self_eq_true, Bool.and_self]

/-- `claimRewardsProxy`: the farm model's new position is for exactly the amount claimed with -/
theorem farmExact_claim {φ φ' : Farm.St} {proxy : Nat} {user : Option Nat} {fo : Farm.Out}
    {farm f x fn : Nat} {ft : Nat × Nat} {rew : Option LkTok}
    (hF : Farm.claimRewards φ proxy user [(fn, x)] = some (φ', fo)) (hrec : ft = (fo.nonce, fo.amt)) :
    FarmExact (.claim farm f x ft rew) ∧ FarmOK (.claim farm f x ft rew) := by
  have h := Farm.claimRewards_answer hF
  have hx : fo.amt = x := by rw [h]; simp [Farm.paySum]
  constructor
  · simp [FarmExact, farmEqb, hrec, hx]
  · show x ≤ ft.2
    rw [hrec, hx]

/-- `mergeWrappedFarmTokens`: the farm model's merged token is for the sum of the merged amounts -/
theorem farmExact_mergeFarm {φ φ' : Farm.St} {proxy : Nat} {user : Option Nat} {mo : Farm.Out}
    {farm : Nat} {l fps : List (Nat × Nat)} {mf : Nat × Nat} {t : LkTok} {rew : Option LkTok}
    {stray : List LkTok}
    (hM : Farm.mergeFarmTokens φ proxy user fps = some (φ', mo))
    (hamts : fps.map (·.2) = l.map (·.2)) (hrec : mf = (mo.nonce, mo.amt)) :
    FarmExact (.mergeFarm farm l mf t rew stray) ∧ FarmOK (.mergeFarm farm l mf t rew stray) := by
  have h3 := Farm.mergeFarmTokens_answer hM
  have h4 : mo.amt = paySum l := by rw [h3, Farm.paySum_eq_sum, hamts]; rfl
  constructor
  · simp [FarmExact, farmEqb, hrec, h4]
  · show sumX l ≤ mf.2
    rw [hrec, h4]; exact Nat.le_refl _

/-- `enterFarmProxy` with a wrapped LP token: the LP tokens entered come back as as many farm
    tokens (`FarmOK`, the fact the LP-backing invariant `wrapped_lp_tokens_backed` needs), without
    and with merging -/
theorem farmOK_enterW {φ φ1 : Farm.St} {proxy : Nat} {user : Option Nat} {fo : Farm.Out}
    {farm w a : Nat} {ft : Nat × Nat} {rew : Option LkTok} {stray : List LkTok}
    (hfarm : farmIsBase farm = false)
    (hF : Farm.enterFarm φ proxy user a [] = some (φ1, fo)) (hrec : ft = (fo.nonce, fo.amt)) :
    FarmOK (.enterW farm w a [] ft rew none stray) ∧
    FarmExact (.enterW farm w a [] ft rew none stray) ∧
    ∀ (φ2 : Farm.St) (mo : Farm.Out) (b : Nat × Nat) (l fps : List (Nat × Nat)) (mf : Nat × Nat)
      (t : LkTok),
      Farm.mergeFarmTokens φ1 proxy user ((fo.nonce, fo.amt) :: fps) = some (φ2, mo) →
      fps.map (·.2) = (b :: l).map (·.2) → mf = (mo.nonce, mo.amt) →
      FarmOK (.enterW farm w a (b :: l) ft rew (some (mf, t)) stray) := by
  obtain ⟨-, h2, -⟩ := Farm.enterFarm_answer hF
  have hfa : fo.amt = a := by rw [h2]; simp [Farm.paySum]
  refine ⟨⟨hfarm, fun _ => ?_, fun mf t hm => by cases hm⟩, by simp [FarmExact, farmEqb, hfarm], ?_⟩
  · rw [hrec, hfa]
  · intro φ2 mo b l fps mf t hM hamts hmf
    have h3 := Farm.mergeFarmTokens_answer hM
    have h4 : mo.amt = a + sumX (b :: l) := by
      rw [h3]; simp only [Farm.paySum]; rw [Farm.paySum_eq_sum, hamts, hfa]; rfl
    refine ⟨hfarm, fun hc => (by cases hc), fun mf' t' hm => ?_⟩
    simp only [Option.some.injEq, Prod.mk.injEq] at hm
    obtain ⟨rfl, -⟩ := hm
    rw [hmf, h4]

/-- **`exitFarmProxy` ∘ farm model**: the farming tokens the farm model pays for the position `x`
    are `x` minus the farm's penalty — nothing while the position is `minFarmingEpochs` old,
    `⌊x·penaltyPct/10000⌋` before — so the proxy model's guard `farming ≤ x` is always met, an exit
    of an old enough position is the proxy's no-penalty branch (`x = farming`), and the locked
    tokens the proxy burns for an early exit (`x − farming`) are exactly the farm's penalty. -/
theorem exit_answer {φ φ' : Farm.St} {proxy : Nat} {user : Option Nat} {fo : Farm.Out} {fn x : Nat}
    (hF : Farm.exitFarm φ proxy user fn x = some (φ', fo)) :
    fo.farming ≤ x ∧
    ∃ att, φ.attrs fn = some att ∧ att.epoch ≤ φ.epoch ∧
      (φ.minFarmingEpochs ≤ φ.epoch - att.epoch → fo.farming = x) ∧
      (¬ φ.minFarmingEpochs ≤ φ.epoch - att.epoch →
        x - fo.farming = min x (x * φ.penaltyPct / Farm.MAXPCT)) := by
  obtain ⟨att, h1, h2, h3, h4⟩ := Farm.exitFarm_answer hF
  refine ⟨h4, att, h1, h2, fun hm => ?_, fun hm => ?_⟩
  · rw [h3, if_pos hm]; rfl
  · rw [h3, if_neg hm]
    generalize x * φ.penaltyPct / Farm.MAXPCT = q
    omega

/-- the factory configuration of the example in `Props/C08Attr`: proxy 250 is whitelisted and holds
    500 tokens unlocking at 360 and 400 unlocking at 720, the energy of both booked on user 3 -/
def factoryBefore : Energy.St :=
  Energy.run (Energy.init { epoch := 5, opts := [(360, 4000), (720, 6000), (1440, 8000)], unbond := 10,
                            burnPct := 5000, minLock := 4, cooldown := 6, users := 3, funds := 1000000 })
    [.cfg (.whitelist 250), .lockVirtual 250 500 360 250 3, .lockVirtual 250 400 720 250 3]

/-- the proxy side: two wrapped LP tokens recording 500 locked @ nonce 1 and 400 @ nonce 2 -/
def proxyBefore : St :=
  run (init 5) [.lock ⟨1, 0, 360⟩, .lock ⟨2, 0, 720⟩,
                .addLiq 1 500 250 [] 250 500 250 none, .addLiq 2 400 200 [] 200 400 200 none]

/-- the hypotheses of `merge_lp_composed` are met by concrete non-trivial states of both models:
    the proxy merges 150 of wrapped LP 1 (locked part ⌊500·150/250⌋ = 300 of nonce 1) with all of
    wrapped LP 2 (400 of nonce 2); the factory model, called by the whitelisted proxy on behalf of
    user 3 with exactly these payments, answers 700 of a NEW nonce 3 unlocking at epoch 570 =
    month-rounded ⌈(360·300 + 720·400)/700⌉ — later than 360, EARLIER than 720 —, and the proxy
    model accepts that answer and knows the epoch afterwards. -/
example :
    sentW proxyBefore [(1, 150), (2, 200)] = [(1, 300), (2, 400)] ∧
    (Energy.mergeTokens factoryBefore 250 3 [(1, 300), (2, 400)]).map
        (fun p => (p.2.v1, p.2.v2, p.1.unlockOf p.2.v1, p.1.bal 250 3)) = some (3, 700, some 570, 700) ∧
    (mergeLp proxyBefore [(1, 150), (2, 200)] ⟨3, 700, 570⟩).map
        (fun p => (p.1.unl 3, p.2.wOut)) = some (570, (3, 350)) ∧
    factoryBefore.unlockOf 1 = some (proxyBefore.unl 1) ∧
    factoryBefore.unlockOf 2 = some (proxyBefore.unl 2) ∧
    FactoryMergeOK proxyBefore (.mergeLp [(1, 150), (2, 200)] ⟨3, 700, 570⟩) := by
  decide

/-- extension on the same states: the proxy sends 300 tokens of nonce 1 (unlock 360) for user 3
    with the 720-epoch option: 300 tokens come back to the proxy, unlocking at
    720 = startOfMonth(5 + 720).  The tied model's `extendLock` moves the CALLER's energy, so the
    proxy — whose own entry is empty — cannot run it for a user's tokens (`none`): hence the
    composition goes through `extendPeriodFor`. -/
example :
    (Energy.extendPeriodFor factoryBefore 250 3 1 300 720).map
        (fun p => (p.2.v1, p.2.v2, p.1.unlockOf p.2.v1, p.1.bal 250 2)) = some (2, 300, some 720, 700) ∧
    Energy.extendLock factoryBefore 250 1 300 720 0 = none := by
  decide

/-- a farm-with-locked-rewards model (kind `noMint`) with the proxy (account 7) whitelisted: the
    proxy enters 1000 for user 1, enters 500 more, merges, claims and exits early; the answers
    satisfy the facts proved above (token for 1000; merged token 1500; claim token 1500; early
    exit pays 1500 − ⌊1500·100/10000⌋ = 1485) -/
example :
    let φ0 := Farm.run (Farm.init .noMint false 1000000000000 1000 true [1, 2, 7] 10)
      [.scWhitelist 7]
    ((Farm.enterFarm φ0 7 (some 1) 1000 []).map (fun p => (p.2.nonce, p.2.amt))) = some (1, 1000) ∧
    (let φ1 := Farm.run φ0 [.enter 7 (some 1) 1000 [], .enter 7 (some 1) 500 []]
     ((Farm.mergeFarmTokens φ1 7 (some 1) [(2, 500), (1, 1000)]).map (fun p => (p.2.nonce, p.2.amt)))
       = some (3, 1500) ∧
     (let φ2 := Farm.run φ1 [.merge 7 (some 1) [(2, 500), (1, 1000)], .advance 5 11]
      ((Farm.claimRewards φ2 7 (some 1) [(3, 1500)]).map (fun p => (p.2.nonce, p.2.amt)))
        = some (4, 1500) ∧
      ((Farm.exitFarm φ2 7 (some 1) 3 1500).map (fun p => p.2.farming)) = some 1485)) := by
  decide

end Mx.C16Compose
