/-
  C09 — the per-operation statement of token-unstake `cancelUnbond`.

  What a successful `cancelUnbond` by `c` does, in six clauses (i)–(vi), one theorem each: `c`'s
  queue; the locked tokens returned nonce by nonce from token-unstake (penalty part included:
  cancelling refunds the penalty); the base tokens burned (what `unlockEarly` minted into
  token-unstake for these entries); `c`'s energy record; the penalty ledgers ("unchanged" is true
  of the two counters `penBurned` and `collected`, not of the ghost amount pending in the unbond
  queue, which drops); the guards (nothing pending, the factory paused — `revertUnstake` has
  `require_not_paused` —, or the per-entry loop fails on a bookkeeping underflow).

  Rust: locked-asset/token-unstake/src/cancel_unstake.rs `cancel_unbond` (16–68),
  energy-factory/src/unstake.rs `revert_unstake` (47–52).  Model: `Energy.cancelUnbond`,
  `Energy.cancelEntries`, `Entry.restoreCancel`.
-/
import MxModel.Lemmas.EnergyC09

set_option linter.unusedSimpArgs false

namespace Mx.C09Cancel
open Mx.Energy

/-- Σ of a field over the caller's pending entries -/
def sumLocked (q : List UEntry) : Nat := (q.map (·.locked)).sum
def sumUnlocked (q : List UEntry) : Nat := (q.map (·.unlocked)).sum
def sumPenalty (q : List UEntry) : Nat := (q.map (fun e => e.locked - e.unlocked)).sum

/-- **(i) the queue**: every pending entry of the caller is removed (the output counts them);
    nobody else's queue changes -/
theorem cancel_queue {s s' : St} {c : Nat} {o : Out} (h : cancelUnbond s c = some (s', o)) :
    s'.queue c = [] ∧ (∀ a, a ≠ c → s'.queue a = s.queue a) ∧ o.v1 = (s.queue c).length ∧
    0 < (s.queue c).length := by
  obtain ⟨s1, e, hq, hp, -, rfl, rfl⟩ := cancelUnbond_spec h
  obtain ⟨b, ba, bs, bc, ci, pp, rfl⟩ := cancelEntries_eq _ hp
  exact ⟨updO_same s.queue c [], fun a ha => updO_other s.queue [] ha, rfl, List.length_pos_iff.mpr hq⟩

/-- **(ii) the locked tokens**: for every nonce, the caller's balance rises by exactly the
    `locked` amounts of his pending entries of that nonce, token-unstake's balance falls by the
    same, and no other account's locked tokens move.  (`c ≠ UNSTAKE`: the caller is not the
    token-unstake contract itself.) -/
theorem cancel_returns_locked {s s' : St} {c : Nat} {o : Out} (hc : c ≠ UNSTAKE)
    (h : cancelUnbond s c = some (s', o)) :
    (∀ n, s'.bal c n = s.bal c n + lockedOf (s.queue c) n) ∧
    (∀ n, s'.bal UNSTAKE n + lockedOf (s.queue c) n = s.bal UNSTAKE n) ∧
    (∀ a, a ≠ c → a ≠ UNSTAKE → s'.bal a = s.bal a) ∧
    s'.circ = s.circ + sumLocked (s.queue c) := by
  obtain ⟨s1, e, -, hp, -, rfl, rfl⟩ := cancelUnbond_spec h
  obtain ⟨b1, b2, b3⟩ := cancelEntries_bal _ hc hp
  exact ⟨b1, b2, b3, (cancelEntries_supply _ hp).2.2.1⟩

theorem sum_range_add (f g : Nat → Nat) (M : Nat) :
    ((List.range M).map (fun n => f n + g n)).sum =
      ((List.range M).map f).sum + ((List.range M).map g).sum := by
  induction M with
  | zero => rfl
  | succ k ih =>
    simp only [List.range_succ, List.map_append, List.sum_append, List.map_cons, List.map_nil,
      List.sum_cons, List.sum_nil, ih]
    omega

theorem sum_range_ite (a v M : Nat) :
    ((List.range M).map (fun n => if a = n then v else 0)).sum = if a < M then v else 0 := by
  induction M with
  | zero => simp
  | succ k ih =>
    simp only [List.range_succ, List.map_append, List.sum_append, List.map_cons, List.map_nil,
      List.sum_cons, List.sum_nil, ih]
    by_cases h1 : a < k
    · have h2 : a < k + 1 := by omega
      have h3 : ¬ a = k := by omega
      simp [h1, h2, h3]
    · by_cases h4 : a = k
      · subst h4; simp
      · have h2 : ¬ a < k + 1 := by omega
        simp [h1, h2, h4]

/-- summed over nonces: the per-nonce amounts add up to Σ `locked` of the pending entries
    (`lockedOf` only regroups them) -/
theorem lockedOf_total (q : List UEntry) (N : Nat) (hN : ∀ e ∈ q, e.nonce < N) :
    ((List.range N).map (lockedOf q)).sum = sumLocked q := by
  induction q with
  | nil =>
    have h0 : lockedOf [] = fun n => if 0 = n then 0 else 0 := by funext n; simp [lockedOf]
    rw [h0, sum_range_ite]; simp [sumLocked]
  | cons x xs ih =>
    have hx : x.nonce < N := hN x (by simp)
    have ih' := ih (fun e he => hN e (by simp [he]))
    have h1 : lockedOf (x :: xs) =
        fun n => (fun n => if x.nonce = n then x.locked else 0) n + lockedOf xs n := by
      funext n; rfl
    rw [h1, sum_range_add, sum_range_ite, ih']
    simp [hx, sumLocked]

/-- **(iii) the base tokens**: exactly Σ `unlocked` of the pending entries — what `unlockEarly`
    minted into token-unstake for them — is burned: token-unstake's base balance and the base
    supply fall by it, the `burnCancel` ledger rises by it, the mint ledgers and every other
    base balance (the caller's included) stay -/
theorem cancel_burns_unlocked {s s' : St} {c : Nat} {o : Out}
    (h : cancelUnbond s c = some (s', o)) :
    s'.base UNSTAKE + sumUnlocked (s.queue c) = s.base UNSTAKE ∧
    (∀ a, a ≠ UNSTAKE → s'.base a = s.base a) ∧
    s'.baseSupply + sumUnlocked (s.queue c) = s.baseSupply ∧
    s'.burnCancel = s.burnCancel + sumUnlocked (s.queue c) ∧
    s'.mintEarly = s.mintEarly ∧ s'.mintUnlock = s.mintUnlock ∧ s'.burnLock = s.burnLock := by
  obtain ⟨s1, e, -, hp, -, rfl, rfl⟩ := cancelUnbond_spec h
  obtain ⟨a1, a2, -, -, a5, a6, -⟩ := cancelEntries_supply _ hp
  obtain ⟨b, ba, bs, bc, ci, pp, rfl⟩ := cancelEntries_eq _ hp
  exact ⟨a5, a6, a1, a2, rfl, rfl, rfl⟩

/-- **(iv) the energy**: the caller's stored record becomes his current view plus, per pending
    entry, `+locked·(unlock − now)` if the token is still locked (`now ≤ unlock`) and
    `−locked·(now − unlock)` if it is past its unlock epoch (`restoreDelta`), with the total of
    locked tokens raised by Σ `locked`; it is stamped with the current epoch, so it is also what
    `getEnergyEntryForUser` reports afterwards.  No other account's record changes. -/
theorem cancel_restores_energy {s s' : St} {c : Nat} {o : Out}
    (h : cancelUnbond s c = some (s', o)) :
    ∃ e, s'.energy c = some e ∧ s'.view c = e ∧
      e.E = (s.view c).E + restoreSum s.epoch s.nonces (s.queue c) ∧
      e.T = (s.view c).T + sumLocked (s.queue c) ∧ e.last = s.epoch ∧
      (∀ a, a ≠ c → s'.energy a = s.energy a) ∧ s'.epoch = s.epoch ∧ s'.nonces = s.nonces := by
  obtain ⟨s1, e, -, hp, -, rfl, rfl⟩ := cancelUnbond_spec h
  obtain ⟨e1, e2, e3⟩ := cancelEntries_energy _ hp
  obtain ⟨b, ba, bs, bc, ci, pp, rfl⟩ := cancelEntries_eq _ hp
  have hl : e.last = s.epoch := by rw [e3]; exact view_last s c
  have hen : updO s.energy c (some e) c = some e := updO_same _ _ _
  exact ⟨e, hen, view_of_some hen hl, e1, e2, hl, fun a ha => updO_other s.energy _ ha, rfl, rfl⟩

/-- the closed formula of one entry's contribution, both branches -/
theorem restoreDelta_locked {now amt unlock : Nat} (h : now ≤ unlock) :
    restoreDelta now amt unlock = ((amt * (unlock - now) : Nat) : Int) := by
  simp [restoreDelta, h]

theorem restoreDelta_expired {now amt unlock : Nat} (h : unlock < now) :
    restoreDelta now amt unlock = - ((amt * (now - unlock) : Nat) : Int) := by
  have : ¬ now ≤ unlock := by omega
  simp [restoreDelta, this]

/-- **(v) the penalty ledgers**: a cancellation burns no penalty and sends none to the fees
    collector; the penalties pending in the unbond queue drop by exactly Σ (`locked − unlocked`)
    of the cancelled entries (they return to the caller inside the locked tokens), and every
    entry had `unlocked ≤ locked`, so Σ `unlocked` + Σ penalty = Σ `locked` -/
theorem cancel_penalty_ledgers {s s' : St} {c : Nat} {o : Out}
    (h : cancelUnbond s c = some (s', o)) :
    s'.penBurned = s.penBurned ∧ s'.collected = s.collected ∧
    s'.pendingPenalty + sumPenalty (s.queue c) = s.pendingPenalty ∧
    sumUnlocked (s.queue c) + sumPenalty (s.queue c) = sumLocked (s.queue c) := by
  obtain ⟨s1, e, -, hp, -, rfl, rfl⟩ := cancelUnbond_spec h
  obtain ⟨-, -, -, a4, -, -, a7⟩ := cancelEntries_supply _ hp
  obtain ⟨b, ba, bs, bc, ci, pp, rfl⟩ := cancelEntries_eq _ hp
  exact ⟨rfl, rfl, a4, sum_sub_le _ a7⟩

/-- **(vi) the guards**: `cancelUnbond` fails exactly when nothing is pending, or the energy
    factory is paused, or the per-entry loop fails -/
theorem cancel_fails_iff (s : St) (c : Nat) :
    cancelUnbond s c = none ↔
      s.queue c = [] ∨ s.paused = true ∨ cancelEntries s c (s.view c) (s.queue c) = none := by
  unfold cancelUnbond
  by_cases hq : s.queue c = []
  · simp [req, hq]
  · cases hl : cancelEntries s c (s.view c) (s.queue c) with
    | none => simp [req, hq, hl]
    | some r =>
      obtain ⟨s1, e⟩ := r
      cases hp : s.paused <;> simp [req, hq, hl, hp]

/-- the loop's own guards, entry by entry: the nonce exists, token-unstake holds the locked
    tokens and the base tokens of the entry, the supply / pending-penalty counters cover them and
    `unlocked ≤ locked` (all bookkeeping facts about an entry `unlockEarly` created) -/
theorem cancelEntries_cons_some_iff (s : St) (c : Nat) (e : Entry) (q : UEntry) (qs : List UEntry) :
    (cancelEntries s c e (q :: qs)).isSome = true ↔
      ∃ u, s.unlockOf q.nonce = some u ∧ q.locked ≤ s.bal UNSTAKE q.nonce ∧
        q.unlocked ≤ s.base UNSTAKE ∧ q.unlocked ≤ s.baseSupply ∧ q.unlocked ≤ q.locked ∧
        q.locked - q.unlocked ≤ s.pendingPenalty ∧
        (cancelEntries
          ({ s with bal := upd2 s.bal UNSTAKE q.nonce (s.bal UNSTAKE q.nonce - q.locked),
                    base := upd s.base UNSTAKE (s.base UNSTAKE - q.unlocked),
                    baseSupply := s.baseSupply - q.unlocked,
                    burnCancel := s.burnCancel + q.unlocked,
                    circ := s.circ + q.locked,
                    pendingPenalty := s.pendingPenalty - (q.locked - q.unlocked) }.credit c q.nonce q.locked)
          c (e.restoreCancel q.locked u s.epoch) qs).isSome = true := by
  constructor
  · intro h
    obtain ⟨⟨s2, e2⟩, hd⟩ := Option.isSome_iff_exists.1 h
    obtain ⟨u, s1, hu, hdeb, h1, h2, h3, h4, hrec⟩ := cancelEntries_cons hd
    obtain ⟨h0, rfl⟩ := debit_spec hdeb
    exact ⟨u, hu, h0, h1, h2, h3, h4, by rw [hrec]; rfl⟩
  · rintro ⟨u, hu, h0, h1, h2, h3, h4, hrec⟩
    simp only [cancelEntries, St.debit, sub?, Option.bind_eq_bind, hu, h0, Option.bind_some, if_true,
      Option.pure_def]
    have h1' : q.unlocked ≤ s.base UNSTAKE := h1
    simp only [h1', h2, h3, h4, if_true, Option.bind_some]
    exact hrec

/-! ### non-vacuity: two pending entries, one of them past its unlock epoch -/

/-- deployment of `Props/C09.lean`'s example -/
def exCfg : Cfg := { epoch := 5, opts := [(360, 4000), (720, 6000), (1440, 8000)], unbond := 10,
                     burnPct := 2500, minLock := 4, cooldown := 6, users := 2, funds := 1000000 }

/-- user 1 locks 100000 until epoch 1440 (nonce 1) and 50000 until epoch 360 (nonce 2), at epoch
    340 unlocks 10000 of the first (penalty 7055) and 5000 of the second (penalty 111) early; now
    epoch 365: both entries still pending, nonce 2 is PAST its unlock epoch -/
def exPending : St := run (init exCfg)
  [.lock 1 100000 1440 0, .lock 1 50000 360 0, .advance 340, .unlockEarly 1 1 10000,
   .unlockEarly 1 2 5000, .advance 365]

set_option maxRecDepth 8000 in
/-- the hypotheses of every theorem above are met and their conclusions show: both entries leave
    the queue, 10000 + 5000 locked tokens return, 2945 + 4889 = 7834 base tokens are burned,
    the pending penalty 7166 vanishes with nothing burned or collected, and the energy moves by
    `10000·(1440−365) − 5000·(365−360)` = 10750000 − 25000 -/
example :
    let s := exPending
    s.queue 1 = [⟨350, 1, 10000, 2945⟩, ⟨350, 2, 5000, 4889⟩] ∧ s.nonces = [1440, 360] ∧
    s.pendingPenalty = 7166 ∧ s.base UNSTAKE = 7834 ∧ (s.view 1).E = 96525000 ∧
    restoreSum s.epoch s.nonces (s.queue 1) = 10750000 - 25000 ∧
    lockedOf (s.queue 1) 1 = 10000 ∧ lockedOf (s.queue 1) 2 = 5000 ∧
    sumUnlocked (s.queue 1) = 7834 ∧ sumPenalty (s.queue 1) = 7166 := by
  decide

set_option maxRecDepth 8000 in
/-- … and the successful call on that state, observable by observable -/
example :
    (cancelUnbond exPending 1).map (fun r =>
        (r.1.queue 1, r.1.bal 1 1, r.1.bal 1 2, r.1.bal UNSTAKE 1, r.1.bal UNSTAKE 2, r.2)) =
      some (([] : List UEntry), 100000, 50000, 0, 0, Out.mk 2 0 0) := by
  decide

set_option maxRecDepth 8000 in
example :
    (cancelUnbond exPending 1).map (fun r =>
        (r.1.base UNSTAKE, r.1.baseSupply, r.1.burnCancel, r.1.pendingPenalty, r.1.penBurned,
         r.1.collected)) = some (0, 1850000, 7834, 0, 0, 0) ∧
    (cancelUnbond exPending 1).map (fun r => ((r.1.view 1).E, (r.1.view 1).T)) =
      some (107250000, 150000) := by
  decide

set_option maxRecDepth 8000 in
/-- the guards are live: nothing pending (user 2), a paused factory; and a claim in between
    changes what is left to cancel (matured entries are claimed first: cancel then refunds
    nothing of them) -/
example :
    let s := exPending
    cancelUnbond s 2 = none ∧ s.queue 2 = [] ∧
    (cancelUnbond { s with paused := true } 1).isSome = false ∧
    (cancelUnbond s 1).isSome = true ∧
    (run s [.claim 1]).queue 1 = [] ∧ (cancelUnbond (run s [.claim 1]) 1).isSome = false := by
  decide

end Mx.C09Cancel
