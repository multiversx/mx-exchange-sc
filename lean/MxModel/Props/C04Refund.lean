/-
  C04 (second file) — the refund side of `addLiquidity` and the burn side of `removeLiquidity`.

  `Out` of `addLiq` = (LP minted, used₁, used₂).  What the caller gets back is the observable
  `Mx.PairDriver.received` (Driver/Pair.lean) that the correspondence run compares, per
  transaction, with the caller's real balance deltas on the contract: for `addLiq` it is
  `(a₁ − used₁, a₂ − used₂)` of the two pool tokens, for `removeLiq` the two withdrawn amounts.
  The theorems below say these are exact (no truncated subtraction), that payment = used +
  refund per token, that the pair's real balance keeps exactly the used part, that one side is
  always used in full, and that `removeLiquidity` burns exactly the LP paid (the pair keeps none).
  They hold in ANY state (no invariant needed), so in particular in every reachable one.
-/
import MxModel.Lemmas.PairInv
import MxModel.Driver.Pair

namespace Mx.C04Refund
open Mx.Pair Mx.PairDriver

/-- **refunds of `addLiquidity`.**  For every state and all arguments, if `addLiquidity(m₁,m₂)` with
    payments `(a₁,a₂)` succeeds, the caller receives back `refund_i = a_i − used_i` of each pool
    token (nothing LOCKED), where the subtraction is exact: `used_i + refund_i = a_i`; the pair's
    real balance of each token ends at `old + a_i − refund_i`; and at least one of the two refunds
    is 0 (one side of the deposit is always used in full; on the first deposit both are). -/
theorem addLiq_refunds {s s' : St} {a1 a2 m1 m2 : Nat} {o : Out}
    (h : addLiq s a1 a2 m1 m2 = some (s', o)) :
    received (.addLiq a1 a2 m1 m2) o = (a1 - o.v2, a2 - o.v3, 0, 0) ∧
    o.v2 + (a1 - o.v2) = a1 ∧ o.v3 + (a2 - o.v3) = a2 ∧
    s'.bal1 + (a1 - o.v2) = s.bal1 + a1 ∧ s'.bal2 + (a2 - o.v3) = s.bal2 + a2 ∧
    (a1 - o.v2 = 0 ∨ a2 - o.v3 = 0) := by
  refine ⟨rfl, ?_⟩
  by_cases hS : s.S = 0
  · obtain ⟨_, _, _, _, _, rfl, rfl⟩ := addLiq_first_spec hS h
    simp only []
    omega
  · obtain ⟨o1, o2, t⟩ := addLiq_spec hS h
    obtain rfl := t.out
    obtain rfl := t.state
    obtain ⟨hcase, _, _⟩ := optimal_spec t.optimal
    simp only []
    rcases hcase with ⟨c1, rfl, rfl⟩ | ⟨_, c2, rfl, rfl⟩ <;> omega

/-- the LP side of `addLiquidity`: the minted LP all goes to the caller except the 1000 units the
    pair locks on the first deposit: `minted = to_caller + locked`, `locked ∈ {0, 1000}` -/
theorem addLiq_lp_split {s s' : St} {a1 a2 m1 m2 : Nat} {o : Out}
    (h : addLiq s a1 a2 m1 m2 = some (s', o)) :
    s'.lpCirc = s.lpCirc + o.v1 + (s'.lpOwn - s.lpOwn) ∧
    ((s.S ≠ 0 ∧ s'.lpOwn = s.lpOwn) ∨ (s.S = 0 ∧ s'.lpOwn = s.lpOwn + MINLIQ)) := by
  have hM : MINLIQ = 1000 := rfl
  by_cases hS : s.S = 0
  · obtain ⟨_, _, _, _, h5, rfl, rfl⟩ := addLiq_first_spec hS h
    exact ⟨by simp only []; omega, Or.inr ⟨hS, rfl⟩⟩
  · obtain ⟨o1, o2, t⟩ := addLiq_spec hS h
    obtain rfl := t.out
    obtain rfl := t.state
    exact ⟨by simp only [St.touch]; omega, Or.inl ⟨hS, rfl⟩⟩

/-- **`removeLiquidity` burns exactly the LP paid** and pays out of the pair's real balances: for
    every state and all arguments, on success the circulating LP and the reported supply both drop
    by exactly the payment `lp` (exact subtraction: `lp ≤` both), the pair keeps none of it
    (`lpOwn` unchanged), the caller receives exactly `(x₁, x₂)` as plain tokens and the pair's real
    balances drop by exactly those amounts. -/
theorem removeLiq_burns_payment {s s' : St} {lp m1 m2 : Nat} {o : Out}
    (h : removeLiq s lp m1 m2 = some (s', o)) :
    received (.removeLiq lp m1 m2) o = (o.v1, o.v2, 0, 0) ∧
    s'.lpCirc + lp = s.lpCirc ∧ s'.S + lp = s.S ∧ s'.lpOwn = s.lpOwn ∧
    s'.bal1 + o.v1 = s.bal1 ∧ s'.bal2 + o.v2 = s.bal2 ∧
    s'.r1 + o.v1 = s.r1 ∧ s'.r2 + o.v2 = s.r2 := by
  have hM : MINLIQ = 1000 := rfl
  refine ⟨rfl, ?_⟩
  have t := removeLiq_spec h
  obtain rfl := t.out
  obtain rfl := t.state
  have h5 := t.minliq
  exact ⟨Nat.sub_add_cancel t.lpCirc, Nat.sub_add_cancel (by omega), rfl, Nat.sub_add_cancel t.bal1,
    Nat.sub_add_cancel t.bal2, Nat.sub_add_cancel (Nat.le_of_lt t.x1_lt),
    Nat.sub_add_cancel (Nat.le_of_lt t.x2_lt)⟩

/-- over any history the LP ledger stays closed: reported supply = LP in circulation, of which the
    pair itself holds exactly the locked floor (0 before the first deposit, 1000 ever after) — so
    everything minted by `addLiquidity` beyond the floor is held by accounts and everything paid to
    `removeLiquidity` is gone -/
theorem lp_ledger_run (total special : Nat) (adder : Option Nat) (cap : Nat) (ops : List Op) :
    let s := run (init total special adder cap) ops
    s.S = s.lpCirc ∧ s.lpOwn ≤ s.lpCirc ∧ (s.S = 0 → s.lpOwn = 0) ∧ (0 < s.S → s.lpOwn = MINLIQ) := by
  intro s
  have hi : Inv s := run_inv ops (inv_init total special adder cap)
  refine ⟨hi.supply, ?_, hi.ownZero, hi.ownPos⟩
  rcases Nat.eq_zero_or_pos s.S with h0 | h0
  · rw [hi.ownZero h0]; exact Nat.zero_le _
  · rw [hi.ownPos h0, ← hi.supply]; exact (hi.pos h0).2.2

/-- non-vacuity: a skewed deposit is refunded on the over-supplied side only, a removal burns its
    payment -/
example :
    let s0 := run (init 300 50 none 8) [.cfg (.setState .active), .addLiq 5000 7000 1 1]
    (addLiq s0 100 1000 1 1).map (fun r => received (.addLiq 100 1000 1 1) r.2) = some (0, 860, 0, 0) ∧
    (addLiq s0 1000 100 1 1).map (fun r => received (.addLiq 1000 100 1 1) r.2) = some (929, 0, 0, 0) ∧
    (removeLiq s0 4000 1 1).map (fun r => (r.1.lpCirc, r.1.lpOwn, received (.removeLiq 4000 1 1) r.2))
      = some (1000, 1000, (4000, 5600, 0, 0)) := by
  decide

end Mx.C04Refund
