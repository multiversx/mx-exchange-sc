/-
  KEnergyGuards — the HEADS of the energy-factory endpoints (the `require_not_paused` switch of the
  framework's pause module, the `require_is_listed_lock_option` check, the whitelist / amount checks
  in front of the arithmetic) as the SOURCE writes them, against the guards of `Core/Energy.lean`.

  Generated definitions (`Gen/KEnergyFactory.lean`, group `EnergyFactory` of kernels.json), each the
  run of statements from the start of the endpoint body up to the first statement that touches the
  payment / the caller:

    * `lock_guard`           `lockTokens`                       not paused, listed option
    * `unlock_guard`         `unlockTokens`                     not paused
    * `extend_guard`         `extendLockPeriod` (proxy-dex)     not paused, listed option, caller whitelisted
    * `unlock_early_guard`   `unlockEarly`                      not paused
    * `reduce_guard`         `reduceLockPeriod`                 not paused, listed option
    * `reduce_common_guard`  `reduce_lock_period_common`        not paused
    * `merge_guard`          `mergeTokens`                      not paused
    * `lock_virtual_guard`   `lockVirtual`                      not paused, base asset, amount > 0, listed option

  `self.require_not_paused()` is a method of `multiversx_sc_modules::pause` (outside /repo); the
  translator inlines its quoted body (`require!(!paused_status)`), so DROPPING the call from an
  endpoint changes the generated definition.  `require_is_listed_lock_option` is passed in as an
  opaque callee and instantiated here with its own translation (`Gen/KLoops.is_listed_lock_option`).

  Properties: C19 (pause switch gates every fund-moving endpoint of the factory), C09 (only listed
  lock options).
-/
import MxModel.Gen.KEnergyFactory
import MxModel.Core.Energy
import MxModel.Props.KLoops
import MxModel.Lemmas.KTactic
import MxModel.Lemmas.OptionDo

namespace Mx.KEnergyGuards
open Mx Mx.Gen Mx.Energy

/-- the translated `require_is_listed_lock_option` on the stored options, in the shape the guard
    fragments expect of their opaque callee (`Nat → Option Nat`, the value is ignored) -/
def listedSrc (opts : List Opt) : Nat → Option Nat :=
  fun e => (KLoops.is_listed_lock_option e (opts.map (·.1))).map (fun _ => 0)

theorem listedSrc_eq (opts : List Opt) (e : Nat) :
    listedSrc opts e = if isListed opts e = true then some 0 else none := by
  unfold listedSrc
  rw [KLoops.is_listed_lock_option_eq]
  split <;> rfl

theorem lock_guard_eq (paused : Bool) (opts : List Opt) (e : Nat) :
    KEnergyFactory.lock_guard e paused (listedSrc opts) =
      if paused = false ∧ isListed opts e = true then some () else none := by
  k_defs [KEnergyFactory.lock_guard, listedSrc_eq]
  cases paused <;> cases isListed opts e <;> simp

theorem pause_only_guards_eq (paused : Bool) :
    KEnergyFactory.unlock_guard paused = (if paused = false then some () else none) ∧
    KEnergyFactory.unlock_early_guard paused = (if paused = false then some () else none) ∧
    KEnergyFactory.reduce_common_guard paused = (if paused = false then some () else none) ∧
    KEnergyFactory.merge_guard paused = (if paused = false then some () else none) := by
  refine ⟨?_, ?_, ?_, ?_⟩
  · k_defs [KEnergyFactory.unlock_guard] <;> try (cases paused <;> simp)
  · k_defs [KEnergyFactory.unlock_early_guard] <;> try (cases paused <;> simp)
  · k_defs [KEnergyFactory.reduce_common_guard] <;> try (cases paused <;> simp)
  · k_defs [KEnergyFactory.merge_guard] <;> try (cases paused <;> simp)

theorem extend_guard_eq (c e : Nat) (paused wl : Bool) (opts : List Opt) :
    KEnergyFactory.extend_guard c e paused (listedSrc opts) wl =
      if paused = false ∧ isListed opts e = true ∧ wl = true then some () else none := by
  k_defs [KEnergyFactory.extend_guard, listedSrc_eq]
  cases paused <;> cases isListed opts e <;> cases wl <;> simp

/-- it is the NEW period that must be a listed option -/
theorem reduce_guard_eq (paused : Bool) (opts : List Opt) (e : Nat) :
    KEnergyFactory.reduce_guard e paused (listedSrc opts) =
      if paused = false ∧ isListed opts e = true then some () else none := by
  k_defs [KEnergyFactory.reduce_guard, listedSrc_eq]
  cases paused <;> cases isListed opts e <;> simp

theorem lock_virtual_guard_eq (amt e : Nat) (base paused : Bool) (opts : List Opt) :
    KEnergyFactory.lock_virtual_guard amt base e paused (listedSrc opts) =
      if paused = false ∧ base = true ∧ 0 < amt ∧ isListed opts e = true then some () else none := by
  k_defs [KEnergyFactory.lock_virtual_guard, listedSrc_eq]
  cases paused <;> cases base <;> cases isListed opts e <;> by_cases h : 0 < amt <;> simp [h]

theorem source_heads_block_when_paused (amt c e : Nat) (b wl : Bool) (f : Nat → Option Nat) :
    KEnergyFactory.lock_guard e true f = none ∧
    KEnergyFactory.unlock_guard true = none ∧
    KEnergyFactory.extend_guard c e true f wl = none ∧
    KEnergyFactory.unlock_early_guard true = none ∧
    KEnergyFactory.reduce_guard e true f = none ∧
    KEnergyFactory.reduce_common_guard true = none ∧
    KEnergyFactory.merge_guard true = none ∧
    KEnergyFactory.lock_virtual_guard amt b e true f = none := by
  refine ⟨?_, ?_, ?_, ?_, ?_, ?_, ?_, ?_⟩
  -- (`cases f e`: the pause check need not be the FIRST statement of the head)
  · k_defs [KEnergyFactory.lock_guard] <;> try (cases f e <;> simp)
  · k_defs [KEnergyFactory.unlock_guard]
  · k_defs [KEnergyFactory.extend_guard] <;> try (cases f e <;> simp)
  · k_defs [KEnergyFactory.unlock_early_guard]
  · k_defs [KEnergyFactory.reduce_guard] <;> try (cases f e <;> simp)
  · k_defs [KEnergyFactory.reduce_common_guard]
  · k_defs [KEnergyFactory.merge_guard]
  · k_defs [KEnergyFactory.lock_virtual_guard] <;> try (cases f e <;> simp)

theorem source_heads_block_unlisted (amt c e : Nat) (b p wl : Bool) (opts : List Opt)
    (h : isListed opts e = false) :
    KEnergyFactory.lock_guard e p (listedSrc opts) = none ∧
    KEnergyFactory.extend_guard c e p (listedSrc opts) wl = none ∧
    KEnergyFactory.reduce_guard e p (listedSrc opts) = none ∧
    KEnergyFactory.lock_virtual_guard amt b e p (listedSrc opts) = none := by
  rw [lock_guard_eq, extend_guard_eq, reduce_guard_eq, lock_virtual_guard_eq]
  simp [h]

theorem lockTokens_passes_head {s s' : St} {c amt epochs dest : Nat} {o : Out}
    (h : lockTokens s c amt epochs dest = some (s', o)) :
    KEnergyFactory.lock_guard epochs s.paused (listedSrc s.opts) = some () := by
  unfold lockTokens at h
  obtain ⟨hp, h⟩ := peel_req h
  obtain ⟨_, h⟩ := peel_req h
  obtain ⟨hl, _⟩ := peel_req h
  rw [lock_guard_eq, if_pos ⟨hp, hl⟩]

/-- `extendLock` is the `lockTokens` endpoint paid with a locked token: the same head -/
theorem extendLock_passes_head {s s' : St} {c n amt epochs dest : Nat} {o : Out}
    (h : extendLock s c n amt epochs dest = some (s', o)) :
    KEnergyFactory.lock_guard epochs s.paused (listedSrc s.opts) = some () := by
  unfold extendLock at h
  obtain ⟨hp, h⟩ := peel_req h
  obtain ⟨_, h⟩ := peel_req h
  obtain ⟨hl, _⟩ := peel_req h
  rw [lock_guard_eq, if_pos ⟨hp, hl⟩]

theorem unlockTokens_passes_head {s s' : St} {c : Nat} {ps : List (Nat × Nat)} {o : Out}
    (h : unlockTokens s c ps = some (s', o)) :
    KEnergyFactory.unlock_guard s.paused = some () := by
  unfold unlockTokens at h
  obtain ⟨hp, _⟩ := peel_req h
  rw [(pause_only_guards_eq _).1, if_pos hp]

theorem unlockEarly_passes_head {s s' : St} {c n amt : Nat} {o : Out}
    (h : unlockEarly s c n amt = some (s', o)) :
    KEnergyFactory.unlock_early_guard s.paused = some () ∧
    KEnergyFactory.reduce_common_guard s.paused = some () := by
  unfold unlockEarly at h
  obtain ⟨hp, _⟩ := peel_req h
  rw [(pause_only_guards_eq _).2.1, (pause_only_guards_eq _).2.2.1, if_pos hp]
  exact ⟨rfl, rfl⟩

theorem reduceLock_passes_head {s s' : St} {c n amt epochs : Nat} {o : Out}
    (h : reduceLock s c n amt epochs = some (s', o)) :
    KEnergyFactory.reduce_guard epochs s.paused (listedSrc s.opts) = some () ∧
    KEnergyFactory.reduce_common_guard s.paused = some () := by
  unfold reduceLock at h
  obtain ⟨hp, h⟩ := peel_req h
  obtain ⟨_, h⟩ := peel_req h
  obtain ⟨hl, _⟩ := peel_req h
  rw [reduce_guard_eq, if_pos ⟨hp, hl⟩, (pause_only_guards_eq _).2.2.1, if_pos hp]
  exact ⟨rfl, rfl⟩

theorem mergeTokens_passes_head {s s' : St} {c orig : Nat} {ps : List (Nat × Nat)} {o : Out}
    (h : mergeTokens s c orig ps = some (s', o)) :
    KEnergyFactory.merge_guard s.paused = some () := by
  cases ps with
  | nil => simp [mergeTokens] at h
  | cons p rest =>
    obtain ⟨n1, a1⟩ := p
    unfold mergeTokens at h
    simp only [] at h
    obtain ⟨hp, _⟩ := peel_req h
    rw [(pause_only_guards_eq _).2.2.2, if_pos hp]

/-- the model only ever locks the base asset, hence `true` for the token test -/
theorem lockVirtual_passes_head {s s' : St} {c amt epochs dest eaddr : Nat} {o : Out}
    (h : lockVirtual s c amt epochs dest eaddr = some (s', o)) :
    KEnergyFactory.lock_virtual_guard amt true epochs s.paused (listedSrc s.opts) = some () := by
  unfold lockVirtual at h
  obtain ⟨hp, h⟩ := peel_req h
  obtain ⟨ha, h⟩ := peel_req h
  obtain ⟨_, h⟩ := peel_req h
  obtain ⟨hl, _⟩ := peel_req h
  rw [lock_virtual_guard_eq, if_pos ⟨hp, rfl, ha, hl⟩]

/-! non-vacuity: heads passing and aborting on concrete inputs -/
example : KEnergyFactory.lock_guard 720 false (listedSrc [(360, 4000), (720, 6000)]) = some () := by decide
example : KEnergyFactory.lock_guard 720 true (listedSrc [(360, 4000), (720, 6000)]) = none := by decide
example : KEnergyFactory.lock_guard 700 false (listedSrc [(360, 4000), (720, 6000)]) = none := by decide
example : KEnergyFactory.extend_guard 7 360 false (listedSrc [(360, 4000)]) true = some () := by decide
example : KEnergyFactory.extend_guard 7 360 false (listedSrc [(360, 4000)]) false = none := by decide
example : KEnergyFactory.lock_virtual_guard 5 true 360 false (listedSrc [(360, 4000)]) = some () := by decide
example : KEnergyFactory.lock_virtual_guard 0 true 360 false (listedSrc [(360, 4000)]) = none := by decide
example : KEnergyFactory.merge_guard false = some () := by decide

end Mx.KEnergyGuards
