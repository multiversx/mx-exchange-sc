/-
  C03 (fee-destination ledger) — "… In every swap the tokens the caller gives up equal what the
  pool reserve gains plus the special fee (at most in*special/100000), which is burned or
  forwarded to the fee destinations / fees collector and never credited to a user."

  Props/C03.lean states conservation as inequalities on the pair's balance.  Here the cumulative
  sink counters of `Pair.St` (`burn*`, `coll*`, `ext*`; observed on the real contracts through
  the state line) and the per-account wallets of Core/PairLedger.lean (compared with the real
  ESDT balances through the `acct=` entry) enter the statements, and every relation is an
  EQUALITY.  Both swap endpoints, both directions, every fee configuration (switch off,
  collector only, any list of destinations asking for the input token, the output token or a
  third token through a trusted pair, collector + destinations).

  Notation in the doc comments: `d` the swap direction, `charged` what the pair keeps of the
  caller's payment (`a` for fixed input; `get_amount_in`, i.e. payment − refund, for fixed
  output), `fee = ⌊charged·special/M⌋` when the fee switch is on, else 0, Δx = growth of a
  cumulative counter across the transaction.
-/
import MxModel.Lemmas.PairLedgerSwap
import MxModel.Lemmas.PairLock

namespace Mx.C03Ledger
open Mx.Pair Mx.PairLedger

/-- (B1) The exact fee ledger of one successful swap (either endpoint, any arguments) on any
    pair state satisfying the C01 invariant (which holds after every history: `C01.inv_run`):
    * `fee ≤ charged·special/M` and `fee ≤ charged`;
    * input token — `charged` is, to the unit, what the pair's balance gained plus what went to
      the burn address, the fees collector and the trusted pair;
    * the input reserve gained the net input `charged − fee` from the swap itself, plus
      whatever local fee swaps put back (never less);
    * `fee` = Δcollector + Δburned + Δforwarded (input token) + what re-entered the input
      reserve through local fee swaps + dust that stays in the pair as unreserved balance
      (all five terms are genuine differences: no counter decreases, the unreserved balance
      does not shrink);
    * output token — the pair's balance lost exactly the caller's `out` plus what local fee
      swaps bought and burned / forwarded; exactly that left the output reserve too; the
      collector never receives the output token. -/
theorem swap_fee_ledger {s s' : St} {op : Op} {o : Out} (hi : Inv s) (hsw : isSwap op = true)
    (h : step s op = some (s', o)) :
    let d := swapDir op
    let charged := chargedOf op o
    let fee := swapFee s charged
    fee ≤ charged * s.special / M ∧ fee ≤ charged ∧
    s.balIn d + charged =
      s'.balIn d + (s'.burnIn d - s.burnIn d) + (s'.collIn d - s.collIn d) + (s'.extIn d - s.extIn d) ∧
    s.rin d + (charged - fee) ≤ s'.rin d ∧
    fee = (s'.collIn d - s.collIn d) + (s'.burnIn d - s.burnIn d) + (s'.extIn d - s.extIn d) +
          (s'.rin d - (s.rin d + (charged - fee))) +
          ((s'.balIn d - s'.rin d) - (s.balIn d - s.rin d)) ∧
    (s.burnIn d ≤ s'.burnIn d ∧ s.collIn d ≤ s'.collIn d ∧ s.extIn d ≤ s'.extIn d ∧
      s.burnOut d ≤ s'.burnOut d ∧ s.extOut d ≤ s'.extOut d ∧
      s.balIn d - s.rin d ≤ s'.balIn d - s'.rin d ∧ s'.rin d ≤ s'.balIn d) ∧
    s.balOut d = s'.balOut d + o.v1 + (s'.burnOut d - s.burnOut d) + (s'.extOut d - s.extOut d) ∧
    s.rout d - s'.rout d = s.balOut d - s'.balOut d ∧ s'.rout d + o.v1 ≤ s.rout d ∧
    s'.collOut d = s.collOut d := by
  obtain ⟨f, hf, -, hfee, hm, -⟩ := swap_moved hsw h
  dsimp only
  rw [hm.burnIn, hm.collIn, hm.extIn, hm.burnOut, hm.extOut, hm.rin]
  simp only [Nat.add_sub_cancel_left]
  refine ⟨swapFee_le _ _, hfee, ?_, Nat.le_add_right _ _, ?_,
    ⟨Nat.le_add_right _ _, Nat.le_add_right _ _, Nat.le_add_right _ _, Nat.le_add_right _ _,
      Nat.le_add_right _ _, ?_, ?_⟩, ?_, ?_, ?_, hm.collOut⟩
  -- the input token: one equation between the balances, the fee bounds and the backing
  iterate 4
    · have := hm.balIn
      have := (hi.dir (swapDir op)).1
      unfold FeeSplit.spent at hf
      omega
  -- the output token: reserve and balance lose the same
  all_goals
    have := hm.balOut
    have := hm.rout
    omega

/-- (B1, corollary) "the tokens the caller gives up equal what the pool reserve gains plus the
    special fee": `charged = (charged − fee) + fee` with `charged − fee` the reserve gain of the
    swap itself; and with the fee switch off the special fee is 0, nothing reaches any sink,
    the whole payment enters the reserve. -/
theorem swap_charged_eq_reserve_gain_plus_fee {s s' : St} {op : Op} {o : Out} (hi : Inv s)
    (hsw : isSwap op = true) (h : step s op = some (s', o)) :
    let d := swapDir op
    let charged := chargedOf op o
    let fee := swapFee s charged
    charged = (charged - fee) + fee ∧
    (s.feeOn = false → fee = 0 ∧ s'.rin d = s.rin d + charged ∧ s'.balIn d = s.balIn d + charged ∧
      s'.burnIn d = s.burnIn d ∧ s'.collIn d = s.collIn d ∧ s'.extIn d = s.extIn d ∧
      s'.burnOut d = s.burnOut d ∧ s'.extOut d = s.extOut d ∧ s'.balOut d + o.v1 = s.balOut d) := by
  dsimp only
  obtain ⟨f, -, hz, hfee, hm, -⟩ := swap_moved hsw h
  refine ⟨(Nat.sub_add_cancel hfee).symm, fun hoff => ?_⟩
  have h0 := swapFee_off hoff (chargedOf op o)
  obtain rfl := hz h0
  obtain ⟨e1, -, e3, e4, e5, e6, e7, e8, e9⟩ := hm.unrouted
  rw [h0] at e1
  exact ⟨h0, e1, e3, e5, e6, e7, e8, e9, e4⟩

/-- (B2) "never credited to a user", one transaction: in a successful swap call by account `i`
    (any ledger state) NO other account's wallet changes, no account appears or disappears,
    and the caller's wallet changes by exactly `−charged` of the input token (which it did
    hold), `+out` of the output token — all of it plain or all of it as LOCKED tokens — and
    nothing else (no LP, no LOCKED input token; a fixed-output refund is already netted in
    `charged = payment − refund`). -/
theorem swap_touches_only_caller {l l' : L} {i : Nat} {op : Op} {o : Out} (hsw : isSwap op = true)
    (h : stepL l (.call i op) = some (l', o)) :
    l'.accts.length = l.accts.length ∧ (∀ j, j ≠ i → l'.accts[j]? = l.accts[j]?) ∧
    ∃ acc acc', l.accts[i]? = some acc ∧ l'.accts[i]? = some acc' ∧
      chargedOf op o ≤ acc.tokIn (swapDir op) ∧
      acc'.tokIn (swapDir op) = acc.tokIn (swapDir op) - chargedOf op o ∧
      acc'.tokOut (swapDir op) = acc.tokOut (swapDir op) + o.plainAmt ∧
      acc'.lkOut (swapDir op) = acc.lkOut (swapDir op) + o.lockedAmt ∧
      acc'.lkIn (swapDir op) = acc.lkIn (swapDir op) ∧ acc'.lp = acc.lp ∧
      o.plainAmt + o.lockedAmt = o.v1 := by
  obtain ⟨h1, h2⟩ := call_touches_only_caller h
  exact ⟨h1, h2, swap_caller_wallet hsw h⟩

/-- (B2') the same for EVERY operation: a call only ever touches its caller's wallet -/
theorem call_touches_only_caller {l l' : L} {i : Nat} {op : Op} {o : Out}
    (h : stepL l (.call i op) = some (l', o)) :
    l'.accts.length = l.accts.length ∧ ∀ j, j ≠ i → l'.accts[j]? = l.accts[j]? :=
  PairLedger.call_touches_only_caller h

/-- (B3) The whole swap on the ledger, after ANY history: let `l` be the ledger after a
    history from a fresh pair and let account `i` swap successfully.  Then
    * all accounts together hold exactly `charged` less of the input token and exactly `out`
      more of the output token (plain + LOCKED), the same LP and the same LOCKED input token;
    * `charged` = gain of the pair contract's own wallet + Δburned + Δcollector + Δforwarded:
      what the accounts lose is in the pair or in a fee sink, to the unit;
    * the special fee (≤ `charged·special/M`) is exactly Δcollector + Δburned + Δforwarded +
      re-entered the reserve + dust in the pair — every unit of it is accounted for outside
      the accounts' wallets: none of it is credited to a user;
    * on the output side the pair's wallet lost exactly `out` + what fee swaps burned / forwarded,
      and simple-lock gained exactly the LOCKED part of `out`. -/
theorem swap_ledger_exact (total special : Nat) (adder : Option Nat) (cap : Nat)
    (funds : List (Nat × Nat)) (ops : List LOp) (i : Nat) (op : Op) (o : Out) (l' : L)
    (hsw : isSwap op = true)
    (h : stepL (runL (initL total special adder cap funds) ops) (.call i op) = some (l', o)) :
    let l := runL (initL total special adder cap funds) ops
    let d := swapDir op
    let charged := chargedOf op o
    let fee := swapFee l.p charged
    sumOf (·.tokIn d) l'.accts + charged = sumOf (·.tokIn d) l.accts ∧
    sumOf (·.tokOut d) l'.accts + sumOf (·.lkOut d) l'.accts =
      sumOf (·.tokOut d) l.accts + sumOf (·.lkOut d) l.accts + o.v1 ∧
    sumOf (·.lkIn d) l'.accts = sumOf (·.lkIn d) l.accts ∧
    sumOf (·.lp) l'.accts = sumOf (·.lp) l.accts ∧
    l.pairIn d + charged = l'.pairIn d + (l'.p.burnIn d - l.p.burnIn d) +
      (l'.p.collIn d - l.p.collIn d) + (l'.p.extIn d - l.p.extIn d) ∧
    fee ≤ charged * l.p.special / M ∧
    fee = (l'.p.collIn d - l.p.collIn d) + (l'.p.burnIn d - l.p.burnIn d) +
          (l'.p.extIn d - l.p.extIn d) + (l'.p.rin d - (l.p.rin d + (charged - fee))) +
          ((l'.pairIn d - l'.p.rin d) - (l.pairIn d - l.p.rin d)) ∧
    l.pairOut d = l'.pairOut d + o.v1 + (l'.p.burnOut d - l.p.burnOut d) +
      (l'.p.extOut d - l.p.extOut d) ∧
    l'.p.slkOut d = l.p.slkOut d + o.lockedAmt ∧ l'.p.slkIn d = l.p.slkIn d := by
  have hl : LInv (runL (initL total special adder cap funds) ops) :=
    runL_inv ops (initL_inv total special adder cap funds)
  generalize runL (initL total special adder cap funds) ops = l at h hl ⊢
  dsimp only
  have hl' : LInv l' := stepL_inv hl h
  obtain ⟨p', _, _, hs, _, _, e1, _⟩ := stepL_call_spec h
  rw [← e1] at hs
  obtain ⟨t1, t2, t3, t4, t5⟩ := swap_accounts_total hsw h
  obtain ⟨f1, _, f3, _, f5, _, f7, _, _, _⟩ := swap_fee_ledger hl.inv hsw hs
  obtain ⟨k1, k2⟩ := swap_slk_step hsw hs
  have hpl := plain_add_locked o
  rw [hl.pairIn, hl'.pairIn, hl.pairOut, hl'.pairOut]
  exact ⟨t1, by omega, t4, t5, f3, f1, f5, f7, k1, k2⟩

/-- non-vacuity of (B1)/(B3): a pool with a collector cut and three destinations (input token:
    burned; output token: local swap, burned; third token: forwarded to the trusted pair), a
    fixed-input swap whose special fee 1000 splits as 500 collector + 166 burned + 166
    forwarded + 166 re-entered the reserve + 2 dust, and a fixed-output swap in the other
    direction delivered as LOCKED tokens. -/
example :
    let l := runL (initL 3000 1000 none 8 [(50000000, 50000000), (3000000, 3000000)])
      [.call 0 (.cfg (.setState .active)), .call 0 (.addLiq 10000000 20000000 1 1),
       .call 0 (.cfg (.addDest .first)), .call 0 (.cfg (.addDest .second)),
       .call 0 (.cfg (.addDest .other)), .call 0 (.cfg (.setCollector 50000)),
       .call 0 (.cfg (.setTrusted true (some ⟨5000000, 7000000, true⟩)))]
    let r := stepL l (.call 1 (.swapIn .ab 100000 1))
    (r.map fun x => (x.1.p.coll1, x.1.p.burn1, x.1.p.ext1, x.1.p.burn2, x.1.p.r1, x.1.pairA)) =
      some (500, 166, 166, 325, 10099166, 10099168) ∧
    swapFee l.p 100000 = 1000 ∧
    (r.map fun x => x.1.accts.map fun a => (a.a, a.b)) =
      some [(40000000, 30000000), (2900000, 3000000 + 192136)] := by
  decide

example :
    let l := runL (initL 300 100 none 8 [(50000000, 50000000), (3000000, 3000000)])
      [.call 0 (.cfg (.setState .active)), .call 0 (.addLiq 10000000 20000000 1 1),
       .call 0 (.cfg (.addDest .second)), .call 0 (.lock true (.setSc .simpleLock)),
       .call 0 (.lock true (.setDeadline 5)), .call 0 (.lock true (.setUnlock 9))]
    let r := stepL l (.call 1 (.swapOut .ba 900000 1000))
    (r.map fun x => (x.2.v1, x.2.v2, x.2.v3, x.2.locked)) = some (1000, 2007, 897993, true) ∧
    (r.map fun x => x.1.accts.map fun a => (a.a, a.b, a.lkA)) =
      some [(40000000, 30000000, 0), (3000000, 3000000 - 2007, 1000)] ∧
    (r.map fun x => (x.1.p.slk1, x.1.p.burn2)) = some (1000, 2) := by
  decide

end Mx.C03Ledger
