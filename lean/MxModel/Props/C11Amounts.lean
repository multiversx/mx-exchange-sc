/-
  C11 — Boosted rewards (dex/farm, farm-with-locked-rewards): EVERY logged payment is the formula,
  and the denominator of a closed week (Props/C11Once.lean has "no (user, week) twice" and
  completeness of the same log).

  1. AMOUNTS.  `Farm.paidLog` (Lemmas/FarmLogRun.lean, a function of the history) has one entry
     `(user, week, amount)` per week pool a successful operation paid out of.  Every entry's amount is
     the formula of the property, read on the cells of the state BEFORE the operation and the week's
     frozen pool `R` after it — in EVERY state, no invariant needed (`boosted_log_amount`); behind it is
     the exact ledger equation `paidW' w = paidW w + duePay …`, for all weeks and all operations
     (`boosted_step_amounts`).  In reachable states the factors are the stored ring's entry for the week
     and `R` is EXACTLY what was cut into the week: `R = cutW week`, "the boosted share accumulated that
     week" (`frozen_pool_eq_cut`).
  2. DENOMINATOR.  `denominator_at_close`: for as long as a week is claimable, the farm's
     `totalEnergyForWeek(w)` equals Σ over all participants of their recorded energy decayed to `w`,
     taken at the last moment `w` was the running global week (`Farm.closeSum`, a function of the
     history); `closed_week_frozen`: afterwards it never changes (only cleared, five weeks later).
-/
import MxModel.Props.C11Once
import MxModel.Lemmas.FarmFrozen
import MxModel.Lemmas.FarmClose

namespace Mx.C11Amounts
open Mx.Farm

/-- `boostedAmount` IS the formula of the property -/
theorem boostedAmount_eq (fa : Factors) (R f F e E : Nat) :
    boostedAmount fa R f F e E =
      min (fa.maxF * R * f / F) ((R * fa.cE * e / E + R * fa.cF * f / F) / (fa.cE + fa.cF)) := rfl

/-- **every logged payment is the formula.**  In ANY state `s`, for any operation `op` and any entry
    `(user, week, amount)` the operation adds to the paid log: with `fa` the factors in force for `week`
    (stored ring shifted to the current week), `p` the user's stored claim progress (not after `week`),
    `R` the week's frozen pool — `totalRewardsForWeek(week) = [(tok, R)]` after the operation —,
    `f = userTotalFarmPosition(user)` BEFORE the operation, `F = farmSupplyForWeek(week)`,
    `e` = the progress energy decayed to `week`, `E = totalEnergyForWeek(week)`:
    `amount = min ⌊maxF·R·f/F⌋ ⌊(⌊R·cE·e/E⌋ + ⌊R·cF·f/F⌋)/(cE+cF)⌋`, and `E ≠ 0`, `F ≠ 0`,
    `e ≥ minE`, `f ≥ minF`, `R ≠ 0` (nothing is logged otherwise). -/
theorem boosted_log_amount (s : St) (op : Op) (e : Entry) (h : e ∈ stepLog s op) :
    ∃ fa p tok R,
      factorsInForce s e.week = some fa ∧
      s.w.progress e.user = some p ∧ p.week ≤ e.week ∧
      (next s op).w.totalRewards e.week = [(tok, R)] ∧ R ≠ 0 ∧
      s.w.totalEnergy e.week ≠ 0 ∧ s.b.farmSupplyWeek e.week ≠ 0 ∧
      fa.minE ≤ entryE p e.week ∧ fa.minF ≤ s.userTotal e.user ∧
      e.amount =
        min (fa.maxF * R * s.userTotal e.user / s.b.farmSupplyWeek e.week)
          ((R * fa.cE * entryE p e.week / s.w.totalEnergy e.week +
            R * fa.cF * s.userTotal e.user / s.b.farmSupplyWeek e.week) / (fa.cE + fa.cF)) := by
  have hamt := stepLog_amount h
  have hpos := stepLog_pos h
  have hne : duePay s e.user e.week (rOf ((next s op).w.totalRewards e.week)) ≠ 0 := by omega
  obtain ⟨W, p, fa, _, hp, hple, _, _, hfa, hE, hF, hme, hmf, heq⟩ := duePay_pos hne
  have hb : boostedAmount fa (rOf ((next s op).w.totalRewards e.week)) (s.userTotal e.user)
      (s.b.farmSupplyWeek e.week) (entryE p e.week) (s.w.totalEnergy e.week) ≠ 0 := by
    rw [← heq]; exact hne
  have hR := boostedAmount_R_pos hb
  obtain ⟨tok, R, hl⟩ := rOf_pos hR
  rw [hl, rOf_single] at heq hR
  exact ⟨fa, p, tok, R, hfa, hp, hple, hl, hR, hE, hF, hme, hmf, by rw [hamt, hl, rOf_single, heq]; rfl⟩

/-- **every logged payment of every history is the formula**: each entry of the paid log of a
    history from a freshly deployed farm was produced by an operation `op` of the history, executed
    in the state `s` reached by the operations before it, and satisfies the statement of
    `boosted_log_amount` there. -/
theorem boosted_log_amount_run (kind : Kind) (same : Bool) (dsc pb : Nat) (produce : Bool)
    (users : List Nat) (e0 : Nat) (ops : List Op) (e : Entry)
    (h : e ∈ paidLog (init kind same dsc pb produce users e0) ops) :
    ∃ ops1 op ops2, ops = ops1 ++ op :: ops2 ∧
      let s := run (init kind same dsc pb produce users e0) ops1
      e ∈ stepLog s op ∧
      ∃ fa p tok R,
        factorsInForce s e.week = some fa ∧
        s.w.progress e.user = some p ∧ p.week ≤ e.week ∧
        (next s op).w.totalRewards e.week = [(tok, R)] ∧ R ≠ 0 ∧
        s.w.totalEnergy e.week ≠ 0 ∧ s.b.farmSupplyWeek e.week ≠ 0 ∧
        fa.minE ≤ entryE p e.week ∧ fa.minF ≤ s.userTotal e.user ∧
        e.amount =
          min (fa.maxF * R * s.userTotal e.user / s.b.farmSupplyWeek e.week)
            ((R * fa.cE * entryE p e.week / s.w.totalEnergy e.week +
              R * fa.cF * s.userTotal e.user / s.b.farmSupplyWeek e.week) / (fa.cE + fa.cF)) := by
  obtain ⟨ops1, op, ops2, hsplit, he⟩ := C11Once.boosted_log_entries ops _ e h
  exact ⟨ops1, op, ops2, hsplit, he, boosted_log_amount _ op e he⟩

/-- **the exact ledger equation, for all weeks and all operations.**  A successful operation whose
    boosted claim runs for `u` raises `paidW w` — for EVERY week `w` — by exactly `duePay s u w R_w`
    (0 outside `current − 4 ≤ w < current`, before `u`'s stored progress week, without total energy or
    recorded supply, below a minimum; else the formula on the pre-state's cells and the week's frozen
    pool `R_w` after the operation); an operation without claim user leaves `paidW` alone. -/
theorem boosted_step_amounts {s s' : St} {op : Op} {o : Out} (h : step s op = some (s', o)) :
    (∀ u, claimUser s op = some u →
      ∀ w, s'.b.paidW w = s.b.paidW w + duePay s u w (rOf (s'.w.totalRewards w))) ∧
    (claimUser s op = none → s'.b.paidW = s.b.paidW) :=
  ⟨fun _ hu => step_amt h hu, step_paid_of_no_claimUser h⟩

/-- **zero below the minima.**  If the claim user's recorded energy decayed to week `w` is below the
    week's minimum energy, or his total farm position is below the week's minimum position (or the
    week has no total energy / no recorded farm supply), then the operation logs NOTHING for week `w`
    and the week's boosted ledger does not move. -/
theorem boosted_log_absent_below_min {s s' : St} {op : Op} {o : Out} {u w : Nat} {fa : Factors}
    {p : Weekly.ClaimProgress} (h : step s op = some (s', o)) (hu : claimUser s op = some u)
    (hfa : factorsInForce s w = some fa) (hp : s.w.progress u = some p)
    (hb : s.w.totalEnergy w = 0 ∨ s.b.farmSupplyWeek w = 0 ∨ entryE p w < fa.minE ∨
      s.userTotal u < fa.minF) :
    s'.b.paidW w = s.b.paidW w ∧ ∀ e ∈ stepLog s op, e.week ≠ w := by
  have hz : ∀ R, duePay s u w R = 0 := fun R => duePay_zero_of_below hfa hp hb
  refine ⟨by rw [step_amt h hu w, hz]; rfl, stepLog_none_of_duePay_zero hu (hz _)⟩

/-- **the factors in force are the ring's entry for the week** (reachable states, distinct accounts;
    `GoodOps ops` is carried, no proof uses it): for a week of the claim window the factors used by
    the formula are `BCfg.facFor week` of the STORED config — shifting the 5-slot ring to the current
    week does not change them. -/
theorem factors_in_force_ring (kind : Kind) (same : Bool) (dsc pb : Nat) (produce : Bool)
    (users : List Nat) (e0 : Nat) (hnd : users.Nodup) (ops : List Op) (hg : GoodOps ops) (W w : Nat) :
    let s := run (init kind same dsc pb produce users e0) ops
    s.week = some W → w < W → W < w + 5 → factorsInForce s w = facAt s.b.cfg w := by
  intro s hW h1 h2
  exact factorsInForce_facAt (reachable_paidInv kind same dsc pb produce users e0 hnd ops W hW) h1 h2

/-- **the frozen pool is what was cut into the week** (reachable states, same hypotheses): for a
    week `w` of the claim window frozen with pool `R`, `R` plus what is still accumulated for `w` plus
    what was collected from it as undistributed is exactly `cutW w`; in particular `R ≤ cutW w`,
    and `remaining w + paidW w = R`. -/
theorem frozen_pool_le_cut (kind : Kind) (same : Bool) (dsc pb : Nat) (produce : Bool)
    (users : List Nat) (e0 : Nat) (hnd : users.Nodup) (ops : List Op) (hg : GoodOps ops)
    (W w tok R : Nat) :
    let s := run (init kind same dsc pb produce users e0) ops
    s.week = some W → W ≤ w + 4 → s.w.totalRewards w = [(tok, R)] →
      tok = REW ∧ s.b.remaining w + s.b.paidW w = R ∧
      R + s.b.accum w + s.b.collW w = s.b.cutW w := by
  intro s hW hw hfr
  have hP := reachable_paidInv kind same dsc pb produce users e0 hnd ops W hW
  have hshape : (pmv s).TR w = [] ∨ ∃ R', (pmv s).TR w = [(REW, R')] := hP.rel.shape w hw
  have htr : (pmv s).TR w = [(tok, R)] := hfr
  have htok : tok = REW := by
    rcases hshape with h0 | ⟨R', h1⟩
    · rw [h0] at htr; cases htr
    · rw [h1] at htr
      simp only [List.cons.injEq, Prod.mk.injEq, and_true] at htr
      exact htr.1.symm
  subst htok
  have h1 : s.b.remaining w + s.b.paidW w = R := hP.rel.frozen w R hw htr
  have h2 : s.b.accum w + s.b.remaining w + s.b.paidW w + s.b.collW w = s.b.cutW w :=
    C11Pool.week_pool_life_cycle kind same dsc pb produce users e0 ops w
  exact ⟨rfl, h1, by omega⟩

/-- **R is the boosted share accumulated that week** (reachable states, same hypotheses): for a
    week `w ≥ 1` of the claim window (`current − 4 ≤ w < current`) frozen with pool `R`, `R` is EXACTLY
    `cutW w` — everything `take_reward_slice` ever cut into week `w`'s pool: nothing is left in the
    accumulator of a frozen week (`Farm.AccInv`) and no week of the window has been collected
    (`Farm.MarkInv`).  So the `R` of `boosted_log_amount` is the boosted share accumulated in `week`. -/
theorem frozen_pool_eq_cut (kind : Kind) (same : Bool) (dsc pb : Nat) (produce : Bool)
    (users : List Nat) (e0 : Nat) (hnd : users.Nodup) (ops : List Op) (hg : GoodOps ops)
    (W w tok R : Nat) :
    let s := run (init kind same dsc pb produce users e0) ops
    s.week = some W → 1 ≤ w → w < W → W ≤ w + 4 → s.w.totalRewards w = [(tok, R)] →
      R = s.b.cutW w := by
  intro s hW h1 hlt h4 hfr
  have hcut : R + s.b.accum w + s.b.collW w = s.b.cutW w :=
    (frozen_pool_le_cut kind same dsc pb produce users e0 hnd ops hg W w tok R hW h4 hfr).2.2
  have hacc : s.b.accum w = 0 :=
    (reachable_accInv kind same dsc pb produce users e0 ops W hW).acc w hlt h4 (by rw [hfr]; simp)
  have hWc : W = curWeek s := week_curWeek hW
  have hmark : s.lastCollect = 0 ∨ s.lastCollect + 5 ≤ curWeek s :=
    reachable_markInv kind same dsc pb produce users e0 ops
  have hcoll : s.b.collW w = 0 :=
    C11Pool.uncollected_above_marker kind same dsc pb produce users e0 ops w
      (show s.lastCollect < w by omega)
  omega

/-- the stored `totalEnergyForWeek(w)` equals `closeSum`, or the week has been cleared (possible only
    once the global week is at least `w + 5`, when nobody can claim `w` any more) -/
theorem denominator_at_close_or_cleared (kind : Kind) (same : Bool) (dsc pb : Nat) (produce : Bool)
    (users : List Nat) (e0 : Nat) (ops : List Op) (w : Nat) :
    let s0 := init kind same dsc pb produce users e0
    let s := run s0 ops
    s.w.totalEnergy w = closeSum w s0 ops 0 ∨
      (s.w.totalEnergy w = 0 ∧ w + 4 < s.w.lastGlobalUpdateWeek) :=
  closeSum_exact_from w ops (init_winv kind same dsc pb produce users e0)
    (init_CloseInv kind same dsc pb produce users e0 w)

/-- **denominator at close.**  After ANY history of a farm and for every week `w` that has not been
    cleared (in particular every claimable week: `lastGlobalUpdateWeek ≤ w + 4`), the stored
    `totalEnergyForWeek(w)` — the `E` of the boosted formula — equals `closeSum`: the sum over ALL
    participants of their recorded energies decayed to week `w`, as recorded in the last state of the
    history in which `w` was the running global week (0 if the farm's weekly module was never touched
    during `w`).  Equality, not `≤`. -/
theorem denominator_at_close (kind : Kind) (same : Bool) (dsc pb : Nat) (produce : Bool)
    (users : List Nat) (e0 : Nat) (ops : List Op) (w : Nat) :
    let s0 := init kind same dsc pb produce users e0
    let s := run s0 ops
    s.w.lastGlobalUpdateWeek ≤ w + 4 → s.w.totalEnergy w = closeSum w s0 ops 0 := by
  intro s0 s hle
  rcases denominator_at_close_or_cleared kind same dsc pb produce users e0 ops w with h | ⟨_, h⟩
  · exact h
  · exact absurd hle (Nat.not_le.mpr h)

/-- while `w` IS the running global week the sum is over the current records (this is the value
    `closeSum` remembers when the week is left) -/
theorem denominator_running_week (kind : Kind) (same : Bool) (dsc pb : Nat) (produce : Bool)
    (users : List Nat) (e0 : Nat) (ops : List Op) :
    let s := run (init kind same dsc pb produce users e0) ops
    s.w.totalEnergy s.w.lastGlobalUpdateWeek = Weekly.recordedSum s.w s.w.lastGlobalUpdateWeek :=
  (reachable_winv kind same dsc pb produce users e0 ops).1.energy_eq

/-- **a closed week's denominator is frozen.**  After ANY history, whatever the next operation
    (all 28 operation kinds, all arguments): the global week never moves back, and every week other
    than the (new) global week keeps its total energy — except week `lastGlobalUpdateWeek − 5`, which
    is cleared. -/
theorem closed_week_frozen (kind : Kind) (same : Bool) (dsc pb : Nat) (produce : Bool)
    (users : List Nat) (e0 : Nat) (ops : List Op) (op : Op) :
    let s := run (init kind same dsc pb produce users e0) ops
    let s' := next s op
    s.w.lastGlobalUpdateWeek ≤ s'.w.lastGlobalUpdateWeek ∧
    ∀ w, w ≠ s'.w.lastGlobalUpdateWeek →
      s'.w.totalEnergy w = s.w.totalEnergy w ∨
        (s'.w.totalEnergy w = 0 ∧ w + 5 = s'.w.lastGlobalUpdateWeek) := by
  intro s s'
  have hE := next_EStep s op
  exact ⟨hE.mono, hE.frame⟩

/-- the denominator a logged payment was computed with is not moved by the paying operation: after
    ANY history, for every entry the next operation logs, `totalEnergyForWeek(week)` is the same
    before and after the operation (so the `E` of `boosted_log_amount` is also the stored value
    afterwards — the one `denominator_at_close` identifies) -/
theorem boosted_log_denominator_kept (kind : Kind) (same : Bool) (dsc pb : Nat) (produce : Bool)
    (users : List Nat) (e0 : Nat) (ops : List Op) (op : Op) (e : Entry) :
    let s := run (init kind same dsc pb produce users e0) ops
    e ∈ stepLog s op → (next s op).w.totalEnergy e.week = s.w.totalEnergy e.week := by
  intro s he
  exact stepLog_energy_kept he

/-- non-vacuity: two users with equal positions and different energies; the week-1 pool of 2500 is claimed in
    week 2 by user 1 (873), then by user 2 (1626); user 1's second claim logs nothing -/
def exOps : List Op :=
  [.setFactors OWNER ⟨10, 3, 2, 1, 1⟩, .setPct OWNER 2500, .setEnergy 1 1000000 0 1000,
   .setEnergy 2 3000000 0 1000, .enter 1 none 100000000 [], .enter 2 none 100000000 [],
   .advance 10 6, .claim 1 none [(1, 100000000)], .advance 10 7, .claimBoosted 1 none,
   .claimBoosted 2 none, .claimBoosted 1 none]

local notation "exInit" => init Kind.mint false 1000000000000 1000 true [1, 2] 0

/-- the state before user 1's boosted claim (week 2) and what is due to him for week 1 -/
theorem ex_before :
    let s := run exInit (exOps.take 9)
    s.week = some 2 ∧ s.b.paidW 1 = 0 ∧
    factorsInForce s 1 = some ⟨10, 3, 2, 1, 1⟩ ∧ s.userTotal 1 = 100000000 ∧
    s.b.farmSupplyWeek 1 = 200000000 ∧ s.w.totalEnergy 1 = 3994000 ∧
    (s.w.progress 1).map (fun p => (p.week, entryE p 1)) = some (1, 994000) ∧
    (next s (.claimBoosted 1 none)).b.paidW 1 = 873 ∧
    (next s (.claimBoosted 1 none)).w.totalRewards 1 = [(REW, 2500)] := by
  decide

/-- non-vacuity of `boosted_log_amount`: user 1's `claimBoostedRewards` in week 2 logs an entry for
    week 1 with a positive amount — and by `boosted_log_amount` that amount is
    `min ⌊10·2500·10⁸/(2·10⁸)⌋ ⌊(⌊2500·3·994000/3994000⌋ + ⌊2500·2·10⁸/(2·10⁸)⌋)/5⌋ = 873` -/
example : ∃ e ∈ stepLog (run exInit (exOps.take 9)) (.claimBoosted 1 none),
    e.week = 1 ∧ e.user = 1 ∧ e.amount = 873 ∧
    873 = min (10 * 2500 * 100000000 / 200000000)
      ((2500 * 3 * 994000 / 3994000 + 2500 * 2 * 100000000 / 200000000) / (3 + 2)) := by
  obtain ⟨_, h0, _, _, _, _, _, h1, _⟩ := ex_before
  have hsum := stepLog_sum (run exInit (exOps.take 9)) (.claimBoosted 1 none) 1
  rw [h1, h0, Nat.zero_add] at hsum
  obtain ⟨e, he, hw, _⟩ := exists_of_logSum_pos (l := stepLog _ _) (w := 1) (by rw [← hsum]; decide)
  have hu := (stepLog_window he).1
  simp only [claimUser, Option.getD_none, Option.some.injEq] at hu
  refine ⟨e, he, hw, hu.symm, ?_, by decide⟩
  have : e.amount = (next (run exInit (exOps.take 9)) (.claimBoosted 1 none)).b.paidW e.week -
      (run exInit (exOps.take 9)).b.paidW e.week := by
    obtain ⟨u, r, hcu, hs, hm⟩ := stepLog_cases he
    rw [next_of_some hs]
    exact (mem_entriesOf hm).2.2.2
  rw [this, hw, h1, h0]

theorem ex_state :
    let s := run exInit exOps
    s.b.paidW 1 = 2499 ∧ s.b.cutW 1 = 2500 ∧ s.w.lastGlobalUpdateWeek = 2 ∧
    s.w.totalEnergy 1 = 3994000 ∧ Weekly.recordedSum s.w 1 = 3986000 := by
  decide

/-- non-vacuity of `frozen_pool_eq_cut`: after the history week 1 (claim window of week 2) is frozen
    with `R = 2500`, and that is everything that was cut into its pool -/
example : (run exInit exOps).week = some 2 ∧ (run exInit exOps).w.totalRewards 1 = [(REW, 2500)] ∧
    (run exInit exOps).b.cutW 1 = 2500 := by
  have h1 : (run exInit exOps).week = some 2 ∧ (run exInit exOps).w.totalRewards 1 = [(REW, 2500)] := by
    decide
  refine ⟨h1.1, h1.2, ?_⟩
  exact (frozen_pool_eq_cut Kind.mint false 1000000000000 1000 true [1, 2] 0 (by decide) exOps
    (goodOps_of_all (by decide)) 2 1 REW 2500 h1.1 (by decide) (by decide) (by decide) h1.2).symm

/-- non-vacuity of the history-level theorems: the log of the whole history holds 873 + 1626 = 2499
    for week 1 (of a pool of 2500) -/
example : logSum (paidLog exInit exOps) 1 = 2499 ∧
    ∃ e ∈ paidLog exInit exOps, e.week = 1 ∧ 0 < e.amount := by
  have h0 : (run exInit exOps).b.paidW 1 = logSum (paidLog exInit exOps) 1 :=
    C11Once.boosted_log_complete Kind.mint false 1000000000000 1000 true [1, 2] 0 exOps 1
  have h : logSum (paidLog exInit exOps) 1 = 2499 := h0.symm.trans ex_state.1
  exact ⟨h, exists_of_logSum_pos (by rw [h]; decide)⟩

/-- non-vacuity of `denominator_at_close`: week 1 was closed with Σ = 994000 + 3000000, although the
    CURRENT records decayed to week 1 sum to 3986000 only (both users' records were replaced by
    their week-2 energies when they claimed) -/
example : closeSum 1 exInit exOps 0 = 3994000 ∧
    Weekly.recordedSum (run exInit exOps).w 1 ≠ (run exInit exOps).w.totalEnergy 1 := by
  obtain ⟨_, _, h3, h4, h5⟩ := ex_state
  have h := denominator_at_close Kind.mint false 1000000000000 1000 true [1, 2] 0 exOps 1
  simp only [h3] at h
  exact ⟨(h (by decide)).symm.trans h4, by rw [h4, h5]; decide⟩

end Mx.C11Amounts
