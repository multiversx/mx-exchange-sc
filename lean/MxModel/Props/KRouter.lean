/-
  KRouter — the router's registry lookups as the SOURCE writes them
  (`dex/router/src/factory.rs::get_pair`, `dex/router/src/config.rs::check_is_pair_sc`) against the
  hand-written model `Core/Router.lean` (`getPair`, `checkIsPairSc`).

  `Gen/KRouter.lean` is regenerated on every run by `bin/gen-kernels` (group `Router`).  The map
  `pair_map : MapMapper<PairTokens, ManagedAddress>` is a parameter
  `pair_map : Nat → Nat → Option Nat` (first token, second token — the field order of the struct
  DECLARATION `PairTokens`, not of the literal that builds the key); an `Option` local is the pair
  `(otag o, oval o)`; `.unwrap_or_else(ManagedAddress::zero)` is `oval`.

  Property C14: `getPair` looks the pair up in both token orders; pause / resume / setFeeOn / setFeeOff /
  setSwapEnabledByUser / every swap hop start with `check_is_pair_sc`, which accepts an address only
  when the registry entry for the tokens THAT contract reports (in either order) is the address.
-/
import MxModel.Gen.KRouter
import MxModel.Props.C14

namespace Mx.KRouter
open Mx Mx.Gen Mx.Router

/-- the model's registry seen as the source's map -/
def mapOf (m : Reg) : Nat → Nat → Option Nat := fun a b => lookup m (a, b)

theorem get_pair_eq (m : Reg) (a b : Tok) :
    KRouter.get_pair a (mapOf m) b = some (getPair m a b) := by
  unfold KRouter.get_pair getPair mapOf
  cases h1 : lookup m (a, b) <;> cases h2 : lookup m (b, a) <;>
    simp [oval, Option.getD] <;> split <;> simp_all

/-- `t1`, `t2`: the two token ids the source reads from the storage of `address` -/
theorem check_is_pair_sc_closed (m : Reg) (t1 t2 : Tok) (a : Addr) :
    KRouter.check_is_pair_sc t1 t2 a (mapOf m) =
      if lookup m (t1, t2) = some a ∨ (lookup m (t1, t2) = none ∧ lookup m (t2, t1) = some a)
      then some () else none := by
  unfold KRouter.check_is_pair_sc mapOf
  cases h1 : lookup m (t1, t2) with
  | none =>
    cases h2 : lookup m (t2, t1) with
    | none => simp [otag, oval, req, h1, h2]
    | some v =>
      by_cases hv : v = a
      · subst hv; simp [otag, oval, req, h1, h2]
      · have hv' : ¬ a = v := fun h => hv h.symm
        simp [otag, oval, req, hv, hv', h1, h2]
  | some v =>
    by_cases hv : v = a
    · subst hv; simp [otag, oval, req, h1]
    · have hv' : ¬ a = v := fun h => hv h.symm
      simp [otag, oval, req, hv, hv', h1]

theorem check_is_pair_sc_eq (m : Reg) (w : Pairs) (a : Addr) (p : PairRec) (hw : w a = some p) :
    KRouter.check_is_pair_sc p.t1 p.t2 a (mapOf m) = checkIsPairSc m w a := by
  rw [check_is_pair_sc_closed]
  unfold checkIsPairSc
  rw [hw]
  cases h1 : lookup m (p.t1, p.t2) with
  | none =>
    cases h2 : lookup m (p.t2, p.t1) with
    | none => simp [req, h1, h2]
    | some v => by_cases hv : v = a <;> simp [req, hv, h1, h2]
  | some v => by_cases hv : v = a <;> simp [req, hv, h1]

theorem model_check_passes_source {m : Reg} {w : Pairs} {a : Addr}
    (h : checkIsPairSc m w a = some ()) :
    ∃ p, w a = some p ∧ KRouter.check_is_pair_sc p.t1 p.t2 a (mapOf m) = some () := by
  cases hw : w a with
  | none => simp [checkIsPairSc, hw] at h
  | some p => exact ⟨p, rfl, by rw [check_is_pair_sc_eq m w a p hw]; exact h⟩

theorem source_get_pair_symm (owner self : Addr) (template : Bool) (foreign : List PairRec)
    (funds : Addr → Nat → Nat) (ops : List Op) (a b : Tok) :
    KRouter.get_pair a (mapOf (run (init owner self template foreign funds) ops).pairMap) b =
      KRouter.get_pair b (mapOf (run (init owner self template foreign funds) ops).pairMap) a := by
  rw [get_pair_eq, get_pair_eq, C14.getPair_symm]

theorem source_check_iff_registered (owner self : Addr) (template : Bool) (foreign : List PairRec)
    (funds : Addr → Nat → Nat) (ops : List Op) (a : Addr) (p : PairRec)
    (hw : (run (init owner self template foreign funds) ops).pairs a = some p) :
    KRouter.check_is_pair_sc p.t1 p.t2 a
        (mapOf (run (init owner self template foreign funds) ops).pairMap) = some () ↔
      a ∈ (run (init owner self template foreign funds) ops).pairMap.map Prod.snd := by
  rw [check_is_pair_sc_eq _ _ a p hw]
  exact C14.only_registered_iff owner self template foreign funds ops a

/-! non-vacuity: a two-entry registry, both orders, an unregistered address, the reverse entry being
    consulted only when the direct one is absent -/
example : KRouter.get_pair 1 (mapOf [((1, 2), 70), ((3, 4), 71)]) 2 = some 70 := by decide
example : KRouter.get_pair 2 (mapOf [((1, 2), 70), ((3, 4), 71)]) 1 = some 70 := by decide
example : KRouter.get_pair 1 (mapOf [((1, 2), 70), ((3, 4), 71)]) 4 = some 0 := by decide
example : KRouter.check_is_pair_sc 1 2 70 (mapOf [((1, 2), 70), ((3, 4), 71)]) = some () := by decide
example : KRouter.check_is_pair_sc 2 1 70 (mapOf [((1, 2), 70), ((3, 4), 71)]) = some () := by decide
example : KRouter.check_is_pair_sc 1 2 71 (mapOf [((1, 2), 70), ((3, 4), 71)]) = none := by decide
example : KRouter.check_is_pair_sc 1 2 70 (mapOf [((1, 2), 99), ((2, 1), 70)]) = none := by decide

end Mx.KRouter
