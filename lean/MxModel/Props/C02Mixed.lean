/-
  C02 — "no sequence of swaps returns more than was put in" and "adding then removing liquidity
  never returns more than was deposited", over the histories the property's quantifier allows.

  `C02.swaps_no_profit` covers lists consisting of `swapIn`/`swapOut` only, from a state with
  `0 < S`.  Here the start is ANY reachable state (any history `before`, also an empty pool) and the
  history `after` anything WITHOUT liquidity operations.  That restriction is necessary
  (`no_profit_needs_constant_liquidity`): across liquidity events only the share value `r₁r₂/S²` is
  monotone (`C02Inv.kS2_mono_run_all`); the no-profit bound holds per liquidity-free block of a history
  (`before` is arbitrary).  Likewise "at most the deposit" is a statement about IMMEDIATE redemption
  (`later_redeem_can_exceed_deposit`); what holds at any later time is `redeem_any_time`.
-/
import MxModel.Lemmas.PairEmpty
import MxModel.Lemmas.PairTrade

namespace Mx.C02Mixed
open Mx.Pair

theorem reachable_facts (total special : Nat) (adder : Option Nat) (cap : Nat) (ops : List Op) :
    let s := run (init total special adder cap) ops
    Inv s ∧ EmptyOK s ∧ SqLe s := by
  have h := run_empty_sq ops (inv_init total special adder cap) (emptyOK_init total special adder cap)
    (sqLe_init total special adder cap)
  exact ⟨run_inv ops (inv_init total special adder cap), h.1, h.2⟩

/-- K does not fall over a liquidity-free history from a state satisfying `Inv` and `EmptyOK`
    (`S` is constant over such a history, so this is `run_share` with the `S²` factors cancelled) -/
theorem trade_run_k {s : St} (hi : Inv s) (he : EmptyOK s) (ops : List Op)
    (hall : ∀ op ∈ ops, isLiq op = false) :
    s.r1 * s.r2 ≤ (run s ops).r1 * (run s ops).r2 := by
  have hS := (trade_run ops hall s).1
  rcases Nat.eq_zero_or_pos s.S with h0 | hpos
  · obtain ⟨z1, _⟩ := he h0
    rw [z1]; simp
  · have hsh := run_share ops hi hpos
    unfold ShareLe at hsh
    rw [hS] at hsh
    exact Nat.le_of_mul_le_mul_right hsh (Nat.pow_pos hpos)

/-- **No sequence of swaps returns more than was put in — quantitative form.**  Start from the
    state after ANY history `before`; let `after` be any history without liquidity operations
    (swaps of any callers interleaved with `swapNoFeeAndForward`, configuration changes, clock
    ticks, failed transactions) and `(Δa, Δb)` what all its callers together netted.  Then
    `Δa ≤ r₁`, `Δb ≤ r₂` and `(r₁ − Δa)(r₂ − Δb) ≥ r₁·r₂`, with `(r₁, r₂)` the reserves at the start
    of `after`: whatever the traders do, in whatever order, at whatever fee settings, together
    they do no better than one fee-less constant-product trade against those reserves. -/
theorem traders_flow_bound (total special : Nat) (adder : Option Nat) (cap : Nat)
    (before after : List Op) (hall : ∀ op ∈ after, isLiq op = false) :
    let s := run (init total special adder cap) before
    let f := (runT s after).2
    0 ≤ (s.r1 : Int) - f.1 ∧ 0 ≤ (s.r2 : Int) - f.2 ∧
    (s.r1 : Int) * s.r2 ≤ ((s.r1 : Int) - f.1) * ((s.r2 : Int) - f.2) := by
  intro s f
  obtain ⟨hi, he, _⟩ := reachable_facts total special adder cap before
  obtain ⟨_, f1, f2⟩ := trade_run after hall s
  exact flow_product _ _ _ _ _ _ f1 f2 (trade_run_k hi he after hall)

/-- **No sequence of swaps returns more than was put in.**  Same histories as
    `traders_flow_bound` (any reachable start — no `0 < S` hypothesis —, swaps by anyone
    interleaved with no-fee swaps, fee / destination / state / whitelist / locking changes and
    clock ticks): the traders cannot end with at least as much of both tokens and strictly more
    of one.  In particular no single trader's round trip, and no fee change between two swaps,
    extracts value from the pool. -/
theorem swaps_no_profit_mixed (total special : Nat) (adder : Option Nat) (cap : Nat)
    (before after : List Op) (hall : ∀ op ∈ after, isLiq op = false) :
    let s := run (init total special adder cap) before
    let f := (runT s after).2
    ¬ (0 ≤ f.1 ∧ 0 ≤ f.2 ∧ 0 < f.1 + f.2) := by
  intro s f
  obtain ⟨hi, he, _⟩ := reachable_facts total special adder cap before
  obtain ⟨b1, b2, hp⟩ := traders_flow_bound total special adder cap before after hall
  exact flow_no_profit s.r1 s.r2 f.1 f.2 (hi.reserves he) b1 b2 hp

/-- the state-level form (any `s` satisfying the inductive invariants); `C02.swaps_no_profit` is
    its instance for lists of swaps -/
theorem swaps_no_profit_state {s : St} (hi : Inv s) (he : EmptyOK s) (ops : List Op)
    (hall : ∀ op ∈ ops, isLiq op = false) :
    ¬ (0 ≤ (runT s ops).2.1 ∧ 0 ≤ (runT s ops).2.2 ∧ 0 < (runT s ops).2.1 + (runT s ops).2.2) := by
  obtain ⟨_, f1, f2⟩ := trade_run ops hall s
  obtain ⟨b1, b2, hp⟩ := flow_product _ _ _ _ _ _ f1 f2 (trade_run_k hi he ops hall)
  exact flow_no_profit s.r1 s.r2 _ _ (hi.reserves he) b1 b2 hp

/-- non-vacuity of the two theorems above: a history with both swap endpoints in both
    directions, a fee change, a fee destination, a state change that blocks one swap, a no-fee swap
    by a whitelisted contract and clock ticks; the traders' aggregate is a strict loss in the
    product sense and not a profit. -/
example :
    let s := run (init 300 50 none 8) [.cfg (.setState .active), .addLiq 1000000 2000000 1 1]
    let after : List Op :=
      [.swapIn .ab 50000 1, .cfg (.setFee 1000 100), .advance 5, .swapOut .ba 90000 4000,
       .cfg (.addDest .first), .swapIn .ba 30000 1, .cfg (.setState .partialActive),
       .swapIn .ab 10 1, .cfg (.setState .active), .cfg (.whitelist 7), .swapNoFee 7 .ab 500,
       .epoch 3, .lock true (.setDeadline 1), .swapOut .ab 70000 20000]
    let f := (runT s after).2
    (∀ op ∈ after, isLiq op = false) ∧ f.1 < 0 ∧ 0 < f.2 ∧
    (s.r1 : Int) * s.r2 < ((s.r1 : Int) - f.1) * ((s.r2 : Int) - f.2) := by
  decide

/-- The restriction to liquidity-free histories is NECESSARY: a swap, then a third party's
    `addLiquidity` at the moved pool ratio (minimum amounts 1, i.e. no slippage protection), then
    the reverse swap of exactly what the first one bought — the swapper ends with more of the
    first token and the same amount of the second.  The gain is paid by the depositor, not by
    the earlier liquidity providers (`r₁r₂/S²` still did not fall); the depositor's protection is
    the minimum-amount guard of `addLiquidity` (C04). -/
theorem no_profit_needs_constant_liquidity :
    let s := run (init 300 50 none 8) [.cfg (.setState .active), .addLiq 1000000 1000000 1 1]
    let ops : List Op := [.swapIn .ab 1000000 1, .addLiq 20000000 6000000 1 1, .swapIn .ba 499248 1]
    let f := (runT s ops).2
    0 < f.1 ∧ f.2 = 0 ∧
    s.r1 * s.r2 * (run s ops).S ^ 2 ≤ (run s ops).r1 * (run s ops).r2 * s.S ^ 2 ∧
    (addLiq (run s [.swapIn .ab 1000000 1]) 20000000 6000000 19000000 5500000).isSome = false := by
  decide

/-- **Adding liquidity and immediately removing it never returns more than was deposited** — on
    every reachable state, for ANY part `lp` of the LP tokens the deposit minted to the caller.
    Covers the first deposit (`S = 0`: `min a₁ a₂` LP are created, 1000 stay locked in the pair,
    the caller can redeem at most `min a₁ a₂ − 1000`); no `0 < S` hypothesis. -/
theorem add_then_remove_le_reachable (total special : Nat) (adder : Option Nat) (cap : Nat)
    (before : List Op) {s1 s2 : St} {a1 a2 m1 m2 lp n1 n2 : Nat} {o o' : Out}
    (hadd : addLiq (run (init total special adder cap) before) a1 a2 m1 m2 = some (s1, o))
    (hlp : lp ≤ o.v1) (hrem : removeLiq s1 lp n1 n2 = some (s2, o')) :
    o'.v1 ≤ o.v2 ∧ o'.v2 ≤ o.v3 ∧ o.v2 ≤ a1 ∧ o.v3 ≤ a2 := by
  obtain ⟨hi, he, _⟩ := reachable_facts total special adder cap before
  generalize run (init total special adder cap) before = s at hadd hi he
  have hM : MINLIQ = 1000 := rfl
  rcases Nat.eq_zero_or_pos s.S with h0 | hpos
  · obtain ⟨z1, z2⟩ := he h0
    obtain ⟨_, _, _, _, hmin, rfl, rfl⟩ := addLiq_first_spec h0 hadd
    obtain rfl := (removeLiq_spec hrem).out
    simp only [z1, z2, Nat.zero_add] at hlp ⊢
    refine ⟨?_, ?_, Nat.le_refl _, Nat.le_refl _⟩
    · have hl : lp ≤ min a1 a2 := by omega
      apply Nat.div_le_of_le_mul
      exact Nat.mul_le_mul_right _ hl
    · have hl : lp ≤ min a1 a2 := by omega
      apply Nat.div_le_of_le_mul
      exact Nat.mul_le_mul_right _ hl
  · have hp := hi.pos hpos
    obtain ⟨o1, o2, t⟩ := addLiq_spec (by omega) hadd
    obtain rfl := t.out
    obtain rfl := t.state
    have hopt := t.optimal
    obtain rfl := (removeLiq_spec hrem).out
    simp only at hlp ⊢
    refine ⟨?_, ?_, (optimal_le hopt).1, (optimal_le hopt).2⟩
    · exact Nat.le_trans (Nat.div_le_div_right (Nat.mul_le_mul_right _ hlp))
        (add_remove_le s.r1 s.S o1 _ hp.1 (Nat.min_le_left _ _))
    · exact Nat.le_trans (Nat.div_le_div_right (Nat.mul_le_mul_right _ hlp))
        (add_remove_le s.r2 s.S o2 _ hp.2.1 (Nat.min_le_right _ _))

/-- the `addInitialLiquidity` twin: it is always a first deposit (`S = 0`), mints `min a₁ a₂`,
    hands `min a₁ a₂ − 1000` to the caller; redeeming any part of that at once returns at most
    `(a₁, a₂)` -/
theorem addInitial_then_remove_le (total special : Nat) (adder : Option Nat) (cap : Nat)
    (before : List Op) {s1 s2 : St} {c a1 a2 lp n1 n2 : Nat} {o o' : Out}
    (hadd : addInitial (run (init total special adder cap) before) c a1 a2 = some (s1, o))
    (hlp : lp ≤ o.v1) (hrem : removeLiq s1 lp n1 n2 = some (s2, o')) :
    o'.v1 ≤ a1 ∧ o'.v2 ≤ a2 ∧ o.v1 + MINLIQ = min a1 a2 := by
  obtain ⟨_, he, _⟩ := reachable_facts total special adder cap before
  generalize run (init total special adder cap) before = s at hadd he
  have hM : MINLIQ = 1000 := rfl
  obtain ⟨_, _, _, _, h0, hmin, rfl, rfl⟩ := addInitial_spec hadd
  obtain ⟨z1, z2⟩ := he h0
  obtain rfl := (removeLiq_spec hrem).out
  simp only [z1, z2, Nat.zero_add] at hlp ⊢
  have hl : lp ≤ min a1 a2 := by omega
  refine ⟨?_, ?_, by omega⟩
  · apply Nat.div_le_of_le_mul
    exact Nat.mul_le_mul_right _ hl
  · apply Nat.div_le_of_le_mul
    exact Nat.mul_le_mul_right _ hl

/-- **LP tokens never redeem for more than their pro-rata share, at any later time of any
    history.**  Deposit at the state after any history `before`; then let ANY history `after`
    happen (swaps, other parties' deposits and withdrawals, fee changes, pauses and resumes, clock
    ticks); then redeem any amount `lp` of LP.  The payment is exactly the floor of
    `lp·rᵢ/S` of the reserves and supply AT THAT TIME (so `xᵢ·S ≤ lp·rᵢ < (xᵢ+1)·S`), it never
    takes a whole reserve, and the share value `r₁r₂/S²` at that time is at least what it was
    right after the deposit: what the depositor can lose relative to the deposit is price
    movement, never dilution. -/
theorem redeem_any_time (total special : Nat) (adder : Option Nat) (cap : Nat)
    (before after : List Op) {s1 s2 : St} {a1 a2 m1 m2 lp n1 n2 : Nat} {o o' : Out}
    (hadd : addLiq (run (init total special adder cap) before) a1 a2 m1 m2 = some (s1, o))
    (hrem : removeLiq (run s1 after) lp n1 n2 = some (s2, o')) :
    o'.v1 * (run s1 after).S ≤ lp * (run s1 after).r1 ∧
    lp * (run s1 after).r1 < (o'.v1 + 1) * (run s1 after).S ∧
    o'.v2 * (run s1 after).S ≤ lp * (run s1 after).r2 ∧
    lp * (run s1 after).r2 < (o'.v2 + 1) * (run s1 after).S ∧
    o'.v1 < (run s1 after).r1 ∧ o'.v2 < (run s1 after).r2 ∧ lp + MINLIQ ≤ (run s1 after).S ∧
    s1.r1 * s1.r2 * (run s1 after).S ^ 2 ≤ (run s1 after).r1 * (run s1 after).r2 * s1.S ^ 2 := by
  obtain ⟨hi, he, _⟩ := reachable_facts total special adder cap before
  have hstep : step (run (init total special adder cap) before) (.addLiq a1 a2 m1 m2) = some (s1, o) :=
    hadd
  have hi1 := step_inv hi hstep
  have he1 := step_emptyOK he hstep
  have hsh : ShareLe s1 (run s1 after) := run_share_all after hi1 he1
  have t := removeLiq_spec hrem
  obtain rfl := t.out
  have h5 := t.minliq
  have hM : MINLIQ = 1000 := rfl
  have hSpos : 0 < (run s1 after).S := by omega
  exact ⟨Nat.div_mul_le_self _ _,
    Nat.lt_of_lt_of_eq (Nat.lt_mul_div_succ _ hSpos) (Nat.mul_comm _ _),
    Nat.div_mul_le_self _ _,
    Nat.lt_of_lt_of_eq (Nat.lt_mul_div_succ _ hSpos) (Nat.mul_comm _ _), t.x1_lt, t.x2_lt, h5, hsh⟩

/-- deposit then redeem, as one closed computation: (LP minted to the caller, used₁, used₂,
    paid₁, paid₂) -/
def addThenRemove (s : St) (a1 a2 : Nat) (between : List Op) (lp : Nat) :
    Option (Nat × Nat × Nat × Nat × Nat) :=
  (addLiq s a1 a2 1 1).bind fun r =>
    (removeLiq (run r.1 between) lp 1 1).map fun q => (r.2.v1, r.2.v2, r.2.v3, q.2.v1, q.2.v2)

/-- non-vacuity of `add_then_remove_le_reachable` / `addInitial_then_remove_le` /
    `redeem_any_time`: a first deposit through `addLiquidity` (1000 LP locked: of 4000 minted only
    3000 reach the caller, redeeming them returns strictly less than the deposit), a first deposit
    through `addInitialLiquidity`, a later deposit with a partial immediate redemption. -/
example :
    let e := run (init 300 50 none 8) [.cfg (.setState .active)]
    addThenRemove e 4000 9000 [] 3000 = some (3000, 4000, 9000, 3000, 6750) ∧
    ((addInitial (init 300 50 (some 2) 8) 2 9000 4000).bind fun r =>
        (removeLiq r.1 2000 1 1).map fun q => (r.2.v1, q.2.v1, q.2.v2)) = some (3000, 4500, 2000) ∧
    addThenRemove (run e [.addLiq 4000 9000 1 1, .swapIn .ab 500 1]) 700 900 [] 300 =
      some (449, 506, 900, 337, 600) := by
  decide

/-- Why "never returns more than was deposited" is a statement about IMMEDIATE redemption:
    after another party's swap the very same LP redeems for more of the first token than was
    deposited (and less of the second) — `redeem_any_time` is what holds later. -/
theorem later_redeem_can_exceed_deposit :
    let s := run (init 300 50 none 8) [.cfg (.setState .active), .addLiq 1000000 1000000 1 1]
    addThenRemove s 500000 500000 [.swapIn .ab 300000 1] 500000 =
      some (500000, 500000, 500000, 600000, 416875) := by
  decide

end Mx.C02Mixed
