/-
  KFees — the fees-collector model (`Core/FeesCollector.lean`: `accumulateAdditional`, `deposit`)
  computes what the SOURCE of `energy-integration/fees-collector/src/{additional_locked_tokens.rs,
  fees_accumulation.rs}` computes.

  `Gen/KFees.lean` is regenerated on every run by `bin/gen-kernels` (group `Fees`):

    * `accumulate_additional_locked_tokens`   whole function; storage cells read are inputs, the two
      cells written (`accumulatedFees(week − 1, locked token)`, `lastLockedTokenAddWeek`) are outputs
    * `additional_tokens_week_amount`         its middle part: WHICH week is credited and HOW MUCH
      (the storage key of an update is not visible in the whole-function translation)
    * `deposit_accumulate`                    `depositSwapFees` from the nonce check to the accumulation

  Property C10 (claimers get their energy share once, never more than collected) rests on what is
  added to `accumulatedFees`: exactly the deposited amount, exactly `perBlock · 100 800` once per week,
  credited to the week BEFORE the current one.
-/
import MxModel.Gen.KFees
import MxModel.Core.FeesCollector
import MxModel.Props.KWeek
import MxModel.Lemmas.KTactic

namespace Mx.KFees
open Mx Mx.Gen Mx.Fees

/-- the `usize` subtraction `current_week − 1` aborts for week 0 (weeks start at 1) -/
theorem additional_tokens_week_amount_eq (W perBlock : Nat) :
    KFees.additional_tokens_week_amount W perBlock =
      if W = 0 then none else some (perBlock * BLOCKS_IN_WEEK, W - 1) := by
  have hB : BLOCKS_IN_WEEK = 100800 := rfl
  k_defs [KFees.additional_tokens_week_amount, hB]
  grind

theorem accumulate_additional_locked_tokens_eq (s : St) (W : Nat) (hW : s.week = some W)
    (tokId : Nat) :
    KFees.accumulate_additional_locked_tokens (s.a.accumulated (W - 1) lockedTok) s.epoch s.firstWeek
        s.lastAddWeek tokId s.perBlock =
      some ((accumulateAdditional s W).a.accumulated (W - 1) lockedTok,
            (accumulateAdditional s W).lastAddWeek) := by
  have hB : BLOCKS_IN_WEEK = 100800 := rfl
  have hW' : Weekly.weekOf s.epoch s.firstWeek = some W := hW
  have h1 : 1 ≤ W := by
    simp only [Weekly.weekOf, Option.bind_eq_bind, Option.bind_eq_some_iff, Option.pure_def,
      Option.some.injEq] at hW'
    obtain ⟨_, _, rfl⟩ := hW'
    exact Nat.le_add_left 1 _
  have hcell : ∀ v, upd2 s.a.accumulated (W - 1) lockedTok v (W - 1) lockedTok = v := by
    intro v; simp [upd2]
  -- the model's own condition first: its result is a record under an `if`, read through two fields
  by_cases hc : s.lastAddWeek = W <;>
    k_defs [KFees.accumulate_additional_locked_tokens, Mx.KWeek.get_current_week_eq, hW',
      accumulateAdditional, hB, hcell, hc] <;> try grind

theorem accumulateAdditional_frame (s : St) (W w : Nat) (t : Weekly.Tok)
    (h : ¬ (w = W - 1 ∧ t = lockedTok)) :
    (accumulateAdditional s W).a.accumulated w t = s.a.accumulated w t := by
  simp only [accumulateAdditional]
  split
  · rfl
  · simp only [upd2, if_neg h]

theorem accumulate_additional_locked_tokens_before_first_week (acc epoch first last tok perBlock : Nat)
    (h : epoch < first) :
    KFees.accumulate_additional_locked_tokens acc epoch first last tok perBlock = none := by
  k_defs [KFees.accumulate_additional_locked_tokens, Mx.KWeek.get_current_week_eq, Weekly.weekOf]
  grind

/-- a payment with a nonce must be the locked token; its burn is not part of the translation -/
theorem deposit_accumulate_eq (acc lockedId amount tok nonce : Nat) :
    KFees.deposit_accumulate acc lockedId amount tok nonce =
      if 0 < nonce ∧ tok ≠ lockedId then none else some (acc + amount) := by
  k_defs [KFees.deposit_accumulate]
  grind

theorem deposit_runs_source {s s' : St} {caller nonce amount W : Nat} {tok : Weekly.Tok} {o : Out}
    (h : deposit s caller tok nonce amount = some (s', o)) (hW : s.week = some W) :
    KFees.deposit_accumulate (s.a.accumulated W tok) lockedTok amount tok nonce =
      some (s'.a.accumulated W tok) := by
  simp only [deposit, hW, Option.bind_eq_bind, Option.bind_eq_some_iff, req_eq_some,
    Option.pure_def, Option.some.injEq, Prod.mk.injEq, Option.bind_some] at h
  obtain ⟨_, _, _, _, _, _, _, hn, hs, _⟩ := h
  rw [deposit_accumulate_eq, ← hs]
  have hcell : upd2 s.a.accumulated W tok (s.a.accumulated W tok + amount) W tok =
      s.a.accumulated W tok + amount := by simp [upd2]
  simp only [hcell]
  rw [if_neg]
  intro hc
  exact hc.2 (hn hc.1)

example : KFees.accumulate_additional_locked_tokens 50 24 10 2 0 3 = some (302450, 3) := by decide
example : KFees.accumulate_additional_locked_tokens 50 24 10 3 0 3 = some (50, 3) := by decide
example : KFees.deposit_accumulate 10 0 5 7 1 = none := by decide
example : KFees.deposit_accumulate 10 0 5 0 1 = some 15 := by decide
example : KFees.deposit_accumulate 10 0 5 7 0 = some 15 := by decide

end Mx.KFees
