/-
  C17 — Price discovery: phase rules, penalty schedule, pro-rata redemption, price floor.

  Statement: deposits, withdrawals and redemptions are accepted only in their phases, phases
  only advance with block height, the withdrawal penalty follows the documented
  linear-then-fixed schedule and stays in the pool, and the tracked balances equal the
  contract's real holdings throughout the deposit/withdraw phases.  In the redeem phase each
  redeem token pays floor(opposite_pool*amount/total_redeem_supply) exactly once, so total
  payouts never exceed the pool; a launched-token deposit or any withdrawal that would leave
  the price below the configured minimum is rejected.

  Model: Core/PriceDiscovery.lean.  `(s.side t).bal` = tracked pool of token `t`, `.real` = the
  contract's real balance, `.sup` = reported redeem-token supply of nonce `t`, `.h u` = redeem
  tokens of user `u`, `.paid` = cumulative `redeem` payouts out of pool `t`.
-/
import MxModel.Lemmas.PdInv

namespace Mx.C17
open Mx.PD

/-- `getCurrentPhase` is the documented piecewise function of the block: Idle before `start`,
    then `d1` blocks NoPenalty, `d2` blocks LinearIncreasingPenalty, `d3` blocks
    OnlyWithdrawFixedPenalty, then Redeem for ever.  A duration of 0 makes the interval empty
    (the phase is skipped); nothing else depends on the durations. -/
theorem phase_fn (c : Cfg) (b : Nat) :
    (b < c.start → c.phaseAt b = .idle) ∧
    (c.start ≤ b → b < c.start + c.d1 → c.phaseAt b = .noPenalty) ∧
    (c.start + c.d1 ≤ b → b < c.start + c.d1 + c.d2 →
      c.phaseAt b = .linear (c.pmin +
        (if 1 < c.d2 then (c.pmax - c.pmin) * (b - (c.start + c.d1)) / (c.d2 - 1) else 0))) ∧
    (c.start + c.d1 + c.d2 ≤ b → b < c.start + c.d1 + c.d2 + c.d3 →
      c.phaseAt b = .fixed c.pfix) ∧
    (c.start + c.d1 + c.d2 + c.d3 ≤ b → c.phaseAt b = .redeem) :=
  ⟨phaseAt_idle, phaseAt_noPenalty, phaseAt_linear, phaseAt_fixed, phaseAt_redeem⟩

/-- a later block is never in an earlier phase -/
theorem phase_mono (c : Cfg) {b b' : Nat} (h : b ≤ b') :
    (c.phaseAt b).rank ≤ (c.phaseAt b').rank :=
  rank_mono c h

/-- along any history the configuration is constant and the block only grows, hence the
    phase only advances -/
theorem phase_only_advances (s : St) (ops : List Op) :
    (run s ops).cfg = s.cfg ∧ s.block ≤ (run s ops).block ∧
    s.phase.rank ≤ (run s ops).phase.rank := by
  obtain ⟨h1, _, h3⟩ := run_cfg ops s
  refine ⟨h1, h3, ?_⟩
  rw [run_phase]
  exact rank_mono _ h3

/-- the redeem phase is absorbing -/
theorem redeem_phase_forever (s : St) (ops : List Op) (h : s.phase = .redeem) :
    (run s ops).phase = .redeem := by
  rw [run_phase, phase_redeem_iff]
  exact Nat.le_trans ((phase_redeem_iff _ _).1 h) (run_cfg ops s).2.2

/-- the penalty percentage as a function of the block: 0 outside the two penalty phases,
    `min + ⌊(max − min)·passed/(dur − 1)⌋` in the linear phase (just `min` when the phase lasts
    a single block), the fixed percentage afterwards -/
theorem penalty_schedule (c : Cfg) (b : Nat) :
    (c.phaseAt b).pct =
      if b < c.start + c.d1 then 0
      else if b < c.start + c.d1 + c.d2 then
        c.pmin + (if 1 < c.d2 then (c.pmax - c.pmin) * (b - (c.start + c.d1)) / (c.d2 - 1) else 0)
      else if b < c.start + c.d1 + c.d2 + c.d3 then c.pfix
      else 0 := by
  -- `pct` of the five-way `if` of `phaseAt`; the first two branches (Idle, NoPenalty) both give 0
  unfold Cfg.phaseAt
  simp only [apply_ite Phase.pct]
  by_cases h : b < c.start
  · rw [if_pos h, if_pos (by omega)]
    rfl
  · rw [if_neg h]
    rfl

/-- within the linear phase the penalty never decreases from one block to a later one -/
theorem penalty_monotone (c : Cfg) {b b' : Nat}
    (h1 : c.start + c.d1 ≤ b) (h : b ≤ b') (h2 : b' < c.start + c.d1 + c.d2) :
    (c.phaseAt b).pct ≤ (c.phaseAt b').pct := by
  rw [phaseAt_linear h1 (by show b < c.start + c.d1 + c.d2; omega),
    phaseAt_linear (by show c.start + c.d1 ≤ b'; omega) h2]
  exact linearPct_mono c (by omega)

/-- within the linear phase the penalty stays within `[min, max]`, starts at `min`, and (when
    the phase lasts more than one block) ends exactly at `max` -/
theorem penalty_within_range (c : Cfg) (hc : c.pmin ≤ c.pmax) {b : Nat}
    (h1 : c.start + c.d1 ≤ b) (h2 : b < c.start + c.d1 + c.d2) :
    c.pmin ≤ (c.phaseAt b).pct ∧ (c.phaseAt b).pct ≤ c.pmax ∧
    (b = c.start + c.d1 → (c.phaseAt b).pct = c.pmin) ∧
    (1 < c.d2 → b = c.start + c.d1 + c.d2 - 1 → (c.phaseAt b).pct = c.pmax) ∧
    (c.d2 = 1 → (c.phaseAt b).pct = c.pmin) := by
  rw [phaseAt_linear h1 h2]
  simp only [Phase.pct]
  have e1 : c.e1 = c.start + c.d1 := rfl
  refine ⟨linearPct_ge_min c _, linearPct_le_max c hc (by omega), ?_, ?_, ?_⟩
  · intro hb; rw [hb, e1, Nat.sub_self]; exact linearPct_first c
  · intro hd hb
    have : b - c.e1 = c.d2 - 1 := by omega
    rw [this]; exact linearPct_last c hc hd
  · intro hd; exact linearPct_dur_one c _ (by omega)

/-- with a valid configuration every penalty is below 100 %, so a withdrawal always returns
    something -/
theorem penalty_below_full (c : Cfg) (hc : c.ok) (b : Nat) : (c.phaseAt b).pct < MAXP := by
  obtain ⟨h1, h2, h3, _⟩ := hc
  have hM : 0 < MAXP := by decide
  rcases phaseAt_cases c b with ⟨h, e⟩ | ⟨ha, hb, e⟩ | ⟨ha, hb, e⟩ | ⟨ha, hb, e⟩ | ⟨h, e⟩ <;>
    rw [e]
  · exact hM
  · exact hM
  · have := linearPct_le_max c h1 (p := b - c.e1) (by unfold Cfg.e1 Cfg.e2 at *; omega)
    exact Nat.lt_of_le_of_lt this h2
  · exact h3
  · exact hM

/-- each operation is accepted only in its phases: deposit in NoPenalty / Linear, withdraw
    in every phase but Idle and Redeem, redeem in Redeem only (phases spelled out as block
    ranges) -/
theorem op_phase_gate {s s' : St} {op : Op} {o : Out} (h : step s op = some (s', o)) :
    (∀ c t a, op = .deposit c t a →
        s.cfg.start ≤ s.block ∧ s.block < s.cfg.start + s.cfg.d1 + s.cfg.d2) ∧
    (∀ c t a, op = .withdraw c t a →
        s.cfg.start ≤ s.block ∧ s.block < s.cfg.start + s.cfg.d1 + s.cfg.d2 + s.cfg.d3) ∧
    (∀ c t a, op = .redeem c t a →
        s.cfg.start + s.cfg.d1 + s.cfg.d2 + s.cfg.d3 ≤ s.block) := by
  refine ⟨?_, ?_, ?_⟩ <;> intro c t a e <;> subst e
  · obtain ⟨_, d⟩ := deposit_spec h
    exact (depositAllowed_iff _ _).1 d.allowed
  · obtain ⟨_, _, w⟩ := withdraw_spec h
    exact (withdrawAllowed_iff _ _).1 w.allowed
  · obtain ⟨_, r⟩ := redeem_spec h
    exact (redeemAllowed_iff _ _).1 r.allowed

/-- the same in terms of the phase the view reports -/
theorem op_phase_gate_view {s s' : St} {op : Op} {o : Out} (h : step s op = some (s', o)) :
    (∀ c t a, op = .deposit c t a → s.phase = .noPenalty ∨ ∃ p, s.phase = .linear p) ∧
    (∀ c t a, op = .withdraw c t a → s.phase ≠ .idle ∧ s.phase ≠ .redeem) ∧
    (∀ c t a, op = .redeem c t a → s.phase = .redeem) := by
  refine ⟨?_, ?_, ?_⟩ <;> intro c t a e <;> subst e
  · obtain ⟨_, d⟩ := deposit_spec h
    have hp := d.allowed
    revert hp; cases s.phase <;> simp [Phase.depositAllowed]
  · obtain ⟨_, _, w⟩ := withdraw_spec h
    have hp := w.allowed
    revert hp; cases s.phase <;> simp [Phase.withdrawAllowed]
  · obtain ⟨_, r⟩ := redeem_spec h
    exact (redeemAllowed_eq _).1 r.allowed

/-! ### the penalty stays in the pool -/

/-- a withdrawal of `amt` redeem tokens burns all of them (supply − amt), charges
    `pen = ⌊amt·pct/10^13⌋`, and moves exactly `amt − pen` out of the tracked pool, out of the
    real balance and into the caller's wallet: the penalty stays in the pool.  The other
    pool is untouched. -/
theorem penalty_stays {s s' : St} {c : Nat} {t : Tok} {amt : Nat} {o : Out}
    (h : withdraw s c t amt = some (s', o)) :
    o.v2 = amt * s.phase.pct / MAXP ∧ o.v1 + o.v2 = amt ∧
    (s'.side t).bal + o.v1 = (s.side t).bal ∧
    (s'.side t).real + o.v1 = (s.side t).real ∧
    (s'.side t).w c = (s.side t).w c + o.v1 ∧
    (s'.side t).sup + amt = (s.side t).sup ∧
    (s'.side t).h c + amt = (s.side t).h c ∧
    s'.side t.other = s.side t.other := by
  obtain ⟨p, pen, w⟩ := withdraw_spec h
  obtain rfl := w.out
  obtain rfl := w.state
  obtain rfl := w.penalty
  have hle := w.wd
  have hh := w.h
  have hs := w.sup
  have hb := w.bal
  have hr := w.real
  refine ⟨rfl, ?_, ?_, ?_, ?_, ?_, ?_, ?_⟩ <;>
    simp only [side_setSide, side_setSide_other, wdSide, upd_same] <;> omega

/-! ### tracked balances = real holdings -/

/-- after every history, for both tokens: tracked pool = real balance + what `redeem` has paid
    out of it; and as long as the redeem phase has not begun the two are simply equal -/
theorem tracked_eq_real (cfg : Cfg) (n fL fA : Nat) (ops : List Op) (t : Tok) :
    let s := run (init cfg n fL fA) ops
    (s.side t).real + (s.side t).paid = (s.side t).bal ∧
    (s.block < cfg.start + cfg.d1 + cfg.d2 + cfg.d3 → (s.side t).real = (s.side t).bal) := by
  intro s
  have hi : SideInv s t := run_inv ops (inv_init cfg n fL fA) t
  have hc : s.cfg = cfg := (run_cfg ops (init cfg n fL fA)).1
  exact ⟨hi.real_paid, fun hb => (hi.early (by show s.block < s.cfg.e3; rw [hc]; exact hb)).1⟩

/-- the reported redeem-token supply is exactly what users hold plus what was handed in
    through `redeem` (whose burn deliberately leaves the supply unchanged) -/
theorem supply_eq_circulating (cfg : Cfg) (n fL fA : Nat) (ops : List Op) (t : Tok) :
    let s := run (init cfg n fL fA) ops
    sumU s.n (s.side t).h + (s.side t).red = (s.side t).sup :=
  (run_inv ops (inv_init cfg n fL fA) t).sup_eq

/-- `redeem` of `amt` tokens of side `t` pays `⌊opposite_pool·amt/supply⌋` of the opposite
    token — to the caller, wrapped 1:1 into LOCKED tokens before the unlock epoch — and takes
    it out of the real balance only: pools and supplies stay frozen -/
theorem redeem_formula {s s' : St} {c : Nat} {t : Tok} {amt : Nat} {o : Out}
    (h : redeem s c t amt = some (s', o)) :
    o.v1 = (s.side t.other).bal * amt / (s.side t).sup ∧
    (s'.side t.other).real + o.v1 = (s.side t.other).real ∧
    (s'.side t.other).paid = (s.side t.other).paid + o.v1 ∧
    (if s.epoch < s.cfg.unlock then (s'.side t.other).k c = (s.side t.other).k c + o.v1
     else (s'.side t.other).w c = (s.side t.other).w c + o.v1) ∧
    (∀ t', (s'.side t').bal = (s.side t').bal ∧ (s'.side t').sup = (s.side t').sup) := by
  obtain ⟨b, r⟩ := redeem_spec h
  obtain rfl := r.out
  obtain rfl := r.state
  have hr := r.real
  refine ⟨r.bought, ?_, ?_, ?_, ?_⟩
  · simp [rdSideY]; omega
  · simp [rdSideY]
  · by_cases hl : s.epoch < s.cfg.unlock <;> simp [hl, rdSideY]
  · intro t'
    by_cases ht : t' = t
    · subst ht; simp [rdSideX]
    · rw [side_of_ne ht]; simp [rdSideY]

/-- redeemed tokens are gone: the caller's holding drops by `amt`, nobody else's moves,
    the tokens are recorded as handed in -/
theorem redeem_once {s s' : St} {c : Nat} {t : Tok} {amt : Nat} {o : Out}
    (h : redeem s c t amt = some (s', o)) :
    (s'.side t).h c + amt = (s.side t).h c ∧
    (∀ u, u ≠ c → (s'.side t).h u = (s.side t).h u) ∧
    (s'.side t.other).h = (s.side t.other).h ∧
    (s'.side t).red = (s.side t).red + amt := by
  obtain ⟨b, r⟩ := redeem_spec h
  obtain rfl := r.state
  have hh := r.h
  refine ⟨?_, ?_, ?_, ?_⟩
  · simp [rdSideX]; omega
  · intro u hu; simp [rdSideX, upd_ne _ _ hu]
  · simp [rdSideY]
  · simp [rdSideX]

/-- once the redeem phase has begun nothing creates redeem tokens and nothing moves the pools
    or the supplies: every redeem token can only ever be handed in, once -/
theorem redeem_phase_frozen {s s' : St} {op : Op} {o : Out}
    (hp : s.cfg.start + s.cfg.d1 + s.cfg.d2 + s.cfg.d3 ≤ s.block)
    (h : step s op = some (s', o)) (t : Tok) :
    (s'.side t).bal = (s.side t).bal ∧ (s'.side t).sup = (s.side t).sup ∧
    ∀ u, (s'.side t).h u ≤ (s.side t).h u := by
  have g := op_phase_gate h
  cases op with
  | deposit c t1 a =>
    have := (g.1 c t1 a rfl).2
    omega
  | withdraw c t1 a =>
    have := (g.2.1 c t1 a rfl).2
    omega
  | redeem c t1 a =>
    have f := (redeem_formula h).2.2.2.2 t
    obtain ⟨h1, h2, h3, _⟩ := redeem_once h
    refine ⟨f.1, f.2, fun u => ?_⟩
    by_cases ht : t = t1
    · subst ht
      by_cases hu : u = c
      · subst hu; omega
      · exact Nat.le_of_eq (h2 u hu)
    · rw [side_of_ne ht, h3]
      exact Nat.le_refl _
  | advance b =>
    obtain ⟨_, rfl⟩ := step_advance h
    exact ⟨rfl, rfl, fun _ => Nat.le_refl _⟩
  | epoch e =>
    obtain ⟨_, rfl⟩ := step_epoch h
    exact ⟨rfl, rfl, fun _ => Nat.le_refl _⟩

/-- the ghost counter `paid` is exactly the sum of the payouts of the successful `redeem`
    calls of the history -/
theorem paid_is_sum_of_redemptions (cfg : Cfg) (n fL fA : Nat) (ops : List Op) (t : Tok) :
    ((run (init cfg n fL fA) ops).side t).paid = payouts t (init cfg n fL fA) ops := by
  rw [paid_eq_payouts]
  cases t <;> exact Nat.zero_add _

/-- after every history, the sum of everything `redeem` ever paid out of a pool is at most
    that pool -/
theorem redeem_sum_le_pool (cfg : Cfg) (n fL fA : Nat) (ops : List Op) (t : Tok) :
    payouts t (init cfg n fL fA) ops ≤ ((run (init cfg n fL fA) ops).side t).bal := by
  rw [← paid_is_sum_of_redemptions]
  exact (run_inv ops (inv_init cfg n fL fA)).paid_le_bal t

/-- …and the real balance always suffices to pay it: `redeem` never fails for lack of funds -/
theorem redeem_always_funded (cfg : Cfg) (n fL fA : Nat) (ops : List Op) (t : Tok) (amt : Nat) :
    let s := run (init cfg n fL fA) ops
    amt ≤ sumU s.n (s.side t).h → (s.side t).sup ≠ 0 →
    (s.side t.other).bal * amt / (s.side t).sup ≤ (s.side t.other).real := by
  intro s
  exact (run_inv ops (inv_init cfg n fL fA)).redeem_funded t

/-- a successful launched-token deposit leaves the price either 0 (fewer accepted tokens than
    one price unit buys — the documented exemption) or at least the minimum -/
theorem price_floor_deposit {s s' : St} {c : Nat} {amt : Nat} {o : Out}
    (h : deposit s c .launched amt = some (s', o)) :
    ∃ p, s'.price = some p ∧ p = (s.bal .accepted) * s.cfg.prec / (s.bal .launched + amt) ∧
      (p = 0 ∨ s.cfg.minPrice ≤ p) := by
  obtain ⟨p, d⟩ := deposit_spec h
  obtain rfl := d.state
  have hp := d.price
  refine ⟨p, hp, ?_, ?_⟩
  · rw [price_def, priceOf_eq_some] at hp
    simpa [St.bal, St.side, St.setSide, depSide] using hp.2
  · rcases d.minPrice with h | h | h
    · exact .inl h
    · exact .inr h
    · cases h

/-- a launched-token deposit that would leave a non-zero price below the minimum is rejected -/
theorem price_floor_deposit_rejects (s : St) (c amt : Nat)
    (h0 : 0 < (s.bal .accepted) * s.cfg.prec / (s.bal .launched + amt))
    (h1 : (s.bal .accepted) * s.cfg.prec / (s.bal .launched + amt) < s.cfg.minPrice) :
    deposit s c .launched amt = none := by
  cases hd : deposit s c .launched amt with
  | none => rfl
  | some r =>
    obtain ⟨s', o⟩ := r
    obtain ⟨p, _, hp, hor⟩ := price_floor_deposit hd
    omega

/-- every successful withdrawal (of either token) leaves the price at or above the minimum -/
theorem price_floor_withdraw {s s' : St} {c : Nat} {t : Tok} {amt : Nat} {o : Out}
    (h : withdraw s c t amt = some (s', o)) :
    ∃ p, s'.price = some p ∧ p = (s'.bal .accepted) * s.cfg.prec / (s'.bal .launched) ∧
      0 < s'.bal .launched ∧ s.cfg.minPrice ≤ p := by
  obtain ⟨p, pen, w⟩ := withdraw_spec h
  obtain rfl := w.state
  have hp := w.price
  refine ⟨p, hp, ?_, ?_, w.minPrice⟩
  · rw [price_def, priceOf_eq_some] at hp
    simpa using hp.2
  · rw [price_def, priceOf_eq_some] at hp
    exact hp.1

/-- a withdrawal that would leave the price below the minimum (or the launched pool empty)
    is rejected; `l'`, `a'` are the pools the withdrawal would leave behind -/
theorem price_floor_withdraw_rejects (s : St) (c : Nat) (t : Tok) (amt : Nat)
    (h : let wd := amt - amt * s.phase.pct / MAXP
         let l' := if t = .launched then s.bal .launched - wd else s.bal .launched
         let a' := if t = .accepted then s.bal .accepted - wd else s.bal .accepted
         l' = 0 ∨ a' * s.cfg.prec / l' < s.cfg.minPrice) :
    withdraw s c t amt = none := by
  cases hd : withdraw s c t amt with
  | none => rfl
  | some r =>
    obtain ⟨s', o⟩ := r
    obtain ⟨p, _, rfl, hl, hmin⟩ := price_floor_withdraw hd
    obtain ⟨_, pen, w⟩ := withdraw_spec hd
    obtain rfl := w.penalty
    -- `l'`, `a'` are the pools of `s'`
    have h' : s'.bal .launched = 0 ∨
        s'.bal .accepted * s.cfg.prec / s'.bal .launched < s.cfg.minPrice := by
      rw [w.state]; cases t <;> exact h
    omega

/-- accepted-token deposits are exempt from the price check, as coded: they only need the
    launched pool to be non-empty (the first deposit has to be launched tokens) -/
theorem accepted_deposit_only_needs_launched {s s' : St} {c : Nat} {amt : Nat} {o : Out}
    (h : deposit s c .accepted amt = some (s', o)) :
    0 < s.bal .launched ∧ s'.bal .launched = s.bal .launched ∧
    s'.bal .accepted = s.bal .accepted + amt := by
  obtain ⟨p, d⟩ := deposit_spec h
  obtain rfl := d.state
  have hp := d.price
  rw [price_def, priceOf_eq_some] at hp
  refine ⟨?_, ?_, ?_⟩
  · simpa [St.bal, St.side, St.setSide] using hp.1
  · simp [St.bal, St.side, St.setSide]
  · simp [St.bal, St.side, St.setSide, depSide]

/-- a failed transaction leaves the state untouched (atomicity as modelled) -/
theorem failed_tx_no_effect (s : St) (op : Op) (h : step s op = none) : run s [op] = s := by
  simp [run, h]

/-- the configuration used in the non-vacuity examples: start 2, phases of 1 / 3 / 1 blocks,
    penalty 10 % … 50 %, fixed 25 %, min price 0.5 with 6 decimals, unlock epoch 5 -/
def exCfg : Cfg := ⟨2, 1, 3, 1, 1000000000000, 5000000000000, 2500000000000, 500000, 1000000, 5⟩

/-- non-vacuity: a concrete history runs through every phase — deposits of both tokens,
    withdrawals with linear (30 %) and fixed penalties, redemptions of both sides by two users —
    and ends with payouts made, penalties retained and the pools not exhausted -/
example :
    let s := run (init exCfg 2 1000000 1000000)
      [.advance 2, .deposit 1 .launched 1000, .deposit 2 .accepted 900, .advance 4,
       .withdraw 2 .accepted 100, .deposit 1 .accepted 50, .advance 6, .withdraw 2 .accepted 100,
       .advance 7, .redeem 2 .accepted 700, .redeem 1 .launched 1000, .redeem 1 .accepted 50]
    exCfg.ok ∧ s.phase = .redeem ∧ s.A.bal = 805 ∧ s.A.sup = 750 ∧ s.L.paid = 999 ∧
    s.A.paid = 805 ∧ s.L.real = 1 ∧ s.A.real = 0 ∧ s.L.k 2 = 933 ∧ s.L.k 1 = 66 ∧ s.A.k 1 = 805 := by
  decide

/-- non-vacuity of the price floor: a launched deposit of 800 leaves the price exactly at the
    minimum and is accepted, 801 is rejected; likewise an accepted-token withdrawal of 400
    (accepted) and 401 (rejected) -/
example :
    let s := run (init exCfg 2 1000000 1000000)
      [.advance 2, .deposit 1 .launched 1000, .deposit 2 .accepted 900]
    (deposit s 1 .launched 800).isSome = true ∧ (deposit s 1 .launched 801).isSome = false ∧
    (withdraw s 2 .accepted 400).isSome = true ∧ (withdraw s 2 .accepted 401).isSome = false := by
  decide

end Mx.C17
