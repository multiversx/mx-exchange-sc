/-
  C05 (farm-staking side) — "no legitimate call fails because an internal counter would go
  negative": LIVENESS of `unstakeFarm` and `claimRewards`.

  Model: Core/Staking.lean (`unstakeCore` = `unstake_farm_common`, `claimCore` =
  `claim_rewards_base_no_farm_token_mint` + `claim_rewards_common`).

  Guards and checked subtractions of `unstakeFarm` in the code (unstake_farm.rs, exit_farm.rs,
  base_impl_wrapper.rs) and how each is met:
    1. the sender is an account; an `opt_original_caller` may only be named by a whitelisted
       address                                           — hypotheses of the statement (legitimacy);
    2. the payment is non-zero and the sender holds it    — hypotheses (`0 < x`, `x ≤ hold c n`);
    3. `state == Active`                                  — hypothesis;
    4. the token decodes as a staking position            — hypothesis (`md n = some (.pos att)`);
    5. `generate_aggregated_rewards`: `accumulated ≤ capacity`, boosted slice ≤ total
                                                          — DISCHARGED (`Inv.acc_le`, `Inv.pct_le`);
    6. `into_part`: `rule_of_three` divides by the recorded amount
                                                          — DISCHARGED (invariant `AmtInv`:
                                                            units outstanding ≤ recorded amount, so the
                                                            recorded amount of a held position is > 0);
    7. `claim_boosted_yields_rewards(orig)` (`claim_multi` of the weekly-rewards module)
                                                          — HYPOTHESIS (weekly module);
    8. `reward_reserve −= base + boosted`                 — DISCHARGED (`PotInv`, `BoostInv`, `Inv`:
                                                            `Lemmas/StakingLive.lean` `reward_covered`);
    9. `decrease_user_farm_position`                      — saturating in the code, cannot fail;
   10. `farm_token_supply −= amount`                      — DISCHARGED (`PosInv`: supply = Σ units);
   11. `clear_user_energy_if_needed(orig)`                — HYPOTHESIS (weekly module);
   12. the unbond SFT is created with a non-zero quantity — DISCHARGED (`x > 0`);
   13. the reward is sent out of the contract's balance   — DISCHARGED under the proxy discipline
                                                            `discRun P` (`Inv.bal_eq`, `UnbInv`,
                                                            `VirtOK`: reserve ≤ balance).
  `claimRewards`: the same 1–8 and 13, plus `check_and_update_user_farm_position` (total: the
  token is a position), the new position's non-zero amount (`x > 0`), and the final
  `update_energy_and_progress(orig)` — a second HYPOTHESIS on the weekly module.

  The proxy discipline (Props/C12Ledger.lean) is needed for 13 only: an undisciplined whitelisted
  address can make `virt > supply` (`C12Ledger.undisciplined_proxy_drains_capacity`) and then the
  balance no longer contains the reserve.  Deployments without whitelisted contracts need no
  hypothesis on the history (`…_no_proxy`).

  The weekly-module hypotheses are about the state `s1` that the settlement produces, which the
  theorems exhibit.  They are discharged unconditionally for deployments that never configured
  boosted yields (`…_always_succeeds_no_boost`), using the weekly module's global
  invariant `Weekly.GInv`, proved here for every reachable staking state (`weekly_invariant`).

  Lemmas: Lemmas/StakingLive.lean.  Only property theorems live here.
-/
import MxModel.Lemmas.StakingLive
import MxModel.Lemmas.StakingReward
import MxModel.Props.C12Ledger

namespace Mx.C05StakingLive
open Mx.Staking Mx.Weekly
open Mx.C12Ledger (reach discRun_nil)

/-- every state reached under the proxy discipline satisfies the invariants of the liveness lemmas -/
theorem reach_live (epoch block dsc maxApr minUnbond perBlock : Nat) (accts wl P : List Nat)
    (ops : List Op) (hdsc : 0 < dsc)
    (hd : discRun P (init epoch block dsc maxApr minUnbond perBlock accts wl) ops = true) :
    LiveInv P (reach epoch block dsc maxApr minUnbond perBlock accts wl ops) := by
  have hP0 := posInv_init epoch block dsc maxApr minUnbond perBlock accts wl
  obtain ⟨hI, hPot, hB, hd'⟩ :=
    reachable_cover epoch block dsc maxApr minUnbond perBlock accts wl ops hdsc
  exact
    { inv := hI
      pos := run_posInv ops hP0
      pot := hPot
      boost := hB
      unb := run_unbInv ops hP0 (unbInv_init epoch block dsc maxApr minUnbond perBlock accts wl)
      virt := run_virtOK ops hP0 (virtOK_init P epoch block dsc maxApr minUnbond perBlock accts wl) hd
      amt := run_amtInv ops hP0 (amtInv_init epoch block dsc maxApr minUnbond perBlock accts wl)
      dsc := hd' }

/-- **recorded amounts bound what is outstanding** (all histories): in every
    reachable state the units of a position nonce held by all accounts together never exceed the
    `amount` written in the nonce's attributes — so `into_part` never divides by zero for a token
    somebody holds -/
theorem outstanding_le_recorded (epoch block dsc maxApr minUnbond perBlock : Nat) (accts wl : List Nat)
    (ops : List Op) (n : Nat) (att : Attrs) :
    let s := reach epoch block dsc maxApr minUnbond perBlock accts wl ops
    s.md n = some (.pos att) → (s.accts.dedup.map fun a => s.hold a n).sum ≤ att.amount := by
  intro s hm
  have hP0 := posInv_init epoch block dsc maxApr minUnbond perBlock accts wl
  exact run_amtInv ops hP0 (amtInv_init epoch block dsc maxApr minUnbond perBlock accts wl)
    n att (posOf_of_md hm)

/-- **unstake_succeeds_for** (every legitimate sender).  Every state `s` with the invariants
    `LiveInv P s` — by `reach_live` every state reached from a fresh deployment (any parameters,
    non-zero division-safety constant) by a history that obeys the proxy discipline for `P`;
    the contract is active; account `c` holds `x > 0` units of the
    staking position `n`; `c` sends `unstakeFarm` for itself (`opt = none`) or, being on the SC
    whitelist, names any original caller (`opt = some orig`).  Then the settlement succeeds — call
    its result `s1`, `c1` — and AS SOON AS the two calls into the weekly-rewards module succeed
    (the boosted claim of the original caller on `s1`, and `clear_user_energy_if_needed` on the
    state with the owner's total decreased), the transaction SUCCEEDS: it mints an unbond token
    (`o.a` = the next nonce) of exactly `x` units to `c`, unlocking at `epoch + minUnbondEpochs`,
    and pays `o.c` = base reward of the `x` units at the settled index + the boosted reward.
    Every other guard and checked subtraction of the endpoint is discharged by invariants (see
    the list in the header). -/
theorem unstake_succeeds_for {P : List Nat} {s : Staking.St} (hL : LiveInv P s)
    (c : Nat) (opt : Option Nat) (n x : Nat) (att : Attrs) :
    s.active = true → s.md n = some (.pos att) → 0 < x → x ≤ s.hold c n →
    (opt = none ∨ c ∈ s.whitelist) →
    ∃ s1 c1, generate s s.cache = some (s1, c1) ∧
      ∀ r, claimBoostedYields s1 (opt.getD c) (s1.userTotal (opt.getD c)) = some r →
        (clearEnergyIfNeeded
          { s1 with userTotal := decreaseUT s1.userTotal att.owner x, b := r.2.1 } r.1 (opt.getD c)).isSome
            = true →
        ∃ s' o, step s (.unstake c opt (n, x)) = some (s', o) ∧
          o.a = s.nonce + 1 ∧ o.b = x ∧
          o.c = (if att.rps < s'.rps then x * (s'.rps - att.rps) / s'.dsc else 0) + r.2.2 ∧
          s'.md o.a = some (.unbond (s.epoch + s.minUnbond)) ∧ s'.hold c o.a = x := by
  intro hact hm hx hh hw
  have hne : s.hold c n ≠ 0 := by omega
  have hc : c ∈ s.accts := (PosInv.domain hL.pos hne).1
  refine ⟨genSt s, genCache s s.cache, generate_ok s.cache hL.inv.acc_le hL.inv.pct_le, fun r hr hcl => ?_⟩
  have hsome := unstakeCore_ok hL hact hm hx hh hr hcl
  obtain ⟨⟨s', o⟩, hs'⟩ := Option.isSome_iff_exists.mp hsome
  obtain ⟨_, u2, u3, u4, u5, _, _, _⟩ := unstakeCore_unbond hs'
  obtain ⟨attrs, tok, r', ha', htok, hr', hoc, _⟩ := unstakeCore_reward hs'
  obtain rfl : attrs = att := Option.some.inj (ha'.symm.trans (posOf_of_md hm))
  obtain rfl : r' = r := Option.some.inj (hr'.symm.trans hr)
  obtain ⟨t1, _, _, _⟩ := intoPart_spec htok
  refine ⟨s', o, ?_, u4, u5, ?_, ?_, ?_⟩
  · rw [step_unstake_eq hc hw]; exact hs'
  · rw [hoc, t1]
  · rw [u4]; exact u2
  · rw [u4]; exact u3

/-- **unstake_succeeds** — the holder unstakes for itself (`unstake_succeeds_for` with no original
    caller named): in every state of an active contract reached under the proxy discipline,
    whoever holds `x > 0` units of a position can unstake them unless the weekly-rewards module
    aborts; the unbond token carries `x` units and unlocks at `epoch + minUnbondEpochs`. -/
theorem unstake_succeeds (epoch block dsc maxApr minUnbond perBlock : Nat)
    (accts wl P : List Nat) (ops : List Op) (hdsc : 0 < dsc)
    (hd : discRun P (init epoch block dsc maxApr minUnbond perBlock accts wl) ops = true)
    (c n x : Nat) (att : Attrs) :
    let s := reach epoch block dsc maxApr minUnbond perBlock accts wl ops
    s.active = true → s.md n = some (.pos att) → 0 < x → x ≤ s.hold c n →
    ∃ s1 c1, generate s s.cache = some (s1, c1) ∧
      ∀ r, claimBoostedYields s1 c (s1.userTotal c) = some r →
        (clearEnergyIfNeeded
          { s1 with userTotal := decreaseUT s1.userTotal att.owner x, b := r.2.1 } r.1 c).isSome = true →
        ∃ s' o, step s (.unstake c none (n, x)) = some (s', o) ∧
          o.a = s.nonce + 1 ∧ o.b = x ∧
          o.c = (if att.rps < s'.rps then x * (s'.rps - att.rps) / s'.dsc else 0) + r.2.2 ∧
          s'.md o.a = some (.unbond (s.epoch + s.minUnbond)) ∧ s'.hold c o.a = x := by
  intro s hact hm hx hh
  exact unstake_succeeds_for (reach_live epoch block dsc maxApr minUnbond perBlock accts wl P ops hdsc hd)
    c none n x att hact hm hx hh (Or.inl rfl)

/-- `unstake_succeeds_for` for a deployment without whitelisted contracts: no hypothesis on the
    history at all -/
theorem unstake_succeeds_no_proxy (epoch block dsc maxApr minUnbond perBlock : Nat)
    (accts : List Nat) (ops : List Op) (hdsc : 0 < dsc) (c n x : Nat) (att : Attrs) :
    let s := reach epoch block dsc maxApr minUnbond perBlock accts [] ops
    s.active = true → s.md n = some (.pos att) → 0 < x → x ≤ s.hold c n →
    ∃ s1 c1, generate s s.cache = some (s1, c1) ∧
      ∀ r, claimBoostedYields s1 c (s1.userTotal c) = some r →
        (clearEnergyIfNeeded
          { s1 with userTotal := decreaseUT s1.userTotal att.owner x, b := r.2.1 } r.1 c).isSome = true →
        ∃ s' o, step s (.unstake c none (n, x)) = some (s', o) ∧
          o.a = s.nonce + 1 ∧ o.b = x ∧
          o.c = (if att.rps < s'.rps then x * (s'.rps - att.rps) / s'.dsc else 0) + r.2.2 ∧
          s'.md o.a = some (.unbond (s.epoch + s.minUnbond)) ∧ s'.hold c o.a = x :=
  unstake_succeeds epoch block dsc maxApr minUnbond perBlock accts [] [] ops hdsc
    (discRun_nil ops _ rfl) c n x att

/-- the FULL clause for unstake: no hypothesis on the weekly-rewards module.
    STATUS: not proved.  `unstake_succeeds_for` is the partial statement (`…_partial` in the sense
    of CONTRIBUTING: everything except the weekly module).  Missing for the staking world: the
    weekly module's energy bound `Weekly.EB` transported through the staking operations (farm
    analogue Lemmas/FarmEnergy.lean `WInv`; the `Weekly.GInv` half is `weekly_invariant`) and the
    week budget with payments (farm analogue Lemmas/FarmWeekPaid.lean) that bounds
    `remaining(week) − reward` inside `claim_multi`.  The third ingredient of the farm's proof,
    well-formedness of the stored boosted-yields config (`BCfg.update`, `factorsForWeek` succeed),
    is there: `C11Cfg.staking_claim_factors_defined`. -/
def unstake_always_succeeds_full : Prop :=
  ∀ (epoch block dsc maxApr minUnbond perBlock : Nat) (accts wl P : List Nat) (ops : List Op),
    0 < dsc → discRun P (init epoch block dsc maxApr minUnbond perBlock accts wl) ops = true →
    ∀ (c : Nat) (opt : Option Nat) (n x : Nat) (att : Attrs),
      let s := reach epoch block dsc maxApr minUnbond perBlock accts wl ops
      s.active = true → s.md n = some (.pos att) → 0 < x → x ≤ s.hold c n →
      (opt = none ∨ c ∈ s.whitelist) →
      (step s (.unstake c opt (n, x))).isSome = true

/-- **claim_succeeds_for** (every legitimate sender).  Same quantification as
    `unstake_succeeds_for`: in every state with the invariants `LiveInv P s`, on an active
    contract, `c` holds `x > 0` units of the position `n` and sends `claimRewards` with that one
    payment, for itself or — whitelisted — naming an original caller.  The settlement succeeds
    (`s1`, `c1`) and as soon as the two calls into the weekly-rewards module succeed (the boosted
    claim of the original caller on `s1` and the final `update_energy_and_progress`), the
    transaction SUCCEEDS, re-issues the `x` units under the next nonce to `c` and pays
    `o.c` = base reward at the settled index + boosted reward. -/
theorem claim_succeeds_for {P : List Nat} {s : Staking.St} (hL : LiveInv P s)
    (c : Nat) (opt : Option Nat) (n x : Nat) (att : Attrs) :
    s.active = true → s.md n = some (.pos att) → 0 < x → x ≤ s.hold c n →
    (opt = none ∨ c ∈ s.whitelist) →
    ∃ s1 c1, generate s s.cache = some (s1, c1) ∧
      ∀ r, claimBoostedYields s1 (opt.getD c) (s1.userTotal (opt.getD c)) = some r →
        (updateEnergyAndProgress r.1 (opt.getD c) s1.week
          (Energy.queried (s1.energy (opt.getD c)) s1.epoch)).isSome = true →
        ∃ s' o, step s (.claim c opt (n, x)) = some (s', o) ∧
          o.a = s.nonce + 1 ∧ o.b = x ∧
          o.c = (if att.rps < s'.rps then x * (s'.rps - att.rps) / s'.dsc else 0) + r.2.2 ∧
          s'.hold c o.a = x := by
  intro hact hm hx hh hw
  have hne : s.hold c n ≠ 0 := by omega
  have hc : c ∈ s.accts := (PosInv.domain hL.pos hne).1
  refine ⟨genSt s, genCache s s.cache, generate_ok s.cache hL.inv.acc_le hL.inv.pct_le, fun r hr hup => ?_⟩
  have hsome := claimCore_ok hL hact hm hx hh hr hup
  obtain ⟨⟨s', o⟩, hs'⟩ := Option.isSome_iff_exists.mp hsome
  obtain ⟨p, first, tok, r', merged, hp, hf, htok, hr', hoc, _, _, hmg, _, _, ua, ub, uh⟩ :=
    claimCore_reward hs'
  obtain rfl : (n, x) = p := Option.some.inj hp
  obtain rfl : first = att := Option.some.inj (hf.symm.trans (posOf_of_md hm))
  obtain rfl : r' = r := Option.some.inj (hr'.symm.trans hr)
  obtain ⟨t1, _, t3, _⟩ := intoPart_spec htok
  have em : merged.amount = x := (congrArg Attrs.amount (Option.some.inj hmg)).symm.trans t3
  refine ⟨s', o, ?_, ua, ?_, ?_, ?_⟩
  · rw [step_claim_eq hc hw]; exact hs'
  · rw [ub]; exact em
  · rw [hoc, t1]
  · rw [ua, uh]; exact em

/-- **claim_succeeds** — the holder claims for itself -/
theorem claim_succeeds (epoch block dsc maxApr minUnbond perBlock : Nat)
    (accts wl P : List Nat) (ops : List Op) (hdsc : 0 < dsc)
    (hd : discRun P (init epoch block dsc maxApr minUnbond perBlock accts wl) ops = true)
    (c n x : Nat) (att : Attrs) :
    let s := reach epoch block dsc maxApr minUnbond perBlock accts wl ops
    s.active = true → s.md n = some (.pos att) → 0 < x → x ≤ s.hold c n →
    ∃ s1 c1, generate s s.cache = some (s1, c1) ∧
      ∀ r, claimBoostedYields s1 c (s1.userTotal c) = some r →
        (updateEnergyAndProgress r.1 c s1.week (Energy.queried (s1.energy c) s1.epoch)).isSome = true →
        ∃ s' o, step s (.claim c none (n, x)) = some (s', o) ∧
          o.a = s.nonce + 1 ∧ o.b = x ∧
          o.c = (if att.rps < s'.rps then x * (s'.rps - att.rps) / s'.dsc else 0) + r.2.2 ∧
          s'.hold c o.a = x := by
  intro s hact hm hx hh
  exact claim_succeeds_for (reach_live epoch block dsc maxApr minUnbond perBlock accts wl P ops hdsc hd)
    c none n x att hact hm hx hh (Or.inl rfl)

/-- `claim_succeeds` for a deployment without whitelisted contracts: no hypothesis on the history -/
theorem claim_succeeds_no_proxy (epoch block dsc maxApr minUnbond perBlock : Nat)
    (accts : List Nat) (ops : List Op) (hdsc : 0 < dsc) (c n x : Nat) (att : Attrs) :
    let s := reach epoch block dsc maxApr minUnbond perBlock accts [] ops
    s.active = true → s.md n = some (.pos att) → 0 < x → x ≤ s.hold c n →
    ∃ s1 c1, generate s s.cache = some (s1, c1) ∧
      ∀ r, claimBoostedYields s1 c (s1.userTotal c) = some r →
        (updateEnergyAndProgress r.1 c s1.week (Energy.queried (s1.energy c) s1.epoch)).isSome = true →
        ∃ s' o, step s (.claim c none (n, x)) = some (s', o) ∧
          o.a = s.nonce + 1 ∧ o.b = x ∧
          o.c = (if att.rps < s'.rps then x * (s'.rps - att.rps) / s'.dsc else 0) + r.2.2 ∧
          s'.hold c o.a = x :=
  claim_succeeds epoch block dsc maxApr minUnbond perBlock accts [] [] ops hdsc
    (discRun_nil ops _ rfl) c n x att

/-- the FULL clause for claim: no hypothesis on the weekly-rewards module.
    STATUS: not proved; `claim_succeeds_for` is the partial statement.  Missing: as for
    `unstake_always_succeeds_full`. -/
def claim_always_succeeds_full : Prop :=
  ∀ (epoch block dsc maxApr minUnbond perBlock : Nat) (accts wl P : List Nat) (ops : List Op),
    0 < dsc → discRun P (init epoch block dsc maxApr minUnbond perBlock accts wl) ops = true →
    ∀ (c : Nat) (opt : Option Nat) (n x : Nat) (att : Attrs),
      let s := reach epoch block dsc maxApr minUnbond perBlock accts wl ops
      s.active = true → s.md n = some (.pos att) → 0 < x → x ≤ s.hold c n →
      (opt = none ∨ c ∈ s.whitelist) →
      (step s (.claim c opt (n, x))).isSome = true

/-! ### no boosted-yields configuration: liveness without a hypothesis on the weekly module -/

/-- **the weekly module's invariant in the staking world** (all histories): in every reachable
    state the embedded weekly-rewards-splitting module satisfies its global invariant
    `Weekly.GInv` (every bucket / total is the sum of the users' lots) and its
    `lastGlobalUpdateWeek` is not ahead of the current week — which is what makes
    `update_user_energy_for_current_week` unable to abort (Lemmas/WeeklyLive.lean). -/
theorem weekly_invariant (epoch block dsc maxApr minUnbond perBlock : Nat) (accts wl : List Nat)
    (ops : List Op) :
    let s := reach epoch block dsc maxApr minUnbond perBlock accts wl ops
    GInv s.w ∧ s.w.lastGlobalUpdateWeek ≤ s.week :=
  run_wl ops (wlInv_init epoch block dsc maxApr minUnbond perBlock accts wl)

/-- `update_energy_and_progress` (endpoint `updateEnergyForUser` for a user without progress, and
    the call inside stake / claim) cannot abort in a reachable state, for any user -/
theorem update_energy_never_aborts (epoch block dsc maxApr minUnbond perBlock : Nat)
    (accts wl : List Nat) (ops : List Op) (u : Nat) (cur : Energy) :
    let s := reach epoch block dsc maxApr minUnbond perBlock accts wl ops
    (updateEnergyAndProgress s.w u s.week cur).isSome = true := by
  intro s
  obtain ⟨h1, h2⟩ := weekly_invariant epoch block dsc maxApr minUnbond perBlock accts wl ops
  exact uep_ok (week_pos s) h1 h2 u cur

/-- **unstake_always_succeeds_no_boost** — the full clause (no hypothesis on the weekly module) for
    states WITHOUT a boosted-yields configuration (`boostedYieldsConfig` empty: e.g. every
    deployment on which `setBoostedYieldsFactors` never succeeded).  In every such state reached
    under the proxy discipline, on an active contract, every legitimate sender holding `x > 0`
    units of a position unstakes them successfully: unbond token of `x` units unlocking at
    `epoch + minUnbondEpochs`, reward = the base reward at the settled index. -/
theorem unstake_always_succeeds_no_boost (epoch block dsc maxApr minUnbond perBlock : Nat)
    (accts wl P : List Nat) (ops : List Op) (hdsc : 0 < dsc)
    (hd : discRun P (init epoch block dsc maxApr minUnbond perBlock accts wl) ops = true)
    (c : Nat) (opt : Option Nat) (n x : Nat) (att : Attrs) :
    let s := reach epoch block dsc maxApr minUnbond perBlock accts wl ops
    s.active = true → s.md n = some (.pos att) → 0 < x → x ≤ s.hold c n →
    (opt = none ∨ c ∈ s.whitelist) → s.b.cfg = none →
    ∃ s' o, step s (.unstake c opt (n, x)) = some (s', o) ∧
      o.a = s.nonce + 1 ∧ o.b = x ∧
      o.c = (if att.rps < s'.rps then x * (s'.rps - att.rps) / s'.dsc else 0) ∧
      s'.md o.a = some (.unbond (s.epoch + s.minUnbond)) ∧ s'.hold c o.a = x := by
  intro s hact hm hx hh hw hcfg
  have hW : WLInv s := weekly_invariant epoch block dsc maxApr minUnbond perBlock accts wl ops
  obtain ⟨s1, c1, hg, H⟩ := unstake_succeeds_for
    (reach_live epoch block dsc maxApr minUnbond perBlock accts wl P ops hdsc hd) c opt n x att hact hm hx hh hw
  obtain ⟨_, _, rfl, rfl⟩ := generate_spec hg
  obtain ⟨r, hr, hb, hz⟩ := cby_none_ok hW hcfg (opt.getD c) ((genSt s).userTotal (opt.getD c))
  have hcl : (clearEnergyIfNeeded
      { genSt s with userTotal := decreaseUT (genSt s).userTotal att.owner x, b := r.2.1 } r.1
        (opt.getD c)).isSome = true := by
    rw [clear_none_ok (by show r.2.1.cfg = none; rw [hb]; exact hcfg)]
    rfl
  obtain ⟨s', o, h1, h2, h3, h4, h5, h6⟩ := H r hr hcl
  exact ⟨s', o, h1, h2, h3, by rw [h4, hz, Nat.add_zero], h5, h6⟩

/-- **claim_always_succeeds_no_boost** — the same for `claimRewards`: without a boosted-yields
    configuration every legitimate claim of a held position part succeeds in every state of an
    active contract reached under the proxy discipline, and pays the base reward at the settled
    index. -/
theorem claim_always_succeeds_no_boost (epoch block dsc maxApr minUnbond perBlock : Nat)
    (accts wl P : List Nat) (ops : List Op) (hdsc : 0 < dsc)
    (hd : discRun P (init epoch block dsc maxApr minUnbond perBlock accts wl) ops = true)
    (c : Nat) (opt : Option Nat) (n x : Nat) (att : Attrs) :
    let s := reach epoch block dsc maxApr minUnbond perBlock accts wl ops
    s.active = true → s.md n = some (.pos att) → 0 < x → x ≤ s.hold c n →
    (opt = none ∨ c ∈ s.whitelist) → s.b.cfg = none →
    ∃ s' o, step s (.claim c opt (n, x)) = some (s', o) ∧
      o.a = s.nonce + 1 ∧ o.b = x ∧
      o.c = (if att.rps < s'.rps then x * (s'.rps - att.rps) / s'.dsc else 0) ∧
      s'.hold c o.a = x := by
  intro s hact hm hx hh hw hcfg
  have hW : WLInv s := weekly_invariant epoch block dsc maxApr minUnbond perBlock accts wl ops
  obtain ⟨s1, c1, hg, H⟩ := claim_succeeds_for
    (reach_live epoch block dsc maxApr minUnbond perBlock accts wl P ops hdsc hd) c opt n x att hact hm hx hh hw
  obtain ⟨_, _, rfl, rfl⟩ := generate_spec hg
  obtain ⟨r, hr, hb, hz⟩ := cby_none_ok hW hcfg (opt.getD c) ((genSt s).userTotal (opt.getD c))
  obtain ⟨k1, k2⟩ := cby_wl (s := genSt s) hW.1 hr
  have hup : (updateEnergyAndProgress r.1 (opt.getD c) (genSt s).week
      (Energy.queried ((genSt s).energy (opt.getD c)) (genSt s).epoch)).isSome = true :=
    uep_ok (week_pos _) k1 k2 _ _
  obtain ⟨s', o, h1, h2, h3, h4, h5⟩ := H r hr hup
  exact ⟨s', o, h1, h2, h3, by rw [h4, hz, Nat.add_zero], h5⟩

/-- non-vacuity of the `…_no_boost` theorems: no boosted-yields config (boosted percentage 25 %
    nevertheless: the cut accumulates unclaimed), two stakers, a week boundary crossed; user 1
    unstakes / claims 4·10¹⁰ units and is paid the base reward 8250 -/
example :
    let s0 := init 5 10 1000000000000 1000000 5 5000 [1, 2] []
    let ops : List Op :=
      [.topUp 100000000, .setBoostedPct 2500, .setEnergy 1 10000 100,
       .stake 1 none 100000000000 [], .stake 2 none 100000000000 [], .advance 10 0,
       .claimBoosted 1 none, .advance 1 7]
    let s := run s0 ops
    discRun [] s0 ops = true ∧ s.active = true ∧ s.b.cfg = none ∧
    s.md 1 = some (.pos ⟨0, 0, 100000000000, 1⟩) ∧ s.hold 1 1 = 100000000000 ∧
    (step s (.unstake 1 none (1, 40000000000))).map (fun r => (r.2, r.1.md 3, r.1.hold 1 3))
      = some (⟨3, 40000000000, 8250⟩, some (.unbond 17), 40000000000) ∧
    (step s (.claim 1 none (1, 40000000000))).map (·.2) = some ⟨3, 40000000000, 8250⟩ := by
  decide

/-- non-vacuity (holder, with a boosted part): two stakers, boosted percentage 25 %, user 1 has
    energy; rewards are settled in week 1, then week 2 begins.  User 1 holds 10¹¹ units of
    position 1; the history is disciplined; both weekly-module calls succeed on the settled state
    and return a boosted reward of 10000; unstaking / claiming 4·10¹⁰ units succeeds and pays
    18250 = 8250 base + 10000 boosted; the unbond token 3 carries 4·10¹⁰ units and unlocks at
    epoch 12 + 5. -/
example :
    let s0 := init 5 10 1000000000000 1000000 5 5000 [1, 2, 101] [101]
    let ops : List Op :=
      [.topUp 100000000, .setBoostedPct 2500, .setFactors ⟨10, 3, 2, 1, 1⟩, .setEnergy 1 10000 100,
       .stake 1 none 100000000000 [], .stake 2 none 100000000000 [], .advance 10 0,
       .claimBoosted 1 none, .advance 1 7]
    let s := run s0 ops
    discRun [101] s0 ops = true ∧ s.active = true ∧ s.md 1 = some (.pos ⟨0, 0, 100000000000, 1⟩) ∧
    s.hold 1 1 = 100000000000 ∧ s.epoch = 12 ∧ s.minUnbond = 5 ∧
    ((generate s s.cache).bind fun g => (claimBoostedYields g.1 1 (g.1.userTotal 1)).map fun r =>
      (r.2.2,
       (clearEnergyIfNeeded { g.1 with userTotal := decreaseUT g.1.userTotal 1 40000000000, b := r.2.1 }
          r.1 1).isSome,
       (updateEnergyAndProgress r.1 1 g.1.week (Energy.queried (g.1.energy 1) g.1.epoch)).isSome))
      = some (10000, true, true) ∧
    (step s (.unstake 1 none (1, 40000000000))).map (fun r => (r.2, r.1.md 3, r.1.hold 1 3))
      = some (⟨3, 40000000000, 18250⟩, some (.unbond 17), 40000000000) ∧
    (step s (.claim 1 none (1, 40000000000))).map (·.2) = some ⟨3, 40000000000, 18250⟩ := by
  decide

/-- non-vacuity (whitelisted sender naming an original caller): the whitelisted contract 101
    staked (really, not virtually) for user 2 and holds the position; it unstakes / claims
    4·10¹⁰ units naming user 2: both succeed and pay user 2's boosted reward -/
example :
    let s0 := init 5 10 1000000000000 1000000 5 5000 [1, 2, 101] [101]
    let ops : List Op :=
      [.topUp 100000000, .setBoostedPct 2500, .setFactors ⟨10, 3, 2, 1, 1⟩, .setEnergy 2 10000 100,
       .stake 1 none 100000000000 [], .stake 101 (some 2) 100000000000 [], .advance 10 0,
       .claimBoosted 1 none, .advance 1 7]
    let s := run s0 ops
    discRun [] s0 ops = true ∧ s.active = true ∧ s.md 2 = some (.pos ⟨0, 0, 100000000000, 2⟩) ∧
    s.hold 101 2 = 100000000000 ∧ 101 ∈ s.whitelist ∧
    (step s (.unstake 101 (some 2) (2, 40000000000))).map (·.2) = some ⟨3, 40000000000, 18250⟩ ∧
    (step s (.claim 101 (some 2) (2, 40000000000))).map (·.2) = some ⟨3, 40000000000, 18250⟩ := by
  decide

/-- **OBSERVATION (the proxy discipline is necessary for liveness; consequence of the known
    trust assumption on the SC whitelist, `C12Ledger.undisciplined_proxy_drains_capacity`).**
    A whitelisted address registers 10¹⁵ + 5000 of VIRTUAL stake (no tokens move), leaves through the
    DIRECT `unstakeFarm` and unbonds: it is paid user 1's principal and the admin's capacity, the
    balance is 0.  Two blocks later user 1 — an honest holder of 10¹⁵ units on an active contract —
    can neither claim nor unstake: the settlement puts 2000 into the reserve, the base reward 2000
    is covered by the reserve, and the transaction fails on the token transfer (guard 13). -/
theorem undisciplined_proxy_blocks_claim :
    let s0 := init 5 10 1000000000000 2500 0 1000 [1, 101] [101]
    let ops : List Op :=
      [.topUp 5000, .stake 1 none 1000000000000000 [], .stakeProxy 101 1 1000000000005000 [],
       .unstake 101 none (2, 1000000000005000), .unbond 101 (3, 1000000000005000), .advance 2 0]
    let s := run s0 ops
    discRun [101] s0 ops = false ∧ s.active = true ∧ s.hold 1 1 = 1000000000000000 ∧ s.bal = 0 ∧
    s.b.cfg = none ∧
    (generate s s.cache).map (fun g => (g.2.reserve, baseReward g.2 s.dsc 1000000000000000
      ⟨0, 0, 1000000000000000, 1⟩)) = some (2000, 2000) ∧
    step s (.claim 1 none (1, 1000000000000000)) = none ∧
    step s (.unstake 1 none (1, 1000000000000000)) = none := by
  decide

end Mx.C05StakingLive
