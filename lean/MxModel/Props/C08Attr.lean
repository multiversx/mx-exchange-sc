/-
  C08 beyond `Op.WF` — energy equals the time-weighted sum of the locked tokens ATTRIBUTED to the
  account, for every operation, every caller, every argument.

  Statement (C08): "for every account, the energy entry reported by the energy factory equals the
  sum over the locked tokens attributed to it of amount·(unlock_epoch − current_epoch) … and its
  locked-token total equals the sum of those amounts, after any sequence of lock, extend, merge,
  reduce, unlock, early unlock and its cancellation, LKMEX transfer, wrap/unwrap, reward locking
  and epoch advance.  Tokens sitting in escrow give energy to nobody."

  `Props/C08.lean` proves this with "attributed to it" read as "held by it", under `Op.WF` (user
  callers only, no merge for another account, no `lockVirtual` with energy address ≠ destination).
  Here attribution is an explicit ledger `attr c ops : account → nonce → Int`, maintained by ONE
  rule that mentions balances only (Lemmas/EnergyAttrStep, `attrStep`):

      the change of the HOLDER's real balance row in a transaction is booked on the
      ENERGY ADDRESS of that transaction                                   (`Op.parties`)

  where holder = energy address = the caller / destination for every operation except
  `mergeTokens(original_caller)` (holder = calling contract, energy address = original caller) and
  `lockVirtual(dest, energy_address)` (holder = dest).  The ledger is signed: once a whitelisted
  proxy has separated holding from attribution, the holder can spend those tokens and the energy is
  taken from the holder's own entry (energy.rs never looks at who a token was attributed to) — see
  `proxy_separates_energy_from_tokens` for the concrete history.

  The only scope condition is `Op.NoEsc`: the account whose tokens move is not one of the four
  escrow contracts (factory, token-unstake, lkmex-transfer, wrapper) — their code has no path that
  calls these endpoints; what they do is part of the modelled operations.  Contract callers
  (whitelisted proxies / farms at any address), merges for another account and `lockVirtual` with
  any energy address are all covered.

  `sumEZ g now 1 ns` = Σ_n g(n)·(unlock_n − now), `sumTZ g 1 ns` = Σ_n g(n) over a signed row;
  `sumE`/`sumT` are the same sums over a balance row (Props/C08).
-/
import MxModel.Lemmas.EnergyStep
import MxModel.Lemmas.EnergyAttrHold

namespace Mx.C08Attr
open Mx.Energy

/-- C08 in the attributed form, at full strength: after EVERY history from a freshly deployed
    world in which no escrow contract is the account whose tokens move — contract callers,
    whitelisted merges for another account and `lockVirtual` with a foreign energy address
    included — and for EVERY account `a` (users and contracts alike), `getEnergyEntryForUser(a)` =
    (Σ amount·(unlock − now), Σ amount) over the locked tokens attributed to `a` by the ledger,
    depleted to the current epoch -/
theorem energy_attr_inv (c : Cfg) (ops : List Op) (hw : ∀ op ∈ ops, op.NoEsc) (a : Nat) :
    let s := run (init c) ops
    (s.view a).E = sumEZ (attr c ops a) s.epoch 1 s.nonces ∧
    ((s.view a).T : Int) = sumTZ (attr c ops a) 1 s.nonces ∧
    (s.view a).last = s.epoch := by
  intro s
  have h := (runA_ainv ops (init_ainv c) hw).track a
  rw [runA_fst] at h
  exact h

/-- one `Op.NoEsc` transaction preserves the attributed invariant: any operation, contract callers
    included, any arguments, any option set; the ledger moves by the rule above -/
theorem energy_attr_inv_step {s s' : St} {A : Nat → Nat → Int} {op : Op} {o : Out}
    (hi : AInv s A) (hw : op.NoEsc) (h : step s op = some (s', o)) :
    AInv s' (attrStep A s s' op) :=
  step_ainv hi hw h

/-- which operations can make holder ≠ attributed account: exactly `mergeTokens` with an original
    caller other than the caller, and `lockVirtual` with an energy address other than the
    destination (both gated by the SC whitelist, see `merge_for_other_needs_whitelist`) -/
theorem separating_ops (op : Op) :
    op.Plain ↔ (match op with
      | .merge c orig _ => orig = 0 ∨ orig = c
      | .lockVirtual _ _ _ d ea => ea = d
      | _ => True) := by
  cases op <;> simp only [Op.Plain, Op.parties]
  case merge c orig ps =>
    constructor
    · intro h
      by_cases h0 : orig = 0
      · exact Or.inl h0
      · simp only [h0, if_false] at h; exact Or.inr h
    · rintro (h0 | h0) <;> simp [h0]

/-- … and every other operation leaves `attributed − held` of every ordinary account (every
    account except the four escrow contracts) exactly as it was, nonce by nonce -/
theorem attribution_follows_holding_step {s s' : St} {A : Nat → Nat → Int} {op : Op} {o : Out}
    (hw : op.NoEsc) (hp : op.Plain) (h : step s op = some (s', o)) (a n : Nat) (ha : ¬ IsEsc a) :
    attrStep A s s' op a n - (s'.bal a n : Int) = A a n - (s.bal a n : Int) := by
  rcases step_kind hw h with ⟨hh, ea, hpar, eff⟩ | ⟨hpar, q⟩ | ⟨e, hpar, hle, rfl⟩
  · simp only [Op.Plain, hpar] at hp
    subst hp
    simp only [attrStep, hpar]
    rw [div_effect eff.effect a n ha]; ring
  · simp only [attrStep, hpar]; rw [q.other a ha]
  · simp only [attrStep, hpar]

/-- the two separating arguments are reserved to whitelisted contracts: a caller that is not on
    the SC whitelist cannot merge for another account, nor call `lockVirtual` at all -/
theorem merge_for_other_needs_whitelist {s s' : St} {c orig : Nat} {ps : List (Nat × Nat)} {o : Out}
    (h : step s (.merge c orig ps) = some (s', o)) : orig = 0 ∨ c ∈ s.wl := by
  obtain ⟨_, _, _, _, _, _, _, _, _, _, t⟩ := mergeTokens_spec h
  exact t.wl

theorem lockVirtual_needs_whitelist {s s' : St} {c amt ep d ea : Nat} {o : Out}
    (h : step s (.lockVirtual c amt ep d ea) = some (s', o)) : c ∈ s.wl :=
  (lockVirtual_spec h).2.2.2.2.1

/-- histories without the two separating arguments (ordinary users, and also contracts acting for
    themselves): attribution = holding.  Every account other than the four escrow contracts is
    attributed exactly the locked tokens it holds, and the escrow contracts are attributed nothing -/
theorem attr_eq_holdings (c : Cfg) (ops : List Op) (hw : ∀ op ∈ ops, op.NoEsc)
    (hp : ∀ op ∈ ops, op.Plain) (a n : Nat) :
    let s := run (init c) ops
    (¬ IsEsc a → attr c ops a n = (s.bal a n : Int)) ∧ (IsEsc a → attr c ops a n = 0) := by
  intro s
  have h := runA_agree ops (init_agree c) hw hp
  rw [runA_fst] at h
  exact ⟨fun ha => h.user a ha n, fun ha => h.esc a ha n⟩

/-- … hence the held form of C08 for EVERY account that is not an escrow contract (users below
    `SCBASE` and any contract address acting for itself), without `Op.WF` -/
theorem energy_inv_all (c : Cfg) (ops : List Op) (hw : ∀ op ∈ ops, op.NoEsc)
    (hp : ∀ op ∈ ops, op.Plain) (a : Nat) (ha : ¬ IsEsc a) :
    let s := run (init c) ops
    (s.view a).E = sumE (s.bal a) s.epoch 1 s.nonces ∧
    (s.view a).T = sumT (s.bal a) 1 s.nonces ∧
    (s.view a).last = s.epoch := by
  intro s
  have ht := energy_attr_inv c ops hw a
  have hg : attr c ops a = fun n => ((run (init c) ops).bal a n : Int) :=
    funext fun n => (attr_eq_holdings c ops hw hp a n).1 ha
  rw [hg] at ht
  exact tracksZ_cast.mp ht

/-- the theorem of Props/C08 (`energy_inv`, under `Op.WF`) is the special case -/
theorem energy_inv_of_WF (c : Cfg) (ops : List Op) (hw : ∀ op ∈ ops, op.WF) (a : Nat)
    (ha : a < SCBASE) :
    let s := run (init c) ops
    (s.view a).E = sumE (s.bal a) s.epoch 1 s.nonces ∧
    (s.view a).T = sumT (s.bal a) 1 s.nonces ∧
    (s.view a).last = s.epoch :=
  energy_inv_all c ops (fun op h => WF_noEsc (hw op h)) (fun op h => WF_plain (hw op h)) a
    (user_not_esc ha)

/-- the escrow clause as a conservation law, for EVERY history (separating arguments included):
    nonce by nonce, the total attributed to all accounts equals the total held by accounts other
    than the four escrow contracts.  So whatever sits in token-unstake (unbonding), lkmex-transfer
    (pending transfer), the wrapper (wrapped) or the factory (residual unit) is attributed to — and
    therefore, by `energy_attr_inv`, gives energy to — nobody.  `N` bounds the account addresses
    the history names (`Op.Below N`); the sums run over the accounts `0 … N−1`. -/
theorem escrow_attributed_to_nobody (c : Cfg) (ops : List Op) (N : Nat)
    (hw : ∀ op ∈ ops, op.NoEsc) (hb : ∀ op ∈ ops, op.Below N) (n : Nat) :
    let s := run (init c) ops
    sumAcc (fun a => attr c ops a n) N =
      sumAcc (fun a => if IsEsc a then 0 else (s.bal a n : Int)) N := by
  intro s
  have h := runA_cons (N := N) (n := n) ops (init_cons c N n) hw hb
  rw [runA_fst] at h
  exact h

/-- … summed up over the nonces: the locked-token totals of all entries together are exactly the
    locked tokens held outside the four escrow contracts, and the energies of all entries together
    are exactly their time-weighted sum — for EVERY history (separating arguments included).
    Escrowed tokens (unbonding, pending transfer, wrapped, factory residue) appear in neither. -/
theorem total_energy_excludes_escrow (c : Cfg) (ops : List Op) (N : Nat)
    (hw : ∀ op ∈ ops, op.NoEsc) (hb : ∀ op ∈ ops, op.Below N) :
    let s := run (init c) ops
    let outside : Nat → Int := fun n => sumAcc (fun a => if IsEsc a then 0 else (s.bal a n : Int)) N
    sumAcc (fun a => ((s.view a).T : Int)) N = sumTZ outside 1 s.nonces ∧
    sumAcc (fun a => (s.view a).E) N = sumEZ outside s.epoch 1 s.nonces := by
  intro s outside
  have hT : (fun a => ((s.view a).T : Int)) = fun a => sumTZ (attr c ops a) 1 s.nonces :=
    funext fun a => (energy_attr_inv c ops hw a).2.1
  have hE : (fun a => (s.view a).E) = fun a => sumEZ (attr c ops a) s.epoch 1 s.nonces :=
    funext fun a => (energy_attr_inv c ops hw a).1
  have ho : (fun n => sumAcc (fun a => attr c ops a n) N) = outside :=
    funext fun n => escrow_attributed_to_nobody c ops N hw hb n
  rw [hT, hE, sumAcc_sumTZ, sumAcc_sumEZ, ho]
  exact ⟨rfl, rfl⟩

/-- tokens sitting in escrow give energy to nobody, entry by entry: when attribution = holding
    the four escrow contracts report the zero entry -/
theorem escrow_gives_nothing_all (c : Cfg) (ops : List Op) (hw : ∀ op ∈ ops, op.NoEsc)
    (hp : ∀ op ∈ ops, op.Plain) (a : Nat) (ha : IsEsc a) :
    let s := run (init c) ops
    (s.view a).E = 0 ∧ (s.view a).T = 0 ∧ (s.view a).last = s.epoch := by
  intro s
  obtain ⟨h1, h2, h3⟩ := energy_attr_inv c ops hw a
  have hz : ∀ m, 1 ≤ m → attr c ops a m = 0 := fun m _ => (attr_eq_holdings c ops hw hp a m).2 ha
  rw [sumEZ_zero _ _ _ _ hz] at h1
  rw [sumTZ_zero _ _ _ hz] at h2
  exact ⟨h1, by exact_mod_cast h2, h3⟩

/-- non-vacuity of the attributed theorems: a whitelisted proxy at a CONTRACT address (250) holds
    reward tokens locked for users 2 and 3 (`lockVirtual` with energy address ≠ destination),
    merges two nonces on behalf of user 3 (`mergeTokens` with an original caller; rounded up to the
    month), user 1 locks, transfers (withdrawn after expiry of the other nonce) and unlocks early.
    Every op is `NoEsc`; three of them are not `Plain`.  The ledger (signed, non-trivial) and the
    reported entries: user 3 is attributed 400@360 + 100@720 + 700@570 but holds 700/100/0, the
    proxy holds 200@360 + 700@570 and is attributed nothing. -/
example :
    let c : Cfg := { epoch := 5, opts := [(360, 4000), (720, 6000), (1440, 8000)], unbond := 10,
                     burnPct := 5000, minLock := 4, cooldown := 6, users := 3, funds := 1000000 }
    let ops : List Op :=
      [.cfg (.whitelist 250), .lockVirtual 250 500 360 250 2, .lockVirtual 250 400 720 250 3,
       .lock 3 700 360 0, .merge 250 3 [(1, 300), (2, 400)], .lock 1 1000 720 0, .advance 400,
       .lockFunds 1 3 [(2, 100)], .unlockEarly 1 2 300, .advance 420, .withdraw 3 1]
    let s := run (init c) ops
    (∀ op ∈ ops, op.NoEsc) ∧ (∀ op ∈ ops, op.Below 300) ∧ ¬ (∀ op ∈ ops, op.Plain) ∧
    s.nonces = [360, 720, 570] ∧ s.epoch = 420 ∧
    (s.view 3).E = 111000 ∧ (s.view 3).T = 1200 ∧ (s.view 2).E = -30000 ∧ (s.view 250).T = 0 ∧
    attr c ops 3 1 = 400 ∧ attr c ops 3 2 = 100 ∧ attr c ops 3 3 = 700 ∧ attr c ops 2 1 = 500 ∧
    attr c ops 250 1 = 0 ∧ s.bal 250 1 = 200 ∧ s.bal 250 3 = 700 ∧ s.bal 3 1 = 700 ∧
    s.bal UNSTAKE 2 = 300 := by
  decide

/-- why the ledger has to be signed (and why `Op.WF` excludes the proxy arguments): a whitelisted
    contract (9) locks 500 reward tokens with destination user 1 and energy address user 2; user 1,
    who also holds 1000 tokens of its own, sends the 500 to early unlock.  energy.rs deducts the
    energy from user 1's entry.  Result: user 2 keeps energy 500·(360−5) for tokens that now sit in
    token-unstake's escrow, and user 1 reports less energy (537 500) than its own 1000 tokens are
    worth (715 000): neither the held form of C08 nor "tokens in escrow give energy to nobody"
    holds for this history — by design of the trusted `energy_address` argument; the attributed
    form does (user 1 is attributed −500 of nonce 1). -/
theorem proxy_separates_energy_from_tokens :
    let c : Cfg := { epoch := 5, opts := [(360, 4000), (720, 6000), (1440, 8000)], unbond := 10,
                     burnPct := 5000, minLock := 4, cooldown := 6, users := 3, funds := 1000000 }
    let ops : List Op :=
      [.cfg (.whitelist 9), .lockVirtual 9 500 360 1 2, .lock 1 1000 720 0, .unlockEarly 1 1 500]
    let s := run (init c) ops
    (∀ op ∈ ops, op.NoEsc) ∧
    s.bal 2 1 = 0 ∧ s.bal 2 2 = 0 ∧ (s.view 2).E = 177500 ∧ (s.view 2).T = 500 ∧
    s.bal UNSTAKE 1 = 500 ∧
    s.bal 1 1 = 0 ∧ s.bal 1 2 = 1000 ∧ (s.view 1).E = 537500 ∧ (s.view 1).T = 500 ∧
    sumE (s.bal 1) s.epoch 1 s.nonces = 715000 ∧
    attr c ops 1 1 = -500 ∧ attr c ops 1 2 = 1000 ∧ attr c ops 2 1 = 500 := by
  decide

end Mx.C08Attr
