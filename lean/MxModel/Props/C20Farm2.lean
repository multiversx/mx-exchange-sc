/-
  C20 (farm clause, second file) — received positions, and the view's own settlement.

  The reward view of dex/farm / farm-with-locked-rewards takes a `user` argument.  For a position whose
  recorded `original_owner` is someone else (received by a plain transfer) the quote that execution
  matches is the one for the HOLDER, boosted part included; the quote for the recorded owner is in
  general a different number (`example`, the history of corpus/farm/c20_quote_received_position.ops,
  seed C20-b).  The real view runs `generate_aggregated_rewards` on a cache and the user's boosted claim
  before answering, and the test VM commits that: `view_settlement_is_claim_settlement` ties the view's
  value in `s` to the claim executed DIRECTLY in `s`, and `committed_view_breaks_next_quote` is why the
  harness needs a twin world.
-/
import MxModel.Props.C20Farm
import MxModel.Lemmas.FarmRps

namespace Mx.C20Farm2
open Mx.Farm

/-- **received position.**  In any state, for a position `n` whose recorded owner differs from the
    holder `user`: if the holder's `claimRewards` of `a` units succeeds, the view asked for
    `(user, a, attributes of n)` in that same state answers exactly the reward paid, base + boosted
    (the boosted part being the HOLDER's); likewise for `exitFarm`. -/
theorem quote_eq_exec_received {s s' : St} {user n a : Nat} {rest : List (Nat × Nat)} {att : Attr}
    {o : Out} (hat : s.attrs n = some att) (_hforeign : att.owner ≠ user) :
    (claimRewards s user none ((n, a) :: rest) = some (s', o) →
      calcRewards s user a att.rps = some o.rew ∧ o.rew = o.base + o.boosted) ∧
    (exitFarm s user none n a = some (s', o) →
      calcRewards s user a att.rps = some o.rew ∧ o.rew = o.base + o.boosted) :=
  ⟨C20Farm.exec_implies_quote hat, C20Farm.quote_eq_exec_exit hat⟩

/-- **the view's internal settlement is the operation's own.**  If `claimRewards` / `compoundRewards`
    (`claimCore`: any caller, boosted rewards for `orig`, any merged payments) succeeds when executed
    directly in `s`, then the view's computation in `s` — settle on a fresh cache (`s1`, `c1`), run
    `orig`'s boosted claim (`boosted`) — succeeds, the view's answer is
    `baseReward(at c1) + boosted`, the operation pays exactly these two parts, and the operation
    leaves the reward index, the last reward block and the division constant exactly as the view's
    settlement computed them. -/
theorem view_settlement_is_claim_settlement {s s' : St} {caller orig n a : Nat}
    {rest : List (Nat × Nat)} {cmp : Bool} {att : Attr} {o : Out}
    (hat : s.attrs n = some att)
    (hx : claimCore s caller orig ((n, a) :: rest) cmp = some (s', o)) :
    ∃ s1 c1 s2 boosted,
      generate s (Cache.read s) = some (s1, c1) ∧ claimBoostedYields s1 orig = some (s2, boosted) ∧
      calcRewards s orig a att.rps = some (baseReward s1.dsc c1.rps a att.rps + boosted) ∧
      o.base = baseReward s1.dsc c1.rps a att.rps ∧ o.boosted = boosted ∧
      o.rew = baseReward s1.dsc c1.rps a att.rps + boosted ∧
      s'.rps = c1.rps ∧ s'.lastBlock = s1.lastBlock ∧ s'.dsc = s1.dsc := by
  obtain ⟨att', s1, c1, s2, boosted, hat', hg, hb, h1, h2, h3⟩ := claimCore_reward hx
  rw [hat] at hat'
  simp only [Option.some.injEq] at hat'
  subst hat'
  obtain ⟨_, _, _, _, _, _, _, hrv⟩ := claimCore_rv hx
  obtain ⟨_, rfl, rfl⟩ := generate_eq hg
  exact ⟨_, _, s2, boosted, hg, hb, calcRewards_eq_some.mpr ⟨_, _, s2, boosted, hg, hb, rfl⟩,
    h1, h2, h3, congrArg RV.rps hrv, congrArg RV.lastBlock hrv, congrArg RV.dsc hrv⟩

/-- the state a COMMITTED view would leave (what `execute_query` does in the test VM): the settled
    cache written back and the user's boosted claim applied -/
def commitView (s : St) (user : Nat) : Option St := do
  let (s1, c1) ← generate s (Cache.read s)
  let (s2, _) ← claimBoostedYields s1 user
  pure (Cache.drop s2 c1)

/-- the history of corpus/farm/c20_quote_received_position.ops up to the quote: user 1 (no energy)
    enters and passes the position to user 2 (energy, own position); one week later -/
def receivedOps : List Op :=
  [.setFactors OWNER ⟨10, 3, 2, 1, 1⟩, .setPct OWNER 2500, .setEnergy 2 1000000 0 1000,
   .enter 1 none 100000000 [], .enter 2 none 50000000 [], .advance 10 6,
   .claim 2 none [(2, 50000000)], .transfer 1 2 1 100000000, .advance 20 7]

/-- non-vacuity of `quote_eq_exec_received` and the reason seed C20-b is a violation: position 1 is
    recorded for user 1 but held by user 2; the quote for the holder (11833 = base 10000 + his boosted
    1833) is what his `claimRewards` and `exitFarm` pay; the quote for the recorded owner is 10000 -/
example :
    let s := run (init .mint false 1000000000000 1000 true [1, 2, 3] 0) receivedOps
    (s.attrs 1).map (fun a => (a.rps, a.owner)) = some (0, 1) ∧ s.hold 2 1 = 100000000 ∧
    calcRewards s 2 100000000 0 = some 11833 ∧ calcRewards s 1 100000000 0 = some 10000 ∧
    (claimRewards s 2 none [(1, 100000000)]).map (fun r => (r.2.rew, r.2.base, r.2.boosted))
      = some (11833, 10000, 1833) ∧
    (exitFarm s 2 none 1 100000000).map (fun r => (r.2.rew, r.2.base, r.2.boosted))
      = some (11833, 10000, 1833) := by
  decide

/-- **why quoting must not change state**: in the same reachable state, had the view's settlement
    been committed, the same quote asked again would be 10000 instead of 11833 (the boosted week is
    consumed without being paid) and the claim would pay only that — so "the view equals the claim
    executed directly in `s`" (`view_settlement_is_claim_settlement`) is NOT the same as "the view
    equals a claim in the state the view leaves" -/
theorem committed_view_breaks_next_quote :
    let s := run (init .mint false 1000000000000 1000 true [1, 2, 3] 0) receivedOps
    calcRewards s 2 100000000 0 = some 11833 ∧
    ((commitView s 2).bind fun s' => calcRewards s' 2 100000000 0) = some 10000 ∧
    ((commitView s 2).bind fun s' => (claimRewards s' 2 none [(1, 100000000)]).map (·.2.rew))
      = some 10000 := by
  decide

end Mx.C20Farm2
