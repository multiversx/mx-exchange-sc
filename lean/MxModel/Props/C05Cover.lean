/-
  C05 (farm, farm-with-locked-rewards) — the two clauses Props/C05.lean leaves open:

    "… and it [the reward reserve] always covers all currently claimable base rewards plus all
     not-yet-claimed boosted-reward pools.  … every position's principal is withdrawable and no
     legitimate enter/claim/exit/merge fails because an internal counter would go negative."

  * `reserve_covers`, `reserve_decomposition`: PROVED for every reachable state of both kinds.
  * `no_underflow`: PROVED for every reserve-side counter (the checked `reward_reserve − reward` of
    claim / compound / exit / claimBoostedRewards / enter / merge, the reward-token balance of a
    minting farm, and — in Props/C05.lean — the supply and the owner totals).
    `exit_succeeds` / `claim_succeeds`: in every reachable state a holder's `exitFarm` / `claimRewards`
    can only fail INSIDE the weekly-rewards module (boosted claim, energy clearing) — every other
    guard and checked subtraction of the endpoints is discharged from the invariants.
    IN FULL (`no_underflow_full`): proved in Props/C05Budget.lean for EVERY history
    (`no_underflow_full_holds`; the factor-validation hypothesis `GoodOps` of `no_underflow_full_good_holds`
    is discharged because a `setFactors` with `cE + cF = 0` is a failed call — the repair of finding F7).
    Finding F6 is the per-week subtraction `remainingBoostedRewardsToDistribute(week) −= reward` underflowing
    after a late first `setBoostedYieldsFactors` (the history `cxOps`) in a contract whose
    `claim_boosted_yields_rewards` returns early when no config exists; in the modelled (repaired) contract
    the history succeeds (`f6_history_repaired`).

  The hypothesis under which the weekly subtraction is safe is `WeekBudget` (Lemmas/FarmWeekSafe.lean):
  `weekly_sub_safe_under_budget`, `week_budget_init_mono`; its energy half holds in every reachable
  state (`week_budget_energy_half`), its position half `Σ f ≤ F` is what the F6 counter-example breaks
  in the unrepaired contract (proved for the modelled one in Props/C05Budget.lean).

  Hypotheses of the run-level theorems: `users.Nodup` (distinct accounts — `PosInv`) and `dsc ≠ 0`
  (the division safety constant; with `dsc = 0` every base reward is `x / 0 = 0`).
  Week sums range over the weeks `0 … W` with `W` the current week; later weeks hold nothing
  (`pools_after_current_week_empty`), so any later bound gives the same sum.

  Model: Core/Farm.lean.
-/
import MxModel.Lemmas.FarmCover
import MxModel.Lemmas.FarmWeekSafe
import MxModel.Lemmas.FarmLiveAll
import MxModel.Lemmas.FarmEnergy

namespace Mx.C05Cover
open Mx.Farm

/-- **reserve_covers.**  In every reachable state of a farm of either kind the reported reward
    reserve covers: Σ over outstanding position nonces of the base reward claimable right now
    `⌊outstanding(n)·(rps − entryRps(n))/dsc⌋`, plus Σ over the weeks up to the current one of the
    boosted pools (`accumulatedRewardsForWeek + remainingBoostedRewardsToDistribute`), plus the
    undistributed boosted rewards.  (The current week `W` always exists.) -/
theorem reserve_covers (kind : Kind) (same : Bool) (dsc pb : Nat) (produce : Bool) (users : List Nat)
    (e0 : Nat) (hnd : users.Nodup) (hd : dsc ≠ 0) (ops : List Op) :
    let s := run (init kind same dsc pb produce users e0) ops
    (∃ W, s.week = some W) ∧
    ∀ W, s.week = some W →
      ((nonceList s).map fun n => baseReward s.dsc s.rps (heldBy s n) (rpsOf s n)).sum +
        ((List.range (W + 1)).map fun w => s.b.accum w + s.b.remaining w).sum + s.undist ≤ s.reserve := by
  intro s
  obtain ⟨_, hG⟩ := Plain.reachable_good kind same dsc pb produce users e0 hnd hd ops
  exact ⟨week_of_time hG.pool.time, fun W hW => (reserve_covers_state hG.acct hG.pot hG.pool hG.dsc hW).1⟩

/-- **reserve_decomposition** (exact).  The reserve IS the unspent base budget plus the boosted pools
    plus the undistributed rewards: nothing else is in it, nothing is missing.
    `baseBudget` = Σ over settlements of the base share `perBlock·Δblocks − boosted cut`. -/
theorem reserve_decomposition (kind : Kind) (same : Bool) (dsc pb : Nat) (produce : Bool)
    (users : List Nat) (e0 : Nat) (hnd : users.Nodup) (hd : dsc ≠ 0) (ops : List Op) :
    let s := run (init kind same dsc pb produce users e0) ops
    ∀ W, s.week = some W →
      s.paidBase ≤ s.baseBudget ∧
      s.reserve = (s.baseBudget - s.paidBase) +
        ((List.range (W + 1)).map fun w => s.b.accum w + s.b.remaining w).sum + s.undist := by
  intro s W hW
  obtain ⟨_, hG⟩ := Plain.reachable_good kind same dsc pb produce users e0 hnd hd ops
  obtain ⟨_, h2, h3⟩ := reserve_covers_state hG.acct hG.pot hG.pool hG.dsc hW
  exact ⟨h3, h2⟩

/-- the same without any side condition (`dsc` may be 0, no subtraction):
    `reserve + paidBase = baseBudget + Σ pools + undistributed` -/
theorem reserve_decomposition_add (kind : Kind) (same : Bool) (dsc pb : Nat) (produce : Bool)
    (users : List Nat) (e0 : Nat) (ops : List Op) :
    let s := run (init kind same dsc pb produce users e0) ops
    ∀ W, s.week = some W →
      s.reserve + s.paidBase = s.baseBudget +
        ((List.range (W + 1)).map fun w => s.b.accum w + s.b.remaining w).sum + s.undist := by
  intro s W hW
  exact reserve_decomp (run_acct ops (init_acct kind same dsc pb produce users e0))
    (reachable_poolInv kind same dsc pb produce users e0 ops) W hW

/-- weeks after the current one hold nothing, so the week sums above may run to any later bound -/
theorem pools_after_current_week_empty (kind : Kind) (same : Bool) (dsc pb : Nat) (produce : Bool)
    (users : List Nat) (e0 : Nat) (ops : List Op) :
    let s := run (init kind same dsc pb produce users e0) ops
    ∀ W w, s.week = some W → W < w → s.b.accum w = 0 ∧ s.b.remaining w = 0 := by
  intro s W w hW hw
  have h : s.b.accum w + s.b.remaining w = 0 :=
    pool_future_zero (reachable_poolInv kind same dsc pb produce users e0 ops) hW hw
  omega

/-- **no_underflow (claim / compound / exit).**  In every reachable state, along the code path of
    `claimRewards` / `compoundRewards` / `exitFarm` (payments taken → `s0`; `generate` on the fresh
    cache → `(s1, c1)`; the first payment `(n, a)` with attributes `att`, split by `into_part`; the
    caller's boosted claim → `boosted`): the checked subtraction
    `reward_reserve − (base + boosted)` cannot underflow.  Whoever holds the position, whoever `orig`
    is, whatever else is merged in (`l`). -/
theorem no_underflow_reserve_claim_exit (kind : Kind) (same : Bool) (dsc pb : Nat) (produce : Bool)
    (users : List Nat) (e0 : Nat) (hnd : users.Nodup) (hd : dsc ≠ 0) (ops : List Op)
    {s0 s1 s2 : St} {c1 : Cache} {caller orig n a boosted : Nat} {l : List (Nat × Nat)} {att part : Attr} :
    let s := run (init kind same dsc pb produce users e0) ops
    takePayments s caller ((n, a) :: l) = some s0 →
    s0.attrs n = some att →
    generate s0 (Cache.read s0) = some (s1, c1) →
    att.intoPart a = some part →
    claimBoostedYields s1 orig = some (s2, boosted) →
    baseReward s1.dsc c1.rps a part.rps + boosted ≤ c1.reserve := by
  intro s h0 hat h1 hp h2
  obtain ⟨_, hG⟩ := Plain.reachable_good kind same dsc pb produce users e0 hnd hd ops
  obtain ⟨_, rfl⟩ := takePayments_spec _ h0
  rw [(intoPart_spec hp).2.1]
  exact reward_le_reserve hG.acct hG.pos hG.pot hG.pool hG.dsc h0 h1 hat h2

/-- … and in a reward-minting farm the reward tokens are there: after the settlement the contract's
    reward balance equals the cached reserve, so paying `base + boosted ≤ reserve` cannot fail either -/
theorem no_underflow_balance (same : Bool) (dsc pb : Nat) (produce : Bool)
    (users : List Nat) (e0 : Nat) (ops : List Op)
    {s0 s1 : St} {c1 : Cache} {caller : Nat} {l : List (Nat × Nat)} :
    let s := run (init .mint same dsc pb produce users e0) ops
    takePayments s caller l = some s0 →
    generate s0 (Cache.read s0) = some (s1, c1) →
    s1.balReward = c1.reserve := by
  intro s h0 h1
  have hA := run_acct ops (init_acct .mint same dsc pb produce users e0)
  have hk : s.kind = .mint := run_kind ops _
  have hb : s.balReward = s.reserve := hA.bal hk
  obtain ⟨e1, hc1⟩ := generate_av h1
  have e0' := takePayments_av h0
  have k0 : s0.kind = .mint := (congrArg Fixed.kind (takePayments_fixed h0)).trans hk
  have hr : c1.reserve = s0.reserve + minted s0 := by rw [hc1]; rfl
  simp only [av, AV.mk.injEq, k0, if_true] at e1 e0'
  omega

/-- **no_underflow (claimBoostedRewards).**  `reward_reserve − boosted` on the live cache cannot underflow. -/
theorem no_underflow_reserve_claimBoosted (kind : Kind) (same : Bool) (dsc pb : Nat) (produce : Bool)
    (users : List Nat) (e0 : Nat) (hnd : users.Nodup) (hd : dsc ≠ 0) (ops : List Op)
    {s1 s2 : St} {c1 : Cache} {u boosted : Nat} :
    let s := run (init kind same dsc pb produce users e0) ops
    generate s (Cache.read s) = some (s1, c1) →
    claimBoostedYields s1 u = some (s2, boosted) →
    boosted ≤ c1.reserve := by
  intro s h1 h2
  obtain ⟨_, hG⟩ := Plain.reachable_good kind same dsc pb produce users e0 hnd hd ops
  exact boosted_le_reserve hG.acct hG.pos hG.pot hG.pool hG.dsc h1 h2

/-- **no_underflow (enter / merge).**  `claim_only_boosted_payment` subtracts the boosted reward from
    the stored reserve directly (no cache alive) after the payments were taken (and, in `enterFarm`,
    the farming tokens received, `amt`; `amt = 0` is the `mergeFarmTokens` case): cannot underflow. -/
theorem no_underflow_reserve_enter_merge (kind : Kind) (same : Bool) (dsc pb : Nat) (produce : Bool)
    (users : List Nat) (e0 : Nat) (hnd : users.Nodup) (hd : dsc ≠ 0) (ops : List Op)
    {s0 s2 : St} {caller u amt boosted : Nat} {l : List (Nat × Nat)} :
    let s := run (init kind same dsc pb produce users e0) ops
    takePayments s caller l = some s0 →
    claimBoostedYields (addFarming s0 amt) u = some (s2, boosted) →
    boosted ≤ (addFarming s0 amt).reserve := by
  intro s h0 h2
  obtain ⟨_, hG⟩ := Plain.reachable_good kind same dsc pb produce users e0 hnd hd ops
  obtain ⟨h', rfl⟩ := takePayments_spec l h0
  have hI' : PoolInv (addFarming { s with hold := h' } amt) := WkV.Pool.toInv hG.pool.toD
  exact boosted_le_of_cov hI' (cov_of_gen hI' hG.acct.res hG.acct.split) (hG.pot.paidBase_le hG.dsc) h2

/-- **principal is withdrawable unless the weekly-rewards module aborts.**  In every reachable state of
    an active farm, whoever holds `a > 0` of position `n`: the settlement (`generate`) succeeds, and
    `exitFarm` with that payment succeeds as soon as the two calls into the weekly-rewards-splitting
    module succeed — the caller's boosted claim on the settled state and `clear_user_energy_if_needed`
    on the state with the owner's total decreased.  Every other guard and every other checked
    subtraction of the endpoint (reserve − reward, supply − amount, epoch − entering epoch, amount −
    penalty, farming balance − amount, reward balance − reward / the lock period of `lockVirtual`)
    is discharged by the invariants. -/
theorem exit_succeeds (kind : Kind) (same : Bool) (dsc pb : Nat) (produce : Bool)
    (users : List Nat) (e0 : Nat) (hnd : users.Nodup) (hd : dsc ≠ 0) (ops : List Op) (u n a : Nat) :
    let s := run (init kind same dsc pb produce users e0) ops
    s.active = true → a ≠ 0 → a ≤ s.hold u n →
    ∃ att s1 c1, s.attrs n = some att ∧ generate s (Cache.read s) = some (s1, c1) ∧
      ∀ s2 boosted, claimBoostedYields s1 u = some (s2, boosted) →
        (clearUserEnergyIfNeeded (decreaseOwner s2 att.owner a) u).isSome = true →
        (step s (.exit u none n a)).isSome = true := by
  intro s hact ha hle
  obtain ⟨_, hG⟩ := Plain.reachable_good kind same dsc pb produce users e0 hnd hd ops
  have hne : s.hold u n ≠ 0 := by omega
  obtain ⟨hu, _, hsome⟩ := hG.pos.dom u n hne
  obtain ⟨att, hat⟩ := Option.isSome_iff_exists.mp hsome
  obtain ⟨s1, c1, hg⟩ := generate_ok (s := s) (Cache.read s) hG.pool.time hG.pool.pct
  -- in a reachable state neither weekly-module call can fail, so the call succeeds outright
  exact ⟨att, s1, c1, hat, hg, fun _ _ _ _ => known_ok hu
    (exitFarm_gen_always (opt := none) hG rfl hact ha hle)⟩

/-- the same for `claimRewards` of one payment by its holder: it can only fail inside the boosted
    claim (`claim_multi` of the weekly-rewards module, including the per-week pool subtraction) -/
theorem claim_succeeds (kind : Kind) (same : Bool) (dsc pb : Nat) (produce : Bool)
    (users : List Nat) (e0 : Nat) (hnd : users.Nodup) (hd : dsc ≠ 0) (ops : List Op) (u n a : Nat) :
    let s := run (init kind same dsc pb produce users e0) ops
    s.active = true → a ≠ 0 → a ≤ s.hold u n →
    ∃ s1 c1, generate s (Cache.read s) = some (s1, c1) ∧
      ∀ s2 boosted, claimBoostedYields s1 u = some (s2, boosted) →
        (step s (.claim u none [(n, a)])).isSome = true := by
  intro s hact ha hle
  obtain ⟨W, hG⟩ := Plain.reachable_good kind same dsc pb produce users e0 hnd hd ops
  obtain ⟨s1, c1, hg⟩ := generate_ok (s := s) (Cache.read s) hG.pool.time hG.pool.pct
  -- in a reachable state the boosted claim cannot fail either, so the call succeeds outright
  have h0 := hG.pays_single.mpr ⟨ha, hle⟩
  exact ⟨s1, c1, hg, fun _ _ _ => known_ok (hG.payer (List.cons_ne_nil _ _) h0)
    (claimRewards_list_always hG (Or.inl rfl) hact (List.cons_ne_nil _ _) h0)⟩

/-- non-vacuity of `exit_succeeds` / `claim_succeeds`: in the corpus history f1 (week 2, boosted pool
    pending) both weekly-module calls succeed for user 1, and so do the exit and the claim -/
example :
    let s := run (init .mint false 1000000000000 1000 true [1, 2] 0)
      [.setFactors OWNER ⟨10, 3, 2, 1, 1⟩, .setPct OWNER 2500, .setEnergy 1 1000000 0 1000,
       .enter 1 none 100000000 [], .advance 10 6, .claim 1 none [(1, 100000000)], .advance 20 7]
    s.active = true ∧ s.hold 1 2 = 100000000 ∧
    ((generate s (Cache.read s)).bind fun r1 => (claimBoostedYields r1.1 1).map fun r2 =>
      (r2.2, (clearUserEnergyIfNeeded (decreaseOwner r2.1 1 100000000) 1).isSome)) = some (2500, true) ∧
    (step s (.exit 1 none 2 100000000)).isSome = true ∧
    (step s (.claim 1 none [(2, 100000000)])).isSome = true := by
  decide

/-- the full clause: in every reachable state of an active farm, whoever holds (part of) a position
    can exit with it — no internal counter stands in the way.
    STATUS: PROVED for ALL histories — `C05Budget.no_underflow_full_holds`.  The clause is false for a contract
    without the repair of F6 (history `cxOps` below) and, without the repair of F7, holds only under `GoodOps`
    (every `setBoostedYieldsFactors` installs `cE + cF ≠ 0`; see `C05Budget.setFactors_bad_fails`). -/
def no_underflow_full : Prop :=
  ∀ (kind : Kind) (same : Bool) (dsc pb : Nat) (produce : Bool) (users : List Nat) (e0 : Nat)
    (ops : List Op), users.Nodup → dsc ≠ 0 →
    let s := run (init kind same dsc pb produce users e0) ops
    ∀ u n a, u ∈ s.users → s.active = true → a ≠ 0 → a ≤ s.hold u n → (exitFarm s u none n a).isSome

/-- The history of finding F6 (corpus/farm/f6_late_config_underflow.ops, ops 1–10).  Boosted
    percentage 25 % but NO boosted-yields factors yet.  User 1 (with energy) farms 1 token through
    week 1 (10 blocks settled: week 1's pool = 2500, `farmSupplyForWeek 1 = 1`).  In week 2 user 2
    enters 1000 and sends the position to user 1, who claims with it: `userTotalFarmPosition(1)`
    becomes 1001.  Then the owner sets the FIRST factors; `BoostedYieldsConfig::new` fills all five
    slots, so week 1 becomes claimable under them.
    In the unrepaired contract the boosted claim without a config returns early and user 1's claim progress
    stays at week 1: week 1 is then evaluated with position 1001 against the recorded supply 1,
    `remaining − reward` underflows and every operation of user 1 fails.  The repaired code
    (`update_energy_and_progress` in the `None` branch) moves the progress to week 2 in op 9,
    BEFORE the total grows. -/
def cxOps : List Op :=
  [.setPct OWNER 2500, .setEnergy 1 1000000 0 1000, .enter 1 none 1 [], .advance 10 6,
   .claim 1 none [(1, 1)], .advance 10 7, .enter 2 none 1000 [], .transfer 2 1 3 1000,
   .claim 1 none [(3, 1000)], .setFactors OWNER ⟨10, 3, 2, 1, 1⟩]

def cxState : St := run (init .mint false 1000000000000 1000 true [1, 2] 0) cxOps

/-- **the F6 history succeeds.**  Same reachable state as in the finding (user 1 holds position 4
    = 1000 tokens in an active farm, total position 1001, week 1's pool 2500 with recorded supply 1,
    current week 2, factors just set for the first time) — but user 1's claim progress is at week 2
    (moved by the claim of op 9, when no config existed), so week 1 is not evaluated with the grown
    position: the boosted claim succeeds and pays 0, and EVERY operation of user 1 that fails in the unrepaired
    contract succeeds: claim, exit (principal withdrawable), claimBoostedRewards, enter, merge.  (On the real
    repaired contracts: the corpus history replays without `no_legit_failure`.) -/
theorem f6_history_repaired :
    let s := cxState
    s.hold 1 4 = 1000 ∧ s.active = true ∧ s.reserve = 2500 ∧ s.b.accum 1 = 2500 ∧
    s.userTotal 1 = 1001 ∧ s.b.farmSupplyWeek 1 = 1 ∧ s.week = some 2 ∧
    (s.w.progress 1).map (·.week) = some 2 ∧
    (claimBoostedYields s 1).map (·.2) = some 0 ∧
    (step s (.claim 1 none [(4, 1000)])).isSome = true ∧
    (step s (.exit 1 none 4 1000)).isSome = true ∧
    (step s (.claimBoosted 1 none)).isSome = true ∧
    (step s (.enter 1 none 5 [])).isSome = true ∧
    (step s (.merge 1 none [(4, 1000), (2, 1)])).isSome = true ∧
    (step s (.enter 2 none 5 [])).isSome = true := by
  decide

/-- the instance of `no_underflow_full` that finding F6 refutes for the unrepaired contract: in the F6 state every
    holder of every position can exit with all of it -/
theorem no_underflow_full_on_f6 :
    let s := cxState
    (exitFarm s 1 none 4 1000).isSome = true ∧ (exitFarm s 1 none 2 1).isSome = true := by
  decide

/-- the arithmetic of the unrepaired contract: week 1 evaluated with position 1001 against the
    recorded supply 1 would give `min ⌊10·2500·1001/1⌋ ⌊(⌊2500·3·e/E⌋ + ⌊2500·2·1001/1⌋)/5⌋ = 1 002 500 > 2500` -/
theorem f6_unrepaired_reward_exceeds_pool :
    boostedAmount ⟨10, 3, 2, 1, 1⟩ 2500 1001 1 1000000 1000000 = 1002500 := by
  decide

/-- **exactly when one week's reward computation aborts** (`get_user_rewards_for_week`; `mem` = the
    config updated to the current week, `f` = the user's current total farm position, `e`/`E` = the
    user's / the total energy of the week): the week is live and either its factors are out of the
    ring's reach, or the user passes the minima and the frozen list is malformed / `cE + cF = 0` with
    a non-empty pool / — the only arithmetic cause — the computed reward exceeds `remaining`. -/
theorem weekly_sub_fails_iff (mem : BCfg) (f : Nat) (g : Weekly.St) (c : BSt) (week e E : Nat) :
    boostedRewards mem f g c week e E = none ↔
      (E ≠ 0 ∧ c.farmSupplyWeek week ≠ 0 ∧
        (mem.factorsForWeek week = none ∨
         ∃ fa, mem.factorsForWeek week = some fa ∧ fa.minE ≤ e ∧ fa.minF ≤ f ∧
           let r := Weekly.collectAndGet (collectBoosted mem) g c week
           ((∃ p q l, r.2.2 = p :: q :: l) ∨
            ∃ tok R, r.2.2 = [(tok, R)] ∧ R ≠ 0 ∧
              (fa.cE + fa.cF = 0 ∨
               (boostedAmount fa R f (c.farmSupplyWeek week) e E ≠ 0 ∧
                r.2.1.remaining week < boostedAmount fa R f (c.farmSupplyWeek week) e E))))) :=
  boostedRewards_none_iff mem f g c week e E

/-- a user whose total farm position is within the week's recorded supply (`f ≤ F`) and whose energy
    is within the week's total (`e ≤ E`) is never paid more than the week's whole pool `R` — so the
    FIRST payment out of a freshly frozen week (`remaining = R`) cannot underflow.
    (`f ≤ F` is what fails in finding F6: `1001 > 1`; it holds for every claimer in every reachable
    state of the repaired farm, Props/C05Budget.lean `claimer_position_le_week_supply`.) -/
theorem single_reward_le_pool (fa : Factors) (R f F e E : Nat) (hc : fa.cE + fa.cF ≠ 0)
    (hf : f ≤ F) (he : e ≤ E) : boostedAmount fa R f F e E ≤ R :=
  boostedAmount_le fa R f F e E hf he

/-- **the precise hypothesis (`WeekBudget`) and its sufficiency.**  For a claimable week with
    factors `fa`, frozen pool `R`, recorded supply `F ≠ 0`, total energy `E ≠ 0`, `paid` already paid
    out of it (`remaining + paid = R`): if what was paid plus the un-floored shares
    `R·(cE·e_v/E + cF·f_v/F)/(cE+cF)` of ALL users `v` who can still claim the week (`sumE = Σ e_v`,
    `sumF = Σ f_v`, energies decayed to the week, CURRENT total farm positions) fits into `R`
    (`WeekBudget`, stated cross-multiplied), then the claim of any one of them (`e ≤ sumE`,
    `f ≤ sumF`) does not underflow `remaining`, and the budget holds again afterwards with that
    user removed (so it is inductive along the claims of the week). -/
theorem weekly_sub_safe_under_budget {fa : Factors} {R F E paid sumE sumF e f remaining : Nat}
    (h : WeekBudget fa R F E paid sumE sumF) (he : e ≤ sumE) (hf : f ≤ sumF)
    (hc : fa.cE + fa.cF ≠ 0) (hE : E ≠ 0) (hF : F ≠ 0) (hrem : remaining + paid = R) :
    boostedAmount fa R f F e E ≤ remaining ∧
    WeekBudget fa R F E (paid + boostedAmount fa R f F e E) (sumE - e) (sumF - f) :=
  ⟨h.sub_ok he hf hc hE hF hrem, h.pay he hf⟩

/-- the budget holds when the week is frozen (nothing paid) as soon as `Σ e_v ≤ E` (the weekly
    module's energy bound, Lemmas/WeeklyHist.lean `EB`) and `Σ f_v ≤ F` (the claimers' current total
    positions are within the supply recorded for that week), and it survives claimers dropping out or
    shrinking.  `Σ f_v ≤ F` relies on every increase of `userTotalFarmPosition(v)` being preceded
    by a boosted claim that moves `v`'s progress past the week — which `claim_boosted_yields_rewards`
    does in every branch, also while no boosted config exists (skipping it there is finding F6). -/
theorem week_budget_init_mono (fa : Factors) (R F E sumE sumF sumE' sumF' : Nat)
    (hE : sumE ≤ E) (hF : sumF ≤ F) (hE' : sumE' ≤ sumE) (hF' : sumF' ≤ sumF) :
    WeekBudget fa R F E 0 sumE sumF ∧ WeekBudget fa R F E 0 sumE' sumF' :=
  ⟨WeekBudget.init fa R F E sumE sumF hE hF, (WeekBudget.init fa R F E sumE sumF hE hF).mono hE' hF'⟩

/-- **the energy half of the budget holds in every reachable farm state**, for every week `w`
    (running, completed or long gone): either no total energy is recorded for `w` (then nothing is
    paid for it), or the recorded energies, decayed to `w`, of all users whose claim progress can
    still reach `w` sum to at most `totalEnergyForWeek(w)` — `Σ e_v ≤ E`.  (The weekly module's
    invariants `GInv` / `EB` transported through the farm's operations, Lemmas/FarmEnergy.lean.)
    So the ONLY missing piece of `WeekBudget` is the position half `Σ f_v ≤ F`. -/
theorem week_budget_energy_half (kind : Kind) (same : Bool) (dsc pb : Nat) (produce : Bool)
    (users : List Nat) (e0 : Nat) (ops : List Op) (w : Nat) :
    let s := run (init kind same dsc pb produce users e0) ops
    s.w.totalEnergy w = 0 ∨
      (s.w.users.map fun u => Weekly.eForP s.w.progress u w).sum ≤ s.w.totalEnergy w :=
  (reachable_winv kind same dsc pb produce users e0 ops).2 w

/-- with the progress of the unrepaired contract (user 1 still a claimer of week 1) the budget of week 1 would be
    violated by user 1 alone (position 1001 against a recorded supply of 1) -/
example : ¬ WeekBudget ⟨10, 3, 2, 1, 1⟩ 2500 1 1000000 0 1000000 1001 := by
  unfold WeekBudget; decide

/-- non-vacuity of the covering theorems: the corpus history f1 before the boosted claim — base
    budget spent (claimable 0), week 1's pool 2500 still in the reserve, and the hypotheses of
    `no_underflow_reserve_claimBoosted` are met with `boosted = 2500 = reserve` -/
example :
    let s := run (init .mint false 1000000000000 1000 true [1, 2] 0)
      [.setFactors OWNER ⟨10, 3, 2, 1, 1⟩, .setPct OWNER 2500, .setEnergy 1 1000000 0 1000,
       .enter 1 none 100000000 [], .advance 10 6, .claim 1 none [(1, 100000000)], .advance 10 7]
    s.week = some 2 ∧ s.reserve = 2500 ∧ s.b.accum 1 + s.b.remaining 1 = 2500 ∧ s.undist = 0 ∧
    s.baseBudget = 7500 ∧ s.paidBase = 7500 ∧
    ((generate s (Cache.read s)).bind fun r => (claimBoostedYields r.1 1).map (·.2)) = some 2500 := by
  decide

end Mx.C05Cover
