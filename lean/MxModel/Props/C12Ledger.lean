/-
  C12 — the staking-token balance with EVERY term identified, unbond liveness, the admin ledger.

  Statement (properties.jsonl C12): "… the contract's staking-token balance always equals directly
  staked principal plus outstanding unbond amounts plus un-accrued capacity plus
  accrued-but-unpaid rewards.  Unstaked principal can be withdrawn in full exactly once the unbond
  period has elapsed and never before, and the admin can withdraw only capacity that has not yet
  been accrued to stakers."

  Props/C12.lean proves the decomposition with two signed ghosts, `virt` (stake registered
  through the metastaking-proxy endpoints without staking tokens moving) and `unbondOut`.  This
  file determines `virt`, which identifies "directly staked principal", and discharges the side
  condition `pay ≤ balance` of `unbondFarm`.

  `virt` moves only through the three proxy endpoints, each of which needs a caller on the
  (constant) SC whitelist: it is the sum over the successful proxy operations of the history, and 0
  for ever when the whitelist is empty.  Under the PROXY DISCIPLINE `discRun P` (the accounts of `P`
  behave like the metastaking proxy: only they use the proxy endpoints, they never stake / compound
  / unstake directly, positions never cross the boundary of `P`; unbond tokens may) `virt` is the
  sum of the position units held by the accounts of `P`, and the balance decomposition becomes an
  equation between natural numbers without any ghost (`staking_balance_identified`).
  The discipline is NECESSARY (observation, see `undisciplined_proxy_drains_capacity`): a
  whitelisted address that registers virtual stake and then leaves through the DIRECT
  `unstakeFarm` receives an unbond token backed by nothing and is paid from the admin's capacity —
  `unstakeFarm` cannot tell a virtually staked position from a real one (same attributes in the
  Rust code).  The SC whitelist is a trust assumption of C12.

  Lemmas: Lemmas/StakingVirt.lean, Lemmas/StakingLedger.lean.
-/
import MxModel.Lemmas.StakingLedger

namespace Mx.C12Ledger
open Mx.Staking

/-- the state reached from a fresh deployment (any configuration) by any history -/
abbrev reach (epoch block dsc maxApr minUnbond perBlock : Nat) (accts wl : List Nat)
    (ops : List Op) : St :=
  run (init epoch block dsc maxApr minUnbond perBlock accts wl) ops

/-- units of staking POSITIONS (unbond tokens excluded) held by the distinct accounts of the world
    selected by `q` -/
def positionUnits (s : St) (q : Nat → Bool) : Nat :=
  ((List.range (s.nonce + 1)).map fun n =>
    match s.md n with
    | some (.pos _) => ((s.accts.dedup.filter q).map fun a => s.hold a n).sum
    | _ => 0).sum

/-- stake held by the proxy accounts `P` -/
def proxyHeld (P : List Nat) (s : St) : Nat := positionUnits s (fun a => decide (a ∈ P))

/-- DIRECTLY staked principal: position units held by accounts outside `P` -/
def directPrincipal (P : List Nat) (s : St) : Nat := positionUnits s (fun a => !decide (a ∈ P))

theorem positionUnits_eq (s : St) (q : Nat → Bool) :
    positionUnits s q = wsum s.hold (s.accts.dedup.filter q) (s.nonce + 1) (posW s.md) :=
  (wsum_posW_explicit _ _ _ _).symm

/-- **virt_only_proxy** (one transaction, every operation, all arguments): the proxy-virtual stake
    moves by `virtDelta op` — `+amount` for `stakeFarmThroughProxy`, `new − old` for
    `claimRewardsWithNewValue`, `−position amount` for `unstakeFarmThroughProxy`, 0 for everything
    else — and it can only move when the sender is on the SC whitelist, which no operation changes -/
theorem virt_only_proxy {s s' : St} {op : Op} {o : Out} (h : step s op = some (s', o)) :
    s'.virt = s.virt + virtDelta op ∧ s'.whitelist = s.whitelist ∧
    (s'.virt ≠ s.virt →
      ∃ c ∈ s.whitelist, (∃ orig a adds, op = .stakeProxy c orig a adds) ∨
        (∃ orig nv p, op = .claimNew c orig nv p) ∨ (∃ orig x p, op = .unstakeProxy c orig x p)) := by
  obtain ⟨h1, h2, _⟩ := step_virt h
  refine ⟨h1, h2, fun hne => ?_⟩
  cases Step.of_step h with
  | stakeProxy _ hw _ => exact ⟨_, hw, Or.inl ⟨_, _, _, rfl⟩⟩
  | claimNew _ hw _ => exact ⟨_, hw, Or.inr (Or.inl ⟨_, _, _, rfl⟩)⟩
  | unstakeProxy _ hw _ => exact ⟨_, hw, Or.inr (Or.inr ⟨_, _, _, rfl⟩)⟩
  | _ => exact absurd (h1.trans (Int.add_zero _)) hne

/-- **virt_eq_history**: after any history, `virt` is the net of the successful proxy operations
    (`histSumI virtDelta` adds `virtDelta op` over the transactions that succeeded) -/
theorem virt_eq_history (epoch block dsc maxApr minUnbond perBlock : Nat) (accts wl : List Nat)
    (ops : List Op) :
    (reach epoch block dsc maxApr minUnbond perBlock accts wl ops).virt =
      histSumI virtDelta (init epoch block dsc maxApr minUnbond perBlock accts wl) ops := by
  -- a fresh deployment has `virt = 0`
  exact (run_virt ops _).trans (Int.zero_add _)

/-- the SC whitelist of a deployment never changes -/
theorem whitelist_const (epoch block dsc maxApr minUnbond perBlock : Nat) (accts wl : List Nat)
    (ops : List Op) : (reach epoch block dsc maxApr minUnbond perBlock accts wl ops).whitelist = wl :=
  run_whitelist ops

theorem run_virt_of_whitelist_nil (ops : List Op) {s : St} (hw : s.whitelist = []) :
    (run s ops).virt = s.virt := by
  refine (run_induction (P := fun t => t.whitelist = [] ∧ t.virt = s.virt) ?_ ops ⟨hw, rfl⟩).2
  intro t t' op o ⟨hw, hv⟩ hst
  obtain ⟨_, h2, h3⟩ := virt_only_proxy hst
  refine ⟨h2.trans hw, ?_⟩
  by_contra hne
  obtain ⟨c, hc, _⟩ := h3 (by rw [hv]; exact hne)
  rw [hw] at hc
  cases hc

/-- **no_proxy_no_virt**: with an empty SC whitelist there is never any virtual stake -/
theorem no_proxy_no_virt (epoch block dsc maxApr minUnbond perBlock : Nat) (accts : List Nat)
    (ops : List Op) : (reach epoch block dsc maxApr minUnbond perBlock accts [] ops).virt = 0 :=
  run_virt_of_whitelist_nil ops rfl

/-- **virt_eq_proxy_held**: if every successful transaction of the history obeys the proxy
    discipline for `P`, the virtual stake is exactly the position units held by the accounts of
    `P` — in particular `0 ≤ virt ≤ supply` -/
theorem virt_eq_proxy_held (epoch block dsc maxApr minUnbond perBlock : Nat) (accts wl : List Nat)
    (P : List Nat) (ops : List Op)
    (hd : discRun P (init epoch block dsc maxApr minUnbond perBlock accts wl) ops = true) :
    let s := reach epoch block dsc maxApr minUnbond perBlock accts wl ops
    s.virt = (proxyHeld P s : Nat) ∧ proxyHeld P s + directPrincipal P s = s.supply := by
  intro s
  have hP : PosInv s := run_posInv ops (posInv_init epoch block dsc maxApr minUnbond perBlock accts wl)
  have hV : VirtOK P s := run_virtOK ops
    (posInv_init epoch block dsc maxApr minUnbond perBlock accts wl)
    (virtOK_init P epoch block dsc maxApr minUnbond perBlock accts wl) hd
  unfold proxyHeld directPrincipal
  rw [positionUnits_eq, positionUnits_eq]
  exact ⟨hV, PosOK.held_add_direct hP P⟩

/-- **staking_balance_identified**: after any history that obeys the proxy discipline for `P`,
    the contract's staking-token balance =
      directly staked principal (position units held by accounts outside `P`)
      + Σ units of the outstanding unbond tokens
      + un-accrued capacity (`capacity − accumulated`)
      + accrued-but-unpaid rewards (`reserve`),
    an equation between natural numbers without any ghost -/
theorem staking_balance_identified (epoch block dsc maxApr minUnbond perBlock : Nat)
    (accts wl : List Nat) (P : List Nat) (ops : List Op)
    (hd : discRun P (init epoch block dsc maxApr minUnbond perBlock accts wl) ops = true) :
    let s := reach epoch block dsc maxApr minUnbond perBlock accts wl ops
    s.bal = directPrincipal P s + unbondUnits s + (s.capacity - s.accumulated) + s.reserve := by
  intro s
  have hI : Inv s := run_inv ops (inv_init epoch block dsc maxApr minUnbond perBlock accts wl)
  have hP0 := posInv_init epoch block dsc maxApr minUnbond perBlock accts wl
  have hU : UnbInv s := run_unbInv ops hP0 (unbInv_init epoch block dsc maxApr minUnbond perBlock accts wl)
  obtain ⟨h1, h2⟩ : s.virt = (proxyHeld P s : Nat) ∧ proxyHeld P s + directPrincipal P s = s.supply :=
    virt_eq_proxy_held epoch block dsc maxApr minUnbond perBlock accts wl P ops hd
  have h3 := hI.bal_eq
  have h4 := hI.acc_le
  have h5 := hU.explicit
  omega

/-- the proxy discipline for the empty proxy set holds for every history of a deployment without
    whitelisted contracts -/
theorem discRun_nil (ops : List Op) : ∀ (s : St), s.whitelist = [] → discRun [] s ops = true := by
  induction ops with
  | nil => intro _ _; rfl
  | cons op ops ih =>
    intro s hw
    simp only [discRun]
    cases hst : step s op with
    | none => exact ih s hw
    | some r =>
      obtain ⟨s1, o⟩ := r
      simp only [Bool.and_eq_true]
      refine ⟨?_, ih s1 ((step_virt hst).2.1.trans hw)⟩
      cases Step.of_step hst with
      | stakeProxy _ hc _ | claimNew _ hc _ | unstakeProxy _ hc _ =>
        rw [hw] at hc
        cases hc
      | _ =>
        -- `disc []` asks nothing of the other operations: `c ∉ []` and `src ∈ [] ↔ dst ∈ []` evaluate to true
        rfl

/-- **staking_balance_no_proxy**: a deployment without whitelisted contracts, ANY history:
    balance = farm-token supply + Σ outstanding unbond units + (capacity − accumulated) + reserve,
    and the supply is the sum of the position units held by the accounts (all of it is directly
    staked principal) -/
theorem staking_balance_no_proxy (epoch block dsc maxApr minUnbond perBlock : Nat)
    (accts : List Nat) (ops : List Op) :
    let s := reach epoch block dsc maxApr minUnbond perBlock accts [] ops
    s.bal = s.supply + unbondUnits s + (s.capacity - s.accumulated) + s.reserve ∧
    s.supply = directPrincipal [] s := by
  intro s
  have hd := discRun_nil ops (init epoch block dsc maxApr minUnbond perBlock accts []) rfl
  have h1 : s.bal = directPrincipal [] s + unbondUnits s + (s.capacity - s.accumulated) + s.reserve :=
    staking_balance_identified epoch block dsc maxApr minUnbond perBlock accts [] [] ops hd
  obtain ⟨h2, h3⟩ : s.virt = (proxyHeld [] s : Nat) ∧ proxyHeld [] s + directPrincipal [] s = s.supply :=
    virt_eq_proxy_held epoch block dsc maxApr minUnbond perBlock accts [] [] ops hd
  have hv : s.virt = 0 := no_proxy_no_virt epoch block dsc maxApr minUnbond perBlock accts ops
  omega

/-- **accrued rewards stay backed** (in particular after any admin withdrawal): in every state
    reached under the proxy discipline the balance covers directly staked principal, all
    outstanding unbond amounts AND the whole reserve of accrued-but-unpaid rewards; what is left
    beyond them is exactly the un-accrued capacity, the only thing `withdrawRewards` can take
    (`C12.withdraw_bound`) -/
theorem accrued_rewards_backed (epoch block dsc maxApr minUnbond perBlock : Nat)
    (accts wl : List Nat) (P : List Nat) (ops : List Op)
    (hd : discRun P (init epoch block dsc maxApr minUnbond perBlock accts wl) ops = true) :
    let s := reach epoch block dsc maxApr minUnbond perBlock accts wl ops
    directPrincipal P s + unbondUnits s + s.reserve ≤ s.bal ∧
    s.bal - (directPrincipal P s + unbondUnits s + s.reserve) = s.capacity - s.accumulated := by
  intro s
  have h : s.bal = directPrincipal P s + unbondUnits s + (s.capacity - s.accumulated) + s.reserve :=
    staking_balance_identified epoch block dsc maxApr minUnbond perBlock accts wl P ops hd
  omega

/-- **unbond_succeeds**: in every state reached under the proxy discipline, on an active
    contract, whoever holds `x > 0` units of an unbond token whose unlock epoch has arrived can
    unbond them: the transaction SUCCEEDS, pays exactly `x` staking tokens (the balance is
    sufficient — a consequence of the invariants, not an assumption) and burns the `x` units -/
theorem unbond_succeeds (epoch block dsc maxApr minUnbond perBlock : Nat)
    (accts wl : List Nat) (P : List Nat) (ops : List Op)
    (hd : discRun P (init epoch block dsc maxApr minUnbond perBlock accts wl) ops = true)
    (c n e x : Nat) :
    let s := reach epoch block dsc maxApr minUnbond perBlock accts wl ops
    s.active = true → s.md n = some (.unbond e) → e ≤ s.epoch → 0 < x → x ≤ s.hold c n →
    x ≤ s.bal ∧
    step s (.unbond c (n, x)) =
      some ({ s with hold := upd2 s.hold c n (s.hold c n - x), bal := s.bal - x,
                     unbondOut := s.unbondOut - (x : Int) }, ⟨0, x, 0⟩) := by
  intro s hact hm he hx hh
  have hP0 := posInv_init epoch block dsc maxApr minUnbond perBlock accts wl
  exact unbond_ok (P := P)
    (run_inv ops (inv_init epoch block dsc maxApr minUnbond perBlock accts wl))
    (run_posInv ops hP0)
    (run_unbInv ops hP0 (unbInv_init epoch block dsc maxApr minUnbond perBlock accts wl))
    (run_virtOK ops hP0 (virtOK_init P epoch block dsc maxApr minUnbond perBlock accts wl) hd)
    hact hm he hx hh

/-- unbond liveness for a deployment without whitelisted contracts: no hypothesis on the history -/
theorem unbond_succeeds_no_proxy (epoch block dsc maxApr minUnbond perBlock : Nat)
    (accts : List Nat) (ops : List Op) (c n e x : Nat) :
    let s := reach epoch block dsc maxApr minUnbond perBlock accts [] ops
    s.active = true → s.md n = some (.unbond e) → e ≤ s.epoch → 0 < x → x ≤ s.hold c n →
    x ≤ s.bal ∧
    step s (.unbond c (n, x)) =
      some ({ s with hold := upd2 s.hold c n (s.hold c n - x), bal := s.bal - x,
                     unbondOut := s.unbondOut - (x : Int) }, ⟨0, x, 0⟩) :=
  unbond_succeeds epoch block dsc maxApr minUnbond perBlock accts [] [] ops
    (discRun_nil ops _ rfl) c n e x

/-- **unbond_once** (any history, no discipline needed): take any reachable state and any unbond
    token `n` that exists in it.  Over every continuation `more` of the history the token keeps
    its unlock epoch, and everything paid out for it by `unbondFarm` plus the units still
    outstanding never exceeds the units outstanding now — a unit of unbonded principal is paid at
    most once (it is burned when it is paid) -/
theorem unbond_once (epoch block dsc maxApr minUnbond perBlock : Nat) (accts wl : List Nat)
    (ops more : List Op) (n e : Nat) :
    let s := reach epoch block dsc maxApr minUnbond perBlock accts wl ops
    s.md n = some (.unbond e) → n ≤ s.nonce →
    (run s more).md n = some (.unbond e) ∧
    ((s.accts.dedup.map fun a => (run s more).hold a n).sum) + histSum (unbondPaidOf n) s more
      ≤ (s.accts.dedup.map fun a => s.hold a n).sum := by
  intro s hm hn
  have hP : PosInv s := run_posInv ops (posInv_init epoch block dsc maxApr minUnbond perBlock accts wl)
  obtain ⟨h1, h2⟩ := run_unbond_token more hP (unbondOf_eq_some.mpr hm) hn
  exact ⟨unbondOf_eq_some.mp h1, h2⟩

/-- **unbonded principal is paid at most once**: a successful unstake (direct or through
    the proxy) in a reachable state mints an unbond token `o.a` of `o.b` units; over EVERY
    continuation of the history the `unbondFarm` payouts for that token add up to at most `o.b` -/
theorem unbond_paid_le_minted (epoch block dsc maxApr minUnbond perBlock : Nat) (accts wl : List Nat)
    (ops more : List Op) (c orig : Nat) (pay : Pay) (x : Option Nat) (s1 : St) (o : Out) :
    let s := reach epoch block dsc maxApr minUnbond perBlock accts wl ops
    c ∈ s.accts → unstakeCore s c orig pay x = some (s1, o) →
    s1.md o.a = some (.unbond (s.epoch + s.minUnbond)) ∧ o.b = x.getD pay.2 ∧
    histSum (unbondPaidOf o.a) s1 more ≤ o.b := by
  intro s hc h
  have hP : PosInv s := run_posInv ops (posInv_init epoch block dsc maxApr minUnbond perBlock accts wl)
  obtain ⟨hP1, hu, hn, ho⟩ := unstakeCore_outst hP hc h
  obtain ⟨_, _, _, _, u5, _, _, _⟩ := unstakeCore_unbond h
  obtain ⟨_, h2⟩ := run_unbond_token more hP1 hu hn
  refine ⟨unbondOf_eq_some.mp hu, u5, ?_⟩
  rw [ho] at h2
  omega

/-- one `unbondFarm` lowers the outstanding units of its token by exactly what it pays -/
theorem unbond_burns_exactly {s s' : St} {c : Nat} {pay : Pay} {o : Out}
    (hI : PosInv s) (h : step s (.unbond c pay) = some (s', o)) :
    o.b = pay.2 ∧
    (s.accts.dedup.map fun a => s'.hold a pay.1).sum + pay.2 =
      (s.accts.dedup.map fun a => s.hold a pay.1).sum := by
  cases Step.of_step h with
  | unbond hc hd =>
    refine ⟨rfl, ?_⟩
    have hI' : PosOK (pv s) := hI
    have := outst_debit hd (List.mem_dedup.mpr hc) hI'.nodup pay.1
    rw [paidOf_single, if_pos rfl] at this
    exact this

/-- **capacity_ledger**: after any history, capacity = Σ top-ups − Σ withdrawals (sums over the
    successful `topUpRewards` / `withdrawRewards` transactions) -/
theorem capacity_ledger (epoch block dsc maxApr minUnbond perBlock : Nat) (accts wl : List Nat)
    (ops : List Op) :
    let s0 := init epoch block dsc maxApr minUnbond perBlock accts wl
    (reach epoch block dsc maxApr minUnbond perBlock accts wl ops).capacity + histSum capDown s0 ops
      = histSum capUp s0 ops := by
  intro s0
  -- a fresh deployment has `capacity = 0`
  exact (run_capacity ops s0).trans (Nat.zero_add _)

/-- **withdrawals_le_unaccrued**: over any history the admin has withdrawn at most what was topped
    up minus everything accrued to stakers so far: Σ withdrawals + accumulated ≤ Σ top-ups — the
    admin never takes accrued rewards -/
theorem withdrawals_le_unaccrued (epoch block dsc maxApr minUnbond perBlock : Nat)
    (accts wl : List Nat) (ops : List Op) :
    let s0 := init epoch block dsc maxApr minUnbond perBlock accts wl
    histSum capDown s0 ops + (reach epoch block dsc maxApr minUnbond perBlock accts wl ops).accumulated
      ≤ histSum capUp s0 ops := by
  intro s0
  have h1 : (run s0 ops).capacity + histSum capDown s0 ops = histSum capUp s0 ops :=
    capacity_ledger epoch block dsc maxApr minUnbond perBlock accts wl ops
  have h2 : (run s0 ops).accumulated ≤ (run s0 ops).capacity :=
    (run_inv ops (inv_init epoch block dsc maxApr minUnbond perBlock accts wl)).acc_le
  show histSum capDown s0 ops + (run s0 ops).accumulated ≤ histSum capUp s0 ops
  omega

/-- non-vacuity: a DISCIPLINED history with a metastaking-style proxy (account 101): user 1 stakes
    directly, the proxy registers 500·10¹² for user 2, raises it to 700·10¹² with
    `claimRewardsWithNewValue`; user 1 unstakes 400·10¹².  At that point (`m`) virt = 700·10¹² = the
    proxy's position units, and balance = direct principal + unbond units + un-accrued capacity +
    reserve.  Then the proxy unstakes (paying 300·10¹² in), forwards the unbond token to user 2;
    user 2's unbond is refused one epoch early, honoured at the unlock epoch, refused a second time
    (burned); an over-sized admin withdrawal (40000 > 9900 un-accrued) is refused. -/
example :
    let s0 := init 5 10 1000000000000 2500 2 5000 [1, 2, 101] [101]
    let ops : List Op :=
      [.topUp 30000, .withdraw 100, .stake 1 none 1000000000000000 [],
       .stakeProxy 101 2 500000000000000 [], .advance 3 0, .claim 1 none (1, 1000000000000000),
       .claimNew 101 2 700000000000000 (2, 500000000000000), .advance 1 0,
       .unstake 1 none (3, 400000000000000), .unstakeProxy 101 2 300000000000000 (4, 700000000000000),
       .transfer 101 2 (6, 300000000000000), .advance 0 1, .unbond 2 (6, 300000000000000), .advance 0 1,
       .withdraw 40000, .unbond 2 (6, 300000000000000), .unbond 2 (6, 300000000000000),
       .unbond 1 (5, 400000000000000)]
    let m := run s0 (ops.take 9)
    let u := run s0 (ops.take 14)
    let s := run s0 ops
    discRun [101] s0 ops = true ∧
    m.virt = 700000000000000 ∧ proxyHeld [101] m = 700000000000000 ∧
    directPrincipal [101] m = 600000000000000 ∧ unbondUnits m = 400000000000000 ∧
    m.capacity - m.accumulated = 9900 ∧ m.reserve = 4200 ∧ m.bal = 1000000000014100 ∧
    histSumI virtDelta s0 (ops.take 9) = 700000000000000 ∧
    u.active = true ∧ u.md 6 = some (.unbond 7) ∧ u.epoch = 7 ∧ u.hold 2 6 = 300000000000000 ∧
    histSum (unbondPaidOf 6) s0 ops = 300000000000000 ∧
    histSum capUp s0 ops = 30000 ∧ histSum capDown s0 ops = 100 ∧ s.capacity = 29900 ∧
    s.accumulated = 20000 ∧ s.virt = 0 ∧ s.bal = 600000000012700 := by
  decide

/-- **OBSERVATION (the discipline is necessary; the SC whitelist is a trust assumption of C12).**
    A whitelisted address registers 1000 of virtual stake (no tokens move), leaves through the
    DIRECT `unstakeFarm` — which cannot tell the position from a really staked one — and unbonds:
    it is paid 1000 real tokens out of the admin's capacity.  Afterwards virt = 1000 > supply = 0
    ("directly staked principal" would be −1000) and the balance 4000 no longer covers the
    un-accrued capacity 5000.  The same happens in the Rust code (`unstake_farm_common` /
    `exit_farm_base` read only the position's attributes, which carry no "virtual" mark). -/
theorem undisciplined_proxy_drains_capacity :
    let s0 := init 5 10 1000000000000 2500 0 5000 [1, 101] [101]
    let ops : List Op :=
      [.topUp 5000, .stakeProxy 101 1 1000 [], .unstake 101 none (1, 1000), .unbond 101 (2, 1000)]
    let s := run s0 ops
    discRun [101] s0 ops = false ∧ s.virt = 1000 ∧ s.supply = 0 ∧ unbondUnits s = 0 ∧
    s.reserve = 0 ∧ s.capacity - s.accumulated = 5000 ∧ s.bal = 4000 := by
  decide

end Mx.C12Ledger
