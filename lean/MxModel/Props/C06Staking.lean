/-
  C06 (farm-staking side) — base rewards: pro rata in stake and time, never retroactive.

  Statement: a position's base reward on claim, unstake or compound equals
  ⌊amount·(RPS_now − RPS_entry)/DSC⌋, where the reward-per-share index only grows, by
  ⌊base_share·DSC/supply⌋ for the blocks elapsed; a position earns nothing for blocks before it
  entered; changing the rate, the APR, the boosted percentage or stopping production settles
  rewards up to that block first, so changes are never retroactive.

  Model: Core/Staking.lean.  In the staking farm the per-interval emission is
  `genTot = min(perBlock·Δ, APR bound·Δ, capacity − accumulated)` (C12), the base share is
  `genTot − ⌊genTot·pct/10000⌋`.  Only property theorems live here (helpers:
  Lemmas/StakingReward.lean, Lemmas/StakingPos.lean).
-/
import MxModel.Lemmas.StakingReward
import MxModel.Lemmas.StakingPos
import MxModel.Lemmas.StakingInv

namespace Mx.C06Staking
open Mx.Staking

/-- `claimRewards` (plain, for an original caller, with new value, on behalf): the reward paid is
    `⌊amount·(rps_now − rps_entry)/dsc⌋` (0 if `rps_entry ≥ rps_now`) on the part sent, with
    `rps_now` the index AFTER settling, plus the boosted rewards of the original caller; the
    base part is what the paid-base ledger grows by. -/
theorem reward_formula_claim {s s' : St} {c orig : Nat} {pays : List Pay} {nv : Option Nat} {o : Out}
    (h : claimCore s c orig pays nv = some (s', o)) :
    ∃ p first tok r, pays.head? = some p ∧ posOf s.md p.1 = some first ∧
      first.intoPart p.2 = some tok ∧ tok.rps = first.rps ∧
      claimBoostedYields (genSt s) orig ((genSt s).userTotal orig) = some r ∧
      o.c = (if first.rps < s'.rps then p.2 * (s'.rps - first.rps) / s'.dsc else 0) + r.2.2 ∧
      s'.paidBase = s.paidBase + (if first.rps < s'.rps then p.2 * (s'.rps - first.rps) / s'.dsc else 0) := by
  obtain ⟨p, first, tok, r, _, hp, hf, ht, hr, ho, hb, _⟩ := claimCore_reward h
  have e := (intoPart_spec ht).1
  rw [e] at ho hb
  exact ⟨p, first, tok, r, hp, hf, ht, e, hr, ho, hb⟩

/-- `unstakeFarm` / `unstakeFarmThroughProxy`: the same formula on the part taken out -/
theorem reward_formula_unstake {s s' : St} {c orig : Nat} {pay : Pay} {x : Option Nat} {o : Out}
    (h : unstakeCore s c orig pay x = some (s', o)) :
    ∃ first r, posOf s.md pay.1 = some first ∧
      claimBoostedYields (genSt s) orig ((genSt s).userTotal orig) = some r ∧
      o.c = (if first.rps < s'.rps then pay.2 * (s'.rps - first.rps) / s'.dsc else 0) + r.2.2 ∧
      s'.paidBase = s.paidBase + (if first.rps < s'.rps then pay.2 * (s'.rps - first.rps) / s'.dsc else 0) := by
  obtain ⟨first, tok, r, hf, ht, hr, ho, hb⟩ := unstakeCore_reward h
  have e := (intoPart_spec ht).1
  rw [e] at ho hb
  exact ⟨first, r, hf, hr, ho, hb⟩

/-- `compoundRewards`: the same reward, added to the supply -/
theorem reward_formula_compound {s s' : St} {c : Nat} {pays : List Pay} {o : Out}
    (h : compound s c pays = some (s', o)) :
    ∃ p first r, pays.head? = some p ∧ posOf s.md p.1 = some first ∧
      claimBoostedYields (genSt s) c ((genSt s).userTotal c) = some r ∧
      o.c = (if first.rps < s'.rps then p.2 * (s'.rps - first.rps) / s'.dsc else 0) + r.2.2 ∧
      s'.supply = s.supply + o.c := by
  obtain ⟨_, p, first, tok, r, _, _, t⟩ := compound_trace h
  obtain rfl := t.state
  obtain rfl := t.out
  refine ⟨p, first, r, t.head, t.posOf, t.claimBoostedYields, ?_, rfl⟩
  rw [← (intoPart_spec t.intoPart).1]
  rfl

/-- the index never decreases, whatever the transaction -/
theorem rps_mono {s s' : St} {op : Op} {o : Out} (h : step s op = some (s', o)) : s.rps ≤ s'.rps :=
  (eff_rps (step_eff h)).1

/-- … hence over any history -/
theorem rps_mono_run (s : St) (ops : List Op) : s.rps ≤ (run s ops).rps := by
  exact run_induction (P := fun t => s.rps ≤ t.rps) (fun ht h => Nat.le_trans ht (rps_mono h)) ops
    (Nat.le_refl _)

/-- the index moves, in one transaction, either not at all or by exactly
    `⌊(emission − boosted cut)·dsc/supply⌋` of ONE settlement under the pre-state configuration
    and supply (no increment at zero supply); the division-safety constant never changes -/
theorem rps_increment {s s' : St} {op : Op} {o : Out} (h : step s op = some (s', o)) :
    s'.dsc = s.dsc ∧
    (s'.rps = s.rps ∨
     s'.rps = s.rps +
       (if s.supply = 0 then 0 else (genTot s - genCut s (genTot s)) * s.dsc / s.supply)) := by
  obtain ⟨_, h2, h3⟩ := eff_rps (step_eff h)
  exact ⟨h2, h3⟩

/-- within a block that was already settled nothing more is accrued and the index stands still
    (several operations in one block are settled once) -/
theorem settled_block_is_final {s s' : St} {op : Op} {o : Out} (h : step s op = some (s', o))
    (hb : s.block ≤ s.lastBlock) : s'.rps = s.rps ∧ s'.accumulated = s.accumulated :=
  eff_settled_block (step_eff h) hb

/-- never retroactive, entry side: a position created by `stakeFarm` (without merging) records the
    index AFTER the settlement at its entry block, and that block is then settled … -/
theorem entry_index_is_current {s s' : St} {c orig amount : Nat} {v : Bool} {o : Out}
    (hi : Inv s) (h : stakeCore s c orig amount v [] = some (s', o)) :
    s'.md o.a = some (.pos ⟨s'.rps, 0, amount, orig⟩) ∧ s'.block ≤ s'.lastBlock := by
  obtain ⟨_, r, _, merged, _, t⟩ := stakeCore_trace h
  obtain rfl := t.state
  obtain rfl := t.out
  obtain rfl := Option.some.inj t.mergeParts
  exact ⟨Weekly.upd_same _ _ _, Nat.le_max_right _ _⟩

/-- … so a position earns NOTHING for blocks up to its entry block: claiming it while the block is
    still the entry block pays a zero base reward -/
theorem no_retro_entry {s s' : St} {c orig : Nat} {p : Pay} {nv : Option Nat} {o : Out} {a : Attrs}
    (hm : s.md p.1 = some (.pos a)) (hr : a.rps = s.rps) (hb : s.block ≤ s.lastBlock)
    (h : claimCore s c orig [p] nv = some (s', o)) : s'.paidBase = s.paidBase := by
  obtain ⟨p', first, tok, r, hp, hf, ht, _, _, _, hpaid⟩ := reward_formula_claim h
  simp only [List.head?_cons, Option.some.injEq] at hp
  subst hp
  have hfirst : first = a := by
    unfold posOf at hf
    rw [hm] at hf
    simpa using hf.symm
  have hrps := (eff_settled_block (claimCore_eff h) hb).1
  rw [hfirst, hr, hrps] at hpaid
  simpa using hpaid

/-- **no_retro_entry_merge** (farm-staking).  `stakeFarm` WITH farm tokens sent along (any number of
    extra payments): the position created has amount `amount + Σ paid`, and at EVERY future index `R`
    it can claim at most `amount·(R − index settled to the entering block)` — the fresh stake earns
    from NOW on only — plus what the merged-in positions could already claim at their own entry
    indexes (pre-state attributes); at `R = s'.rps` the fresh stake contributes 0. -/
theorem no_retro_entry_merge {s s' : St} {c orig amount : Nat} {v : Bool} {adds : List Pay} {o : Out}
    (h : stakeCore s c orig amount v adds = some (s', o)) :
    ∃ m : Attrs, s'.md o.a = some (.pos m) ∧ m.amount = amount + (adds.map (·.2)).sum ∧
      (∀ R, m.amount * (R - m.rps) ≤ amount * (R - s'.rps) +
        (adds.map fun p => p.2 * (match posOf s.md p.1 with | some a => R - a.rps | none => 0)).sum) ∧
      m.amount * (s'.rps - m.rps) ≤
        (adds.map fun p => p.2 * (match posOf s.md p.1 with | some a => s'.rps - a.rps | none => 0)).sum := by
  obtain ⟨m, h1, _, h2, h3⟩ := stakeCore_merge_no_retro h
  refine ⟨m, h1, by rw [h2, payTot_eq], fun R => payW_potW_explicit s.md R adds ▸ h3 R, ?_⟩
  have := h3 s'.rps
  rw [Nat.sub_self, Nat.mul_zero, Nat.zero_add, payW_potW_explicit] at this
  exact this

/-- admin changes are never retroactive: `setMaxApr`, `setPerBlockRewardAmount`,
    `endProduceRewards`, `setBoostedYieldsRewardsPercentage` equal "settle under the OLD
    configuration at this block, then write the one cell" -/
theorem admin_settles_first_apr {s s' : St} {x : Nat} {o : Out} (h : setMaxApr s x = some (s', o)) :
    s' = { (genSt s).flush (genCache s s.cache) with maxApr := x } :=
  (settleThen_trace (peel_req h).2).2.2.1

theorem admin_settles_first_rate {s s' : St} {x : Nat} {o : Out} (h : setPerBlock s x = some (s', o)) :
    s' = { (genSt s).flush (genCache s s.cache) with perBlock := x } :=
  (settleThen_trace (peel_req h).2).2.2.1

theorem admin_settles_first_end {s s' : St} {o : Out} (h : endProduce s = some (s', o)) :
    s' = { (genSt s).flush (genCache s s.cache) with produce := false } :=
  (settleThen_trace h).2.2.1

theorem admin_settles_first_pct {s s' : St} {p : Nat} {o : Out} (h : setBoostedPct s p = some (s', o)) :
    p ≤ MAX_PERCENT ∧ s' = { (genSt s).flush (genCache s s.cache) with boostedPct := p } := by
  obtain ⟨hp, h⟩ := peel_req h
  exact ⟨hp, (settleThen_trace h).2.2.1⟩

/-- `startProduceRewards` restarts the clock: nothing is emitted for the blocks production was off -/
theorem start_sets_last_block {s s' : St} {o : Out} (h : startProduce s = some (s', o)) :
    s'.lastBlock = s.block ∧ s'.produce = true ∧ s'.rps = s.rps ∧ s'.accumulated = s.accumulated := by
  obtain ⟨_, h⟩ := peel_req h
  obtain ⟨_, h⟩ := peel_req h
  obtain ⟨rfl, _⟩ := Prod.mk.inj (Option.some.inj h)
  exact ⟨rfl, rfl, rfl, rfl⟩

/-- the full statement of the emission bound on base rewards (proved below for what the model's
    ledgers record; the inequality `paidBase ≤ baseBudget` itself is `total_base_bound` of
    Props/C06StakingBound.lean, by a potential function) -/
def total_base_bound_full : Prop :=
  ∀ (epoch block dsc maxApr minUnbond perBlock : Nat) (accts wl : List Nat) (ops : List Op),
    0 < dsc →
    (run (init epoch block dsc maxApr minUnbond perBlock accts wl) ops).paidBase ≤
      (run (init epoch block dsc maxApr minUnbond perBlock accts wl) ops).baseBudget

/-- what is emitted is split exactly into the base budget and the boosted cuts, and everything
    paid (base + boosted) comes out of what was emitted, after any history.  Not the most that is
    proved: `total_base_bound_full` above holds (`C06StakingBound.total_base_bound`, for
    `0 < dsc`); this is what the ledgers alone give, whatever `dsc`. -/
theorem total_base_bound_partial (epoch block dsc maxApr minUnbond perBlock : Nat) (accts wl : List Nat)
    (ops : List Op) :
    let s := run (init epoch block dsc maxApr minUnbond perBlock accts wl) ops
    s.baseBudget + s.boostedBudget = s.accumulated ∧
    s.paidBase + s.paidBoosted ≤ s.baseBudget + s.boostedBudget := by
  intro s
  have h : Inv s := run_inv ops (inv_init epoch block dsc maxApr minUnbond perBlock accts wl)
  have h1 := h.budget
  have h2 := h.res_eq
  omega

/-- non-vacuity: two users, different entry blocks, a rate change between their claims -/
example :
    let s0 := init 5 10 1000000000000 1000000 2 5000 [1, 2, 101] [101]
    let s := run s0
      [.topUp 1000000, .stake 1 none 1000000000000 [], .advance 10 0, .stake 2 none 1000000000000 [],
       .advance 10 0, .setPerBlock 1000, .advance 10 0, .claim 1 none (1, 1000000000000),
       .claim 2 none (2, 1000000000000)]
    s.rps = 80000 ∧ s.paidBase = 80000 + 30000 ∧ s.accumulated = 110000 := by
  decide

end Mx.C06Staking
