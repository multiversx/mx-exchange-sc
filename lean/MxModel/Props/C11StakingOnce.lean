/-
  C11 (farm-staking side), history level — "… it is paid at most once.  The sum paid for a week never
  exceeds R, and whatever is left after the four-week claim window can be collected exactly once as
  undistributed rewards."

  Props/C11Staking.lean has the per-call facts (formula, pool bound, what one
  `collectUndistributedBoostedRewards` does); here are the history-level ones, without any ghost
  field:

  (A) paid at most once: a pool debit (`b.paid w` changes) happens only inside the boosted claim of
      ONE user (`claimerOf`), only for weeks in that user's claim window
      `progress.week ≤ w < current ≤ w + 4`, and moves the user's progress past `w`; progress only
      moves forward; hence along ANY history at most one operation debits week `w` for user `u`.
  (B) collected at most once: only `collectUndistributed` moves the marker `lastCollectWeek` or the
      undistributed total; the marker never decreases; a collected week is ≥ 5 weeks old, outside
      every later claim window, so its pool stays empty and its `paid` frozen for ever; the marker
      crosses each week at most once, taking at most `collected − paid` of it.
  (C) the boosted claim inside stake / claim-with-new-value / unstake is computed from the position
      recorded BEFORE the operation.

  Model: Core/Staking.lean.  Helpers: Lemmas/StakingOnce.lean.
-/
import MxModel.Lemmas.StakingOnce

namespace Mx.C11StakingOnce
open Mx.Staking

/-! ## (A) paid at most once -/

/-- gating of a payment, for EVERY operation and all arguments: if a successful transaction changes
    what was paid for week `w`, then it ran the boosted claim of exactly one user `u`
    (`claimerOf`), `u` had a stored claim progress `p` that had not passed `w`, `w` is a completed
    week among the last four, `paid(w)` grew, and afterwards `u`'s progress is cleared or stands at
    the current week — i.e. beyond `w` -/
theorem paid_gate {s s' : St} {op : Op} {o : Out} (h : step s op = some (s', o)) {w : Nat}
    (hne : s'.b.paid w ≠ s.b.paid w) :
    ∃ u p, claimerOf s op = some u ∧ s.w.progress u = some p ∧ p.week ≤ w ∧ w < s.week ∧
      s.week ≤ w + 4 ∧ s.b.paid w < s'.b.paid w ∧ s'.week = s.week ∧
      (s'.w.progress u = none ∨ ∃ p', s'.w.progress u = some p' ∧ p'.week = s.week) :=
  (step_fx h).paid_gate hne

/-- the same for the distributable rest of a week's pool: apart from the undistributed collection,
    `remaining(w)`, `paid(w)` and the frozen pool `collected(w)` are only written for weeks in the
    claimer's window -/
theorem pool_gate {s s' : St} {op : Op} {o : Out} (h : step s op = some (s', o))
    (hop : op ≠ .collectUndistributed) {w : Nat}
    (hne : s'.b.paid w ≠ s.b.paid w ∨ s'.b.remaining w ≠ s.b.remaining w ∨
      s'.b.collected w ≠ s.b.collected w) :
    ∃ u p, claimerOf s op = some u ∧ s.w.progress u = some p ∧ p.week ≤ w ∧ w < s.week ∧
      s.week ≤ w + 4 := by
  cases step_fx h with
  | claim u hc hx =>
    by_cases hin : InWindow (s.w.progress u) s.week w
    · obtain ⟨p, hp, h1, h2, h3⟩ := hin
      exact ⟨u, p, hc, hp, h1, h2, h3⟩
    · obtain ⟨e1, e2, e3⟩ := hx.pools w hin
      rcases hne with h' | h' | h'
      · exact absurd e1 h'
      · exact absurd e2 h'
      · exact absurd e3 h'
  | collect hop' _ => exact absurd hop' hop
  | quiet _ hx =>
    rcases hne with h' | h' | h'
    · exact absurd (congrFun hx.paid w) h'
    · exact absurd (congrFun hx.rem w) h'
    · exact absurd (congrFun hx.coll w) h'

/-- claim progress only moves forward, for every operation and every user: a successful
    transaction leaves a user's stored progress alone, clears it, or sets it to the current week;
    and the current week never decreases -/
theorem progress_forward {s s' : St} {op : Op} {o : Out} (h : step s op = some (s', o)) (v : Nat) :
    (s'.w.progress v = s.w.progress v ∨ s'.w.progress v = none ∨
      ∃ p, s'.w.progress v = some p ∧ p.week = s.week) ∧ s.week ≤ s'.week :=
  ⟨(step_fx h).progress v, (step_fx h).week_le⟩

/-- **paid at most once** (general form): from ANY state and along ANY history, at most one
    operation debits the pool of week `w` through a boosted claim of user `u` -/
theorem paid_once_from (s : St) (ops : List Op) (u w : Nat) : debits s ops u w ≤ 1 :=
  debits_le_one u w ops s

/-- **paid at most once**: for every deployment, every history, every user and every week, the
    boosted reward of that user for that week is paid (the week's pool is debited by a claim of
    that user) at most once -/
theorem paid_once (epoch block dsc maxApr minUnbond perBlock : Nat) (accts wl : List Nat)
    (ops : List Op) (u w : Nat) :
    debits (init epoch block dsc maxApr minUnbond perBlock accts wl) ops u w ≤ 1 :=
  debits_le_one u w ops _

/-- once an operation has run `u`'s boosted claim in week `W`, NO later operation of any history
    pays `u` anything for a week before `W` -/
theorem claimed_weeks_closed {s s1 : St} {op : Op} {o : Out} (h : step s op = some (s1, o)) {u : Nat}
    (hu : claimerOf s op = some u) (ops : List Op) {w : Nat} (hw : w < s.week) :
    debits s1 ops u w = 0 :=
  closed_debits ops ((step_fx h).claimer_closes hu hw)

/-- two successive successful boosted claims of the same user: the second pays nothing for the
    weeks the first covered (every week before the week of the first claim) -/
theorem second_claim_pays_nothing {s s1 s2 : St} {op1 op2 : Op} {o1 o2 : Out} {u : Nat}
    (h1 : step s op1 = some (s1, o1)) (hu1 : claimerOf s op1 = some u)
    (h2 : step s1 op2 = some (s2, o2)) (hu2 : claimerOf s1 op2 = some u) {w : Nat} (hw : w < s.week) :
    s2.b.paid w = s1.b.paid w := by
  have hcl : Closed s1 u w := (step_fx h1).claimer_closes hu1 hw
  by_contra hne
  obtain ⟨u', p, hc, hp, hle, _⟩ := paid_gate h2 hne
  rw [hu2] at hc
  cases hc
  have := hcl.2 p hp
  omega

set_option maxRecDepth 8000 in
/-- non-vacuity of (A): two users with energy stake in week 1 (pool 12500); in week 2 user 1's
    `claim` is THE operation that debits week 1 for user 1 (6250 = half the pool); the same user's
    next `claimBoosted` succeeds but pays nothing more — one debit of (user 1, week 1) in the whole
    history, none for user 2 who never claimed -/
example :
    let s0 := init 5 10 1000000000000 1000000 5 5000 [1, 2, 101] [101]
    let pre : List Op :=
      [.topUp 100000000, .setBoostedPct 2500, .setFactors ⟨10, 3, 2, 1, 1⟩, .setEnergy 1 10000 100,
       .setEnergy 2 10000 100, .stake 1 none 100000000000 [], .stake 2 none 100000000000 [],
       .advance 10 0, .claimBoosted 1 none, .advance 1 7]
    let ops := pre ++ [.claim 1 none (1, 100000000000), .claimBoosted 1 none]
    let s := run s0 pre
    let s1 := run s0 (pre ++ [.claim 1 none (1, 100000000000)])
    let s2 := run s0 ops
    debits s0 ops 1 1 = 1 ∧ debits s0 ops 2 1 = 0 ∧
    (step s (.claim 1 none (1, 100000000000))).isSome = true ∧
    claimerOf s (.claim 1 none (1, 100000000000)) = some 1 ∧
    s.b.paid 1 = 0 ∧ s1.b.paid 1 = 6250 ∧ s.week = 2 ∧
    (s.w.progress 1).map (·.week) = some 1 ∧ (s1.w.progress 1).map (·.week) = some 2 ∧
    (step s1 (.claimBoosted 1 none)).isSome = true ∧ s2.b.paid 1 = 6250 ∧ s2.paidBoosted = 6250 := by
  decide +kernel

/-! ## (B) collected at most once -/

/-- the collection marker and the undistributed total under EVERY operation: the marker never
    decreases; only `collectUndistributed` moves it or changes the undistributed total; when it
    moves from `L` to `L'` the total grows by exactly `Σ_{L < k ≤ L'} remaining(k)`, those weeks are
    at least five weeks old and their `remaining` becomes 0, no other week's `remaining` changes,
    and `paid` / `collected` are untouched -/
theorem marker_step {s s' : St} {op : Op} {o : Out} (h : step s op = some (s', o)) :
    s.lastCollectWeek ≤ s'.lastCollectWeek ∧
    (op ≠ .collectUndistributed →
      s'.lastCollectWeek = s.lastCollectWeek ∧ s'.undistributed = s.undistributed) ∧
    s'.undistributed = s.undistributed +
      ((List.range (s'.lastCollectWeek - s.lastCollectWeek)).map
        fun i => s.b.remaining (s.lastCollectWeek + 1 + i)).sum ∧
    (∀ k, s.lastCollectWeek < k → k ≤ s'.lastCollectWeek → s'.b.remaining k = 0 ∧ k + 5 ≤ s.week) ∧
    (op = .collectUndistributed → ∀ k, ¬(s.lastCollectWeek < k ∧ k ≤ s'.lastCollectWeek) →
      s'.b.remaining k = s.b.remaining k) ∧
    (op = .collectUndistributed → s'.b.paid = s.b.paid ∧ s'.b.collected = s.b.collected) :=
  (step_fx h).marker

/-- in every reachable state: the marker is 0 (nothing collected yet) or at least five weeks behind
    the current week, and the pool of every collected week is empty -/
theorem collected_inv (epoch block dsc maxApr minUnbond perBlock : Nat) (accts wl : List Nat)
    (ops : List Op) :
    let s := run (init epoch block dsc maxApr minUnbond perBlock accts wl) ops
    (s.lastCollectWeek = 0 ∨ s.lastCollectWeek + 5 ≤ s.week) ∧
    ∀ w, 1 ≤ w → w ≤ s.lastCollectWeek → s.b.remaining w = 0 := by
  intro s
  have h : CollInv s := run_collInv ops (collInv_init epoch block dsc maxApr minUnbond perBlock accts wl)
  exact ⟨h.marker, h.zero⟩

/-- a collected week is closed for good: in every reachable state `s`, for a week `w` at or below
    the marker, EVERY continuation of the history leaves `paid(w)` and the frozen pool as they are
    and `remaining(w)` at 0 — nothing is paid for `w` after its leftover was collected, and nothing
    is left to collect a second time -/
theorem collected_week_frozen (epoch block dsc maxApr minUnbond perBlock : Nat) (accts wl : List Nat)
    (ops more : List Op) (w : Nat) :
    let s := run (init epoch block dsc maxApr minUnbond perBlock accts wl) ops
    1 ≤ w → w ≤ s.lastCollectWeek →
    (run s more).b.paid w = s.b.paid w ∧ (run s more).b.remaining w = 0 ∧
      (run s more).b.collected w = s.b.collected w ∧ w ≤ (run s more).lastCollectWeek := by
  intro s h1 h2
  exact run_collected_frozen h1 more
    (run_collInv ops (collInv_init epoch block dsc maxApr minUnbond perBlock accts wl)) h2

/-- **collected at most once**: for every deployment and every history, the collection marker
    crosses a given week (that week's leftover is moved to the undistributed total) at most once -/
theorem collected_once (epoch block dsc maxApr minUnbond perBlock : Nat) (accts wl : List Nat)
    (ops : List Op) (w : Nat) :
    crossings (init epoch block dsc maxApr minUnbond perBlock accts wl) ops w ≤ 1 :=
  crossings_le_one w ops _

/-- general form: from ANY state -/
theorem collected_once_from (s : St) (ops : List Op) (w : Nat) : crossings s ops w ≤ 1 :=
  crossings_le_one w ops s

/-- what is taken for a week when it is collected, in every reachable state: for each week `k` the
    marker crosses, the amount moved to the undistributed total is `remaining(k)`, which is at most
    the week's pool minus everything paid for it (`collected(k) − paid(k)`), and `k` is outside the
    four-week claim window -/
theorem collected_amount_bound (epoch block dsc maxApr minUnbond perBlock : Nat) (accts wl : List Nat)
    (ops : List Op) (op : Op) (s' : St) (o : Out) :
    let s := run (init epoch block dsc maxApr minUnbond perBlock accts wl) ops
    step s op = some (s', o) →
    s'.undistributed = s.undistributed +
      ((List.range (s'.lastCollectWeek - s.lastCollectWeek)).map
        fun i => s.b.remaining (s.lastCollectWeek + 1 + i)).sum ∧
    ∀ k, s.lastCollectWeek < k → k ≤ s'.lastCollectWeek →
      s.b.remaining k ≤ s.b.collected k - s.b.paid k ∧ s'.b.remaining k = 0 ∧ k + 5 ≤ s.week := by
  intro s h
  have hp : PoolOK s.b := run_pool ops (by
    show PoolOK (init epoch block dsc maxApr minUnbond perBlock accts wl).b
    exact PoolOK.init)
  obtain ⟨_, _, h3, h4, _⟩ := marker_step h
  refine ⟨h3, fun k k1 k2 => ?_⟩
  obtain ⟨a1, a2⟩ := h4 k k1 k2
  have := hp k
  exact ⟨by omega, a1, a2⟩

set_option maxRecDepth 8000 in
/-- non-vacuity of (B): the history above continued to week 8; `collectUndistributed` moves the
    marker from 0 to 3 and takes the 6250 that user 2 never claimed for week 1 (= collected − paid);
    a second call changes nothing; user 2's late claim in week 8 gets nothing for the collected
    week: each of the weeks 1..3 is crossed exactly once, week 4 not yet -/
example :
    let s0 := init 5 10 1000000000000 1000000 5 5000 [1, 2, 101] [101]
    let ops : List Op :=
      [.topUp 100000000, .setBoostedPct 2500, .setFactors ⟨10, 3, 2, 1, 1⟩, .setEnergy 1 10000 100,
       .setEnergy 2 10000 100, .stake 1 none 100000000000 [], .stake 2 none 100000000000 [],
       .advance 10 0, .claimBoosted 1 none, .advance 1 7,
       .claim 1 none (1, 100000000000), .claimBoosted 1 none, .advance 1 42, .collectUndistributed,
       .collectUndistributed, .claimBoosted 2 none]
    let s := run s0 ops
    debits s0 ops 1 1 = 1 ∧ debits s0 ops 2 1 = 0 ∧
    crossings s0 ops 1 = 1 ∧ crossings s0 ops 2 = 1 ∧ crossings s0 ops 3 = 1 ∧ crossings s0 ops 4 = 0 ∧
    s.b.collected 1 = 12500 ∧ s.b.paid 1 = 6250 ∧ s.b.remaining 1 = 0 ∧ s.undistributed = 6250 ∧
    s.lastCollectWeek = 3 ∧ s.week = 8 ∧ (s.w.progress 2).map (·.week) = some 8 := by
  decide +kernel

/-! ## (C) the boosted claim uses the position recorded before the operation -/

/-- stake (all three endpoints run `stakeCore`): whatever amount is staked, by whichever caller,
    with whichever additional farm tokens, virtually or not — the boosted reward paid out and the
    pools debited are the same: they are computed from `userTotalFarmPosition(orig)` BEFORE the
    stake is added -/
theorem stake_uses_old_position {s s1 s2 : St} {c1 c2 orig a1 a2 : Nat} {v1 v2 : Bool}
    {adds1 adds2 : List Pay} {o1 o2 : Out}
    (h1 : stakeCore s c1 orig a1 v1 adds1 = some (s1, o1))
    (h2 : stakeCore s c2 orig a2 v2 adds2 = some (s2, o2)) :
    o1.c = o2.c ∧ s1.b.paid = s2.b.paid ∧ s1.b.remaining = s2.b.remaining ∧
      s1.paidBoosted = s2.paidBoosted := by
  obtain ⟨r1, k1, e1⟩ := stakeCore_claims h1
  obtain ⟨r2, k2, e2⟩ := stakeCore_claims h2
  obtain ⟨rfl, e⟩ := k1.same k2
  exact ⟨e1.trans e2.symm, e⟩

/-- the same at transaction level for `stakeFarm`: two different stakes from the same state -/
theorem stake_step_uses_old_position {s s1 s2 : St} {c a1 a2 : Nat} {adds1 adds2 : List Pay}
    {o1 o2 : Out}
    (h1 : step s (.stake c none a1 adds1) = some (s1, o1))
    (h2 : step s (.stake c none a2 adds2) = some (s2, o2)) :
    o1.c = o2.c ∧ s1.b.paid = s2.b.paid ∧ s1.b.remaining = s2.b.remaining ∧
      s1.paidBoosted = s2.paidBoosted :=
  stake_uses_old_position (peel_req h1).2 (peel_req h2).2

/-- claim with a new farming amount (`claimRewardsWithNewValue`) / plain claim: whatever new value
    is installed and whichever position is sent, the boosted amount paid and the pools debited are
    the same — computed from `userTotalFarmPosition(orig)` BEFORE the new value replaces the old -/
theorem claim_uses_old_position {s s1 s2 : St} {c1 c2 orig : Nat} {pays1 pays2 : List Pay}
    {nv1 nv2 : Option Nat} {o1 o2 : Out}
    (h1 : claimCore s c1 orig pays1 nv1 = some (s1, o1))
    (h2 : claimCore s c2 orig pays2 nv2 = some (s2, o2)) :
    s1.b.paid = s2.b.paid ∧ s1.b.remaining = s2.b.remaining ∧ s1.paidBoosted = s2.paidBoosted := by
  obtain ⟨r1, k1⟩ := claimCore_claims h1
  obtain ⟨r2, k2⟩ := claimCore_claims h2
  exact (k1.same k2).2

/-- unstake: whichever position and amount is unstaked (directly or through the proxy), the
    boosted amount paid and the pools debited are the same — computed from
    `userTotalFarmPosition(orig)` BEFORE the unstaked amount is removed -/
theorem unstake_uses_old_position {s s1 s2 : St} {c1 c2 orig : Nat} {pay1 pay2 : Pay}
    {x1 x2 : Option Nat} {o1 o2 : Out}
    (h1 : unstakeCore s c1 orig pay1 x1 = some (s1, o1))
    (h2 : unstakeCore s c2 orig pay2 x2 = some (s2, o2)) :
    s1.b.paid = s2.b.paid ∧ s1.b.remaining = s2.b.remaining ∧ s1.paidBoosted = s2.paidBoosted := by
  obtain ⟨r1, k1⟩ := unstakeCore_claims h1
  obtain ⟨r2, k2⟩ := unstakeCore_claims h2
  exact (k1.same k2).2

set_option maxRecDepth 8000 in
/-- non-vacuity of (C): in week 2, with week 1 unclaimed, staking 5 or staking 7000 pays user 1 the
    same boosted 6250 and debits the same pool -/
example :
    let s0 := init 5 10 1000000000000 1000000 5 5000 [1, 2, 101] [101]
    let s := run s0
      [.topUp 100000000, .setBoostedPct 2500, .setFactors ⟨10, 3, 2, 1, 1⟩, .setEnergy 1 10000 100,
       .setEnergy 2 10000 100, .stake 1 none 100000000000 [], .stake 2 none 100000000000 [],
       .advance 10 0, .claimBoosted 1 none, .advance 1 7]
    ∃ s1 o1 s2 o2, step s (.stake 1 none 5 []) = some (s1, o1) ∧
      step s (.stake 1 none 7000 []) = some (s2, o2) ∧ o1.c = 6250 ∧ o2.c = 6250 ∧
      s1.b.paid 1 = 6250 ∧ s2.b.paid 1 = 6250 ∧ s1.supply ≠ s2.supply := by
  refine ⟨_, _, _, _, rfl, rfl, ?_⟩
  decide

end Mx.C11StakingOnce
