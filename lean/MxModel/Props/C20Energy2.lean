/-
  C20 (energy-factory part) — `getPenaltyAmount` versus `reduceLockPeriod` and `unlockEarly`,
  both directions (Props/C20Energy.lean has exec ⇒ exact charge only): either endpoint succeeds
  exactly when its listed guards hold and the quote answers below the amount, and the quote is then
  the exact charge.

  The month alignment: `reduceLockPeriod` replaces the caller's `new_lock_period` by
  `alignedEpochs = new_lock_period − (now + new_lock_period) % 30` before it asks
  `calculate_penalty_amount`, so the matching quote is `getPenaltyAmount(amount, remaining,
  alignedEpochs)`.  The quote with the RAW `new_lock_period` is the charge exactly when
  `(now + new_lock_period) % 30 = 0`; otherwise the endpoint charges AT LEAST the raw quote
  (`raw_quote_le_charge`) and in general strictly more (closed example below: raw quote
  8192, charged 8512 on 20000 tokens).

  Rust: locked-asset/energy-factory/src/unlock_with_penalty.rs — `reduce_lock_period`
  (62–105), `reduce_lock_period_common` (107–160; the alignment is lines 127–138),
  `calculate_penalty_amount` = view `getPenaltyAmount` (179–197).
-/
import MxModel.Props.C20Energy
import Mathlib.Tactic.Ring

namespace Mx.C20Energy2
open Mx.Energy

/-- the endpoint's own month alignment of the caller's `new_lock_period`
    (`lock_epochs - ((current_epoch + lock_epochs) - start_of_month(current_epoch + lock_epochs))`) -/
def alignedEpochs (s : St) (epochs : Nat) : Nat := epochs - (s.epoch + epochs) % MONTH

/-- every guard of `reduceLockPeriod` other than "the quote answers, is below the amount and is
    covered by the circulating-supply counter": factory not paused; the requested period is a
    listed lock option; the paid nonce exists (unlock epoch `u`); the caller holds `amt` of it;
    the token is still locked; the `u64` subtraction of the alignment does not underflow; the
    aligned period is positive (otherwise `lock_tokens` would hand out base tokens the factory
    does not hold) and shorter than the remaining one ("Invalid reduce choice"); the caller's
    energy record covers the amount (`total_locked_tokens -= amount` is a checked `BigUint`
    subtraction); the amount is positive -/
def ReduceGuards (s : St) (c n amt epochs u : Nat) : Prop :=
  s.paused = false ∧ isListed s.opts epochs = true ∧ s.unlockOf n = some u ∧
  amt ≤ s.bal c n ∧ s.epoch < u ∧ (s.epoch + epochs) % MONTH ≤ epochs ∧
  0 < alignedEpochs s epochs ∧ alignedEpochs s epochs < u - s.epoch ∧
  amt ≤ (s.view c).T ∧ 0 < amt

instance (s : St) (c n amt epochs u : Nat) : Decidable (ReduceGuards s c n amt epochs u) := by
  unfold ReduceGuards; infer_instance

/-- the guards of `unlockEarly` other than the quote: factory not paused; the paid nonce exists;
    the caller holds `amt` of it; still locked; the energy record covers the amount; positive -/
def EarlyGuards (s : St) (c n amt u : Nat) : Prop :=
  s.paused = false ∧ s.unlockOf n = some u ∧ amt ≤ s.bal c n ∧ s.epoch < u ∧
  amt ≤ (s.view c).T ∧ 0 < amt

instance (s : St) (c n amt u : Nat) : Decidable (EarlyGuards s c n amt u) := by
  unfold EarlyGuards; infer_instance

theorem isListed_ne_nil {opts : List Opt} {ep : Nat} (h : isListed opts ep = true) : opts ≠ [] := by
  rintro rfl; simp [isListed] at h

/-- the aligned period plus the offset into the month is the requested period -/
theorem aligned_add {s : St} {epochs : Nat} (h : (s.epoch + epochs) % MONTH ≤ epochs) :
    alignedEpochs s epochs + (s.epoch + epochs) % MONTH = epochs := by
  unfold alignedEpochs; omega

/-- the re-locked token unlocks at the start of the month of `now + new_lock_period` — the same
    unlock epoch `lockTokens` would give for that option -/
theorem aligned_unlock {s : St} {epochs : Nat} (h : (s.epoch + epochs) % MONTH ≤ epochs) :
    s.epoch + alignedEpochs s epochs = startOfMonth (s.epoch + epochs) := by
  unfold alignedEpochs startOfMonth; omega

/-- the alignment changes nothing exactly when `now + new_lock_period` is a month start -/
theorem aligned_eq_raw_iff {s : St} {epochs : Nat} (h : (s.epoch + epochs) % MONTH ≤ epochs) :
    alignedEpochs s epochs = epochs ↔ (s.epoch + epochs) % MONTH = 0 := by
  unfold alignedEpochs; omega

/-- the aligned period never exceeds the requested one and is less than a month below it -/
theorem aligned_le (s : St) (epochs : Nat) :
    alignedEpochs s epochs ≤ epochs ∧ epochs < alignedEpochs s epochs + MONTH := by
  have : (s.epoch + epochs) % MONTH < MONTH := Nat.mod_lt _ (by decide)
  unfold alignedEpochs; omega

/-- the characterisation of a successful reduction in the vocabulary of this file -/
theorem reduce_spec {s s' : St} {c n amt epochs : Nat} {o : Out}
    (h : reduceLock s c n amt epochs = some (s', o)) :
    ∃ u p, ReduceGuards s c n amt epochs u ∧
      penaltyAmount s.opts amt (u - s.epoch) (alignedEpochs s epochs) = some p ∧
      p < amt ∧ p ≤ s.circ ∧ o.v3 = p ∧ o.v2 = amt - p := by
  obtain ⟨u, s1, e, pen, newEp, t⟩ := reduceLock_spec h
  obtain rfl := t.newEpochs
  obtain rfl := t.out
  exact ⟨u, pen, ⟨t.unpaused, t.listed, t.unlockOf, (debit_spec t.debit).1, t.locked, t.aligned,
    Nat.lt_of_add_lt_add_left t.newUnlock, t.shorter, depleteAfterEarly_some t.depleteAfterEarly, t.amt_pos⟩,
    t.penalty, t.pen_lt, t.circ, rfl, rfl⟩

/-- **a lock reduction never succeeds where the quote refuses**: success of
    `reduceLockPeriod(epochs)` on `amt` of nonce `n` implies that the view
    `getPenaltyAmount(amt, remaining, aligned)` answers in the same state, `aligned` being the
    endpoint's month alignment of `epochs` — and the answer is what was charged -/
theorem reduce_implies_quote {s s' : St} {c n amt epochs : Nat} {o : Out}
    (h : reduceLock s c n amt epochs = some (s', o)) :
    ∃ u q, s.unlockOf n = some u ∧
      penaltyAmount s.opts amt (u - s.epoch) (alignedEpochs s epochs) = some q ∧ o.v3 = q := by
  obtain ⟨u, p, hg, hq, _, _, ho, _⟩ := reduce_spec h
  exact ⟨u, p, hg.2.2.1, hq, ho⟩

/-- **quote ⇒ exec, with the exact charge**: if the guards of `ReduceGuards` hold and the view
    `getPenaltyAmount(amt, remaining, aligned)` answers `p` with `p < amt` (something remains
    after the penalty) and `p` within the circulating-supply counter, then `reduceLockPeriod`
    succeeds, charges exactly `p` and re-locks exactly `amt − p` -/
theorem quote_implies_reduce {s : St} {c n amt epochs u p : Nat}
    (hg : ReduceGuards s c n amt epochs u)
    (hq : penaltyAmount s.opts amt (u - s.epoch) (alignedEpochs s epochs) = some p)
    (hlt : p < amt) (hc : p ≤ s.circ) :
    ∃ s' o, reduceLock s c n amt epochs = some (s', o) ∧ o.v3 = p ∧ o.v2 = amt - p := by
  obtain ⟨h0, hl, hu, hbal, hlk, hsub, hpos, hnew, hT, hamt⟩ := hg
  have hnow : s.epoch < s.epoch + (epochs - (s.epoch + epochs) % MONTH) :=
    Nat.lt_add_of_pos_right hpos
  unfold alignedEpochs at hq hnew
  -- every guard holds, so the `do` block runs through to its last line
  simp only [reduceLock, St.debit, Entry.depleteAfterEarly, req_pos h0, req_pos (isListed_ne_nil hl),
    req_pos hl, hu, sub?_pos hbal, req_pos hlk, sub?_pos hsub, req_pos hnew, sub?_pos hT, hq,
    req_pos hamt, req_pos hlt, req_pos hnow, sub?_pos hc, Option.bind_eq_bind, Option.bind_some,
    Option.pure_def]
  exact ⟨_, _, rfl, rfl, rfl⟩

/-- **the complete acceptance condition of `reduceLockPeriod`**: it succeeds exactly when the
    listed guards hold and the quote for the ALIGNED period answers some `p` below the amount
    (and within the circulating-supply counter).  There is no hidden guard. -/
theorem reduce_ok_iff (s : St) (c n amt epochs : Nat) :
    (reduceLock s c n amt epochs).isSome = true ↔
      ∃ u p, ReduceGuards s c n amt epochs u ∧
        penaltyAmount s.opts amt (u - s.epoch) (alignedEpochs s epochs) = some p ∧
        p < amt ∧ p ≤ s.circ := by
  constructor
  · intro h
    obtain ⟨⟨s', o⟩, hd⟩ := Option.isSome_iff_exists.1 h
    obtain ⟨u, p, hg, hq, hlt, hc, _⟩ := reduce_spec hd
    exact ⟨u, p, hg, hq, hlt, hc⟩
  · rintro ⟨u, p, hg, hq, hlt, hc⟩
    obtain ⟨s', o, h, _⟩ := quote_implies_reduce hg hq hlt hc
    simp [h]

/-- the same for `unlockEarly`: what a successful call implies, in this file's vocabulary -/
theorem early_spec {s s' : St} {c n amt : Nat} {o : Out}
    (h : unlockEarly s c n amt = some (s', o)) :
    ∃ u p, EarlyGuards s c n amt u ∧ penaltyAmount s.opts amt (u - s.epoch) 0 = some p ∧
      p < amt ∧ amt ≤ s.circ ∧ o.v1 = p ∧ o.v2 = amt - p := by
  obtain ⟨u, s1, e, pen, t⟩ := unlockEarly_spec h
  obtain rfl := t.out
  exact ⟨u, pen, ⟨t.unpaused, t.unlockOf, (debit_spec t.debit).1, t.locked,
    depleteAfterEarly_some t.depleteAfterEarly, t.amt_pos⟩, t.penalty, t.pen_lt, t.circ, rfl, rfl⟩

/-- **quote ⇒ exec for `unlockEarly`**: guards + the view `getPenaltyAmount(amt, remaining, 0)`
    answers `p < amt` (+ the amount is within the circulating-supply counter) ⇒ the call
    succeeds, charges exactly `p` and queues `amt − p` base tokens -/
theorem quote_implies_unlockEarly {s : St} {c n amt u p : Nat}
    (hg : EarlyGuards s c n amt u)
    (hq : penaltyAmount s.opts amt (u - s.epoch) 0 = some p) (hlt : p < amt) (hc : amt ≤ s.circ) :
    ∃ s' o, unlockEarly s c n amt = some (s', o) ∧ o.v1 = p ∧ o.v2 = amt - p := by
  obtain ⟨h0, hu, hbal, hlk, hT, hamt⟩ := hg
  simp only [unlockEarly, St.debit, Entry.depleteAfterEarly, req_pos h0, hu, sub?_pos hbal,
    req_pos hlk, sub?_pos hT, hq, req_pos hamt, req_pos hlt, sub?_pos hc, Option.bind_eq_bind,
    Option.bind_some, Option.pure_def]
  exact ⟨_, _, rfl, rfl, rfl⟩

/-- **the complete acceptance condition of `unlockEarly`** -/
theorem unlockEarly_ok_iff (s : St) (c n amt : Nat) :
    (unlockEarly s c n amt).isSome = true ↔
      ∃ u p, EarlyGuards s c n amt u ∧ penaltyAmount s.opts amt (u - s.epoch) 0 = some p ∧
        p < amt ∧ amt ≤ s.circ := by
  constructor
  · intro h
    obtain ⟨⟨s', o⟩, hd⟩ := Option.isSome_iff_exists.1 h
    obtain ⟨u, p, hg, hq, hlt, hc, _⟩ := early_spec hd
    exact ⟨u, p, hg, hq, hlt, hc⟩
  · rintro ⟨u, p, hg, hq, hlt, hc⟩
    obtain ⟨s', o, h, _⟩ := quote_implies_unlockEarly hg hq hlt hc
    simp [h]

/-- when `now + new_lock_period` is a month start the quote with the RAW period is the charge -/
theorem raw_quote_eq_charge {s s' : St} {c n amt epochs : Nat} {o : Out}
    (h : reduceLock s c n amt epochs = some (s', o)) (h0 : (s.epoch + epochs) % MONTH = 0) :
    ∃ u, s.unlockOf n = some u ∧ penaltyAmount s.opts amt (u - s.epoch) epochs = some o.v3 := by
  obtain ⟨u, p, hg, hq, _, _, ho, _⟩ := reduce_spec h
  have : alignedEpochs s epochs = epochs := by unfold alignedEpochs; omega
  rw [this] at hq
  exact ⟨u, hg.2.2.1, by rw [ho]; exact hq⟩

/-- the reduction percentage grows when the new period shrinks (arithmetical core) -/
theorem partial_antitone {M pp pn pn' : Nat} (h1 : pn' ≤ pn) (h2 : pn ≤ pp) (h3 : pp ≤ M)
    (h4 : pn < M) :
    (pp - pn) * M / (M - pn) ≤ (pp - pn') * M / (M - pn') := by
  obtain ⟨a, rfl⟩ := Nat.exists_eq_add_of_le h2
  obtain ⟨d, rfl⟩ := Nat.exists_eq_add_of_le h1
  obtain ⟨m, rfl⟩ := Nat.exists_eq_add_of_le h3
  have e1 : pn' + d + a - (pn' + d) = a := by omega
  have e2 : pn' + d + a - pn' = d + a := by omega
  have e3 : pn' + d + a + m - (pn' + d) = a + m := by omega
  have e4 : pn' + d + a + m - pn' = d + a + m := by omega
  rw [e1, e2, e3, e4]
  generalize pn' + d + a + m = M at *
  have hpos : 0 < a + m := by omega
  rw [Nat.le_div_iff_mul_le (by omega)]
  have hx : a * M / (a + m) * (a + m) ≤ a * M := Nat.div_mul_le_self _ _
  generalize a * M / (a + m) = X at *
  -- X·(a+m) ≤ a·M  ⇒  X·(d+a+m)·(a+m) ≤ a·M·(d+a+m) ≤ (d+a)·M·(a+m)
  have hy : X * (d + a + m) * (a + m) ≤ (d + a) * M * (a + m) := by
    have k1 : X * (a + m) * (d + a + m) ≤ a * M * (d + a + m) := Nat.mul_le_mul_right _ hx
    have k2 : (d + a) * M * (a + m) = a * M * (d + a + m) + d * m * M := by ring
    have k3 : X * (d + a + m) * (a + m) = X * (a + m) * (d + a + m) := by ring
    rw [k2, k3]
    exact Nat.le_trans k1 (Nat.le_add_right _ _)
  exact Nat.le_of_mul_le_mul_right hy hpos

/-- `getPenaltyAmount` is antitone in the new period on admissible options: asking for a
    shorter new period never lowers the quote -/
theorem quote_antitone {opts : List Opt} (ha : Admissible opts) {amt prev new new' q q' : Nat}
    (h0 : 0 < new') (hle : new' ≤ new)
    (hq : penaltyAmount opts amt prev new = some q)
    (hq' : penaltyAmount opts amt prev new' = some q') : q ≤ q' := by
  obtain ⟨_, hn, _, pct, hp, rfl⟩ := penaltyAmount_spec hq
  obtain ⟨_, hn', _, pct', hp', rfl⟩ := penaltyAmount_spec hq'
  have hne : ¬ new = 0 := by omega
  have hne' : ¬ new' = 0 := by omega
  simp only [hne, hne', if_false] at hp hp'
  -- the three full percentages exist
  have hex : ∃ pp pn, pctFull opts prev = some pp ∧ pctFull opts new = some pn := by
    simp only [pctPartial, Option.bind_eq_bind, Option.bind_eq_some_iff] at hp
    obtain ⟨pp, h1, pn, h2, _⟩ := hp
    exact ⟨pp, pn, h1, h2⟩
  have hex' : ∃ pn', pctFull opts new' = some pn' := by
    simp only [pctPartial, Option.bind_eq_bind, Option.bind_eq_some_iff] at hp'
    obtain ⟨_, _, pn', h2, _⟩ := hp'
    exact ⟨pn', h2⟩
  obtain ⟨pp, pn, h1, h2⟩ := hex
  obtain ⟨pn', h2'⟩ := hex'
  obtain ⟨a, b, e, _⟩ := Mx.C09.reduce_pct ha hn h1 h2
  obtain ⟨_, _, e', _⟩ := Mx.C09.reduce_pct ha hn' h1 h2'
  rw [e] at hp; rw [e'] at hp'
  cases hp; cases hp'
  have hm := Mx.C09.penalty_mono ha hle h2' h2
  have hmax := Mx.C09.penalty_le_max ha h1
  have := partial_antitone hm a (hmax.1.trans hmax.2) b
  exact Nat.div_le_div_right (Nat.mul_le_mul_left _ this)

/-- **the caller pays at least the raw quote.**  In every state reached from a deployment with
    admissible lock options: if `reduceLockPeriod(epochs)` succeeds and the view answers `q` for
    the RAW `epochs` the caller passed, the penalty charged is `≥ q` — the month alignment only
    shortens the new period, which only raises the penalty.  Equality is not guaranteed unless
    `(now + epochs) % 30 = 0` (`raw_quote_eq_charge`; strict example below). -/
theorem raw_quote_le_charge (cfg : Cfg) (hc : Admissible cfg.opts) (ops : List Op)
    {s' : St} {c n amt epochs u q : Nat} {o : Out}
    (h : reduceLock (run (init cfg) ops) c n amt epochs = some (s', o))
    (hu : (run (init cfg) ops).unlockOf n = some u)
    (hq : penaltyAmount (run (init cfg) ops).opts amt (u - (run (init cfg) ops).epoch) epochs = some q) :
    q ≤ o.v3 := by
  have ha := Mx.C09.options_admissible_forever cfg hc ops
  generalize run (init cfg) ops = s at *
  obtain ⟨u', p, hg, hp, _, _, ho, _⟩ := reduce_spec h
  have : u' = u := by
    have := hg.2.2.1; rw [hu] at this; cases this; rfl
  subst this
  rw [ho]
  exact quote_antitone ha hg.2.2.2.2.2.2.1 (aligned_le s epochs).1 hq hp

/-! ### non-vacuity (closed reachable states, NON-ZERO penalties) -/

/-- the deployment of `Props/C09.lean`'s example: the repository's three lock options -/
def exCfg : Cfg := { epoch := 5, opts := [(360, 4000), (720, 6000), (1440, 8000)], unbond := 10,
                     burnPct := 2500, minLock := 4, cooldown := 6, users := 2, funds := 1000000 }

/-- user 1 locked 100000 for 1440 epochs (unlock epoch 1440); now epoch 555, NOT a month start -/
def exMid : St := run (init exCfg) [.lock 1 100000 1440 0, .advance 555]

/-- the same at epoch 540, a month start -/
def exAligned : St := run (init exCfg) [.lock 1 100000 1440 0, .advance 540]

example : Admissible exCfg.opts :=
  ⟨by decide, by decide, by decide, by decide, by decide, by decide, by decide, by decide, trivial⟩

/-- `C20.penalty_quote_eq_unlockEarly` / `unlockEarly_implies_quote` / `unlockEarly_ok_iff` /
    `quote_implies_unlockEarly`: every guard holds, the view quotes 6458 on 10000 (64.58 %) and
    the endpoint charges exactly that, queueing 3542 -/
example :
    let s := exMid
    s.unlockOf 1 = some 1440 ∧ EarlyGuards s 1 1 10000 1440 ∧
    penaltyAmount s.opts 10000 (1440 - s.epoch) 0 = some 6458 ∧ 10000 ≤ s.circ ∧
    (unlockEarly s 1 1 10000).map (·.2) = some ⟨6458, 3542, 0⟩ ∧
    (unlockEarly s 1 1 100001).isSome = false ∧ (unlockEarly s 2 1 10).isSome = false := by
  decide

set_option maxRecDepth 8000 in
/-- `C20.penalty_quote_eq_reduceLock` / `reduce_implies_quote` / `reduce_ok_iff` /
    `quote_implies_reduce` at epoch 555, reduction to the 360 option: the endpoint aligns 360 to
    345 (`(555+360) % 30 = 15`), every guard holds, the quote for 345 is 8512 and exactly that
    is charged (11488 re-locked to epoch 900 = start of the month of 915).
    **The quote for the raw 360 is 8192 — 320 LESS than what the caller pays.** -/
example :
    let s := exMid
    alignedEpochs s 360 = 345 ∧ s.epoch + alignedEpochs s 360 = 900 ∧
    ReduceGuards s 1 1 20000 360 1440 ∧
    penaltyAmount s.opts 20000 (1440 - s.epoch) 345 = some 8512 ∧ 8512 ≤ s.circ ∧
    (reduceLock s 1 1 20000 360).map (·.2) = some ⟨2, 11488, 8512⟩ ∧
    penaltyAmount s.opts 20000 (1440 - s.epoch) 360 = some 8192 := by
  decide

set_option maxRecDepth 8000 in
/-- `raw_quote_eq_charge`: at a month start (epoch 540) the raw quote 8332 is the charge -/
example :
    let s := exAligned
    (s.epoch + 360) % MONTH = 0 ∧ alignedEpochs s 360 = 360 ∧
    penaltyAmount s.opts 20000 (1440 - s.epoch) 360 = some 8332 ∧
    (reduceLock s 1 1 20000 360).map (·.2) = some ⟨2, 11668, 8332⟩ := by
  decide

set_option maxRecDepth 8000 in
/-- the guards are live: an unlisted period, a period that does not shorten the lock, a paused
    factory and an amount above the holding each refuse, although the view answers -/
example :
    let s := exMid
    (reduceLock s 1 1 20000 300).isSome = false ∧ isListed s.opts 300 = false ∧
    (reduceLock s 1 1 20000 1440).isSome = false ∧ ¬ alignedEpochs s 1440 < 1440 - s.epoch ∧
    (reduceLock { s with paused := true } 1 1 20000 360).isSome = false ∧
    (reduceLock s 1 1 100001 360).isSome = false ∧
    (penaltyAmount s.opts 100001 (1440 - s.epoch) 345).isSome = true := by
  decide

end Mx.C20Energy2
