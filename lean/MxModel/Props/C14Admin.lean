/-
  C14 (administration endpoints) — `issueLpToken`, `setLocalRoles`, `upgradePair`,
  `setTemporaryOwnerPeriod`, `clearPairTemporaryOwnerStorage` of the router.

  Statement: only registered pairs can be the target of `issueLpToken` / `setLocalRoles` /
  `upgradePair`; an LP token is issued by the owner, or by anybody once pair creation is public,
  but — while the temporary-owner entry written by `createPair` is live (creation block + period >
  current block) — ONLY by the account that created the pair, the router owner included; a
  paused router refuses the three endpoints for everybody; the temporary-owner period and the
  temporary-owner map are changed by the owner alone, paused router or not; and none of the five
  endpoints touches the registry, a pair contract, or anybody's balances.

  Model: Core/Router.lean.  The three endpoints that end in an asynchronous call are modelled up to
  that call (guards + the removal of an expired temporary-owner entry); see the header there.
  "Reachable" means `run (init …) ops` for an arbitrary history `ops` over ALL router operations.
-/
import MxModel.Props.C14

namespace Mx.C14Admin
open Mx.Router

/-! ### only registered pairs -/

/-- `issueLpToken(a)` and `setLocalRoles(a)` succeed only if `check_is_pair_sc(a)` accepts `a`,
    for every state, caller and address -/
theorem issue_roles_check_pair {s s' : St} {c a : Addr} {o : Out} :
    (step s (.issueLp c a) = some (s', o) → checkIsPairSc s.pairMap s.pairs a = some ()) ∧
    (step s (.setLocalRoles c a) = some (s', o) → checkIsPairSc s.pairMap s.pairs a = some ()) :=
  ⟨fun h => (issueLp_spec h).2.2.1, fun h => (setLocalRoles_spec (c := c) h).2.1⟩

/-- on every reachable state, a successful `issueLpToken(a)` / `setLocalRoles(a)` names an address
    that is in the registry (a removed pair, a foreign pair contract, an account that is no pair
    are all refused) -/
theorem issue_roles_only_registered (owner self : Addr) (template : Bool) (foreign : List PairRec)
    (funds : Addr → Nat → Nat) (ops : List Op) (c a : Addr) (r : St × Out)
    (h : step (run (init owner self template foreign funds) ops) (.issueLp c a) = some r ∨
         step (run (init owner self template foreign funds) ops) (.setLocalRoles c a) = some r) :
    a ∈ (run (init owner self template foreign funds) ops).pairMap.map Prod.snd := by
  obtain ⟨s', o⟩ := r
  have hi := run_inv ops (inv_init owner self template foreign funds)
  rcases h with h | h
  · exact (checkIsPairSc_iff_mem hi a).mp (issueLp_spec h).2.2.1
  · exact (checkIsPairSc_iff_mem hi a).mp (setLocalRoles_spec (c := c) h).2.1

/-- `upgradePair(t1, t2)` succeeds only for two distinct valid token ids that have a registry
    entry (in either order); the contract upgraded is that entry's address -/
theorem upgrade_only_registered {s s' : St} {c : Addr} {t1 t2 : Tok} {o : Out}
    (h : step s (.upgradePair c t1 t2) = some (s', o)) :
    t1 ≠ t2 ∧ validTok t1 ∧ validTok t2 ∧ getPair s.pairMap t1 t2 ≠ 0 ∧
    getPair s.pairMap t1 t2 ∈ s.pairMap.map Prod.snd := by
  obtain ⟨_, _, h3, h4, h5, h6, _⟩ := upgradePair_spec h
  exact ⟨h3, h4, h5, h6, getPair_ne_zero_mem h6⟩

/-! ### who may issue an LP token -/

/-- the caller rule of `issueLpToken`: a successful call was made by the owner or while pair
    creation is public; AND, if the pair still has a live temporary-owner entry (creation block +
    period > current block), by the creator recorded in it — nobody else, not even the owner;
    AND the pair has no LP token yet -/
theorem issue_caller_rule {s s' : St} {c a : Addr} {o : Out}
    (h : step s (.issueLp c a) = some (s', o)) :
    (c = s.owner ∨ s.creationEnabled = true) ∧
    (∀ t created, tmpLookup s.tmpOwners a = some (t, created) →
        s.block < created + s.tmpPeriod → c = t) ∧
    a ∈ s.noLp := by
  obtain ⟨_, h2, _, h4, h5, _⟩ := issueLp_spec h
  refine ⟨h2, ?_, h5⟩
  intro t created hl hlive
  rw [getTmpOwner_live hl hlive] at h4
  rcases h4 with h4 | h4
  · cases h4
  · exact (Option.some.inj h4).symm

/-- what a successful `issueLpToken(a)` writes before its asynchronous call: an EXPIRED
    temporary-owner entry of `a` is removed, a live one (or none) leaves the map as it is;
    nothing else in the router's state changes -/
theorem issue_effect {s s' : St} {c a : Addr} {o : Out}
    (h : step s (.issueLp c a) = some (s', o)) :
    s' = { s with tmpOwners := s'.tmpOwners } ∧
    (∀ t created, tmpLookup s.tmpOwners a = some (t, created) →
        created + s.tmpPeriod ≤ s.block → s'.tmpOwners = tmpErase s.tmpOwners a) ∧
    (∀ t created, tmpLookup s.tmpOwners a = some (t, created) →
        s.block < created + s.tmpPeriod → s'.tmpOwners = s.tmpOwners) ∧
    (tmpLookup s.tmpOwners a = none → s'.tmpOwners = s.tmpOwners) := by
  obtain ⟨_, _, _, _, _, _, rfl⟩ := issueLp_spec h
  refine ⟨rfl, ?_, ?_, ?_⟩
  · intro t created hl he
    show (getTmpOwner _ _ _ _).1 = _
    rw [getTmpOwner_expired hl he]
  · intro t created hl hlive
    show (getTmpOwner _ _ _ _).1 = _
    rw [getTmpOwner_live hl hlive]
  · intro hl
    show (getTmpOwner _ _ _ _).1 = _
    rw [getTmpOwner_none hl]

/-- `setLocalRoles(a)` has no caller rule at all — but the pair's LP token must exist -/
theorem roles_need_token {s s' : St} {c a : Addr} {o : Out}
    (h : step s (.setLocalRoles c a) = some (s', o)) : a ∉ s.noLp ∧ s' = s :=
  ⟨(setLocalRoles_spec (c := c) h).2.2.1, (setLocalRoles_spec (c := c) h).2.2.2.2⟩

/-! ### the paused router; owner-only endpoints -/

/-- while the router is paused `issueLpToken`, `setLocalRoles` and `upgradePair` fail for every
    caller and every argument -/
theorem paused_router_blocks_admin (s : St) (hp : s.active = false) :
    (∀ c a, step s (.issueLp c a) = none) ∧ (∀ c a, step s (.setLocalRoles c a) = none) ∧
    (∀ c t1 t2, step s (.upgradePair c t1 t2) = none) := by
  have key : s.active = true → False := fun h => by rw [hp] at h; cases h
  refine ⟨fun c a => ?_, fun c a => ?_, fun c t1 t2 => ?_⟩
  · cases hs : step s (.issueLp c a) with
    | none => rfl
    | some r => exact (key (issueLp_spec (s' := r.1) (o := r.2) hs).1).elim
  · cases hs : step s (.setLocalRoles c a) with
    | none => rfl
    | some r => exact (key (setLocalRoles_spec (c := c) (s' := r.1) (o := r.2) hs).1).elim
  · cases hs : step s (.upgradePair c t1 t2) with
    | none => rfl
    | some r => exact (key (upgradePair_spec (s' := r.1) (o := r.2) hs).2.1).elim

/-- `setTemporaryOwnerPeriod`, `clearPairTemporaryOwnerStorage` and `upgradePair` succeed only
    for the router's owner -/
theorem tmp_admin_owner_only {s s' : St} {c : Addr} {o : Out} :
    (∀ n, step s (.setTmpPeriod c n) = some (s', o) → c = s.owner) ∧
    (step s (.clearTmp c) = some (s', o) → c = s.owner) ∧
    (∀ t1 t2, step s (.upgradePair c t1 t2) = some (s', o) → c = s.owner) :=
  ⟨fun _ h => (setTmpPeriod_spec h).1, fun h => (clearTmp_spec h).1,
   fun _ _ h => (upgradePair_spec h).1⟩

/-- … and the two temporary-owner endpoints are NOT state-gated: for the owner they succeed in
    every state, paused router included; `clearPairTemporaryOwnerStorage` returns the number of
    entries it dropped -/
theorem tmp_admin_not_state_gated (s : St) (n : Nat) :
    step s (.setTmpPeriod s.owner n) = some ({ s with tmpPeriod := n }, {}) ∧
    step s (.clearTmp s.owner) =
      some ({ s with tmpOwners := [] }, { v1 := s.tmpOwners.length }) := by
  constructor <;> simp [step, setTmpPeriod, clearTmp, req]

/-- over ALL router operations: the temporary-owner period is changed by nothing but a
    `setTemporaryOwnerPeriod` call of the owner -/
theorem tmp_period_owner_only {s s' : St} {op : Op} {o : Out} (h : step s op = some (s', o))
    (hne : s'.tmpPeriod ≠ s.tmpPeriod) : ∃ n, op = .setTmpPeriod s.owner n :=
  (step_frame h).2.2.2.2.resolve_left hne

/-! ### the frame: registry, pair contracts and balances are untouched -/

/-- the five administration endpoints -/
def isAdminOp : Op → Bool
  | .setTmpPeriod _ _ | .clearTmp _ | .issueLp _ _ | .setLocalRoles _ _ | .upgradePair _ _ _ => true
  | _ => false

/-- none of the five endpoints changes the registry, any pair contract, the router's balances,
    the accounts' balances (plain or locked), the router's state flag, the pair-creation flag or
    the owner: every registry / conservation theorem of C14 is untouched by them -/
theorem admin_ops_frame {s s' : St} {op : Op} {o : Out} (hop : isAdminOp op = true)
    (h : step s op = some (s', o)) :
    s'.pairMap = s.pairMap ∧ s'.pairs = s.pairs ∧ s'.rbal = s.rbal ∧ s'.ubal = s.ubal ∧
    s'.lbal = s.lbal ∧ s'.addrs = s.addrs ∧ s'.nextAddr = s.nextAddr ∧ s'.active = s.active ∧
    s'.creationEnabled = s.creationEnabled ∧ s'.owner = s.owner ∧ s'.noLp = s.noLp := by
  cases op <;> simp only [isAdminOp, reduceCtorEq] at hop
  · obtain ⟨_, _, rfl⟩ := setTmpPeriod_spec h
    exact ⟨rfl, rfl, rfl, rfl, rfl, rfl, rfl, rfl, rfl, rfl, rfl⟩
  · obtain ⟨_, _, rfl⟩ := clearTmp_spec h
    exact ⟨rfl, rfl, rfl, rfl, rfl, rfl, rfl, rfl, rfl, rfl, rfl⟩
  · obtain ⟨_, _, _, _, _, _, rfl⟩ := issueLp_spec h
    exact ⟨rfl, rfl, rfl, rfl, rfl, rfl, rfl, rfl, rfl, rfl, rfl⟩
  · rename_i c a
    obtain ⟨_, _, _, _, rfl⟩ := setLocalRoles_spec (c := c) h
    exact ⟨rfl, rfl, rfl, rfl, rfl, rfl, rfl, rfl, rfl, rfl, rfl⟩
  · obtain ⟨_, _, _, _, _, _, _, rfl⟩ := upgradePair_spec h
    exact ⟨rfl, rfl, rfl, rfl, rfl, rfl, rfl, rfl, rfl, rfl, rfl⟩

/-! ### non-vacuity: closed examples on reachable states -/

/-- pair creation is made public; user 1 creates pair 1000 = (1,2) at block 0 and its LP token
    is not installed; the owner creates (3,2) = 1001 with its LP token; ten blocks pass -/
def exIssue : List Op :=
  [.setCreation 100 true, .bareNext true, .createPair 1 1 2 0 none, .bareNext false,
   .createPair 100 3 2 0 (some (300, 50)), .advanceBlock 10]

/-- during user 1's period (block 10 < 0 + 50) the router OWNER's `issueLpToken` on user 1's
    pair FAILS, so does user 2's; user 1's succeeds and leaves the entry in place;
    `setLocalRoles` on the token-less pair fails, on pair 1001 it succeeds for ANY account -/
example :
    let s := run (init 100 200 true [foreignPair 1 2 300 50] Mx.C14.exFunds) exIssue
    s.tmpOwners = [(1000, 1, 0), (1001, 100, 0)] ∧ s.noLp = [1000] ∧ s.tmpPeriod = 50 ∧
    (step s (.issueLp 100 1000)).isNone = true ∧ (step s (.issueLp 2 1000)).isNone = true ∧
    (step s (.issueLp 1 1000)).map (fun r => r.1.tmpOwners) =
      some [(1000, 1, 0), (1001, 100, 0)] ∧
    (step s (.issueLp 100 1001)).isNone = true ∧       -- LP token already issued
    (step s (.issueLp 1 900)).isNone = true ∧          -- foreign pair: not registered
    (step s (.setLocalRoles 2 1000)).isNone = true ∧
    (step s (.setLocalRoles 2 1001)).isSome = true ∧
    (step s (.setLocalRoles 2 900)).isNone = true := by
  decide

/-- after the period (block 50 ≥ 0 + 50) with pair creation public ANY account issues the LP
    token of user 1's pair — user 2, the owner — and the expired entry is removed; once the owner
    switches public creation off again only the owner can -/
example :
    let s := run (init 100 200 true [] Mx.C14.exFunds) (exIssue ++ [.advanceBlock 50])
    (step s (.issueLp 2 1000)).map (fun r => r.1.tmpOwners) = some [(1001, 100, 0)] ∧
    (step s (.issueLp 100 1000)).isSome = true ∧
    (step s (.issueLp 400 1000)).isSome = true ∧
    (let s2 := run s [.setCreation 100 false]
     (step s2 (.issueLp 2 1000)).isNone = true ∧ (step s2 (.issueLp 100 1000)).isSome = true) := by
  decide

/-- the owner may shorten the period instead of waiting: with period 10 the entry created at
    block 0 is expired at block 10; `clearPairTemporaryOwnerStorage` drops every entry and
    returns their number; both work on a paused router, where the three gated endpoints fail;
    a non-owner is refused -/
example :
    let s := run (init 100 200 true [] Mx.C14.exFunds) (exIssue ++ [.pause 100 200])
    s.active = false ∧
    (step s (.setTmpPeriod 100 10)).isSome = true ∧ (step s (.setTmpPeriod 1 10)).isNone = true ∧
    (step s (.clearTmp 100)).map (fun r => (r.2.v1, r.1.tmpOwners)) = some (2, []) ∧
    (step s (.clearTmp 1)).isNone = true ∧
    (step s (.issueLp 1 1000)).isNone = true ∧ (step s (.setLocalRoles 1 1001)).isNone = true ∧
    (step s (.upgradePair 100 1 2)).isNone = true ∧
    (let s2 := run s [.setTmpPeriod 100 10, .resume 100 200]
     (step s2 (.issueLp 100 1000)).map (fun r => r.1.tmpOwners) = some [(1001, 100, 0)] ∧
     (step s2 (.upgradePair 100 2 1)).isSome = true ∧ (step s2 (.upgradePair 1 2 1)).isNone = true ∧
     (step s2 (.upgradePair 100 1 3)).isNone = true) := by
  decide

/-- the period does change when the owner sets it (and only then) -/
example :
    let s := run (init 100 200 true [] Mx.C14.exFunds) exIssue
    (run s [.setTmpPeriod 1 7]).tmpPeriod = 50 ∧ (run s [.setTmpPeriod 100 7]).tmpPeriod = 7 := by
  decide

end Mx.C14Admin
