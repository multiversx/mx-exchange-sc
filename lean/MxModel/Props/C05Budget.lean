/-
  C05 (farm, farm-with-locked-rewards), last clause — the POSITION half of the week budget, the budget
  with payments, and the clause itself.

  Props/C05Cover.lean reduces "no legitimate claim/exit/enter/merge fails because an internal counter
  would go negative" to the weekly-rewards module and isolates the one arithmetic cause inside it: the
  per-week subtraction `remainingBoostedRewardsToDistribute(w) −= reward` of
  `get_user_rewards_for_week`.  It is safe under the week budget (`weekly_sub_safe_under_budget`), whose
  ENERGY half `Σ e_v ≤ E_w` holds in every reachable state (`week_budget_energy_half`).  Finding F6 is
  a reachable violation of the POSITION half `Σ f_v ≤ F_w` in the unrepaired contract.  In the modelled one
  (`claim_boosted_yields_rewards` runs `update_energy_and_progress` also when no boosted-yields
  factors are configured) the position half is an invariant of every history of the farm model (both
  kinds).  This file proves it; then the budget with what a frozen week has already paid
  (Lemmas/FarmWeekPaid.lean), which bounds every claimer's computed reward by `remaining(w)`; then that
  the weekly module's energy update, the boosted claim, and a holder's `exitFarm` / `claimRewards` cannot
  abort in a reachable state (Lemmas/WeeklyLive.lean, FarmWeekLive.lean) — the clause itself,
  `no_underflow_full_holds`.

  Hypotheses of the run-level theorems: `users.Nodup` (distinct accounts — `PosInv`); `dsc ≠ 0` where a
  settlement has to succeed; from the budget with payments on also `GoodOps ops`, which no proof uses
  and `no_underflow_full_holds` does without (see the section comment below).
  Model: Core/Farm.lean.
-/
import MxModel.Lemmas.FarmWeekPos
import MxModel.Lemmas.FarmEnergy
import MxModel.Lemmas.FarmWeekSafe
import MxModel.Lemmas.FarmWeekPaid
import MxModel.Props.C05Cover

namespace Mx.C05Budget
open Mx.Farm

/-- **the position half of the week budget holds in every reachable farm state.**  For the current
    week `W` and every completed week `w < W`: either no farm supply is recorded for `w` (then nothing
    is paid for it), or the CURRENT total farm positions (`userTotalFarmPosition`) of all users whose
    claim progress can still reach `w` (`fFor`: the total if `progress(v).week ≤ w`, else 0) sum to at
    most `farmSupplyForWeek(w)` — `Σ f_v ≤ F`.  (False for the unrepaired contract of finding F6.) -/
theorem week_budget_position_half (kind : Kind) (same : Bool) (dsc pb : Nat) (produce : Bool)
    (users : List Nat) (e0 : Nat) (hnd : users.Nodup) (ops : List Op) :
    let s := run (init kind same dsc pb produce users e0) ops
    ∀ W, s.week = some W → ∀ w, w < W →
      s.b.farmSupplyWeek w = 0 ∨
      (s.w.users.map fun v => fFor s.w.progress s.userTotal v w).sum ≤ s.b.farmSupplyWeek w :=
  fun W hW w hw => (reachable_weekPos kind same dsc pb produce users e0 hnd ops).past W hW w hw

theorem fFor_eq (prog : Nat → Option Weekly.ClaimProgress) (tot : Nat → Nat) (v w : Nat) :
    fFor prog tot v w = match prog v with
      | some p => if p.week ≤ w then tot v else 0
      | none => 0 := rfl

/-- the running week: the recorded farm supply is 0 (no supply-changing operation yet) or exactly the
    farm-token supply; no later week has anything recorded; the key list of the weekly module has no
    duplicates (so the sums above count every user once) -/
theorem current_week_supply_recorded (kind : Kind) (same : Bool) (dsc pb : Nat) (produce : Bool)
    (users : List Nat) (e0 : Nat) (hnd : users.Nodup) (ops : List Op) :
    let s := run (init kind same dsc pb produce users e0) ops
    s.w.users.Nodup ∧
    ∀ W, s.week = some W →
      (s.b.farmSupplyWeek W = 0 ∨ s.b.farmSupplyWeek W = s.supply) ∧
      ∀ w, W < w → s.b.farmSupplyWeek w = 0 := by
  intro s
  have h := reachable_weekPos kind same dsc pb produce users e0 hnd ops
  exact ⟨h.nodup, fun W hW => ⟨h.cur W hW, h.fut W hW⟩⟩

theorem progress_mem_users (kind : Kind) (same : Bool) (dsc pb : Nat) (produce : Bool)
    (users : List Nat) (e0 : Nat) (ops : List Op) (v : Nat) :
    let s := run (init kind same dsc pb produce users e0) ops
    s.w.progress v ≠ none → v ∈ s.w.users := by
  intro s h
  obtain ⟨p, hp⟩ := Option.ne_none_iff_exists'.mp h
  exact (reachable_winv kind same dsc pb produce users e0 ops).1.mem_users hp

/-- **`f ≤ F` for every claimer**: in every reachable state, a user `v` whose claim progress is at a
    week `≤ w` for a completed week `w` with a recorded supply has a current total farm position of at
    most that supply.  (F6: user 1 had 1001 against `farmSupplyForWeek 1 = 1`.) -/
theorem claimer_position_le_week_supply (kind : Kind) (same : Bool) (dsc pb : Nat) (produce : Bool)
    (users : List Nat) (e0 : Nat) (hnd : users.Nodup) (ops : List Op) (v : Nat) (p : Weekly.ClaimProgress) :
    let s := run (init kind same dsc pb produce users e0) ops
    ∀ W w, s.week = some W → w < W → s.w.progress v = some p → p.week ≤ w →
      s.b.farmSupplyWeek w ≠ 0 → s.userTotal v ≤ s.b.farmSupplyWeek w := by
  intro s W w hW hw hp hpw hF
  exact (reachable_weekPos kind same dsc pb produce users e0 hnd ops).claimer_le hW hw
    (progress_mem_users kind same dsc pb produce users e0 ops v (by rw [hp]; exact fun e => by cases e))
    hp hpw hF

/-- **`e ≤ E` for every claimer** (from the energy half): the energy a user claims week `w` with — its
    recorded energy decayed to `w` — is at most `totalEnergyForWeek(w)` when that is non-zero -/
theorem claimer_energy_le_week_energy (kind : Kind) (same : Bool) (dsc pb : Nat) (produce : Bool)
    (users : List Nat) (e0 : Nat) (ops : List Op) (v w : Nat) :
    let s := run (init kind same dsc pb produce users e0) ops
    s.w.progress v ≠ none → s.w.totalEnergy w ≠ 0 →
      Weekly.eForP s.w.progress v w ≤ s.w.totalEnergy w := by
  intro s hv hE
  have hmem : v ∈ s.w.users := progress_mem_users kind same dsc pb produce users e0 ops v hv
  rcases (reachable_winv kind same dsc pb produce users e0 ops).2 w with h0 | hle
  · exact absurd h0 hE
  · exact Nat.le_trans (Weekly.le_usum (f := fun x => Weekly.eForP s.w.progress x w) hmem) hle

/-- **no computed weekly reward exceeds the week's whole pool.**  In every reachable state of the
    repaired farm, for every completed week `w` with recorded supply `F_w ≠ 0` and total energy
    `E_w ≠ 0`, every user `v` who can still claim `w` (progress at a week `≤ w`), any factors `fa`
    (`cE + cF ≠ 0`) and any frozen pool `R`: the amount `get_user_rewards_for_week` computes for `v` —
    with `v`'s CURRENT total farm position and its energy decayed to `w` — is at most `R`.
    This is exactly what finding F6 violates (1 002 500 computed against a pool of 2 500); it makes the
    FIRST payment out of a freshly frozen week (`remaining = R`) safe. -/
theorem no_reward_exceeds_week_pool (kind : Kind) (same : Bool) (dsc pb : Nat) (produce : Bool)
    (users : List Nat) (e0 : Nat) (hnd : users.Nodup) (ops : List Op) (v : Nat)
    (p : Weekly.ClaimProgress) (fa : Factors) (R : Nat) :
    let s := run (init kind same dsc pb produce users e0) ops
    ∀ W w, s.week = some W → w < W → s.w.progress v = some p → p.week ≤ w →
      s.b.farmSupplyWeek w ≠ 0 → s.w.totalEnergy w ≠ 0 → fa.cE + fa.cF ≠ 0 →
      boostedAmount fa R (s.userTotal v) (s.b.farmSupplyWeek w)
        (Weekly.eForP s.w.progress v w) (s.w.totalEnergy w) ≤ R := by
  intro s W w hW hw hp hpw hF hE _
  exact boostedAmount_le fa R _ _ _ _
    (claimer_position_le_week_supply kind same dsc pb produce users e0 hnd ops v p W w hW hw hp hpw hF)
    (claimer_energy_le_week_energy kind same dsc pb produce users e0 ops v w
      (by rw [hp]; exact fun e => by cases e) hE)

/-- **the week budget at freeze time holds in every reachable state**: for every completed week `w`
    with recorded supply and total energy, any factors and any pool `R`, `WeekBudget` with nothing paid
    yet holds for the sums over ALL users that can still claim `w` (energy half + position half). -/
theorem week_budget_at_freeze (kind : Kind) (same : Bool) (dsc pb : Nat) (produce : Bool)
    (users : List Nat) (e0 : Nat) (hnd : users.Nodup) (ops : List Op) (fa : Factors) (R : Nat) :
    let s := run (init kind same dsc pb produce users e0) ops
    ∀ W w, s.week = some W → w < W → s.b.farmSupplyWeek w ≠ 0 → s.w.totalEnergy w ≠ 0 →
      WeekBudget fa R (s.b.farmSupplyWeek w) (s.w.totalEnergy w) 0
        ((s.w.users.map fun u => Weekly.eForP s.w.progress u w).sum)
        ((s.w.users.map fun v => fFor s.w.progress s.userTotal v w).sum) := by
  intro s W w hW hw hF hE
  apply WeekBudget.init
  · rcases (reachable_winv kind same dsc pb produce users e0 ops).2 w with h0 | hle
    · exact absurd h0 hE
    · exact hle
  · rcases week_budget_position_half kind same dsc pb produce users e0 hnd ops W hW w hw with h0 | hle
    · exact absurd h0 hF
    · exact hle

/-- non-vacuity, on the history of finding F6 (ops 1–10, `C05Cover.cxOps`): week 1 is completed
    (current week 2), its recorded supply is 1, user 1's total position is 1001 — and user 1 is NOT
    among the claimers of week 1 (progress at week 2), so the sum of the claimers' positions
    is 0 ≤ 1.  With the progress of the unrepaired contract (week 1) the sum would be 1001 > 1. -/
example :
    let s := run (init .mint false 1000000000000 1000 true [1, 2] 0)
      [.setPct OWNER 2500, .setEnergy 1 1000000 0 1000, .enter 1 none 1 [], .advance 10 6,
       .claim 1 none [(1, 1)], .advance 10 7, .enter 2 none 1000 [], .transfer 2 1 3 1000,
       .claim 1 none [(3, 1000)], .setFactors OWNER ⟨10, 3, 2, 1, 1⟩]
    s.week = some 2 ∧ s.b.farmSupplyWeek 1 = 1 ∧ s.userTotal 1 = 1001 ∧ s.w.users = [1] ∧
    (s.w.users.map fun v => fFor s.w.progress s.userTotal v 1).sum = 0 ∧
    s.b.farmSupplyWeek 2 = s.supply := by
  decide

/-- non-vacuity with a non-trivial sum: corpus history f1 in week 2 — user 1 (position 100000000,
    progress still at week 1) is a claimer of week 1, whose recorded supply is 100000000 -/
example :
    let s := run (init .mint false 1000000000000 1000 true [1, 2] 0)
      [.setFactors OWNER ⟨10, 3, 2, 1, 1⟩, .setPct OWNER 2500, .setEnergy 1 1000000 0 1000,
       .enter 1 none 100000000 [], .advance 10 6, .claim 1 none [(1, 100000000)], .advance 20 7]
    s.week = some 2 ∧ s.b.farmSupplyWeek 1 = 100000000 ∧
    (s.w.users.map fun v => fFor s.w.progress s.userTotal v 1).sum = 100000000 := by
  decide

/-! ### the budget WITH payments, and: the weekly pool subtraction never underflows

  Hypothesis carried by the statements of this section (satisfiable, and not used by the proofs, which
  go through `reachable_paidInv`): `GoodOps ops` — every
  `setBoostedYieldsFactors` of the history installs factors with `cE + cF ≠ 0`
  (`user_rewards_energy_const + user_rewards_farm_const`, the divisor of the reward formula; with
  `cE + cF = 0` `get_user_rewards_for_week` divides by zero).  `no_underflow_full_holds` below discharges it.
  The model's `init` has no factors; the hypothesis is about the op list only. -/

/-- **frozen-pool accounting and the week budget with payments, in every reachable state.**  For the
    current week `W` and every week `w` of the claim window (`W − 4 ≤ w < W`) that is frozen with pool
    `R` (`totalRewardsForWeek(w) = [(REW, R)]`):
    `remaining(w) + paid(w) = R`, and — when the week is live (`E_w ≠ 0`, `F_w ≠ 0`) — for the factors
    `fa` in force for `w`: `WeekBudget fa R F_w E_w (paid w) (Σ eForP) (Σ fFor)`: what was paid plus the
    un-floored shares of everybody who can still claim `w` fits into `R`. -/
theorem week_budget_with_payments (kind : Kind) (same : Bool) (dsc pb : Nat) (produce : Bool)
    (users : List Nat) (e0 : Nat) (hnd : users.Nodup) (ops : List Op) (hg : GoodOps ops) :
    let s := run (init kind same dsc pb produce users e0) ops
    ∀ W w R, s.week = some W → W ≤ w + 4 → w < W → s.w.totalRewards w = [(REW, R)] →
      s.b.remaining w + s.b.paidW w = R ∧
      (s.w.totalEnergy w ≠ 0 → s.b.farmSupplyWeek w ≠ 0 → ∀ fa, facAt s.b.cfg w = some fa →
        WeekBudget fa R (s.b.farmSupplyWeek w) (s.w.totalEnergy w) (s.b.paidW w)
          ((s.w.users.map fun u => Weekly.eForP s.w.progress u w).sum)
          ((s.w.users.map fun v => fFor s.w.progress s.userTotal v w).sum)) := by
  intro s W w R hW hw1 hw2 hT
  have hP := reachable_paidInv kind same dsc pb produce users e0 hnd ops W hW
  refine ⟨hP.rel.frozen w R hw1 hT, fun hE hF fa hfa => ?_⟩
  have := hP.rel.budget w hw1 hw2 hE hF fa hfa
  have hT' : (pmv s).TR w = [(REW, R)] := hT
  rw [hT', rOf_single] at this
  exact this

/-- **the reward of every claimer fits into what the week's pool still holds**: in every reachable
    state, for every frozen live week `w` of the window, every user `v` of the weekly module's key list
    and the factors in force: `boostedAmount fa R (f_v) F_w (e_v) E_w ≤ remaining(w)` — `f_v`, `e_v` the
    position / energy `v` can still claim `w` with (0 once `v`'s progress has passed `w`).  This is the
    operand pair of the checked subtraction `remaining_boosted_rewards_to_distribute(w) −= user_reward`. -/
theorem claimer_reward_le_remaining (kind : Kind) (same : Bool) (dsc pb : Nat) (produce : Bool)
    (users : List Nat) (e0 : Nat) (hnd : users.Nodup) (ops : List Op) (hg : GoodOps ops) (v : Nat) :
    let s := run (init kind same dsc pb produce users e0) ops
    ∀ W w R fa, s.week = some W → W ≤ w + 4 → w < W → s.w.totalRewards w = [(REW, R)] →
      v ∈ s.w.users → facAt s.b.cfg w = some fa → s.w.totalEnergy w ≠ 0 → s.b.farmSupplyWeek w ≠ 0 →
      boostedAmount fa R (fFor s.w.progress s.userTotal v w) (s.b.farmSupplyWeek w)
        (Weekly.eForP s.w.progress v w) (s.w.totalEnergy w) ≤ s.b.remaining w := by
  intro s W w R fa hW hw1 hw2 hT hv hfa hE hF
  have hP := reachable_paidInv kind same dsc pb produce users e0 hnd ops W hW
  have hc : fa.cE + fa.cF ≠ 0 := by
    cases hcfg : s.b.cfg with
    | none => rw [hcfg] at hfa; cases hfa
    | some cfg =>
      rw [hcfg] at hfa
      obtain ⟨hWF, _, hgood⟩ := hP.wf cfg hcfg
      exact hgood fa (facFor_mem hWF hfa)
  exact hP.rel.sub_ok hv hw1 hw2 hT hfa hc hE hF

/-- **weekly_pool_sub_never_underflows.**  In every reachable state of the (repaired) farm, for every
    user `u`: the boosted claim `claim_boosted_yields_rewards(u)` — `claim_multi` over
    `get_user_rewards_for_week` for up to four weeks — SUCCEEDS as soon as the weekly-rewards module's
    own global energy update for `u` (`update_user_energy_for_current_week`, the first statement of
    `claim_multi`) succeeds.  So nothing inside the reward loop can abort the transaction: not the
    factors lookup, not the frozen list, not the division by `cE + cF`, and in particular NOT the checked
    subtraction `remaining_boosted_rewards_to_distribute(week) −= user_reward` (the failure of F6). -/
theorem weekly_pool_sub_never_underflows (kind : Kind) (same : Bool) (dsc pb : Nat) (produce : Bool)
    (users : List Nat) (e0 : Nat) (hnd : users.Nodup) (ops : List Op) (hg : GoodOps ops) (u : Nat) :
    let s := run (init kind same dsc pb produce users e0) ops
    ∀ W, s.week = some W →
      (Weekly.updateUserEnergyForCurrentWeek s.w W (Weekly.Energy.queried (s.energy u) s.epoch)
        (s.w.progress u)).isSome = true →
      (claimBoostedYields s u).isSome = true := by
  intro s W hW h1
  exact claimBoostedYields_total (reachable_paidInv kind same dsc pb produce users e0 hnd ops W hW)
    (reachable_winv kind same dsc pb produce users e0 ops)
    (reachable_weekPos kind same dsc pb produce users e0 hnd ops) h1

/-- the same on the settled state an endpoint claims from (`generate` first, as claim / exit /
    claimBoostedRewards do): the boosted claim of the endpoint succeeds under the same condition -/
theorem endpoint_boosted_claim_succeeds (kind : Kind) (same : Bool) (dsc pb : Nat) (produce : Bool)
    (users : List Nat) (e0 : Nat) (hnd : users.Nodup) (ops : List Op) (hg : GoodOps ops) (u : Nat)
    {s1 : St} {c1 : Cache} :
    let s := run (init kind same dsc pb produce users e0) ops
    generate s (Cache.read s) = some (s1, c1) →
    ∀ W, s.week = some W →
      (Weekly.updateUserEnergyForCurrentWeek s.w W (Weekly.Energy.queried (s.energy u) s.epoch)
        (s.w.progress u)).isSome = true →
      (claimBoostedYields s1 u).isSome = true := by
  intro s hgen W hW h1
  have b1 := (generate_move (d := 0) hgen).1.budget ⟨hW, reachable_winv kind same dsc pb produce users e0 ops,
    reachable_weekPos kind same dsc pb produce users e0 hnd ops,
    reachable_paidInv kind same dsc pb produce users e0 hnd ops W hW⟩
  obtain ⟨b', rfl, _⟩ := generate_spec hgen
  exact claimBoostedYields_total b1.pm b1.wi b1.wp h1

/-- **principal withdrawable unless the weekly module's own energy bookkeeping aborts.**  `exit_succeeds`
    (Props/C05Cover.lean) with its first hypothesis discharged: in every reachable state of an active farm,
    a holder's `exitFarm` succeeds as soon as the weekly module's global energy update for the caller
    succeeds (then the boosted claim does, by the theorem above) and `clear_user_energy_if_needed` does. -/
theorem exit_succeeds_weekly (kind : Kind) (same : Bool) (dsc pb : Nat) (produce : Bool)
    (users : List Nat) (e0 : Nat) (hnd : users.Nodup) (hd : dsc ≠ 0) (ops : List Op) (hg : GoodOps ops)
    (u n a : Nat) :
    let s := run (init kind same dsc pb produce users e0) ops
    s.active = true → a ≠ 0 → a ≤ s.hold u n →
    ∀ W, s.week = some W →
      (Weekly.updateUserEnergyForCurrentWeek s.w W (Weekly.Energy.queried (s.energy u) s.epoch)
        (s.w.progress u)).isSome = true →
      ∃ att s1 c1 s2 boosted, s.attrs n = some att ∧ generate s (Cache.read s) = some (s1, c1) ∧
        claimBoostedYields s1 u = some (s2, boosted) ∧
        ((clearUserEnergyIfNeeded (decreaseOwner s2 att.owner a) u).isSome = true →
          (step s (.exit u none n a)).isSome = true) := by
  intro s hact ha hle W hW h1
  obtain ⟨att, s1, c1, hat, hgen, hex⟩ :=
    Mx.C05Cover.exit_succeeds kind same dsc pb produce users e0 hnd hd ops u n a hact ha hle
  have hb := endpoint_boosted_claim_succeeds kind same dsc pb produce users e0 hnd ops hg u hgen W hW h1
  obtain ⟨⟨s2, boosted⟩, hcl⟩ := Option.isSome_iff_exists.mp hb
  exact ⟨att, s1, c1, s2, boosted, hat, hgen, hcl, hex s2 boosted hcl⟩

/-- the same for `claimRewards` of one payment by its holder: it succeeds as soon as the weekly module's
    global energy update for the caller does -/
theorem claim_succeeds_weekly (kind : Kind) (same : Bool) (dsc pb : Nat) (produce : Bool)
    (users : List Nat) (e0 : Nat) (hnd : users.Nodup) (hd : dsc ≠ 0) (ops : List Op) (hg : GoodOps ops)
    (u n a : Nat) :
    let s := run (init kind same dsc pb produce users e0) ops
    s.active = true → a ≠ 0 → a ≤ s.hold u n →
    ∀ W, s.week = some W →
      (Weekly.updateUserEnergyForCurrentWeek s.w W (Weekly.Energy.queried (s.energy u) s.epoch)
        (s.w.progress u)).isSome = true →
      (step s (.claim u none [(n, a)])).isSome = true := by
  intro s hact ha hle W hW h1
  obtain ⟨s1, c1, hgen, hex⟩ :=
    Mx.C05Cover.claim_succeeds kind same dsc pb produce users e0 hnd hd ops u n a hact ha hle
  have hb := endpoint_boosted_claim_succeeds kind same dsc pb produce users e0 hnd ops hg u hgen W hW h1
  obtain ⟨⟨s2, boosted⟩, hcl⟩ := Option.isSome_iff_exists.mp hb
  exact hex s2 boosted hcl

/-- the history of the non-vacuity example: two users with energy (1 : 3) and positions (1000 : 3000)
    farm through week 1 (pool of week 1: 2500); in week 2 user 1 claims, which FREEZES week 1 and pays
    user 1's share 623 -/
def twoClaimers : List Op :=
  [.setFactors OWNER ⟨10, 3, 2, 1, 1⟩, .setPct OWNER 2500, .setEnergy 1 1000000 0 1000,
   .setEnergy 2 3000000 0 1000, .enter 1 none 1000 [], .enter 2 none 3000 [], .advance 10 6,
   .claim 1 none [(1, 1000)], .advance 20 7, .claim 1 none [(3, 1000)]]

/-- non-vacuity (closed, by `decide`): `GoodOps` holds for the history; in the reached state week 1 is
    frozen with `R = 2500`, `remaining + paid = 1877 + 623 = R`, user 2 is the only claimer left, the
    weekly module's update for user 2 succeeds, so (by `weekly_pool_sub_never_underflows`) user 2's claim
    succeeds — it pays 1876 ≤ 1877 and leaves 1 in the pool: `remaining + paid = 1 + 2499 = R` again. -/
example :
    let s := run (init .mint false 1000000000000 1000 true [1, 2] 0) twoClaimers
    twoClaimers.all goodOp = true ∧
    s.week = some 2 ∧ s.w.totalRewards 1 = [(REW, 2500)] ∧ s.b.remaining 1 = 1877 ∧ s.b.paidW 1 = 623 ∧
    s.b.farmSupplyWeek 1 = 4000 ∧ s.w.totalEnergy 1 = 3994000 ∧ s.w.users = [1, 2] ∧
    (s.w.users.map fun v => fFor s.w.progress s.userTotal v 1).sum = 3000 ∧
    (Weekly.updateUserEnergyForCurrentWeek s.w 2 (Weekly.Energy.queried (s.energy 2) s.epoch)
      (s.w.progress 2)).isSome = true ∧
    (claimBoostedYields s 2).map (·.2) = some 1876 ∧
    (step s (.claim 2 none [(2, 3000)])).map (fun r => (r.1.b.remaining 1, r.1.b.paidW 1)) =
      some (1, 2499) := by
  decide

/-- **the weekly module's global energy update never fails** in a reachable farm state, for any user and
    any current energy: the checked subtractions of `shift_buckets_and_update_tokens_energy`,
    `reallocate_bucket_after_energy_update`, the two `update_and_get_total_…_amounts_after_user_energy_update`
    and the two week-order `require!`s are discharged from the lot invariant `GInv` and
    `lastGlobalUpdateWeek ≤ current week` (Lemmas/WeeklyLive.lean); the factors play no role here. -/
theorem weekly_update_never_fails (kind : Kind) (same : Bool) (dsc pb : Nat) (produce : Bool)
    (users : List Nat) (e0 : Nat) (hnd : users.Nodup) (ops : List Op) (hg : GoodOps ops) (u : Nat)
    (cur : Weekly.Energy) :
    let s := run (init kind same dsc pb produce users e0) ops
    ∀ W, s.week = some W →
      (Weekly.updateUserEnergyForCurrentWeek s.w W cur (s.w.progress u)).isSome = true := by
  intro s W hW
  exact weekly_update_ok (reachable_paidInv kind same dsc pb produce users e0 hnd ops W hW)
    (reachable_winv kind same dsc pb produce users e0 ops) u cur

/-- **the boosted claim of any user succeeds in every reachable state** (`weekly_pool_sub_never_underflows`
    with its hypothesis discharged) -/
theorem boosted_claim_always_succeeds (kind : Kind) (same : Bool) (dsc pb : Nat) (produce : Bool)
    (users : List Nat) (e0 : Nat) (hnd : users.Nodup) (ops : List Op) (hg : GoodOps ops) (u : Nat) :
    let s := run (init kind same dsc pb produce users e0) ops
    (claimBoostedYields s u).isSome = true := by
  intro s
  obtain ⟨W, hW⟩ := (reachable_weekPos kind same dsc pb produce users e0 hnd ops).week
  exact claimBoostedYields_ok (reachable_paidInv kind same dsc pb produce users e0 hnd ops W hW)
    (reachable_winv kind same dsc pb produce users e0 ops)
    (reachable_weekPos kind same dsc pb produce users e0 hnd ops) u

/-- **every position's principal is withdrawable**: in every reachable state of an active farm (both
    kinds), whoever holds `a > 0` of position `n` can exit with it — NO internal counter, guard or checked
    subtraction of `exitFarm` (farm, boosted-yields and weekly-rewards modules included) can fail.
    Hypotheses: distinct accounts, `dsc ≠ 0`, and `GoodOps` (every installed factor set has
    `cE + cF ≠ 0`). -/
theorem exit_always_succeeds (kind : Kind) (same : Bool) (dsc pb : Nat) (produce : Bool)
    (users : List Nat) (e0 : Nat) (hnd : users.Nodup) (hd : dsc ≠ 0) (ops : List Op) (hg : GoodOps ops)
    (u n a : Nat) :
    let s := run (init kind same dsc pb produce users e0) ops
    s.active = true → a ≠ 0 → a ≤ s.hold u n → (exitFarm s u none n a).isSome = true := by
  intro s hact ha hle
  obtain ⟨W, hG⟩ := Plain.reachable_good kind same dsc pb produce users e0 hnd hd ops
  exact exitFarm_gen_always (opt := none) hG rfl hact ha hle

/-- the same for `claimRewards` of one payment by its holder -/
theorem claim_always_succeeds (kind : Kind) (same : Bool) (dsc pb : Nat) (produce : Bool)
    (users : List Nat) (e0 : Nat) (hnd : users.Nodup) (hd : dsc ≠ 0) (ops : List Op) (hg : GoodOps ops)
    (u n a : Nat) :
    let s := run (init kind same dsc pb produce users e0) ops
    s.active = true → a ≠ 0 → a ≤ s.hold u n → (claimRewards s u none [(n, a)]).isSome = true := by
  intro s hact ha hle
  obtain ⟨W, hG⟩ := Plain.reachable_good kind same dsc pb produce users e0 hnd hd ops
  exact claimRewards_list_always hG (Or.inl rfl) hact (List.cons_ne_nil _ _) (hG.pays_single.mpr ⟨ha, hle⟩)

/-- the full clause of C05 ("every position's principal is withdrawable and no legitimate … exit fails
    because an internal counter would go negative") under factor validation: `C05Cover.no_underflow_full`
    with the additional hypothesis `GoodOps ops` -/
def no_underflow_full_good : Prop :=
  ∀ (kind : Kind) (same : Bool) (dsc pb : Nat) (produce : Bool) (users : List Nat) (e0 : Nat)
    (ops : List Op), users.Nodup → dsc ≠ 0 → GoodOps ops →
    let s := run (init kind same dsc pb produce users e0) ops
    ∀ u n a, u ∈ s.users → s.active = true → a ≠ 0 → a ≤ s.hold u n → (exitFarm s u none n a).isSome

/-- **no_underflow_full, PROVED under factor validation** -/
theorem no_underflow_full_good_holds : no_underflow_full_good := by
  intro kind same dsc pb produce users e0 ops hnd hd hg s u n a _ hact ha hle
  exact exit_always_succeeds kind same dsc pb produce users e0 hnd hd ops hg u n a hact ha hle

/-- Finding F7 and its repair.  A `setBoostedYieldsFactors` that accepts
    `user_rewards_energy_const = user_rewards_farm_const = 0` (checking only the two minima) makes
    `get_user_rewards_for_week` divide by `cE + cF = 0`, and every claim / exit of a user who passes the
    minima against a non-empty pool aborts (history of `f7_history_repaired` below).
    /repo e29f08e makes the endpoint reject such factors; the model follows
    (`Farm.setFactors`: `req (0 < f.cE ∨ 0 < f.cF)`), so a `setFactors` that violates `GoodOps` is a failed
    transaction: -/
theorem setFactors_bad_fails (s : St) (c : Nat) (f : Factors) (h : f.cE + f.cF = 0) :
    step s (.setFactors c f) = none := by
  cases hs : step s (.setFactors c f) with
  | none => rfl
  | some r =>
    have := (setFactors_some (step_some (show step s (.setFactors c f) = some (r.1, r.2) from hs)).1).2.2.1
    omega

/-- failed transactions leave no trace, so every history is equivalent to its `GoodOps` part -/
theorem run_filter_good (ops : List Op) (s : St) : run s ops = run s (ops.filter goodOp) := by
  induction ops generalizing s with
  | nil => rfl
  | cons op rest ih =>
    cases hg : goodOp op with
    | true =>
      simp only [List.filter_cons, hg, if_true]
      simp only [run, List.foldl_cons]
      exact ih _
    | false =>
      simp only [List.filter_cons, hg]
      cases op with
      | setFactors c f =>
        have hz : f.cE + f.cF = 0 := by
          simp only [goodOp, decide_eq_false_iff_not, Decidable.not_not] at hg
          exact hg
        have : run s (Op.setFactors c f :: rest) = run s rest := by
          simp only [run, List.foldl_cons, setFactors_bad_fails s c f hz]
        rw [this]
        exact ih s
      | _ => simp [goodOp] at hg

/-- **no_underflow_full, PROVED for ALL histories** (the clause of C05 as literally stated in
    `C05Cover.no_underflow_full`): in every reachable state of an active farm, whoever holds (part of) a
    position can exit with it. -/
theorem no_underflow_full_holds : Mx.C05Cover.no_underflow_full := by
  intro kind same dsc pb produce users e0 ops hnd hd
  have hg : GoodOps (ops.filter goodOp) :=
    goodOps_of_all (List.all_eq_true.mpr fun x hx => (List.mem_filter.mp hx).2)
  have := no_underflow_full_good_holds kind same dsc pb produce users e0 (ops.filter goodOp) hnd hd hg
  simp only [← run_filter_good] at this
  exact this

/-- the F7 history (corpus/farm/f7_zero_reward_constants.ops): the zero-constant configuration is rejected,
    the farm stays without boosted factors and user 1 exits in week 2 with everything -/
theorem f7_history_repaired :
    let ops := [Op.setFactors OWNER ⟨10, 0, 0, 1, 1⟩, .setPct OWNER 2500, .setEnergy 1 1000000 0 1000,
      .enter 1 none 100000000 [], .advance 10 6, .claim 1 none [(1, 100000000)], .advance 20 7]
    let s := run (init .mint false 1000000000000 1000 true [1, 2] 0) ops
    step (init .mint false 1000000000000 1000 true [1, 2] 0) (.setFactors OWNER ⟨10, 0, 0, 1, 1⟩) = none ∧
    (exitFarm s 1 none 2 100000000).isSome = true := by
  decide

/-- non-vacuity of `exit_always_succeeds` (closed): the two-claimers history satisfies `GoodOps`; user 2
    holds position 2 (3000) in an active farm and exits with all of it, being paid the boosted share 1876
    of week 1 on the way -/
example :
    let s := run (init .mint false 1000000000000 1000 true [1, 2] 0) twoClaimers
    twoClaimers.all goodOp = true ∧ s.active = true ∧ s.hold 2 2 = 3000 ∧
    (exitFarm s 2 none 2 3000).map (fun r => (r.2.farming, r.2.boosted)) = some (3000, 1876) := by
  decide

end Mx.C05Budget
