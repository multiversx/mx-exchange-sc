/-
  KWeek — the model's week arithmetic (`Core/Weekly.lean` `weekOf`, used by the farm, staking and
  fees-collector models through `St.week`) computes what the SOURCE of
  `energy-integration/common-modules/week-timekeeping/src/lib.rs` computes.

  `Gen/KWeek.lean` is regenerated on every run by `bin/gen-kernels`.
-/
import MxModel.Gen.KWeek
import MxModel.Lemmas.KTactic
import MxModel.Core.Weekly
import MxModel.Core.Farm

namespace Mx.KWeek
open Mx Mx.Gen Mx.Weekly

theorem get_week_for_epoch_eq (epoch first : Nat) :
    KWeek.get_week_for_epoch epoch first = weekOf epoch first := by
  have hE : EPOCHS_IN_WEEK = 7 := rfl
  k_defs [KWeek.get_week_for_epoch, weekOf, hE]
  grind

theorem get_current_week_eq (epoch first : Nat) :
    KWeek.get_current_week epoch first = weekOf epoch first := by
  cases h : weekOf epoch first <;>
    k_defs [KWeek.get_current_week, get_week_for_epoch_eq, h] <;> try grind

theorem get_current_week_farm (s : Farm.St) :
    KWeek.get_current_week s.epoch s.firstWeekStart = s.week :=
  get_current_week_eq _ _

theorem get_start_epoch_for_week_eq (week first : Nat) :
    KWeek.get_start_epoch_for_week week first =
      if week = 0 then none else some (first + (week - 1) * 7) := by
  k_defs [KWeek.get_start_epoch_for_week]
  grind

theorem get_end_epoch_for_week_eq (week first : Nat) :
    KWeek.get_end_epoch_for_week week first =
      if week = 0 then none else some (first + week * 7 - 1) := by
  k_defs [KWeek.get_end_epoch_for_week, get_start_epoch_for_week_eq]
  grind

theorem week_of_epoch_in_week (w first e a b : Nat)
    (ha : KWeek.get_start_epoch_for_week w first = some a)
    (hb : KWeek.get_end_epoch_for_week w first = some b) (h1 : a ≤ e) (h2 : e ≤ b) :
    KWeek.get_week_for_epoch e first = some w := by
  rw [get_start_epoch_for_week_eq] at ha
  rw [get_end_epoch_for_week_eq] at hb
  by_cases h : w = 0
  · rw [if_pos h] at ha; cases ha
  · rw [if_neg h, Option.some.injEq] at ha hb
    subst ha hb
    have hE : EPOCHS_IN_WEEK = 7 := rfl
    have hf : first ≤ e := by omega
    rw [get_week_for_epoch_eq]
    simp only [weekOf, req, if_pos hf, hE, Option.bind_eq_bind, Option.bind_some, Option.pure_def,
      Option.some.injEq]
    omega

example : KWeek.get_week_for_epoch 20 10 = some 2 := by decide
example : KWeek.get_week_for_epoch 9 10 = none := by decide
example : KWeek.get_start_epoch_for_week 2 10 = some 17 := by decide
example : KWeek.get_end_epoch_for_week 2 10 = some 23 := by decide

end Mx.KWeek
