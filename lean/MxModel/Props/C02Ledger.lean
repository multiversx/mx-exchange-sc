/-
  C02 measured in WALLET BALANCES (per-account ledger, Core/PairLedger.lean) — "no sequence of
  swaps returns more than was put in".

  `walletA l` / `walletB l` = the first / second pool token in the hands of ALL accounts, plain
  or as LOCKED tokens (the `acct=` columns `a + lkA`, `b + lkB`, compared with the real ESDT
  balances after every transaction of the correspondence run).

  A trading history of the ledger = calls by ANY accounts of ANY non-liquidity operation (both
  swap endpoints, `swapNoFeeAndForward`, every configuration change, both clocks), plain
  transfers of pool / LP tokens between accounts, and failed transactions; no faucet (it
  creates tokens) and no add / remove / buy-back (see `C02Mixed.no_profit_needs_constant_liquidity`
  for why those must be excluded).
-/
import MxModel.Lemmas.PairLedgerTrade
import MxModel.Props.C02Mixed

namespace Mx.C02Ledger
open Mx.Pair Mx.PairLedger

/-- **Wallet form, quantitative.**  After any ledger history `before` (anything: liquidity by
    anyone, faucet, transfers) let a trading history `after` happen.  With `(ΔA, ΔB)` the change
    of what all accounts together hold of the two pool tokens (plain + LOCKED) and `(r₁, r₂)` the
    reserves at the start of `after`: `ΔA ≤ r₁`, `ΔB ≤ r₂`, `(r₁ − ΔA)(r₂ − ΔB) ≥ r₁·r₂`, and the
    LP supply is unchanged. -/
theorem wallets_flow_bound (total special : Nat) (adder : Option Nat) (cap : Nat)
    (funds : List (Nat × Nat)) (before after : List LOp)
    (hall : ∀ op ∈ after, isTradeL op = true) :
    let l := runL (initL total special adder cap funds) before
    let l' := runL l after
    let dA : Int := (walletA l' : Int) - walletA l
    let dB : Int := (walletB l' : Int) - walletB l
    l'.p.S = l.p.S ∧ 0 ≤ (l.p.r1 : Int) - dA ∧ 0 ≤ (l.p.r2 : Int) - dB ∧
    (l.p.r1 : Int) * l.p.r2 ≤ ((l.p.r1 : Int) - dA) * ((l.p.r2 : Int) - dB) := by
  intro l l' dA dB
  obtain ⟨eS, f1, f2⟩ := runL_trade after hall l
  obtain ⟨pops, hp⟩ : ∃ pops, l.p = run (init total special adder cap) pops := ⟨_, runL_p before _⟩
  obtain ⟨hi, he, _⟩ := Mx.C02Mixed.reachable_facts total special adder cap pops
  rw [← hp] at hi he
  have hk : l.p.r1 * l.p.r2 ≤ l'.p.r1 * l'.p.r2 := by
    show _ ≤ (runL l after).p.r1 * (runL l after).p.r2
    rw [runL_p after l]
    exact Mx.C02Mixed.trade_run_k hi he _ (pairOps_trade after hall l)
  obtain ⟨b1, b2, hprod⟩ := flow_product _ _ _ _ dA dB f1 f2 hk
  exact ⟨eS, b1, b2, hprod⟩

/-- **Wallet form: no sequence of swaps returns more than was put in.**  Over any trading
    history after any ledger history, the accounts TOGETHER cannot end up holding at least as
    much of both pool tokens (plain + LOCKED) and strictly more of one: whatever one account
    gains another account or the same account paid, the rest went to the reserves and the fee
    sinks.  In particular a single account trading alone (the others idle) cannot profit from any
    sequence of its own swaps, at any fee settings, with any admin changes in between. -/
theorem wallets_no_profit (total special : Nat) (adder : Option Nat) (cap : Nat)
    (funds : List (Nat × Nat)) (before after : List LOp)
    (hall : ∀ op ∈ after, isTradeL op = true) :
    let l := runL (initL total special adder cap funds) before
    let l' := runL l after
    ¬ (walletA l ≤ walletA l' ∧ walletB l ≤ walletB l' ∧
       walletA l + walletB l < walletA l' + walletB l') := by
  intro l l'
  obtain ⟨_, b1, b2, hprod⟩ := wallets_flow_bound total special adder cap funds before after hall
  obtain ⟨pops, hp⟩ : ∃ pops, l.p = run (init total special adder cap) pops := ⟨_, runL_p before _⟩
  obtain ⟨hi, he, _⟩ := Mx.C02Mixed.reachable_facts total special adder cap pops
  rw [← hp] at hi he
  have := flow_no_profit l.p.r1 l.p.r2 _ _ (hi.reserves he) b1 b2 hprod
  intro ⟨g1, g2, g3⟩
  apply this
  simp only [l, l'] at g1 g2 g3
  refine ⟨?_, ?_, ?_⟩ <;> omega

/-- non-vacuity: three accounts; after liquidity by account 0, accounts 1 and 2 trade against
    each other's price moves with a fee change, a LOCKED output, a transfer of pool tokens between
    them and a rejected call in between; together they lose first token and gain second, never
    both. -/
example :
    let l := runL (initL 300 50 none 8 [(5000000, 5000000), (3000000, 3000000), (100000, 100000)])
      [.call 0 (.cfg (.setState .active)), .call 0 (.addLiq 1000000 2000000 1 1)]
    let after : List LOp :=
      [.call 1 (.swapIn .ab 100000 1), .call 0 (.cfg (.setFee 1000 100)), .call 0 (.advance 4),
       .call 0 (.lock true (.setSc .simpleLock)), .call 0 (.lock true (.setDeadline 2)),
       .call 0 (.lock true (.setUnlock 7)), .call 2 (.swapOut .ba 90000 4000),
       .xfer 1 2 .b 50000, .call 2 (.swapIn .ba 120000 1), .call 2 (.swapIn .ab 10 99999999),
       .call 0 (.epoch 3), .call 1 (.swapOut .ab 300000 50000)]
    let l' := runL l after
    (∀ op ∈ after, isTradeL op = true) ∧
    walletA l' < walletA l ∧ walletB l < walletB l' ∧ 0 < sumOf (·.lkA) l'.accts ∧
    (l.p.r1 : Int) * l.p.r2 <
      ((l.p.r1 : Int) - ((walletA l' : Int) - walletA l)) * ((l.p.r2 : Int) - ((walletB l' : Int) - walletB l)) := by
  decide

end Mx.C02Ledger
