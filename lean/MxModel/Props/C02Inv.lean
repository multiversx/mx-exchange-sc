/-
  C02 — the base case of "LP share value never decreases" made part of the reachable invariant,
  so that no theorem needs the side hypothesis "`r₁ = r₂ = 0` when `S = 0`": in every state a history
  can reach, an empty pool has empty reserves and `S² ≤ r₁·r₂`, and K/S² is monotone between ANY two
  points of ANY history.
-/
import MxModel.Lemmas.PairEmpty

namespace Mx.C02Inv
open Mx.Pair

/-- in every state reachable by any history from a freshly deployed pair, a pool without LP
    supply has both reserves equal to 0 (nothing can be put into or left in the reserves except
    through a first deposit, and the last 1000 LP can never be removed) -/
theorem empty_pool_has_empty_reserves (total special : Nat) (adder : Option Nat) (cap : Nat)
    (ops : List Op) :
    let s := run (init total special adder cap) ops
    s.S = 0 → s.r1 = 0 ∧ s.r2 = 0 :=
  (run_empty_sq ops (inv_init total special adder cap) (emptyOK_init total special adder cap)
    (sqLe_init total special adder cap)).1

/-- the first `addLiquidity` on any reachable empty pool mints `min a₁ a₂` LP against reserves
    `(a₁, a₂)`: `S'² ≤ r₁'·r₂'` — `C02.first_deposit_share` without its hypothesis on the reserves -/
theorem first_deposit_share_reachable (total special : Nat) (adder : Option Nat) (cap : Nat)
    (ops : List Op) {s' : St} {a1 a2 m1 m2 : Nat} {o : Out}
    (hS : (run (init total special adder cap) ops).S = 0)
    (h : addLiq (run (init total special adder cap) ops) a1 a2 m1 m2 = some (s', o)) :
    s'.S ^ 2 ≤ s'.r1 * s'.r2 ∧ s'.S = min a1 a2 ∧ s'.r1 = a1 ∧ s'.r2 = a2 := by
  obtain ⟨h1, h2⟩ := empty_pool_has_empty_reserves total special adder cap ops hS
  obtain ⟨_, _, _, _, _, _, rfl⟩ := addLiq_first_spec hS h
  refine ⟨?_, rfl, by simp [h1], by simp [h2]⟩
  simp only [h1, h2, Nat.zero_add]
  exact min_sq_le a1 a2

/-- the `addInitialLiquidity` twin (it can only ever be the first deposit: it requires `S = 0`) -/
theorem first_deposit_share_initial (total special : Nat) (adder : Option Nat) (cap : Nat)
    (ops : List Op) {s' : St} {c a1 a2 : Nat} {o : Out}
    (h : addInitial (run (init total special adder cap) ops) c a1 a2 = some (s', o)) :
    s'.S ^ 2 ≤ s'.r1 * s'.r2 ∧ s'.S = min a1 a2 ∧ s'.r1 = a1 ∧ s'.r2 = a2 := by
  obtain ⟨_, _, _, _, hS, _, _, rfl⟩ := addInitial_spec h
  obtain ⟨h1, h2⟩ := empty_pool_has_empty_reserves total special adder cap ops hS
  refine ⟨?_, rfl, by simp [h1], by simp [h2]⟩
  simp only [h1, h2, Nat.zero_add]
  exact min_sq_le a1 a2

/-- in every state reachable by any history, `S² ≤ r₁·r₂`: every LP unit in existence is backed
    by at least one unit of `√(r₁r₂)` — the first deposit establishes it, every later operation
    (any kind, any fee setting) can only improve `r₁r₂/S²` -/
theorem share_backed_run (total special : Nat) (adder : Option Nat) (cap : Nat) (ops : List Op) :
    let s := run (init total special adder cap) ops
    s.S ^ 2 ≤ s.r1 * s.r2 :=
  (run_empty_sq ops (inv_init total special adder cap) (emptyOK_init total special adder cap)
    (sqLe_init total special adder cap)).2

/-- K/S² monotonicity between any two points of any history, with NO side hypothesis
    (`C02.kS2_mono_run` asks for `0 < S` at the earlier point; on an empty pool the earlier
    `r₁r₂` is 0, which is what `empty_pool_has_empty_reserves` provides) -/
theorem kS2_mono_run_all (total special : Nat) (adder : Option Nat) (cap : Nat)
    (before after : List Op) :
    let s := run (init total special adder cap) before
    let s' := run (init total special adder cap) (before ++ after)
    s.r1 * s.r2 * s'.S ^ 2 ≤ s'.r1 * s'.r2 * s.S ^ 2 := by
  intro s s'
  have hi : Inv s := run_inv before (inv_init total special adder cap)
  have he : EmptyOK s :=
    (run_empty_sq before (inv_init total special adder cap) (emptyOK_init total special adder cap)
      (sqLe_init total special adder cap)).1
  have : s' = run s after := run_append _ _ _
  rw [this]
  exact run_share_all after hi he

/-- non-vacuity: failed swaps / removals on the empty pool leave it empty; both first-deposit paths
    then start at `S² ≤ r₁r₂`, and trading makes the inequality strict -/
example :
    let e := run (init 300 50 none 8) [.cfg (.setState .active), .swapIn .ab 1000 1, .removeLiq 5 1 1]
    let s0 := run e [.addLiq 4000 9000 1 1]
    let s1 := run (init 300 50 (some 2) 8) [.addInitial 2 9000 4000]
    let s2 := run s0 [.swapIn .ab 500 1, .addLiq 700 700 1 1, .removeLiq 300 1 1]
    e.S = 0 ∧ e.r1 = 0 ∧ e.r2 = 0 ∧
    s0.S = 4000 ∧ s0.S ^ 2 ≤ s0.r1 * s0.r2 ∧ s1.S = 4000 ∧ s1.S ^ 2 ≤ s1.r1 * s1.r2 ∧
    s2.S ^ 2 < s2.r1 * s2.r2 ∧ s0.r1 * s0.r2 * s2.S ^ 2 < s2.r1 * s2.r2 * s0.S ^ 2 := by
  decide

end Mx.C02Inv
