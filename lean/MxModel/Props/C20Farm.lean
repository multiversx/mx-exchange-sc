/-
  C20 (farm clause: dex/farm and dex/farm-with-locked-rewards) — quotes equal execution:
  `calculateRewardsForGivenPosition(user, amount, attributes)` versus `claimRewards` (and
  `exitFarm` / `compoundRewards`, which pay the same reward), in the same state.

  Model: Core/Farm.lean — the view is `calcRewards s user amount rpsTok : Option Nat` (of the
  attributes only the token's reward index matters: `FarmTokenAttributes::into_part` keeps it), the
  operations are `claimRewards`, `claimRewardsOnBehalf`, `compoundRewards`, `exitFarm`
  (`claimCore` is the common body of the first three).  `Out.rew` is the reward payment,
  `Out.base + Out.boosted` its ghost split.

  * The theorems hold for ANY number of payments: with several payments the operation pays the
    quote of the FIRST payment (the others are merged into the new token without being paid), so
    the single-payment claim of the property is the case `rest = []`.
  * `user` of the view = the address the operation claims boosted rewards for (`orig`): the caller
    itself, the original caller passed by a whitelisted contract, or the recorded owner
    (`claimRewardsOnBehalf`).
  * The model's view has no "caller must be the contract itself" guard (`require_queried` of the
    Rust view is not modelled: the view is only ever evaluated as a VM query), so there is no
    `reward_view_query_only` here (Props/C20Staking.lean has one).
-/
import MxModel.Lemmas.FarmView

namespace Mx.C20Farm
open Mx.Farm

/-- **exec_implies_quote** (`claimRewards` by the user itself).  A claim never succeeds where its
    quote refuses, and what it pays is the quote: if `claimRewards` with first payment `(n, a)` goes
    through, the view asked for `(user, a, attributes of n)` in that same state answers exactly the
    reward paid (base + boosted). -/
theorem exec_implies_quote {s s' : St} {user n a : Nat} {rest : List (Nat × Nat)} {att : Attr} {o : Out}
    (hat : s.attrs n = some att)
    (hx : claimRewards s user none ((n, a) :: rest) = some (s', o)) :
    calcRewards s user a att.rps = some o.rew ∧ o.rew = o.base + o.boosted := by
  obtain ⟨_, ho, hx⟩ := claimRewards_spec hx
  cases ho
  obtain ⟨att', s1, c1, s2, boosted, hat', hg, hb, h1, h2, h3⟩ := claimCore_reward hx
  rw [hat] at hat'
  simp only [Option.some.injEq] at hat'
  subst hat'
  exact ⟨calcRewards_eq_some.mpr ⟨s1, c1, s2, boosted, hg, hb, h3⟩, by rw [h3, h1, h2]⟩

/-- **quote_eq_exec** (`calculateRewardsForGivenPosition` versus `claimRewards`).  If the view
    returns `q` for `(user, a, attributes of position n)`, a successful `claimRewards` of `a` of
    position `n` by that user in the same state pays exactly `q` in rewards — base plus boosted. -/
theorem quote_eq_exec {s s' : St} {user n a q : Nat} {rest : List (Nat × Nat)} {att : Attr} {o : Out}
    (hat : s.attrs n = some att)
    (hq : calcRewards s user a att.rps = some q)
    (hx : claimRewards s user none ((n, a) :: rest) = some (s', o)) :
    o.rew = q ∧ o.base + o.boosted = q := by
  obtain ⟨h1, h2⟩ := exec_implies_quote hat hx
  rw [hq] at h1
  simp only [Option.some.injEq] at h1
  exact ⟨h1.symm, by rw [← h2]; exact h1.symm⟩

/-- the same for every way `claim_rewards_base` / `compound_rewards_base` is reached
    (`claimRewards` through a whitelisted contract passing the original caller,
    `claimRewardsOnBehalf`, `compoundRewards`): the quote for `orig` — the address whose boosted
    rewards are claimed — is what is paid -/
theorem quote_eq_exec_core {s s' : St} {caller orig n a : Nat} {rest : List (Nat × Nat)} {cmp : Bool}
    {att : Attr} {o : Out} (hat : s.attrs n = some att)
    (hx : claimCore s caller orig ((n, a) :: rest) cmp = some (s', o)) :
    calcRewards s orig a att.rps = some o.rew := by
  obtain ⟨att', s1, c1, s2, boosted, hat', hg, hb, _, _, h3⟩ := claimCore_reward hx
  rw [hat] at hat'
  simp only [Option.some.injEq] at hat'
  subst hat'
  exact calcRewards_eq_some.mpr ⟨s1, c1, s2, boosted, hg, hb, h3⟩

/-- `claimRewards` with an original caller passed by a whitelisted contract -/
theorem quote_eq_exec_orig {s s' : St} {caller orig n a : Nat} {rest : List (Nat × Nat)}
    {att : Attr} {o : Out} (hat : s.attrs n = some att)
    (hx : claimRewards s caller (some orig) ((n, a) :: rest) = some (s', o)) :
    calcRewards s orig a att.rps = some o.rew := by
  obtain ⟨_, ho, hx⟩ := claimRewards_spec hx
  obtain ⟨e, _⟩ | ⟨e, _⟩ := origCaller_spec ho
  · cases e
  · cases e; exact quote_eq_exec_core hat hx

/-- `claimRewardsOnBehalf`: the quote for the recorded owner of the payments -/
theorem quote_eq_exec_on_behalf {s s' : St} {caller n a : Nat} {rest : List (Nat × Nat)}
    {att : Attr} {o : Out} (hat : s.attrs n = some att)
    (hx : claimRewardsOnBehalf s caller ((n, a) :: rest) = some (s', o)) :
    ∃ user, claimOwner s ((n, a) :: rest) = some user ∧ calcRewards s user a att.rps = some o.rew := by
  obtain ⟨user, hu, _, hx⟩ := claimRewardsOnBehalf_spec hx
  exact ⟨user, hu, quote_eq_exec_core hat hx⟩

/-- `compoundRewards` (dex/farm with farming token = reward token) compounds exactly the quote -/
theorem quote_eq_exec_compound {s s' : St} {user n a : Nat} {rest : List (Nat × Nat)}
    {att : Attr} {o : Out} (hat : s.attrs n = some att)
    (hx : compoundRewards s user none ((n, a) :: rest) = some (s', o)) :
    calcRewards s user a att.rps = some o.rew := by
  obtain ⟨_, _, ho, hx⟩ := compoundRewards_spec hx
  cases ho
  exact quote_eq_exec_core hat hx

/-- **`exitFarm` pays the same reward**: the quote for `(user, a, attributes of n)` is the reward
    part of exiting with `a` of position `n` -/
theorem quote_eq_exec_exit {s s' : St} {user n a : Nat} {att : Attr} {o : Out}
    (hat : s.attrs n = some att)
    (hx : exitFarm s user none n a = some (s', o)) :
    calcRewards s user a att.rps = some o.rew ∧ o.rew = o.base + o.boosted := by
  obtain ⟨orig, att', s1, c1, s2, boosted, horig, hat', hg, hb, h1, h2, h3⟩ := exitFarm_reward hx
  simp only [origCaller, Option.some.injEq] at horig
  subst horig
  rw [hat] at hat'
  simp only [Option.some.injEq] at hat'
  subst hat'
  exact ⟨calcRewards_eq_some.mpr ⟨s1, c1, s2, boosted, hg, hb, h3⟩, by rw [h3, h1, h2]⟩

/-- **view_pure.**  Quoting never changes state.  In the model this holds by construction — the view
    is a function `St → … → Option Nat` and returns a number only — although it internally settles
    (`generate`) and runs the user's boosted claim (`claimBoostedYields`), both of which would change
    storage: the theorem spells out that the view's value is the projection of that computation to
    the reward amount, the settled state `s1` / `s2` being discarded.  (On the real contracts the
    harness evaluates the view on a twin world, notes/farm.md.) -/
theorem view_pure (s : St) (user amount rpsTok : Nat) :
    calcRewards s user amount rpsTok =
      (generate s (Cache.read s)).bind fun r1 =>
        (claimBoostedYields r1.1 user).map fun r2 =>
          baseReward r1.1.dsc r1.2.rps amount rpsTok + r2.2 := by
  unfold calcRewards
  cases generate s (Cache.read s) with
  | none => rfl
  | some r1 =>
    obtain ⟨s1, c1⟩ := r1
    simp only [Option.bind_eq_bind, Option.bind_some]
    cases claimBoostedYields s1 user with
    | none => rfl
    | some r2 => rfl

/-- a quote is a function of the state: asking twice (or asking, then executing) sees the same state,
    so a successful claim after any number of quotes still pays the first quote -/
theorem quote_then_exec {s s' : St} {user n a q : Nat} {att : Attr} {o : Out}
    (hat : s.attrs n = some att)
    (hq1 : calcRewards s user a att.rps = some q)
    (hx : claimRewards s user none [(n, a)] = some (s', o)) :
    calcRewards s user a att.rps = some q ∧ o.rew = q :=
  ⟨hq1, (quote_eq_exec hat hq1 hx).1⟩

/-- non-vacuity (corpus history f1, second week, boosted pool 2500 pending, 10 more blocks to
    settle): the view promises base 7500 + boosted 2500, `claimRewards` and `exitFarm` pay exactly
    that, and the view left the state alone (the claim still finds everything unsettled) -/
example :
    let s := run (init .mint false 1000000000000 1000 true [1, 2] 0)
      [.setFactors OWNER ⟨10, 3, 2, 1, 1⟩, .setPct OWNER 2500, .setEnergy 1 1000000 0 1000,
       .enter 1 none 100000000 [], .advance 10 6, .claim 1 none [(1, 100000000)], .advance 20 7]
    (s.attrs 2).map (·.rps) = some 75000000 ∧
    calcRewards s 1 100000000 75000000 = some 10000 ∧
    (claimRewards s 1 none [(2, 100000000)]).map (fun r => (r.2.rew, r.2.base, r.2.boosted))
      = some (10000, 7500, 2500) ∧
    (exitFarm s 1 none 2 100000000).map (fun r => (r.2.rew, r.2.base, r.2.boosted))
      = some (10000, 7500, 2500) := by
  decide

end Mx.C20Farm
