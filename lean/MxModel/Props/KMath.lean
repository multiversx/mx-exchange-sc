/-
  KMath — the model's shared arithmetic (`Core/Arith.lean`) computes what the SOURCE of
  `common/modules/math/src/lib.rs` computes.

  `Gen/KMath.lean` is regenerated on every run by `bin/gen-kernels` from the Rust text, and the
  theorems below are re-checked against the regenerated text.  Each one gives the EXACT
  abort condition of the source function and, outside it, the model function it equals:

  * `linear_interpolation`      = `linInterp`            (aborts outside `[min_in, max_in]` and on
                                                          `min_in = max_in`: division by zero)
  * `weighted_average`          = `weightedAvg`          (aborts on a zero weight sum)
  * `weighted_average_round_up` = `weightedAvgRoundUp`   (aborts on a zero weight sum)
  * `safe_sub`                  = truncated subtraction  (never aborts)
-/
import MxModel.Gen.KMath
import MxModel.Lemmas.KTactic

namespace Mx.KMath
open Mx Mx.Gen

theorem linear_interpolation_eq (minIn maxIn curIn minOut maxOut : Nat) :
    KMath.linear_interpolation minIn maxIn curIn minOut maxOut =
      if curIn < minIn ∨ maxIn < curIn ∨ maxIn = minIn then none
      else some (linInterp minIn maxIn curIn minOut maxOut) := by
  k_defs [KMath.linear_interpolation, linInterp]
  grind

theorem linear_interpolation_some (minIn maxIn curIn minOut maxOut : Nat)
    (h1 : minIn ≤ curIn) (h2 : curIn ≤ maxIn) (h3 : minIn < maxIn) :
    KMath.linear_interpolation minIn maxIn curIn minOut maxOut =
      some (linInterp minIn maxIn curIn minOut maxOut) := by
  rw [linear_interpolation_eq, if_neg (by omega)]

theorem linear_interpolation_out_of_range (minIn maxIn curIn minOut maxOut : Nat)
    (h : curIn < minIn ∨ maxIn < curIn) :
    KMath.linear_interpolation minIn maxIn curIn minOut maxOut = none := by
  rw [linear_interpolation_eq, if_pos (by omega)]

theorem weighted_average_eq (v1 w1 v2 w2 : Nat) :
    KMath.weighted_average v1 w1 v2 w2 =
      if w1 + w2 = 0 then none else some (weightedAvg v1 w1 v2 w2) := by
  k_defs [KMath.weighted_average, weightedAvg]
  try grind

/-- on a zero weight sum the source aborts because its `- 1` underflows: the weighted sum is 0 as well -/
theorem weighted_average_round_up_eq (v1 w1 v2 w2 : Nat) :
    KMath.weighted_average_round_up v1 w1 v2 w2 =
      if w1 + w2 = 0 then none else some (weightedAvgRoundUp v1 w1 v2 w2) := by
  k_defs [KMath.weighted_average_round_up, weightedAvgRoundUp, ceilDiv]
  grind

theorem safe_sub_eq (a b : Nat) : KMath.safe_sub a b = some (a - b) := by
  k_defs [KMath.safe_sub]
  grind

theorem round_up_ge_floor (v1 w1 v2 w2 r u : Nat)
    (hr : KMath.weighted_average v1 w1 v2 w2 = some r)
    (hu : KMath.weighted_average_round_up v1 w1 v2 w2 = some u) : r ≤ u ∧ u ≤ r + 1 := by
  rw [weighted_average_eq] at hr
  rw [weighted_average_round_up_eq] at hu
  by_cases h : w1 + w2 = 0
  · rw [if_pos h] at hr; cases hr
  · rw [if_neg h, Option.some.injEq] at hr hu
    subst hr hu
    simp only [weightedAvg, weightedAvgRoundUp, ceilDiv]
    generalize v1 * w1 + v2 * w2 = x
    generalize hw : w1 + w2 = w at h
    have hpos : 0 < w := by omega
    constructor
    · exact Nat.div_le_div_right (by omega)
    · have : (x + w - 1) / w ≤ (x + w) / w := Nat.div_le_div_right (by omega)
      rw [Nat.add_div_right x hpos] at this
      exact this

example : KMath.linear_interpolation 10 20 15 100 200 = some 150 := by decide
example : KMath.linear_interpolation 10 10 10 100 200 = none := by decide
example : KMath.weighted_average_round_up 1 1 2 1 = some 2 := by decide
example : KMath.weighted_average 1 1 2 1 = some 1 := by decide
example : KMath.safe_sub 3 5 = some 0 := by decide

end Mx.KMath
