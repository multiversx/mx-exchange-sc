/-
  C19 — authorisation and pause: ARBITRARY ROLE ASSIGNMENT.

  The table theorems of Props/C19.lean speak about the deployment of the matrix world (`deployed c`).  This file is
  about the permission bit-set machine (`common/modules/permissions_module`: OWNER | ADMIN | PAUSE per address) and the
  pausable machine (`common/modules/pausable`) started from ANY permission assignment `s0 : PermSt` — whatever `init`
  or an upgrade wrote — and run through ANY history of `addAdmin / removeAdmin / addToPauseWhitelist /
  removeFromPauseWhitelist / updateOwnerOrAdmin` (and `pause / resume / setStateActiveNoSwaps`) calls by any callers.

  Reading of the Rust (permissions_module.rs, pausable.rs), as transcribed in Core/Access.lean:
    addAdmin, removeAdmin, addToPauseWhitelist, removeFromPauseWhitelist   `require_caller_has_owner_permissions`
                                                                           (OWNER bit of the caller; ADMIN is not enough)
    updateOwnerOrAdmin(prev)      `#[only_owner]` (blockchain-level owner); permissions(prev) are MOVED to the caller:
                                  `prev` is cleared and the caller's own bit-set is OVERWRITTEN (not united)
    pause, resume                 PAUSE bit;     setStateActiveNoSwaps (pair)   OWNER bit
  There is no other writer of the permission storage after `init` (`set_permissions`, `add_permissions_for_all` are
  internal functions called from `init` only): that is the arbitrary initial assignment `s0`.

  The vocabulary of the statements — `PermOp.effect s o a b` (what a successful `o` run in state `s` does to bit `b` of
  address `a`), `PermSt.Untouched` / `noSet`, `PermSt.Granted` — is defined in Lemmas/AccessPermRun.lean.
-/
import MxModel.Lemmas.AccessPermRun
import MxModel.Props.C19

namespace Mx.C19Perm
open Mx.Access

-- the contract owner is well defined

/-- No permission operation, successful or not, by anybody, changes who the blockchain-level owner of the contract is:
    "the contract owner" means the same account before and after every history. -/
theorem perm_contract_owner_constant (s0 : PermSt) (ops : List PermOp) : (s0.run ops).scOwner = s0.scOwner :=
  PermSt.run_scOwner s0 ops

-- one operation: exact effect, and who is behind a grant

/-- Exact effect of one successful operation, for every address and every bit, from every state: the bit becomes
    what `effect` says (granted / revoked), and is unchanged when `effect` says nothing. -/
theorem perm_step_effect {s s' : PermSt} {o : PermOp} (h : s.step o = some s') (a : Addr) (b : Bit) :
    (s'.perms a).get b = (o.effect s a b).getD ((s.perms a).get b) :=
  PermSt.step_get h a b

/-- Who is behind a grant, in every state: bit `b` of `a` is granted only by `addAdmin` (ADMIN) or
    `addToPauseWhitelist` (PAUSE) from a caller holding the OWNER bit at that moment — ADMIN or PAUSE do not suffice —
    or by the contract owner itself taking over, through `updateOwnerOrAdmin`, the bit-set of another address that holds
    the bit at that moment.  In particular nobody but the contract owner ever GAINS the OWNER bit. -/
theorem perm_grant_needs_authority {s s' : PermSt} {o : PermOp} (h : s.step o = some s') {a : Addr} {b : Bit}
    (he : o.effect s a b = some true) :
    (∃ c, o = .addAdmin c a ∧ b = .admin ∧ (s.perms c).owner = true) ∨
    (∃ c, o = .addPause c a ∧ b = .pause ∧ (s.perms c).owner = true) ∨
    (∃ prev, o = .updateOwnerOrAdmin a prev ∧ a = s.scOwner ∧ prev ≠ a ∧ (s.perms prev).get b = true) :=
  PermSt.grant_cases h he

-- every history from every initial assignment: last relevant operation wins

/-- LAST RELEVANT OPERATION WINS (both directions, grant and revoke alike).  From any initial assignment `s0`, after
    any history `ops`, bit `b` of address `a` has value `v` if and only if
      either it had value `v` at the start and no successful operation of the history set it to `!v`,
      or some successful operation of the history set it to `v` and no successful operation after it set it to `!v`.
    With `v = true`: a permission held at the end was held from the start and never revoked, or was granted and not
    revoked afterwards.  With `v = false`: a permission is absent at the end iff it was never there and never granted,
    or the last successful operation touching it was a revocation. -/
theorem perm_bit_last_op_wins (s0 : PermSt) (ops : List PermOp) (a : Addr) (b : Bit) (v : Bool) :
    ((s0.run ops).perms a).get b = v ↔
      ((s0.perms a).get b = v ∧ s0.Untouched (!v) a b ops) ∨
      ∃ pre o post s', ops = pre ++ o :: post ∧ (s0.run pre).step o = some s' ∧
        o.effect (s0.run pre) a b = some v ∧ s'.Untouched (!v) a b post := by
  simp only [← PermSt.noSet_iff]
  exact PermSt.run_get_iff s0 ops a b v

/-- the same with the decidable replay `noSet` (what the closed examples below evaluate) -/
theorem perm_bit_last_op_wins_dec (s0 : PermSt) (ops : List PermOp) (a : Addr) (b : Bit) (v : Bool) :
    ((s0.run ops).perms a).get b = v ↔
      ((s0.perms a).get b = v ∧ PermSt.noSet (!v) a b s0 ops = true) ∨
      ∃ pre o post s', ops = pre ++ o :: post ∧ (s0.run pre).step o = some s' ∧
        o.effect (s0.run pre) a b = some v ∧ PermSt.noSet (!v) a b s' post = true :=
  PermSt.run_get_iff s0 ops a b v

/-- the decidable replay means what it should: `noSet v a b s ops` iff no successful operation of the history, run from
    `s`, has effect `some v` on bit `b` of `a` -/
theorem perm_noSet_meaning (v : Bool) (a : Addr) (b : Bit) (s : PermSt) (ops : List PermOp) :
    PermSt.noSet v a b s ops = true ↔
      ∀ pre o post s', ops = pre ++ o :: post → (s.run pre).step o = some s' → o.effect (s.run pre) a b ≠ some v :=
  PermSt.noSet_iff v a b s ops

/-- Revocation is effective for good: if a successful operation of the history revokes bit `b` of `a` (`removeAdmin`,
    `removeFromPauseWhitelist`, or an `updateOwnerOrAdmin` that clears / overwrites it) and no successful operation
    after it grants the bit again, the bit is clear at the end — whatever else happens in between. -/
theorem perm_revoked_stays_revoked (s0 : PermSt) (pre post : List PermOp) (o : PermOp) (s' : PermSt) (a : Addr) (b : Bit)
    (hstep : (s0.run pre).step o = some s') (hrev : o.effect (s0.run pre) a b = some false)
    (hno : s'.Untouched true a b post) : ((s0.run (pre ++ o :: post)).perms a).get b = false :=
  (perm_bit_last_op_wins s0 (pre ++ o :: post) a b false).mpr (Or.inr ⟨pre, o, post, s', rfl, hstep, hrev, hno⟩)

/-- … and a grant lasts exactly until the next successful revocation: granted and not revoked afterwards means held
    at the end. -/
theorem perm_granted_stays_granted (s0 : PermSt) (pre post : List PermOp) (o : PermOp) (s' : PermSt) (a : Addr) (b : Bit)
    (hstep : (s0.run pre).step o = some s') (hgr : o.effect (s0.run pre) a b = some true)
    (hno : s'.Untouched false a b post) : ((s0.run (pre ++ o :: post)).perms a).get b = true :=
  (perm_bit_last_op_wins s0 (pre ++ o :: post) a b true).mpr (Or.inr ⟨pre, o, post, s', rfl, hstep, hgr, hno⟩)

-- provenance

/-- PROVENANCE.  From any initial assignment, after any history: an address holds a permission bit only if it held it
    at the start, or a successful operation of the history granted it and the caller of that operation was authorised
    AT THE TIME IT RAN (held OWNER in the state the operation ran in, or is the contract owner). -/
theorem perm_bit_provenance (s0 : PermSt) (ops : List PermOp) (a : Addr) (b : Bit)
    (h : ((s0.run ops).perms a).get b = true) :
    (s0.perms a).get b = true ∨
    ∃ pre o post s', ops = pre ++ o :: post ∧ (s0.run pre).step o = some s' ∧
      o.effect (s0.run pre) a b = some true ∧
      (((s0.run pre).perms o.caller).owner = true ∨ o.caller = s0.scOwner) :=
  PermSt.run_provenance s0 ops a b h

/-- Provenance with the granting operation spelled out: held at the start, or `addAdmin c a` / `addToPauseWhitelist c a`
    occurs in the history at a point where `c` held OWNER, or `a` is the contract owner and an `updateOwnerOrAdmin a prev`
    occurs at a point where `prev` held the bit. -/
theorem perm_bit_provenance_explicit (s0 : PermSt) (ops : List PermOp) (a : Addr) (b : Bit)
    (h : ((s0.run ops).perms a).get b = true) :
    (s0.perms a).get b = true ∨
    (∃ pre c post, ops = pre ++ .addAdmin c a :: post ∧ b = .admin ∧ ((s0.run pre).perms c).owner = true) ∨
    (∃ pre c post, ops = pre ++ .addPause c a :: post ∧ b = .pause ∧ ((s0.run pre).perms c).owner = true) ∨
    (∃ pre prev post, ops = pre ++ .updateOwnerOrAdmin a prev :: post ∧ a = s0.scOwner ∧ prev ≠ a ∧
        ((s0.run pre).perms prev).get b = true) := by
  rcases PermSt.run_provenance s0 ops a b h with h0 | ⟨pre, o, post, s', h1, h2, h3, _⟩
  · exact Or.inl h0
  · rcases PermSt.grant_cases h2 h3 with ⟨c, hc1, hc2, hc3⟩ | ⟨c, hc1, hc2, hc3⟩ | ⟨prev, hc1, hc2, hc3, hc4⟩
    · subst hc1; exact Or.inr (Or.inl ⟨pre, c, post, h1, hc2, hc3⟩)
    · subst hc1; exact Or.inr (Or.inr (Or.inl ⟨pre, c, post, h1, hc2, hc3⟩))
    · subst hc1
      rw [PermSt.run_scOwner] at hc2
      exact Or.inr (Or.inr (Or.inr ⟨pre, prev, post, h1, hc2, hc3, hc4⟩))

/-- ADMIN bit: held at the start, granted by `addAdmin` from a caller holding OWNER at that moment, or moved to the
    contract owner from an address that was an admin at that moment. -/
theorem perm_admin_provenance (s0 : PermSt) (ops : List PermOp) (a : Addr)
    (h : ((s0.run ops).perms a).admin = true) :
    (s0.perms a).admin = true ∨
    (∃ pre c post, ops = pre ++ .addAdmin c a :: post ∧ ((s0.run pre).perms c).owner = true) ∨
    (∃ pre prev post, ops = pre ++ .updateOwnerOrAdmin a prev :: post ∧ a = s0.scOwner ∧ prev ≠ a ∧
        ((s0.run pre).perms prev).admin = true) := by
  rcases perm_bit_provenance_explicit s0 ops a .admin h with h0 | ⟨p, c, q, h1, _, h3⟩ | ⟨_, _, _, _, hb, _⟩ | h4
  · exact Or.inl h0
  · exact Or.inr (Or.inl ⟨p, c, q, h1, h3⟩)
  · cases hb
  · exact Or.inr (Or.inr h4)

/-- PAUSE bit: held at the start, granted by `addToPauseWhitelist` from a caller holding OWNER at that moment, or moved
    to the contract owner from an address that held it at that moment. -/
theorem perm_pause_provenance (s0 : PermSt) (ops : List PermOp) (a : Addr)
    (h : ((s0.run ops).perms a).pause = true) :
    (s0.perms a).pause = true ∨
    (∃ pre c post, ops = pre ++ .addPause c a :: post ∧ ((s0.run pre).perms c).owner = true) ∨
    (∃ pre prev post, ops = pre ++ .updateOwnerOrAdmin a prev :: post ∧ a = s0.scOwner ∧ prev ≠ a ∧
        ((s0.run pre).perms prev).pause = true) := by
  rcases perm_bit_provenance_explicit s0 ops a .pause h with h0 | ⟨_, _, _, _, hb, _⟩ | ⟨p, c, q, h1, _, h3⟩ | h4
  · exact Or.inl h0
  · cases hb
  · exact Or.inr (Or.inl ⟨p, c, q, h1, h3⟩)
  · exact Or.inr (Or.inr h4)

/-- OWNER bit: held at the start, or `a` is the contract owner and took it over, by `updateOwnerOrAdmin`, from an address
    that held it at that moment.  No endpoint grants OWNER to anybody else. -/
theorem perm_owner_provenance (s0 : PermSt) (ops : List PermOp) (a : Addr)
    (h : ((s0.run ops).perms a).owner = true) :
    (s0.perms a).owner = true ∨
    (∃ pre prev post, ops = pre ++ .updateOwnerOrAdmin a prev :: post ∧ a = s0.scOwner ∧ prev ≠ a ∧
        ((s0.run pre).perms prev).owner = true) := by
  rcases perm_bit_provenance_explicit s0 ops a .owner h with h0 | ⟨_, _, _, _, hb, _⟩ | ⟨_, _, _, _, hb, _⟩ | h4
  · exact Or.inl h0
  · cases hb
  · cases hb
  · exact Or.inr h4

/-- The OWNER bit is never minted.  After any history, whoever holds OWNER held it in the initial assignment, or is the
    contract owner — and then somebody held it in the initial assignment.  So the set of accounts that can ever
    grant or revoke anything is contained in {initial OWNER holders} ∪ {contract owner}, for every history. -/
theorem perm_owner_never_minted (s0 : PermSt) (ops : List PermOp) (a : Addr)
    (h : ((s0.run ops).perms a).owner = true) :
    (s0.perms a).owner = true ∨ (a = s0.scOwner ∧ ∃ p, (s0.perms p).owner = true) := by
  refine (Run.invariant PermSt.run_def (s := s0) (ops := ops)
    (P := fun t : PermSt => t.scOwner = s0.scOwner ∧ ∀ a, (t.perms a).owner = true →
      (s0.perms a).owner = true ∨ (a = s0.scOwner ∧ ∃ p, (s0.perms p).owner = true))
    ?_ ⟨rfl, fun _ => Or.inl⟩).2 a h
  rintro t o t1 ⟨hsc, ih⟩ hst
  refine ⟨(PermSt.step_scOwner hst).trans hsc, fun a h => ?_⟩
  have hg : (t1.perms a).owner = (o.effect t a .owner).getD (t.perms a).owner := PermSt.step_get hst a .owner
  rw [hg] at h
  cases he : o.effect t a .owner with
  | none => rw [he] at h; exact ih a h
  | some w =>
    rw [he] at h
    cases (h : w = true)
    rcases PermSt.grant_cases hst he with ⟨_, _, hb, _⟩ | ⟨_, _, hb, _⟩ | ⟨prev, _, hsc', _, hp⟩
    · cases hb
    · cases hb
    · refine Or.inr ⟨hsc'.trans hsc, ?_⟩
      rcases ih prev hp with h6 | ⟨_, h6⟩
      · exact ⟨prev, h6⟩
      · exact h6

/-- Without an OWNER holder in the initial assignment nothing can be created: a bit that no address holds at the start
    is held by no address after any history (the contract owner's `updateOwnerOrAdmin` only MOVES bit-sets).  In
    particular an assignment without any OWNER never gets one. -/
theorem perm_bits_only_moved (s0 : PermSt) (hown : ∀ x, (s0.perms x).owner = false) (b : Bit)
    (hb : ∀ x, (s0.perms x).get b = false) (ops : List PermOp) (x : Addr) : ((s0.run ops).perms x).get b = false := by
  refine (Run.invariant PermSt.run_def (s := s0) (ops := ops)
    (P := fun t : PermSt => (∀ x, (t.perms x).get .owner = false) ∧ ∀ x, (t.perms x).get b = false) ?_ ⟨hown, hb⟩).2 x
  rintro t o t1 ⟨ho, hb⟩ hst
  -- a bit nobody holds in `t`, where nobody holds OWNER either, cannot be granted by `o`
  have key : ∀ b', (∀ x, (t.perms x).get b' = false) → ∀ x, (t1.perms x).get b' = false := by
    intro b' hb' x
    rw [PermSt.step_get hst x b']
    cases he : o.effect t x b' with
    | none => exact hb' x
    | some w =>
      cases w with
      | false => rfl
      | true =>
        rcases PermSt.grant_cases hst he with ⟨d, _, _, hd⟩ | ⟨d, _, _, hd⟩ | ⟨pv, _, _, _, hd⟩
        · exact absurd ((ho d).symm.trans hd) Bool.false_ne_true
        · exact absurd ((ho d).symm.trans hd) Bool.false_ne_true
        · exact absurd ((hb' pv).symm.trans hd) Bool.false_ne_true
  exact ⟨key .owner ho, key b hb⟩

/-- Generalisation of `C19.perm_guard_sound` from the matrix deployment to an arbitrary assignment and history: a caller
    that passes a permission-mask guard `require_caller_any_of(m)` after the history holds some bit of the mask, and
    that bit was his in the initial assignment or was granted by a caller authorised at the time. -/
theorem perm_guard_provenance (s0 : PermSt) (ops : List PermOp) (x : Addr) (m : Perm)
    (h : (s0.run ops).holds x m = true) :
    ∃ b, m.get b = true ∧ ((s0.perms x).get b = true ∨ s0.Granted ops x b) := by
  simp only [PermSt.holds, Perm.intersects, Bool.or_eq_true, Bool.and_eq_true] at h
  rcases h with (⟨h1, h2⟩ | ⟨h1, h2⟩) | ⟨h1, h2⟩
  · exact ⟨.owner, h2, PermSt.run_provenance s0 ops x .owner h1⟩
  · exact ⟨.admin, h2, PermSt.run_provenance s0 ops x .admin h1⟩
  · exact ⟨.pause, h2, PermSt.run_provenance s0 ops x .pause h1⟩

/-- what the guards decided by the permission storage answer in an ARBITRARY assignment `p`
    (`none`: the guard is decided by something else — whitelist, hub, router storage) -/
def permGuardOk (p : PermSt) : Guard → Addr → Option Bool
  | .scOwner, x => some (x == p.scOwner)
  | .perm m, x => some (p.holds x m)
  | _, _ => none

/-- the decision function of the access table is this guard evaluated in the matrix deployment -/
theorem permGuardOk_deployed (c : Contract) (g : Guard) (r : Role) (v : Bool)
    (h : permGuardOk (deployed c) g r.addr = some v) : guardOk c g r = v := by
  cases g <;> simp_all [permGuardOk, guardOk]

/-- Generalisation of `C19.admin_needs_role` to an arbitrary assignment: in EVERY permission assignment, every
    configuration / admin endpoint of every contract (other than the two router endpoints guarded by the router's
    stored owner) rejects an account that holds no permission bit and is not the contract owner. -/
theorem config_rejects_plain_account :
    ∀ c ∈ Contract.all, ∀ ent ∈ table c, ent.cls = .config → ent.guard ≠ .storedOwner →
      ∀ (p : PermSt) (x : Addr), p.perms x = Perm.none → x ≠ p.scOwner → permGuardOk p ent.guard x = some false := by
  intro c hc ent he hcls hns p x hx hsc
  have hr := Mx.C19.config_is_guarded c hc ent he hcls
  cases hg : ent.guard with
  | scOwner => simp [permGuardOk, hsc]
  | perm m => simp [permGuardOk, PermSt.holds, hx, Perm.intersects, Perm.none]
  | storedOwner => exact absurd hg hns
  | anyone | whitelisted | hubAgent | adder | nobody => rw [hg] at hr; cases hr

-- unauthorised histories

/-- If no caller of the history holds OWNER at the moment of its call and none is the contract owner, nothing changes:
    the final assignment IS the initial one.  (Callers are checked against the state at the time of each call.) -/
theorem perm_history_unauthorised_frozen_at_time (s0 : PermSt) (ops : List PermOp)
    (h : ∀ pre o post, ops = pre ++ o :: post →
      (s0.run pre).holds o.caller Perm.OWNER = false ∧ o.caller ≠ s0.scOwner) : s0.run ops = s0 := by
  by_cases hne : s0.run ops = s0
  · exact hne
  · obtain ⟨pre, o, post, s', h1, h2, hst⟩ := PermSt.run_changed hne
    have ho := h pre o post h1
    rw [h2] at ho
    exact absurd hst (PermSt.step_unauthorised ho)

/-- `C19.perm_history_unauthorised_frozen` checks the callers against the INITIAL assignment only; that is the same
    condition as checking each caller at the time of its call (because nothing changes in between), so neither
    theorem is weaker than the other. -/
theorem perm_unauthorised_check_equiv (s0 : PermSt) (ops : List PermOp) :
    (∀ o ∈ ops, s0.holds o.caller Perm.OWNER = false ∧ o.caller ≠ s0.scOwner) ↔
    (∀ pre o post, ops = pre ++ o :: post →
      (s0.run pre).holds o.caller Perm.OWNER = false ∧ o.caller ≠ s0.scOwner) := by
  constructor
  · intro h pre o post hsplit
    have hpre : s0.run pre = s0 :=
      PermSt.run_unauthorised s0 pre (fun o' ho' => h o' (by rw [hsplit]; exact List.mem_append_left _ ho'))
    rw [hpre]
    exact h o (by rw [hsplit]; simp)
  · intro h o ho
    obtain ⟨pre, post, hsplit⟩ := List.append_of_mem ho
    have hpre : s0.run pre = s0 :=
      perm_history_unauthorised_frozen_at_time s0 pre
        (fun p o' q hs => h p o' (q ++ o :: post) (by rw [hsplit, hs]; simp))
    have := h pre o post hsplit
    rwa [hpre] at this

/-- Contrapositive, with the witness: a history that changed anything contains a successful operation whose caller
    held OWNER at that moment or is the contract owner. -/
theorem perm_history_changed_has_authorised_op (s0 : PermSt) (ops : List PermOp) (h : s0.run ops ≠ s0) :
    ∃ pre o post s', ops = pre ++ o :: post ∧ (s0.run pre).step o = some s' ∧
      (((s0.run pre).perms o.caller).owner = true ∨ o.caller = s0.scOwner) := by
  obtain ⟨pre, o, post, s', h1, h2, hst⟩ := PermSt.run_changed h
  rw [← h2] at hst
  exact ⟨pre, o, post, s', h1, hst, PermSt.run_step_authority hst⟩

-- pausable machine with an arbitrary permission assignment inside

/-- The permission storage inside the pausable machine evolves exactly as the permission machine alone, on the
    permission operations of the history: pause / resume / no-swaps calls never touch it.  (So every theorem above
    applies to `(s.run ops).perm` with history `permOps ops`.) -/
theorem pause_perm_projection (s : PauseSt) (ops : List PauseOp) : (s.run ops).perm = s.perm.run (permOps ops) := by
  induction ops generalizing s with
  | nil => rfl
  | cons o ops ih =>
    rw [Run.cons PauseSt.run_def, ih]
    cases o with
    | perm p =>
      show ((s.step (.perm p)).getD s).perm.run (permOps ops) = s.perm.run (p :: permOps ops)
      rw [Run.cons PermSt.run_def]
      cases hp : s.perm.step p <;> simp [PauseSt.step, hp]
    | pause c | resume c | setActiveNoSwaps c =>
      show ((s.step _).getD s).perm.run (permOps ops) = s.perm.run (permOps ops)
      simp only [PauseSt.step]
      split <;> rfl

/-- Kill switch, any initial state (any permission assignment inside), any history: the final value is the initial one,
    or it was written by a successful `pause` / `resume` of the history whose caller held PAUSE at that moment, or by
    a successful `setStateActiveNoSwaps` whose caller held OWNER at that moment. -/
theorem pause_kill_switch_provenance (s : PauseSt) (ops : List PauseOp) :
    (s.run ops).state = s.state ∨
    ∃ pre o post s' c, ops = pre ++ o :: post ∧ (s.run pre).step o = some s' ∧ o.sets = some (s.run ops).state ∧
      (((o = .pause c ∨ o = .resume c) ∧ ((s.run pre).perm.perms c).pause = true) ∨
       (o = .setActiveNoSwaps c ∧ ((s.run pre).perm.perms c).owner = true)) := by
  by_cases h0 : (s.run ops).state = s.state
  · exact Or.inl h0
  · obtain ⟨pre, o, post, s', h1, hst, hn, hy⟩ := Run.first PauseSt.run_def
      (Q := fun t : PauseSt => t.state = (s.run ops).state) (fun h => h0 h.symm) rfl
    refine Or.inr ⟨pre, o, post, s', ?_⟩
    cases o with
    | pause c =>
      obtain ⟨hc, rfl⟩ := PauseSt.step_some hst
      exact ⟨c, h1, hst, congrArg some hy, Or.inl ⟨Or.inl rfl, (PermSt.holds_PAUSE ..).symm.trans hc⟩⟩
    | resume c =>
      obtain ⟨hc, rfl⟩ := PauseSt.step_some hst
      exact ⟨c, h1, hst, congrArg some hy, Or.inl ⟨Or.inr rfl, (PermSt.holds_PAUSE ..).symm.trans hc⟩⟩
    | setActiveNoSwaps c =>
      obtain ⟨hc, rfl⟩ := PauseSt.step_some hst
      exact ⟨c, h1, hst, congrArg some hy, Or.inr ⟨rfl, (PermSt.holds_OWNER ..).symm.trans hc⟩⟩
    | perm p =>
      obtain ⟨q, _, rfl⟩ := PauseSt.step_some hst
      exact absurd hy hn

/-- … and the right of that caller has its own provenance: if the kill switch differs from the initial one, some
    `pause` / `resume` (resp. `setStateActiveNoSwaps`) of the history was made by a caller `c` who held PAUSE (resp.
    OWNER) in the INITIAL assignment, or was granted it — by a caller authorised at the time — by a permission
    operation EARLIER in the same history.  For OWNER moreover: `c` held it initially, or is the contract owner. -/
theorem pause_kill_switch_caller_provenance (s : PauseSt) (ops : List PauseOp) (h : (s.run ops).state ≠ s.state) :
    ∃ pre o post c, ops = pre ++ o :: post ∧
      (((o = .pause c ∨ o = .resume c) ∧
          ((s.perm.perms c).pause = true ∨ s.perm.Granted (permOps pre) c .pause)) ∨
       (o = .setActiveNoSwaps c ∧
          ((s.perm.perms c).owner = true ∨ s.perm.Granted (permOps pre) c .owner) ∧
          ((s.perm.perms c).owner = true ∨ c = s.perm.scOwner))) := by
  rcases pause_kill_switch_provenance s ops with h0 | ⟨pre, o, post, s', c, h1, _, _, h4⟩
  · exact absurd h0 h
  · refine ⟨pre, o, post, c, h1, ?_⟩
    rw [pause_perm_projection] at h4
    rcases h4 with ⟨ho, hp⟩ | ⟨ho, hp⟩
    · exact Or.inl ⟨ho, PermSt.run_provenance s.perm (permOps pre) c .pause hp⟩
    · refine Or.inr ⟨ho, PermSt.run_provenance s.perm (permOps pre) c .owner hp, ?_⟩
      rcases perm_owner_never_minted s.perm (permOps pre) c hp with h5 | ⟨h5, _⟩
      · exact Or.inl h5
      · exact Or.inr h5

/-- Corollary: if nobody holds PAUSE or OWNER in the initial assignment, the kill switch never moves, whatever is
    called by whomever (the contract owner included: `updateOwnerOrAdmin` only moves existing bits). -/
theorem pause_frozen_without_holders (s : PauseSt) (ops : List PauseOp)
    (hnone : ∀ x, (s.perm.perms x).owner = false ∧ (s.perm.perms x).pause = false) :
    (s.run ops).state = s.state := by
  rcases pause_kill_switch_provenance s ops with h0 | ⟨pre, o, post, s', c, _, _, _, h4⟩
  · exact h0
  · exfalso
    rw [pause_perm_projection] at h4
    rcases h4 with ⟨_, hp⟩ | ⟨_, hp⟩
    · exact absurd ((perm_bits_only_moved s.perm (fun x => (hnone x).1) .pause (fun x => (hnone x).2) _ c).symm.trans hp)
        Bool.false_ne_true
    · exact absurd ((perm_bits_only_moved s.perm (fun x => (hnone x).1) .owner (fun x => (hnone x).1) _ c).symm.trans hp)
        Bool.false_ne_true

-- non-vacuity: a NON-deployment assignment and a mixed history

/-- two OWNER holders (1, 2), an admin that also has PAUSE (3), a former owner (20) whose rights the contract owner (10)
    will take over; the contract owner itself holds no bit -/
def s0 : PermSt :=
  { scOwner := 10
    perms := setAt (setAt (setAt (setAt (fun _ => Perm.none) 1 Perm.OWNER) 2 Perm.OWNER) 3 ⟨false, true, true⟩)
               20 ⟨true, false, true⟩ }

def hist : List PermOp :=
  [ .addAdmin 3 4,               -- fails: 3 is ADMIN|PAUSE, not OWNER
    .addAdmin 1 4,               -- granted … (revoked below)
    .addPause 2 5,               -- granted and kept
    .addAdmin 10 6,              -- fails: the contract owner holds no OWNER bit yet
    .updateOwnerOrAdmin 10 20,   -- the contract owner takes over OWNER|PAUSE of 20; 20 is cleared
    .addAdmin 10 6,              -- … and now grants successfully
    .removeAdmin 2 4,            -- revokes the grant of step 2 (another owner than the granter)
    .addPause 20 7,              -- fails: 20 lost OWNER
    .removePause 5 3,            -- fails: 5 only holds PAUSE
    .updateOwnerOrAdmin 1 2 ]    -- fails: 1 holds OWNER but is not the contract owner

/-- the final assignment, address by address -/
example :
    (s0.run hist).perms 1 = Perm.OWNER ∧ (s0.run hist).perms 2 = Perm.OWNER ∧
    (s0.run hist).perms 3 = ⟨false, true, true⟩ ∧ (s0.run hist).perms 4 = Perm.none ∧
    (s0.run hist).perms 5 = Perm.PAUSE ∧ (s0.run hist).perms 6 = Perm.ADMIN ∧ (s0.run hist).perms 7 = Perm.none ∧
    (s0.run hist).perms 10 = ⟨true, false, true⟩ ∧ (s0.run hist).perms 20 = Perm.none := by decide

/-- which operations succeed -/
example :
    ((List.range hist.length).map fun i => ((hist[i]?).bind fun o => (s0.run (hist.take i)).step o).isSome)
    = [false, true, true, false, true, true, true, false, false, false] := by decide

/-- hypotheses of the provenance theorems are met with the SECOND alternative: 6 is an admin at the end and was not at
    the start, so the theorem produces the grant (by 10, who got OWNER from `updateOwnerOrAdmin` in the same history) -/
example : s0.Granted hist 6 .admin :=
  (PermSt.run_provenance s0 hist 6 .admin (by decide)).resolve_left (by decide)

example : ∃ pre prev post, hist = pre ++ .updateOwnerOrAdmin 10 prev :: post ∧ (10 : Addr) = s0.scOwner ∧ prev ≠ 10 ∧
    ((s0.run pre).perms prev).owner = true :=
  (perm_owner_provenance s0 hist 10 (by decide)).resolve_left (by decide)

/-- last operation wins, both ways: the grant to 4 is revoked (a revoking operation succeeds), the grant to 5 is kept
    (no revocation of (5, PAUSE) succeeds), the initial bits of 20 are gone, the initial bits of 3 are untouched -/
example :
    PermSt.noSet false 4 .admin s0 hist = false ∧ ((s0.run hist).perms 4).get .admin = false ∧
    PermSt.noSet false 5 .pause s0 hist = true ∧ ((s0.run hist).perms 5).get .pause = true ∧
    PermSt.noSet false 20 .owner s0 hist = false ∧ ((s0.run hist).perms 20).get .owner = false ∧
    PermSt.noSet false 3 .pause s0 hist = true ∧ PermSt.noSet true 3 .owner s0 hist = true := by decide

/-- `perm_revoked_stays_revoked` instantiated: split at the successful `removeAdmin 2 4` -/
example : ((s0.run hist).perms 4).get .admin = false := by
  refine perm_revoked_stays_revoked s0 (hist.take 6) (hist.drop 7) (.removeAdmin 2 4)
    (match (s0.run (hist.take 6)).step (.removeAdmin 2 4) with | some t => t | none => s0) 4 .admin ?_ (by decide) ?_
  · rfl
  · exact (PermSt.noSet_iff _ _ _ _ _).mp (by decide)

/-- an unauthorised history (callers 3, 5, 7: ADMIN|PAUSE, nothing, nothing) changes nothing, checked at the time of call -/
example : s0.run [.addAdmin 3 4, .removePause 5 3, .updateOwnerOrAdmin 3 2, .addPause 7 7] = s0 :=
  perm_history_unauthorised_frozen_at_time s0 _ ((perm_unauthorised_check_equiv s0 _).mp (by decide))

/-- NOTE (behaviour of the real code, not a violation of the property): `updateOwnerOrAdmin` OVERWRITES the caller's own
    bit-set.  A contract owner that already holds OWNER|PAUSE and names an address without permissions loses all of
    its own permissions — this is why `updateOwnerOrAdmin` counts as a revoking operation for its caller. -/
example :
    let s1 := s0.run [.updateOwnerOrAdmin 10 20]
    (s1.perms 10 = ⟨true, false, true⟩) ∧ ((s1.run [.updateOwnerOrAdmin 10 99]).perms 10 = Perm.none) := by decide

/-- an assignment WITHOUT any OWNER holder (hypothesis of `perm_bits_only_moved`): the contract owner can move the
    ADMIN|PAUSE of 3 to itself, but still cannot grant anything, and nobody ever holds OWNER -/
def sNoOwner : PermSt := { scOwner := 10, perms := setAt (fun _ => Perm.none) 3 ⟨false, true, true⟩ }

example : ∀ x, (sNoOwner.perms x).owner = false := by
  intro x; simp only [sNoOwner, setAt]; split <;> rfl

example :
    let s1 := sNoOwner.run [.updateOwnerOrAdmin 10 3, .addAdmin 10 4, .addPause 3 4]
    s1.perms 10 = ⟨false, true, true⟩ ∧ s1.perms 3 = Perm.none ∧ s1.perms 4 = Perm.none := by decide

example (ops : List PermOp) (x : Addr) : ((sNoOwner.run ops).perms x).owner = false :=
  perm_bits_only_moved sNoOwner (by intro x; simp only [sNoOwner, setAt]; split <;> rfl) .owner
    (by intro x; simp only [sNoOwner, setAt, Perm.get]; split <;> rfl) ops x

/-- pausable machine on the same assignment: 3 (PAUSE from the start) pauses, 5 (PAUSE granted inside the history)
    resumes, 6 (admin only) cannot pause, 10 (OWNER taken over) sets no-swaps -/
example :
    let p : PauseSt := { perm := s0, state := .active }
    (p.run [.pause 3]).state = .inactive ∧
    (p.run [.pause 3, .perm (.addPause 2 5), .resume 5]).state = .active ∧
    (p.run [.perm (.addAdmin 1 6), .pause 6]).state = .active ∧
    (p.run [.setActiveNoSwaps 10]).state = .active ∧
    (p.run [.perm (.updateOwnerOrAdmin 10 20), .setActiveNoSwaps 10]).state = .partialActive := by decide

example : ∃ pre o post c, [PauseOp.pause 3, .perm (.addPause 2 5), .resume 5, .pause 5] = pre ++ o :: post ∧
      (((o = .pause c ∨ o = .resume c) ∧ ((s0.perms c).pause = true ∨ s0.Granted (permOps pre) c .pause)) ∨
       (o = .setActiveNoSwaps c ∧ ((s0.perms c).owner = true ∨ s0.Granted (permOps pre) c .owner) ∧
          ((s0.perms c).owner = true ∨ c = s0.scOwner))) :=
  pause_kill_switch_caller_provenance { perm := s0, state := .active } _ (by decide)

end Mx.C19Perm
