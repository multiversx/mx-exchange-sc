/-
  C14 — Router: one pair per token pair, registered pairs only, pass-through multi-hop.

  Statement: at most one pair exists per unordered token pair and lookups are order-insensitive;
  pairs are created only by the owner unless public creation is enabled, and only registered
  pairs can be paused, resumed, configured or used as swap hops.  A multi-hop swap leaves the
  router's own balances unchanged: the caller receives exactly the last hop's output plus every
  fixed-output residual, each hop's result equals what the pair alone would give, and the whole
  transaction reverts if any hop fails.

  Model: Core/Router.lean (router + every deployed pair contract, each a `Mx.Pair.St` from
  Core/Pair.lean; `rbal` = the router's own balances, `ubal` = the accounts' balances).
  "Reachable" below always means `run (init …) ops` for an arbitrary history `ops` over every
  constructor of `Router.Op` — any mix of createPair / removePair in either token order by any
  caller, management calls, liquidity operations, swaps and multi-hop swaps, enable-by-user
  configuration, simple-lock lock / unlock, `setSwapEnabledByUser`, the administration endpoints of
  Props/C14Admin.lean, epoch and block changes, with arbitrary arguments; failed calls are skipped.

  The router's `EnableSwapByUserModule` (enable_swap_by_user.rs) is the one way in which somebody
  other than the owner changes a pair's state and fee percents through the router; the section
  "swaps enabled by the user" says who, when, on which pair and with which payment, and that
  a pair the owner paused cannot be brought back that way.
-/
import MxModel.Lemmas.RouterPause

namespace Mx.C14
open Mx.Router

/-! ### one pair per unordered token pair; order-insensitive lookup -/

/-- after every history the registry holds at most one entry per unordered token pair -/
theorem registry_unique (owner self : Addr) (template : Bool) (foreign : List PairRec)
    (funds : Addr → Nat → Nat) (ops : List Op) :
    Uniq (run (init owner self template foreign funds) ops).pairMap :=
  (run_inv ops (inv_init owner self template foreign funds)).uniq

/-- the same, spelled out: two registry entries whose keys name the same two tokens, in the
    same or in the opposite order, are one and the same entry -/
theorem registry_unique_entries (owner self : Addr) (template : Bool) (foreign : List PairRec)
    (funds : Addr → Nat → Nat) (ops : List Op) (e f : (Tok × Tok) × Addr)
    (he : e ∈ (run (init owner self template foreign funds) ops).pairMap)
    (hf : f ∈ (run (init owner self template foreign funds) ops).pairMap)
    (h : e.1 = f.1 ∨ e.1 = (f.1.2, f.1.1)) : e = f :=
  (registry_unique owner self template foreign funds ops).eq_of_same he hf h

/-- no address is registered for two token pairs -/
theorem registry_addr_unique (owner self : Addr) (template : Bool) (foreign : List PairRec)
    (funds : Addr → Nat → Nat) (ops : List Op) :
    AddrUniq (run (init owner self template foreign funds) ops).pairMap :=
  (run_inv ops (inv_init owner self template foreign funds)).addrUniq

/-- `getPair` is order-insensitive on every reachable state -/
theorem getPair_symm (owner self : Addr) (template : Bool) (foreign : List PairRec)
    (funds : Addr → Nat → Nat) (ops : List Op) (a b : Tok) :
    getPair (run (init owner self template foreign funds) ops).pairMap a b =
      getPair (run (init owner self template foreign funds) ops).pairMap b a := by
  have hi := run_inv ops (inv_init owner self template foreign funds)
  exact getPair_comm hi.uniq hi.nonZero a b

/-- `getPair`, asked in either order, returns the (non-zero) address of the registry entry -/
theorem getPair_finds_entry (owner self : Addr) (template : Bool) (foreign : List PairRec)
    (funds : Addr → Nat → Nat) (ops : List Op) (e : (Tok × Tok) × Addr)
    (he : e ∈ (run (init owner self template foreign funds) ops).pairMap) :
    getPair (run (init owner self template foreign funds) ops).pairMap e.1.1 e.1.2 = e.2 ∧
    getPair (run (init owner self template foreign funds) ops).pairMap e.1.2 e.1.1 = e.2 ∧
    e.2 ≠ 0 := by
  have hi := run_inv ops (inv_init owner self template foreign funds)
  have h1 := getPair_eq_of_mem hi.uniq hi.nonZero (k := e.1) (x := e.2) he
  exact ⟨h1, by rw [getPair_comm hi.uniq hi.nonZero]; exact h1, hi.nonZero e he⟩

/-! ### who may create and remove pairs -/

/-- a successful `createPair` was called by the owner, or public creation was enabled -/
theorem create_auth {s s' : St} {c : Addr} {t1 t2 : Tok} {adder : Addr}
    {fees : Option (Nat × Nat)} {o : Out}
    (h : step s (.createPair c t1 t2 adder fees) = some (s', o)) :
    c = s.owner ∨ s.creationEnabled = true := by
  obtain ⟨_, t⟩ := createPair_spec h
  exact t.caller

/-- a successful `createPair(t1, t2)` on a reachable state: no pair existed for the two tokens
    in either order, the tokens are distinct valid ids, the router is active; afterwards both
    lookups return the new address, which was not registered before -/
theorem create_registers (owner self : Addr) (template : Bool) (foreign : List PairRec)
    (funds : Addr → Nat → Nat) (ops : List Op) {s' : St} {c : Addr} {t1 t2 : Tok} {adder : Addr}
    {fees : Option (Nat × Nat)} {o : Out}
    (h : step (run (init owner self template foreign funds) ops) (.createPair c t1 t2 adder fees)
      = some (s', o)) :
    let s := run (init owner self template foreign funds) ops
    s.active = true ∧ t1 ≠ t2 ∧ validTok t1 ∧ validTok t2 ∧
    getPair s.pairMap t1 t2 = 0 ∧ getPair s.pairMap t2 t1 = 0 ∧
    o.addr ∉ s.pairMap.map Prod.snd ∧ o.addr ≠ 0 ∧
    getPair s'.pairMap t1 t2 = o.addr ∧ getPair s'.pairMap t2 t1 = o.addr ∧
    tokOf s'.pairs o.addr = some (t1, t2) := by
  intro s
  have hi : Inv s := run_inv ops (inv_init owner self template foreign funds)
  have hi' : Inv s' := step_inv hi h
  obtain ⟨fp, t⟩ := createPair_spec h
  have ho := t.out
  have hs' := t.state
  have h6 := t.getPair
  have hmem : ((t1, t2), o.addr) ∈ s'.pairMap := by
    rw [hs', ho]; exact List.mem_append_right _ List.mem_cons_self
  have hg := getPair_eq_of_mem hi'.uniq hi'.nonZero hmem
  refine ⟨t.active, t.tokens_ne, t.valid1, t.valid2, h6, ?_, ?_, hi'.nonZero _ hmem, hg, ?_, hi'.toks _ hmem⟩
  · rw [getPair_comm hi.uniq hi.nonZero]; exact h6
  · intro hin
    obtain ⟨e, he, hea⟩ := List.mem_map.mp hin
    have := (hi.lt e he).2
    rw [hea, ho] at this
    exact Nat.lt_irrefl _ this
  · rw [getPair_comm hi'.uniq hi'.nonZero]; exact hg

/-- a successful `removePair(t1, t2)` on a reachable state was called by the owner, returns
    the registered address (whichever order it was registered in), and afterwards neither
    order finds a pair -/
theorem remove_auth_and_effect (owner self : Addr) (template : Bool) (foreign : List PairRec)
    (funds : Addr → Nat → Nat) (ops : List Op) {s' : St} {c : Addr} {t1 t2 : Tok} {o : Out}
    (h : step (run (init owner self template foreign funds) ops) (.removePair c t1 t2)
      = some (s', o)) :
    let s := run (init owner self template foreign funds) ops
    c = s.owner ∧ o.addr = getPair s.pairMap t1 t2 ∧ o.addr ≠ 0 ∧
    getPair s'.pairMap t1 t2 = 0 ∧ getPair s'.pairMap t2 t1 = 0 := by
  intro s
  have hi : Inv s := run_inv ops (inv_init owner self template foreign funds)
  have hi' : Inv s' := step_inv hi h
  obtain ⟨h1, _, h3, _, _, h6, ho, hs'⟩ := removePair_spec h
  have hne : (t2, t1) ≠ (t1, t2) := by
    intro e; simp only [Prod.mk.injEq] at e; exact h3 e.2
  have key : getPair s'.pairMap t1 t2 = 0 := by
    rw [getPair_eq_zero_iff hi'.nonZero, hs']
    show lookup (removed s.pairMap t1 t2) (t1, t2) = none ∧
      lookup (removed s.pairMap t1 t2) (t2, t1) = none
    unfold removed
    by_cases ha : (lookup s.pairMap (t1, t2)).getD 0 ≠ 0
    · rw [if_pos ha]
      refine ⟨lookup_erase_self _ _, ?_⟩
      rw [lookup_erase_other _ hne]
      -- an entry for the reversed key would be a second entry for the same unordered pair
      cases h2 : lookup s.pairMap (t2, t1) with
      | none => rfl
      | some y =>
        cases h1' : lookup s.pairMap (t1, t2) with
        | none => rw [h1'] at ha; exact absurd rfl ha
        | some x =>
          have := hi.uniq.eq_of_same (lookup_some_mem h1') (lookup_some_mem h2) (Or.inr rfl)
          simp only [Prod.mk.injEq] at this
          exact absurd this.1.1 h3
    · rw [if_neg ha]
      refine ⟨?_, lookup_erase_self _ _⟩
      rw [lookup_erase_other _ hne.symm]
      exact lookup_erase_self _ _
  refine ⟨h1, by rw [ho], by rw [ho]; exact h6, key, ?_⟩
  rw [getPair_comm hi'.uniq hi'.nonZero]; exact key

/-- only the owner switches public pair creation on or off -/
theorem creation_flag_owner_only {s s' : St} {op : Op} {o : Out} (h : step s op = some (s', o))
    (hne : s'.creationEnabled ≠ s.creationEnabled) : ∃ b, op = .setCreation s.owner b :=
  (step_frame h).2.1.resolve_left hne

/-! ### only registered pairs can be paused, resumed, configured or used as hops -/

/-- on every reachable state `check_is_pair_sc` accepts exactly the registered addresses -/
theorem only_registered_iff (owner self : Addr) (template : Bool) (foreign : List PairRec)
    (funds : Addr → Nat → Nat) (ops : List Op) (a : Addr) :
    let s := run (init owner self template foreign funds) ops
    checkIsPairSc s.pairMap s.pairs a = some () ↔ a ∈ s.pairMap.map Prod.snd :=
  checkIsPairSc_iff_mem (run_inv ops (inv_init owner self template foreign funds)) a

/-- … equivalently: the address is the registry entry (`getPair`) for the tokens the pair
    contract at that address itself reports -/
theorem only_registered_getPair (owner self : Addr) (template : Bool) (foreign : List PairRec)
    (funds : Addr → Nat → Nat) (ops : List Op) (a : Addr) :
    let s := run (init owner self template foreign funds) ops
    checkIsPairSc s.pairMap s.pairs a = some () ↔
      ∃ k, tokOf s.pairs a = some k ∧ a ≠ 0 ∧ getPair s.pairMap k.1 k.2 = a :=
  checkIsPairSc_iff_getPair (run_inv ops (inv_init owner self template foreign funds)) a

/-- `pause` / `resume` succeed only for the owner, and only on the router itself or on an
    address `check_is_pair_sc` accepts; nothing else than that pair's status (resp. the
    router's own flag) changes -/
theorem pause_resume_only_registered {s s' : St} {c a : Addr} {o : Out} (on : Bool)
    (h : step s (if on then .resume c a else .pause c a) = some (s', o)) :
    c = s.owner ∧
    ((a = s.self ∧ s' = { s with active := on }) ∨
     (checkIsPairSc s.pairMap s.pairs a = some () ∧ ∃ p, s.pairs a = some p ∧
        s' = { s with pairs := setPairSt s.pairs a p (withStatus p.st on) })) := by
  have h' : setState s c a on = some (s', o) := by cases on <;> exact h
  obtain ⟨h1, h2⟩ := setState_spec h'
  refine ⟨h1, ?_⟩
  rcases h2 with ⟨ha, hs⟩ | ⟨_, hc, p, hp, hs⟩
  · exact Or.inl ⟨ha, hs⟩
  · exact Or.inr ⟨hc, p, hp, hs⟩

/-- `setFeeOn` succeeds only for the owner on an address `check_is_pair_sc` accepts -/
theorem setFeeOn_only_registered {s s' : St} {c a : Addr} {tok : Tok} {o : Out}
    (h : step s (.setFeeOn c a tok) = some (s', o)) :
    c = s.owner ∧ checkIsPairSc s.pairMap s.pairs a = some () := by
  obtain ⟨h1, _, h3, _⟩ := setFeeOn_spec h
  exact ⟨h1, h3⟩

/-- `setFeeOff` succeeds only for the owner on an address `check_is_pair_sc` accepts -/
theorem setFeeOff_only_registered {s s' : St} {c a : Addr} {i : Nat} {tok : Tok} {o : Out}
    (h : step s (.setFeeOff c a i tok) = some (s', o)) :
    c = s.owner ∧ checkIsPairSc s.pairMap s.pairs a = some () := by
  obtain ⟨h1, _, h3, _⟩ := setFeeOff_spec h
  exact ⟨h1, h3⟩

/-- every hop of a successful `multiPairSwap` goes through an address `check_is_pair_sc` accepts -/
theorem hops_only_registered {s s' : St} {c : Addr} {tokIn : Tok} {amount : Nat}
    {hops : List Hop} {o : Out} (h : step s (.multi c tokIn amount hops) = some (s', o)) :
    ∀ g ∈ hops, checkIsPairSc s.pairMap s.pairs g.pair = some () := by
  obtain ⟨r, _, hr, _, _⟩ := multiPairSwap_spec h
  obtain ⟨rs, _, _, _, htr, _⟩ := multiG_spec hr
  exact hopTrace_registered hops htr

/-- a pair contract that is not registered is out of the router's reach: no pause, resume,
    setFeeOn, setFeeOff or multi-hop swap changes anything about it -/
theorem unregistered_pair_untouched {s s' : St} {op : Op} {o : Out} {x : Addr}
    (hx : checkIsPairSc s.pairMap s.pairs x ≠ some ())
    (hop : (∃ c a, op = .pause c a) ∨ (∃ c a, op = .resume c a) ∨ (∃ c a t, op = .setFeeOn c a t) ∨
      (∃ c a i t, op = .setFeeOff c a i t) ∨ (∃ c t x hs, op = .multi c t x hs))
    (h : step s op = some (s', o)) : s'.pairs x = s.pairs x := by
  have key : ∀ (a : Addr) (p' : PairRec), checkIsPairSc s.pairMap s.pairs a = some () →
      upd s.pairs a (some p') x = s.pairs x := by
    intro a p' hc
    have : x ≠ a := fun e => hx (e ▸ hc)
    exact upd_other _ _ this
  rcases hop with ⟨c, a, rfl⟩ | ⟨c, a, rfl⟩ | ⟨c, a, t, rfl⟩ | ⟨c, a, i, t, rfl⟩ | ⟨c, t, am, hs, rfl⟩
  · obtain ⟨_, h2⟩ := setState_spec h
    rcases h2 with ⟨_, rfl⟩ | ⟨_, hc, p, _, rfl⟩
    · rfl
    · exact key a _ hc
  · obtain ⟨_, h2⟩ := setState_spec h
    rcases h2 with ⟨_, rfl⟩ | ⟨_, hc, p, _, rfl⟩
    · rfl
    · exact key a _ hc
  · obtain ⟨_, _, hc, p, _, rfl⟩ := setFeeOn_spec h
    exact key a _ hc
  · obtain ⟨_, _, hc, p, _, _, _, rfl⟩ := setFeeOff_spec h
    exact key a _ hc
  · obtain ⟨r, _, hr, _, rfl⟩ := multiPairSwap_spec h
    obtain ⟨rs, _, _, _, htr, _⟩ := multiG_spec hr
    have hreg := hopTrace_registered hs htr
    exact hopTrace_untouched hs htr (fun g hg e => hx (e ▸ hreg g hg))

/-! ### multi-hop swap: pass-through, parametric in what the hops answer -/

/-- For ANY behaviour `resp` of the hops (any function from pair world, hop and forwarded
    payment to new world, output and residual): a successful `multiPairSwap` received the
    responses `rs` of the chain, returns exactly the non-zero residuals followed by the last
    output, leaves every router balance as it was, and the caller — debited the payment — is
    credited exactly the returned payments. -/
theorem multihop_passthrough {σ : Type} (resp : Resp σ) {w : σ} {rb : Tok → Nat} {cb : Nat → Nat}
    {tokIn : Tok} {amount : Nat} {hops : List Hop} {r : MultiRes σ}
    (h : multiG resp w rb cb tokIn amount hops = some r) :
    ∃ rs, hopTrace resp hops w tokIn amount = some (r.w, rs) ∧
      r.pays = residuals tokIn hops rs ++ [lastPay tokIn amount hops rs] ∧
      (∀ t, r.rb t = rb t) ∧
      (∀ t, r.cb t + (if t = tokIn then amount else 0) = cb t + sumTok r.pays t) := by
  obtain ⟨rs, _, _, _, h4, h5, h6, h7⟩ := multiG_spec h
  exact ⟨rs, h4, h5, h6, h7⟩

/-- any hop error fails the whole call: if the chain reaches hop `g` (after the hops `pre`)
    and `g` answers with an error, `multiPairSwap` returns an error, whatever follows -/
theorem multihop_atomic {σ : Type} (resp : Resp σ) (pre : List Hop) (g : Hop) (post : List Hop)
    {w w1 : σ} {rb : Tok → Nat} {cb : Nat → Nat} {tokIn : Tok} {amount : Nat}
    {rs1 : List (Nat × Nat)} (hpre : hopTrace resp pre w tokIn amount = some (w1, rs1))
    (hfail : resp w1 g (lastPay tokIn amount pre rs1).1 (lastPay tokIn amount pre rs1).2 = none) :
    multiG resp w rb cb tokIn amount (pre ++ g :: post) = none :=
  multiG_none_of_trace_none (hopTrace_fail_at pre g post hpre hfail)

/-- the router adds no failure of its own: a positive payment the caller owns, a non-empty hop
    list and hops that all answer make the call succeed -/
theorem multihop_no_extra_failure {σ : Type} (resp : Resp σ) {w w' : σ} (rb : Tok → Nat)
    {cb : Nat → Nat} {tokIn : Tok} {amount : Nat} {hops : List Hop} {rs : List (Nat × Nat)}
    (h1 : 0 < amount) (h2 : hops ≠ []) (h3 : amount ≤ cb tokIn)
    (htr : hopTrace resp hops w tokIn amount = some (w', rs)) :
    ∃ r, multiG resp w rb cb tokIn amount hops = some r :=
  multiG_complete h1 h2 h3 htr

/-- the composed world: a successful `multiPairSwap` leaves the router's balance of every
    token unchanged, returns the non-zero residuals and the last output of the real chain of
    pair swaps, credits exactly those payments to the caller (who paid `amount` of `tokIn`),
    touches nobody else's balances, and changes neither the registry nor any flag -/
theorem multihop_on_pairs {s s' : St} {c : Addr} {tokIn : Tok} {amount : Nat} {hops : List Hop}
    {o : Out} (h : step s (.multi c tokIn amount hops) = some (s', o)) :
    ∃ rs, hopTrace (pairResp s.pairMap) hops s.pairs tokIn amount = some (s'.pairs, rs) ∧
      o.pays = residuals tokIn hops rs ++ [lastPay tokIn amount hops rs] ∧
      (∀ t, s'.rbal t = s.rbal t) ∧
      (∀ t, s'.ubal c t + (if t = tokIn then amount else 0) = s.ubal c t + sumTok o.pays t) ∧
      (∀ u, u ≠ c → s'.ubal u = s.ubal u) ∧
      s'.pairMap = s.pairMap ∧ s'.active = s.active ∧ s'.creationEnabled = s.creationEnabled := by
  obtain ⟨r, _, hr, rfl, rfl⟩ := multiPairSwap_spec h
  obtain ⟨rs, _, _, _, h4, h5, h6, h7⟩ := multiG_spec hr
  refine ⟨rs, h4, h5, h6, ?_, ?_, rfl, rfl, rfl⟩
  · intro t
    show upd s.ubal c r.cb c t + _ = _
    rw [upd_same]; exact h7 t
  · intro u hu
    exact upd_other _ _ hu

/-- between transactions the router holds nothing -/
theorem router_keeps_nothing (owner self : Addr) (template : Bool) (foreign : List PairRec)
    (funds : Addr → Nat → Nat) (ops : List Op) (t : Tok) :
    (run (init owner self template foreign funds) ops).rbal t = 0 :=
  (run_inv ops (inv_init owner self template foreign funds)).rb0 t

/-- each hop equals what the pair alone would give: a successful hop is literally one
    `swapTokensFixedInput` / `swapTokensFixedOutput` step of the pair model on that pair's own
    state, paying the whole forwarded amount, and no other pair contract changes -/
theorem hop_eq_pair_alone {m : Reg} {w w' : Pairs} {g : Hop} {tok : Tok} {amt out resid : Nat}
    (h : pairResp m w g tok amt = some (w', out, resid)) :
    ∃ p d st' po, w g.pair = some p ∧ dirOf p tok g.tokOut = some d ∧
      w' = setPairSt w g.pair p st' ∧ (∀ x, x ≠ g.pair → w' x = w x) ∧
      ((g.kind = .fixedIn ∧ Mx.Pair.step p.st (.swapIn d amt g.amt) = some (st', po) ∧
          out = po.v1 ∧ resid = 0) ∨
       (g.kind = .fixedOut ∧ Mx.Pair.step p.st (.swapOut d amt g.amt) = some (st', po) ∧
          out = po.v1 ∧ resid = po.v3)) := by
  obtain ⟨_, p, d, hp, hd, hk⟩ := pairResp_spec h
  rcases hk with ⟨hk, st', po, hs, h1, h2, rfl⟩ | ⟨hk, st', po, hs, h1, h2, rfl⟩
  · exact ⟨p, d, st', po, hp, hd, rfl, fun x hx => setPairSt_other w p st' hx,
      Or.inl ⟨hk, hs, h1, h2⟩⟩
  · exact ⟨p, d, st', po, hp, hd, rfl, fun x hx => setPairSt_other w p st' hx,
      Or.inr ⟨hk, hs, h1, h2⟩⟩

/-- … hence the amounts are the pair's formulas on the pair's reserves at that moment:
    fixed input: the whole forwarded amount buys `amountOut` (≥ the requested minimum), no
    residual; fixed output: exactly the requested amount is delivered, `amountIn` is charged
    and the rest of the forwarded amount comes back as residual -/
theorem hop_amounts {m : Reg} {w w' : Pairs} {g : Hop} {tok : Tok} {amt out resid : Nat}
    (h : pairResp m w g tok amt = some (w', out, resid)) :
    ∃ p d, w g.pair = some p ∧ dirOf p tok g.tokOut = some d ∧ p.st.status = .active ∧
      ((g.kind = .fixedIn ∧ out = Mx.Pair.amountOut p.st.total amt (p.st.rin d) (p.st.rout d) ∧
          g.amt ≤ out ∧ 0 < out ∧ out < p.st.rout d ∧ resid = 0) ∨
       (g.kind = .fixedOut ∧ out = g.amt ∧
          Mx.Pair.amountIn p.st.total g.amt (p.st.rin d) (p.st.rout d) ≤ amt ∧
          resid = amt - Mx.Pair.amountIn p.st.total g.amt (p.st.rin d) (p.st.rout d))) := by
  obtain ⟨_, p, d, hp, hd, hk⟩ := pairResp_spec h
  rcases hk with ⟨hk, st', po, hs, h1, h2, _⟩ | ⟨hk, st', po, hs, h1, h2, _⟩
  · obtain ⟨_, _, hact, hmin, hlt, hne, _, rfl⟩ := Mx.Pair.swapIn_iff.mp hs
    refine ⟨p, d, hp, hd, hact, Or.inl ⟨hk, ?_, ?_, ?_, ?_, h2⟩⟩
    · rw [h1]
    · rw [h1]; exact hmin
    · rw [h1]; exact Nat.pos_of_ne_zero hne
    · rw [h1]; exact hlt
  · obtain ⟨_, _, hact, _, _, hle, _, rfl⟩ := Mx.Pair.swapOut_iff.mp hs
    refine ⟨p, d, hp, hd, hact, Or.inr ⟨hk, ?_, hle, ?_⟩⟩
    · rw [h1]
    · rw [h2]

/-! ### swaps enabled by the user (`EnableSwapByUserModule`) -/

/-- A successful `setSwapEnabledByUser(a)` by `c` paying `amount` LOCKED tokens of class `k`
    implies: the router is active; `a` passes `check_is_pair_sc` (on reachable states: is in the
    registry — `enable_by_user_registered`); the pair's state before the call is PartialActive
    (initial liquidity added, swaps not yet enabled — in particular NOT Inactive / paused and not
    Active); the caller is the pair's initial liquidity adder; the payment is a positive amount the
    caller owns of the locked token configured for the pair's common token (first pool token if
    whitelisted, else the second if whitelisted) and it wraps exactly this pair's LP token; its
    value in the common token — the pair's own `getTokensForGivenPosition(amount)` — reaches the
    configured minimum; and the remaining lock `unlock − now` (0 once passed) reaches the
    configured minimum period. -/
theorem enable_by_user_requires {s s' : St} {c a : Addr} {k : LTok} {amount : Nat} {o : Out}
    (h : step s (.enableByUser c a k amount) = some (s', o)) :
    s.active = true ∧ checkIsPairSc s.pairMap s.pairs a = some () ∧
    ∃ p common cfg, s.pairs a = some p ∧
      p.st.status = .partialActive ∧
      p.st.adder = some c ∧
      0 < amount ∧ amount ≤ s.lbal c k ∧
      s.enableCfg common = some cfg ∧ k.coll = cfg.lockedTok ∧ k.orig = a ∧
      ((p.t1 ∈ s.commonToks ∧ common = p.t1 ∧
          cfg.minValue ≤ (Mx.Pair.viewTokensForPosition p.st amount).1) ∨
       (p.t1 ∉ s.commonToks ∧ p.t2 ∈ s.commonToks ∧ common = p.t2 ∧
          cfg.minValue ≤ (Mx.Pair.viewTokensForPosition p.st amount).2)) ∧
      cfg.minPeriod ≤ k.unlock - s.epoch := by
  obtain ⟨p, cv, cfg, t⟩ := enableByUser_spec h
  have h6 := t.minPeriod
  have hper : cfg.minPeriod ≤ k.unlock - s.epoch := by
    unfold lockedEpochs at h6
    split at h6
    · exact h6
    · exact Nat.le_trans h6 (Nat.zero_le _)
  refine ⟨t.active, t.checkIsPairSc, p, cv.1, cfg, t.pairs, t.status, t.adder, t.amount_pos, t.lbal,
    t.enableCfg, t.coll, t.orig, ?_, hper⟩
  rcases lpValue_spec t.lpValue with ⟨hw, rfl⟩ | ⟨hw1, hw2, rfl⟩
  · exact Or.inl ⟨hw, rfl, t.minValue⟩
  · exact Or.inr ⟨hw1, hw2, rfl, t.minValue⟩

/-- … and on every reachable state that means: the pair is registered in the router -/
theorem enable_by_user_registered (owner self : Addr) (template : Bool) (foreign : List PairRec)
    (funds : Addr → Nat → Nat) (ops : List Op) {s' : St} {c a : Addr} {k : LTok} {amount : Nat}
    {o : Out}
    (h : step (run (init owner self template foreign funds) ops) (.enableByUser c a k amount)
      = some (s', o)) :
    a ∈ (run (init owner self template foreign funds) ops).pairMap.map Prod.snd :=
  (checkIsPairSc_iff_mem (run_inv ops (inv_init owner self template foreign funds)) a).mp
    (enable_by_user_requires h).2.1

/-- The effect of a successful `setSwapEnabledByUser(a)`: the pair is Active with fee percents
    (USER_DEFINED_TOTAL_FEE_PERCENT, DEFAULT_SPECIAL_FEE_PERCENT) = (1000, 50) and nothing else
    about it changes (reserves, supply, balances, fee destinations); no other pair changes; the
    caller gets the locked tokens back in full — every LOCKED balance of every account, the
    router's included, is what it was — and the output names exactly that payment; the router's
    pool-token balances, the accounts' balances, the registry and the router's flags and
    configuration are untouched. -/
theorem enable_by_user_effect {s s' : St} {c a : Addr} {k : LTok} {amount : Nat} {o : Out}
    (h : step s (.enableByUser c a k amount) = some (s', o)) :
    ∃ p, s.pairs a = some p ∧
      s'.pairs a = some { p with st := { p.st with total := 1000, special := 50,
                                                   status := .active } } ∧
      (∀ x, x ≠ a → s'.pairs x = s.pairs x) ∧
      o.back = some (k, amount) ∧
      (∀ u k', s'.lbal u k' = s.lbal u k') ∧
      (∀ t, s'.rbal t = s.rbal t) ∧ s'.ubal = s.ubal ∧
      s'.pairMap = s.pairMap ∧ s'.active = s.active ∧ s'.creationEnabled = s.creationEnabled ∧
      s'.commonToks = s.commonToks ∧ s'.enableCfg = s.enableCfg ∧ s'.epoch = s.epoch := by
  obtain ⟨p, _, _, t⟩ := enableByUser_spec h
  obtain rfl := t.out
  obtain rfl := t.state
  refine ⟨p, t.pairs, ?_, ?_, rfl, fun _ _ => rfl, fun _ => rfl, rfl, rfl, rfl, rfl, rfl, rfl, rfl⟩
  · show setPairSt s.pairs a p (enabledSt p.st) a = _
    simp [setPairSt, enabledSt, USER_TOTAL, DEFAULT_SPECIAL]
  · intro x hx
    exact setPairSt_other s.pairs p _ hx

/-- the router adds no failure of its own: when the conditions of `enable_by_user_requires`
    hold the call succeeds -/
theorem enable_by_user_no_extra_failure {s : St} {c a : Addr} {k : LTok} {amount : Nat}
    {p : PairRec} {cv : Tok × Nat} {cfg : EnableCfg}
    (h0 : 0 < amount) (hb : amount ≤ s.lbal c k) (h1 : s.active = true)
    (hc : checkIsPairSc s.pairMap s.pairs a = some ()) (hp : s.pairs a = some p)
    (h2 : p.st.status = .partialActive) (h3 : k.orig = a)
    (hcv : lpValue s.commonToks p amount = some cv) (hcfg : s.enableCfg cv.1 = some cfg)
    (h4 : k.coll = cfg.lockedTok) (h5 : cfg.minValue ≤ cv.2)
    (h6 : cfg.minPeriod ≤ lockedEpochs s.epoch k.unlock) (h7 : p.st.adder = some c) :
    ∃ r, step s (.enableByUser c a k amount) = some r :=
  enableByUser_complete h0 hb h1 hc hp h2 h3 hcv hcfg h4 h5 h6 h7

/-- A paused pair cannot be resumed by a user: while the pair's state is Inactive,
    `setSwapEnabledByUser` fails for every caller and every payment — any amount of any locked
    token class, or any plain token.  (The same holds for an Active pair: only PartialActive
    passes.) -/
theorem paused_not_resumable_by_user {s : St} {a : Addr} {p : PairRec}
    (hp : s.pairs a = some p) (hst : p.st.status ≠ .partialActive) (c : Addr) :
    (∀ k amount, step s (.enableByUser c a k amount) = none) ∧
    (∀ tok amount, step s (.enablePlain c a tok amount) = none) := by
  refine ⟨fun k amount => ?_, fun _ _ => rfl⟩
  cases h : step s (.enableByUser c a k amount) with
  | none => rfl
  | some r =>
    have h' : step s (.enableByUser c a k amount) = some (r.1, r.2) := by rw [h]
    obtain ⟨_, _, q, _, _, hq, hpart, _⟩ := enable_by_user_requires h'
    rw [hp] at hq
    cases hq
    exact absurd hpart hst

/-- Over whole histories: a registered pair that is Inactive and holds liquidity (= paused by the
    owner; a pair without liquidity is still in its bootstrap state, which `addInitialLiquidity`
    is meant to leave) stays Inactive with that liquidity under every continuation `more` of the
    history — any operations by any callers, `setSwapEnabledByUser` included — that does not
    contain the owner's `resume` of that pair. -/
theorem paused_stays_paused (owner self : Addr) (template : Bool) (foreign : List PairRec)
    (funds : Addr → Nat → Nat) (ops more : List Op) (a : Addr)
    (hreg : a ∈ (run (init owner self template foreign funds) ops).pairMap.map Prod.snd)
    (hpa : Paused (run (init owner self template foreign funds) ops).pairs a)
    (hno : Op.resume owner a ∉ more) :
    Paused (run (run (init owner self template foreign funds) ops) more).pairs a := by
  refine (run_inv ops (inv_init owner self template foreign funds)).run_paused more hreg hpa ?_
  rw [run_owner]
  exact hno

/-- only the owner changes the enable-by-user configuration: a step that changes the whitelist
    of common tokens or any per-token config is one of the three configuration endpoints called
    by the owner -/
theorem enable_config_owner_only {s s' : St} {op : Op} {o : Out} (h : step s op = some (s', o))
    (hne : s'.commonToks ≠ s.commonToks ∨ s'.enableCfg ≠ s.enableCfg) :
    (∃ common locked mv mp, op = .configEnable s.owner common locked mv mp) ∨
    (∃ toks, op = .addCommon s.owner toks) ∨ (∃ toks, op = .removeCommon s.owner toks) := by
  obtain ⟨_, hw, hc, _⟩ := (step_frame h).2
  rcases hne with hn | hn
  · exact .inr (hw.resolve_left hn)
  · exact .inl (hc.resolve_left hn)

/-- … and the configuration endpoints themselves: owner only, valid ids, and a per-token config
    only for a whitelisted common token -/
theorem enable_config_guards {s s' : St} {c : Addr} {common locked : Tok} {mv mp : Nat} {o : Out}
    (h : step s (.configEnable c common locked mv mp) = some (s', o)) :
    c = s.owner ∧ validTok common ∧ validTok locked ∧ common ∈ s.commonToks ∧
    s'.enableCfg common = some ⟨locked, mv, mp⟩ ∧
    (∀ t, t ≠ common → s'.enableCfg t = s.enableCfg t) := by
  obtain ⟨h1, h2, h3, h4, rfl⟩ := configEnable_spec h
  exact ⟨h1, h2, h3, h4, upd_same _ _ _, fun t ht => upd_other _ _ ht⟩

/-- a failed call leaves the state untouched (atomicity as modelled) -/
theorem failed_op_no_effect (s : St) (op : Op) (h : step s op = none) : run s [op] = s := by
  simp [run, h]

/-! ### non-vacuity: the hypotheses above are reachable -/

/-- funds of the accounts in the examples -/
def exFunds : Addr → Nat → Nat := fun a t => if a ≤ 100 ∧ 1 ≤ t ∧ t ≤ 3 then 1000000000000 else 0

/-- owner creates (1,2) and (3,2); a non-owner is refused, then allowed once creation is
    enabled, but not for the reversed duplicate (2,1); (3,2) is removed through the reversed
    order -/
def exRegistry : List Op :=
  [.createPair 100 1 2 0 (some (300, 50)), .createPair 100 3 2 0 (some (300, 50)),
   .createPair 1 1 3 0 none, .setCreation 100 true, .createPair 1 2 1 0 none,
   .createPair 1 1 3 0 none, .removePair 100 2 3]

example :
    let s := run (init 100 200 true [foreignPair 1 2 300 50] exFunds) exRegistry
    s.pairMap = [((1, 2), 1000), ((1, 3), 1002)] ∧ getPair s.pairMap 2 1 = 1000 ∧
    getPair s.pairMap 3 2 = 0 ∧
    checkIsPairSc s.pairMap s.pairs 1000 = some () ∧
    checkIsPairSc s.pairMap s.pairs 1001 = none ∧     -- removed pair
    checkIsPairSc s.pairMap s.pairs 900 = none ∧      -- foreign pair with the tokens of pair 1000
    checkIsPairSc s.pairMap s.pairs 1 = none := by    -- not a pair at all
  decide

/-- liquidity on two pairs, then a two-hop swap: fixed input through (1,2), fixed output
    through (3,2); the caller gets a residual in token 2 and the output in token 3 -/
def exSwap : List Op :=
  [.createPair 100 1 2 0 (some (300, 50)), .createPair 100 3 2 0 (some (300, 50)),
   .addInitial 1 1000 1000000 2000000, .addInitial 1 1001 3000000 1000000,
   .resume 100 1000, .resume 100 1001]

example :
    let s := run (init 100 200 true [] exFunds) exSwap
    (step s (.multi 2 1 10000 [⟨1000, .fixedIn, 2, 1⟩, ⟨1001, .fixedOut, 3, 5000⟩])).map
        (fun r => (r.2.pays, r.1.rbal 1, r.1.rbal 2, r.1.rbal 3)) =
      some ([(2, 18068), (3, 5000)], 0, 0, 0) ∧
    -- a hop through an unregistered address, a bad function name, or too tight a bound fails everything
    (step s (.multi 2 1 10000 [⟨1000, .fixedIn, 2, 1⟩, ⟨900, .fixedIn, 3, 1⟩])).isNone = true ∧
    (step s (.multi 2 1 10000 [⟨1000, .bad, 2, 1⟩])).isNone = true ∧
    (step s (.multi 2 1 10000 [⟨1000, .fixedIn, 2, 1⟩, ⟨1001, .fixedOut, 3, 500000⟩])).isNone = true := by
  decide

/-- user 1 is the initial liquidity adder of pair (1,2): the owner whitelists token 2 and asks
    for at least 1 000 000 of it locked for 10 epochs; user 1 adds the initial liquidity, locks
    his LP tokens until epoch 30 in the simple-lock 501 -/
def exEnable : List Op :=
  [.createPair 100 1 2 1 (some (300, 50)), .addInitial 1 1000 3000000 2000000,
   .addCommon 100 [2], .configEnable 100 2 501 1000000 10, .advance 20,
   .lock 1 501 1000 1999000 30]

example :
    let s := run (init 100 200 true [] exFunds) exEnable
    let k : LTok := ⟨501, 1000, 30⟩
    -- the adder enables swaps: Active, fees 1000 / 50, tokens back, router holds nothing
    (step s (.enableByUser 1 1000 k 1999000)).map (fun r =>
        (r.1.pairs 1000).map fun p => (p.st.status, p.st.total, p.st.special)) =
      some (some (.active, 1000, 50)) ∧
    (step s (.enableByUser 1 1000 k 1999000)).map (fun r => (r.1.lbal 1 k, r.1.lbal 200 k)) =
      some (1999000, 0) ∧
    (step s (.enableByUser 1 1000 k 1999000)).map (fun r => r.2.back) = some (some (k, 1999000)) ∧
    -- somebody else, too little value, too short a lock (one epoch later), a plain token: refused
    (step s (.enableByUser 2 1000 k 1999000)).isNone = true ∧
    (step s (.enableByUser 1 1000 k 1000)).isNone = true ∧
    (step (run s [.advance 21]) (.enableByUser 1 1000 k 1999000)).isNone = true ∧
    (step s (.enablePlain 1 1000 1 5000)).isNone = true ∧
    -- a non-owner cannot configure
    (step s (.configEnable 1 2 501 0 0)).isNone = true ∧ (step s (.addCommon 1 [1])).isNone = true ∧
    -- paused by the owner (before or after the user enabled swaps): the adder cannot bring it back
    (step (run s [.pause 100 1000]) (.enableByUser 1 1000 k 1999000)).isNone = true ∧
    (step (run s [.enableByUser 1 1000 k 1999000, .pause 100 1000])
        (.enableByUser 1 1000 k 1999000)).isNone = true ∧
    Paused (run s [.enableByUser 1 1000 k 1999000, .pause 100 1000]).pairs 1000 := by
  refine ⟨by decide, by decide, by decide, by decide, by decide, by decide, by decide, by decide,
    by decide, by decide, by decide, ⟨_, rfl, by decide, by decide⟩⟩

end Mx.C14
