/-
  KProxyDex — the proxy-dex model (`Core/ProxyDex.lean`: `part`, the split of `removeLiq`) computes
  what the SOURCE of `locked-asset/proxy_dex/src/{wrapped_lp_attributes.rs, wrapped_farm_attributes.rs,
  proxy_pair.rs}` and `common/traits/fixed-supply-token` computes.

  `Gen/KProxyDex.lean` is regenerated on every run by `bin/gen-kernels` (group `ProxyDex`):

    * `lp_*`    `WrappedLpTokenAttributes`: total supply = `lp_token_amount`; `into_part(x)` keeps `x` LP
                tokens and `rule_of_three_non_zero_result(x, locked_tokens.amount)` locked tokens
    * `farm_*`  `WrappedFarmTokenAttributes`: total supply = `farm_token.amount`; `into_part(x)` keeps `x`
                farm tokens and `rule_of_three_non_zero_result(x, proxy_farming_token.amount)`
    * `remove_unlocked_amount`, `remove_extra_locked`   the two differences of `removeLiquidityProxy`
                (base asset received vs. locked tokens of the position)

  Property C16 (locked tokens stay locked, every wrapped token is fully backed) rests on the parts.
-/
import MxModel.Gen.KProxyDex
import MxModel.Core.ProxyDex
import MxModel.Lemmas.KTactic

namespace Mx.KProxyDex
open Mx Mx.Gen Mx.ProxyDex

theorem lp_rule_of_three_non_zero_result_eq (x full total : Nat) :
    KProxyDex.lp_rule_of_three_non_zero_result x full total = part full total x := by
  k_defs [KProxyDex.lp_rule_of_three_non_zero_result, KProxyDex.lp_rule_of_three,
    KProxyDex.lp_total_supply, part]
  grind

theorem lp_into_part_amounts_eq (locked total x : Nat) :
    KProxyDex.lp_into_part_amounts locked total x = (part locked total x).map fun q => (x, q) := by
  cases h : part locked total x <;>
    k_defs [KProxyDex.lp_into_part_amounts, lp_rule_of_three_non_zero_result_eq, h] <;> try grind

theorem farm_rule_of_three_non_zero_result_eq (x full total : Nat) :
    KProxyDex.farm_rule_of_three_non_zero_result x full total = part full total x := by
  k_defs [KProxyDex.farm_rule_of_three_non_zero_result, KProxyDex.farm_rule_of_three,
    KProxyDex.farm_total_supply, part]
  grind

theorem farm_into_part_amounts_eq (farmTotal farming x : Nat) :
    KProxyDex.farm_into_part_amounts farmTotal farming x = part farming farmTotal x := by
  cases h : part farming farmTotal x <;>
    k_defs [KProxyDex.farm_into_part_amounts, farm_rule_of_three_non_zero_result_eq, h] <;> try grind

theorem farm_into_part_farm_amount_eq (x : Nat) :
    KProxyDex.farm_into_part_farm_amount x = some x := by
  k_defs [KProxyDex.farm_into_part_farm_amount]

theorem part_le (full total x q : Nat) (hx : x ≤ total) (h : part full total x = some q) :
    q ≤ full ∧ q ≠ 0 := by
  have hdiv : full * x / total ≤ full := by
    by_cases ht : total = 0
    · subst ht; simp
    · apply Nat.div_le_of_le_mul
      rw [Nat.mul_comm total full]
      exact Nat.mul_le_mul_left _ hx
  have h' : (if (if x = total then full else full * x / total) = 0 then none
      else some (if x = total then full else full * x / total)) = some q := h
  by_cases hxt : x = total
  · simp only [if_pos hxt] at h'
    by_cases hf : full = 0
    · rw [if_pos hf] at h'; cases h'
    · rw [if_neg hf, Option.some.injEq] at h'
      subst h'
      exact ⟨Nat.le_refl _, hf⟩
  · simp only [if_neg hxt] at h'
    by_cases hf : full * x / total = 0
    · rw [if_pos hf] at h'; cases h'
    · rw [if_neg hf, Option.some.injEq] at h'
      subst h'
      exact ⟨hdiv, hf⟩

/-- more base asset received than locked tokens in the position: the surplus is paid as UNLOCKED base
    asset (the model's `base := rb − p`) -/
theorem remove_unlocked_amount_eq (rb p : Nat) :
    KProxyDex.remove_unlocked_amount rb p = if rb < p then none else some (rb - p) := by
  k_defs [KProxyDex.remove_unlocked_amount]
  grind

/-- otherwise the shortfall of locked tokens is burned (the model's `extra`) -/
theorem remove_extra_locked_eq (rb p : Nat) :
    KProxyDex.remove_extra_locked rb p = if p < rb then none else some (p - rb) := by
  k_defs [KProxyDex.remove_extra_locked]
  grind

theorem remove_split_conserves (rb p : Nat) :
    (p < rb → ∃ u, KProxyDex.remove_unlocked_amount rb p = some u ∧ u + p = rb) ∧
    (rb ≤ p → ∃ e, KProxyDex.remove_extra_locked rb p = some e ∧ rb + e = p) := by
  constructor
  · intro h
    exact ⟨rb - p, by rw [remove_unlocked_amount_eq, if_neg (by omega)], by omega⟩
  · intro h
    exact ⟨p - rb, by rw [remove_extra_locked_eq, if_neg (by omega)], by omega⟩

example : KProxyDex.lp_into_part_amounts 50 100 30 = some (30, 15) := by decide
example : KProxyDex.lp_into_part_amounts 50 100 1 = none := by decide
example : KProxyDex.lp_into_part_amounts 50 100 100 = some (100, 50) := by decide
example : KProxyDex.farm_into_part_amounts 100 50 30 = some 15 := by decide

end Mx.KProxyDex
