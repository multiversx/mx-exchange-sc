/-
  C01 — Pair pool is always fully backed; LP supply equals circulating LP tokens.

  Statement: after every transaction on a pair, the pair's real balance of each pool token is
  at least the reserve it reports, the LP supply it reports equals the LP tokens in
  existence, and once liquidity exists both reserves stay strictly positive.

  Model: Core/Pair.lean (`bal1/bal2` = real balances, `lpCirc` = minted − burned LP).
  The operations quantified over include the output-locking setters, the epoch clock and swaps
  whose output is locked through simple-lock (`Op.lock`, `Op.epoch`, `Out.locked`).
-/
import MxModel.Lemmas.PairInv

namespace Mx.C01
open Mx.Pair

/-- one transaction preserves the invariant (any operation, any arguments, any configuration) -/
theorem inv_step {s s' : St} {op : Op} {o : Out} (hi : Inv s) (h : step s op = some (s', o)) :
    Inv s' :=
  step_inv hi h

/-- every state reachable from a freshly deployed pair by any history satisfies the invariant -/
theorem inv_run (total special : Nat) (adder : Option Nat) (cap : Nat) (ops : List Op) :
    Inv (run (init total special adder cap) ops) :=
  run_inv ops (inv_init total special adder cap)

/-- the headline, spelled out: balances cover reserves and the reported LP supply is the
    circulating LP, after any history whatsoever -/
theorem backed_and_supply_exact (total special : Nat) (adder : Option Nat) (cap : Nat)
    (ops : List Op) :
    let s := run (init total special adder cap) ops
    s.r1 ≤ s.bal1 ∧ s.r2 ≤ s.bal2 ∧ s.S = s.lpCirc := by
  have h := inv_run total special adder cap ops
  exact ⟨h.back1, h.back2, h.supply⟩

/-- once liquidity exists (after some prefix of the history) the LP supply and both
    reserves are strictly positive after every later transaction -/
theorem positive_forever (total special : Nat) (adder : Option Nat) (cap : Nat)
    (before after : List Op)
    (h : 0 < (run (init total special adder cap) before).S) :
    let s := run (init total special adder cap) (before ++ after)
    0 < s.S ∧ 0 < s.r1 ∧ 0 < s.r2 := by
  intro s
  have hi := inv_run total special adder cap before
  have hS : 0 < s.S := by
    show 0 < (run _ (before ++ after)).S
    rw [run_append]
    exact run_S_pos after h
  have hi' := inv_run total special adder cap (before ++ after)
  have := hi'.pos hS
  exact ⟨hS, this.1, this.2.1⟩

/-- a failed transaction leaves the state untouched (atomicity as modelled) -/
theorem failed_tx_no_effect (s : St) (op : Op) (h : step s op = none) : run s [op] = s := by
  simp [run, h]

/-- non-vacuity: a concrete history reaches a state with liquidity, a routed fee, a
    collector cut and swap outputs locked through simple-lock, on which the invariant's
    premises are all live -/
example :
    let s := run (init 300 50 none 8)
      [.cfg (.setState .active), .addLiq 1000000 2000000 1 1, .cfg (.addDest .first),
       .cfg (.addDest .second), .cfg (.setCollector 50000), .advance 3,
       .lock true (.setSc .simpleLock), .lock true (.setDeadline 2), .lock true (.setUnlock 7),
       .swapIn .ab 100000 1, .epoch 2, .swapOut .ba 500000 1000, .removeLiq 5000 1 1]
    0 < s.S ∧ s.r1 < s.bal1 ∧ 0 < s.coll1 ∧ 0 < s.burn1 ∧ 0 < s.burn2 ∧ 0 < s.slk2 ∧ s.slk1 = 0 := by
  decide

end Mx.C01
