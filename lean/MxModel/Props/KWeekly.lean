/-
  KWeekly — the shared weekly-rewards-splitting model (`Core/Weekly.lean`) computes what the SOURCE of
  `energy-integration/common-modules/weekly-rewards-splitting/src/{locked_token_buckets.rs,
  global_info.rs, base_impl.rs, lib.rs}` computes.

  `Gen/KWeekly.lean` is regenerated on every run by `bin/gen-kernels`.  Whole functions:
  `get_bucket_id_for_energy` (an `Option`: (0, 0) = `None`, (1, id) = `Some(id)`),
  `get_surplus_for_energy`, `ClaimProgress::advance_week`, `advance_multiple_weeks`.  Fragments (the
  arithmetic cores of functions whose loops / mapper plumbing are outside the translated subset):
  one iteration of the bucket shift, the deplete epoch of the stored previous energy, the four-case
  update of the week's locked tokens, the update of the week's total energy, the cleared week, the
  share of one reward entry, the week counting of `claim_multi`.
-/
import MxModel.Gen.KWeekly
import MxModel.Props.KEnergy
import MxModel.Props.KMath
import MxModel.Core.Weekly
import MxModel.Lemmas.KTactic
import Mathlib.Tactic.SplitIfs

namespace Mx.KWeekly
open Mx Mx.Gen Mx.Weekly

/-- the (tag, payload) reading of the model's `bucketIdFor` -/
theorem bucketIdFor_tag (first : Nat) (e : Energy) :
    (match bucketIdFor first e with
      | none => (0, 0)
      | some id => (1, id)) =
      if e.totalLocked = 0 then (0, 0) else if e.getEnergyAmount = 0 then (0, 0)
      else (1, e.getEnergyAmount / e.totalLocked / 7 + first) := by
  have hE : EPOCHS_IN_WEEK = 7 := rfl
  simp only [bucketIdFor, hE]
  split_ifs <;> rfl

theorem get_bucket_id_for_energy_eq (first : Nat) (e : Energy) :
    KWeekly.get_bucket_id_for_energy e.amount e.totalLocked first =
      some (match bucketIdFor first e with
            | none => (0, 0)
            | some id => (1, id)) := by
  rw [bucketIdFor_tag]
  k_defs [KWeekly.get_bucket_id_for_energy, Mx.KEnergy.weekly_get_energy_amount_eq]
  grind

theorem get_surplus_for_energy_eq (e : Energy) :
    KWeekly.get_surplus_for_energy e.amount e.totalLocked = some (surplusFor e) := by
  have hE : EPOCHS_IN_WEEK = 7 := rfl
  k_defs [KWeekly.get_surplus_for_energy, surplusFor, hE, Mx.KEnergy.weekly_get_energy_amount_eq]
  grind

/-- one iteration of the loop of `shift_buckets_and_update_tokens_energy`; the energy is reduced with the
    ALREADY reduced tokens -/
theorem shift_one_bucket_eq (g : St) (t : Totals) :
    KWeekly.shift_one_bucket (g.buckets g.firstBucketId).surplus (g.buckets g.firstBucketId).tokens
        t.energy t.tokens =
      (shiftOnce g t).map fun r => (r.2.energy, r.2.tokens) := by
  have hE : EPOCHS_IN_WEEK = 7 := rfl
  k_defs [KWeekly.shift_one_bucket, shiftOnce, hE, Mx.KMath.safe_sub_eq, safeSub]
  try grind

/-- the epoch to which `update_global_amounts_for_current_week` depletes the stored previous energy; the
    `usize` subtraction underflows when time ran backwards (the model's guard `lastActive ≤ W`) -/
theorem deplete_end_epoch_eq (last W lastActive : Nat) :
    KWeekly.deplete_end_epoch last W lastActive =
      if W < lastActive then none else some (last + (W - lastActive) * 7) := by
  k_defs [KWeekly.deplete_end_epoch]
  grind

theorem depletedPrev_runs_source (prev : Energy) (W lastActive : Nat) (h : lastActive ≤ W)
    (hne : W ≠ lastActive) :
    ∃ ep, KWeekly.deplete_end_epoch prev.lastUpdateEpoch W lastActive = some ep ∧
      KEnergy.deplete ep prev.amount prev.lastUpdateEpoch prev.totalLocked =
        some ((depletedPrev prev W lastActive).amount, (depletedPrev prev W lastActive).lastUpdateEpoch) ∧
      (depletedPrev prev W lastActive).totalLocked = prev.totalLocked := by
  have hE : EPOCHS_IN_WEEK = 7 := rfl
  refine ⟨prev.lastUpdateEpoch + (W - lastActive) * 7, ?_, ?_, ?_⟩
  · rw [deplete_end_epoch_eq, if_neg (by omega)]
  · simp only [depletedPrev, if_pos hne, hE]
    exact Mx.KEnergy.weekly_deplete_eq prev _
  · simp only [depletedPrev, if_pos hne]
    exact Mx.KEnergy.weekly_deplete_frame prev _

/-- the four-case update of `totalLockedTokensForWeek(current_week)`: add first, then the checked
    subtraction -/
theorem total_tokens_update_eq (g : St) (W : Nat) (bp : BucketPair) (depPrev cur : Energy) :
    KWeekly.total_tokens_update depPrev.totalLocked cur.totalLocked bp.prev.isSome bp.cur.isSome
        (g.totalLocked W) =
      (updateTotalTokens g W bp depPrev cur).map fun g' => g'.totalLocked W := by
  obtain ⟨p, c⟩ := bp
  cases p <;> cases c <;> simp only [Option.isSome_some, Option.isSome_none] <;>
    k_defs [KWeekly.total_tokens_update, updateTotalTokens, upd_same] <;> grind

/-- the update of `totalEnergyForWeek(current_week)`: subtract the (depleted) previous energy first
    (checked), then add the current one -/
theorem total_energy_update_eq (g : St) (W : Nat) (depPrev cur : Energy) :
    KWeekly.total_energy_update depPrev.amount cur.amount (g.totalEnergy W) =
      (updateTotalEnergy g W depPrev cur).map fun g' => g'.totalEnergy W := by
  k_defs [KWeekly.total_energy_update, updateTotalEnergy, Mx.KEnergy.weekly_get_energy_amount_eq,
    upd_same]
  try grind

/-- the week whose entries `perform_weekly_update` clears; the source computes it only for `current > 5` -/
theorem inaccessible_week_eq (W : Nat) (h : USER_MAX_CLAIM_WEEKS + 1 < W) :
    KWeekly.inaccessible_week W = some (W - USER_MAX_CLAIM_WEEKS - 1) := by
  have hU : USER_MAX_CLAIM_WEEKS = 4 := rfl
  rw [hU] at h ⊢
  k_defs [KWeekly.inaccessible_week]
  grind

/-- the caller returns early when either energy is 0, so the division never aborts there -/
theorem user_reward_share_eq (amount energy total : Nat) :
    KWeekly.user_reward_share energy total amount =
      if total = 0 then none else some (share amount energy total) := by
  k_defs [KWeekly.user_reward_share, share]
  try grind

theorem advance_week_eq (p : ClaimProgress) :
    KWeekly.advance_week p.energy.amount p.energy.lastUpdateEpoch p.energy.totalLocked p.week =
      some (p.advanceWeek.energy.amount, p.advanceWeek.energy.lastUpdateEpoch, p.advanceWeek.week) := by
  have hE : EPOCHS_IN_WEEK = 7 := rfl
  k_defs [KWeekly.advance_week, Mx.KEnergy.weekly_deplete_eq, ClaimProgress.advanceWeek, hE]
  try grind

theorem advance_multiple_weeks_eq (p : ClaimProgress) (n : Nat) :
    KWeekly.advance_multiple_weeks n p.energy.amount p.energy.lastUpdateEpoch p.energy.totalLocked
        p.week =
      some ((p.advanceMultipleWeeks n).energy.amount, (p.advanceMultipleWeeks n).energy.lastUpdateEpoch,
            (p.advanceMultipleWeeks n).week) := by
  have hE : EPOCHS_IN_WEEK = 7 := rfl
  k_defs [KWeekly.advance_multiple_weeks, Mx.KEnergy.weekly_deplete_eq,
    ClaimProgress.advanceMultipleWeeks, hE]
  try grind

theorem advance_frame (p : ClaimProgress) (n : Nat) :
    p.advanceWeek.energy.totalLocked = p.energy.totalLocked ∧
    (p.advanceMultipleWeeks n).energy.totalLocked = p.energy.totalLocked :=
  ⟨Mx.KEnergy.weekly_deplete_frame _ _, Mx.KEnergy.weekly_deplete_frame _ _⟩

/-- the week counting of `claim_multi`: the model's `p1` and `min totalWeeks 4`; `h` is the model's
    `req (p0.week ≤ W)` -/
theorem weeks_to_claim_eq (p0 : ClaimProgress) (W : Nat) (h : p0.week ≤ W) :
    KWeekly.weeks_to_claim p0.energy.amount p0.energy.lastUpdateEpoch p0.energy.totalLocked p0.week W =
      some (min (W - p0.week) USER_MAX_CLAIM_WEEKS,
        (if USER_MAX_CLAIM_WEEKS < W - p0.week
          then p0.advanceMultipleWeeks (W - p0.week - USER_MAX_CLAIM_WEEKS) else p0).energy.amount,
        (if USER_MAX_CLAIM_WEEKS < W - p0.week
          then p0.advanceMultipleWeeks (W - p0.week - USER_MAX_CLAIM_WEEKS) else p0).energy.lastUpdateEpoch,
        (if USER_MAX_CLAIM_WEEKS < W - p0.week
          then p0.advanceMultipleWeeks (W - p0.week - USER_MAX_CLAIM_WEEKS) else p0).week) := by
  have hU : USER_MAX_CLAIM_WEEKS = 4 := rfl
  rw [hU]
  k_defs [KWeekly.weeks_to_claim, advance_multiple_weeks_eq]
  grind

theorem weeks_to_claim_aborts (a : Int) (l t w W : Nat) (h : W < w) :
    KWeekly.weeks_to_claim a l t w W = none := by
  k_defs [KWeekly.weeks_to_claim]
  grind

example : KWeekly.get_bucket_id_for_energy 700 10 3 = some (1, 13) := by decide
example : KWeekly.get_bucket_id_for_energy (-5) 10 3 = some (0, 0) := by decide
example : KWeekly.get_surplus_for_energy 705 10 = some 5 := by decide
example : KWeekly.shift_one_bucket 5 10 1000 30 = some (855, 20) := by decide
example : KWeekly.total_tokens_update 7 5 true true 10 = some 8 := by decide
example : KWeekly.weeks_to_claim 1000 10 5 2 9 = some (4, 895, 31, 5) := by decide

end Mx.KWeekly
