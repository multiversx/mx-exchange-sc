/-
  C20 (pair part) — quotes equal execution: `getAmountOut` / `getAmountIn` /
  `getTokensForGivenPosition` versus the two swap modes and `removeLiquidity`, in the same state.
  Views are pure functions of the state in the model (`view… : St → … → Option Nat`), so
  "quoting never changes state" holds by construction here; on the real code it is checked
  by the harness (clause `view_pure`).
-/
import MxModel.Lemmas.PairSpec

namespace Mx.C20
open Mx.Pair

/-- whatever a fixed-input swap delivers is exactly what `getAmountOut` promised -/
theorem amountOut_quote_eq_exec {s s' : St} {d : Dir} {a minOut q : Nat} {o : Out}
    (hq : viewAmountOut s d a = some q) (h : swapIn s d a minOut = some (s', o)) : o.v1 = q := by
  obtain ⟨_, _, _, _, _, _, _, rfl⟩ := swapIn_iff.mp h
  simp only [viewAmountOut, Option.bind_eq_bind, Option.bind_eq_some_iff, req_eq_some,
    Option.pure_def, Option.some.injEq] at hq
  obtain ⟨_, _, _, _, _, _, _, _, rfl⟩ := hq
  rfl

/-- a fixed-input swap never succeeds where its quote refuses -/
theorem swapIn_implies_quote {s s' : St} {d : Dir} {a minOut : Nat} {o : Out}
    (h : swapIn s d a minOut = some (s', o)) : ∃ q, viewAmountOut s d a = some q := by
  obtain ⟨_, h2, _, h6, h7, h8, _, rfl⟩ := swapIn_iff.mp h
  refine ⟨amountOut s.total a (s.rin d) (s.rout d), ?_⟩
  have hden : s.rin d * M + a * (M - s.total) ≠ 0 := by
    intro hden
    simp only [amountOut, hden, Nat.div_zero] at h8
    exact h8 rfl
  have hro : 0 < s.rout d := by omega
  simp only [viewAmountOut, Option.bind_eq_bind, Option.bind_eq_some_iff, req_eq_some,
    Option.pure_def]
  exact ⟨(), h2, (), hro, (), hden, (), h7, trivial⟩

/-- the quote is also sufficient, here with the fee switch off and in ANY state: if
    `getAmountOut` answers, the pair is active, the caller's minimum is met, the K check passes
    (`hk`), the pair's balance covers the output (`hbal`) and — the one guard output locking
    adds — the locking address is simple-lock while locking is on, the swap goes through.
    `C20Pair2.quote_implies_swapIn` covers every fee configuration and proves `hk` and `hbal`
    in reachable states. -/
theorem quote_implies_swapIn {s : St} {d : Dir} {a minOut q : Nat}
    (hq : viewAmountOut s d a = some q) (hact : s.status = .active) (hmin : 0 < minOut)
    (hle : minOut ≤ q) (hq0 : q ≠ 0) (hoff : s.feeOn = false) (hbal : q ≤ s.balOut d)
    (hk : s.r1 * s.r2 ≤ (swapMid s d a 0 q).r1 * (swapMid s d a 0 q).r2)
    (hlock : s.lockOn = true → s.lockSc = .simpleLock) :
    ∃ s', swapIn s d a minOut = some (s', ⟨q, 0, 0, s.locksOut⟩) := by
  obtain ⟨h1, hq⟩ := peel_req hq
  obtain ⟨_, hq⟩ := peel_req hq
  obtain ⟨_, hq⟩ := peel_req hq
  obtain ⟨h4, hq⟩ := peel_req hq
  obtain rfl := Option.some.inj hq
  have hz := swapFee_off hoff a
  refine ⟨_, swapIn_iff.mpr ⟨hmin, h1, hact, hle, h4, hq0, ⟨?_, ?_, hlock,
    swapMid s d a (swapFee s a) (amountOut s.total a (s.rin d) (s.rout d)), ?_, ?_, rfl⟩, rfl⟩⟩
  · rw [hz]; exact Nat.zero_le _
  · rw [hz]; exact hk
  · rw [hz]; exact sendFee_zero _ _
  · rw [swapMid_balOut]; exact hbal

/-- whatever a fixed-output swap charges is exactly what `getAmountIn` promised -/
theorem amountIn_quote_eq_exec {s s' : St} {d : Dir} {maxIn out q : Nat} {o : Out}
    (hq : viewAmountIn s d out = some q) (h : swapOut s d maxIn out = some (s', o)) :
    o.v2 = q ∧ o.v1 = out := by
  obtain ⟨_, _, _, _, _, _, _, rfl⟩ := swapOut_iff.mp h
  simp only [viewAmountIn, Option.bind_eq_bind, Option.bind_eq_some_iff, req_eq_some,
    Option.pure_def, Option.some.injEq] at hq
  obtain ⟨_, _, _, _, _, _, rfl⟩ := hq
  exact ⟨rfl, rfl⟩

/-- a fixed-output swap never succeeds where its quote refuses -/
theorem swapOut_implies_quote {s s' : St} {d : Dir} {maxIn out : Nat} {o : Out}
    (h : swapOut s d maxIn out = some (s', o)) : ∃ q, viewAmountIn s d out = some q := by
  obtain ⟨h1, _, _, h4, h5, _⟩ := swapOut_iff.mp h
  refine ⟨amountIn s.total out (s.rin d) (s.rout d), ?_⟩
  simp [viewAmountIn, req, h1, h4, h5]

/-- removing liquidity pays exactly what `getTokensForGivenPosition` promised -/
theorem position_quote_eq_exec {s s' : St} {lp m1 m2 : Nat} {o : Out}
    (h : removeLiq s lp m1 m2 = some (s', o)) :
    viewTokensForPosition s lp = (o.v1, o.v2) := by
  have t := removeLiq_spec h
  obtain rfl := t.out
  have h5 := t.minliq
  have hS : s.S ≠ 0 := by
    have hM : MINLIQ = 1000 := rfl
    omega
  simp [viewTokensForPosition, hS]

/-- non-vacuity -/
example :
    let s0 := run (init 300 50 none 8) [.cfg (.setState .active), .addLiq 1000000 2000000 1 1]
    viewAmountOut s0 .ab 1000 = some 1992 ∧ (swapIn s0 .ab 1000 1).isSome ∧
    viewAmountIn s0 .ab 1992 = some 1000 ∧ viewTokensForPosition s0 1000 = (1000, 2000) := by
  decide

end Mx.C20
