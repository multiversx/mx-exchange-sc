/-
  C11 — Boosted rewards: per-week formula, single payment, bounded by the week's pool, undistributed
  collected once (dex/farm, dex/farm-with-locked-rewards; farm-staking has its own file).

  Model: Core/Farm.lean (`boostedRewards` = `FarmBoostedYieldsWrapper::get_user_rewards_for_week`,
  `boostedAmount` = the formula, `BCfg` = the 5-slot factors ring, `collectUndistributed`) on top of
  the shared Core/Weekly.lean (`claimMulti`).  Ghosts: `paidW w` (Σ boosted paid out of week w's
  pool), `cutW w` (Σ boosted cut accumulated into it), `collW w` (moved to undistributed).
-/
import MxModel.Lemmas.FarmArith
import MxModel.Lemmas.FarmBoost

namespace Mx.C11
open Mx Mx.Farm

/-- **boosted_formula.**  What `get_user_rewards_for_week` pays for one week: nothing, or exactly
    `min ⌊maxF·R·f/F⌋ ⌊(⌊R·cE·e/E⌋ + ⌊R·cF·f/F⌋)/(cE+cF)⌋` of the week's frozen pool `R`, with `f` the
    user's total farm position, `F` the farm supply recorded for that week, `e`/`E` the user's / the total
    energy of that week and the factors in force for that week — only when `E ≠ 0`, `F ≠ 0`,
    `e ≥ minE`, `f ≥ minF`. -/
theorem boosted_formula {mem : BCfg} {f : Nat} {g g' : Weekly.St} {c c' : BSt} {week e E : Nat}
    {r : List (Weekly.Tok × Nat)} (h : boostedRewards mem f g c week e E = some (g', c', r)) :
    r = [] ∨ ∃ fa tok R, mem.factorsForWeek week = some fa ∧ E ≠ 0 ∧ c.farmSupplyWeek week ≠ 0 ∧
      fa.minE ≤ e ∧ fa.minF ≤ f ∧ g'.totalRewards week = [(tok, R)] ∧
      r = [(tok, min (fa.maxF * R * f / c.farmSupplyWeek week)
        ((R * fa.cE * e / E + R * fa.cF * f / c.farmSupplyWeek week) / (fa.cE + fa.cF)))] := by
  rcases (boostedRewards_spec h).1 with h0 | ⟨fa, tok, R, h1, h2, h3, h4, h5, _, _, h8, _, _, h11, _⟩
  · exact Or.inl h0
  · exact Or.inr ⟨fa, tok, R, h1, h2, h3, h4, h5, h8, h11⟩

/-- nothing is paid (and nothing is touched) when the week has no energy or no recorded farm supply,
    or when the user is below the minimum energy / minimum farm position of that week's factors -/
theorem boosted_zero_cases {mem : BCfg} {f : Nat} {g g' : Weekly.St} {c c' : BSt} {week e E : Nat}
    {r : List (Weekly.Tok × Nat)} (h : boostedRewards mem f g c week e E = some (g', c', r)) :
    ((E = 0 ∨ c.farmSupplyWeek week = 0) → r = [] ∧ g' = g ∧ c' = c) ∧
    (∀ fa, mem.factorsForWeek week = some fa → (e < fa.minE ∨ f < fa.minF) → r = [] ∧ g' = g ∧ c' = c) :=
  ⟨fun hz => boostedRewards_zero h hz, fun _ hfa hm => boostedRewards_below_min h hfa hm⟩

/-- **paid_once.**  After a successful boosted claim of `u`, any further claim of `u` in the same week
    (from any state that kept `u`'s claim progress) pays nothing and leaves the pools alone.
    Holds also when the first claim ran without a boosted-yields config (`s.b.cfg = none`): the
    claim advances `u`'s progress in that case too (finding F6, DESIGN.md). -/
theorem paid_once {s s1 s2 s3 : St} {u r1 r2 : Nat} (h1 : claimBoostedYields s u = some (s1, r1))
    (hprog : s2.w.progress u = s1.w.progress u) (hweek : s2.week = s.week)
    (h2 : claimBoostedYields s2 u = some (s3, r2)) : r2 = 0 ∧ s3.b = s2.b :=
  Farm.paid_once h1 hprog hweek h2

/-- **week_pool_bound (one payment).**  A payment for a week is bounded by what the week's pool still
    holds, and is booked against it: the week's `paidW` grows by exactly the payment. -/
theorem week_pool_bound_step {mem : BCfg} {f : Nat} {g g' : Weekly.St} {c c' : BSt} {week e E : Nat}
    {r : List (Weekly.Tok × Nat)} (h : boostedRewards mem f g c week e E = some (g', c', r)) :
    sumRewards r = c'.paidW week - c.paidW week ∧ c.paidW week ≤ c'.paidW week ∧
    sumRewards r ≤ c.accum week + c.remaining week ∧
    (∀ w, w ≠ week → c'.accum w = c.accum w ∧ c'.remaining w = c.remaining w ∧ c'.paidW w = c.paidW w) := by
  obtain ⟨_, h1, h2, h3, _, _, h6⟩ := boostedRewards_spec h
  exact ⟨h1, h2, h3, h6⟩

/-- **week_pool_bound (one claim).**  A whole boosted claim conserves, for every week,
    `accumulated + remaining + paid-so-far` (given the pool invariant `RemInv`: a not-yet-frozen week
    inside the window has nothing in `remaining`), touches only the last four completed weeks, and
    returns exactly what the pools lost. -/
theorem week_pool_bound_claim {s s' : St} {u r : Nat} (h : claimBoostedYields s u = some (s', r))
    (hI : RemInv s) :
    RemInv s' ∧ (∀ w, s'.b.accum w + s'.b.remaining w + s'.b.paidW w =
                      s.b.accum w + s.b.remaining w + s.b.paidW w) ∧
    (∀ W, s.week = some W → ∀ w, (w + 4 < W ∨ W ≤ w) →
        s'.b.accum w = s.b.accum w ∧ s'.b.remaining w = s.b.remaining w ∧ s'.b.paidW w = s.b.paidW w) ∧
    (∀ W, s.week = some W →
        r = ((List.range 4).map fun i => s'.b.paidW (W - 4 + i) - s.b.paidW (W - 4 + i)).sum) := by
  obtain ⟨hR, hP⟩ := claimBoostedYields_remInv h hI
  have e := claimBoostedYields_spec h
  exact ⟨hR, hP.cons, e.outside, e.result⟩

/-- **claim_uses_old_position.**  The boosted claim depends on the user's farm position only through
    `userTotal u` as it is when the claim runs — and every position-changing endpoint runs it before
    touching `userTotal` (see `enterCore`, `claimCore`, `exitFarm`, `mergeFarmTokens` in Core/Farm.lean:
    `claimBoostedYields` / `claimOnlyBoostedPayment` precede `checkAndUpdate`, `increaseUser`,
    `decreaseOwner`). -/
theorem claim_uses_old_position (s : St) (u : Nat) (t : Nat → Nat) (ht : t u = s.userTotal u) :
    claimBoostedYields { s with userTotal := t } u =
      (claimBoostedYields s u).map (fun r => ({ r.1 with userTotal := t }, r.2)) :=
  claimBoostedYields_userTotal s u t ht

/-- **undistributed_once.**  `collectUndistributedBoostedRewards` in week `W > 5` moves exactly the
    remaining pools of the weeks `lastCollect+1 … W−5` to the undistributed counter, empties them,
    leaves every week inside the claim window (and everything else) alone, and records `W−5`; a second
    call in the same week moves nothing. -/
theorem undistributed_once {s s' : St} {c : Nat} (h : collectUndistributed s c = some s') :
    ∃ W, s.week = some W ∧ 5 < W ∧
      (s.lastCollect + 1 ≤ W - 5 →
        s'.lastCollect = W - 5 ∧
        (∀ w, s.lastCollect < w → w ≤ W - 5 → s'.b.remaining w = 0 ∧ s'.b.collW w = s.b.collW w + s.b.remaining w) ∧
        (∀ w, (w ≤ s.lastCollect ∨ W - 5 < w) → s'.b.remaining w = s.b.remaining w ∧ s'.b.collW w = s.b.collW w) ∧
        s'.undist = s.undist + ((List.range (W - 5 - s.lastCollect)).map
            fun i => s.b.remaining (s.lastCollect + 1 + i)).sum ∧
        s'.b.accum = s.b.accum ∧ s'.b.paidW = s.b.paidW ∧ s'.b.cutW = s.b.cutW) ∧
      (W - 5 < s.lastCollect + 1 → s' = s) := by
  obtain ⟨_, W, hW, hgt, h⟩ := collectUndistributed_some h
  have hU : Weekly.USER_MAX_CLAIM_WEEKS = 4 := rfl
  rw [hU] at hgt h
  refine ⟨W, hW, by omega, ?_, ?_⟩
  · intro hle
    have hn : ¬ (W - (4 + 1) < s.lastCollect + 1) := by omega
    simp only [hn, if_false] at h
    subst h
    have hs := collectWeeks_spec (W - (4 + 1) + 1 - (s.lastCollect + 1)) s.b s.undist (s.lastCollect + 1)
    obtain ⟨h1, h2, h3, _, _, h6, h7, h8⟩ := hs
    have e1 : W - (4 + 1) + 1 - (s.lastCollect + 1) = W - 5 - s.lastCollect := by omega
    refine ⟨by show W - (4 + 1) = W - 5; omega, ?_, ?_, ?_, h3, h7, h6⟩
    · intro w hw1 hw2
      exact h1 w (by omega) (by omega)
    · intro w hw
      exact h2 w (by omega)
    · show (collectWeeks s.b s.undist (s.lastCollect + 1) _).2 = _
      rw [h8, e1]
  · intro hlt
    have hn : W - (4 + 1) < s.lastCollect + 1 := by omega
    simp only [hn, if_true] at h
    exact h

/-- **factors_for_week.**  The 5-slot ring returns, for every week still inside the claim window, the
    factors that were in force in that week: a later update (time passing, with or without a new
    setting for the current week) does not change them, and the weeks that passed without any setting
    carry the previously latest factors. -/
theorem factors_for_week {c c' : BCfg} {W w : Nat} {new : Option Factors} (hw : WF c)
    (h : c.update W new = some c') (h2 : W < w + 5) :
    (w < c.lastUpdateWeek → c'.factorsForWeek w = c.factorsForWeek w) ∧
    (c.lastUpdateWeek ≤ w → w < W → c'.factorsForWeek w = some c.latest) ∧
    (c'.latest = new.getD c.latest) ∧ WF c' ∧ c'.lastUpdateWeek = W := by
  refine ⟨fun h1 => factorsForWeek_update_old hw h h1 h2,
    fun h1 h3 => factorsForWeek_update_gap hw h h1 h3 h2, ?_, (BCfg.update_wf hw h).1, (BCfg.update_wf hw h).2⟩
  cases new with
  | none => exact update_none_latest hw h
  | some f => exact update_latest hw h

/-- the very first configuration covers the four (still claimable) weeks before it -/
theorem factors_first_config (W w : Nat) (f : Factors) (h1 : w < W) (h2 : W < w + 5) :
    (BCfg.new W f).factorsForWeek w = some f ∧ WF (BCfg.new W f) :=
  ⟨factorsForWeek_new W w f h1 h2, BCfg.new_wf W f⟩

/-- non-vacuity: the corpus history f1 — the week-1 pool of 2500 is frozen, paid once, nothing remains -/
example :
    let s := run (init .mint false 1000000000000 1000 true [1, 2] 0)
      [.setFactors OWNER ⟨10, 3, 2, 1, 1⟩, .setPct OWNER 2500, .setEnergy 1 1000000 0 1000,
       .enter 1 none 100000000 [], .advance 10 6, .claim 1 none [(1, 100000000)], .advance 10 7,
       .claimBoosted 1 none, .claimBoosted 1 none]
    s.b.cutW 1 = 2500 ∧ s.b.paidW 1 = 2500 ∧ s.b.remaining 1 = 0 ∧ s.b.accum 1 = 0 ∧ s.paidBoosted = 2500 := by
  decide

end Mx.C11
