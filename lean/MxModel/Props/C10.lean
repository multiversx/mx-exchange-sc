/-
  C10 — Weekly fees: claimers get their energy share once, only for the four most recent
  completed weeks, never more than collected; the total-energy denominator equals the sum of the
  participants' recorded energies decayed to that week.

  Models: Core/Weekly.lean (the shared weekly-rewards-splitting module) and
  Core/FeesCollector.lean (fees collector; the energy factory is an input, see notes/fees.md).
  Ghost state of the model the statements talk about: `s.a.paid w t` (running sum of payments made
  for week `w` in token `t`), `s.a.collected w t` (what was frozen for that week), `s.bal t` (the
  collector's real balance).
-/
import MxModel.Lemmas.FeesLedger
import MxModel.Lemmas.WeeklyClose

namespace Mx.C10

open Mx.Weekly Mx.Fees

/-- **share formula** (one claimed week).  In `claim_single` for the week `a.p.week`, with the
    user's recorded energy decayed to that week `e` and the week's total energy `E`: nothing is
    paid if `e = 0` or `E = 0`; otherwise the user receives, for every entry `(tok, total)` of
    the week's frozen total rewards, exactly `⌊total · e / E⌋` (entries that round to 0 dropped). -/
theorem share_formula {a a' : ClaimAcc Acc} (h : claimSingle feesRewards a = some a') :
    let e := a.p.energy.getEnergyAmount
    let E := a.g.totalEnergy a.p.week
    a'.rewards = a.rewards ++
      (if e = 0 ∨ E = 0 then [] else sharesOf (a'.g.totalRewards a.p.week) e E) := by
  intro e E
  obtain ⟨r, hr, _, hrew⟩ := claimSingle_spec h
  rw [hrew]
  rcases feesRewards_spec hr with ⟨hz, _, _, rfl⟩ | ⟨he, hE, hr', _⟩
  · simp [e, E, hz]
  · have : ¬ (e = 0 ∨ E = 0) := by simp [e, E, he, hE]
    simp only [this, if_false]
    rw [hr']

/-- every single payment of the collector's reward hook is `⌊total · e / E⌋ > 0` for an entry
    `(tok, total)` of the frozen totals of that week -/
theorem share_formula_pointwise {g g' : Weekly.St} {a a' : Acc} {week e E : Nat}
    {r : List (Tok × Nat)} (h : feesRewards g a week e E = some (g', a', r)) :
    ∀ t p, (t, p) ∈ r → ∃ total, (t, total) ∈ g'.totalRewards week ∧ p = total * e / E ∧ 0 < p :=
  feesRewards_payment h

/-- the energy used for the `k`-th week after the recorded one is the recorded energy decayed by
    `7·k` epochs: `max 0 (amount − 7 · lockedTokens · k)` -/
theorem energy_for_week (p : ClaimProgress) (k : Nat) :
    ((ClaimProgress.advanceWeek^[k]) p).week = p.week + k ∧
    ((ClaimProgress.advanceWeek^[k]) p).energy.getEnergyAmount =
      (p.energy.amount - ((7 * p.energy.totalLocked * k : Nat) : Int)).toNat := by
  rw [ClaimProgress.iterate_advanceWeek]
  exact ⟨rfl, Energy.after_getEnergyAmount _ _⟩

/-- **claim once.**  After a successful claim in week `W` for `orig`:
    (1) `orig`'s progress is at week `W` (or gone, when `orig` has no energy left);
    (2) the only weeks whose paid-ledger moved are weeks `w` with `W − 4 ≤ w < W` that are not
        before the week of `orig`'s previous progress — in particular a first-time claimer is
        paid nothing; nobody else's progress is touched. -/
theorem claim_once {s s' : Fees.St} {orig W : Nat} {o : Out} (hW : s.week = some W)
    (h : claimCore s orig = some (s', o)) :
    (s'.w.progress orig = none ∨ ∃ e, s'.w.progress orig = some ⟨e, W⟩) ∧
    (∀ u, u ≠ orig → s'.w.progress u = s.w.progress u) ∧
    (∀ w t, s'.a.paid w t ≠ s.a.paid w t →
      W ≤ w + 4 ∧ w < W ∧ ∃ p, s.w.progress orig = some p ∧ p.week ≤ w) :=
  claimCore_once hW h

/-- **never twice.**  Two successful claims for the same user, the second one at any later
    time: the second claim moves the ledger only for weeks `≥` the week of the first claim —
    every week the first claim could have paid (`< W₁`) is out of its reach. -/
theorem never_twice {s1 s1' s2 s2' : Fees.St} {orig W1 : Nat} {o1 o2 : Out}
    (hW1 : s1.week = some W1) (h1 : claimCore s1 orig = some (s1', o1))
    (hsame : s2.w.progress orig = s1'.w.progress orig)
    (h2 : claimCore s2 orig = some (s2', o2)) :
    ∀ w t, s2'.a.paid w t ≠ s2.a.paid w t → W1 ≤ w := by
  intro w t hne
  obtain ⟨W2, hW2⟩ : ∃ W2, s2.week = some W2 := by
    obtain ⟨_, _, _, k⟩ := claimCore_spec h2; exact ⟨_, k.week⟩
  obtain ⟨_, _, p, hp, hle⟩ := (claim_once hW2 h2).2.2 w t hne
  rcases (claim_once hW1 h1).1 with hn | ⟨e, he⟩
  · rw [hsame, hn] at hp; cases hp
  · rw [hsame, he] at hp
    cases hp
    exact hle

/-- at most four weeks are walked by one claim -/
theorem four_weeks_max {σ : Type} {rw : RewardFn σ} {g g' : Weekly.St} {c c' : σ} {user W : Nat}
    {cur : Energy} {r : List (Tok × Nat)} (h : claimMulti rw g c user W cur = some (g', c', r)) :
    ∃ n a0 a, n ≤ 4 ∧ claimLoop rw n a0 = some a ∧ a0.p.week + n = W ∧ r = a.rewards := by
  obtain ⟨g1, a, _, hle, ha, _, _, hr⟩ := claimMulti_spec h
  obtain ⟨hw1, hw2, _⟩ := loop_window _ W hle
  exact ⟨_, _, a, hw2, ha, hw1, hr⟩

/-- **week sum bound (arithmetic).**  If the energies `e u` the claimers `l` are paid for in one
    week sum to at most the week's total energy `E`, then their shares of `total` sum to at most
    `total` — whatever the amounts. -/
theorem week_sum_bound (l : List Nat) (total E : Nat) (e : Nat → Nat) (h : usum l e ≤ E) :
    usum l (fun u => share total (e u) E) ≤ total :=
  usum_share_le_total l total E e h

/-- the energy user `u` is paid with for week `w` according to its recorded progress -/
def energyFor (g : Weekly.St) (u w : Nat) : Nat :=
  match g.progress u with
  | some p => (p.energy.after (w - p.week)).getEnergyAmount
  | none => 0

/-- **global energy invariant** (the denominator).  After ANY history of the world — deposits,
    claims, energy changes reported by the factory, `updateEnergyForUser`, configuration changes,
    idle periods — the total energy of the last globally updated week equals the sum, over all
    users that ever had progress, of their recorded energies decayed to that week. -/
theorem global_energy_inv (epoch lockEpochs : Nat) (known : List Tok) (contracts whitelist : List Nat)
    (ops : List Op) :
    let s := run (init epoch lockEpochs known contracts whitelist) ops
    s.w.totalEnergy s.w.lastGlobalUpdateWeek =
      usum s.w.users (fun u => energyFor s.w u s.w.lastGlobalUpdateWeek) := by
  intro s
  exact (run_AllInv ops (init_AllInv epoch lockEpochs known contracts whitelist)).w.1.energy_eq

/-- the same invariant in its full "lots" form (totals of tokens, every bucket, orphan lots):
    see `Mx.Weekly.GInv`; it holds after every history. -/
theorem global_lots_inv (epoch lockEpochs : Nat) (known : List Tok) (contracts whitelist : List Nat)
    (ops : List Op) : GInv (run (init epoch lockEpochs known contracts whitelist) ops).w :=
  (run_AllInv ops (init_AllInv epoch lockEpochs known contracts whitelist)).w.1

/-- the invariant is inductive for the shared module itself, for every reward function that
    leaves the module's bookkeeping alone — this is what the farm models reuse -/
theorem global_lots_inv_claimMulti {σ : Type} {rw : RewardFn σ} (hrw : RwFrame rw)
    {g g' : Weekly.St} {c c' : σ} {user W : Nat} {cur : Energy} {r : List (Tok × Nat)}
    (hW : 1 ≤ W) (hI : GInv g) (h : claimMulti rw g c user W cur = some (g', c', r)) : GInv g' :=
  claimMulti_GInv hrw hW hI h

/-- **week sum bound for the running week.**  After any history, if every user were paid for the
    last updated week with its currently recorded energy, the payments out of any amount `total`
    would sum to at most `total`. -/
theorem week_sum_bound_current (epoch lockEpochs : Nat) (known : List Tok)
    (contracts whitelist : List Nat) (ops : List Op) (total : Nat) :
    let s := run (init epoch lockEpochs known contracts whitelist) ops
    usum s.w.users (fun u => share total (energyFor s.w u s.w.lastGlobalUpdateWeek)
      (s.w.totalEnergy s.w.lastGlobalUpdateWeek)) ≤ total := by
  intro s
  apply usum_share_le_total
  exact Nat.le_of_eq (global_energy_inv epoch lockEpochs known contracts whitelist ops).symm

/-- the energy user `u` can still be paid with for week `w`: its recorded energy decayed to `w`
    if its progress has not passed `w` yet, else 0 -/
def claimableEnergy (g : Weekly.St) (u w : Nat) : Nat := eForP g.progress u w

/-- **energy bound for EVERY week.**  After any history and for every week `w` — running,
    completed, or long gone — either no total was recorded for `w` (then nothing is paid for it),
    or the recorded energies, decayed to `w`, of all the users that can still claim `w` sum to at
    most `totalEnergyForWeek(w)`: the hypothesis of `week_sum_bound` always holds. -/
theorem energy_sum_bound (epoch lockEpochs : Nat) (known : List Tok) (contracts whitelist : List Nat)
    (ops : List Op) (w : Nat) :
    let s := run (init epoch lockEpochs known contracts whitelist) ops
    s.w.totalEnergy w = 0 ∨
      usum s.w.users (fun u => claimableEnergy s.w u w) ≤ s.w.totalEnergy w :=
  (run_AllInv ops (init_AllInv epoch lockEpochs known contracts whitelist)).w.2 w

/-- **week sum bound for every week.**  After any history, for every week `w` and every amount
    `total`: the shares `⌊total · e_u(w) / E(w)⌋` of all users that can still claim week `w`
    sum to at most `total`.  (Together with `claim_once` — a claimer is paid for `w` once and
    then drops out of this sum — no week can pay out more than its total.) -/
theorem week_sum_bound_all_weeks (epoch lockEpochs : Nat) (known : List Tok)
    (contracts whitelist : List Nat) (ops : List Op) (w total : Nat) :
    let s := run (init epoch lockEpochs known contracts whitelist) ops
    usum s.w.users (fun u => share total (claimableEnergy s.w u w) (s.w.totalEnergy w)) ≤ total :=
  (run_AllInv ops (init_AllInv epoch lockEpochs known contracts whitelist)).w.2.shares_le w total

/-- **never more than collected.**  After ANY history, for every week `w` and token `t`, the
    running sum of all payments made for week `w` in token `t` is at most what was frozen for that
    week (`collected`, the content of `totalRewardsForWeek(w)` when it was first claimed — which is
    what had been deposited for `w`).  In fact the stronger ledger relation holds: payments so far
    plus the shares of everybody who can still claim the week stay within the frozen total. -/
theorem week_sum_bound_history (epoch lockEpochs : Nat) (known : List Tok)
    (contracts whitelist : List Nat) (ops : List Op) (w : Nat) (t : Tok) :
    let s := run (init epoch lockEpochs known contracts whitelist) ops
    s.a.paid w t + usum s.w.users
        (fun u => share (s.a.collected w t) (claimableEnergy s.w u w) (s.w.totalEnergy w)) ≤
      s.a.collected w t :=
  (run_AllInv ops (init_AllInv epoch lockEpochs known contracts whitelist)).l.ledger w t

/-- corollary in the property's words: the sum paid out for a week never exceeds what was
    collected for it -/
theorem paid_le_collected (epoch lockEpochs : Nat) (known : List Tok)
    (contracts whitelist : List Nat) (ops : List Op) (w : Nat) (t : Tok) :
    (run (init epoch lockEpochs known contracts whitelist) ops).a.paid w t ≤
      (run (init epoch lockEpochs known contracts whitelist) ops).a.collected w t :=
  (run_AllInv ops (init_AllInv epoch lockEpochs known contracts whitelist)).l.paid_le w t

/-- **conservation.**  After any history, for every non-locked token: the collector's balance
    plus everything ever paid out equals everything ever deposited (still accumulating or
    already frozen), summed over the weeks up to now. -/
theorem collector_conservation (epoch lockEpochs : Nat) (known : List Tok)
    (contracts whitelist : List Nat) (ops : List Op) (t : Tok) (ht : t ≠ lockedTok) (K : Nat) :
    let s := run (init epoch lockEpochs known contracts whitelist) ops
    curWeek s < K → s.bal t + paidAll s t K = owedAll s t K := by
  intro s hK
  exact (run_AllInv ops (init_AllInv epoch lockEpochs known contracts whitelist)).b.bal t ht K hK

/-- **collector solvent.**  After ANY history, the balance of every non-locked token covers
    everything still unclaimed: the fees accumulating for the running weeks plus the unpaid
    remainder of every frozen week (it is in fact equal to it, see `collector_conservation`). -/
theorem collector_solvent (epoch lockEpochs : Nat) (known : List Tok)
    (contracts whitelist : List Nat) (ops : List Op) (t : Tok) (ht : t ≠ lockedTok) (K : Nat) :
    let s := run (init epoch lockEpochs known contracts whitelist) ops
    curWeek s < K →
    usum (List.range K) (fun w => s.a.accumulated w t + (s.a.collected w t - s.a.paid w t)) ≤ s.bal t := by
  intro s hK
  have h := collector_conservation epoch lockEpochs known contracts whitelist ops t ht K hK
  exact unclaimed_le_bal s t K
    (fun w => paid_le_collected epoch lockEpochs known contracts whitelist ops w t) h

/-- a failed transaction leaves the state untouched (atomicity as modelled) -/
theorem failed_tx_no_effect (s : Fees.St) (op : Op) (h : step s op = none) : run s [op] = s := by
  simp [run, h]

/-- a concrete history: two users with energy register in week 1, fees arrive, a week passes, the
    first user claims: it is paid its quarter of the week's fees, the total energy of the new
    week is the decayed sum, the ledger moved, the balance covers the rest.  (Kept short: kernel
    evaluation of the function-valued state grows quickly with the number of claims.) -/
example :
    let e1 : Energy := ⟨7000, 5, 10⟩
    let e2 : Energy := ⟨21000, 5, 10⟩
    let s := run (init 5 1440 [1, 2] [101] [201])
      [.setEnergy 1 e1, .setEnergy 2 e2, .claim 1 none, .claim 2 none, .deposit 101 1 0 1000,
       .advance 7, .claim 1 none]
    s.w.lastGlobalUpdateWeek = 2 ∧ s.w.totalEnergy 1 = 28000 ∧ s.w.totalEnergy 2 = 27860 ∧
    s.a.paid 1 1 = 250 ∧ s.a.collected 1 1 = 1000 ∧ s.bal 1 = 750 ∧ s.w.users = [1, 2] := by
  decide

end Mx.C10
