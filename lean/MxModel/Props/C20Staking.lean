/-
  C20 (farm-staking clause) — quotes equal execution: `calculateRewardsForGivenPosition` versus
  `claimRewards`.

  In any state, what the reward view returns for a position (amount + attributes) is exactly what
  `claimRewards` pays for that position in that same state to its recorded original owner: the base
  reward at the index after settling plus the owner's pending boosted rewards (repo commit da24d8b;
  before it the view passed the zero address and omitted the boosted part — finding F3).  The view
  is only callable as a VM query and its settlement is discarded.

  Model: Core/Staking.lean (`calcRewards`, `claimCore`).  Only property theorems live here.
-/
import MxModel.Lemmas.StakingView

namespace Mx.C20Staking
open Mx.Staking

/-- whatever `claimRewards` delivers is what the view promised: same state, the position's own
    attributes, claimed for its recorded owner -/
theorem quote_eq_exec {s s' st : St} {c : Nat} {p : Pay} {first : Attrs} {q : Nat} {o : Out}
    (hf : posOf s.md p.1 = some first)
    (hq : calcRewards s true p.2 first = some (st, q))
    (hx : claimCore s c first.owner [p] none = some (s', o)) : o.c = q :=
  (claimCore_pays hf hx).unique (.of_view hq)

/-- an execution never succeeds where its quote refuses: if the claim goes through, the view
    (asked as a query, with the position's attributes) returns a value -/
theorem exec_implies_quote {s s' : St} {c : Nat} {p : Pay} {first : Attrs} {o : Out}
    (hf : posOf s.md p.1 = some first)
    (hx : claimCore s c first.owner [p] none = some (s', o)) :
    ∃ st q, calcRewards s true p.2 first = some (st, q) := by
  obtain ⟨st, h⟩ := (claimCore_pays hf hx).view
  exact ⟨st, _, h⟩

/-- the view is only callable by the contract itself (a VM query): any other caller fails -/
theorem reward_view_query_only (s : St) (amt : Nat) (t : Attrs) : calcRewards s false amt t = none := by
  simp [calcRewards, req]

/-- quoting never changes state: the query's settlement is discarded -/
theorem view_pure {s s' : St} {q : Bool} {amt : Nat} {t : Attrs} {o : Out}
    (h : step s (.calc q amt t) = some (s', o)) : s' = s := by
  cases Step.of_step h with
  | query _ => rfl

/-- non-vacuity (the F3 regression history): with a boosted week pending the view promises
    base 41250 + boosted 12500 and the claim pays exactly that -/
example :
    let s := run (init 5 10 1000000000000 1000000 5 5000 [1, 2, 101] [101])
      [.topUp 100000000, .setBoostedPct 2500, .setFactors ⟨10, 3, 2, 1, 1⟩, .setEnergy 1 10000 100,
       .stake 1 none 100000000000 [], .advance 10 0, .claimBoosted 1 none, .advance 1 7]
    (calcRewards s true 100000000000 ⟨0, 0, 100000000000, 1⟩).map (·.2) = some 53750 ∧
    (claimCore s 1 1 [(1, 100000000000)] none).map (·.2.c) = some 53750 := by
  decide

end Mx.C20Staking
