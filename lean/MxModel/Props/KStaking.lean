/-
  KStaking — the farm-staking model (`Core/Staking.lean`) computes what the SOURCE of
  `farm-staking/farm-staking/src/{base_impl_wrapper.rs, custom_rewards.rs}` computes:

    * `get_amount_apr_bounded`                         = `aprPerBlock`
    * `FarmStakingWrapper::mint_per_block_rewards`     = `mintOf` (the APR bound), `lastBlock := max`
    * `FarmStakingWrapper::generate_aggregated_rewards` = `generate` (capacity cap, boosted cut through
      the shared `take_reward_slice`, index increment)
    * `calculate_base_farm_rewards` / `calculate_rewards` = `baseReward` (+ boosted)
    * the reward-capacity arithmetic of `withdrawRewards` / `topUpRewards`, `setMinUnbondEpochs`

  `Gen/KStaking.lean` is regenerated on every run by `bin/gen-kernels`.
-/
import MxModel.Gen.KStaking
import MxModel.Props.KFarmDex
import MxModel.Lemmas.StakingSpec
import MxModel.Lemmas.KTactic

namespace Mx.KStaking
open Mx Mx.Gen Mx.Staking

theorem get_amount_apr_bounded_eq (amount maxApr : Nat) :
    KStaking.get_amount_apr_bounded amount maxApr = some (aprPerBlock amount maxApr) := by
  have hP : MAX_PERCENT = 10000 := rfl
  have hB : BLOCKS_IN_YEAR = 5256000 := rfl
  k_defs [KStaking.get_amount_apr_bounded, aprPerBlock, hP, hB]
  try grind

/-- the APR bound is taken on the STORED supply -/
theorem mint_per_block_rewards_eq (block supply last maxApr perBlock : Nat) (produce : Bool) :
    KStaking.mint_per_block_rewards block supply last maxApr perBlock produce =
      some (mintOf block last perBlock produce supply maxApr, max last block) := by
  k_defs [KStaking.mint_per_block_rewards, mintOf, Mx.KFarm.calculate_per_block_rewards_eq,
    get_amount_apr_bounded_eq]
  cases produce <;> grind

theorem mint_per_block_rewards_state (s : St) :
    KStaking.mint_per_block_rewards s.block s.supply s.lastBlock s.maxApr s.perBlock s.produce =
      some (mintAmount s, max s.lastBlock s.block) :=
  mint_per_block_rewards_eq _ _ _ _ _ _

theorem calculate_base_farm_rewards_eq (c : Cache) (dsc amt : Nat) (t : Attrs) :
    KStaking.calculate_base_farm_rewards amt t.rps dsc c.rps =
      if t.rps < c.rps ∧ dsc = 0 then none else some (baseReward c dsc amt t) := by
  k_defs [KStaking.calculate_base_farm_rewards, baseReward]
  grind

theorem calculate_rewards_eq (c : Cache) (dsc amt boosted : Nat) (t : Attrs) (hd : dsc ≠ 0) :
    KStaking.calculate_rewards amt t.rps dsc c.rps boosted = some (baseReward c dsc amt t + boosted) := by
  k_defs [KStaking.calculate_rewards, calculate_base_farm_rewards_eq]
  grind

theorem generate_aggregated_rewards_eq (dsc csupply rps reserve accd acc epoch block pct supply first
    last maxApr perBlock : Nat) (produce : Bool) (cap : Nat) :
    KStaking.generate_aggregated_rewards dsc csupply rps reserve accd acc epoch block pct supply first
        last maxApr perBlock produce cap =
      if cap < accd then none
      else if genTotOf block last perBlock produce supply maxApr cap accd = 0 then
        some (accd, acc, max last block, rps, reserve)
      else
        (KFarmDex.take_reward_slice (genTotOf block last perBlock produce supply maxApr cap accd) acc
            epoch pct first).bind fun r =>
          some (accd + genTotOf block last perBlock produce supply maxApr cap accd, r.2.2, max last block,
                rps + rpsInc dsc r.1 csupply,
                reserve + genTotOf block last perBlock produce supply maxApr cap accd) := by
  k_defs [KStaking.generate_aggregated_rewards, mint_per_block_rewards_eq, genTotOf, rpsInc,
    Mx.KFarmDex.take_reward_slice_eq]
  generalize mintOf block last perBlock produce supply maxApr = m
  grind

theorem generate_runs_source {s s' : St} {c c' : Cache} (h : generate s c = some (s', c'))
    (hw : s.firstWeek ≤ s.epoch) (acc : Nat) :
    KStaking.generate_aggregated_rewards s.dsc c.supply c.rps c.reserve s.accumulated acc s.epoch
        s.block s.boostedPct s.supply s.firstWeek s.lastBlock s.maxApr s.perBlock s.produce
        s.capacity =
      some (s'.accumulated, acc + genCut s (genTot s), s'.lastBlock, c'.rps, c'.reserve) ∧
    s'.b.accumulated s.week = s.b.accumulated s.week + genCut s (genTot s) := by
  obtain ⟨hcap, hcut, rfl, rfl⟩ := generate_spec h
  have hP : MAX_PERCENT = 10000 := rfl
  refine ⟨?_, by simp only [genSt, Weekly.upd_same]⟩
  rw [generate_aggregated_rewards_eq, if_neg (by omega)]
  have hT : genTotOf s.block s.lastBlock s.perBlock s.produce s.supply s.maxApr s.capacity
      s.accumulated = genTot s := rfl
  rw [hT]
  have hcdef : genCut s (genTot s) = genTot s * s.boostedPct / 10000 := rfl
  rw [hcdef] at hcut ⊢
  by_cases h0 : genTot s = 0
  · rw [if_pos h0]
    simp only [genSt, genCache, h0, rpsInc, Nat.zero_sub, Nat.zero_mul, Nat.zero_div, Nat.add_zero,
      ite_self]
  · rw [if_neg h0, Mx.KFarmDex.take_reward_slice_eq]
    by_cases hz : s.boostedPct = 0 ∨ genTot s * s.boostedPct / 10000 = 0
    · have hz' : genTot s * s.boostedPct / 10000 = 0 := by
        rcases hz with hz | hz
        · rw [hz, Nat.mul_zero, Nat.zero_div]
        · exact hz
      rw [if_pos hz]
      simp only [Option.bind_some, genSt, genCache, genCut, cutOf, hP, hz', Nat.add_zero, Nat.sub_zero]
    · have h2 : ¬ (s.epoch < s.firstWeek ∨ genTot s < genTot s * s.boostedPct / 10000) := by omega
      rw [if_neg hz, if_neg h2]
      simp only [Option.bind_some, genSt, genCache, genCut, cutOf, hP]

theorem generate_aggregated_rewards_over_capacity (dsc csupply rps reserve accd acc epoch block pct
    supply first last maxApr perBlock : Nat) (produce : Bool) (cap : Nat) (h : cap < accd) :
    KStaking.generate_aggregated_rewards dsc csupply rps reserve accd acc epoch block pct supply first
        last maxApr perBlock produce cap = none := by
  rw [generate_aggregated_rewards_eq, if_pos h]

/-- the capacity arithmetic of `withdrawRewards`, after settling: the guards of the model's `withdraw` -/
theorem withdraw_rewards_check_eq (accd cap x : Nat) :
    KStaking.withdraw_rewards_check accd cap x =
      (sub? cap accd).bind fun remaining => (req (x ≤ remaining)).bind fun _ => sub? cap x := by
  k_defs [KStaking.withdraw_rewards_check]
  grind

theorem top_up_rewards_update_eq (x cap : Nat) :
    KStaking.top_up_rewards_update x cap = some (cap + x) := by
  k_defs [KStaking.top_up_rewards_update]
  try grind

theorem try_set_min_unbond_epochs_eq (e : Nat) :
    KStaking.try_set_min_unbond_epochs e = if e ≤ MAX_MIN_UNBOND_EPOCHS then some e else none := by
  have hM : MAX_MIN_UNBOND_EPOCHS = 30 := rfl
  k_defs [KStaking.try_set_min_unbond_epochs, hM]
  try grind

/-- the `.unbond (epoch + minUnbond)` metadata the model's `unstakeCore` writes -/
theorem unbond_unlock_epoch_eq (s : St) :
    KStaking.unbond_unlock_epoch s.epoch s.minUnbond = some (s.epoch + s.minUnbond) := by
  k_defs [KStaking.unbond_unlock_epoch]
  try grind

/-- the model's `req (unlock ≤ s.epoch)` -/
theorem unbond_guard_eq (unlock now : Nat) :
    KStaking.unbond_guard unlock now = if unlock ≤ now then some () else none := by
  k_defs [KStaking.unbond_guard]
  try grind

theorem unbondFarm_runs_source {s s' : St} {caller : Nat} {pay : Pay} {o : Out}
    (h : unbondFarm s caller pay = some (s', o)) :
    ∃ unlock, unbondOf s.md pay.1 = some unlock ∧ KStaking.unbond_guard unlock s.epoch = some () := by
  simp only [unbondFarm, Option.bind_eq_bind, Option.bind_eq_some_iff, req_eq_some] at h
  obtain ⟨_, _, _, _, unlock, hu, _, hle, _⟩ := h
  exact ⟨unlock, hu, by rw [unbond_guard_eq, if_pos hle]⟩

/-- the adjustment of `claimRewardsWithNewValue` -/
theorem new_value_adjust_eq (ut : Nat → Nat) (orig supply amount nv : Nat) :
    KStaking.new_value_adjust supply nv (ut orig) amount =
      (newSupply supply amount (some nv)).bind fun s' =>
        (newUserTotal ut orig amount (some nv)).map fun ut' => (s', ut' orig) := by
  have hu : ∀ v : Nat, Weekly.upd ut orig v orig = v := fun v => by simp [Weekly.upd]
  k_defs [KStaking.new_value_adjust, newSupply, newUserTotal, hu]
  try grind

example : KStaking.get_amount_apr_bounded 1000000000000 2500 = some 47564 := by decide
example : KStaking.mint_per_block_rewards 110 1000000000000 100 2500 50000 true = some (475640, 110) := by
  decide
example : KStaking.withdraw_rewards_check 40 100 61 = none := by decide
example : KStaking.withdraw_rewards_check 40 100 60 = some 40 := by decide

end Mx.KStaking
