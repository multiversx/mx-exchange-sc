/-
  KFeeDest — the tail of the pair's `send_fee` (dex/pair/src/fee.rs): the split of the remaining fee
  into equal slices and the loop over the fee destinations, as the SOURCE writes it (property C03:
  every configured destination receives the same slice `⌊remaining / #destinations⌋`, nothing is sent
  when there is no destination or the slice is zero).

  Generated (`Gen/KFeeDest.lean`): `fee_destinations` (fragment from `let slices = …` to the end of the
  function) and its loop `fee_destinations_loop` over the entries `(address, requested token)` of the
  storage map `destination_map`, in iteration order.  `send_fee_slice` (swaps and external calls) is an
  OPAQUE callee `Nat → Nat → Nat → Nat → Option Nat` (swap order, slice, address, requested token; the
  storage-cache record and the fee token id are not passed); `Core/Pair.lean` models it as
  `St.feeSlice`, threaded through `St.feeSlices` by `St.sendFee` under the same two guards.
-/
import MxModel.Gen.KFeeDest
import MxModel.Core.Pair
import MxModel.Lemmas.KTactic

namespace Mx.KFeeDest
open Mx Mx.Gen

/-- for EVERY callee `f`: so skipping a destination or passing another amount would be visible -/
theorem fee_destinations_loop_ok_iff (f : Nat → Nat → Nat → Nat → Option Nat) (ord slice : Nat)
    (ds : List (Nat × Nat)) :
    KFeeDest.fee_destinations_loop f ord slice ds () = some () ↔
      ∀ d ∈ ds, ∃ r, f ord slice d.1 d.2 = some r := by
  induction ds with
  | nil => simp [KFeeDest.fee_destinations_loop]
  | cons d ds ih =>
    obtain ⟨a, t⟩ := d
    cases h : f ord slice a t with
    | none => simp [KFeeDest.fee_destinations_loop, h]
    | some r => simp [KFeeDest.fee_destinations_loop, h, ih]

theorem fee_destinations_loop_append (f : Nat → Nat → Nat → Nat → Option Nat) (ord slice : Nat)
    (ds es : List (Nat × Nat)) :
    KFeeDest.fee_destinations_loop f ord slice (ds ++ es) () =
      (KFeeDest.fee_destinations_loop f ord slice ds ()).bind
        fun _ => KFeeDest.fee_destinations_loop f ord slice es () := by
  induction ds with
  | nil => simp [KFeeDest.fee_destinations_loop]
  | cons d ds ih =>
    obtain ⟨a, t⟩ := d
    cases h : f ord slice a t with
    | none => simp [KFeeDest.fee_destinations_loop, h]
    | some r => simp [KFeeDest.fee_destinations_loop, h, ih]

/-- the stored number of destinations is the length of the map (`ds ds.length`); the two guards and
    `slice := rem / n` are those of the model's `St.sendFee` -/
theorem fee_destinations_eq (f : Nat → Nat → Nat → Nat → Option Nat) (ord rem : Nat)
    (ds : List (Nat × Nat)) :
    KFeeDest.fee_destinations ds ds.length rem f ord =
      if ds.length = 0 ∨ rem / ds.length = 0 then some ()
      else KFeeDest.fee_destinations_loop f ord (rem / ds.length) ds () := by
  k_defs [KFeeDest.fee_destinations]
  by_cases h0 : ds.length = 0
  · simp [h0]
  · have h0' : ¬ 0 = ds.length := fun x => h0 x.symm
    by_cases h1 : rem / ds.length = 0
    · simp [h0, h0', h1]
    · have h1' : ¬ 0 = rem / ds.length := fun x => h1 x.symm
      simp only [h0, h0', h1, h1', if_false, false_or]
      cases KFeeDest.fee_destinations_loop f ord (rem / ds.length) ds () <;> rfl

/-- a callee that ALWAYS aborts detects whether the tail of `send_fee` touches a destination at all -/
theorem fee_destinations_no_call_iff (ord rem : Nat) (ds : List (Nat × Nat)) :
    KFeeDest.fee_destinations ds ds.length rem (fun _ _ _ _ => none) ord = some () ↔
      ds.length = 0 ∨ rem / ds.length = 0 := by
  rw [fee_destinations_eq]
  constructor
  · intro h
    by_cases hc : ds.length = 0 ∨ rem / ds.length = 0
    · exact hc
    · rw [if_neg hc] at h
      cases ds with
      | nil => simp at hc
      | cons d ds => obtain ⟨a, t⟩ := d; simp [KFeeDest.fee_destinations_loop] at h
  · intro hc; rw [if_pos hc]

theorem fee_destinations_ok_iff (f : Nat → Nat → Nat → Nat → Option Nat) (ord rem : Nat)
    (ds : List (Nat × Nat)) (h : ¬ (ds.length = 0 ∨ rem / ds.length = 0)) :
    KFeeDest.fee_destinations ds ds.length rem f ord = some () ↔
      ∀ d ∈ ds, ∃ r, f ord (rem / ds.length) d.1 d.2 = some r := by
  rw [fee_destinations_eq, if_neg h, fee_destinations_loop_ok_iff]

example : KFeeDest.fee_destinations [(70, 1), (71, 2), (72, 1)] 3 100
    (fun _ slice _ _ => if slice = 33 then some 0 else none) 0 = some () := by decide
example : KFeeDest.fee_destinations [(70, 1), (71, 2), (72, 1)] 3 100
    (fun _ _ a _ => if a = 71 then none else some 0) 0 = none := by decide
example : KFeeDest.fee_destinations [(70, 1), (71, 2), (72, 1)] 3 2 (fun _ _ _ _ => none) 0 = some () := by decide
example : KFeeDest.fee_destinations [] 0 100 (fun _ _ _ _ => none) 0 = some () := by decide

end Mx.KFeeDest
