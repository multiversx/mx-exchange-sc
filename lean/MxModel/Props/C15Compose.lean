/-
  C15 composed with the MODELS of the metastaking proxy's callees: the pair with its safe-price
  views (Core/Pair.lean, Core/SafePrice.lean) and the staking farm (Core/Staking.lean).

  Statement (C15): "… the staked value it registers is the pool's safe price of the position, not
  the spot price", and "… an unbond token for exactly the staking-token amount obtained from the
  removed liquidity".
  In Props/C15.lean the value `r.safe` and the pair's two payments are unconstrained arguments
  ("callee answers"); `stake_value_is_safe_price` only says `toStaking = r.safe`.  Here the answer
  is tied to the callee models.  farm-staking-proxy's `get_lp_tokens_safe_price(lp)` calls the
  pair's `updateAndGetTokensForGivenPositionWithSafePrice(lp)` (external_contracts_interactions.rs)
  = `SafePrice.updateAndGetPosition` = `getLpTokensSafePriceByDefaultOffset`, and keeps the amount
  of the staking token (`safeValue`).  For every reachable pair state that is
  `⌊lp · avg r / avg S⌋` with the averages of the START-OF-ROUND reserves and LP supply over the
  last `min(now − oldest, 600)` rounds (from C13): a function of the ghost log only, not of the
  current reserves.  Hence operations executed in the current round (a swap of any size, liquidity
  moves) do not change the value the proxy registers in that same round, while they do move the
  spot valuation `getTokensForGivenPosition` (separation example at the end).  The unbond amount
  is tied to `Pair.removeLiq` and `Staking.unstakeProxy` (proxy ∘ pair ∘ staking farm), and
  `RespPos` for `claim` to `Staking.claimNewValue`.
-/
import MxModel.Props.C13
import MxModel.Lemmas.PairSpec
import MxModel.Lemmas.DualYieldStaking
import MxModel.Lemmas.DualYieldLife

namespace Mx.C15Compose
open Mx.DualYield

/-- what `get_lp_tokens_safe_price(lp)` of the proxy obtains from the pair in state `p`: the pair's
    `updateAndGetTokensForGivenPositionWithSafePrice(lp)`, of which the proxy keeps the
    staking-token side (`first`: the staking token is the pair's first token) -/
def safeValue (p : Pair.St) (first : Bool) (lp : Nat) : Option Nat :=
  (SafePrice.updateAndGetPosition p lp).map fun r => if first then r.1 else r.2

/-- the spot valuation the proxy does NOT use: `getTokensForGivenPosition(lp)` -/
def spotValue (p : Pair.St) (first : Bool) (lp : Nat) : Nat :=
  if first then (Pair.viewTokensForPosition p lp).1 else (Pair.viewTokensForPosition p lp).2

/-- the start-of-round log of the staking-token side -/
def lSide (first : Bool) (log : SafePrice.Log) : Nat → Nat :=
  if first then SafePrice.l1 log else SafePrice.l2 log


/-- **the value the proxy asks for is the TWAP valuation.**  In every reachable state of the pair
    model (any history, any ring capacity) whose oldest retained observation is from an earlier
    round, the answer to the proxy's safe-price call for `lp` LP tokens is
    `⌊lp · avg r / avg S⌋`: `avg` = floor average, over the window
    `(now − min(now − oldest, 600), now]`, of the reserve of the staking token resp. the LP supply
    that were in effect at the START of each round (`G.log`, C13). -/
theorem safe_value_is_twap (t sp : Nat) (ad : Option Nat) (cap : Nat) (hc : 1 ≤ cap)
    (ops : List Pair.Op) (old : Pair.Obs) (first : Bool) (lp : Nat) :
    let g := SafePrice.grun (SafePrice.ginit t sp ad cap) ops
    SafePrice.oldest g.s.sp = some old → old.round < g.s.round →
      safeValue g.s first lp =
        some (lp * SafePrice.avg (lSide first g.log)
                (g.s.round - min (g.s.round - old.round) 600) g.s.round /
              SafePrice.avg (SafePrice.lS g.log)
                (g.s.round - min (g.s.round - old.round) 600) g.s.round) := by
  intro g hold hlt
  have hv := (C13.offset_views g.s 0 0 none lp).2.2.2.2.2.2 old hold (Nat.le_of_lt hlt)
  have he := C13.safe_price_eq t sp ad cap hc ops old
    (g.s.round - min (g.s.round - old.round) 600) g.s.round lp hold (by omega) (by omega)
    (Nat.le_refl _)
  unfold safeValue SafePrice.updateAndGetPosition
  rw [hv.2, he.2.2]
  cases first <;> rfl

/-- **`stakeFarmTokens` registers the TWAP valuation.**  If the recorded safe-price answer is the
    one the pair model gives for the LP amount `a` of the position staked, the value the proxy hands
    to the staking farm as `staked_token_amount` is that TWAP valuation (and not 0). -/
theorem stake_registers_twap (t sp : Nat) (ad : Option Nat) (cap : Nat) (hc : 1 ≤ cap)
    (ops : List Pair.Op) (old : Pair.Obs) (first : Bool)
    {s s' : St} {c lpN a : Nat} {auth : Bool} {ms : List (Nat × Nat)} {r : StakeResp} {o : Out}
    (h : stake s c auth lpN a ms r = some (s', o)) :
    let g := SafePrice.grun (SafePrice.ginit t sp ad cap) ops
    SafePrice.oldest g.s.sp = some old → old.round < g.s.round →
    safeValue g.s first a = some r.safe →
      o.toStaking =
        a * SafePrice.avg (lSide first g.log)
              (g.s.round - min (g.s.round - old.round) 600) g.s.round /
            SafePrice.avg (SafePrice.lS g.log)
              (g.s.round - min (g.s.round - old.round) 600) g.s.round ∧ o.toStaking ≠ 0 := by
  intro g hold hlt hrec
  obtain ⟨q, -, -, -, hsafe, -, rfl⟩ := stake_spec h
  exact ⟨Option.some.inj (hrec.symm.trans (safe_value_is_twap t sp ad cap hc ops old first a hold hlt)),
    hsafe⟩

/-- **`claimDualYield` re-registers the TWAP valuation** of the LP part of the position claimed with
    (`o.lpReleased` = the `into_part` of the LP-farm amount) as the new farming amount. -/
theorem claim_registers_twap (t sp : Nat) (ad : Option Nat) (cap : Nat) (hc : 1 ≤ cap)
    (ops : List Pair.Op) (old : Pair.Obs) (first : Bool)
    {s s' : St} {c d x : Nat} {auth : Bool} {r : ClaimResp} {o : Out}
    (h : claim s c auth d x r = some (s', o)) :
    let g := SafePrice.grun (SafePrice.ginit t sp ad cap) ops
    SafePrice.oldest g.s.sp = some old → old.round < g.s.round →
    safeValue g.s first o.lpReleased = some r.safe →
      o.toStaking =
        o.lpReleased * SafePrice.avg (lSide first g.log)
              (g.s.round - min (g.s.round - old.round) 600) g.s.round /
            SafePrice.avg (SafePrice.lS g.log)
              (g.s.round - min (g.s.round - old.round) 600) g.s.round ∧ o.toStaking ≠ 0 := by
  intro g hold hlt hrec
  obtain ⟨s1, p, -, -, hsafe, -, rfl⟩ := claim_spec h
  exact ⟨Option.some.inj (hrec.symm.trans (safe_value_is_twap t sp ad cap hc ops old first p hold hlt)),
    hsafe⟩


private theorem avg_congr (f' f : Nat → Nat) (a b : Nat) (h : ∀ k, k ≤ b → f' k = f k) :
    SafePrice.avg f' a b = SafePrice.avg f a b := by
  unfold SafePrice.avg
  rw [SafePrice.rsum_congr f' f (fun k _ hk => h k hk)]

/-- **operations of the current round do not move the registered value.**  Take any reachable pair
    state and any further operations `mid` that leave the round unchanged (swaps of any size,
    liquidity added or removed, fee configuration, … — everything but the clock).  If the
    default-offset window is the same before and after (it is whenever the retained observations
    span at least 600 rounds before and after, or the oldest observation is not overwritten), the
    safe value the proxy would register is the same before and after `mid`. -/
theorem safe_value_same_round (t sp : Nat) (ad : Option Nat) (cap : Nat) (hc : 1 ≤ cap)
    (ops mid : List Pair.Op) (old old' : Pair.Obs) (first : Bool) (lp : Nat) :
    let g := SafePrice.grun (SafePrice.ginit t sp ad cap) ops
    let g' := SafePrice.grun (SafePrice.ginit t sp ad cap) (ops ++ mid)
    g'.s.round = g.s.round →
    SafePrice.oldest g.s.sp = some old → SafePrice.oldest g'.s.sp = some old' →
    old.round < g.s.round → old'.round < g.s.round →
    min (g.s.round - old'.round) 600 = min (g.s.round - old.round) 600 →
      safeValue g'.s first lp = safeValue g.s first lp := by
  intro g g' hr hold hold' hlt hlt' hwin
  have hlog : ∀ k, k ≤ g.s.round → g'.log k = g.log k := fun k hk => by
    show (SafePrice.grun _ (ops ++ mid)).log k = _
    rw [SafePrice.grun_append]
    exact SafePrice.grun_log_stable mid _ hk
  have hS := avg_congr (SafePrice.lS g'.log) (SafePrice.lS g.log)
    (g.s.round - min (g.s.round - old.round) 600) g.s.round
    (fun k hk => congrArg (·.S) (hlog k hk))
  have hX := avg_congr (lSide first g'.log) (lSide first g.log)
    (g.s.round - min (g.s.round - old.round) 600) g.s.round
    (fun k hk => by
      cases first
      · exact congrArg (·.r2) (hlog k hk)
      · exact congrArg (·.r1) (hlog k hk))
  rw [safe_value_is_twap t sp ad cap hc ops old first lp hold hlt,
    safe_value_is_twap t sp ad cap hc (ops ++ mid) old' first lp hold' (hr ▸ hlt')]
  show some (lp * SafePrice.avg (lSide first g'.log)
                (g'.s.round - min (g'.s.round - old'.round) 600) g'.s.round /
              SafePrice.avg (SafePrice.lS g'.log)
                (g'.s.round - min (g'.s.round - old'.round) 600) g'.s.round) = _
  rw [hr, hwin, hX, hS]

/-- … so a trade placed in the round of the stake cannot change what `stakeFarmTokens` registers:
    if the stake succeeds with the pair model's answer taken BEFORE the same-round operations `mid`,
    the answer taken AFTER them is the same number, hence so is `staked_token_amount`. -/
theorem stake_value_not_movable_within_round (t sp : Nat) (ad : Option Nat) (cap : Nat)
    (hc : 1 ≤ cap) (ops mid : List Pair.Op) (old old' : Pair.Obs) (first : Bool)
    {s s' : St} {c lpN a : Nat} {auth : Bool} {ms : List (Nat × Nat)} {r : StakeResp} {o : Out}
    (h : stake s c auth lpN a ms r = some (s', o)) :
    let g := SafePrice.grun (SafePrice.ginit t sp ad cap) ops
    let g' := SafePrice.grun (SafePrice.ginit t sp ad cap) (ops ++ mid)
    g'.s.round = g.s.round →
    SafePrice.oldest g.s.sp = some old → SafePrice.oldest g'.s.sp = some old' →
    old.round < g.s.round → old'.round < g.s.round →
    min (g.s.round - old'.round) 600 = min (g.s.round - old.round) 600 →
    safeValue g.s first a = some r.safe →
      safeValue g'.s first a = some o.toStaking := by
  intro g g' hr hold hold' hlt hlt' hwin hrec
  obtain ⟨q, -, -, -, -, -, rfl⟩ := stake_spec h
  rw [safe_value_same_round t sp ad cap hc ops mid old old' first a hr hold hold' hlt hlt' hwin]
  exact hrec


/-- **unbond = the pool's payout, composed with the pair AND the staking model.**  Let
    `unstakeFarmTokens` succeed in the proxy model; let the pair's two payments in the answer be
    what the pair model pays for removing the LP tokens the LP farm returned (`r.lpOut`, with the
    caller's slippage bounds `m1`, `m2`), and the unbond token the one the staking model creates for
    the staking tokens the proxy passes on.  Then the unbond token is for exactly the pro-rata share
    `⌊lpOut · reserve / supply⌋` of the staking token's reserve at the moment of the exit (the
    pool's spot share — NOT the safe-price value registered at stake time), and the caller receives
    the pro-rata share of the other token. -/
theorem unbond_is_pool_share {s s' : St} {c d x : Nat} {r : UnstakeResp} {o : Out}
    (h : unstake s c d x r = some (s', o))
    {p p' : Pair.St} {m1 m2 : Nat} {po : Pair.Out} (first : Bool)
    (hp : Pair.removeLiq p r.lpOut m1 m2 = some (p', po))
    (hpair : r.stk = (if first then po.v1 else po.v2) ∧ r.other = (if first then po.v2 else po.v1))
    {σ σ' : Staking.St} {proxy : Nat} {pay : Staking.Pay} {so : Staking.Out}
    (hst : Staking.unstakeProxy σ proxy c o.toStaking pay = some (σ', so))
    (hrec : r.unA = so.b) :
    o.unA = (if first then r.lpOut * p.r1 / p.S else r.lpOut * p.r2 / p.S) ∧
    o.o1 = (if first then r.lpOut * p.r2 / p.S else r.lpOut * p.r1 / p.S) ∧
    0 < o.unA ∧ r.lpOut + Pair.MINLIQ ≤ p.S := by
  obtain ⟨s1, q, -, -, rfl⟩ := unstake_spec h
  have t := Pair.removeLiq_spec hp
  obtain rfl := t.out
  have hun : r.unA = r.stk := hrec.trans (unstakeProxy_unbond hst).2.2.1
  refine ⟨?_, ?_, ?_, t.minliq⟩
  · show r.unA = _
    rw [hun, hpair.1]
  · show r.other = _
    rw [hpair.2]
  · show 0 < r.unA
    rw [hun, hpair.1]; cases first
    · exact t.x2_pos
    · exact t.x1_pos


/-- **`RespPos` for `claimDualYield`, composed with the staking model.**  Let `claimDualYield`
    succeed in the proxy model and let the staking-farm token in the answer be the one the staking
    model creates when the proxy calls `claimRewardsWithNewValue(o.toStaking)` with the released
    staking-farm position.  Then the new dual-yield token is minted for exactly the re-registered
    safe-price value, never for 0: the callee hypothesis of `C15.no_zero_supply` holds. -/
theorem claim_amount_from_staking_model {s s' : St} {c d x : Nat} {auth : Bool} {r : ClaimResp}
    {o : Out} (h : claim s c auth d x r = some (s', o))
    {σ σ' : Staking.St} {proxy : Nat} {pay : Staking.Pay} {so : Staking.Out}
    (hst : Staking.claimNewValue σ proxy c o.toStaking pay = some (σ', so)) (hrec : r.stA = so.b) :
    r.stA = r.safe ∧ o.dyA = r.safe ∧ r.stA ≠ 0 ∧ RespPos (.claim c auth d x r) := by
  obtain ⟨s1, p, -, -, hsafe, -, rfl⟩ := claim_spec h
  obtain ⟨hb, -, -⟩ := claimNewValue_amount hst
  have hA : r.stA = r.safe := by rw [hrec, hb]
  have hne : r.stA ≠ 0 := by rw [hA]; exact hsafe
  exact ⟨hA, hA, hne, hne⟩

/-- a pool history: liquidity 10⁶ / 2·10⁶, a trade in round 3, one in round 100, now round 700 -/
def poolHist : List Pair.Op :=
  [.cfg (.setState .active), .addLiq 1000000 2000000 1 1, .advance 3, .swapIn .ab 10000 1,
   .advance 100, .swapIn .ba 5000 1, .advance 700]

/-- a large trade placed in round 700, the round of the stake: it buys the first token with
    800 000 of the second (the staking token in the repo's deployments: `first = false`) -/
def attack : List Pair.Op := [.swapIn .ba 800000 1]

/-- **separation of safe and spot valuation.**  Before the trade both valuations of 100 000 LP
    tokens agree (198 525 staking tokens: the reserves did not move for 600 rounds).  The trade of
    round 700 raises the SPOT valuation of the position to 278 525 staking tokens (+40 %); the
    value the pair model answers to the proxy stays 198 525 and only starts to drift in the next
    round (198 659 in round 701).  The hypotheses of `safe_value_same_round` hold on this history
    (same round, oldest observation 3 before and after), and the proxy model, fed with the pair
    model's answer, registers 198 525 with the staking farm — not 278 525. -/
example :
    let p := Pair.run (Pair.init 300 50 none 65536) poolHist
    let p' := Pair.run (Pair.init 300 50 none 65536) (poolHist ++ attack)
    safeValue p false 100000 = some 198525 ∧ spotValue p false 100000 = 198525 ∧
    safeValue p' false 100000 = some 198525 ∧ spotValue p' false 100000 = 278525 ∧
    safeValue (Pair.run p' [.advance 701]) false 100000 = some 198659 ∧
    p'.round = p.round ∧ (SafePrice.oldest p.sp).map (·.round) = some 3 ∧
    (SafePrice.oldest p'.sp).map (·.round) = some 3 ∧
    (stake init 2 true 7 100000 [] ⟨198525, 1, 198525, 0, 0, 0, 0⟩).map (·.2.toStaking)
      = some 198525 := by
  decide

/-- the hypotheses of `unbond_is_pool_share` and `claim_amount_from_staking_model` are met by
    concrete states: the pair model pays (100 746, 198 525) for 100 000 LP; the staking model
    (history of `Props/C15Run`) re-registers position (2, 500·10¹²) at 700·10¹² for the proxy 101 -/
example :
    (Pair.removeLiq (Pair.run (Pair.init 300 50 none 65536) poolHist) 100000 1 1).map
        (fun q => (q.2.v1, q.2.v2)) = some (100746, 198525) ∧
    (Staking.claimNewValue
        (Staking.run (Staking.init 5 10 1000000000000 2500 2 5000 [1, 2, 101] [101])
          [.topUp 30000, .withdraw 100, .stake 1 none 1000000000000000 [],
           .stakeProxy 101 2 500000000000000 [], .advance 3 0])
        101 2 700000000000000 (2, 500000000000000)).map (fun q => q.2.b) = some 700000000000000 := by
  decide

end Mx.C15Compose
