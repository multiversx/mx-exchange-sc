/-
  C10 — Weekly fees, history-level statements, in three parts.

  1. PAID LOG.  `Fees.paidLog s₀ ops` is a function of the history: one entry
     `(user, week, token, amount)` per payment, read off the successful claim operations (the
     claimer is the operation's original caller; week / token / amount are the growth of the
     per-week ledger `paid` over the entries of the week's frozen `totalRewardsForWeek`).  No key
     twice, the four-week window, the share formula entry by entry; and the log misses nothing
     (`paid_log_complete`), so these three speak about ALL payments.
  2. DENOMINATOR.  For as long as a week is claimable, `totalEnergyForWeek(w)` equals Σ over all
     participants of their recorded energy decayed to `w`, taken at the last moment `w` was the
     running global week (`Fees.closeSum`); afterwards it never changes (it can only be cleared,
     five weeks later).  Against the CURRENT records, or against the factory's CURRENT energies,
     equality is false (`denominator_not_current`, `denominator_not_factory`).
  3. DEPOSITED LEDGER.  `Fees.deposited s₀ ops w t` is a function of the history (deposit
     operations, plus the per-block top-ups of the locked token): accumulated + frozen = deposited,
     paid ≤ deposited, balance = Σ_w (deposited − paid).
-/
import MxModel.Props.C10
import MxModel.Lemmas.FeesClose
import MxModel.Lemmas.FeesDeposit
import MxModel.Lemmas.FeesLogRun

namespace Mx.C10Once

open Mx.Weekly Mx.Fees

/-- the log of a history is the concatenation of the per-operation logs taken in the states the
    history runs through: every entry was produced by some operation `op` executed in the state
    reached by the operations before it -/
theorem paid_log_entries (ops : List Op) : ∀ (s : Fees.St) (e : Entry), e ∈ paidLog s ops →
    ∃ ops1 op ops2, ops = ops1 ++ op :: ops2 ∧ e ∈ stepLog (run s ops1) op := by
  induction ops with
  | nil => intro s e h; cases h
  | cons op ops ih =>
    intro s e h
    simp only [paidLog, List.mem_append] at h
    rcases h with h | h
    · exact ⟨[], op, ops, rfl, h⟩
    · obtain ⟨ops1, op', ops2, rfl, he⟩ := ih _ e h
      exact ⟨op :: ops1, op', ops2, rfl, by rw [run_cons]; exact he⟩

/-- **paid at most once.**  In the paid log of ANY history from a freshly deployed collector, no
    two entries (at different positions) have the same user, week and reward token: every claimer
    is paid at most once per week and token — whatever happens in between (energy changes, other
    claims, `updateEnergyForUser`, configuration changes, idle weeks). -/
theorem paid_log_once (epoch lockEpochs : Nat) (known : List Tok) (contracts whitelist : List Nat)
    (ops : List Op) :
    (paidLog (init epoch lockEpochs known contracts whitelist) ops).Pairwise
      (fun e e' => ¬ (e.user = e'.user ∧ e.week = e'.week ∧ e.tok = e'.tok)) := by
  have := paidLog_once_from ops (init_AllInv epoch lockEpochs known contracts whitelist)
    (pre := []) (fun _ h => by cases h) List.Pairwise.nil
  simpa [sameKey] using this

/-- **only the four most recent completed weeks.**  Every entry an operation adds to the log —
    in any state whatsoever — is a payment to the operation's claim user (`original_caller`, else
    the caller) for a week `w` with `current_week − 4 ≤ w < current_week` at the time of payment,
    and not before the week of the claimer's stored progress. -/
theorem paid_log_window (s : Fees.St) (op : Op) (e : Entry) (h : e ∈ stepLog s op) :
    claimUser op = some e.user ∧ curWeek s ≤ e.week + 4 ∧ e.week < curWeek s ∧
    ∃ p, s.w.progress e.user = some p ∧ p.week ≤ e.week :=
  stepLog_window h

/-- **the amount is the property's formula.**  After ANY history, whatever the next operation is,
    every entry `(u, w, t, amount)` it adds to the log satisfies
    `amount = ⌊total · e / E⌋ > 0` where `total` is the amount frozen for week `w` and token `t`
    (an entry of `totalRewardsForWeek(w)`, equal to the ledger's `collected w t`), `e` is `u`'s
    recorded energy decayed to week `w` (from the progress entry stored before the operation) and
    `E = totalEnergyForWeek(w)` (unchanged by the operation). -/
theorem paid_log_amount (epoch lockEpochs : Nat) (known : List Tok) (contracts whitelist : List Nat)
    (ops : List Op) (op : Op) (e : Entry) :
    let s := run (init epoch lockEpochs known contracts whitelist) ops
    let s' := next s op
    e ∈ stepLog s op →
      e.amount = share (s'.a.collected e.week e.tok) (C10.energyFor s.w e.user e.week)
        (s.w.totalEnergy e.week) ∧
      (e.tok, s'.a.collected e.week e.tok) ∈ s'.w.totalRewards e.week ∧
      0 < e.amount ∧ s'.w.totalEnergy e.week = s.w.totalEnergy e.week := by
  intro s s' h
  have hI : AllInv s := run_AllInv ops (init_AllInv epoch lockEpochs known contracts whitelist)
  obtain ⟨h1, h2, h3, h4⟩ := stepLog_amount hI h
  obtain ⟨_, _, _, p, hp, hple⟩ := stepLog_window h
  refine ⟨?_, h2, h3, h4⟩
  rw [h1]
  unfold C10.energyFor eForP
  rw [hp]
  simp only [hple, if_true]
  rfl

/-- Σ of the amounts the log holds for week `w` and token `t` -/
def logged (l : List Entry) (w : Nat) (t : Tok) : Nat := logSum l w t

/-- **the log is complete.**  After ANY history, for every week and token, the running ledger
    `paid w t` of the model is exactly the sum of the logged payments for that week and token: no
    payment escapes the log (so `paid_log_once` / `_window` / `_amount` speak about ALL payments). -/
theorem paid_log_complete (epoch lockEpochs : Nat) (known : List Tok)
    (contracts whitelist : List Nat) (ops : List Op) (w : Nat) (t : Tok) :
    (run (init epoch lockEpochs known contracts whitelist) ops).a.paid w t =
      logged (paidLog (init epoch lockEpochs known contracts whitelist) ops) w t := by
  have := paidLog_sum_from ops (init_AllInv epoch lockEpochs known contracts whitelist) w t
  rw [this]
  show 0 + _ = _
  rw [Nat.zero_add]; rfl

/-- **denominator at close.**  After ANY history and for every week `w` that has not been cleared
    (in particular every claimable week: `lastGlobalUpdateWeek ≤ w + 4`), the stored
    `totalEnergyForWeek(w)` equals `closeSum`: the sum over ALL participants of their recorded
    energies decayed to week `w`, as recorded in the last state of the history in which `w` was
    the running global week (0 if the collector was never touched during `w`).  Equality, not `≤`. -/
theorem denominator_at_close (epoch lockEpochs : Nat) (known : List Tok)
    (contracts whitelist : List Nat) (ops : List Op) (w : Nat) :
    let s0 := init epoch lockEpochs known contracts whitelist
    let s := run s0 ops
    s.w.lastGlobalUpdateWeek ≤ w + 4 → s.w.totalEnergy w = closeSum w s0 ops 0 := by
  intro s0 s hle
  have hx : s.w.totalEnergy w = closeSum w s0 ops 0 ∨
      (s.w.totalEnergy w = 0 ∧ w + 4 < s.w.lastGlobalUpdateWeek) :=
    closeSum_exact_from w ops (init_AllInv epoch lockEpochs known contracts whitelist)
      (init_CloseInv epoch lockEpochs known contracts whitelist w)
  rcases hx with h | ⟨_, h⟩
  · exact h
  · exact absurd hle (by omega)

/-- the same without the side condition: equal, or cleared (possible only once the global week is
    at least `w + 5`, when nobody can claim `w` any more) -/
theorem denominator_at_close_or_cleared (epoch lockEpochs : Nat) (known : List Tok)
    (contracts whitelist : List Nat) (ops : List Op) (w : Nat) :
    let s0 := init epoch lockEpochs known contracts whitelist
    let s := run s0 ops
    s.w.totalEnergy w = closeSum w s0 ops 0 ∨
      (s.w.totalEnergy w = 0 ∧ w + 4 < s.w.lastGlobalUpdateWeek) :=
  closeSum_exact_from w ops (init_AllInv epoch lockEpochs known contracts whitelist)
    (init_CloseInv epoch lockEpochs known contracts whitelist w)

/-- while `w` IS the running global week the sum is over the current records: the total energy of
    the running week is Σ participants' recorded energies decayed to it (this is what `closeSum`
    remembers when the week is left) -/
theorem denominator_running_week (epoch lockEpochs : Nat) (known : List Tok)
    (contracts whitelist : List Nat) (ops : List Op) :
    let s := run (init epoch lockEpochs known contracts whitelist) ops
    s.w.totalEnergy s.w.lastGlobalUpdateWeek = recordedSum s.w s.w.lastGlobalUpdateWeek :=
  (run_AllInv ops (init_AllInv epoch lockEpochs known contracts whitelist)).w.1.energy_eq

/-- **a closed week's denominator is frozen.**  After ANY history, whatever the next operation:
    the global week never moves back, and every week other than the (new) global week keeps its
    total energy — except week `lastGlobalUpdateWeek − 5`, which is cleared. -/
theorem closed_week_frozen (epoch lockEpochs : Nat) (known : List Tok)
    (contracts whitelist : List Nat) (ops : List Op) (op : Op) :
    let s := run (init epoch lockEpochs known contracts whitelist) ops
    let s' := next s op
    s.w.lastGlobalUpdateWeek ≤ s'.w.lastGlobalUpdateWeek ∧
    ∀ w, w ≠ s'.w.lastGlobalUpdateWeek →
      s'.w.totalEnergy w = s.w.totalEnergy w ∨
        (s'.w.totalEnergy w = 0 ∧ w + 5 = s'.w.lastGlobalUpdateWeek) := by
  intro s s'
  have := next_EStep (s := s) op
  exact ⟨this.mono, this.frame⟩

/-- **deposited ledger.**  After ANY history, for every week and token: what is still accumulating
    for the week plus what was frozen for it is exactly what the history deposited for it (deposit
    operations made during that week; for the locked token also the per-block top-ups). -/
theorem deposited_ledger (epoch lockEpochs : Nat) (known : List Tok) (contracts whitelist : List Nat)
    (ops : List Op) (w : Nat) (t : Tok) :
    let s0 := init epoch lockEpochs known contracts whitelist
    let s := run s0 ops
    s.a.accumulated w t + s.a.collected w t = deposited s0 ops w t := by
  intro s0 s
  have := owed_eq_deposited_from ops s0 w t
  rw [this]
  show 0 + 0 + _ = _
  omega

/-- **Σ paid for `w` ≤ deposited for `w`** (every history, every week, every token): the frozen
    total is at most what was deposited, and the payments are at most the frozen total. -/
theorem paid_le_deposited (epoch lockEpochs : Nat) (known : List Tok) (contracts whitelist : List Nat)
    (ops : List Op) (w : Nat) (t : Tok) :
    let s0 := init epoch lockEpochs known contracts whitelist
    let s := run s0 ops
    s.a.paid w t ≤ s.a.collected w t ∧ s.a.collected w t ≤ deposited s0 ops w t ∧
    logged (paidLog s0 ops) w t ≤ deposited s0 ops w t := by
  intro s0 s
  have h1 : s.a.paid w t ≤ s.a.collected w t :=
    C10.paid_le_collected epoch lockEpochs known contracts whitelist ops w t
  have h2 : s.a.accumulated w t + s.a.collected w t = deposited s0 ops w t :=
    deposited_ledger epoch lockEpochs known contracts whitelist ops w t
  have h3 : s.a.paid w t = logged (paidLog s0 ops) w t :=
    paid_log_complete epoch lockEpochs known contracts whitelist ops w t
  refine ⟨h1, by omega, by omega⟩

/-- **collector solvent, at full strength.**  After ANY history, for every non-locked token and
    any horizon `K` beyond the current week: the collector's balance is EXACTLY the sum over the
    weeks `< K` of (deposited for the week − paid for the week) — in particular it covers it. -/
theorem collector_solvent_full (epoch lockEpochs : Nat) (known : List Tok)
    (contracts whitelist : List Nat) (ops : List Op) (t : Tok) (ht : t ≠ lockedTok) (K : Nat) :
    let s0 := init epoch lockEpochs known contracts whitelist
    let s := run s0 ops
    curWeek s < K →
    s.bal t = usum (List.range K) (fun w => deposited s0 ops w t - s.a.paid w t) ∧
    usum (List.range K) (fun w => deposited s0 ops w t - logged (paidLog s0 ops) w t) ≤ s.bal t := by
  intro s0 s hK
  have hc : s.bal t + paidAll s t K = owedAll s t K :=
    C10.collector_conservation epoch lockEpochs known contracts whitelist ops t ht K hK
  have ho : owedAll s t K = usum (List.range K) (fun w => deposited s0 ops w t) :=
    owedAll_eq_deposited epoch lockEpochs known contracts whitelist ops t K
  have hle : ∀ w, s.a.paid w t ≤ deposited s0 ops w t := fun w =>
    Nat.le_trans (paid_le_deposited epoch lockEpochs known contracts whitelist ops w t).1
      (paid_le_deposited epoch lockEpochs known contracts whitelist ops w t).2.1
  have hsum : usum (List.range K) (fun w => deposited s0 ops w t - s.a.paid w t) + paidAll s t K =
      usum (List.range K) (fun w => deposited s0 ops w t) := by
    unfold paidAll
    rw [← usum_add]
    exact usum_congr (fun w _ => by have := hle w; omega)
  have heq : s.bal t = usum (List.range K) (fun w => deposited s0 ops w t - s.a.paid w t) := by
    rw [ho] at hc
    omega
  refine ⟨heq, ?_⟩
  rw [heq]
  refine Nat.le_of_eq (usum_congr (fun w _ => ?_))
  have h3 : s.a.paid w t = logged (paidLog s0 ops) w t :=
    paid_log_complete epoch lockEpochs known contracts whitelist ops w t
  rw [h3]

/-- the freshly deployed collector of the example that closes `Props/C10.lean` -/
local notation "exInit" => init 5 1440 [1, 2] [101] [201]
/-- the history of that example: two users register in week 1 with energies 7000 and 21000,
    1000 units of token 1 are deposited, a week passes, user 1 claims -/
def exOps : List Op :=
  [.setEnergy 1 ⟨7000, 5, 10⟩, .setEnergy 2 ⟨21000, 5, 10⟩, .claim 1 none, .claim 2 none,
   .deposit 101 1 0 1000, .advance 7, .claim 1 none]

/-- the state this history reaches (kernel evaluation) -/
theorem ex_state :
    (run exInit exOps).a.paid 1 1 = 250 ∧
    (run exInit exOps).a.accumulated 1 1 + (run exInit exOps).a.collected 1 1 = 1000 ∧
    (run exInit exOps).bal 1 = 750 ∧
    (run exInit exOps).w.lastGlobalUpdateWeek = 2 ∧ (run exInit exOps).w.totalEnergy 1 = 28000 ∧
    recordedSum (run exInit exOps).w 1 = 27930 ∧
    usum (run exInit exOps).w.users (fun u => C10.claimableEnergy (run exInit exOps).w u 1) = 21000 := by
  decide

/-- non-vacuity of the log theorems: the log of this history holds exactly 250 for week 1 /
    token 1, so it contains a positive entry for that key — produced (`paid_log_entries`) by an
    operation of the history, to which `paid_log_window` and `paid_log_amount` apply -/
example : logged (paidLog exInit exOps) 1 1 = 250 ∧
    ∃ e ∈ paidLog exInit exOps, e.week = 1 ∧ e.tok = 1 ∧ 0 < e.amount := by
  have h0 : (run exInit exOps).a.paid 1 1 = logged (paidLog exInit exOps) 1 1 :=
    paid_log_complete 5 1440 [1, 2] [101] [201] exOps 1 1
  have h : logSum (paidLog exInit exOps) 1 1 = 250 := h0.symm.trans ex_state.1
  exact ⟨h, exists_of_logSum_pos (by rw [h]; decide)⟩

/-- non-vacuity of the ledger theorems: 1000 were deposited for week 1 in token 1, 250 of them
    paid, and the balance is the difference -/
example : deposited exInit exOps 1 1 = 1000 ∧ (run exInit exOps).bal 1 = 1000 - 250 := by
  have h : (run exInit exOps).a.accumulated 1 1 + (run exInit exOps).a.collected 1 1 =
      deposited exInit exOps 1 1 := deposited_ledger 5 1440 [1, 2] [101] [201] exOps 1 1
  exact ⟨h.symm.trans ex_state.2.1, ex_state.2.2.1⟩

/-- non-vacuity of `denominator_at_close`: week 1 was closed with Σ = 7000 + 21000 -/
example : closeSum 1 exInit exOps 0 = 28000 := by
  have h4 : (run exInit exOps).w.lastGlobalUpdateWeek = 2 := ex_state.2.2.2.1
  have h := denominator_at_close 5 1440 [1, 2] [101] [201] exOps 1
  simp only [h4] at h
  exact (h (by decide)).symm.trans ex_state.2.2.2.2.1

/-- **counter-example: against the CURRENT records the denominator is only an upper bound.**
    After user 1's claim in week 2 the frozen total of week 1 is still 28000, but the participants'
    current records decayed to week 1 sum to 27930 (user 1's record was replaced by its week-2
    energy), and the records that can still claim week 1 (user 2 only) sum to 21000: the users
    who make it an inequality are exactly those whose progress has moved past the week. -/
theorem denominator_not_current :
    (run exInit exOps).w.totalEnergy 1 = 28000 ∧
    recordedSum (run exInit exOps).w 1 ≠ (run exInit exOps).w.totalEnergy 1 ∧
    usum (run exInit exOps).w.users (fun u => C10.claimableEnergy (run exInit exOps).w u 1) <
      (run exInit exOps).w.totalEnergy 1 := by
  obtain ⟨_, _, _, _, h5, h7, h8⟩ := ex_state
  refine ⟨h5, ?_, ?_⟩
  · rw [h7, h5]; decide
  · rw [h8, h5]; decide

/-- **counter-example: against the factory's CURRENT energies equality is false** even for the
    running week: a user whose energy changed in the factory (here 7000 → 9000, e.g. by locking
    more tokens) without any collector update is still counted with its old record. -/
theorem denominator_not_factory :
    let s := run (init 5 1440 [1] [101] [])
      [.setEnergy 1 ⟨7000, 5, 10⟩, .claim 1 none, .setEnergy 1 ⟨9000, 5, 12⟩]
    s.w.lastGlobalUpdateWeek = 1 ∧ s.w.totalEnergy 1 = 7000 ∧ s.w.users = [1] ∧
    (Energy.queried (s.energy 1) s.epoch).getEnergyAmount = 9000 := by
  decide

end Mx.C10Once
