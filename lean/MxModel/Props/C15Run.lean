/-
  C15 composed with the staking-farm MODEL — discharging the callee hypotheses of Props/C15.

  Statement (C15, second sentence): unstaking returns … an unbond token for exactly the staking-token
  amount obtained from the removed liquidity.
  In Props/C15.lean the staking farm's answer is an unconstrained argument of the operation, and
  `unbond_eq_pool_output` / `stake_mints` / `no_zero_supply` assume the callee facts
  `r.unA = r.stk`, `r.stA = r.safe + merged`, `r.stA ≠ 0` as hypotheses (`hfarm`, `RespPos`).
  Here those facts are PROVED from the model of the callee (Core/Staking.lean, the model that is
  tied to farm-staking by its own correspondence run, C05/C11/C12): if the recorded answer is what
  the staking model returns when it is called with the values the proxy model passes
  (`o.toStaking`, the released staking-farm amounts), the hypotheses hold.  So for the pair
  (proxy model, staking model) the C15 clause needs no assumption about the callee.
-/
import MxModel.Lemmas.DualYieldStaking
import MxModel.Lemmas.DualYieldLife

namespace Mx.C15Run
open Mx.DualYield

/-- **unbond = pool output, composed with the staking model.**  Let `unstakeFarmTokens` succeed in
    the proxy model with callee answers `r`, and let the unbond token in `r` be the one the staking
    model creates when the proxy (a whitelisted address `proxy`) calls `unstakeFarmThroughProxy`
    with the staking tokens it passes (`o.toStaking`) and the released staking-farm position `pay`.
    Then the caller's unbond token is for exactly the staking-token amount the pair returned for the
    removed liquidity — not for the (safe-price) value of the position —, it is a NEW token, held by
    the proxy (which forwards it, `unstake_outputs`) and unlocks `minUnbondEpochs` from now. -/
theorem unbond_for_pool_output {s s' : St} {c d x : Nat} {r : UnstakeResp} {o : Out}
    (h : unstake s c d x r = some (s', o))
    {σ σ' : Staking.St} {proxy : Nat} {pay : Staking.Pay} {so : Staking.Out}
    (hst : Staking.unstakeProxy σ proxy c o.toStaking pay = some (σ', so))
    (hrec : r.unN = so.a ∧ r.unA = so.b) :
    o.unA = r.stk ∧ o.unN = σ.nonce + 1 ∧ proxy ∈ σ.whitelist ∧
    σ'.md (σ.nonce + 1) = some (.unbond (σ.epoch + σ.minUnbond)) ∧
    σ'.hold proxy (σ.nonce + 1) = r.stk := by
  obtain ⟨s1, p, -, -, rfl⟩ := unstake_spec h
  obtain ⟨hw, ha, hb, hmd, hhold⟩ := unstakeProxy_unbond hst
  exact ⟨hrec.2.trans hb, hrec.1.trans ha, hw, hmd, hhold⟩

/-- the hypothesis `hfarm` of `C15.unbond_eq_pool_output` holds for every answer of the staking
    model: whatever its state, position and caller, `unstakeFarmThroughProxy(amount)` returns an
    unbond token for `amount` -/
theorem hfarm_from_staking_model {σ σ' : Staking.St} {proxy orig amount : Nat} {pay : Staking.Pay}
    {so : Staking.Out} (hst : Staking.unstakeProxy σ proxy orig amount pay = some (σ', so)) :
    so.b = amount :=
  (unstakeProxy_unbond hst).2.2.1

/-- **the new dual-yield token is for the safe-price value plus the merged positions, composed with
    the staking model.**  Let `stakeFarmTokens` succeed in the proxy model, and let the staking-farm
    token in the answer be the one the staking model creates when the proxy calls
    `stakeFarmThroughProxy(o.toStaking)` with additional payments `adds` whose amounts are the
    dual-yield amounts paid in (`ms`).  Then the callee hypotheses of `C15.stake_mints` and
    `C15.no_zero_supply` hold: the dual-yield token is minted for `safe + Σ merged` and never for 0. -/
theorem stake_amount_from_staking_model {s s' : St} {c lpN a : Nat} {auth : Bool}
    {ms : List (Nat × Nat)} {r : StakeResp} {o : Out}
    (h : stake s c auth lpN a ms r = some (s', o))
    {σ σ' : Staking.St} {proxy : Nat} {adds : List Staking.Pay} {so : Staking.Out}
    (hst : Staking.stakeProxy σ proxy c o.toStaking adds = some (σ', so))
    (hadds : adds.map (·.2) = ms.map (·.2)) (hrec : r.stA = so.b) :
    r.stA = r.safe + o.stReleased ∧ o.dyA = r.safe + o.stReleased ∧ r.stA ≠ 0 ∧
    RespPos (.stake c auth lpN a ms r) := by
  obtain ⟨q, -, -, hq, hsafe, -, rfl⟩ := stake_spec h
  obtain ⟨-, hcore⟩ := Staking.stakeProxy_spec hst
  obtain ⟨hpos, hb⟩ := stakeCore_amount hcore
  have hrel := releaseAll_stTotal hq
  have hA : r.stA = r.safe + q.2.2 := by
    rw [hrec, hb, Staking.payTot_eq, hadds, hrel]
  have hne : r.stA ≠ 0 := by
    have : 0 < r.safe := hpos
    omega
  exact ⟨hA, hA, hne, hne⟩

/-- the staking history of `Props/C12Ledger` up to the proxy's unstake: account 101 is the
    whitelisted metastaking proxy holding position 4 (700·10¹²) for user 2 -/
def stakingBefore : Staking.St :=
  Staking.run (Staking.init 5 10 1000000000000 2500 2 5000 [1, 2, 101] [101])
    [.topUp 30000, .withdraw 100, .stake 1 none 1000000000000000 [],
     .stakeProxy 101 2 500000000000000 [], .advance 3 0, .claim 1 none (1, 1000000000000000),
     .claimNew 101 2 700000000000000 (2, 500000000000000), .advance 1 0,
     .unstake 1 none (3, 400000000000000)]

/-- the proxy side: user 2 holds dual-yield nonce 1 recording staking-farm token (4, 700·10¹²) -/
def proxyBefore : St :=
  run init [.stake 2 true 7 1000 [] ⟨700000000000000, 4, 700000000000000, 0, 0, 0, 0⟩]

/-- the hypotheses of `unbond_for_pool_output` are met by concrete non-trivial states of both
    models: the pair returns 300·10¹² staking tokens for the removed liquidity, the staking model,
    called with exactly that amount, creates unbond token 6 for 300·10¹² (the position was worth
    700·10¹²), and the proxy model accepts that answer -/
example :
    (unstake proxyBefore 2 1 700000000000000 ⟨900, 5, 300000000000000, 77, 6, 300000000000000, 3⟩).map
        (fun p => (p.2.toStaking, p.2.unN, p.2.unA)) = some (300000000000000, 6, 300000000000000) ∧
    (Staking.unstakeProxy stakingBefore 101 2 300000000000000 (4, 700000000000000)).map
        (fun p => (p.2.a, p.2.b)) = some (6, 300000000000000) := by
  decide

/-- … and of `stake_amount_from_staking_model`: a fresh staking model, proxy 101 stakes the
    safe-price value 500·10¹² for user 2; the staking model answers token 1 for 500·10¹² -/
example :
    (Staking.stakeProxy (Staking.init 5 10 1000000000000 2500 2 5000 [1, 2, 101] [101]) 101 2
        500000000000000 []).isSome ∧
    (stake init 2 true 7 1000 [] ⟨500000000000000, 1, 500000000000000, 0, 0, 0, 0⟩).isSome := by
  decide

end Mx.C15Run
