/-
  C04 — Liquidity minted / redeemed strictly pro rata; the first deposit locks a floor.
  `Out` of `addLiq` = (LP to the caller, used₁, used₂); the refunds are `a₁−used₁`, `a₂−used₂`.
  `Out` of `removeLiq` = (x₁, x₂).
-/
import MxModel.Lemmas.PairInv

namespace Mx.C04
open Mx.Pair

/-- the deposit actually used is at the pool's ratio, fits the payment, uses one side in
    full, respects the caller's minimums — and is the LARGEST such deposit: any exactly
    proportional `(x₁,x₂)` (`x₁·r₂ = x₂·r₁`) that fits the payment is component-wise ≤ it -/
theorem addLiq_optimal {s s' : St} {a1 a2 m1 m2 : Nat} {o : Out} (hi : Inv s) (hS : 0 < s.S)
    (h : addLiq s a1 a2 m1 m2 = some (s', o)) :
    o.v2 ≤ a1 ∧ o.v3 ≤ a2 ∧ m1 ≤ o.v2 ∧ m2 ≤ o.v3 ∧
    ((o.v2 = a1 ∧ o.v3 = a1 * s.r2 / s.r1) ∨ (o.v3 = a2 ∧ o.v2 = a2 * s.r1 / s.r2)) ∧
    (∀ x1 x2, x1 ≤ a1 → x2 ≤ a2 → x1 * s.r2 = x2 * s.r1 → x1 ≤ o.v2 ∧ x2 ≤ o.v3) := by
  have hp := hi.pos hS
  obtain ⟨o1, o2, t⟩ := addLiq_spec (by omega) h
  obtain rfl := t.out
  obtain ⟨hcase, hm1, hm2⟩ := optimal_spec t.optimal
  simp only [quote] at hcase
  rcases hcase with ⟨c1, rfl, rfl⟩ | ⟨c1, c2, rfl, rfl⟩
  · refine ⟨Nat.le_refl _, c1, hm1, hm2, Or.inl ⟨rfl, rfl⟩, ?_⟩
    intro x1 x2 hx1 hx2 hxe
    refine ⟨hx1, ?_⟩
    rw [Nat.le_div_iff_mul_le hp.1, ← hxe]
    exact Nat.mul_le_mul_right _ hx1
  · refine ⟨c2, Nat.le_refl _, hm1, hm2, Or.inr ⟨rfl, rfl⟩, ?_⟩
    intro x1 x2 hx1 hx2 hxe
    refine ⟨?_, hx2⟩
    rw [Nat.le_div_iff_mul_le hp.2.1, hxe]
    exact Nat.mul_le_mul_right _ hx2

/-- mints exactly `min(⌊used₁·S/r₁⌋, ⌊used₂·S/r₂⌋) > 0`; reserves, supply and real balances
    grow by exactly the used amounts / the minted LP (so the unused remainder was refunded) -/
theorem addLiq_mint {s s' : St} {a1 a2 m1 m2 : Nat} {o : Out} (hS : 0 < s.S)
    (h : addLiq s a1 a2 m1 m2 = some (s', o)) :
    o.v1 = min (o.v2 * s.S / s.r1) (o.v3 * s.S / s.r2) ∧ 0 < o.v1 ∧
    s'.S = s.S + o.v1 ∧ s'.r1 = s.r1 + o.v2 ∧ s'.r2 = s.r2 + o.v3 ∧
    s'.bal1 = s.bal1 + o.v2 ∧ s'.bal2 = s.bal2 + o.v3 ∧ s'.lpCirc = s.lpCirc + o.v1 := by
  obtain ⟨o1, o2, t⟩ := addLiq_spec (by omega) h
  obtain rfl := t.out
  obtain rfl := t.state
  exact ⟨rfl, t.liq_pos, rfl, rfl, rfl, rfl, rfl, rfl⟩

/-- fails if either used amount would be below the caller's minimum -/
theorem addLiq_min_guard (s : St) (a1 a2 m1 m2 : Nat) (hS : 0 < s.S)
    (hlow : ∀ o1 o2, optimal s a1 a2 1 1 = some (o1, o2) → o1 < m1 ∨ o2 < m2) :
    addLiq s a1 a2 m1 m2 = none := by
  cases h : addLiq s a1 a2 m1 m2 with
  | none => rfl
  | some r =>
    obtain ⟨s', o⟩ := r
    obtain ⟨o1, o2, t⟩ := addLiq_spec (by omega) h
    have g1 := t.m1_pos
    have g2 := t.m2_pos
    have hopt := t.optimal
    obtain ⟨hcase, hm1, hm2⟩ := optimal_spec hopt
    have : optimal s a1 a2 1 1 = some (o1, o2) := by
      simp only [optimal, Option.bind_eq_bind, Option.bind_eq_some_iff, req_eq_some,
        Option.pure_def, Option.some.injEq, Prod.mk.injEq] at hopt ⊢
      obtain ⟨p, hp, _, _, _, _, e⟩ := hopt
      exact ⟨p, hp, (), by obtain ⟨rfl, rfl⟩ := e; omega, (), by obtain ⟨rfl, rfl⟩ := e; omega, e⟩
    rcases hlow o1 o2 this with c | c <;> omega

/-- removing liquidity pays exactly `(⌊lp·r₁/S⌋, ⌊lp·r₂/S⌋)`, both positive, both below the
    reserve, both at least the caller's minimums, burns the LP, and needs `S ≥ lp + 1000` -/
theorem removeLiq_pays {s s' : St} {lp m1 m2 : Nat} {o : Out}
    (h : removeLiq s lp m1 m2 = some (s', o)) :
    o.v1 = lp * s.r1 / s.S ∧ o.v2 = lp * s.r2 / s.S ∧ 0 < o.v1 ∧ 0 < o.v2 ∧
    o.v1 < s.r1 ∧ o.v2 < s.r2 ∧ m1 ≤ o.v1 ∧ m2 ≤ o.v2 ∧ lp + MINLIQ ≤ s.S ∧
    s'.S = s.S - lp ∧ s'.r1 = s.r1 - o.v1 ∧ s'.r2 = s.r2 - o.v2 ∧
    s'.bal1 = s.bal1 - o.v1 ∧ s'.bal2 = s.bal2 - o.v2 ∧ s'.lpCirc = s.lpCirc - lp := by
  have t := removeLiq_spec h
  obtain rfl := t.out
  obtain rfl := t.state
  exact ⟨rfl, rfl, t.x1_pos, t.x2_pos, t.x1_lt, t.x2_lt, t.min1, t.min2, t.minliq, rfl, rfl, rfl, rfl, rfl, rfl⟩

/-- …and fails below the caller's minimums -/
theorem removeLiq_rejects_below_min (s : St) (lp m1 m2 : Nat)
    (hlow : lp * s.r1 / s.S < m1 ∨ lp * s.r2 / s.S < m2) : removeLiq s lp m1 m2 = none := by
  cases h : removeLiq s lp m1 m2 with
  | none => rfl
  | some r =>
    obtain ⟨s', o⟩ := r
    have t := removeLiq_spec h
    obtain rfl := t.out
    have h8 := t.min1
    have h11 := t.min2
    simp only at h8 h11
    omega

/-- the first deposit mints `min a₁ a₂`, requires it to exceed 1000, and gives the depositor all
    but the 1000 units the pair keeps — here through `addLiquidity`, in `first_deposit_initial`
    through `addInitialLiquidity` (which in addition checks the configured adder) -/
theorem first_deposit {s s' : St} {a1 a2 m1 m2 : Nat} {o : Out} (hS : s.S = 0)
    (h : addLiq s a1 a2 m1 m2 = some (s', o)) :
    MINLIQ < min a1 a2 ∧ s'.S = min a1 a2 ∧ o.v1 = min a1 a2 - MINLIQ ∧
    s'.lpOwn = s.lpOwn + MINLIQ := by
  obtain ⟨_, _, _, _, h5, rfl, rfl⟩ := addLiq_first_spec hS h
  exact ⟨h5, rfl, rfl, rfl⟩

theorem first_deposit_initial {s s' : St} {c a1 a2 : Nat} {o : Out}
    (h : addInitial s c a1 a2 = some (s', o)) :
    (s.adder = none ∨ s.adder = some c) ∧ s.S = 0 ∧ MINLIQ < min a1 a2 ∧ s'.S = min a1 a2 ∧
    o.v1 = min a1 a2 - MINLIQ ∧ s'.lpOwn = s.lpOwn + MINLIQ := by
  obtain ⟨h1, _, _, _, h5, h6, rfl, rfl⟩ := addInitial_spec h
  exact ⟨h1, h5, h6, rfl, rfl, rfl⟩

/-- the floor is permanent: in every state reachable by any history, once liquidity exists
    the pair itself holds exactly the 1000 locked LP units, the supply is at least 1000 and
    both reserves are positive — no operation sequence can empty the pool -/
theorem locked_forever (total special : Nat) (adder : Option Nat) (cap : Nat)
    (before after : List Op) (h : 0 < (run (init total special adder cap) before).S) :
    let s := run (init total special adder cap) (before ++ after)
    s.lpOwn = MINLIQ ∧ MINLIQ ≤ s.S ∧ 0 < s.r1 ∧ 0 < s.r2 := by
  intro s
  have hi := run_inv before (inv_init total special adder cap)
  have hS : 0 < s.S := by
    show 0 < (run _ (before ++ after)).S
    rw [run_append]
    exact run_S_pos after h
  have hi' : Inv s := run_inv (before ++ after) (inv_init total special adder cap)
  have hp := hi'.pos hS
  exact ⟨hi'.ownPos hS, hp.2.2, hp.1, hp.2.1⟩

/-- non-vacuity: both first-deposit paths and a skewed later deposit on concrete pools -/
example :
    let s0 := run (init 300 50 none 8) [.cfg (.setState .active), .addLiq 5000 7000 1 1]
    let s1 := run (init 300 50 (some 2) 8) [.addInitial 2 9000 4000]
    s0.S = 5000 ∧ s0.lpOwn = 1000 ∧ s1.S = 4000 ∧ s1.lpOwn = 1000 ∧
    (addLiq s0 100 1000 1 1).isSome ∧ (addLiq s0 1000 100 1 1).isSome ∧
    (removeLiq s0 4000 1 1).isSome ∧ (removeLiq s0 4001 1 1).isNone := by
  decide

end Mx.C04
