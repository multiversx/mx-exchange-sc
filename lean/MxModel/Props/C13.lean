/-
  C13 — Safe price is the exact time-weighted average of start-of-round reserves.

  Statement: the safe price over rounds (s, e] equals the average of the reserves (and LP
  supply) that were in effect at the start of each round of the window, in the documented
  integer arithmetic, no matter how many operations happen inside one round and whether s and e
  fall on recorded observations, between them (interpolation), after the last one
  (extrapolation with current state) or across ring-buffer wrap-around.  A query that starts
  before the oldest retained observation, ends in the future, or has s ≥ e is rejected.

  Model: Core/Pair.lean (`SP.update` = `update_safe_price`, run first by every reserve-changing
  operation through `St.touch`) and Core/SafePrice.lean (the views).  Ghost: `G.log k` = the
  reserves and LP supply in effect when round `k` started (Lemmas/SafePriceRing.lean; what that
  means is stated by `startRes_meaning` below).  `rsum f s e = Σ_{k∈(s,e]} f k`,
  `avg f s e = ⌊rsum f s e / (e − s)⌋`, `l1/l2/lS log` = the three components of the log.
  Ring capacity `cap ≥ 1` is arbitrary (65 536 in the contract).

  Out of scope (see Core/SafePrice.lean): the legacy fallback for observations stored without
  an LP accumulator — `no_legacy_observation` shows no history of this model produces one.
-/
import MxModel.Lemmas.SafePriceView

namespace Mx.C13
open Mx Mx.Pair Mx.SafePrice

/-- the ghost state only adds the log: its pair state is the model's state after the history -/
theorem ghost_is_model (t sp : Nat) (ad : Option Nat) (cap : Nat) (ops : List Op) :
    (grun (ginit t sp ad cap) ops).s = run (init t sp ad cap) ops :=
  grun_s _ _

/-- what the log means: if, after the history `pre`, the clock is moved to round `r`, every
    round `k` the move passes over is logged with the reserves and LP supply of that moment —
    the values in effect when round `k` started — and no later operation changes the entry -/
theorem startRes_meaning (t sp : Nat) (ad : Option Nat) (cap : Nat) (pre post : List Op)
    (r k : Nat) :
    let g1 := grun (ginit t sp ad cap) pre
    g1.s.round < k → k ≤ r →
      (grun (ginit t sp ad cap) (pre ++ Op.advance r :: post)).log k
        = ⟨g1.s.r1, g1.s.r2, g1.s.S⟩ := by
  intro g1 h1 h2
  rw [grun_append]
  show (grun (gstep g1 (Op.advance r)) post).log k = _
  have hst : step g1.s (Op.advance r) = some ({ g1.s with round := r }, {}) := by
    simp only [step]; rw [if_pos (by omega)]
  have hg : (gstep g1 (Op.advance r)).s.round = r ∧
      (gstep g1 (Op.advance r)).log k = ⟨g1.s.r1, g1.s.r2, g1.s.S⟩ := by
    unfold gstep
    rw [hst]
    exact ⟨rfl, by simp only []; rw [if_pos ⟨h1, h2⟩]⟩
  rw [grun_log_stable post _ (by omega), hg.2]

/-- after EVERY history of pair operations (any arguments, any configuration, any number of
    operations per round, any round gaps) the observation buffer satisfies the ring invariant -/
theorem ring_inv_run (t sp : Nat) (ad : Option Nat) (cap : Nat) (hc : 1 ≤ cap) (ops : List Op) :
    RingInv (grun (ginit t sp ad cap) ops) :=
  grun_inv ops (ginit_inv t sp ad cap hc)

/-- shape of the buffer after every history: never longer than the capacity, the index of the
    newest observation inside it, and while it is not full the newest is the last element -/
theorem ring_shape (t sp : Nat) (ad : Option Nat) (cap : Nat) (hc : 1 ≤ cap) (ops : List Op) :
    let p := (run (init t sp ad cap) ops).sp
    p.obs.length ≤ p.cap ∧ p.cur ≤ p.obs.length ∧ (p.obs ≠ [] → 1 ≤ p.cur) ∧
    (p.obs.length < p.cap → p.cur = p.obs.length) := by
  have h := (ring_inv_run t sp ad cap hc ops).shape
  rw [ghost_is_model] at h
  exact ⟨h.lenLe, h.curLe, h.curPos, h.notFull⟩

/-- an operation in the round of the newest observation records nothing (one observation per
    round, however many operations the round contains) … -/
theorem one_obs_per_round_same (s : St) (h : s.sp.last.round = s.round) : s.touch.sp = s.sp := by
  unfold St.touch SP.update
  simp only []
  split <;> rfl

/-- … the first operation of a new round records exactly one, taken from the PRE-operation
    reserves with weight = rounds since the previous observation … -/
theorem one_obs_per_round_new (t sp : Nat) (ad : Option Nat) (cap : Nat) (hc : 1 ≤ cap)
    (ops : List Op) :
    let s := run (init t sp ad cap) ops
    s.sp.last.round ≠ s.round → 0 < s.r1 → 0 < s.r2 → 0 < s.S →
      s.touch.sp.last = s.sp.last.next s.round s.r1 s.r2 s.S ∧
      logical s.touch.sp =
        (if s.sp.obs.length = s.sp.cap then (logical s.sp).tail else logical s.sp) ++
          [s.sp.last.next s.round s.r1 s.r2 s.S] := by
  intro s hne h1 h2 h3
  have hs := (ring_inv_run t sp ad cap hc ops).shape
  rw [ghost_is_model] at hs
  rcases update_cases hs s.round s.r1 s.r2 s.S ⟨h1, h2, h3⟩ with ⟨e, _⟩ | ⟨_, _, _, hl, _, hlg, _⟩
  · exact absurd e hne
  · exact ⟨hl, hlg⟩

/-- … so in every reachable state no two retained observations carry the same round -/
theorem one_obs_per_round (t sp : Nat) (ad : Option Nat) (cap : Nat) (hc : 1 ≤ cap)
    (ops : List Op) :
    ∀ a ∈ (run (init t sp ad cap) ops).sp.obs, ∀ b ∈ (run (init t sp ad cap) ops).sp.obs,
      a.round = b.round → a = b := by
  intro a ha b hb hab
  have hi := ring_inv_run t sp ad cap hc ops
  have hs := sorted_of_linked hi.linked
  rw [ghost_is_model] at hs
  have hpw := List.pairwise_iff_getElem.mp hs
  obtain ⟨i, hi1, rfl⟩ := List.getElem_of_mem (mem_logical.mpr ha)
  obtain ⟨j, hj1, rfl⟩ := List.getElem_of_mem (mem_logical.mpr hb)
  rcases Nat.lt_trichotomy i j with h | h | h
  · have := hpw i j hi1 hj1 h; omega
  · subst h; rfl
  · have := hpw j i hj1 hi1 h; omega

/-- **acc_inv**: in every reachable state, for any two retained observations `a` (logically
    earlier) and `b`: `b` is strictly later, its weight accumulator differs by the number of
    rounds between them, and each of its reserve / LP accumulators differs by the SUM OF THE
    START-OF-ROUND VALUES over the rounds `(a.round, b.round]` -/
theorem acc_inv (t sp : Nat) (ad : Option Nat) (cap : Nat) (hc : 1 ≤ cap) (ops : List Op) :
    let g := grun (ginit t sp ad cap) ops
    (logical g.s.sp).Pairwise (fun a b =>
      a.round < b.round ∧ b.w = a.w + (b.round - a.round) ∧
      b.acc1 = a.acc1 + rsum (l1 g.log) a.round b.round ∧
      b.acc2 = a.acc2 + rsum (l2 g.log) a.round b.round ∧
      b.accS = a.accS + rsum (lS g.log) a.round b.round) := by
  intro g
  exact (linked_pairwise (ring_inv_run t sp ad cap hc ops).linked).imp
    (fun h => ⟨h.2, h.1.w, h.1.acc1, h.1.acc2, h.1.accS⟩)

/-- **ring_sorted**: in logical order (physical `cur+1 … len`, then `1 … cur`) the rounds of the
    retained observations are strictly increasing, all lie in `[1, now]`, and the newest one is
    at `cur` -/
theorem ring_sorted (t sp : Nat) (ad : Option Nat) (cap : Nat) (hc : 1 ≤ cap) (ops : List Op) :
    let s := run (init t sp ad cap) ops
    (logical s.sp).Pairwise (fun a b => a.round < b.round) ∧
    (∀ o ∈ s.sp.obs, 1 ≤ o.round ∧ o.round ≤ s.round) ∧
    (s.sp.obs ≠ [] → (logical s.sp).getLast? = some s.sp.last) := by
  have hi := ring_inv_run t sp ad cap hc ops
  have h1 := sorted_of_linked hi.linked
  have h2 := hi.roundBnd
  have h3 := hi.shape
  rw [ghost_is_model] at h1 h2 h3
  exact ⟨h1, h2, fun hne => logical_getLast h3 hne⟩

/-- no history produces an observation without LP accumulator (the legacy fallback of
    `get_lp_tokens_safe_price` is unreachable in this model) -/
theorem no_legacy_observation (t sp : Nat) (ad : Option Nat) (cap : Nat) (hc : 1 ≤ cap)
    (ops : List Op) : ∀ o ∈ (run (init t sp ad cap) ops).sp.obs, 0 < o.accS := by
  have h := (ring_inv_run t sp ad cap hc ops).accPos
  rw [ghost_is_model] at h
  exact h

/-- **binsearch_correct**: for ANY buffer of any capacity, fill level and wrap
    position whose shape is one `update_safe_price` can produce and whose rounds increase in
    logical order, and any round `q` with `oldest.round ≤ q < newest.round`: the contract's binary
    search (its bounds, its probes, its returned index) either returns the stored observation of
    round `q`, or it misses and then the two elements the interpolation will use — the last probed
    element and its ring neighbour, chosen as the contract chooses them, including the step from
    the last physical slot to slot 1 — are CONSECUTIVE retained observations `L`, `R` (positions
    `k`, `k+1` of the logical order) with `L.round < q < R.round` -/
theorem binsearch_correct (p : SP) (hs : Shape p) (hsorted : SortedRing p) (old : Obs)
    (hold : oldest p = some old) (q : Nat) (h1 : old.round ≤ q) (h2 : q < p.last.round) :
    ∃ o si, binSearch p q = some (o, si) ∧
      ((o ∈ p.obs ∧ o.round = q ∧ get? p si = some o) ∨
       (o = Obs.zero ∧ ∃ L R k, neighbours p q si = some (L, R) ∧
          (logical p)[k]? = some L ∧ (logical p)[k + 1]? = some R ∧
          L.round < q ∧ q < R.round)) := by
  obtain ⟨o, si, hb, hres⟩ := binSearch_spec hs hsorted hold h1 h2
  refine ⟨o, si, hb, ?_⟩
  rcases hres with ⟨e1, e2, e3, e4⟩ | ⟨e1, iL, iR, a1, a2, b1, b2, hp, hl, hr, hn⟩
  · exact Or.inl ⟨by rw [e1]; exact nth_mem e3 e4, e2, by rw [e1]; exact get?_some e3 e4⟩
  · refine Or.inr ⟨e1, nth p iL, nth p iR, pos p iL, hn, ?_, ?_, hl, hr⟩
    · have := logical_getElem hs.curLe a1 a2
      rw [← this]
      exact List.getElem?_eq_getElem _
    · have := logical_getElem hs.curLe b1 b2
      rw [hp, ← this]
      exact List.getElem?_eq_getElem _

/-- the same for every reachable state: the hypotheses of `binsearch_correct` hold after every
    history -/
theorem binsearch_correct_run (t sp : Nat) (ad : Option Nat) (cap : Nat) (hc : 1 ≤ cap)
    (ops : List Op) :
    let p := (run (init t sp ad cap) ops).sp
    Shape p ∧ SortedRing p := by
  have hi := ring_inv_run t sp ad cap hc ops
  have h1 := hi.shape
  have h2 := sorted_of_linked hi.linked
  rw [ghost_is_model] at h1 h2
  exact ⟨h1, h2⟩

/-- **interp_exact** (arithmetic): with weights `lw = b − q`, `rw = q − a` between accumulators
    `A` at round `a` and `A + (b−a)·x` at round `b`, the contract's floor division
    `(lw·A + rw·B) / (lw + rw)` is EXACTLY `A + (q−a)·x` — nothing is rounded away -/
theorem interp_exact (A x a q b : Nat) (h1 : a < q) (h2 : q < b) :
    ((b - q) * A + (q - a) * (A + (b - a) * x)) / ((b - q) + (q - a)) = A + (q - a) * x :=
  interp_kernel A x a q b h1 h2

/-- **interp_exact** (on observations): interpolating between two observations recorded one
    right after the other yields exactly the observation of round `q`: round `q`, weight
    `L.w + (q − L.round)`, accumulators `L` + Σ of the start-of-round values over `(L.round, q]` -/
theorem interp_exact_obs (log : Log) (L R : Obs) (h : Link log L R) (q : Nat)
    (h1 : L.round < q) (h2 : q < R.round) :
    interp L R q = some ⟨L.acc1 + rsum (l1 log) L.round q, L.acc2 + rsum (l2 log) L.round q,
      L.accS + rsum (lS log) L.round q, L.w + (q - L.round), q⟩ := by
  obtain ⟨o, ho, hr, ht⟩ := interp_tele h h1 h2
  rw [ho]
  have := ht.eq_ideal
  rw [hr] at this
  exact congrArg some this

/-- **extrapolate_exact**: after the newest observation the view simulates an observation from
    the CURRENT reserves; in every reachable state that is exactly the newest observation plus the
    start-of-round values of every round since -/
theorem extrapolate_exact (t sp : Nat) (ad : Option Nat) (cap : Nat) (hc : 1 ≤ cap)
    (ops : List Op) (q : Nat) :
    let g := grun (ginit t sp ad cap) ops
    g.s.sp.obs ≠ [] → g.s.sp.last.round < q → q ≤ g.s.round →
      g.s.sp.last.next q g.s.r1 g.s.r2 g.s.S =
        ⟨g.s.sp.last.acc1 + rsum (l1 g.log) g.s.sp.last.round q,
         g.s.sp.last.acc2 + rsum (l2 g.log) g.s.sp.last.round q,
         g.s.sp.last.accS + rsum (lS g.log) g.s.sp.last.round q,
         g.s.sp.last.w + (q - g.s.sp.last.round), q⟩ := by
  intro g hne h1 h2
  have hi : RingInv g := ring_inv_run t sp ad cap hc ops
  have hr0 : g.s.sp.last.round ≠ 0 := by
    have := (hi.roundBnd _ (last_mem hi.shape hne)).1; omega
  have ht := next_tele hr0 h1 (hi.live hne) (fun k a b => hi.current hne k a (by omega))
  exact ht.eq_ideal

/-- **lookup_exact**: in every reachable state, for every round `q` from the oldest retained
    observation up to the current round, `getPriceObservation` / the internal lookup returns the
    ideal observation of round `q` — whether `q` is the newest observation, lies after it, is a
    stored observation, or falls between two stored observations (anywhere in the rotated ring) -/
theorem lookup_exact (t sp : Nat) (ad : Option Nat) (cap : Nat) (hc : 1 ≤ cap) (ops : List Op)
    (old : Obs) (q : Nat) :
    let g := grun (ginit t sp ad cap) ops
    oldest g.s.sp = some old → old.round ≤ q → q ≤ g.s.round →
      lookup g.s q = some (ideal g.log old q) ∧
      getPriceObservation g.s q = some (ideal g.log old q) := by
  intro g hold h1 h2
  have hi : RingInv g := ring_inv_run t sp ad cap hc ops
  have hl := SafePrice.lookup_exact hi hold h1 h2
  refine ⟨hl, ?_⟩
  unfold getPriceObservation
  rw [hold]
  simp only [Option.bind_eq_bind, Option.bind_some]
  rw [req_pos h1]
  exact hl

/-- **safe_price_eq**: in every reachable state and for every window `(s, e]` inside the retained
    range, the weighted amounts are the floor averages of the start-of-round reserves and LP
    supply over the window, `getSafePrice` returns `⌊in · avg_out / avg_in⌋`, and
    `getLpTokensSafePrice` returns `⌊liq · avg_r / avg_S⌋` for both tokens -/
theorem safe_price_eq (t sp : Nat) (ad : Option Nat) (cap : Nat) (hc : 1 ≤ cap) (ops : List Op)
    (old : Obs) (s e amt : Nat) :
    let g := grun (ginit t sp ad cap) ops
    oldest g.s.sp = some old → old.round ≤ s → s < e → e ≤ g.s.round →
      getSafePrice g.s s e (some .ab) amt
        = some (amt * avg (l2 g.log) s e / avg (l1 g.log) s e) ∧
      getSafePrice g.s s e (some .ba) amt
        = some (amt * avg (l1 g.log) s e / avg (l2 g.log) s e) ∧
      getLpSafePrice g.s s e amt
        = some (amt * avg (l1 g.log) s e / avg (lS g.log) s e,
                amt * avg (l2 g.log) s e / avg (lS g.log) s e) := by
  intro g hold h1 h2 h3
  have hi : RingInv g := ring_inv_run t sp ad cap hc ops
  have hw := window_exact hi hold h1 h2 h3
  obtain ⟨p1, p2, p3⟩ := avg_pos hi hold h1 h2 h3
  refine ⟨?_, ?_, ?_⟩
  · unfold getSafePrice
    rw [hw]
    simp only [Option.bind_eq_bind, Option.bind_some, priceOf]
    rw [req_pos (by omega)]
    rfl
  · unfold getSafePrice
    rw [hw]
    simp only [Option.bind_eq_bind, Option.bind_some, priceOf]
    rw [req_pos (by omega)]
    rfl
  · unfold getLpSafePrice
    rw [hw]
    simp only [Option.bind_eq_bind, Option.bind_some, Option.pure_def, lpWorth]
    rw [if_neg (by omega)]

/-- the offset views and the `updateAndGet…` endpoints are the same computation on the window
    `(now − offset, now]`; the default offset is `min(now − oldest.round, 600)` -/
theorem offset_views (s : St) (off ts : Nat) (d : Option Dir) (amt : Nat) :
    (0 < off → off < s.round →
      getSafePriceByRoundOffset s off d amt = getSafePrice s (s.round - off) s.round d amt ∧
      getLpSafePriceByRoundOffset s off amt = getLpSafePrice s (s.round - off) s.round amt) ∧
    (¬ (0 < off ∧ off < s.round) →
      getSafePriceByRoundOffset s off d amt = none ∧ getLpSafePriceByRoundOffset s off amt = none) ∧
    getSafePriceByTimestampOffset s ts d amt = getSafePriceByRoundOffset s (ts / 6) d amt ∧
    getLpSafePriceByTimestampOffset s ts amt = getLpSafePriceByRoundOffset s (ts / 6) amt ∧
    updateAndGetSafePrice s d amt = getSafePriceByDefaultOffset s d amt ∧
    updateAndGetPosition s amt = getLpSafePriceByDefaultOffset s amt ∧
    (∀ old, oldest s.sp = some old → old.round ≤ s.round →
      getSafePriceByDefaultOffset s d amt
        = getSafePrice s (s.round - min (s.round - old.round) 600) s.round d amt ∧
      getLpSafePriceByDefaultOffset s amt
        = getLpSafePrice s (s.round - min (s.round - old.round) 600) s.round amt) := by
  refine ⟨fun h1 h2 => ?_, fun h => ?_, rfl, rfl, rfl, rfl, fun old hold hle => ?_⟩
  · simp only [getSafePriceByRoundOffset, getLpSafePriceByRoundOffset, offsetStart,
      req_pos (show 0 < off ∧ off < s.round from ⟨h1, h2⟩), Option.bind_eq_bind, Option.bind_some,
      Option.pure_def, and_self]
  · simp only [getSafePriceByRoundOffset, getLpSafePriceByRoundOffset, offsetStart,
      req_eq_none.mpr h, Option.bind_eq_bind, Option.bind_none, and_self]
  · simp only [getSafePriceByDefaultOffset, getLpSafePriceByDefaultOffset, defaultStart, hold,
      sub?_pos hle, Option.bind_eq_bind, Option.bind_some, Option.pure_def, DEFAULT_OFFSET,
      and_self]

/-- **query_guards**: a window with `s ≥ e`, a window starting before the oldest retained
    observation (or on an empty buffer), and — in every reachable state — a window ending after
    the current round are all rejected, by the price view and by the LP view; a single-round
    lookup outside `[oldest, now]` is rejected too -/
theorem query_guards (t sp : Nat) (ad : Option Nat) (cap : Nat) (hc : 1 ≤ cap) (ops : List Op)
    (s e : Nat) (d : Option Dir) (amt : Nat) :
    let st := run (init t sp ad cap) ops
    (e ≤ s → getSafePrice st s e d amt = none ∧ getLpSafePrice st s e amt = none) ∧
    (∀ old, oldest st.sp = some old → s < old.round →
      getSafePrice st s e d amt = none ∧ getLpSafePrice st s e amt = none ∧
      getPriceObservation st s = none) ∧
    (st.sp.obs = [] → getSafePrice st s e d amt = none ∧ getLpSafePrice st s e amt = none) ∧
    (st.round < e → getSafePrice st s e d amt = none ∧ getLpSafePrice st s e amt = none ∧
      getPriceObservation st e = none) := by
  intro st
  have hi := ring_inv_run t sp ad cap hc ops
  have hst : (grun (ginit t sp ad cap) ops).s = st := ghost_is_model t sp ad cap ops
  have hnone : ∀ a b, window st a b = none →
      getSafePrice st a b d amt = none ∧ getLpSafePrice st a b amt = none := by
    intro a b h
    simp only [getSafePrice, getLpSafePrice, h, Option.bind_eq_bind, Option.bind_none, and_self]
  refine ⟨fun h => hnone _ _ (window_none_of_order st h), fun old hold h => ?_,
    fun h => hnone _ _ (window_none_of_empty st h s e), fun h => ?_⟩
  · have := hnone _ _ (window_none_of_old st hold (en := e) h)
    refine ⟨this.1, this.2, ?_⟩
    unfold getPriceObservation
    rw [hold]
    simp only [Option.bind_eq_bind, Option.bind_some]
    rw [req_eq_none.mpr (by omega)]
    rfl
  · have hw : window st s e = none := by
      rw [← hst]; exact window_none_of_future hi (by rw [hst]; exact h)
    have := hnone _ _ hw
    refine ⟨this.1, this.2, ?_⟩
    unfold getPriceObservation
    cases oldest st.sp with
    | none => rfl
    | some old =>
      simp only [Option.bind_eq_bind, Option.bind_some]
      cases req (old.round ≤ e) with
      | none => rfl
      | some u =>
        simp only [Option.bind_some]
        rw [← hst]
        exact lookup_none_of_future hi (by rw [hst]; exact h)

/-- a concrete history on a capacity-4 ring: several operations per round, gaps of thousands of
    rounds, the ring wraps (physical order 4005, 4100, 20, 4000 with the newest at index 2).
    The hypotheses of the theorems above are live on it: the window (30, 4050] interpolates in
    the older part (second search interval) and in the newer part; the LP window (4003, 4150]
    starts between the LAST physical slot and slot 1 (the wrap seam) and ends after the newest
    observation (extrapolation); the three guards reject. -/
example :
    let s := run (init 300 50 none 4)
      [.cfg (.setState .active), .addLiq 1000000 2000000 1 1, .advance 3, .swapIn .ab 10000 1,
       .swapIn .ba 5000 1, .advance 7, .swapOut .ba 900000 1000, .advance 20,
       .addLiq 500000 1000000 1 1, .removeLiq 1000 1 1, .advance 4000, .swapIn .ab 777 1,
       .advance 4005, .swapIn .ba 99999 1, .advance 4100, .swapIn .ab 1 1, .advance 4200]
    s.sp.obs.map (·.round) = [4005, 4100, 20, 4000] ∧ s.sp.cur = 2 ∧
    (oldest s.sp).map (·.round) = some 20 ∧
    (binSearch s.sp 30).map (·.2) = some 4 ∧
    (binSearch s.sp 4003).map (·.2) = some 4 ∧
    (neighbours s.sp 4003 4).map (fun x => (x.1.round, x.2.round)) = some (4000, 4005) ∧
    (binSearch s.sp 4050).map (·.2) = some 1 ∧
    getSafePrice s 30 4050 (some .ab) 1000000 = some 1975909 ∧
    getSafePrice s 20 4200 (some .ba) 1000000 = some 504929 ∧
    getLpSafePrice s 4003 4150 1000000 = some (974734, 2052158) ∧
    getSafePriceByDefaultOffset s (some .ab) 1000000 = some 2016665 ∧
    getSafePrice s 19 4050 (some .ab) 1000000 = none ∧
    getSafePrice s 30 4201 (some .ab) 1000000 = none ∧
    getSafePrice s 30 30 (some .ab) 1000000 = none := by
  decide

/-- the interpolation kernel on numbers that do not divide evenly anywhere else -/
example : ((20 - 13) * 1000003 + (13 - 7) * (1000003 + (20 - 7) * 12347)) / ((20 - 13) + (13 - 7))
    = 1000003 + (13 - 7) * 12347 := by decide

end Mx.C13
