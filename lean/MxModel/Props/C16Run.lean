/-
  C16 at run level — merge conservation and supply neutrality over ANY history.

  Statement (C16, last sentence): base asset the proxy mints for a pool or farm entry is matched on
  exit by burning the same amount of base asset or, for the part the pool or a penalty kept, of
  locked tokens, so the combined base+locked supply is unchanged by a round trip.
  Props/C16.lean proves this for two fixed two-operation sequences.  Here it is the general
  history invariant:  `minted − burnB − burnL  =  RT`,  where `RT` is the total of the locked
  tokens reserved by the outstanding wrapped tokens (wrapped LP records + wrapped farm records
  entered with locked tokens; this is what is "at work" in pools and farms, one base-asset unit per
  reserved locked token, floor dust of partial exits included).  So once every reserve is used up
  the supply created through the proxy is exactly 0.

  Two callee facts are needed and are NAMED, EXECUTABLE predicates on the recorded answers (the
  `Prop`s in Lemmas/ProxyDexNetOps.lean, the `Bool` checks behind them in Core/ProxyDexCheck.lean),
  evaluated in the state the operation is executed in:
  * `FactoryMergeOK s op` (`factoryOKb`): the locked token the energy factory returns for a merge
    or an extension is for exactly the sum of the locked amounts `into_part` took out of the merged
    / extended wrapped tokens (plus the new position's amount for an entry with merging);
  * `FarmExact op` (`farmEqb`): a farm mints as many farm tokens as farming tokens entered /
    claimed / merged; locked tokens go to the base-asset farm, wrapped LP tokens to an LP farm.
  `runOKb s ops` says that every operation of the history satisfies both.  The driver
  (Driver/Proxydex.lean) evaluates `calleeOKb` on every accepted operation of a correspondence run
  and reports a divergence when it fails; the corpus history below satisfies them.
  Without them the statement is FALSE in the model (and in reality: a factory that returned fewer
  locked tokens than it was sent would destroy supply) — `factory_fact_needed` below.
-/
import MxModel.Lemmas.ProxyDexNetOps

namespace Mx.C16Run
open Mx.ProxyDex


/-- **merge conservation, wrapped LP.**  If the factory's merge returns the sum of the merged
    locked amounts (`FactoryMergeOK`), `mergeWrappedLpTokens` preserves, per underlying: the LP
    tokens recorded (wrapped LP in user hands, proxy LP balance), the locked tokens recorded
    (`RT`; the merged token records exactly `Σ parts`), and mints / burns nothing. -/
theorem merge_lp_conserves {s s' : St} {l : List (Nat × Nat)} {t : LkTok} {o : Out}
    (h : mergeLp s l t = some (s', o)) (hok : FactoryMergeOK s (.mergeLp l t)) :
    RT s' = RT s ∧ C s' = C s ∧ s'.lp = s.lp ∧ s'.net = s.net ∧
    s'.aw = s.aw ++ [(sumX l, t.k, lockedWs s l)] := by
  obtain ⟨-, -, m⟩ := mergeLp_moved h
  have hk : t.amt = lockedWs s l := by
    simpa [FactoryMergeOK, factoryOKb] using hok
  have h1 : RT s' + lockedWs s l = RT s + t.amt := m.rt
  have h2 : C s' + sumX l = C s + sumX l := m.c
  exact ⟨by omega, by omega, m.lp, m.net.trans (by dsimp only; omega), by rw [m.aw, hk]⟩

/-- with exact callees (`FactoryMergeOK`, `FarmExact`), `mergeWrappedFarmTokens`
    preserves the total of farm tokens and of locked tokens recorded in wrapped farm tokens. -/
theorem merge_farm_conserves {s s' : St} {farm : Nat} {l : List (Nat × Nat)} {mf : Nat × Nat}
    {t : LkTok} {rew : Option LkTok} {stray : List LkTok} {o : Out}
    (h : mergeFarm s farm l mf t rew stray = some (s', o))
    (hok : FactoryMergeOK s (.mergeFarm farm l mf t rew stray))
    (hfarm : FarmExact (.mergeFarm farm l mf t rew stray)) :
    RT s' = RT s ∧ FT s' = FT s ∧ s'.net = s.net := by
  have hk : t.amt = lockedFs s l := by simpa [FactoryMergeOK, factoryOKb] using hok
  have hf : mf.2 = sumX l := by simpa [FarmExact, farmEqb, paySum_eq] using hfarm
  obtain ⟨_, _, _, _, -, -, -, -, -, ⟨-, m⟩ | ⟨-, m⟩⟩ := mergeFarm_moved h <;>
  · have h1 : RT s' + lockedFs s l = RT s + t.amt := m.rt
    have h2 : FT s' + sumX l = FT s + mf.2 := m.ft
    exact ⟨by omega, by omega, m.net.trans (by dsimp only; omega)⟩

/-- **increase-energy conserves the amounts**: `increaseProxyPairTokenEnergy` /
    `increaseProxyFarmTokenEnergy` with a factory that extends the lock of exactly the amount it was
    sent leave the recorded LP / farm tokens and the reserved locked total unchanged (only the
    lock schedule — the nonce — changes). -/
theorem increase_energy_conserves {s s' : St} {o : Out} {t : LkTok} :
    (∀ w x, incLp s w x t = some (s', o) → FactoryMergeOK s (.incLp w x t) →
        RT s' = RT s ∧ C s' = C s ∧ s'.lp = s.lp ∧ s'.net = s.net ∧
        s'.aw = s.aw ++ [(x, t.k, lockedA s.aw w x)]) ∧
    (∀ f x, incFarm s f x t = some (s', o) → FactoryMergeOK s (.incFarm f x t) →
        RT s' = RT s ∧ FT s' = FT s ∧ s'.net = s.net) := by
  constructor
  · intro w x h hok
    obtain ⟨-, m⟩ := incLp_moved h
    have hk : t.amt = lockedA s.aw w x := by simpa [FactoryMergeOK, factoryOKb] using hok
    have h1 : RT s' + lockedA s.aw w x = RT s + t.amt := m.rt
    have h2 : C s' + x = C s + x := m.c
    exact ⟨by omega, by omega, m.lp, m.net.trans (by dsimp only; omega), by rw [m.aw, hk]⟩
  · intro f x h hok
    have hk : t.amt = lockedFA s.aw s.af f x := by simpa [FactoryMergeOK, factoryOKb] using hok
    obtain ⟨_, _, -, -, -, ⟨-, -, m⟩ | ⟨-, m⟩⟩ := incFarm_moved h <;>
    · have h1 : RT s' + lockedFA s.aw s.af f x = RT s + t.amt := m.rt
      have h2 : FT s' + x = FT s + x := m.ft
      exact ⟨by omega, by omega, m.net.trans (by dsimp only; omega)⟩


/-- one transaction preserves the supply ledger `minted = burnB + burnL + RT` (and the attribute
    facts it rests on), for any operation and any arguments, given exact callee answers -/
theorem net_inv_step {s s' : St} {op : Op} {o : Out} (hi : NetInv s)
    (hf : FarmExact op) (hk : FactoryMergeOK s op) (h : step s op = some (s', o)) : NetInv s' :=
  step_net hi (by simp only [calleeOKb, Bool.and_eq_true]; exact ⟨hf, hk⟩) h

/-- **supply_at_work.**  After ANY history from a freshly deployed proxy in which the callees'
    answers were exact (`runOKb`), the base asset + locked tokens created through the proxy and not
    destroyed again (`net = minted − burnB − burnL`) equal the locked tokens reserved by the
    outstanding wrapped tokens: every unit of base asset at work in a pool or farm is matched by one
    locked token the proxy keeps for the position. -/
theorem supply_at_work (now : Nat) (ops : List Op) (hok : runOKb (init now) ops = true) :
    let s := run (init now) ops
    s.net = (RT s : Int) ∧ s.minted = s.burnB + s.burnL + RT s := by
  intro s
  have hi : NetInv s := run_net ops (netinv_init now) hok
  exact ⟨hi.net_eq, hi.sup⟩

/-- **round trips in general: closed positions leave no supply behind.**  After any history with
    exact callees, if every reserve has been used up — every wrapped LP token and every
    locked-token farm position has been redeemed down to a zero reserve — then everything the proxy
    minted has been burned again, as base asset or as locked tokens: `minted = burnB + burnL`. -/
theorem closed_positions_net_zero (now : Nat) (ops : List Op) (hok : runOKb (init now) ops = true)
    (hw : ∀ r ∈ (run (init now) ops).wl, r.rem = 0)
    (hf : ∀ q ∈ (run (init now) ops).wf, q.kind = .locked → q.remP = 0) :
    (run (init now) ops).net = 0 ∧
    (run (init now) ops).minted = (run (init now) ops).burnB + (run (init now) ops).burnL := by
  obtain ⟨h1, h2⟩ := supply_at_work now ops hok
  have hz : RT (run (init now) ops) = 0 := RT_eq_zero hw hf
  rw [hz] at h1 h2
  exact ⟨by simpa using h1, by simpa using h2⟩

/-- between two states of one history (exact callees) the supply created through the proxy moves
    exactly with the reserves: `Δ net = Δ RT`  (`net = RT ≥ 0` in each state is `supply_at_work`) -/
theorem net_moves_with_reserves (now : Nat) (before after : List Op)
    (hok : runOKb (init now) (before ++ after) = true) (hok1 : runOKb (init now) before = true) :
    (run (init now) (before ++ after)).net - (run (init now) before).net
      = (RT (run (init now) (before ++ after)) : Int) - (RT (run (init now) before) : Int) := by
  rw [(supply_at_work now _ hok).1, (supply_at_work now _ hok1).1]

/-- corpus/proxydex/f5_merge_strands_boosted_rewards.ops replayed on the REAL contracts
    (`w_proxydex replay`), with the recorded callee answers (`-> farm=… mk=1:600000000@720 …`),
    transcribed the way `Driver/Proxydex.lean` parses it (farm `L` = 0, header `epoch=10`) -/
def corpusF5 : List Op :=
  [.lock ⟨1, 0, 720⟩, .lock ⟨1, 0, 720⟩,
   .enterL 0 1 300000000 [] (1, 300000000) none none [],
   .enterL 0 1 300000000 [] (2, 300000000) none none [],
   .enterL 0 1 300000000 [] (3, 300000000) none none [],
   .advance 12,
   .claim 0 3 300000000 (4, 300000000) (some ⟨2, 24750000000, 360⟩),
   .advance 19,
   .claim 0 4 300000000 (5, 300000000) (some ⟨2, 110714527502, 360⟩),
   .advance 26,
   .mergeFarm 0 [(1, 300000000), (2, 300000000)] (6, 600000000) ⟨1, 600000000, 720⟩
     (some ⟨2, 70565359876, 360⟩) [],
   .exitFarm 0 6 600000000 600000000 (some ⟨2, 449499999999, 360⟩)]

/-- `FactoryMergeOK` and `FarmExact` are satisfied by the recorded real answer of the factory /
    farm in the corpus history (operation 11, `mergeFarm`, executed in the state after the first
    ten operations), every operation of that history satisfies them, and the ledger is live:
    900000000 at work before the exit, 300000000 after -/
example :
    FactoryMergeOK (run (init 10) (corpusF5.take 10))
      (.mergeFarm 0 [(1, 300000000), (2, 300000000)] (6, 600000000) ⟨1, 600000000, 720⟩
        (some ⟨2, 70565359876, 360⟩) []) ∧
    FarmExact (.mergeFarm 0 [(1, 300000000), (2, 300000000)] (6, 600000000) ⟨1, 600000000, 720⟩
        (some ⟨2, 70565359876, 360⟩) []) ∧
    runOKb (init 10) corpusF5 = true ∧
    RT (run (init 10) (corpusF5.take 11)) = 900000000 ∧
    (run (init 10) corpusF5).net = 300000000 ∧ RT (run (init 10) corpusF5) = 300000000 := by
  decide

/-- a history that exercises every operation with a factory or farm answer (merge of wrapped LP,
    extension of both token kinds, entries with merging of both kinds, claim, merge of wrapped farm
    tokens, exits with and without penalty, removals above and below the recorded amount) -/
def fullCycle : List Op :=
  [.lock ⟨1, 0, 370⟩,
   .addLiq 1 1000 500 [] 500 1000 500 none,
   .addLiq 1 600 300 [] 300 600 300 none,
   .mergeLp [(1, 200), (2, 300)] ⟨2, 1000, 400⟩,
   .incLp 3 100 ⟨3, 200, 500⟩,
   .enterL 0 1 600 [] (1, 600) none none [],
   .enterL 0 1 400 [(1, 300)] (0, 0) none (some ((2, 700), ⟨4, 700, 380⟩)) [],
   .enterW 1 3 200 [] (1, 200) none none [],
   .enterW 1 3 100 [(3, 100)] (0, 0) none (some ((2, 200), ⟨5, 400, 390⟩)) [],
   .incFarm 2 700 ⟨6, 700, 600⟩,
   .claim 0 1 300 (3, 300) none,
   .mergeFarm 0 [(5, 700), (6, 300)] (4, 1000) ⟨7, 1000, 500⟩ none [],
   .exitFarm 0 7 1000 990 none,
   .exitFarm 1 4 200 200 none,
   .exitFarm 1 3 100 99 none,
   .removeLiq 1 300 700 10,
   .removeLiq 3 100 150 10,
   .removeLiq 4 100 250 10,
   .removeLiq 5 200 400 10,
   .removeLiq 6 99 198 10]

/-- non-vacuity of `supply_at_work` / `closed_positions_net_zero`: the hypotheses hold along
    `fullCycle`; in the middle 2600 units are at work; at the end every reserve is 0, 2600 were
    minted, 2538 burned as base asset and 62 as locked tokens (penalties 10 + 2, pool shortfall 50) -/
example :
    runOKb (init 10) fullCycle = true ∧
    RT (run (init 10) (fullCycle.take 12)) = 2600 ∧ (run (init 10) (fullCycle.take 12)).net = 2600 ∧
    (run (init 10) fullCycle).minted = 2600 ∧ (run (init 10) fullCycle).burnB = 2538 ∧
    (run (init 10) fullCycle).burnL = 62 ∧
    (∀ r ∈ (run (init 10) fullCycle).wl, r.rem = 0) ∧
    (∀ q ∈ (run (init 10) fullCycle).wf, q.kind = .locked → q.remP = 0) := by
  decide

/-- the merge theorems are not vacuous: operation 4 of `fullCycle` is a successful `mergeLp` that
    satisfies `FactoryMergeOK` (parts `⌊1000·200/500⌋ = 400` and `600`) -/
example :
    (mergeLp (run (init 10) (fullCycle.take 3)) [(1, 200), (2, 300)] ⟨2, 1000, 400⟩).isSome ∧
    FactoryMergeOK (run (init 10) (fullCycle.take 3)) (.mergeLp [(1, 200), (2, 300)] ⟨2, 1000, 400⟩) ∧
    lockedWs (run (init 10) (fullCycle.take 3)) [(1, 200), (2, 300)] = 1000 := by
  decide

/-- **the factory fact is needed**: with a factory that returns one locked token less than it was
    sent, the same merge goes through in the model (the proxy does not check the amount) and the
    supply ledger breaks — 1600 created, 1599 reserved -/
theorem factory_fact_needed :
    let s := run (init 10) (fullCycle.take 3 ++ [.mergeLp [(1, 200), (2, 300)] ⟨2, 999, 400⟩])
    s.net = 1600 ∧ RT s = 1599 := by
  decide

end Mx.C16Run
