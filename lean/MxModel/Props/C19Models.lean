/-
  C19 on the EXECUTABLE contract models — only authorised callers configure or act for others;
  paused means no fund moves.

  Statement (properties.jsonl C19): configuration and admin endpoints succeed only for callers holding
  the required role (owner, admin, pauser, whitelisted contract, router for pairs); acting on behalf
  of another user requires a whitelisted contract caller or the user's explicit, non-blacklisted
  authorisation in the permissions hub, and rewards claimed on behalf go to the position owner.
  While a pair, farm, staking or energy contract is paused or inactive no user operation that moves
  funds succeeds, and a partially active pair accepts liquidity but no swaps.

  `Props/C19.lean` proves this about the hand-written access TABLE.  This file proves it about the
  state machines `Mx.Pair.step`, `Mx.Farm.step` (kinds `mint` = dex/farm, `noMint` =
  farm-with-locked-rewards), `Mx.Staking.step`, `Mx.Energy.step`, `Mx.Router.step` — the models the
  correspondence runs tie to the real contracts — for ALL states and ALL arguments.  Per model:
  `…UserFundsOp : Op → Bool` lists the user operations that move funds; `…_paused_blocks_funds` says
  each of them returns `none` while the kill switch is off; the operations that are NOT gated are
  listed, with the reason, in the doc comment of the classification.
-/
import MxModel.Lemmas.AccessModelsPair
import MxModel.Lemmas.AccessModelsFarm
import MxModel.Lemmas.AccessModelsStaking
import MxModel.Lemmas.EnergyAttrStep
import MxModel.Lemmas.RouterPause

namespace Mx.C19Models

/-! ## pair (dex/pair) -/

section pair
open Mx.Pair

/-- the pair's user operations that move funds and that the state check gates.
    NOT in the list (checked against dex/pair/src):
    * `addInitial` — the bootstrap deposit REQUIRES the pair to be Inactive (`initial_liq.rs`:
      `!is_state_active`) and the LP supply to be zero; it is the one call that takes a fresh pair out
      of Inactive (to PartialActive).  On a pair that holds liquidity it always fails
      (`pair_bootstrap_only_fresh`), so it cannot be used on a pair the owner paused.
    * `buyback` = `removeLiquidityAndBuyBackAndBurnToken` — `remove_liq.rs` checks the whitelist only,
      no state check: a whitelisted CONTRACT (the fees collector path) removes liquidity from an
      Inactive pair (`pair_buyback_not_gated` exhibits it).  Contract-to-contract, not a user operation.
    * `cfg …`, `lock …` — configuration (router / owner); `advance`, `epoch` — block round / epoch. -/
def pairUserFundsOp : Pair.Op → Bool
  | .addLiq .. | .removeLiq .. | .swapIn .. | .swapOut .. | .swapNoFee .. => true
  | _ => false

/-- the swap operations (user swaps and the whitelisted no-fee swap) -/
def pairSwapOp : Pair.Op → Bool
  | .swapIn .. | .swapOut .. | .swapNoFee .. => true
  | _ => false

/-- **paused pair**: in EVERY state whose status is Inactive, every gated operation — add / remove
    liquidity, both user swaps, the no-fee swap — fails, whatever the arguments -/
theorem pair_paused_blocks_funds (s : Pair.St) (op : Pair.Op) (hp : s.status = .inactive)
    (hf : pairUserFundsOp op = true) : Pair.step s op = none := by
  refine Option.eq_none_iff_forall_ne_some.2 fun r hs => ?_
  cases op <;> simp only [pairUserFundsOp] at hf <;> try cases hf
  · have := addLiq_state hs; rw [hp] at this; rcases this with h | h <;> cases h
  · have := removeLiq_state hs; rw [hp] at this; rcases this with h | h <;> cases h
  · have := swapIn_active hs; rw [hp] at this; cases this
  · have := swapOut_active hs; rw [hp] at this; cases this
  · have := (swapNoFee_active hs).1; rw [hp] at this; cases this

/-- **partially active pair, negative side**: in EVERY state that is not Active (so in particular
    PartialActive) every swap — fixed input, fixed output, no-fee — fails -/
theorem pair_partial_blocks_swaps (s : Pair.St) (op : Pair.Op) (hp : s.status ≠ .active)
    (hf : pairSwapOp op = true) : Pair.step s op = none := by
  refine Option.eq_none_iff_forall_ne_some.2 fun r hs => ?_
  cases op <;> simp only [pairSwapOp] at hf <;> try cases hf
  · exact hp (swapIn_active hs)
  · exact hp (swapOut_active hs)
  · exact hp (swapNoFee_active hs).1

/-- **partially active pair, positive side (the guard)**: the state check of `addLiquidity` /
    `removeLiquidity` is exactly "not Inactive" — a successful call implies Active or PartialActive,
    and nothing more about the state flag is required (the example below shows both succeeding in a
    reachable PartialActive state) -/
theorem pair_liquidity_guard (s : Pair.St) (op : Pair.Op) (r : Pair.St × Pair.Out)
    (hop : (∃ a1 a2 m1 m2, op = .addLiq a1 a2 m1 m2) ∨ (∃ lp m1 m2, op = .removeLiq lp m1 m2))
    (h : Pair.step s op = some r) : s.status ≠ .inactive := by
  rcases hop with ⟨a1, a2, m1, m2, rfl⟩ | ⟨lp, m1, m2, rfl⟩
  · have := addLiq_state h
    intro hi; rw [hi] at this; rcases this with h | h <;> cases h
  · have := removeLiq_state h
    intro hi; rw [hi] at this; rcases this with h | h <;> cases h

/-- positive side, witnessed: after the bootstrap deposit a fresh pair is PartialActive (reachable
    from `init` by user operations only); there `addLiquidity` and `removeLiquidity` succeed and
    every swap fails — also for a whitelisted contract -/
example :
    let s := Pair.run (Pair.init 300 50 none 8) [.addInitial 1 1000000 2000000, .cfg (.whitelist 7)]
    s.status = .partialActive ∧
    (Pair.step s (.addLiq 5000 10000 1 1)).isSome = true ∧
    (Pair.step s (.removeLiq 5000 1 1)).isSome = true ∧
    Pair.step s (.swapIn .ab 1000 1) = none ∧ Pair.step s (.swapOut .ba 90000 500) = none ∧
    Pair.step s (.swapNoFee 7 .ab 1000) = none ∧
    -- the very same calls succeed once the pair is Active
    (Pair.step (Pair.run s [.cfg (.setState .active)]) (.swapIn .ab 1000 1)).isSome = true ∧
    (Pair.step (Pair.run s [.cfg (.setState .active)]) (.swapNoFee 7 .ab 1000)).isSome = true := by
  decide

/-- the bootstrap deposit works only on an Inactive pair without liquidity, and only for the
    configured initial-liquidity adder when there is one (role gating of `addInitialLiquidity`) -/
theorem pair_bootstrap_only_fresh (s : Pair.St) (c a1 a2 : Nat) (r : Pair.St × Pair.Out)
    (h : Pair.step s (.addInitial c a1 a2) = some r) :
    s.status = .inactive ∧ s.S = 0 ∧ (s.adder = none ∨ s.adder = some c) :=
  addInitial_state h

/-- `removeLiquidityAndBuyBackAndBurnToken` is deliberately NOT gated by the state (as in
    `remove_liq.rs`): on a paused pair with liquidity a whitelisted contract's call succeeds, while a
    user's `removeLiquidity` of the same LP amount fails -/
theorem pair_buyback_not_gated :
    let s := Pair.run (Pair.init 300 50 none 8)
      [.cfg (.setState .active), .addLiq 1000000 2000000 1 1, .cfg (.whitelist 7),
       .cfg (.setState .inactive)]
    s.status = .inactive ∧ (Pair.step s (.buyback 7 5000 .first)).isSome = true ∧
    Pair.step s (.removeLiq 5000 1 1) = none ∧ Pair.step s (.buyback 8 5000 .first) = none := by
  decide

/-- **role gating on the pair model.**  The contract-only operations succeed only for a caller on
    the pair's whitelist; the locking setters only with owner permissions (`lock owner …`: the
    argument is the outcome of `require_caller_has_owner_permissions`).  The `cfg …` operations of
    the pair model carry no caller (the pair world applies them as the router/owner; their
    authorisation is covered by the access-matrix world and, for pause/resume through the router, by
    `router_admin_needs_owner` below). -/
theorem pair_contract_ops_need_role (s : Pair.St) (op : Pair.Op) (r : Pair.St × Pair.Out)
    (h : Pair.step s op = some r) :
    (∀ c d a, op = .swapNoFee c d a → c ∈ s.wl) ∧
    (∀ c lp w, op = .buyback c lp w → c ∈ s.wl) ∧
    (∀ ow l, op = .lock ow l → ow = true) := by
  refine ⟨?_, ?_, ?_⟩
  · rintro c d a rfl; exact (swapNoFee_active h).2
  · rintro c lp w rfl; exact buyback_wl h
  · rintro ow l rfl
    simp only [Pair.step, Option.map_eq_some_iff] at h
    obtain ⟨s1, h1, _⟩ := h
    exact (lockCfg_spec h1).1

/-- **run-level corollary (pair).**  Take ANY state `s` of a pair that holds liquidity (`S ≠ 0`; every
    pair does after its first deposit, and the supply never returns to 0).  After the owner's `pause`
    (`cfg (setState inactive)`), and after ANY further history `mid` that contains no state-setting call
    (`pause` / `resume` / `setStateActiveNoSwaps`), the pair is still Inactive and every gated operation
    AND the bootstrap deposit fail — so between a pause and the next resume no successful operation is
    a user operation that moves funds -/
theorem pair_no_funds_between_pause_and_resume (s : Pair.St) (mid : List Pair.Op) (op : Pair.Op)
    (hS : s.S ≠ 0) (hmid : ∀ x ∈ mid, isSetState x = false)
    (hf : pairUserFundsOp op = true ∨ ∃ c a1 a2, op = .addInitial c a1 a2) :
    (Pair.run s (.cfg (.setState .inactive) :: mid)).status = .inactive ∧
    Pair.step (Pair.run s (.cfg (.setState .inactive) :: mid)) op = none := by
  have h0 : PausedLiq (Pair.run s [.cfg (.setState .inactive)]) := ⟨rfl, hS⟩
  have hrun : Pair.run s (.cfg (.setState .inactive) :: mid)
      = Pair.run (Pair.run s [.cfg (.setState .inactive)]) mid := rfl
  have hp := run_keeps_paused mid h0 hmid
  rw [hrun]
  refine ⟨hp.1, ?_⟩
  rcases hf with hf | ⟨c, a1, a2, rfl⟩
  · exact pair_paused_blocks_funds _ _ hp.1 hf
  · exact Option.eq_none_iff_forall_ne_some.2 fun r hs => hp.2 (addInitial_state hs).2.1

/-- non-vacuity: a concrete pool is paused, the whitelisted contract and the clock act in between
    (its buy-back succeeds), and the users' calls fail until the resume -/
example :
    let s := Pair.run (Pair.init 300 50 none 8)
      [.cfg (.setState .active), .addLiq 1000000 2000000 1 1, .cfg (.whitelist 7)]
    let mid : List Pair.Op := [.buyback 7 5000 .first, .advance 3, .swapIn .ab 1000 1, .cfg (.addDest .second)]
    s.S ≠ 0 ∧ mid.all (fun x => isSetState x = false) = true ∧
    (Pair.step s (.swapIn .ab 1000 1)).isSome = true ∧
    Pair.step (Pair.run s (.cfg (.setState .inactive) :: mid)) (.swapIn .ab 1000 1) = none ∧
    (Pair.step (Pair.run s (.cfg (.setState .inactive) :: mid ++ [.cfg (.setState .active)]))
      (.swapIn .ab 1000 1)).isSome = true := by
  decide

end pair

/-! ## farm (dex/farm = kind `mint`, farm-with-locked-rewards = kind `noMint`) -/

section farm
open Mx.Farm

/-- the farm's user operations that move funds (farming tokens in / out, rewards out, position
    tokens burned and re-minted).  All eight are gated by `state == Active`.
    NOT in the list:
    * `transfer` — a plain ESDT transfer of a position token between two accounts; the farm contract
      is not called, nothing can gate it;
    * `setEnergy` (the world's energy-factory mock) and `updateEnergy` (`updateEnergyForUser`: anyone
      may call it, it only refreshes the weekly energy snapshot, no token moves);
    * admin operations `setPerBlock startProduce endProduce setPct setFactors collect pause resume
      setPenalty setMinEpochs` — role-gated instead (`farm_admin_needs_role`);
    * `hubWhitelist hubRemove hubBlacklist scWhitelist scUnwhitelist` — the permissions hub's / the
      sc-whitelist's own state (the harness applies them as the user resp. the owner);
    * `advance`, `bad` (a malformed call, always fails). -/
def farmUserFundsOp : Farm.Op → Bool
  | .enter .. | .enterOB .. | .claim .. | .claimOB .. | .compound .. | .exit .. | .merge ..
  | .claimBoosted .. => true
  | _ => false

/-- **paused farm**: in EVERY state with the kill switch off, every user operation that moves funds —
    enter, enter on behalf, claim, claim on behalf, compound, exit, merge (the check whose absence in the unchanged Rust tree is finding F2),
    claimBoostedRewards — fails, for every caller (also a whitelisted contract naming an original
    caller) and all arguments; both farm kinds -/
theorem farm_paused_blocks_funds (s : Farm.St) (op : Farm.Op) (hp : s.active = false)
    (hf : farmUserFundsOp op = true) : Farm.step s op = none := by
  refine Option.eq_none_iff_forall_ne_some.2 fun r hs => ?_
  have := step_active (s' := r.1) (o := r.2) hs
  cases op <;> simp only [farmUserFundsOp] at hf <;> try cases hf
  all_goals (simp only at this; rw [hp] at this; cases this)

/-- the farm's configuration / admin operations and the caller they name -/
def farmAdminCaller : Farm.Op → Option Nat
  | .setPerBlock c _ | .startProduce c | .endProduce c | .setPct c _ | .setFactors c _ | .collect c
  | .pause c | .resume c | .setPenalty c _ | .setMinEpochs c _ => some c
  | _ => none

/-- **role gating (farm)**: every configuration / admin operation — reward rate, start / end of
    production, boosted percentage and factors, collecting undistributed rewards, pause, resume,
    penalty, minimum farming epochs — succeeds only if its caller holds the admin role the model
    records (`isAdmin`) -/
theorem farm_admin_needs_role (s : Farm.St) (op : Farm.Op) (c : Nat) (r : Farm.St × Farm.Out)
    (hc : farmAdminCaller op = some c) (h : Farm.step s op = some r) : s.isAdmin c = true := by
  obtain ⟨s', o⟩ := r
  cases op <;> simp only [farmAdminCaller, Option.some.injEq, reduceCtorEq] at hc <;> subst hc <;>
    exact (step_active h).1

/-- **acting for another user through the `opt_orig_caller` argument**: enter / claim / compound / exit /
    merge naming an original caller `orig` succeed only if the CALLER is on the farm's contract
    whitelist (`scWhitelistAddresses`) -/
theorem farm_orig_caller_needs_whitelist (s : Farm.St) (op : Farm.Op) (c orig : Nat)
    (r : Farm.St × Farm.Out)
    (hop : (∃ a e, op = .enter c (some orig) a e) ∨ (∃ p, op = .claim c (some orig) p) ∨
           (∃ p, op = .compound c (some orig) p) ∨ (∃ n a, op = .exit c (some orig) n a) ∨
           (∃ p, op = .merge c (some orig) p))
    (h : Farm.step s op = some r) : c ∈ s.scWl := by
  have key : ∀ {o : Nat}, origCaller s c (some orig) = some o → c ∈ s.scWl := by
    intro o ho
    rcases origCaller_spec ho with ⟨h1, _⟩ | ⟨_, h2⟩
    · cases h1
    · exact h2
  rcases hop with ⟨a, e, rfl⟩ | ⟨p, rfl⟩ | ⟨p, rfl⟩ | ⟨n, a, rfl⟩ | ⟨p, rfl⟩
  · obtain ⟨_, h⟩ := known_some h
    obtain ⟨_, ho, _⟩ := enterFarm_spec h
    exact key ho
  · obtain ⟨_, h⟩ := known_some h
    obtain ⟨_, ho, _⟩ := claimRewards_spec h
    exact key ho
  · obtain ⟨_, h⟩ := known_some h
    obtain ⟨_, _, ho, _⟩ := compoundRewards_spec h
    exact key ho
  · obtain ⟨_, h⟩ := known_some h
    obtain ⟨_, _, ho⟩ := exitFarm_needs h
    exact key ho
  · obtain ⟨_, h⟩ := known_some h
    obtain ⟨_, _, ho⟩ := mergeFarmTokens_needs h
    exact key ho

/-- `claimBoostedRewards(user)` for ANOTHER user never succeeds (`allowExternalClaim` has no setter) -/
theorem farm_claim_boosted_only_self (s : Farm.St) (c u : Nat) (r : Farm.St × Farm.Out)
    (h : Farm.step s (.claimBoosted c (some u)) = some r) : u = c := by
  obtain ⟨_, h⟩ := known_some h
  exact (claimBoostedRewards_needs h).2

/-- **`enterFarmOnBehalf(user)`**: success implies that `user` whitelisted the caller in the
    permissions hub and the caller is not blacklisted, that every additional position token paid in
    records `user` as its owner, and that the operation IS `enter_farm` run with `user` as original
    caller (`enterCore … user …`: the boosted reward claimed and paid is `user`'s, the position is
    created with `owner := user`), the caller only supplying the tokens and receiving the position -/
theorem farm_enter_on_behalf (s s' : Farm.St) (c u amt : Nat) (extra : List (Nat × Nat)) (o : Farm.Out)
    (h : Farm.step s (.enterOB c u amt extra) = some (s', o)) :
    (c ∉ s.hubBl ∧ (u, c) ∈ s.hubWl) ∧ allOwnedBy s u extra = true ∧
    enterCore s c u c amt extra = some (s', o) := by
  obtain ⟨_, h⟩ := known_some h
  obtain ⟨h1, h2, h3⟩ := enterFarmOnBehalf_spec h
  exact ⟨(hubAllows_iff s u c).mp h1, h2, h3⟩

/-- **`claimRewardsOnBehalf`**: success implies there is ONE account `u` recorded as original owner by
    every position token paid in, `u` whitelisted the caller in the permissions hub, the caller is not
    blacklisted, and the operation IS `claim_rewards` run for `u` (`claimCore … u …`: base reward of
    the position + the boosted reward of `u`'s own weekly entitlement, paid by `payReward … u`).
    The model has no wallet ledger, so `Out` carries no payee field; what the model does record
    about the payee is proved in `farm_claim_on_behalf_pays_owner`. -/
theorem farm_claim_on_behalf (s s' : Farm.St) (c : Nat) (pays : List (Nat × Nat)) (o : Farm.Out)
    (h : Farm.step s (.claimOB c pays) = some (s', o)) :
    ∃ u, (∀ p ∈ pays, ∃ att, s.attrs p.1 = some att ∧ att.owner = u) ∧ pays ≠ [] ∧
      (c ∉ s.hubBl ∧ (u, c) ∈ s.hubWl) ∧ claimCore s c u pays false = some (s', o) := by
  obtain ⟨_, h⟩ := known_some h
  obtain ⟨u, hu, ha, hc⟩ := claimRewardsOnBehalf_spec h
  obtain ⟨hne, hall⟩ := claimOwner_all pays hu
  exact ⟨u, hall, hne, (hubAllows_iff s u c).mp ha, hc⟩

/-- **rewards claimed on behalf go to the position owner (what the farm model records).**  After a
    successful `claimRewardsOnBehalf` by `c`, with `u` the owner recorded in the payments:
    `Out.rew = Out.base + Out.boosted` where `Out.boosted` is the result of `claimBoostedYields … u`
    (u's weekly entitlement); the new position `Out.nonce` records `u` as original owner (amount
    `Out.amt`); and the payout is `payReward … u …`: NO energy entry other than `u`'s changes — in a
    locked-rewards farm the payout is a virtual lock, so the locked reward's energy is credited to
    `u` and never to the caller.  (`Out` has no payee field and this model no wallet ledger; that the
    wallet that grows is `u`'s is `C19Wallets.claim_on_behalf_credits_owner_wallet` on the ledger
    Core/FarmLedger.lean, and on the real contract the access-matrix oracle `on_behalf_rules` /
    `rew=owner`.) -/
theorem farm_claim_on_behalf_pays_owner (s s' : Farm.St) (c : Nat) (pays : List (Nat × Nat))
    (o : Farm.Out) (h : Farm.step s (.claimOB c pays) = some (s', o)) :
    ∃ u, (∀ p ∈ pays, ∃ att, s.attrs p.1 = some att ∧ att.owner = u) ∧
      (∀ x, x ≠ u → s'.energy x = s.energy x) ∧
      (∃ att, s'.attrs o.nonce = some att ∧ att.owner = u ∧ att.amt = o.amt) ∧
      o.rew = o.base + o.boosted ∧ ∃ s1 s2, claimBoostedYields s1 u = some (s2, o.boosted) := by
  obtain ⟨u, hall, _, _, hc⟩ := farm_claim_on_behalf s s' c pays o h
  obtain ⟨h1, h2, h3, h4⟩ := claimCore_payee hc
  exact ⟨u, hall, h1, h2, h3, h4⟩

/-- non-vacuity (locked-rewards farm): user 1 enters, authorises account 2 and hands it the position;
    2 claims on behalf: reward 10000 > 0, user 1's energy entry changes, account 2's does not, the new
    position records 1 as owner; a blacklisted or un-authorised caller fails -/
example :
    let s := Farm.run (Farm.init .noMint false 1000000000000 1000 true [1, 2, 3] 0)
      [.enter 1 none 100000000 [], .hubWhitelist 1 2, .transfer 1 2 1 100000000, .advance 10 6]
    ((Farm.step s (.claimOB 2 [(1, 100000000)])).map fun r =>
        (r.2.rew, (r.1.attrs r.2.nonce).map (·.owner), (r.1.energy 1).map (·.totalLocked),
         (r.1.energy 2).map (·.totalLocked))) = some (10000, some 1, some 10000, none) ∧
    Farm.step (Farm.run s [.hubBlacklist 2]) (.claimOB 2 [(1, 100000000)]) = none ∧
    Farm.step (Farm.run s [.hubRemove 1 2]) (.claimOB 2 [(1, 100000000)]) = none ∧
    Farm.step (Farm.run s [.transfer 2 3 1 100000000]) (.claimOB 3 [(1, 100000000)]) = none := by
  decide

/-- **run-level corollary (farm).**  From ANY state, after an admin's `pause` and ANY further history
    `mid` that contains no `resume` (successful or not, by anybody), the farm is still paused and every
    user operation that moves funds fails — between a pause and the next resume no successful
    operation is a user operation that moves funds -/
theorem farm_no_funds_between_pause_and_resume (s : Farm.St) (c : Nat) (mid : List Farm.Op)
    (op : Farm.Op) (hadm : s.isAdmin c = true) (hmid : ∀ x ∈ mid, isResume x = false)
    (hf : farmUserFundsOp op = true) :
    (Farm.run s (.pause c :: mid)).active = false ∧
    Farm.step (Farm.run s (.pause c :: mid)) op = none := by
  have hstep : Farm.step s (.pause c) = some ({ s with active := false }, {}) := by
    simp [Farm.step, noOut, setActive, req, hadm]
  have hrun : Farm.run s (.pause c :: mid) = Farm.run { s with active := false } mid := by
    simp only [Farm.run, List.foldl_cons, hstep]
  have hp := run_keeps_inactive mid (s := { s with active := false }) rfl hmid
  rw [hrun]
  exact ⟨hp, farm_paused_blocks_funds _ _ hp hf⟩

/-- … and the `resume` that ends the interval needs the admin role as well: while paused, a `resume`
    by a non-admin fails, so a user cannot end the pause -/
theorem farm_resume_needs_admin (s : Farm.St) (c : Nat) (hc : s.isAdmin c = false) :
    Farm.step s (.resume c) = none :=
  Option.eq_none_iff_forall_ne_some.2 fun r hs =>
    Bool.false_ne_true (hc.symm.trans (farm_admin_needs_role s (.resume c) c r rfl hs))

/-- non-vacuity (both kinds): a farm with a staked position and a pending reward is paused by the
    owner; hub, clock and admin operations happen in between; a user's `resume`, and claim,
    exit, enter and merge of the position holder fail until the owner resumes, then succeed -/
example :
    ∀ k ∈ [Kind.mint, Kind.noMint],
    let s := Farm.run (Farm.init k false 1000000000000 1000 true [1, 2] 0)
      [.enter 1 none 100000000 [], .advance 10 6]
    let mid : List Farm.Op := [.hubWhitelist 1 2, .advance 20 7, .setPerBlock OWNER 500]
    s.isAdmin OWNER = true ∧ mid.all (fun x => !isResume x) = true ∧
    (Farm.step s (.claim 1 none [(1, 100000000)])).isSome = true ∧
    Farm.step (Farm.run s (.pause OWNER :: mid)) (.claim 1 none [(1, 100000000)]) = none ∧
    Farm.step (Farm.run s (.pause OWNER :: mid)) (.exit 1 none 1 100000000) = none ∧
    Farm.step (Farm.run s (.pause OWNER :: mid)) (.enter 1 none 5 []) = none ∧
    Farm.step (Farm.run s (.pause OWNER :: mid)) (.resume 2) = none ∧
    (Farm.step (Farm.run s (.pause OWNER :: mid ++ [.resume OWNER])) (.exit 1 none 1 100000000)).isSome = true := by
  decide

end farm

/-! ## farm-staking -/

section staking
open Mx.Staking

/-- the staking farm's user operations that move funds; all twelve are gated by `state == Active`
    (the proxy variants `stakeProxy claimNew unstakeProxy` and `unbond` included).
    NOT in the list:
    * `calc` — the reward view (`calculateRewardsForGivenPosition`), read-only;
    * `transfer` — a plain ESDT transfer of position tokens, the contract is not called;
    * `setEnergy` (energy-factory mock), `updateEnergy` (`updateEnergyForUser`, moves no tokens);
    * `topUp`, `withdraw` — ADMIN operations (`topUpRewards` / `withdrawRewards` have no state check in
      custom_rewards.rs: the admin can fund and de-fund a paused farm; notes/access.md "Readings");
    * the setters `setMaxApr setPerBlock startProduce endProduce setMinUnbond setBoostedPct setFactors
      collectUndistributed pause resume` — admin operations; in THIS model they carry no caller
      (the staking world applies them as the owner), so their role gating is not stated here: it is
      covered by the access-matrix world (`C19.admin_needs_role`) and, for the shared farm modules,
      by `farm_admin_needs_role`;
    * `hubWhitelist hubRemove` (the permissions hub's own state), `advance`. -/
def stakingUserFundsOp : Staking.Op → Bool
  | .stake .. | .stakeProxy .. | .stakeBehalf .. | .claim .. | .claimNew .. | .claimBehalf ..
  | .compound .. | .unstake .. | .unstakeProxy .. | .unbond .. | .merge .. | .claimBoosted .. => true
  | _ => false

/-- a fund-moving operation of the staking farm succeeds only while the kill switch is on (`active = true`) -/
theorem staking_funds_need_active (s : Staking.St) (op : Staking.Op) (r : Staking.St × Staking.Out)
    (hf : stakingUserFundsOp op = true) (h : Staking.step s op = some r) : s.active = true := by
  obtain ⟨s', o⟩ := r
  cases Step.of_step h with
  | stake _ _ hc | stakeProxy _ _ hc | stakeBehalf _ _ _ hc => exact stakeCore_needs_active hc
  | claim _ _ hc | claimNew _ _ hc | claimBehalf _ _ _ hc => exact claimCore_needs_active hc
  | compound _ hc => exact compound_needs_active hc
  | unstake _ _ hc | unstakeProxy _ _ hc => exact unstakeCore_needs_active hc
  | unbond _ _ hact => exact hact
  | merge _ hc => exact mergeTokens_needs_active hc
  | claimBoosted _ hc => exact (claimBoostedRewards_needs hc).1
  | _ => cases hf

/-- **paused staking farm**: in EVERY state with the kill switch off, every user operation that
    moves funds — stake (plain, through the proxy, on behalf), claim (plain, with new value, on
    behalf), compound, unstake (plain, through the proxy), unbond, merge, claimBoostedRewards —
    fails, for every caller and all arguments -/
theorem staking_paused_blocks_funds (s : Staking.St) (op : Staking.Op) (hp : s.active = false)
    (hf : stakingUserFundsOp op = true) : Staking.step s op = none :=
  Option.eq_none_iff_forall_ne_some.2 fun r hs =>
    Bool.false_ne_true (hp.symm.trans (staking_funds_need_active s op r hf hs))

/-- **contract-only / original-caller rules (staking)**: the proxy endpoints
    (`stakeFarmThroughProxy`, `claimRewardsWithNewValue`, `unstakeFarmThroughProxy`) and every call
    that names an original caller succeed only for a caller on the contract whitelist -/
theorem staking_contract_ops_need_whitelist (s : Staking.St) (op : Staking.Op) (c : Nat)
    (r : Staking.St × Staking.Out)
    (hop : (∃ o a ads, op = .stakeProxy c o a ads) ∨ (∃ o nv p, op = .claimNew c o nv p) ∨
           (∃ o x p, op = .unstakeProxy c o x p) ∨ (∃ o a ads, op = .stake c (some o) a ads) ∨
           (∃ o p, op = .claim c (some o) p) ∨ (∃ o p, op = .unstake c (some o) p))
    (h : Staking.step s op = some r) : c ∈ s.whitelist := by
  have hS := Step.of_step (s' := r.1) (o := r.2) h
  rcases hop with ⟨o, a, ads, rfl⟩ | ⟨o, nv, p, rfl⟩ | ⟨o, x, p, rfl⟩ | ⟨o, a, ads, rfl⟩ |
    ⟨o, p, rfl⟩ | ⟨o, p, rfl⟩
  · cases hS with | stakeProxy _ hw _ => exact hw
  · cases hS with | claimNew _ hw _ => exact hw
  · cases hS with | unstakeProxy _ hw _ => exact hw
  · cases hS with | stake _ hw _ => exact hw.resolve_left nofun
  · cases hS with | claim _ hw _ => exact hw.resolve_left nofun
  · cases hS with | unstake _ hw _ => exact hw.resolve_left nofun

/-- **`stakeFarmOnBehalf(user)`**: success implies `user` authorised the caller in the permissions
    hub (the staking world's hub has no blacklist: `s.hub` holds exactly the pairs for which the hub
    answers `isWhitelisted`), every additional position token records `user` as owner, and the
    operation IS `stake` run for `user` (owner of the new position, boosted reward `o.c` of `user`'s
    weekly entitlement) -/
theorem staking_stake_on_behalf (s : Staking.St) (c u amt : Nat) (adds : List Staking.Pay)
    (r : Staking.St × Staking.Out) (h : Staking.step s (.stakeBehalf c u amt adds) = some r) :
    (u, c) ∈ s.hub ∧ (∀ p ∈ adds, ∃ a, posOf s.md p.1 = some a ∧ a.owner = u) ∧
    stakeCore s c u amt false adds = some r := by
  obtain ⟨s', o⟩ := r
  cases Step.of_step h with
  | stakeBehalf _ h1 h2 h3 => exact ⟨h1, allOwnedBy_all adds h2, h3⟩

/-- **`claimRewardsOnBehalf`, rewards to the owner**: success implies there is ONE non-zero account
    `u` recorded as owner by every position token paid in, `u` authorised the caller in the hub, and
    the claim is computed for `u`: the reward reported in `Out.c` is `base + boosted` where `boosted`
    is the result of `claimBoostedYields … u` (u's weekly entitlement, u's energy — not the
    caller's), the new position `Out.a` records `u` as owner and is handed to the caller.  (The
    model keeps no wallet ledger, so `Out` has no payee field; the harness oracle `payout_recipient`
    checks on the real contract that the wallet that moves by `Out.c` is `u`'s.) -/
theorem staking_claim_on_behalf (s s' : Staking.St) (c : Nat) (pays : List Staking.Pay)
    (o : Staking.Out) (h : Staking.step s (.claimBehalf c pays) = some (s', o)) :
    ∃ u, u ≠ 0 ∧ pays ≠ [] ∧ (∀ p ∈ pays, ∃ a, posOf s.md p.1 = some a ∧ a.owner = u) ∧
      (u, c) ∈ s.hub ∧
      ∃ m : ClaimMid, claimBase s c u pays = some m ∧
        claimBoostedYields m.s1 u (m.s1.userTotal u) = some (m.w1, m.b1, m.boosted) ∧
        o.c = m.base + m.boosted ∧ m.merged.owner = u ∧
        s'.md o.a = some (.pos m.merged) ∧ s'.hold c o.a = m.merged.amount := by
  cases Step.of_step h with
  | claimBehalf _ hu hh hc =>
    obtain ⟨h1, h2, h3⟩ := claimOwner_spec hu
    exact ⟨_, h1, h2, h3, hh, claimCore_payee hc⟩

/-- non-vacuity: user 1 stakes, authorises account 2, hands it the position; 2 claims on behalf
    (reward 1000 reported, new position owned by 1, held by 2); an unauthorised account 3 fails;
    after `pause` the authorised claim fails as well -/
example :
    let s := Staking.run (Staking.init 0 0 10000000000000000000 2500 10 100 [1, 2, 3, 101] [101])
      [.topUp 1000000, .stake 1 none 1000000000000 [], .hubWhitelist 1 2, .transfer 1 2 (1, 1000000000000),
       .advance 10 0]
    ((Staking.step s (.claimBehalf 2 [(1, 1000000000000)])).map fun r =>
        (r.2.c, posOf r.1.md r.2.a |>.map (·.owner), r.1.hold 2 r.2.a)) = some (1000, some 1, 1000000000000) ∧
    (Staking.step (Staking.run s [.transfer 2 3 (1, 1000000000000)]) (.claimBehalf 3 [(1, 1000000000000)])) = none ∧
    (Staking.step (Staking.run s [.pause]) (.claimBehalf 2 [(1, 1000000000000)])) = none ∧
    (Staking.step (Staking.run s [.pause]) (.unstake 2 none (1, 1000000000000))) = none ∧
    (Staking.step (Staking.run s [.pause, .resume]) (.claimBehalf 2 [(1, 1000000000000)])).isSome = true := by
  decide

end staking

/-! ## energy factory (with token-unstake, lkmex-transfer, locked-token wrapper) -/

section energy
open Mx.Energy

/-- the operations of the energy world that need the energy FACTORY unpaused: every factory endpoint
    that moves tokens or energy (`lock`, `extend`, `unlock`, `merge`, `unlockEarly`, `reduce`,
    `lockVirtual`) and every endpoint of the satellite contracts that calls back into the factory
    (`cancel` = token-unstake `cancelUnbond` → `revertUnstake`; `lockFunds`, `withdraw`,
    `cancelTransfer` = lkmex-transfer → `setUserEnergyAfterLockedTokenTransfer`; `wrap`, `unwrap`).
    NOT in the list:
    * `claim` = token-unstake `claimUnlockedTokens` — token-unstake has no kill switch and this
      endpoint does not call the factory (it pays out base tokens already minted at `unlockEarly`);
    * `xferWrapped` — a plain ESDT transfer of wrapped tokens, no contract is called;
    * `cfg …` — configuration (owner); `advance`. -/
def energyUserFundsOp : Energy.Op → Bool
  | .lock .. | .extend .. | .unlock .. | .merge .. | .unlockEarly .. | .reduce .. | .lockVirtual ..
  | .cancel .. | .lockFunds .. | .withdraw .. | .cancelTransfer .. | .wrap .. | .unwrap .. => true
  | _ => false

/-- **paused energy factory**: in EVERY state with `paused = true`, every operation of the list fails,
    for every caller and all arguments -/
theorem energy_paused_blocks_funds (s : Energy.St) (op : Energy.Op) (hp : s.paused = true)
    (hf : energyUserFundsOp op = true) : Energy.step s op = none := by
  refine Option.eq_none_iff_forall_ne_some.2 fun r hs => ?_
  have key : s.paused = false → False := fun h => by rw [hp] at h; cases h
  -- the operations of the list are those that name a holder and an energy address (`Op.parties`)
  cases op with
  | claim | xferWrapped | cfg | advance => cases hf
  | _ => exact key ((Energy.stepped (o := r.2) hs).unpaused _ rfl)

/-- **whitelisted-contract rules (energy factory)**: `lockVirtual` succeeds only for a caller on the
    factory's contract whitelist, and `mergeTokens` naming an original caller likewise -/
theorem energy_contract_ops_need_whitelist (s : Energy.St) (r : Energy.St × Energy.Out) :
    (∀ c amt ep d ea, Energy.step s (.lockVirtual c amt ep d ea) = some r → c ∈ s.wl) ∧
    (∀ c orig ps, orig ≠ 0 → Energy.step s (.merge c orig ps) = some r → c ∈ s.wl) := by
  refine ⟨fun c amt ep d ea h => lockVirtual_wl h, fun c orig ps ho h => ?_⟩
  rcases mergeTokens_wl h with h0 | hw
  · exact absurd h0 ho
  · exact hw

/-- non-vacuity: a user locks, the owner pauses the factory: extending, unlocking early, wrapping and
    a whitelisted contract's `lockVirtual` fail; after un-pausing they succeed -/
example :
    let s := Energy.run (Energy.init ⟨100, [(360, 4000), (720, 6000), (1440, 8000)], 10, 5000, 2, 3, 3, 1000000⟩)
      [.cfg (.whitelist 300), .lock 1 1000 360 0]
    let p := Energy.run s [.cfg (.pause true)]
    p.paused = true ∧
    (Energy.step s (.unlockEarly 1 1 100)).isSome = true ∧ Energy.step p (.unlockEarly 1 1 100) = none ∧
    (Energy.step s (.wrap 1 1 100)).isSome = true ∧ Energy.step p (.wrap 1 1 100) = none ∧
    (Energy.step s (.lockVirtual 300 50 360 2 2)).isSome = true ∧
    Energy.step p (.lockVirtual 300 50 360 2 2) = none ∧ Energy.step s (.lockVirtual 301 50 360 2 2) = none ∧
    (Energy.step (Energy.run p [.cfg (.pause false)]) (.unlockEarly 1 1 100)).isSome = true := by
  decide

end energy

/-! ## router (with the pairs it deployed and the users' direct calls to them) -/

section router
open Mx.Router

/-- the router's configuration / admin operations and the caller they name.  (`createPair` is open
    to everybody once the owner enabled pair creation — `router_create_pair_role` — and
    `setSwapEnabledByUser` is the bootstrap operation reserved to the pair's initial liquidity adder,
    `C14.enable_by_user_requires`.) -/
def routerAdminCaller : Router.Op → Option Router.Addr
  | .removePair c _ _ | .setCreation c _ | .setTemplate c | .pause c _ | .resume c _ | .setFeeOn c _ _
  | .setFeeOff c _ _ _ | .configEnable c _ _ _ _ | .addCommon c _ | .removeCommon c _
  | .setTmpPeriod c _ | .clearTmp c | .upgradePair c _ _ => some c
  | _ => none

/-- **role gating (router)**: removing a pair, enabling pair creation, setting the template,
    pausing / resuming a pair or the router itself, switching a pair's fee destinations, the
    three enable-by-user configuration calls, `setTemporaryOwnerPeriod`,
    `clearPairTemporaryOwnerStorage` and `upgradePair` succeed only for the router's owner -/
theorem router_admin_needs_owner (s : Router.St) (op : Router.Op) (c : Router.Addr)
    (r : Router.St × Router.Out) (hc : routerAdminCaller op = some c)
    (h : Router.step s op = some r) : c = s.owner := by
  obtain ⟨s', o⟩ := r
  cases op <;> simp only [routerAdminCaller, Option.some.injEq, reduceCtorEq] at hc <;> subst hc
  · exact (removePair_spec h).1
  · exact (setCreation_spec h).1
  · exact (setTemplate_spec h).1
  · exact (setState_spec h).1
  · exact (setState_spec h).1
  · exact (setFeeOn_spec h).1
  · exact (setFeeOff_spec h).1
  · exact (configEnable_spec h).1
  · exact (addCommon_spec h).1
  · exact (removeCommon_spec h).1
  · exact (setTmpPeriod_spec h).1
  · exact (clearTmp_spec h).1
  · exact (upgradePair_spec h).1

/-- `createPair` succeeds only for the owner unless the owner enabled public pair creation -/
theorem router_create_pair_role (s : Router.St) (c : Router.Addr) (t1 t2 : Router.Tok)
    (ad : Router.Addr) (f : Option (Nat × Nat)) (r : Router.St × Router.Out)
    (h : Router.step s (.createPair c t1 t2 ad f) = some r) :
    c = s.owner ∨ s.creationEnabled = true := by
  obtain ⟨s', o⟩ := r
  obtain ⟨_, t⟩ := createPair_spec h
  exact t.caller

/-- the router operations that check the router's own `state` flag succeed only on an active router -/
theorem router_gated_needs_active (s : Router.St) (op : Router.Op) (r : Router.St × Router.Out)
    (h : Router.step s op = some r) :
    match op with
    | .createPair .. | .issueLp .. | .setLocalRoles .. | .multi .. | .enableByUser .. | .removePair .. | .setFeeOn ..
    | .setFeeOff .. | .upgradePair .. => s.active = true
    | _ => True := by
  obtain ⟨s', o⟩ := r
  cases op with
  | createPair c t1 t2 ad f => obtain ⟨_, t⟩ := createPair_spec h; exact t.active
  | multi c tok amt hops => obtain ⟨_, h1, _⟩ := multiPairSwap_spec h; exact h1
  | issueLp c a => exact (issueLp_spec h).1
  | setLocalRoles c a => exact (setLocalRoles_spec (c := c) h).1
  | enableByUser c a k amt => obtain ⟨_, _, _, t⟩ := enableByUser_spec h; exact t.active
  | removePair c t1 t2 => exact (removePair_spec h).2.1
  | setFeeOn c a tok => exact (setFeeOn_spec h).2.1
  | setFeeOff c a i tok => exact (setFeeOff_spec h).2.1
  | upgradePair c t1 t2 => exact (upgradePair_spec h).2.1
  | _ => trivial

/-- **paused router**: while the router itself is paused, its user operations — the multi-hop swap,
    `setSwapEnabledByUser`, `createPair` — fail for everybody -/
theorem router_paused_blocks (s : Router.St) (hp : s.active = false) :
    (∀ c tok amt hops, Router.step s (.multi c tok amt hops) = none) ∧
    (∀ c a k amt, Router.step s (.enableByUser c a k amt) = none) ∧
    (∀ c t1 t2 ad f, Router.step s (.createPair c t1 t2 ad f) = none) := by
  have key : s.active = true → False := fun h => by rw [hp] at h; cases h
  refine ⟨fun c tok amt hops => ?_, fun c a k amt => ?_, fun c t1 t2 ad f => ?_⟩ <;>
    exact Option.eq_none_iff_forall_ne_some.2 fun r hs => key (router_gated_needs_active s _ r hs)

/-- a user's direct fund-moving call addressed to pair `a` -/
def routerPairFundsOp (a : Router.Addr) : Router.Op → Bool
  | .addInitial _ x .. | .addLiq _ x .. | .removeLiq _ x .. | .swapIn _ x .. | .swapOut _ x .. => x == a
  | _ => false

/-- **paused pair in the composed world**: if pair contract `a` is Inactive and holds liquidity
    (`Paused` = what the owner's `pause a` leaves), every user's add / remove liquidity, swap and
    bootstrap deposit addressed to `a` fails -/
theorem router_paused_pair_blocks_funds (s : Router.St) (a : Router.Addr) (op : Router.Op)
    (hpa : Paused s.pairs a) (hf : routerPairFundsOp a op = true) : Router.step s op = none := by
  obtain ⟨p, hp, hst, hS⟩ := hpa
  refine Option.eq_none_iff_forall_ne_some.2 fun r hs => ?_
  have ha : ∃ d pop, directOp d op = some (a, pop) := by
    cases op <;> simp only [routerPairFundsOp, beq_iff_eq, reduceCtorEq] at hf <;> subst hf <;> exact ⟨.ab, _, rfl⟩
  -- the call is a step of the pair model on the paused pair: the bootstrap deposit needs an empty pair, the rest is gated
  obtain ⟨q, d, pop, pr, hq, hd, hstep⟩ := direct_step hs ha
  rw [hp] at hq; cases hq
  cases op <;> simp only [directOp, Option.some.injEq, Prod.mk.injEq, reduceCtorEq] at hd <;> obtain ⟨-, rfl⟩ := hd
  · exact hS (pair_bootstrap_only_fresh _ _ _ _ _ hstep).2.1
  all_goals (rw [pair_paused_blocks_funds _ _ hst rfl] at hstep; cases hstep)

/-- **run-level corollary (router world, with real callers).**  In every history from a fresh
    deployment: once a registered pair `a` is paused (Inactive, with liquidity), then after ANY
    continuation `more` — any operations by any callers, `setSwapEnabledByUser` and other callers'
    `resume` attempts included — that does not contain the OWNER's `resume a`, every user's
    fund-moving call addressed to `a` still fails: between the owner's pause and the owner's resume no
    successful operation is a user operation that moves funds of that pair -/
theorem router_no_funds_between_pause_and_resume (owner self : Router.Addr) (template : Bool)
    (foreign : List PairRec) (funds : Router.Addr → Nat → Nat) (ops more : List Router.Op)
    (a : Router.Addr) (op : Router.Op)
    (hreg : a ∈ (Router.run (Router.init owner self template foreign funds) ops).pairMap.map Prod.snd)
    (hpa : Paused (Router.run (Router.init owner self template foreign funds) ops).pairs a)
    (hno : Router.Op.resume owner a ∉ more) (hf : routerPairFundsOp a op = true) :
    Router.step (Router.run (Router.run (Router.init owner self template foreign funds) ops) more) op
      = none := by
  refine router_paused_pair_blocks_funds _ _ _ ?_ hf
  refine (run_inv ops (inv_init owner self template foreign funds)).run_paused more hreg hpa ?_
  rw [run_owner]
  exact hno

end router

end Mx.C19Models
