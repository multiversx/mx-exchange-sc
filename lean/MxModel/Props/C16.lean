/-
  C16 — Proxy DEX: locked tokens stay locked and every wrapped token is fully backed.

  Statement: locked tokens put to work through the proxy (liquidity or farms) can only come back
  as locked tokens of the same lock schedule, plus base asset only for pool-fee surplus above the
  locked amount; every wrapped LP / wrapped farm token is backed by the LP / farm tokens and
  locked tokens recorded in it, which the proxy holds.  Base asset the proxy mints for an entry
  is matched on exit by burning the same amount of base asset or, for the part the pool or a
  penalty kept, of locked tokens (with the user's energy reduced by exactly their contribution),
  so the combined base+locked supply is unchanged by a round trip.

  Model: Core/ProxyDex.lean — the proxy's own bookkeeping; everything obtained from the pair, the
  farms and the energy factory is an argument of the operation and the theorems below hold FOR
  ALL such responses unless a hypothesis says otherwise (the callee facts assumed are `FarmOK` in
  the two LP-token clauses and, in `round_trip_supply_farm`, `ft.2 = a` — the farm mints as many
  farm tokens as farming tokens entered — and that it is the base-asset farm).  The lock schedule
  of a locked token is a function of its nonce (token attributes are immutable), so "same
  schedule" is "same nonce".
-/
import MxModel.Lemmas.ProxyDexOps
import MxModel.Lemmas.ProxyDexOut
import MxModel.Lemmas.ProxyDexLpOps

namespace Mx.C16
open Mx.ProxyDex

/-- `into_part` (`rule_of_three_non_zero_result`): a part is never zero, is the whole recorded
    amount for the whole supply, the floor of the pro-rata share otherwise, and therefore never
    more than the pro-rata share (the difference is the sub-unit dust that stays in the proxy) -/
theorem into_part_floor_nonzero {full total x p : Nat} (h : part full total x = some p) :
    p ≠ 0 ∧ (x = total → p = full) ∧ (x ≠ total → p = full * x / total) ∧
    p * total ≤ full * x := by
  obtain ⟨h0, hp⟩ := part_eq_some.mp h
  refine ⟨h0, ?_, ?_, part_mul_le h⟩
  · intro hx; rw [if_pos hx] at hp; exact hp
  · intro hx; rw [if_neg hx] at hp; exact hp

/-- one transaction preserves the backing invariant, for any operation, any arguments and any
    callee responses -/
theorem inv_step {s s' : St} {op : Op} {o : Out} (hi : Backed s) (h : step s op = some (s', o)) :
    Backed s' :=
  step_backed hi h

/-- every state reachable from a freshly deployed proxy by any history is backed -/
theorem inv_run (now : Nat) (ops : List Op) : Backed (run (init now) ops) :=
  run_backed ops (backed_init now)

/-- wrapped LP tokens are backed, after every history: (1) per locked-token nonce `κ` the proxy
    holds at least the locked tokens reserved by all outstanding wrapped tokens that record `κ`
    (wrapped LP tokens and wrapped farm tokens entered with locked tokens); (2) for every wrapped
    LP token, whatever part `x` of its outstanding amount is presented, the locked tokens
    `into_part` assigns to it are within that token's reserve — so they are in the proxy.
    (`≥`, not `=`: the floor in `into_part` leaves sub-unit dust behind.) -/
theorem wrapped_lp_backed (now : Nat) (ops : List Op) :
    let s := run (init now) ops
    (∀ κ, R s κ ≤ s.lk κ) ∧
    (∀ (w : Nat) (r : WLp) (x p : Nat), s.wl[w]? = some r → x ≤ r.circ + r.held → 0 < r.total →
        part r.locked r.total x = some p → p ≤ r.rem ∧ p ≤ s.lk r.k) := by
  intro s
  have hb : Backed s := inv_run now ops
  refine ⟨hb.lk, ?_⟩
  intro w r x p hr hx ht hp
  have hok : r.locked * (r.circ + r.held) ≤ r.rem * r.total := hb.pt.1 r (List.mem_of_getElem? hr)
  have hpm := part_mul_le hp
  have h1 : p * r.total ≤ r.rem * r.total :=
    Nat.le_trans hpm (Nat.le_trans (Nat.mul_le_mul_left _ hx) hok)
  have h2 : p ≤ r.rem := Nat.le_of_mul_le_mul_right h1 ht
  refine ⟨h2, ?_⟩
  have h3 : remAt r.k r ≤ sumOf (remAt r.k) s.wl := sumOf_le_of_mem (remAt r.k) s.wl w r hr
  have h4 := hb.lk r.k
  simp only [remAt, if_true] at h3
  unfold R at h4
  omega

/-- wrapped farm tokens are backed, after every history: per farm token (farm `g`, nonce `φ`)
    the proxy holds at least the farm tokens reserved by the outstanding wrapped farm tokens
    recording it; per wrapped-LP nonce `w` it holds at least the wrapped LP tokens reserved by
    the wrapped farm tokens entered with them; and for every wrapped farm token any part `x` of
    its outstanding amount is covered by its own reserves (farm tokens `x`, proxy-farming tokens
    `into_part`). -/
theorem wrapped_farm_backed (now : Nat) (ops : List Op) :
    let s := run (init now) ops
    (∀ g φ, F s g φ ≤ s.hf g φ) ∧ (∀ w, H s w ≤ heldOf s w) ∧
    (∀ (f : Nat) (q : WFarm) (x p : Nat), s.wf[f]? = some q → x ≤ q.circ → 0 < q.fa → part q.pa q.fa x = some p →
        x ≤ q.remF ∧ x ≤ s.hf q.farm q.fn ∧ p ≤ q.remP) := by
  intro s
  have hb : Backed s := inv_run now ops
  refine ⟨hb.hf, hb.hw, ?_⟩
  intro f q x p hq hx ht hp
  obtain ⟨h1, h2⟩ := hb.pt.2 q (List.mem_of_getElem? hq)
  have hpm := part_mul_le hp
  have h3 : p * q.fa ≤ q.remP * q.fa :=
    Nat.le_trans hpm (Nat.le_trans (Nat.mul_le_mul_left _ hx) h2)
  have h4 : remFAt q.farm q.fn q ≤ sumOf (remFAt q.farm q.fn) s.wf :=
    sumOf_le_of_mem _ s.wf f q hq
  have h5 := hb.hf q.farm q.fn
  simp only [remFAt, and_self, if_true] at h4
  unfold F at h5
  exact ⟨by omega, by omega, Nat.le_of_mul_le_mul_right h3 ht⟩

/-- the LP tokens recorded in wrapped LP tokens are in the proxy, after every history in which the
    farms never mint fewer farm tokens than farming tokens entered (`FarmOK`, the one callee fact
    this clause needs — LP tokens travel through the farms): the proxy's LP balance covers all
    wrapped LP tokens in user hands, hence any amount `x` a user can present -/
theorem wrapped_lp_tokens_backed (now : Nat) (ops : List Op) (hok : ∀ op ∈ ops, FarmOK op) :
    let s := run (init now) ops
    C s ≤ s.lp ∧ (∀ (w : Nat) (r : WLp) (x : Nat), s.wl[w]? = some r → x ≤ r.circ → x ≤ s.lp) := by
  intro s
  have hi : LpInv s := run_lpinv ops (lpinv_init now) hok
  refine ⟨hi.c, ?_⟩
  intro w r x hr hx
  have h1 : r.circ ≤ sumOf (·.circ) s.wl := sumOf_le_of_mem (·.circ) s.wl w r hr
  have h2 := hi.c
  unfold C at h2
  omega

/-- what "backed" buys: after any history (farms behaving, `FarmOK`), a holder who presents any
    amount `x` of any wrapped LP token he holds and passes the proxy's own guard (`into_part` not
    zero) is never turned away for lack of backing — the proxy has the LP tokens to send to the
    pool and the locked tokens to hand back or burn, whatever the pool then pays -/
theorem wrapped_lp_redeemable (now : Nat) (ops : List Op) (hok : ∀ op ∈ ops, FarmOK op)
    (w x rb ro p : Nat) (r : WLp) :
    let s := run (init now) ops
    s.wl[w]? = some r → 0 < x → x ≤ r.circ → 0 < r.total → part r.locked r.total x = some p →
    (removeLiq s w x rb ro).isSome := by
  intro s hr hx hc ht hp
  obtain ⟨-, hback⟩ := wrapped_lp_backed now ops
  obtain ⟨hrem, hlk⟩ := hback w r x p hr (by omega) ht hp
  obtain ⟨-, hlp⟩ := wrapped_lp_tokens_backed now ops hok
  have hlpx : x ≤ s.lp := hlp w r x hr hc
  have hlk' : p ≤ s.lk r.k := hlk
  have h1 : takeW s w x = some
      ({ setW s w { r with circ := r.circ - x, rem := r.rem - p, orph := r.orph } with
         lk := fun i => if i = r.k then s.lk i - p else s.lk i }, r, p) := by
    simp only [takeW, hr, Option.bind_eq_bind, Option.bind_some, req, hx, if_true, sub?, hc, hp,
      hrem, Bag.sub?, hlk', Option.pure_def, Bool.false_eq_true, if_false]
  simp only [removeLiq, h1, Option.bind_eq_bind, Option.bind_some, sub?, setW]
  rw [if_pos hlpx]
  simp only [Option.bind_some, Option.pure_def]
  split <;> simp

/-- leaving a farm entered with wrapped LP tokens: without penalty the same wrapped LP tokens come
    back; with a penalty the caller gets a new wrapped LP token over the remaining amount that
    records the SAME locked nonce and the pro-rata locked amount of the remainder — never more
    than was recorded for the part — and exactly the difference is burned as locked tokens -/
theorem locked_in_locked_out_farm_lp {s s' : St} {farm f x farming : Nat} {rew : Option LkTok}
    {o : Out} {q : WFarm} (h : exitFarm s farm f x farming rew = some (s', o))
    (hq : s.wf[f]? = some q) (hk : q.kind = .wlp) :
    ∃ p rw, part q.pa q.fa x = some p ∧ s.wl[q.pn]? = some rw ∧ o.locked = (0, 0) ∧ o.base = 0 ∧
      (x = farming → o.wOut = (q.pn, p) ∧ o.burned = (0, 0)) ∧
      (x ≠ farming → ∃ qO qN nr, part rw.locked rw.total p = some qO ∧
          s'.wl[o.wOut.1]? = some nr ∧ nr.k = rw.k ∧ nr.locked = qN ∧ nr.total = o.wOut.2 ∧
          o.wOut.2 + (x - farming) = p ∧ qN ≤ qO ∧ o.burned.2 = qO - qN ∧
          o.eDed = (o.burned.2 : Int) * ((s.unl rw.k : Int) - (s.now : Int))) := by
  obtain ⟨r, p, t⟩ := exitFarm_moved h
  obtain rfl : q = r := Option.some.inj (hq.symm.trans t.lookup)
  obtain ⟨rw, hrw, hl, h1, h2⟩ := t.wlp hk
  refine ⟨p, rw, t.part, hrw, hl, t.base, fun hx => ⟨(h1 hx).1, (h1 hx).2.1⟩, ?_⟩
  intro hx
  obtain ⟨qO, qN, v⟩ := h2 hx
  have hpen := v.remaining
  refine ⟨qO, qN, ⟨p - (x - farming), rw.k, qN, p - (x - farming), 0, 0, qN⟩, v.dissolve,
    by rw [v.wOut]; exact v.newW, rfl, rfl, by rw [v.wOut], ?_, v.extra, v.burned,
    by rw [v.burned]; exact v.eDed⟩
  rw [v.wOut]; show p - (x - farming) + (x - farming) = p; omega

/-- removing liquidity: the locked tokens handed back carry the nonce (= lock schedule) recorded
    in the wrapped LP token and are `min(received, recorded)`: never more than the part recorded
    for the amount presented, which is at most its pro-rata share -/
theorem locked_in_locked_out {s s' : St} {w x rb ro : Nat} {o : Out}
    (h : removeLiq s w x rb ro = some (s', o)) :
    ∃ r p, s.wl[w]? = some r ∧ part r.locked r.total x = some p ∧
      o.locked.1 = r.k ∧ o.locked.2 = min rb p ∧ o.locked.2 ≤ p ∧ p * r.total ≤ r.locked * x := by
  obtain ⟨r, p, t⟩ := removeLiq_moved h
  exact ⟨r, p, t.lookup, t.part, by rw [t.locked], by rw [t.locked],
    by rw [t.locked]; exact Nat.min_le_right .., part_mul_le t.part⟩

/-- leaving a farm entered with locked tokens: the locked tokens handed back carry the recorded
    nonce; their amount is the recorded part minus exactly the farm's penalty, and the penalty
    is burned as locked tokens -/
theorem locked_in_locked_out_farm {s s' : St} {farm f x farming : Nat} {rew : Option LkTok}
    {o : Out} {q : WFarm} (h : exitFarm s farm f x farming rew = some (s', o))
    (hq : s.wf[f]? = some q) (hk : q.kind = .locked) :
    ∃ p, part q.pa q.fa x = some p ∧ o.locked.1 = q.pn ∧ o.locked.2 + (x - farming) = p ∧
      o.burned.2 = x - farming ∧ o.wOut = (0, 0) := by
  obtain ⟨r, p, t⟩ := exitFarm_moved h
  obtain rfl : q = r := Option.some.inj (hq.symm.trans t.lookup)
  have v := t.locked hk
  have hle := v.remaining
  refine ⟨p, t.part, by rw [v.locked], ?_, v.burned, v.wOut⟩
  rw [v.locked]; show p - (x - farming) + (x - farming) = p; omega

/-- base asset reaches the caller only from `removeLiquidityProxy`, and there it is exactly the
    surplus of what the pool paid over the recorded locked part -/
theorem base_only_for_surplus {s s' : St} {op : Op} {o : Out} (h : step s op = some (s', o)) :
    (∀ w x rb ro, op = .removeLiq w x rb ro →
        ∃ r p, s.wl[w]? = some r ∧ part r.locked r.total x = some p ∧ o.base = rb - p) ∧
    ((∀ w x rb ro, op ≠ .removeLiq w x rb ro) → o.base = 0) := by
  refine ⟨?_, base_zero_of_ne_removeLiq h⟩
  intro w x rb ro hop
  subst hop
  obtain ⟨r, p, t⟩ := removeLiq_moved (show removeLiq s w x rb ro = _ from h)
  exact ⟨r, p, t.lookup, t.part, t.base⟩

/-- the energy taken from the caller for locked tokens burned by `removeLiquidityProxy` is
    exactly `amount · (unlock − now)` and the burned amount is exactly the shortfall -/
theorem energy_delta_exact {s s' : St} {w x rb ro : Nat} {o : Out}
    (h : removeLiq s w x rb ro = some (s', o)) :
    ∃ r p, s.wl[w]? = some r ∧ part r.locked r.total x = some p ∧ o.burned.2 = p - rb ∧
      o.eDed = (o.burned.2 : Int) * ((s.unl r.k : Int) - (s.now : Int)) ∧
      s'.eDed = s.eDed + o.eDed ∧ s'.burnL = s.burnL + o.burned.2 := by
  obtain ⟨r, p, t⟩ := removeLiq_moved h
  exact ⟨r, p, t.lookup, t.part, t.burned, by rw [t.burned]; exact t.eDed,
    by rw [t.eDed]; exact t.moved.eDed, by rw [t.burned]; exact t.moved.burnL⟩

/-- the same for the farm penalty -/
theorem energy_delta_exact_farm {s s' : St} {farm f x farming : Nat} {rew : Option LkTok}
    {o : Out} {q : WFarm} (h : exitFarm s farm f x farming rew = some (s', o))
    (hq : s.wf[f]? = some q) (hk : q.kind = .locked) :
    o.burned.2 = x - farming ∧
    o.eDed = (o.burned.2 : Int) * ((s.unl q.pn : Int) - (s.now : Int)) ∧
    s'.eDed = s.eDed + o.eDed ∧ s'.burnL = s.burnL + o.burned.2 := by
  obtain ⟨r, p, t⟩ := exitFarm_moved h
  obtain rfl : q = r := Option.some.inj (hq.symm.trans t.lookup)
  have v := t.locked hk
  exact ⟨v.burned, by rw [v.burned]; exact v.eDed, by rw [v.eDed]; exact v.moved.eDed,
    by rw [v.burned]; exact v.moved.burnL⟩

/-- round trip through the pool: what the proxy minted for `addLiquidityProxy` is burned again by
    the matching `removeLiquidityProxy` of the whole wrapped token — as base asset, or as locked
    tokens for the part the pool kept — whatever the pool answered (any `lp`, `ul`, `uo`, `rb`,
    `ro`, i.e. any price movement in between).  All `la` locked tokens paid in are accounted for:
    returned at entry, returned at exit, or burned. -/
theorem round_trip_supply {s s1 s2 : St} {k la oa lp ul uo rb ro : Nat} {mk : Option LkTok}
    {o1 o2 : Out} (h1 : addLiq s k la oa [] lp ul uo mk = some (s1, o1))
    (h2 : removeLiq s1 o1.wOut.1 o1.wOut.2 rb ro = some (s2, o2)) :
    s2.net = s.net ∧ o1.locked.2 + o2.locked.2 + o2.burned.2 = la ∧
    o2.locked.1 = k ∧ o2.base = rb - ul ∧
    o2.eDed = (o2.burned.2 : Int) * ((s.unl k : Int) - (s.now : Int)) := by
  obtain ⟨-, hul, -, hw, hl, -, -, -, hwl, -, hm, hbb, hbl, -, -, -, hunl, hnow⟩ :=
    addLiq_plain_spec h1
  obtain ⟨r, p, t⟩ := removeLiq_moved h2
  have hr := t.lookup
  have hp := t.part
  have hl2 := t.locked
  have hb2 := t.base
  have hbu := t.burned
  have he := t.eDed
  have hm2 : s2.minted = s1.minted := t.moved.minted
  have hbb2 : s2.burnB = s1.burnB + min rb p := t.moved.burnB
  have hbl2 : s2.burnL = s1.burnL + (p - rb) := t.moved.burnL
  rw [hw, hwl] at hr
  simp only [List.getElem?_append_right (Nat.le_refl _), Nat.sub_self, List.getElem?_cons_zero,
    Option.some.injEq] at hr
  subst hr
  rw [hw] at hp
  obtain ⟨-, hpe⟩ := part_eq_some.mp hp
  simp only [if_true] at hpe
  subst hpe
  simp only at hl2 hb2 hbu he hbb2 hbl2
  refine ⟨?_, ?_, by rw [hl2], hb2, ?_⟩
  · unfold St.net; rw [hm2, hbb2, hbl2, hm, hbb, hbl]; omega
  · rw [hl, hl2, hbu]; simp only; omega
  · rw [he, hbu, energyOf, hunl, hnow]

/-- round trip through a farm (entry with locked tokens, exit of the whole position, with or
    without the farm's penalty): the base asset minted at entry is matched by base asset burned
    plus locked tokens burned for the penalty; the caller gets back locked tokens of the nonce
    paid in.  Callee fact assumed: the farm mints as many farm tokens as farming tokens entered
    (`ft.2 = a`) and is the base-asset farm. -/
theorem round_trip_supply_farm {s s1 s2 : St} {farm k a farming : Nat} {ft : Nat × Nat}
    {rew rew' : Option LkTok} {m : Option ((Nat × Nat) × LkTok)} {stray : List LkTok}
    {o1 o2 : Out} (h1 : enterL s farm k a [] ft rew m stray = some (s1, o1))
    (h2 : exitFarm s1 farm o1.fOut.1 o1.fOut.2 farming rew' = some (s2, o2))
    (hft : ft.2 = a) (hbase : farmIsBase farm = true) :
    s2.net = s.net ∧ o2.locked.1 = k ∧ o2.locked.2 + o2.burned.2 = a ∧
    o2.burned.2 = a - farming := by
  obtain ⟨ha, hf, -, -, -, hwf, -, hm, hbb, hbl, -, -, -⟩ := enterL_plain_spec h1
  have hq : s1.wf[o1.fOut.1]? = some ⟨farm, ft.1, ft.2, .locked, k, a, ft.2, ft.2, a⟩ := by
    rw [hf, hwf]
    simp
  obtain ⟨r, p, t⟩ := exitFarm_moved h2
  obtain rfl := Option.some.inj (hq.symm.trans t.lookup)
  have v := t.locked rfl
  have hp := t.part
  have hfx := t.farming_le
  have hle := v.remaining
  have hl := v.locked
  have hbu := v.burned
  have hm2 : s2.minted = s1.minted := v.moved.minted
  have hbb2 : s2.burnB = s1.burnB + (if farmIsBase farm = true then farming else 0) := v.moved.burnB
  have hbl2 : s2.burnL = s1.burnL + (o1.fOut.2 - farming) := v.moved.burnL
  rw [hf] at hp hfx hle hl hbu hbl2
  simp only at hp hfx hle hl hbu hbl2
  obtain ⟨-, hpe⟩ := part_eq_some.mp hp
  simp only [if_true] at hpe
  subst hpe
  rw [hbase] at hbb2
  simp only [if_true] at hbb2
  refine ⟨?_, by rw [hl], ?_, by rw [hbu, hft]⟩
  · unfold St.net; rw [hm2, hbb2, hbl2, hm, hbb, hbl]; omega
  · rw [hl, hbu]; simp only; omega

/-- a failed transaction leaves the state untouched (atomicity as modelled) -/
theorem failed_tx_no_effect (s : St) (op : Op) (h : step s op = none) : run s [op] = s := by
  simp [run, h]

/-- non-vacuity: a concrete history (add liquidity, enter both kinds of farm, partial exit with a
    penalty, removal after the price moved against the locked side) reaches a state where
    reserves, ledgers and the burn counters are all live -/
example :
    let s := run (init 10)
      [.lock ⟨1, 0, 370⟩,
       .addLiq 1 1000 500 [] 499 1000 500 none,
       .enterL 0 1 600 [] (1, 600) none none [],
       .enterW 1 1 200 [] (1, 200) none none [],
       .exitFarm 0 1 300 297 none,
       .exitFarm 1 2 100 99 none,
       .removeLiq 1 100 150 60]
    s.lk 1 = 1098 ∧ R s 1 = 1098 ∧ s.burnL = 3 + 2 + 50 ∧ s.eDed = (3 + 2 + 50) * 360 ∧
    s.net = 1098 ∧ s.wl.length = 3 ∧ C s = 298 ∧ s.lp = 298 := by
  decide

end Mx.C16
