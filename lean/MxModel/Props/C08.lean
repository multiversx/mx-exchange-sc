/-
  C08 — Energy equals the time-weighted sum of the account's locked tokens.

  Statement: for every account, the energy entry reported by the energy factory equals the sum
  over the locked tokens attributed to it of amount·(unlock_epoch − current_epoch) (negative terms
  allowed until the tokens are unlocked) and its locked-token total equals the sum of those
  amounts, after any sequence of lock, extend, merge, reduce, unlock, early unlock and its
  cancellation, LKMEX transfer, wrap/unwrap, reward locking and epoch advance.  Tokens sitting in
  escrow (pending transfer, unbonding, wrapped) give energy to nobody.

  Model: Core/Energy.lean.  `s.bal a n` = locked tokens of nonce `n` held by address `a` (real ESDT
  balances), `s.nonces[n-1]` = unlock epoch of nonce `n`, `s.view a` = `getEnergyEntryForUser(a)`.
  `sumE f now 1 ns` = Σ_n f(n)·(unlock_n − now) in `Int`, `sumT f 1 ns` = Σ_n f(n).
  Users are the addresses below `SCBASE`; the escrow contracts are the addresses from `SCBASE` up.
  The histories are those of `Op.WF` operations (Lemmas/EnergyStep.lean): calls are made by user
  accounts, and a whitelisted contract that acts on behalf of an account names the account that
  receives the tokens.  Props/C08Attr.lean drops that hypothesis.
-/
import MxModel.Lemmas.EnergyStep

namespace Mx.C08
open Mx.Energy

/-- `deplete` is exactly linear decay: an entry that equals the two sums at epoch `now` equals
    them again at any later epoch `now'` after `deplete(now')` — whatever happened to expire in
    between (terms just turn negative) -/
theorem deplete_linear (e : Entry) (f : Nat → Nat) (ns : List Nat) (now now' : Nat)
    (hE : e.E = sumE f now 1 ns) (hT : e.T = sumT f 1 ns) (hl : e.last = now) (hle : now ≤ now') :
    (e.deplete now').E = sumE f now' 1 ns ∧ (e.deplete now').T = sumT f 1 ns ∧
    (e.deplete now').last = now' :=
  Tracks.deplete ⟨hE, hT, hl⟩ hle

/-- the decay itself: `d` epochs later the sum is lower by `d · Σ amount` -/
theorem sum_decay (f : Nat → Nat) (now d : Nat) (ns : List Nat) :
    sumE f (now + d) 1 ns = sumE f now 1 ns - (d : Int) * (sumT f 1 ns : Int) :=
  sumE_shift f now d 1 ns

/-- one `Op.WF` transaction preserves the invariant: every kind of operation (lock, lock for another
    destination, extend, unlock, merge, early unlock, reduce, reward locking, claim, cancel unbond,
    LKMEX lock/withdraw/cancel, wrap/unwrap, wrapped-token transfer, configuration, epoch advance),
    any amounts, nonces and periods, any option set -/
theorem energy_inv_step {s s' : St} {op : Op} {o : Out} (hi : Inv s) (hw : op.WF)
    (h : step s op = some (s', o)) : Inv s' :=
  step_inv hi hw h

/-- the headline: after every history from a freshly deployed world, for every user account,
    `getEnergyEntryForUser` = (Σ amount·(unlock − now), Σ amount) over the locked tokens the
    account holds -/
theorem energy_inv (c : Cfg) (ops : List Op) (hw : ∀ op ∈ ops, op.WF) (a : Nat) (ha : a < SCBASE) :
    let s := run (init c) ops
    (s.view a).E = sumE (s.bal a) s.epoch 1 s.nonces ∧
    (s.view a).T = sumT (s.bal a) 1 s.nonces ∧
    (s.view a).last = s.epoch := by
  intro s
  exact (run_inv ops (init_inv c) hw).track a ha

/-- `getEnergyAmountForUser` is the positive part of that sum -/
theorem energy_amount_view (c : Cfg) (ops : List Op) (hw : ∀ op ∈ ops, op.WF) (a : Nat)
    (ha : a < SCBASE) :
    let s := run (init c) ops
    (s.view a).amount =
      if 0 < sumE (s.bal a) s.epoch 1 s.nonces then (sumE (s.bal a) s.epoch 1 s.nonces).toNat else 0 := by
  intro s
  have h : Tracks (s.view a) (s.bal a) s.nonces s.epoch := (run_inv ops (init_inv c) hw).track a ha
  unfold Entry.amount
  rw [h.1]

/-- tokens sitting in escrow give energy to nobody: the escrow contracts (factory residue,
    token-unstake, lkmex-transfer, wrapper, fees collector) never get an entry — their view is the
    zero entry — while every user's entry counts only the tokens in the user's own account
    (`energy_inv`) -/
theorem escrow_gives_nothing (c : Cfg) (ops : List Op) (hw : ∀ op ∈ ops, op.WF) (a : Nat)
    (ha : SCBASE ≤ a) :
    let s := run (init c) ops
    s.energy a = none ∧ s.view a = Entry.zero s.epoch := by
  intro s
  have h : s.energy a = none := (run_inv ops (init_inv c) hw).sc a ha
  exact ⟨h, by simp [St.view, h]⟩

/-- balances exist only on nonces the factory created (so the sums range over everything held) -/
theorem holdings_within_nonces (c : Cfg) (ops : List Op) (hw : ∀ op ∈ ops, op.WF) (a n : Nat)
    (ha : a < SCBASE) :
    let s := run (init c) ops
    (n = 0 ∨ s.nonces.length < n) → s.bal a n = 0 := by
  intro s
  exact (run_inv ops (init_inv c) hw).dom a n ha

/-- across an epoch jump (over unlock epochs, month boundaries, anything) every entry moves by
    exactly `− Δ · total_locked` -/
theorem advance_decay {s : St} (hi : Inv s) (d a : Nat) (ha : a < SCBASE) :
    (St.view { s with epoch := s.epoch + d } a).E = (s.view a).E - (d : Int) * ((s.view a).T : Int) ∧
    (St.view { s with epoch := s.epoch + d } a).T = (s.view a).T := by
  have h1 := (advance_inv hi (Nat.le_add_right s.epoch d)).track a ha
  have h0 := hi.track a ha
  refine ⟨?_, ?_⟩
  · rw [h1.1, h0.1, h0.2.1]
    exact sumE_shift _ _ _ _ _
  · rw [h1.2.1, h0.2.1]

/-- a failed transaction leaves the state untouched (atomicity as modelled) -/
theorem failed_tx_no_effect (s : St) (op : Op) (h : step s op = none) : run s [op] = s := by
  simp [run, h]

/-- non-vacuity: a concrete history with three users exercising lock-for-other, merge, early
    unlock + cancel after expiry, transfer with withdrawal after expiry, wrap / transfer / unwrap,
    reduce, and epoch jumps past an unlock epoch — ends in a state where user 1's energy is
    negative, user 2's positive, i.e. the invariant's sums are not trivially zero -/
example :
    let s := run (init { epoch := 5, opts := [(360, 4000), (720, 6000), (1440, 8000)], unbond := 10,
                         burnPct := 5000, minLock := 4, cooldown := 6, users := 3, funds := 1000000 })
      [.lock 1 1000 360 0, .lock 1 500 720 2, .lock 2 700 1440 0, .merge 2 0 [(2, 500), (3, 200)],
       .unlockEarly 1 1 300, .reduce 2 3 400 360, .lockFunds 1 3 [(1, 100)], .wrap 1 1 50,
       .xferWrapped 1 2 1 50, .advance 400, .cancel 1, .withdraw 3 1, .unwrap 2 1 50, .advance 600]
    (s.view 1).E = -204000 ∧ (s.view 2).E = 270840 ∧ (s.view 2).T = 984 ∧ s.bal 3 1 = 100 ∧
    s.bal 2 1 = 184 ∧ s.bal 1 1 = 850 ∧ s.nonces = [360, 720, 1440, 930] := by
  decide

end Mx.C08
