/-
  C02 — LP share value never decreases (K/S² monotone); no round-trip profit.

  The statements spell `r₁r₂/S² ≤ r₁'r₂'/S'²` out cross-multiplied, `r₁r₂·S'² ≤ r₁'r₂'·S²`; the proofs
  go through `ShareLe` of Lemmas/PairK.lean, which unfolds to it.
-/
import MxModel.Props.C02Mixed

namespace Mx.C02
open Mx.Pair

/-- every successful operation on a pool with liquidity (any op, amount, fee setting incl. 0,
    fee routing incl. local fee swaps) leaves `r₁r₂/S²` at least as large -/
theorem kS2_mono_step {s s' : St} {op : Op} {o : Out} (hi : Inv s) (hS : 0 < s.S)
    (h : step s op = some (s', o)) :
    s.r1 * s.r2 * s'.S ^ 2 ≤ s'.r1 * s'.r2 * s.S ^ 2 :=
  step_share hi hS h

/-- …and therefore over any history -/
theorem kS2_mono_run (total special : Nat) (adder : Option Nat) (cap : Nat)
    (before after : List Op) (h : 0 < (run (init total special adder cap) before).S) :
    let s := run (init total special adder cap) before
    let s' := run (init total special adder cap) (before ++ after)
    s.r1 * s.r2 * s'.S ^ 2 ≤ s'.r1 * s'.r2 * s.S ^ 2 := by
  intro s s'
  have hi : Inv s := run_inv before (inv_init total special adder cap)
  have : s' = run s after := run_append _ _ _
  rw [this]
  exact run_share after hi h

/-- the base case: the first deposit creates share value out of nothing and mints
    `min a₁ a₂` LP, so `S'² ≤ r₁'r₂'` (each LP unit is backed by at least one unit of K^½) -/
theorem first_deposit_share {s s' : St} {a1 a2 m1 m2 : Nat} {o : Out} (hi : Inv s) (hS : s.S = 0)
    (h0 : s.r1 = 0 ∧ s.r2 = 0) (h : addLiq s a1 a2 m1 m2 = some (s', o)) :
    s'.S ^ 2 ≤ s'.r1 * s'.r2 := by
  obtain ⟨_, _, _, _, _, _, rfl⟩ := addLiq_first_spec hS h
  simp only [h0.1, h0.2, Nat.zero_add]
  exact min_sq_le a1 a2

/-- the contract's own K check can never reject a well-formed fixed-input swap: for the
    documented output formula and any fee kept out of the reserve up to the total fee
    (`fee·M ≤ a·total`), the product of the reserves does not fall — rounding alone protects
    the pool at fee 0 -/
theorem swapIn_k_formula (total a rin rout fee : Nat) (ht : total ≤ M)
    (hfee : fee * M ≤ a * total) (ho : amountOut total a rin rout ≤ rout) :
    rin * rout ≤ (rin + (a - fee)) * (rout - amountOut total a rin rout) :=
  swapIn_k total a rin rout fee ht hfee ho

/-- …and likewise never a well-formed fixed-output swap: the `+1` in the charge covers any
    fee up to the total fee -/
theorem swapOut_k_formula (total out rin rout fee : Nat) (ht : total < M) (ho : out < rout)
    (hfee : fee * M ≤ amountIn total out rin rout * total) :
    rin * rout ≤ (rin + (amountIn total out rin rout - fee)) * (rout - out) :=
  swapOut_k total out rin rout fee ht ho hfee

/-- no sequence of swaps returns more than was put in: over any history consisting of swaps
    only (by any callers) the swappers cannot end with at least as much of both tokens and
    strictly more of one (the bound behind it — what they net of each token is at most what the
    reserves lose — is `Pair.trade_run`; `C02Mixed` has the quantitative form) -/
theorem swaps_no_profit {s : St} (hi : Inv s) (hS : 0 < s.S) (ops : List Op)
    (hall : ∀ op ∈ ops, isSwap op = true) :
    ¬ (0 ≤ (runFlow s ops).2.1 ∧ 0 ≤ (runFlow s ops).2.2 ∧
       0 < (runFlow s ops).2.1 + (runFlow s ops).2.2) := by
  rw [runFlow_eq_runT ops hall]
  exact C02Mixed.swaps_no_profit_state hi (fun h0 => absurd h0 (Nat.ne_of_gt hS)) ops
    fun op h => isLiq_of_isSwap (hall op h)

/-- adding liquidity and immediately removing the LP just minted never returns more than
    was deposited, of either token -/
theorem add_then_remove_le {s s1 s2 : St} {a1 a2 m1 m2 n1 n2 : Nat} {o o' : Out}
    (hi : Inv s) (hS : 0 < s.S)
    (hadd : addLiq s a1 a2 m1 m2 = some (s1, o))
    (hrem : removeLiq s1 o.v1 n1 n2 = some (s2, o')) :
    o'.v1 ≤ o.v2 ∧ o'.v2 ≤ o.v3 := by
  have hp := hi.pos hS
  obtain ⟨o1, o2, t⟩ := addLiq_spec (by omega) hadd
  obtain rfl := t.out
  obtain rfl := t.state
  obtain rfl := (removeLiq_spec hrem).out
  simp only []
  exact ⟨add_remove_le s.r1 s.S o1 _ hp.1 (Nat.min_le_left _ _),
         add_remove_le s.r2 s.S o2 _ hp.2.1 (Nat.min_le_right _ _)⟩

/-- non-vacuity: a traded pool where the share value strictly grew -/
example :
    let s0 := run (init 300 50 none 8) [.cfg (.setState .active), .addLiq 1000000 2000000 1 1]
    let s1 := run s0 [.swapIn .ab 50000 1, .swapOut .ba 90000 4000, .removeLiq 7000 1 1]
    0 < s0.S ∧ s0.r1 * s0.r2 * s1.S ^ 2 < s1.r1 * s1.r2 * s0.S ^ 2 := by
  decide

end Mx.C02
