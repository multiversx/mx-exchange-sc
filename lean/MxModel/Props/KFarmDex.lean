/-
  KFarmDex — the farm model (`Core/Farm.lean`) computes what the SOURCE that `dex/farm` and
  `dex/farm-with-locked-rewards` really run computes:

    * `mint_per_block_rewards`       common/modules/farm/farm_base_impl/src/base_traits_impl.rs
    * `take_reward_slice`            energy-integration/farm-boosted-yields/src/lib.rs
    * `Wrapper::generate_aggregated_rewards`, `Wrapper::calculate_rewards`, `Wrapper::get_exit_penalty`,
      `Wrapper::apply_penalty`, `claim_only_boosted_payment`      dex/farm/src/base_functions.rs
      (`NoMintWrapper` of farm-with-locked-rewards has the same `generate_aggregated_rewards` text and
      forwards the other three to `Wrapper`)

  `Gen/KFarmDex.lean` is regenerated on every run by `bin/gen-kernels`.  Storage cells read are
  inputs (`last_reward_block_nonce`, `boosted_yields_rewards_percentage`, `first_week_start_epoch`,
  `accumulated_rewards_for_week(current_week)` …), cells and cache fields written are outputs.
-/
import MxModel.Gen.KFarmDex
import MxModel.Props.KFarm
import MxModel.Props.KWeek
import MxModel.Lemmas.FarmSpec
import MxModel.Lemmas.KTactic

namespace Mx.KFarmDex
open Mx Mx.Gen Mx.Farm

theorem mint_per_block_rewards_eq (cur last perBlock : Nat) (produce : Bool) :
    KFarmDex.mint_per_block_rewards cur last perBlock produce =
      some (if last < cur then (if produce = false then 0 else perBlock * (cur - last)) else 0,
            if last < cur then cur else last) := by
  k_defs [KFarmDex.mint_per_block_rewards, Mx.KFarm.calculate_per_block_rewards_eq]
  cases produce <;> grind

theorem mint_per_block_rewards_state (s : St) :
    KFarmDex.mint_per_block_rewards s.block s.lastBlock s.perBlock s.produce =
      some (minted s, if s.lastBlock < s.block then s.block else s.lastBlock) := by
  rw [mint_per_block_rewards_eq]
  simp only [minted]
  by_cases hb : s.lastBlock < s.block
  · cases hp : s.produce <;> simp [hb]
  · simp [hb]

/-- for a cut of 0 the source does not even compute the week; its abort cases are a non-zero cut before
    the first week and a cut above the full amount (percentage above 100 %) -/
theorem take_reward_slice_eq (full acc epoch pct first : Nat) :
    KFarmDex.take_reward_slice full acc epoch pct first =
      if pct = 0 ∨ full * pct / 10000 = 0 then some (full, 0, acc)
      else if epoch < first ∨ full < full * pct / 10000 then none
      else some (full - full * pct / 10000, full * pct / 10000, acc + full * pct / 10000) := by
  k_defs [KFarmDex.take_reward_slice, Mx.KWeek.get_current_week_eq, Weekly.weekOf]
  grind

theorem takeRewardSlice_runs_source {s s' : St} {full cut : Nat}
    (h : takeRewardSlice s full = some (s', cut)) (hp : s.pct ≤ MAXPCT) (acc : Nat) :
    KFarmDex.take_reward_slice full acc s.epoch s.pct s.firstWeekStart =
      some (full - cut, cut, acc + cut) ∧
    (∀ W, s.week = some W → s'.b.accum W = s.b.accum W + cut) := by
  have hM : MAXPCT = 10000 := rfl
  obtain ⟨hcut, hcases⟩ := takeRewardSlice_spec h
  rw [hM] at hcut hp
  rw [take_reward_slice_eq]
  rcases hcases with ⟨h0, hs'⟩ | ⟨hpos, W, hW, hs'⟩
  · have hz : s.pct = 0 ∨ full * s.pct / 10000 = 0 := by
      by_cases hz : s.pct = 0
      · exact Or.inl hz
      · rw [if_neg hz] at hcut; exact Or.inr (by omega)
    rw [if_pos hz, h0, hs']
    exact ⟨rfl, fun W _ => rfl⟩
  · have hpz : s.pct ≠ 0 := by
      intro hz; rw [if_pos hz] at hcut; omega
    rw [if_neg hpz] at hcut
    have hz : ¬ (s.pct = 0 ∨ full * s.pct / 10000 = 0) := by omega
    have hle : full * s.pct / 10000 ≤ full := by
      apply Nat.div_le_of_le_mul
      calc full * s.pct ≤ full * 10000 := Nat.mul_le_mul_left _ hp
        _ = 10000 * full := Nat.mul_comm _ _
    have hwk : s.firstWeekStart ≤ s.epoch := by
      simp only [St.week, Weekly.weekOf, Option.bind_eq_bind, Option.bind_eq_some_iff,
        req_eq_some] at hW
      obtain ⟨_, hle', _⟩ := hW
      exact hle'
    have h2 : ¬ (s.epoch < s.firstWeekStart ∨ full < full * s.pct / 10000) := by omega
    rw [if_neg hz, if_neg h2, ← hcut, hs']
    refine ⟨rfl, fun W' hW' => ?_⟩
    rw [hW] at hW'
    cases hW'
    simp only [Weekly.upd_same]

/-- `Wrapper::generate_aggregated_rewards` as the composition of the three source steps -/
theorem generate_aggregated_rewards_eq (dsc supply rps reserve acc epoch block pct first last perBlock : Nat)
    (produce : Bool) (m last' : Nat)
    (hm : KFarmDex.mint_per_block_rewards block last perBlock produce = some (m, last')) :
    KFarmDex.generate_aggregated_rewards dsc supply rps reserve acc epoch block pct first last perBlock
        produce =
      if m = 0 then some (acc, last', rps, reserve)
      else (KFarmDex.take_reward_slice m acc epoch pct first).bind fun r =>
        some (r.2.2, last', rps + (if supply = 0 then 0 else r.1 * dsc / supply), reserve + m) := by
  k_defs [KFarmDex.generate_aggregated_rewards, hm]
  rcases KFarmDex.take_reward_slice m acc epoch pct first with _ | ⟨base, cut, acc'⟩ <;> grind

theorem generate_runs_source {s s' : St} {c c' : Cache} (h : generate s c = some (s', c'))
    (acc : Nat) :
    KFarmDex.generate_aggregated_rewards s.dsc c.supply c.rps c.reserve acc s.epoch s.block s.pct
        s.firstWeekStart s.lastBlock s.perBlock s.produce =
      some (acc + cutOf s, s'.lastBlock, c'.rps, c'.reserve) ∧
    (∀ W, s.week = some W → s'.b.accum W = s.b.accum W + cutOf s) := by
  obtain ⟨b', hs', hle, hc', hb⟩ := generate_spec h
  rw [generate_aggregated_rewards_eq _ _ _ _ _ _ _ _ _ _ _ _ _ _ (mint_per_block_rewards_state s)]
  have hlast : s'.lastBlock = if s.lastBlock < s.block then s.block else s.lastBlock := by rw [hs']
  have hacc : ∀ W, s.week = some W → s'.b.accum W = s.b.accum W + cutOf s := by
    intro W hW
    rw [hs']
    rcases hb with ⟨h0, rfl⟩ | ⟨_, W', hW', rfl⟩
    · simp only [h0, Nat.add_zero]
    · rw [hW] at hW'; cases hW'
      simp only [Weekly.upd_same]
  refine ⟨?_, hacc⟩
  by_cases hm : minted s = 0
  · have hcut : cutOf s = 0 := by omega
    rw [if_pos hm, hc', hlast, hm, hcut]
    simp only [Nat.add_zero, Nat.sub_zero, Nat.zero_mul, Nat.zero_div, ite_self]
  · rw [if_neg hm, take_reward_slice_eq]
    have hcdef : cutOf s = if s.pct = 0 then 0 else minted s * s.pct / 10000 := rfl
    rcases hb with ⟨h0, _⟩ | ⟨hpos, W, hW, _⟩
    · have hz : s.pct = 0 ∨ minted s * s.pct / 10000 = 0 := by
        by_cases hz : s.pct = 0
        · exact Or.inl hz
        · rw [if_neg hz] at hcdef; exact Or.inr (by omega)
      rw [if_pos hz, hc', hlast, h0]
      simp only [Option.bind_some, Nat.add_zero, Nat.sub_zero]
    · have hpz : s.pct ≠ 0 := by
        intro hz; rw [if_pos hz] at hcdef; omega
      rw [if_neg hpz] at hcdef
      have hz : ¬ (s.pct = 0 ∨ minted s * s.pct / 10000 = 0) := by omega
      have hwk : s.firstWeekStart ≤ s.epoch := by
        simp only [St.week, Weekly.weekOf, Option.bind_eq_bind, Option.bind_eq_some_iff,
          req_eq_some] at hW
        obtain ⟨_, hle', _⟩ := hW
        exact hle'
      have h2 : ¬ (s.epoch < s.firstWeekStart ∨ minted s < minted s * s.pct / 10000) := by omega
      rw [if_neg hz, if_neg h2, ← hcdef, hc', hlast]
      simp only [Option.bind_some]

theorem generate_aggregated_rewards_aborts (s : St) (c : Cache) (acc : Nat)
    (hcut : cutOf s ≠ 0) (hbad : s.epoch < s.firstWeekStart ∨ minted s < cutOf s) :
    KFarmDex.generate_aggregated_rewards s.dsc c.supply c.rps c.reserve acc s.epoch s.block s.pct
        s.firstWeekStart s.lastBlock s.perBlock s.produce = none := by
  rw [generate_aggregated_rewards_eq _ _ _ _ _ _ _ _ _ _ _ _ _ _ (mint_per_block_rewards_state s)]
  have hcdef : cutOf s = if s.pct = 0 then 0 else minted s * s.pct / 10000 := rfl
  have hpz : s.pct ≠ 0 := by
    intro hz; rw [if_pos hz] at hcdef; exact hcut hcdef
  rw [if_neg hpz] at hcdef
  have hm : minted s ≠ 0 := by
    intro hm; rw [hm, Nat.zero_mul, Nat.zero_div] at hcdef; exact hcut hcdef
  have hz : ¬ (s.pct = 0 ∨ minted s * s.pct / 10000 = 0) := by omega
  have h2 : s.epoch < s.firstWeekStart ∨ minted s < minted s * s.pct / 10000 := by omega
  rw [if_neg hm, take_reward_slice_eq, if_neg hz, if_pos h2]
  rfl

/-- the model's `reward := base + boosted` in `claimCore` / `exitFarm` -/
theorem calculate_rewards_eq (amount rpsTok dsc rpsNow boosted : Nat) (hd : dsc ≠ 0) :
    KFarmDex.calculate_rewards amount rpsTok dsc rpsNow boosted =
      some (baseReward dsc rpsNow amount rpsTok + boosted) := by
  k_defs [KFarmDex.calculate_rewards, Mx.KFarm.calculate_rewards_some _ _ _ _ hd]
  try grind

/-- the source aborts when the entering epoch lies in the future (checked `u64` subtraction); so does
    `exitPenalty` -/
theorem get_exit_penalty_eq (s : St) (amount entering : Nat) :
    KFarmDex.get_exit_penalty amount entering s.epoch s.minFarmingEpochs s.penaltyPct =
      exitPenalty s amount entering := by
  have hM : MAXPCT = 10000 := rfl
  k_defs [KFarmDex.get_exit_penalty, exitPenalty, hM]
  grind

theorem apply_penalty_eq (s : St) (amount entering : Nat) :
    KFarmDex.apply_penalty amount entering s.epoch s.minFarmingEpochs s.penaltyPct =
      (exitPenalty s amount entering).bind fun pen => sub? amount pen := by
  cases h : exitPenalty s amount entering <;> k_defs [KFarmDex.apply_penalty, get_exit_penalty_eq, h] <;> grind

/-- the boosted reward is taken off the STORED `reward_reserve` -/
theorem claim_only_boosted_payment_eq (r reserve : Nat) :
    KFarmDex.claim_only_boosted_payment r reserve =
      if r = 0 then some (0, reserve) else (sub? reserve r).map fun res => (r, res) := by
  k_defs [KFarmDex.claim_only_boosted_payment]
  grind

theorem claimOnlyBoostedPayment_runs_source {s s1 : St} {user r : Nat}
    (hb : claimBoostedYields s user = some (s1, r)) :
    claimOnlyBoostedPayment s user =
      (KFarmDex.claim_only_boosted_payment r s1.reserve).map
        fun p => ({ s1 with reserve := p.2 }, p.1) := by
  rw [claim_only_boosted_payment_eq]
  simp only [claimOnlyBoostedPayment, hb, Option.bind_eq_bind, Option.bind_some, Option.pure_def]
  by_cases h : r = 0
  · subst h
    simp only [if_true, Option.map_some]
  · simp only [if_neg h]
    cases sub? s1.reserve r <;> rfl

example : KFarmDex.take_reward_slice 1000 5 20 2500 10 = some (750, 250, 255) := by decide
example : KFarmDex.take_reward_slice 1000 5 9 2500 10 = none := by decide
example : KFarmDex.take_reward_slice 3 5 9 2500 10 = some (3, 0, 5) := by decide
example : KFarmDex.generate_aggregated_rewards 1000 50 7 20 5 20 10 2500 10 4 5 true =
    some (12, 10, 467, 50) := by decide
example : KFarmDex.apply_penalty 1000 8 10 3 100 = some 990 := by decide
example : KFarmDex.apply_penalty 1000 8 11 3 100 = some 1000 := by decide

end Mx.KFarmDex
