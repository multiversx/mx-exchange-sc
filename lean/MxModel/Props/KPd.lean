/-
  KPd — the price-discovery model (`Core/PriceDiscovery.lean`) computes what the SOURCE of
  `dex/price-discovery/src/{phase.rs, lib.rs}` computes.

  `Gen/KPd.lean` is regenerated on every run by `bin/gen-kernels`.  `get_current_phase` returns the
  `Phase` enum as a pair (variant index, payload): `Idle = 0`, `NoPenalty = 1`,
  `LinearIncreasingPenalty { penalty_percentage } = 2`, `OnlyWithdrawFixedPenalty { … } = 3`,
  `Redeem = 4`; the payload is the penalty percentage (0 for the variants without one).  In the
  model that pair is `(Phase.rank, Phase.pct)` of `Cfg.phaseAt`.
-/
import MxModel.Gen.KPd
import MxModel.Lemmas.PdSpec
import MxModel.Lemmas.KTactic

namespace Mx.KPd
open Mx Mx.Gen Mx.PD

theorem phase_encoding :
    (Phase.idle.rank, Phase.idle.pct) = (0, 0) ∧ (Phase.noPenalty.rank, Phase.noPenalty.pct) = (1, 0) ∧
    (∀ p, ((Phase.linear p).rank, (Phase.linear p).pct) = (2, p)) ∧
    (∀ p, ((Phase.fixed p).rank, (Phase.fixed p).pct) = (3, p)) ∧
    (Phase.redeem.rank, Phase.redeem.pct) = (4, 0) :=
  ⟨rfl, rfl, fun _ => rfl, fun _ => rfl, rfl⟩

/-- `hmm`: the checked subtraction `max − min` of the linear phase is not reached or does not underflow -/
theorem get_current_phase_src (c : Cfg) (b : Nat) (hmm : c.pmin ≤ c.pmax ∨ b < c.e1 ∨ c.e2 ≤ b) :
    KPd.get_current_phase b c.pfix c.d3 c.d2 c.d1 c.pmax c.pmin c.start =
      some ((c.phaseAt b).rank, (c.phaseAt b).pct) := by
  simp only [Cfg.e1, Cfg.e2] at hmm
  k_defs [KPd.get_current_phase, Cfg.phaseAt, Cfg.linearPct, Cfg.e1, Cfg.e2, Cfg.e3, Phase.rank, Phase.pct]
  grind

/-- `min ≤ max` is guaranteed by `init` (`Cfg.ok`) -/
theorem get_current_phase_eq (c : Cfg) (b : Nat) (hmm : c.pmin ≤ c.pmax) :
    KPd.get_current_phase b c.pfix c.d3 c.d2 c.d1 c.pmax c.pmin c.start =
      some ((c.phaseAt b).rank, (c.phaseAt b).pct) :=
  get_current_phase_src c b (.inl hmm)

theorem get_current_phase_state (s : St) (hok : s.cfg.ok) :
    KPd.get_current_phase s.block s.cfg.pfix s.cfg.d3 s.cfg.d2 s.cfg.d1 s.cfg.pmax s.cfg.pmin
        s.cfg.start = some (s.phase.rank, s.phase.pct) :=
  get_current_phase_eq s.cfg s.block hok.1

theorem get_current_phase_no_abort_outside_linear (c : Cfg) (b : Nat)
    (h : b < c.e1 ∨ c.e2 ≤ b) :
    KPd.get_current_phase b c.pfix c.d3 c.d2 c.d1 c.pmax c.pmin c.start =
      some ((c.phaseAt b).rank, (c.phaseAt b).pct) :=
  get_current_phase_src c b (.inr h)

/-- the reason `init` demands `min ≤ max`: in the linear phase the checked `BigUint` subtraction aborts -/
theorem get_current_phase_aborts (c : Cfg) (b : Nat) (h1 : c.e1 ≤ b) (h2 : b < c.e2)
    (hmm : c.pmax < c.pmin) :
    KPd.get_current_phase b c.pfix c.d3 c.d2 c.d1 c.pmax c.pmin c.start = none := by
  simp only [Cfg.e1, Cfg.e2] at h1 h2
  k_defs [KPd.get_current_phase]
  k_ifs

theorem calculate_price_eq (c : Cfg) (l a : Nat) :
    KPd.calculate_price a l c.prec = priceOf c l a := by
  k_defs [KPd.calculate_price, priceOf]
  try grind

theorem calculate_price_state (s : St) :
    KPd.calculate_price s.A.bal s.L.bal s.cfg.prec = s.price :=
  calculate_price_eq s.cfg s.L.bal s.A.bal

/-! ### the arithmetic cores of `withdraw`, `deposit`, `redeem` (fragments of lib.rs) -/

/-- the lines `let penalty_amount …; let withdraw_amount …` of `withdraw` -/
theorem withdraw_amounts_eq (amt pct : Nat) :
    KPd.withdraw_amounts amt pct =
      (sub? amt (amt * pct / MAXP)).map fun wd => (amt * pct / MAXP, wd) := by
  have hM : MAXP = 10000000000000 := rfl
  k_defs [KPd.withdraw_amounts, hM]
  grind

theorem withdraw_price_check_eq (c : Cfg) (l a : Nat) :
    KPd.withdraw_price_check a l c.minPrice c.prec =
      (priceOf c l a).bind fun p => if c.minPrice ≤ p then some p else none := by
  cases h : priceOf c l a <;> k_defs [KPd.withdraw_price_check, calculate_price_eq, h] <;> try grind

/-- the token identifiers are played by the redeem nonces of the model's sides -/
theorem deposit_price_check_eq (c : Cfg) (l a : Nat) (t : Tok) :
    KPd.deposit_price_check a Tok.accepted.nonce l c.minPrice t.nonce c.prec =
      (priceOf c l a).bind fun p =>
        if p = 0 ∨ c.minPrice ≤ p ∨ t = .accepted then some p else none := by
  have ht : t.nonce = Tok.accepted.nonce ↔ t = .accepted := by cases t <;> simp [Tok.nonce]
  generalize t.nonce = n at ht ⊢
  generalize Tok.accepted.nonce = an at ht ⊢
  cases h : priceOf c l a <;> k_defs [KPd.deposit_price_check, calculate_price_eq, h] <;> try grind

/-- the share computation of `compute_bought_tokens` -/
theorem bought_tokens_amount_eq (amt sup bal : Nat) :
    KPd.bought_tokens_amount amt sup bal = if sup = 0 then none else some (bal * amt / sup) := by
  k_defs [KPd.bought_tokens_amount]
  try grind

theorem withdraw_runs_source {s s' : St} {c : Nat} {t : Tok} {amt : Nat} {o : Out}
    (h : withdraw s c t amt = some (s', o)) :
    KPd.withdraw_amounts amt s.phase.pct = some (o.v2, o.v1) ∧
    ∃ p, s'.price = some p ∧
      KPd.withdraw_price_check s'.A.bal s'.L.bal s'.cfg.minPrice s'.cfg.prec = some p := by
  obtain ⟨p, pen, w⟩ := withdraw_spec h
  obtain rfl := w.out
  have hcfg : s'.cfg = s.cfg := by rw [w.state]; cases t <;> rfl
  refine ⟨?_, p, w.price, ?_⟩
  · rw [withdraw_amounts_eq, ← w.penalty]
    simp only [sub?, if_pos w.wd, Option.map_some]
  · have hp : priceOf s'.cfg s'.L.bal s'.A.bal = some p := w.price
    rw [withdraw_price_check_eq, hp, hcfg]
    simp only [Option.bind_some, if_pos w.minPrice]

theorem deposit_runs_source {s s' : St} {c : Nat} {t : Tok} {amt : Nat} {o : Out}
    (h : deposit s c t amt = some (s', o)) :
    ∃ p, s'.price = some p ∧
      KPd.deposit_price_check s'.A.bal Tok.accepted.nonce s'.L.bal s'.cfg.minPrice t.nonce
        s'.cfg.prec = some p := by
  obtain ⟨p, d⟩ := deposit_spec h
  have hcfg : s'.cfg = s.cfg := by rw [d.state]; cases t <;> rfl
  refine ⟨p, d.price, ?_⟩
  have hp : priceOf s'.cfg s'.L.bal s'.A.bal = some p := d.price
  rw [deposit_price_check_eq, hp, hcfg]
  simp only [Option.bind_some, if_pos d.minPrice]

theorem redeem_runs_source {s s' : St} {c : Nat} {t : Tok} {amt : Nat} {o : Out}
    (h : redeem s c t amt = some (s', o)) :
    KPd.bought_tokens_amount amt (s.side t).sup (s.side t.other).bal = some o.v1 := by
  obtain ⟨bought, r⟩ := redeem_spec h
  obtain rfl := r.out
  rw [bought_tokens_amount_eq, if_neg r.sup_ne, r.bought]

/-- the guards are the first three conjuncts of the model's `Cfg.ok`; the value returned is the stored
    `end_block`, the model's `e3` (first block of the redeem phase) -/
theorem init_guards_eq (c : Cfg) :
    KPd.init_guards c.pfix c.d3 c.d2 c.d1 c.pmax c.pmin c.start =
      if c.pmin ≤ c.pmax ∧ c.pmax < MAXP ∧ c.pfix < MAXP then some c.e3 else none := by
  have hM : MAXP = 10000000000000 := rfl
  k_defs [KPd.init_guards, Cfg.e3, hM]
  grind

theorem init_guards_of_ok (c : Cfg) (h : c.ok) :
    KPd.init_guards c.pfix c.d3 c.d2 c.d1 c.pmax c.pmin c.start = some c.e3 := by
  rw [init_guards_eq, if_pos ⟨h.1, h.2.1, h.2.2.1⟩]

example : KPd.get_current_phase 25 7 10 11 10 60 10 10 = some (2, 35) := by decide
example : KPd.get_current_phase 5 7 10 11 10 60 10 10 = some (0, 0) := by decide
example : KPd.get_current_phase 35 7 10 11 10 60 10 10 = some (3, 7) := by decide
example : KPd.get_current_phase 25 7 10 11 10 5 10 10 = none := by decide
example : KPd.calculate_price 30 0 100 = none := by decide
example : KPd.withdraw_amounts 1000 2500000000000 = some (250, 750) := by decide
example : KPd.bought_tokens_amount 10 0 500 = none := by decide
example : KPd.deposit_price_check 5 2 100 10 1 100 = none := by decide
example : KPd.deposit_price_check 5 2 100 10 2 100 = some 5 := by decide

/-! ### `match` on the phase and on the redeem-token nonce

`Phase` has variants with data, so a phase VALUE is the pair (variant index, payload) =
`(Phase.rank, Phase.pct)` (see `phase_encoding`); a `match` on it is a Lean `match` on the index. -/

/-- in the source a `match self` with a catch-all arm -/
theorem get_penalty_percentage_eq (ph : Phase) :
    KPd.get_penalty_percentage ph.rank ph.pct = some ph.pct := by
  cases ph <;> k_defs [KPd.get_penalty_percentage, Phase.rank, Phase.pct] <;> try grind

/-- in the source a `match` with the or-pattern `Idle | OnlyWithdrawFixedPenalty {..} | Redeem => sc_panic!` -/
theorem require_deposit_allowed_eq (ph : Phase) :
    KPd.require_deposit_allowed ph.rank = if ph.depositAllowed = true then some () else none := by
  cases ph <;> k_defs [KPd.require_deposit_allowed, Phase.rank, Phase.depositAllowed] <;> try grind

/-- in the source `Idle | Redeem => sc_panic!` -/
theorem require_withdraw_allowed_eq (ph : Phase) :
    KPd.require_withdraw_allowed ph.rank = if ph.withdrawAllowed = true then some () else none := by
  cases ph <;> k_defs [KPd.require_withdraw_allowed, Phase.rank, Phase.withdrawAllowed] <;> try grind

/-- in the source `phase == &Phase::Redeem`: a comparison of variant indices -/
theorem require_redeem_allowed_eq (ph : Phase) :
    KPd.require_redeem_allowed ph.rank = if ph.redeemAllowed = true then some () else none := by
  cases ph <;> k_defs [KPd.require_redeem_allowed, Phase.rank, Phase.redeemAllowed] <;> try grind

theorem phase_gates_state (s : St) :
    (KPd.require_deposit_allowed s.phase.rank = some () ↔ s.phase.depositAllowed = true) ∧
    (KPd.require_withdraw_allowed s.phase.rank = some () ↔ s.phase.withdrawAllowed = true) ∧
    (KPd.require_redeem_allowed s.phase.rank = some () ↔ s.phase.redeemAllowed = true) := by
  rw [require_deposit_allowed_eq, require_withdraw_allowed_eq, require_redeem_allowed_eq]
  refine ⟨?_, ?_, ?_⟩ <;> split <;> simp [*]

/-- the WHOLE of `compute_bought_tokens`: the `match redeem_token_nonce` that picks the OTHER side's
    token and balance, then the share.  `idL`, `idA`: the launched / accepted token identifiers -/
theorem compute_bought_tokens_eq (t : Tok) (amt sup balL balA idL idA : Nat) :
    KPd.compute_bought_tokens t.nonce amt balA idA balL idL sup =
      if sup = 0 then none
      else some (match t with | .launched => idA | .accepted => idL, 0,
                 (match t with | .launched => balA | .accepted => balL) * amt / sup) := by
  cases t <;> k_defs [KPd.compute_bought_tokens, Tok.nonce] <;> try grind

/-- the arm `_ => sc_panic!(INVALID_PAYMENT_ERR_MSG)` -/
theorem compute_bought_tokens_bad_nonce (n amt sup balL balA idL idA : Nat)
    (h1 : n ≠ Tok.launched.nonce) (h2 : n ≠ Tok.accepted.nonce) :
    KPd.compute_bought_tokens n amt balA idA balL idL sup = none := by
  simp only [Tok.nonce] at h1 h2
  k_defs [KPd.compute_bought_tokens]
  try grind

/-- unlike in `redeem_runs_source`, the choice of the side is part of the translated source here -/
theorem redeem_runs_whole_source {s s' : St} {c : Nat} {t : Tok} {amt : Nat} {o : Out}
    (h : redeem s c t amt = some (s', o)) (idL idA : Nat) :
    ∃ tok, KPd.compute_bought_tokens t.nonce amt s.A.bal idA s.L.bal idL (s.side t).sup =
      some (tok, 0, o.v1) := by
  obtain ⟨bought, r⟩ := redeem_spec h
  obtain rfl := r.out
  have hb := r.bought
  rw [compute_bought_tokens_eq, if_neg r.sup_ne]
  cases t <;> exact ⟨_, by simp only [St.side, Tok.other] at hb ⊢; rw [hb]⟩

example : KPd.get_penalty_percentage 2 35 = some 35 := by decide
example : KPd.get_penalty_percentage 4 35 = some 0 := by decide
example : KPd.require_deposit_allowed 3 = none := by decide
example : KPd.require_deposit_allowed 2 = some () := by decide
example : KPd.require_withdraw_allowed 3 = some () := by decide
example : KPd.compute_bought_tokens 1 10 500 7 300 8 20 = some (7, 0, 250) := by decide
example : KPd.compute_bought_tokens 2 10 500 7 300 8 20 = some (8, 0, 150) := by decide
example : KPd.compute_bought_tokens 3 10 500 7 300 8 20 = none := by decide

end Mx.KPd
