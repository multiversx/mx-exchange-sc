/-
  C09 — Locking is 1:1 and time-locked; early exit costs exactly the documented penalty.

  Statement: locking burns the base asset and issues locked tokens 1:1; unlocking at or after the
  unlock epoch returns the base asset 1:1 and is impossible earlier except through the penalty
  path.  Early unlock or lock reduction charges exactly amount·p/10000 where p is the linear
  interpolation between configured lock options of the remaining time (for a reduction
  (p_old − p_new)/(1 − p_new)), monotone in remaining time and never above the largest option; the
  remainder is released only after the unbond period and the penalty is split between burn and the
  fees collector by the configured percentage, so base-asset supply can grow only through unlocks
  of previously burned amounts and reward emission.

  Model: Core/Energy.lean.  `pctFull opts rem` = `calculate_penalty_percentage_full_unlock`,
  `pctPartial` = `…_partial_unlock`, `penaltyAmount` = the view `getPenaltyAmount`,
  `linInterp e0 e1 r p0 p1 = ⌊(p0·(e1−r) + p1·(r−e0))/(e1−e0)⌋`.  `Admissible opts` = what
  `addLockOptions` accepts (non-empty, sorted, epochs strictly increasing and ≥ 360, percentages
  strictly increasing and ≤ 10000; Lemmas/EnergyArith.lean).
-/
import MxModel.Lemmas.EnergySupply
import MxModel.Lemmas.EnergyMerge

namespace Mx.C09
open Mx.Energy

section
/- kept folded: when two states are compared the unifier would otherwise unfold the `if` inside -/
attribute [local irreducible] St.ensureNonce

/-- `lockTokens` with the base asset: the option must be listed, the caller's `amt` base tokens are
    burned (balance and supply fall by `amt`), the destination receives exactly `amt` locked tokens
    of the nonce whose unlock epoch is `startOfMonth(now + option)`, which is in the future.
    `hd`: the destination is a user address — the factory's own account is excluded because it
    keeps the residual unit of a nonce it creates (`St.ensureNonce`). -/
theorem lock_1to1 {s s' : St} {c amt epochs dest : Nat} {o : Out}
    (hd : (if dest = 0 then c else dest) < SCBASE)
    (h : lockTokens s c amt epochs dest = some (s', o)) :
    isListed s.opts epochs = true ∧ s.epoch < startOfMonth (s.epoch + epochs) ∧
    o.v2 = amt ∧ s'.unlockOf o.v1 = some (startOfMonth (s.epoch + epochs)) ∧
    s'.bal (if dest = 0 then c else dest) o.v1 = s.bal (if dest = 0 then c else dest) o.v1 + amt ∧
    s'.base c + amt = s.base c ∧ s'.baseSupply + amt = s.baseSupply := by
  obtain ⟨-, -, h3, h4, -, h6, h7, rfl, rfl⟩ := lockTokens_spec h
  generalize (if dest = 0 then c else dest) = d at *
  refine ⟨h3, h4, rfl, ensureNonce_unlockOf s _, ?_, ?_, ?_⟩
  · show upd2 _ d _ _ d _ = _
    rw [upd2_same, upd_same, ensureNonce_bal_ne s _ (Nat.ne_of_lt hd)]
  · show upd s.base c (s.base c - amt) c + amt = s.base c
    rw [upd_same]; omega
  · show s.baseSupply - amt + amt = s.baseSupply
    omega

end

/-- `unlockTokens`: every token paid has reached its unlock epoch, and the caller receives exactly
    the sum of the amounts in freshly minted base asset -/
theorem unlock_1to1 {s s' : St} {c : Nat} {ps : List (Nat × Nat)} {o : Out}
    (h : unlockTokens s c ps = some (s', o)) :
    (∀ p ∈ ps, ∃ u, s.unlockOf p.1 = some u ∧ u ≤ s.epoch) ∧
    o.v1 = paySum ps ∧ s'.base c = s.base c + paySum ps ∧
    s'.baseSupply = s.baseSupply + paySum ps := by
  obtain ⟨hall, rfl, hb, hs⟩ := unlockTokens_effect h
  refine ⟨fun p hp => ?_, rfl, hb, hs⟩
  obtain ⟨u, h1, h2, _⟩ := hall p hp
  exact ⟨u, h1, h2⟩

/-- unlocking is impossible before the unlock epoch: if any token in the payment is still locked
    the whole transaction fails (the only earlier exit is the penalty path below) -/
theorem unlock_requires_epoch {s : St} {c : Nat} {ps : List (Nat × Nat)} {n amt u : Nat}
    (hm : (n, amt) ∈ ps) (hu : s.unlockOf n = some u) (hlt : s.epoch < u) :
    unlockTokens s c ps = none := by
  cases h : unlockTokens s c ps with
  | none => rfl
  | some r =>
    obtain ⟨s', o⟩ := r
    obtain ⟨hall, -⟩ := unlockTokens_effect h
    obtain ⟨u', h1, h2, _⟩ := hall (n, amt) hm
    simp only [] at h1
    rw [hu] at h1
    simp only [Option.some.injEq] at h1
    omega

/-- below the shortest option the percentage interpolates between `(0, 0)` and that option -/
theorem penalty_full_first {e1 p1 : Nat} {rest : List Opt} {rem : Nat} (h : rem ≤ e1) :
    pctFull ((e1, p1) :: rest) rem = some (linInterp 0 e1 rem 0 p1) := by
  simp [pctFull, pctFrom_cons, h]

/-- between two consecutive options `(ea, pa)`, `(eb, pb)` with `ea < rem ≤ eb` the percentage is
    `⌊(pa·(eb − rem) + pb·(rem − ea))/(eb − ea)⌋` — the documented linear interpolation on the
    bracketing options, nothing else -/
theorem penalty_full {pre post : List Opt} {ea pa eb pb rem : Nat}
    (ha : Admissible (pre ++ (ea, pa) :: (eb, pb) :: post)) (h1 : ea < rem) (h2 : rem ≤ eb) :
    pctFull (pre ++ (ea, pa) :: (eb, pb) :: post) rem =
      some ((pa * (eb - rem) + pb * (rem - ea)) / (eb - ea)) :=
  pctFrom_bracket ha.wchain h1 h2

/-- the percentage is defined exactly up to the longest option -/
theorem penalty_defined {opts : List Opt} (ha : Admissible opts) (rem : Nat) :
    (∃ p, pctFull opts rem = some p) ↔ rem ≤ lastEp 0 opts :=
  ⟨fun ⟨_, h⟩ => pctFrom_le_of_some ha.wchain h, fun h => pctFrom_some_of_le ha.ne_nil h⟩

/-- monotone in the remaining time -/
theorem penalty_mono {opts : List Opt} {r r' p p' : Nat} (ha : Admissible opts) (hr : r ≤ r')
    (h : pctFull opts r = some p) (h' : pctFull opts r' = some p') : p ≤ p' :=
  pctFull_mono ha hr h h'

/-- never above the largest option, which is at most 100 % -/
theorem penalty_le_max {opts : List Opt} {rem p : Nat} (ha : Admissible opts)
    (h : pctFull opts rem = some p) : p ≤ lastPct 0 opts ∧ lastPct 0 opts ≤ MAXPCT :=
  pctFull_le_max ha h

/-- exactly the configured percentage at a configured option -/
theorem penalty_at_option {opts : List Opt} {e p : Nat} (ha : Admissible opts) (hm : (e, p) ∈ opts) :
    pctFull opts e = some p :=
  pctFrom_at ha.wchain hm

/-- lock reduction: for every admissible option set and every `new < prev` within the longest
    option, the percentage is `⌊(p_old − p_new)·10000/(10000 − p_new)⌋`; the subtraction cannot
    underflow (`p_new ≤ p_old`) and the divisor is never zero (`p_new < 10000`) -/
theorem reduce_pct {opts : List Opt} {prev new pp pn : Nat} (ha : Admissible opts) (hn : new < prev)
    (h1 : pctFull opts prev = some pp) (h2 : pctFull opts new = some pn) :
    pn ≤ pp ∧ pn < MAXPCT ∧
    pctPartial opts prev new = some ((pp - pn) * MAXPCT / (MAXPCT - pn)) ∧
    (pp - pn) * MAXPCT / (MAXPCT - pn) ≤ MAXPCT := by
  obtain ⟨a, b, c⟩ := pctPartial_defined ha hn h1 h2
  exact ⟨a, b, c, pctPartial_le a ((pctFull_le_max ha h1).1.trans (pctFull_le_max ha h1).2) b⟩

/-- whatever `addLockOptions` stores is admissible (also the very first call, on an empty option
    list) -/
theorem add_options_admissible {s s' : St} {new : List Opt}
    (hold : s.opts = [] ∨ Admissible s.opts) (h : cfg s (.addOptions new) = some s') :
    Admissible s'.opts :=
  (addOptions_admissible hold h).1

/-- the stored options are admissible after every history (only `addLockOptions` writes them), so
    every penalty theorem above applies in every reachable state -/
theorem options_admissible_forever (c : Cfg) (hc : Admissible c.opts) (ops : List Op) :
    Admissible (run (init c) ops).opts :=
  run_opts ops hc

/-- hence in every reachable state `getPenaltyAmount` for a lock reduction is total on its domain:
    for `0 < new < prev ≤ longest option` it returns `⌊amt·⌊(p_old − p_new)·10000/(10000 − p_new)⌋/10000⌋`
    — no underflow, no division by zero, whatever options the owner configured along the way -/
theorem reduce_quote_total (c : Cfg) (hc : Admissible c.opts) (ops : List Op) (amt prev new : Nat)
    (h0 : 0 < new) (hn : new < prev) (hp : prev ≤ lastEp 0 (run (init c) ops).opts) :
    ∃ pp pn, pctFull (run (init c) ops).opts prev = some pp ∧
      pctFull (run (init c) ops).opts new = some pn ∧ pn ≤ pp ∧ pn < MAXPCT ∧
      penaltyAmount (run (init c) ops).opts amt prev new =
        some (amt * ((pp - pn) * MAXPCT / (MAXPCT - pn)) / MAXPCT) := by
  have ha := options_admissible_forever c hc ops
  generalize (run (init c) ops).opts = opts at *
  obtain ⟨pp, h1⟩ := (penalty_defined ha prev).mpr hp
  obtain ⟨pn, h2⟩ := (penalty_defined ha new).mpr (by omega)
  obtain ⟨a, b, cc, _⟩ := reduce_pct ha hn h1 h2
  refine ⟨pp, pn, h1, h2, a, b, ?_⟩
  have e4 : ¬ new = 0 := by omega
  simp [penaltyAmount, req_pos (Nat.zero_lt_of_lt hn), req_pos hn, req_pos ha.ne_nil, e4, cc]

/-- the view `getPenaltyAmount(amount, prev, new)` = `⌊amount · pct / 10000⌋` with the full
    percentage of `prev` for `new = 0` and the reduction percentage otherwise -/
theorem penalty_amount {opts : List Opt} {amt prev new pen : Nat}
    (h : penaltyAmount opts amt prev new = some pen) :
    0 < prev ∧ new < prev ∧
    ∃ pct, (if new = 0 then pctFull opts prev else pctPartial opts prev new) = some pct ∧
      pen = amt * pct / MAXPCT := by
  obtain ⟨a, b, _, c⟩ := penaltyAmount_spec h
  exact ⟨a, b, c⟩

/-- early unlock: only for tokens still locked, charges exactly the quoted penalty for the
    remaining time, the penalty is strictly less than the amount (otherwise the call fails), the
    caller receives nothing now — `amount − penalty` base tokens are minted into the unbond escrow
    under an entry that matures `unbond` epochs later.  `hc`: the caller is not the unbond escrow
    itself, whose own balance is what grows -/
theorem early_unlock_exact {s s' : St} {c n amt : Nat} {o : Out} (hc : c ≠ UNSTAKE)
    (h : unlockEarly s c n amt = some (s', o)) :
    ∃ u, s.unlockOf n = some u ∧ s.epoch < u ∧
      penaltyAmount s.opts amt (u - s.epoch) 0 = some o.v1 ∧ o.v1 < amt ∧ o.v2 = amt - o.v1 ∧
      s'.queue c = s.queue c ++ [⟨s.epoch + s.unbond, n, amt, amt - o.v1⟩] ∧
      s'.base c = s.base c ∧ s'.base UNSTAKE = s.base UNSTAKE + (amt - o.v1) ∧
      s'.baseSupply = s.baseSupply + (amt - o.v1) := by
  obtain ⟨u, s1, e, pen, t⟩ := unlockEarly_spec h
  obtain rfl := t.out
  obtain rfl := t.state
  refine ⟨u, t.unlockOf, t.locked, t.penalty, t.pen_lt, rfl, ?_, ?_, ?_, rfl⟩
  · exact updO_same s.queue c _
  · exact upd_other s.base _ hc
  · exact upd_same s.base UNSTAKE _

/-- lock reduction: only to a listed option that really shortens the lock, charges exactly the
    quoted penalty `getPenaltyAmount(amount, remaining, new)`, strictly less than the amount, and
    re-locks the rest -/
theorem reduce_exact {s s' : St} {c n amt epochs : Nat} {o : Out}
    (h : reduceLock s c n amt epochs = some (s', o)) :
    ∃ u newEp, isListed s.opts epochs = true ∧ s.unlockOf n = some u ∧ s.epoch < u ∧
      newEp + (s.epoch + epochs) % MONTH = epochs ∧ newEp < u - s.epoch ∧
      penaltyAmount s.opts amt (u - s.epoch) newEp = some o.v3 ∧ o.v3 < amt ∧ o.v2 = amt - o.v3 := by
  obtain ⟨u, s1, e, pen, newEp, t⟩ := reduceLock_spec h
  obtain rfl := t.newEpochs
  obtain rfl := t.out
  have hle := t.aligned
  exact ⟨u, _, t.listed, t.unlockOf, t.locked, by omega, t.shorter, t.penalty, t.pen_lt, rfl⟩

/-- `penalty_amount < amount`: whenever the percentage is below 100 % something is left -/
theorem penalty_lt_amount {amt pct : Nat} (ha : 0 < amt) (hp : pct < MAXPCT) :
    amt * pct / MAXPCT < amt := by
  have hM : 0 < MAXPCT := by decide
  rw [Nat.div_lt_iff_lt_mul hM]
  exact Nat.mul_lt_mul_of_pos_left hp ha

/-- the unbond gate: `claimUnlockedTokens` pays out a FIFO prefix of the caller's queue, every
    entry of which has matured (`now ≥ entry.unlock`), at most 20 per call, and pays exactly the sum
    of their unlocked amounts.  `hc`: the caller is not the unbond escrow, out of whose balance
    the payment comes -/
theorem unbond_gate {s s' : St} {c : Nat} {o : Out} (hc : c ≠ UNSTAKE)
    (h : claimUnlocked s c = some (s', o)) :
    ∃ claimed, claimed ≠ [] ∧ s.queue c = claimed ++ s'.queue c ∧ claimed.length ≤ MAXCLAIM ∧
      (∀ e ∈ claimed, e.unlock ≤ s.epoch) ∧
      o.v1 = (claimed.map (·.unlocked)).sum ∧ s'.base c = s.base c + (claimed.map (·.unlocked)).sum ∧
      s'.baseSupply = s.baseSupply := by
  obtain ⟨h1, h2, rfl, h4, h5, _, _⟩ := claimUnlocked_effect hc h
  exact ⟨_, h1, h2, claimable_length _ _, claimable_all _ _, rfl, h4, h5⟩

/-- … and nothing can be claimed while the oldest entry is still unbonding -/
theorem unbond_gate_closed {s : St} {c : Nat} {e : UEntry} {rest : List UEntry}
    (hq : s.queue c = e :: rest) (hlt : s.epoch < e.unlock) : claimUnlocked s c = none := by
  have : claimable s.epoch (s.queue c) = [] := by
    unfold claimable
    rw [hq, List.takeWhile_cons]
    have : ¬ e.unlock ≤ s.epoch := by omega
    simp [this]
  unfold claimUnlocked
  rw [this]
  rfl

/-- the penalty of a reduction is split `burn = ⌊pen·b/10000⌋`, `collector = pen − burn`, and the
    two parts add up to the penalty -/
theorem penalty_split_reduce {s s' : St} {c n amt epochs : Nat} {o : Out} (hb : s.burnPct ≤ MAXPCT)
    (h : reduceLock s c n amt epochs = some (s', o)) :
    s'.penBurned = s.penBurned + o.v3 * s.burnPct / MAXPCT ∧
    s'.collected = s.collected + (o.v3 - o.v3 * s.burnPct / MAXPCT) ∧
    (s'.penBurned - s.penBurned) + (s'.collected - s.collected) = o.v3 := by
  obtain ⟨u, s1, e, pen, newEp, t⟩ := reduceLock_spec h
  obtain rfl := t.out
  obtain rfl := t.state
  refine ⟨rfl, rfl, ?_⟩
  have hburn := burn_le pen hb
  show s.penBurned + pen * s.burnPct / MAXPCT - s.penBurned +
    (s.collected + (pen - pen * s.burnPct / MAXPCT) - s.collected) = pen
  generalize pen * s.burnPct / MAXPCT = b at *
  omega

/-- the penalties of the entries paid out by a claim are split the same way, entry by entry
    (`hc` as in `unbond_gate`) -/
theorem penalty_split_claim {s s' : St} {c : Nat} {o : Out} (hc : c ≠ UNSTAKE)
    (h : claimUnlocked s c = some (s', o)) :
    ∃ claimed, s.queue c = claimed ++ s'.queue c ∧
      s'.penBurned = s.penBurned + (claimed.map (fun q => (q.locked - q.unlocked) * s.burnPct / MAXPCT)).sum ∧
      s'.collected = s.collected + (claimed.map (fun q => (q.locked - q.unlocked) -
        (q.locked - q.unlocked) * s.burnPct / MAXPCT)).sum := by
  obtain ⟨_, h2, _, _, _, h6, h7⟩ := claimUnlocked_effect hc h
  exact ⟨_, h2, h6, h7⟩

/-- over any history whatsoever (no well-formedness needed): base supply = initial + minted by
    unlock + minted by early unlock − burned by lock − burned by cancel; and
    base supply + locked tokens in circulation + penalties pending + penalties destroyed
    = initial supply + reward emission (`lockVirtual`).  Hence the base supply can grow only through
    unlocks of previously burned amounts and reward emission: it never exceeds initial + emission. -/
theorem base_supply_delta (c : Cfg) (hb : c.burnPct ≤ MAXPCT) (ops : List Op) :
    let s := run (init c) ops
    s.baseSupply + s.burnLock + s.burnCancel = s.baseInit + s.mintUnlock + s.mintEarly ∧
    s.baseSupply + s.circ + s.pendingPenalty + s.penBurned + s.collected = s.baseInit + s.virtLocked ∧
    s.baseSupply ≤ s.baseInit + s.virtLocked := by
  intro s
  have h : SInv s := run_sinv ops (init_sinv c hb)
  obtain ⟨⟨l, cv⟩, _⟩ := h
  exact ⟨l, cv, by omega⟩

/-- one transaction keeps both ledgers (any operation, any arguments) -/
theorem supply_step {s s' : St} {op : Op} {o : Out} (hi : SInv s) (h : step s op = some (s', o)) :
    SInv s' :=
  step_sinv hi h

/-- a failed transaction leaves the state untouched (atomicity as modelled) -/
theorem failed_tx_no_effect (s : St) (op : Op) (h : step s op = none) : run s [op] = s := by
  simp [run, h]

/-- non-vacuity: the repository's option set is admissible, and a concrete history runs through
    lock, early unlock with an interpolated penalty, an unsuccessful and a successful claim, a
    reduction with a burn/collector split and a cancelled unbonding -/
example : Admissible [(360, 4000), (720, 6000), (1440, 8000)] :=
  ⟨by decide, by decide, by decide, by decide, by decide, by decide, by decide, by decide, trivial⟩

example :
    let s := run (init { epoch := 5, opts := [(360, 4000), (720, 6000), (1440, 8000)], unbond := 10,
                         burnPct := 2500, minLock := 4, cooldown := 6, users := 2, funds := 1000000 })
      [.lock 1 100000 1440 0, .advance 545, .unlockEarly 1 1 10000, .claim 1, .advance 555, .claim 1,
       .reduce 1 1 20000 360, .unlockEarly 1 1 5000, .cancel 1]
    pctFull s.opts 895 = some 6486 ∧ s.base 1 = 903514 ∧ s.penBurned = 1621 + 2128 ∧
    s.collected = 4865 + 6384 ∧ s.pendingPenalty = 0 ∧ s.baseSupply = 1903514 ∧ s.burnCancel = 1771 ∧
    s.queue 1 = [] ∧ s.nonces = [1440, 900] ∧ s.bal 1 2 = 11488 := by
  decide

end Mx.C09
