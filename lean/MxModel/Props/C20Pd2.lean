/-
  C20 (price-discovery part, `withdraw`) — the completeness iff for `withdraw`, the counterpart
  of `C20.pd_deposit_ok_iff`; its form on reachable states (where three of the raw guards are
  implied by the invariant); and non-vacuity examples for the whole `pd_*` family, including
  the theorems of `Props/C20Pd.lean`.

  Views: `viewPhase` = `getCurrentPhase`, `viewPrice` = `getCurrentPrice` =
  `priceOf cfg launched_balance accepted_balance`, `viewSupply` =
  `getRedeemTokenTotalCirculatingSupply`.  Rust: dex/price-discovery/src/lib.rs `withdraw`
  (lines 169–217): phase gate, payment must be the redeem token (nonce 1 / 2),
  `burn_redeem_token` (ESDT burn + supply -= amount), penalty = amount·pct/10^13,
  `decrease_balance`, `calculate_price` (fails on an empty launched pool), floor check,
  `send().direct`.
-/
import MxModel.Props.C17
import MxModel.Props.C20Pd

namespace Mx.C20Pd2
open Mx.PD

/-- the penalty `getCurrentPhase` implies for handing in `amt` redeem tokens now -/
def penaltyNow (s : St) (amt : Nat) : Nat := amt * (viewPhase s).pct / MAXP

/-- the tracked pools after `amt − penalty` of token `t` left: what `getCurrentPrice` will be
    computed from after the withdrawal -/
def poolAfterL (s : St) (t : Tok) (amt : Nat) : Nat :=
  if t = .launched then s.L.bal - (amt - penaltyNow s amt) else s.L.bal
def poolAfterA (s : St) (t : Tok) (amt : Nat) : Nat :=
  if t = .accepted then s.A.bal - (amt - penaltyNow s amt) else s.A.bal

/-- **withdraw: the quote is complete (raw form, every state).**  A withdrawal of `amt` redeem
    tokens of side `t` by `c` succeeds exactly when: the caller is a user; the amount is
    positive; the phase `getCurrentPhase` reports allows withdrawals; the caller holds the
    redeem tokens; the reported circulating supply covers the burn; the penalty computed from
    the reported percentage does not exceed the amount (checked subtraction); the tracked
    pool and the contract's real balance cover the payout; and the price the views would
    report afterwards exists (launched pool not empty) and passes the floor.  There is no
    further guard. -/
theorem pd_withdraw_ok_iff (s : St) (c : Nat) (t : Tok) (amt : Nat) :
    (withdraw s c t amt).isSome = true ↔
      s.isUser c ∧ 0 < amt ∧ (viewPhase s).withdrawAllowed = true ∧
      amt ≤ (s.side t).h c ∧ amt ≤ viewSupply s t ∧
      penaltyNow s amt ≤ amt ∧
      amt - penaltyNow s amt ≤ (s.side t).bal ∧ amt - penaltyNow s amt ≤ (s.side t).real ∧
      ∃ p, priceOf s.cfg (poolAfterL s t amt) (poolAfterA s t amt) = some p ∧
           s.cfg.minPrice ≤ p := by
  have hpr : (s.setSide t (wdSide (s.side t) c amt (penaltyNow s amt))).price =
      priceOf s.cfg (poolAfterL s t amt) (poolAfterA s t amt) := by
    cases t <;> rfl
  rw [Option.isSome_iff_exists, ← hpr]
  constructor
  · rintro ⟨⟨s', o⟩, hd⟩
    obtain ⟨p, pen, w⟩ := withdraw_spec hd
    obtain rfl := w.state
    obtain rfl := w.penalty
    exact ⟨w.isUser, w.amt_pos, w.allowed, w.h, w.sup, w.wd, w.bal, w.real, p, w.price, w.minPrice⟩
  · rintro ⟨h1, h2, h3, h4, h5, h6, h7, h8, p, h9, h10⟩
    exact ⟨_, withdraw_eq_some_iff.2
      ⟨p, _, h1, h2, h3, rfl, h6, h4, h5, h7, h8, h9, h10, rfl, rfl⟩⟩

/-- on a state satisfying the invariant a user's redeem tokens never exceed the reported
    circulating supply -/
theorem held_le_supply {s : St} (hi : Inv s) {c : Nat} (hc : s.isUser c) (t : Tok) :
    (s.side t).h c ≤ viewSupply s t := by
  have h1 := (hi t).sup_eq
  have h2 := le_sumU s.n (s.side t).h hc.1 hc.2
  unfold viewSupply
  omega

/-- **withdraw: the quote is complete (reachable states).**  In every state reached by any
    history from a deployment with a valid configuration, a withdrawal succeeds exactly when
    the caller is a user holding the redeem tokens, the amount is positive, the phase
    `getCurrentPhase` reports allows withdrawals, the tracked pool covers `amt − penalty` and
    the price the views would report afterwards exists and passes the floor.  The supply,
    real-balance and penalty-≤-amount guards of the raw form are consequences of the
    invariant and of `Cfg.ok`. -/
theorem pd_withdraw_ok_iff_reachable (cfg : Cfg) (hc : cfg.ok) (n fL fA : Nat) (ops : List Op)
    (c : Nat) (t : Tok) (amt : Nat) :
    let s := run (init cfg n fL fA) ops
    (withdraw s c t amt).isSome = true ↔
      s.isUser c ∧ 0 < amt ∧ (viewPhase s).withdrawAllowed = true ∧
      amt ≤ (s.side t).h c ∧
      amt - penaltyNow s amt ≤ (s.side t).bal ∧
      ∃ p, priceOf s.cfg (poolAfterL s t amt) (poolAfterA s t amt) = some p ∧
           s.cfg.minPrice ≤ p := by
  intro s
  have hi : Inv s := run_inv ops (inv_init cfg n fL fA)
  have hpct : (viewPhase s).pct < MAXP := by
    show (run _ ops).phase.pct < MAXP
    rw [run_phase]
    exact C17.penalty_below_full _ hc _
  have hpen : penaltyNow s amt ≤ amt := by
    unfold penaltyNow
    apply Nat.div_le_of_le_mul
    rw [Nat.mul_comm MAXP]
    exact Nat.mul_le_mul_left _ (Nat.le_of_lt hpct)
  rw [pd_withdraw_ok_iff]
  constructor
  · rintro ⟨h1, h2, h3, h4, _, _, h7, _, h9⟩
    exact ⟨h1, h2, h3, h4, h7, h9⟩
  · rintro ⟨h1, h2, h3, h4, h7, h9⟩
    refine ⟨h1, h2, h3, h4, Nat.le_trans h4 (held_le_supply hi h1 t), hpen, h7, ?_, h9⟩
    -- withdrawals are open, so nothing has been redeemed yet: real balance = tracked pool
    rw [((hi t).early ((withdrawAllowed_iff s.cfg s.block).1 h3).2).1]
    exact h7

/-- a successful withdrawal charges exactly the penalty the phase view implies and the price
    view afterwards is the one checked: exec ⇒ quote in the vocabulary of the iff -/
theorem pd_withdraw_exec_quote {s s' : St} {c : Nat} {t : Tok} {amt : Nat} {o : Out}
    (h : withdraw s c t amt = some (s', o)) :
    o.v2 = penaltyNow s amt ∧ o.v1 = amt - penaltyNow s amt ∧
    viewPrice s' = priceOf s.cfg (poolAfterL s t amt) (poolAfterA s t amt) := by
  obtain ⟨p, pen, w⟩ := withdraw_spec h
  obtain rfl := w.out
  obtain rfl := w.state
  obtain rfl := w.penalty
  refine ⟨rfl, rfl, ?_⟩
  cases t <;> rfl

/-! ### non-vacuity (closed reachable states) -/

/-- configuration of the examples (the one of `Props/C17.lean`): start 2, phases of 1 / 3 / 1
    blocks, linear penalty 10 % … 50 %, fixed 25 %, min price 0.5 at 6 decimals, unlock 5 -/
def exCfg : Cfg := ⟨2, 1, 3, 1, 1000000000000, 5000000000000, 2500000000000, 500000, 1000000, 5⟩

/-- block 4 = second block of the linear phase: `getCurrentPhase` = Linear(30 %) -/
def exLinear : St := run (init exCfg 2 1000000 1000000)
  [.advance 2, .deposit 1 .launched 1000, .deposit 2 .accepted 900, .advance 4]

/-- block 6 = the fixed-penalty phase (25 %), after one penalised withdrawal -/
def exFixed : St := run (init exCfg 2 1000000 1000000)
  [.advance 2, .deposit 1 .launched 1000, .deposit 2 .accepted 900, .advance 4,
   .withdraw 2 .accepted 100, .advance 6]

/-- `pd_withdraw_ok_iff`, both directions, in the penalty phase with a NON-ZERO penalty: 100
    redeem tokens at 30 % — every listed guard holds (penalty 30, payout 70, price after
    830·10^6/1000 = 830000 ≥ 500000) and the call succeeds, pays 70 and keeps 30 -/
example :
    let s := exLinear
    exCfg.ok ∧ viewPhase s = .linear 3000000000000 ∧ penaltyNow s 100 = 30 ∧
    s.isUser 2 ∧ (viewPhase s).withdrawAllowed = true ∧ 100 ≤ s.A.h 2 ∧ 100 ≤ viewSupply s .accepted ∧
    70 ≤ s.A.bal ∧ 70 ≤ s.A.real ∧
    priceOf s.cfg (poolAfterL s .accepted 100) (poolAfterA s .accepted 100) = some 830000 ∧
    (withdraw s 2 .accepted 100).isSome = true ∧
    (withdraw s 2 .accepted 100).map (·.2) = some ⟨70, 30, 0⟩ := by
  decide

/-- the floor guard of the iff is live: handing in 600 at 30 % would leave 480·10^6/1000 =
    480000 < 500000 — every other guard holds, the price guard fails, the call fails; and a
    caller without the redeem tokens fails on the wallet guard alone -/
example :
    let s := exLinear
    600 ≤ s.A.h 2 ∧ penaltyNow s 600 = 180 ∧
    priceOf s.cfg (poolAfterL s .accepted 600) (poolAfterA s .accepted 600) = some 480000 ∧
    (withdraw s 2 .accepted 600).isSome = false ∧
    (withdraw s 2 .accepted 571).isSome = true ∧ (withdraw s 2 .accepted 572).isSome = false ∧
    s.A.h 1 = 0 ∧ (withdraw s 1 .accepted 1).isSome = false := by
  decide

/-- the launched side: withdrawing launched tokens RAISES the price, but emptying the pool
    makes `getCurrentPrice` fail — the `∃ p` guard: 1000 redeem tokens at 30 % leave 300 (ok),
    while in the no-penalty phase handing in everything leaves 0 and is refused -/
example :
    let s := exLinear
    let s0 := run (init exCfg 2 1000000 1000000)
      [.advance 2, .deposit 1 .launched 1000, .deposit 2 .accepted 900]
    (withdraw s 1 .launched 1000).map (·.2) = some ⟨700, 300, 0⟩ ∧
    viewPhase s0 = .noPenalty ∧ penaltyNow s0 1000 = 0 ∧
    priceOf s0.cfg (poolAfterL s0 .launched 1000) (poolAfterA s0 .launched 1000) = none ∧
    (withdraw s0 1 .launched 1000).isSome = false ∧ (withdraw s0 1 .launched 999).isSome = true := by
  decide

/-- `C20.pd_withdraw_phase_quote` / `pd_price_after_withdraw` instantiated: fixed phase (25 %),
    80 redeem tokens → pays 60, keeps 20; `getCurrentPrice` afterwards is the checked price -/
example :
    let s := exFixed
    viewPhase s = .fixed 2500000000000 ∧
    (withdraw s 2 .accepted 80).map (·.2) = some ⟨60, 20, 0⟩ ∧
    (withdraw s 2 .accepted 80).map (fun r => viewPrice r.1) = some (some 770000) ∧
    (viewPhase s).depositAllowed = false ∧ (deposit s 1 .launched 1).isSome = false := by
  decide

/-- `C20.pd_deposit_ok_iff` / `pd_deposit_phase_quote` / `pd_price_after_deposit` instantiated
    in the linear phase: every guard holds for a launched deposit of 600 (price after
    830·10^6/1600 = 518750 ≥ 500000) and it succeeds; a launched deposit of 661 would leave
    830·10^6/1661 = 499698 < 500000 and is refused (660 still passes), while an accepted-token
    deposit is exempt -/
example :
    let s := run exLinear [.withdraw 2 .accepted 100]
    s.isUser 1 ∧ (viewPhase s).depositAllowed = true ∧ 600 ≤ s.L.w 1 ∧
    priceOf s.cfg (s.L.bal + 600) s.A.bal = some 518750 ∧
    (deposit s 1 .launched 600).isSome = true ∧
    (deposit s 1 .launched 600).map (fun r => viewPrice r.1) = some (some 518750) ∧
    priceOf s.cfg (s.L.bal + 661) s.A.bal = some 499698 ∧
    (deposit s 1 .launched 661).isSome = false ∧ (deposit s 1 .launched 660).isSome = true ∧
    (deposit s 1 .accepted 5).isSome = true := by
  decide

end Mx.C20Pd2
