/-
  KFarm — the farm model (`Core/Farm.lean`) computes what the SOURCE of the default farm wrapper
  (`common/modules/farm/farm_base_impl/src/base_traits_impl.rs`) computes.

  `Gen/KFarm.lean` is regenerated on every run by `bin/gen-kernels`:
    * `calculate_per_block_rewards`  — the emission of a settlement     (model: `Farm.minted`)
    * `calculate_rewards`            — the base reward of a position    (model: `Farm.baseReward`)
    * `generate_aggregated_rewards`  — reserve / index update of the DEFAULT wrapper (no boosted
      cut), with the emission as an input (model: `Farm.generate` when the boosted cut is 0).
  The wrappers the two farm contracts really run (`dex/farm` `Wrapper`, `take_reward_slice`, exit
  penalty, position attributes) are in `Props/KFarmDex.lean`.
-/
import MxModel.Gen.KFarm
import MxModel.Lemmas.FarmSpec
import MxModel.Lemmas.KTactic

namespace Mx.KFarm
open Mx Mx.Gen Mx.Farm

theorem calculate_per_block_rewards_eq (cur last perBlock : Nat) (produce : Bool) :
    KFarm.calculate_per_block_rewards cur last perBlock produce =
      some (if cur ≤ last ∨ produce = false then 0 else perBlock * (cur - last)) := by
  k_defs [KFarm.calculate_per_block_rewards]
  -- the Bool is an `if` condition of the source and appears as `produce = false` in the statement
  cases produce <;> grind

theorem calculate_per_block_rewards_minted (s : St) :
    KFarm.calculate_per_block_rewards s.block s.lastBlock s.perBlock s.produce = some (minted s) := by
  rw [calculate_per_block_rewards_eq]
  simp only [minted]
  by_cases hb : s.lastBlock < s.block
  · have h1 : ¬ s.block ≤ s.lastBlock := by omega
    cases hp : s.produce <;> simp [hb, h1]
  · have h1 : s.block ≤ s.lastBlock := by omega
    simp [hb, h1]

theorem calculate_rewards_eq (amount rpsTok dsc rpsNow : Nat) :
    KFarm.calculate_rewards amount rpsTok dsc rpsNow =
      if rpsTok < rpsNow ∧ dsc = 0 then none else some (baseReward dsc rpsNow amount rpsTok) := by
  k_defs [KFarm.calculate_rewards, baseReward]
  grind

theorem calculate_rewards_some (amount rpsTok dsc rpsNow : Nat) (hd : dsc ≠ 0) :
    KFarm.calculate_rewards amount rpsTok dsc rpsNow = some (baseReward dsc rpsNow amount rpsTok) := by
  rw [calculate_rewards_eq, if_neg (fun c => hd c.2)]

theorem generate_aggregated_rewards_eq (dsc supply rps reserve emitted : Nat) :
    KFarm.generate_aggregated_rewards dsc supply rps reserve emitted =
      some (rps + (if supply = 0 then 0 else emitted * dsc / supply), reserve + emitted) := by
  -- nothing emitted: the index moves by `0 · dsc / supply = 0`
  rcases Nat.eq_zero_or_pos emitted with rfl | h
  · k_defs [KFarm.generate_aggregated_rewards, Nat.zero_mul, Nat.zero_div, ite_self, Nat.add_zero, Nat.lt_irrefl]
  · k_defs [KFarm.generate_aggregated_rewards]
    grind

/-- `hcut`: the boosted percentage is 0, or the cut rounds to 0; then the model's `generate` is the
    DEFAULT wrapper's `generate_aggregated_rewards` -/
theorem generate_runs_source {s s' : St} {c c' : Cache} (h : generate s c = some (s', c'))
    (hcut : cutOf s = 0) :
    ∃ emitted, KFarm.calculate_per_block_rewards s.block s.lastBlock s.perBlock s.produce = some emitted ∧
      KFarm.generate_aggregated_rewards s.dsc c.supply c.rps c.reserve emitted =
        some (c'.rps, c'.reserve) ∧ c'.supply = c.supply := by
  obtain ⟨_, _, _, hc, _⟩ := generate_spec h
  refine ⟨minted s, calculate_per_block_rewards_minted s, ?_, by rw [hc]⟩
  rw [generate_aggregated_rewards_eq, hc, hcut, Nat.sub_zero]

example : KFarm.calculate_per_block_rewards 10 4 5 true = some 30 := by decide
example : KFarm.calculate_per_block_rewards 10 4 5 false = some 0 := by decide
example : KFarm.calculate_rewards 100 3 10 8 = some 50 := by decide
example : KFarm.calculate_rewards 100 3 0 8 = none := by decide
example : KFarm.generate_aggregated_rewards 1000 50 7 20 30 = some (607, 50) := by decide

end Mx.KFarm
