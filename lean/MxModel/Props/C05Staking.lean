/-
  C05 (farm-staking side) — reward accounting exact; principal backed.

  Statement: the reward reserve the contract reports equals rewards generated so far minus
  rewards paid out, and it always covers all currently claimable base rewards plus all
  not-yet-claimed boosted-reward pools; the farming tokens the farm holds always cover the
  reported farm-token supply (for the staking farm: the C12 balance decomposition).

  Model: Core/Staking.lean.  In the staking farm "generated" is the storage cell
  `accumulatedRewards` itself; `paidBase + paidBoosted` is the ghost ledger of everything paid out
  or compounded.  Only property theorems live here.
-/
import MxModel.Lemmas.StakingInv
import MxModel.Lemmas.StakingPool

namespace Mx.C05Staking
open Mx.Staking

abbrev reach (epoch block dsc maxApr minUnbond perBlock : Nat) (accts wl : List Nat)
    (ops : List Op) : St :=
  run (init epoch block dsc maxApr minUnbond perBlock accts wl) ops

/-- reserve = generated − paid, after any history (finding F1: without the reserve decrement in
    `claimBoostedRewards` this equation fails) -/
theorem reserve_exact (epoch block dsc maxApr minUnbond perBlock : Nat) (accts wl : List Nat)
    (ops : List Op) :
    let s := reach epoch block dsc maxApr minUnbond perBlock accts wl ops
    s.reserve = s.accumulated - (s.paidBase + s.paidBoosted) ∧
    s.paidBase + s.paidBoosted ≤ s.accumulated := by
  intro s
  have h : Inv s := run_inv ops (inv_init epoch block dsc maxApr minUnbond perBlock accts wl)
  have h1 := h.res_eq
  omega

/-- one transaction: the reserve moves by what was generated minus what was paid, nothing else
    (`pb`, `pbo` = base / boosted paid, `tot` = accrued by the settlement of this transaction) -/
theorem reserve_step {s s' : St} {op : Op} {o : Out} (h : step s op = some (s', o)) :
    s'.reserve + (s'.paidBase - s.paidBase) + (s'.paidBoosted - s.paidBoosted)
      = s.reserve + (s'.accumulated - s.accumulated) ∧
    s.paidBase ≤ s'.paidBase ∧ s.paidBoosted ≤ s'.paidBoosted ∧ s.accumulated ≤ s'.accumulated := by
  obtain ⟨tot, cut, inc, pb, pbo, up, down, -, -, e1, -, -, e4, e5, e6, -⟩ := step_eff h
  rw [e1, e4, e5, Nat.add_sub_cancel_left, Nat.add_sub_cancel_left, Nat.add_sub_cancel_left]
  exact ⟨e6, Nat.le_add_right _ _, Nat.le_add_right _ _, Nat.le_add_right _ _⟩

/-- principal is backed: the staking tokens the contract holds, beyond the capacity not yet
    accrued and the reserve, are exactly the directly staked principal (supply minus the
    proxy-virtual stake) plus the outstanding unbond amounts -/
theorem principal_backed (epoch block dsc maxApr minUnbond perBlock : Nat) (accts wl : List Nat)
    (ops : List Op) :
    let s := reach epoch block dsc maxApr minUnbond perBlock accts wl ops
    (s.bal : Int) - ((s.capacity - s.accumulated : Nat) : Int) - s.reserve
      = ((s.supply : Int) - s.virt) + s.unbondOut := by
  intro s
  have h : Inv s := run_inv ops (inv_init epoch block dsc maxApr minUnbond perBlock accts wl)
  have h1 := h.bal_eq
  have h2 := h.acc_le
  omega

/-- the boosted pools are bounded per week (C11): what a week can still pay never exceeds what
    was set aside for it and not yet paid -/
theorem pools_bounded (epoch block dsc maxApr minUnbond perBlock : Nat) (accts wl : List Nat)
    (ops : List Op) (week : Nat) :
    let s := reach epoch block dsc maxApr minUnbond perBlock accts wl ops
    s.b.remaining week ≤ s.b.collected week - s.b.paid week := by
  intro s
  have h : PoolOK s.b := run_pool ops PoolOK.init
  have := h week
  omega

/-- the full coverage statement: reserve ≥ Σ claimable base + Σ boosted pools + undistributed
    (the base part is the potential-function theorem `total_base_bound` of
    Props/C06StakingBound.lean); proved as `reserve_covers` in Props/C05StakingCover.lean -/
def reserve_covers_full : Prop :=
  ∀ (epoch block dsc maxApr minUnbond perBlock : Nat) (accts wl : List Nat) (ops : List Op),
    0 < dsc →
    let s := reach epoch block dsc maxApr minUnbond perBlock accts wl ops
    s.boostedBudget - s.paidBoosted + (s.baseBudget - s.paidBase) ≤ s.reserve ∧ s.paidBase ≤ s.baseBudget

/-- coverage, conditional form: whenever the base rewards paid so far are within the base budget
    (C06 `total_base_bound`), the reserve holds the whole unpaid remainder of both budgets.  Not the
    most that is proved: `reserve_covers_full` above holds (`C05StakingCover.reserve_covers`), and
    `C05StakingCover.reserve_is_unspent` gives both hypotheses and this equation when `0 < dsc`;
    this form asks nothing of `dsc`. -/
theorem reserve_covers_partial (epoch block dsc maxApr minUnbond perBlock : Nat) (accts wl : List Nat)
    (ops : List Op) :
    let s := reach epoch block dsc maxApr minUnbond perBlock accts wl ops
    s.paidBase ≤ s.baseBudget → s.paidBoosted ≤ s.boostedBudget →
    s.reserve = (s.baseBudget - s.paidBase) + (s.boostedBudget - s.paidBoosted) := by
  intro s hb hbo
  have h : Inv s := run_inv ops (inv_init epoch block dsc maxApr minUnbond perBlock accts wl)
  have h1 := h.res_eq
  have h2 := h.budget
  omega

/-- non-vacuity: after claims by two users and a boosted claim the reserve is what is left -/
example :
    let s := reach 5 10 1000000000000 1000000 5 5000 [1, 2, 101] [101]
      [.topUp 100000000, .setBoostedPct 2500, .setFactors ⟨10, 3, 2, 1, 1⟩, .setEnergy 1 10000 100,
       .stake 1 none 100000000000 [], .advance 10 0, .claimBoosted 1 none, .advance 1 7,
       .claim 1 none (1, 100000000000)]
    s.reserve = 1250 ∧ s.accumulated = 55000 ∧ s.paidBase + s.paidBoosted = 53750 ∧
    s.bal = 100000000 + 100000000000 - 53750 := by
  decide

end Mx.C05Staking
