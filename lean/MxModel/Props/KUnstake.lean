/-
  KUnstake — the token-unstake part of the energy model (`Core/Energy.lean`: the penalty split of
  `claimEntries` / `reduceLock`, the unbond epoch of `unlockEarly`, `Entry.restoreCancel`) computes
  what the SOURCE of `locked-asset/token-unstake/src/{fees_handler.rs, unbond_tokens.rs,
  cancel_unstake.rs}` computes.

  `Gen/KUnstake.lean` is regenerated on every run by `bin/gen-kernels` (group `Unstake`):

    * `burn_penalty_split`       `burn_penalty`: burn `⌊penalty · pct / 10000⌋`, the rest to the fees collector
    * `set_fees_burn_percentage` the owner's setter with its range guard
    * `unbond_unlock_epoch`      `depositUserTokens`: the epoch at which an entry becomes claimable
    * `claim_entry_ready`, `claim_entry_amounts`   per entry of `claimUnlockedTokens`: claimable yet?,
                                 locked tokens burned (= the unlocked amount) and the penalty (the rest)
    * `cancel_entry_energy`      per entry of `cancelUnbond`: the energy given back (calls the translated
                                 `Energy` methods of group `Energy`)

  Property C09 (early exit costs exactly the documented penalty) rests on the first, fourth and
  fifth; C08 (energy = time-weighted sum) on the last.
-/
import MxModel.Gen.KUnstake
import MxModel.Core.Energy
import MxModel.Props.KEnergy
import MxModel.Lemmas.KTactic

namespace Mx.KUnstake
open Mx Mx.Gen Mx.Energy

/-- the abort case: a burn percentage above 100 % whose burn exceeds the penalty (checked subtraction) -/
theorem burn_penalty_split_eq (pen pct : Nat) :
    KUnstake.burn_penalty_split pen pct =
      if pen < pen * pct / MAXPCT then none
      else some (pen * pct / MAXPCT, pen - pen * pct / MAXPCT) := by
  have hX : MAXPCT = 10000 := rfl
  k_defs [KUnstake.burn_penalty_split, hX]
  grind

/-- within the setter's range: the model's `burn := pen * burnPct / MAXPCT`, `collected += pen − burn` -/
theorem burn_penalty_split_some (pen pct : Nat) (hp : pct ≤ MAXPCT) :
    KUnstake.burn_penalty_split pen pct =
      some (pen * pct / MAXPCT, pen - pen * pct / MAXPCT) := by
  have hX : MAXPCT = 10000 := rfl
  rw [burn_penalty_split_eq, if_neg]
  rw [hX] at hp ⊢
  have h1 : pen * pct ≤ pen * 10000 := Nat.mul_le_mul_left _ hp
  have h2 : pen * pct / 10000 ≤ pen := by
    apply Nat.div_le_of_le_mul
    rw [Nat.mul_comm 10000 pen]; exact h1
  omega

theorem burn_penalty_split_sum (pen pct b r : Nat)
    (h : KUnstake.burn_penalty_split pen pct = some (b, r)) : b + r = pen := by
  rw [burn_penalty_split_eq] at h
  split at h
  · cases h
  · simp only [Option.some.injEq, Prod.mk.injEq] at h
    omega

theorem set_fees_burn_percentage_eq (pct : Nat) :
    KUnstake.set_fees_burn_percentage pct = if pct ≤ MAXPCT then some pct else none := by
  have hX : MAXPCT = 10000 := rfl
  k_defs [KUnstake.set_fees_burn_percentage, hX]
  try grind

theorem set_fees_burn_percentage_cfg (s : St) (pct : Nat) :
    KUnstake.set_fees_burn_percentage pct = (cfg s (.setBurnPct pct)).map (·.burnPct) := by
  have hX : MAXPCT = 10000 := rfl
  k_defs [KUnstake.set_fees_burn_percentage, cfg, hX]
  try grind

/-- the `unlock` field of the entry the model's `unlockEarly` appends -/
theorem unbond_unlock_epoch_eq (now unbond : Nat) :
    KUnstake.unbond_unlock_epoch now unbond = some (now + unbond) := by
  k_defs [KUnstake.unbond_unlock_epoch]
  try grind

/-- 1 = process the entry, 0 = stop: the model's `takeWhile (fun e => e.unlock ≤ now)` -/
theorem claim_entry_ready_eq (now : Nat) (q : UEntry) :
    KUnstake.claim_entry_ready now q.unlock = some (if q.unlock ≤ now then 1 else 0) := by
  k_defs [KUnstake.claim_entry_ready]
  grind

/-- per claimed entry: (burned locked tokens, penalty); the model's `pen ← sub? q.locked q.unlocked` -/
theorem claim_entry_amounts_eq (q : UEntry) :
    KUnstake.claim_entry_amounts q.locked q.unlocked =
      (sub? q.locked q.unlocked).map fun pen => (q.unlocked, pen) := by
  k_defs [KUnstake.claim_entry_amounts]
  try grind

theorem cancel_entry_energy_eq (e : Entry) (amt unlock now : Nat) :
    KUnstake.cancel_entry_energy e.E e.T unlock now amt =
      some ((e.restoreCancel amt unlock now).E, (e.restoreCancel amt unlock now).T) := by
  k_defs [KUnstake.cancel_entry_energy, KEnergy.add_after_token_lock, KEnergy.add, KEnergy.add_energy_raw,
    KEnergy.remove_energy_raw, Entry.restoreCancel, Entry.addAfterLock, Entry.add, Entry.addExpired]
  grind

theorem restoreCancel_frame (e : Entry) (amt unlock now : Nat) :
    (e.restoreCancel amt unlock now).last = e.last := by
  simp only [Entry.restoreCancel]
  split
  · exact Mx.KEnergy.addAfterLock_frame e amt unlock now
  · rfl

example : KUnstake.burn_penalty_split 1000 2500 = some (250, 750) := by decide
example : KUnstake.burn_penalty_split 3 5000 = some (1, 2) := by decide
example : KUnstake.claim_entry_amounts 100 60 = some (60, 40) := by decide
example : KUnstake.claim_entry_amounts 60 100 = none := by decide
example : KUnstake.cancel_entry_energy 100 5 20 10 7 = some (170, 12) := by decide
example : KUnstake.cancel_entry_energy 100 5 6 10 7 = some (72, 12) := by decide

end Mx.KUnstake
