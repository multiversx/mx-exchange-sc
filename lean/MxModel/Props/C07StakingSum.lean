/-
  C07 (farm-staking side), the HISTORY-LEVEL clauses — supply = sum; owner totals exact.

  Statement (properties.jsonl C07): "The farm-token supply always equals the sum of all
  outstanding position amounts; … Each user's tracked total farm position equals the sum of
  outstanding positions whose recorded owner is that user, also after positions are transferred
  and then used by another account."

  Model: Core/Staking.lean.  The staking farm issues its positions AND its unbond tokens under one
  token identifier / nonce counter (`md n = some (.pos attrs) | some (.unbond unlock)`); the
  outstanding units of nonce `n` are what the accounts of the world hold of it,
  `Σ_{a ∈ accounts} hold a n`.  The sums below range over the nonces created so far (`0 … nonce`);
  `holdings_domain` says nothing is held outside that range or by a non-account, so they are the
  sums over ALL outstanding SFTs.

  Accounts.  `init` takes ANY list of accounts; the sums run over the distinct accounts
  `accts.dedup` (same members, each once), so the theorems need no hypothesis at all.  For a world
  created with distinct accounts (`accts.Nodup`, what the harness does) `accts.dedup = accts`: the
  `…_nodup` corollaries are the same statements with the plain list.

  Proxy endpoints (`stakeFarmThroughProxy`, `claimRewardsWithNewValue`, `unstakeFarmThroughProxy`):
  the staked amount is virtual (no staking tokens move), but the position token, the supply and
  the original caller's total are written exactly as for a direct stake
  (`claimRewardsWithNewValue` replaces the position amount: `supply −= old; += new`, same for the
  owner's total) — so both clauses hold unchanged for them; only the BALANCE clause of C12 / C05
  (`bal + virt = supply + …`) sees the difference.

  Only property theorems live here (helpers: Lemmas/StakingPos.lean, Lemmas/StakingTrans.lean).
  The per-operation clauses of C07 (merge / split arithmetic) are in Props/C07Staking.lean.
-/
import MxModel.Lemmas.StakingTrans

namespace Mx.C07StakingSum
open Mx.Staking

/-- one successful transaction keeps the position-token invariant (`PosInv`: holdings only at
    accounts and created nonces, supply = Σ positions, owner totals = Σ owned positions) -/
theorem pos_step {s s' : St} {op : Op} {o : Out} (hI : PosInv s) (h : step s op = some (s', o)) :
    PosInv s' :=
  step_posInv hI h

/-- the position-token invariant holds in every reachable state: any deployment parameters, any
    accounts, any history of operations (failed ones leave the state unchanged) -/
theorem pos_inv_reachable (epoch block dsc maxApr minUnbond perBlock : Nat) (accts wl : List Nat)
    (ops : List Op) :
    PosInv (run (init epoch block dsc maxApr minUnbond perBlock accts wl) ops) :=
  run_posInv ops (posInv_init epoch block dsc maxApr minUnbond perBlock accts wl)

/-- **supply = sum.**  In every reachable state the reported farm-token supply equals the sum,
    over the position nonces (unbond tokens excluded), of the units of that nonce held by all
    (distinct) accounts. -/
theorem supply_eq_sum (epoch block dsc maxApr minUnbond perBlock : Nat) (accts wl : List Nat)
    (ops : List Op) :
    let s := run (init epoch block dsc maxApr minUnbond perBlock accts wl) ops
    s.supply =
      ((List.range (s.nonce + 1)).map fun n =>
        match s.md n with
        | some (.pos _) => (s.accts.dedup.map fun a => s.hold a n).sum
        | _ => 0).sum :=
  (pos_inv_reachable epoch block dsc maxApr minUnbond perBlock accts wl ops).supply_eq

/-- **owner totals.**  In every reachable state, for EVERY address `u`,
    `userTotalFarmPosition(u)` equals the sum of the outstanding units of the positions whose
    recorded original owner is `u` — whoever holds them now (after plain transfers), and after
    positions recorded for one user were used by another account (the endpoint then moves the
    amount from the old owner's total to the new owner's and re-issues the position under the
    new owner). -/
theorem owner_totals (epoch block dsc maxApr minUnbond perBlock : Nat) (accts wl : List Nat)
    (ops : List Op) (u : Nat) :
    let s := run (init epoch block dsc maxApr minUnbond perBlock accts wl) ops
    s.userTotal u =
      ((List.range (s.nonce + 1)).map fun n =>
        match s.md n with
        | some (.pos a) => if a.owner = u then (s.accts.dedup.map fun c => s.hold c n).sum else 0
        | _ => 0).sum :=
  (pos_inv_reachable epoch block dsc maxApr minUnbond perBlock accts wl ops).owner_eq u

/-- the accounts of a world never change -/
theorem accts_const (epoch block dsc maxApr minUnbond perBlock : Nat) (accts wl : List Nat)
    (ops : List Op) :
    (run (init epoch block dsc maxApr minUnbond perBlock accts wl) ops).accts = accts :=
  run_induction (P := fun t => t.accts = accts) (fun hI h => (step_accts h).trans hI) ops rfl

/-- `supply_eq_sum` for a world created with distinct accounts: the plain list of accounts -/
theorem supply_eq_sum_nodup (epoch block dsc maxApr minUnbond perBlock : Nat) (accts wl : List Nat)
    (hnd : accts.Nodup) (ops : List Op) :
    let s := run (init epoch block dsc maxApr minUnbond perBlock accts wl) ops
    s.supply =
      ((List.range (s.nonce + 1)).map fun n =>
        match s.md n with
        | some (.pos _) => (s.accts.map fun a => s.hold a n).sum
        | _ => 0).sum := by
  intro s
  have h := (pos_inv_reachable epoch block dsc maxApr minUnbond perBlock accts wl ops).supply_eq
  rw [accts_const, hnd.dedup] at h
  rw [accts_const]
  exact h

/-- `owner_totals` for a world created with distinct accounts -/
theorem owner_totals_nodup (epoch block dsc maxApr minUnbond perBlock : Nat) (accts wl : List Nat)
    (hnd : accts.Nodup) (ops : List Op) (u : Nat) :
    let s := run (init epoch block dsc maxApr minUnbond perBlock accts wl) ops
    s.userTotal u =
      ((List.range (s.nonce + 1)).map fun n =>
        match s.md n with
        | some (.pos a) => if a.owner = u then (s.accts.map fun c => s.hold c n).sum else 0
        | _ => 0).sum := by
  intro s
  have h := (pos_inv_reachable epoch block dsc maxApr minUnbond perBlock accts wl ops).owner_eq u
  rw [accts_const, hnd.dedup] at h
  rw [accts_const]
  exact h

/-- the sums above miss nothing: farm-token SFTs are only held by accounts of the world and only
    under nonces created so far -/
theorem holdings_domain (epoch block dsc maxApr minUnbond perBlock : Nat) (accts wl : List Nat)
    (ops : List Op) (a n : Nat) :
    let s := run (init epoch block dsc maxApr minUnbond perBlock accts wl) ops
    s.hold a n ≠ 0 → a ∈ s.accts ∧ n ≤ s.nonce := by
  intro s hne
  exact (pos_inv_reachable epoch block dsc maxApr minUnbond perBlock accts wl ops).domain hne

/-- no user's tracked total exceeds the supply (the positions recorded as `u`'s are among all
    positions) -/
theorem totals_le_supply (epoch block dsc maxApr minUnbond perBlock : Nat) (accts wl : List Nat)
    (ops : List Op) (u : Nat) :
    let s := run (init epoch block dsc maxApr minUnbond perBlock accts wl) ops
    s.userTotal u ≤ s.supply := by
  intro s
  have h := pos_inv_reachable epoch block dsc maxApr minUnbond perBlock accts wl ops
  have h1 : s.userTotal u = _ := h.own u
  have h2 : s.supply = _ := h.sup
  rw [h1, h2]
  apply wsum_le
  intro n _
  simp only [ownW, posW]
  split
  · split <;> omega
  · exact Nat.le_refl _

/-- **transferred and then used by another account.**  In a state that satisfies the invariant
    (every reachable state), when an account `c` claims with units of a position whose recorded
    owner is somebody else (it got them by a plain transfer), exactly the amount sent moves from
    the recorded owner's total — which contains it, nothing saturates — to `c`'s total, nobody
    else's total changes, and the position handed out records `c` as its owner. -/
theorem foreign_position_used {s s' : St} {c : Nat} {pay : Pay} {o : Out} {a : Attrs}
    (hI : PosInv s) (hc : c ∈ s.accts) (h : claimCore s c c [pay] none = some (s', o))
    (ha : posOf s.md pay.1 = some a) (hne : a.owner ≠ c) :
    pay.2 ≤ s.userTotal a.owner ∧ s'.userTotal a.owner = s.userTotal a.owner - pay.2 ∧
    s'.userTotal c = s.userTotal c + pay.2 ∧
    (∀ u, u ≠ c → u ≠ a.owner → s'.userTotal u = s.userTotal u) ∧
    (∃ t, s'.md (s.nonce + 1) = some (.pos t) ∧ t.owner = c ∧ t.amount = pay.2) := by
  obtain ⟨inc, base, p, first, tok, hold0, ut1, merged, ut2, supply2, _, hp, hf, ht, hd, hk, hm,
    _, hu, e⟩ := claimCore_pv h
  simp only [List.head?_cons, Option.some.injEq] at hp
  subst hp
  simp only [newUserTotal, Option.some.injEq] at hu
  subst hu
  simp only [List.tail_cons, mergeParts, Option.some.injEq] at hm
  subst hm
  obtain ⟨_, _, t3, _⟩ := intoPart_spec ht
  have hcov : pay.2 ≤ s.userTotal _ := PosOK.owner_covers hI (List.mem_dedup.mpr hc) hd ha
  have hut : s'.userTotal = ut1 := congrArg PV.ut e
  have hmd : s'.md = Weekly.upd s.md (s.nonce + 1) _ := congrArg PV.md e
  simp only [checkAndUpdate, ha, Option.bind_eq_bind, Option.bind_some, if_neg hne,
    Option.some.injEq] at hk
  subst hk
  refine ⟨hcov, ?_, ?_, fun u h1 h2 => ?_, ⟨⟨s.rps + inc, tok.compounded, tok.amount, c⟩, by rw [hmd, Weekly.upd_same]; rfl, rfl, t3⟩⟩
  · rw [hut, Weekly.upd_other _ _ hne]; simp only [decreaseUT, Weekly.upd_same]; split <;> omega
  · rw [hut, Weekly.upd_same]; simp only [decreaseUT, Weekly.upd_other _ _ (fun e : c = a.owner => hne e.symm)]
  · rw [hut, Weekly.upd_other _ _ h1]; simp only [decreaseUT, Weekly.upd_other _ _ h2]

/-- `decrease_user_farm_position` on unstake is an exact subtraction (the code's saturating
    "`total > amount ? total − amount : clear`" never hides a shortfall): the recorded owner's
    total contains the part taken out, and supply and that total drop by exactly this part -/
theorem unstake_decrease_exact {s s' : St} {c orig : Nat} {pay : Pay} {x : Option Nat} {o : Out}
    (hI : PosInv s) (hc : c ∈ s.accts) (h : unstakeCore s c orig pay x = some (s', o)) :
    ∃ a, posOf s.md pay.1 = some a ∧ pay.2 ≤ s.userTotal a.owner ∧
      s'.userTotal a.owner = s.userTotal a.owner - pay.2 ∧
      (∀ u, u ≠ a.owner → s'.userTotal u = s.userTotal u) ∧ s'.supply + pay.2 = s.supply := by
  obtain ⟨inc, base, hold0, attrs, tok, e, _, hd, ha, ht, hle, e'⟩ := unstakeCore_pv h
  obtain ⟨_, _, t3, _⟩ := intoPart_spec ht
  have hcov : pay.2 ≤ s.userTotal _ := PosOK.owner_covers hI (List.mem_dedup.mpr hc) hd ha
  have hut : s'.userTotal = decreaseUT s.userTotal attrs.owner pay.2 := congrArg PV.ut e'
  have hsup : s'.supply = s.supply - tok.amount := congrArg PV.supply e'
  refine ⟨attrs, ha, hcov, ?_, fun u hu => ?_, by omega⟩
  · rw [hut]; simp only [decreaseUT, Weekly.upd_same]; split <;> omega
  · rw [hut]; simp only [decreaseUT, Weekly.upd_other _ _ hu]

/-- non-vacuity / the "transferred and then used by another account" scenario: user 1 stakes
    1000 and 500, transfers 400 units of the first position to user 2; user 2 claims with them
    (the 400 move from user 1's total to user 2's, the new position records user 2); user 1
    unstakes 100 of the rest (an unbond token of 100 appears under the same token id and does not
    count).  Supply 1400 = 500 (nonce 1, user 1) + 500 (nonce 2, user 1) + 400 (nonce 3, user 2). -/
example :
    let s := run (init 5 10 1000000000000 1000000 2 5000 [1, 2, 101] [101])
      [.topUp 1000000, .stake 1 none 1000 [], .advance 10 0, .stake 1 none 500 [],
       .transfer 1 2 (1, 400), .advance 10 0, .claim 2 none (1, 400), .unstake 1 none (1, 100)]
    s.supply = 1400 ∧ s.userTotal 1 = 1000 ∧ s.userTotal 2 = 400 ∧ s.nonce = 4 ∧
    s.hold 1 1 = 500 ∧ s.hold 1 2 = 500 ∧ s.hold 2 3 = 400 ∧ s.hold 1 4 = 100 ∧
    s.md 4 = some (.unbond 7) ∧
    (s.md 3).map (fun m => match m with | .pos a => a.owner | _ => 0) = some 2 := by
  decide

/-- **merge_no_gain_nary** (farm-staking).  `merge_attributes_from_payments` over the whole payment
    list: the merged position's principal is the base's plus the sum of the paid amounts, and at
    EVERY future index `R` its un-rounded entitlement is at most the base's plus the sum of what the
    paid parts could claim at their own entry indexes — plain list sums over the stored attributes. -/
theorem merge_no_gain_nary {md : Nat → Option Meta} {pays : List Pay} {base out : Attrs}
    (h : mergeParts md base pays = some out) (R : Nat) :
    out.amount = base.amount + (pays.map (·.2)).sum ∧
    out.amount * (R - out.rps) ≤ base.amount * (R - base.rps) +
      (pays.map fun p => p.2 * (match posOf md p.1 with | some a => R - a.rps | none => 0)).sum := by
  have e1 := (mergeParts_amount h).1
  have e2 := mergeParts_pot md R pays base out h
  rw [payTot_eq] at e1
  rw [payW_potW_explicit] at e2
  exact ⟨e1, e2⟩

/-- non-vacuity: two stored positions with different indexes merged into a base -/
example :
    let md : Nat → Option Meta := fun n =>
      if n = 1 then some (.pos ⟨3, 0, 20, 1⟩) else if n = 2 then some (.pos ⟨9, 0, 11, 1⟩) else none
    (mergeParts md ⟨5, 0, 30, 1⟩ [(1, 20), (2, 11)]).map (·.amount) = some 61 := by
  decide

end Mx.C07StakingSum
