/-
  C20 (farm-staking clause, second file) — `calculateRewardsForGivenPosition` versus every
  operation that pays the position's reward, for an ARBITRARY claimer.

  What the Rust has (farm-staking/src/lib.rs): exactly ONE reward view,
  `calculateRewardsForGivenPosition(amount, attributes)`.  It has NO `user` argument (the dex/farm
  view has one) and evaluates the boosted part for `attributes.original_owner`.  There is no
  separate view for `unstakeFarm` or `compoundRewards`; both pay / compound the same reward
  formula, so the one view is also their quote (theorems below).  The amount of the unbond token
  and the unbond epoch have no view.

  For ANY claimer `orig` (own claim, through a whitelisted contract, on behalf, with new value; any
  further merged payments) quote = base + boosted(recorded owner), paid = base + boosted(orig), with
  the SAME base part (`quote_vs_claim_any_claimer`).  Hence quote = paid whenever the boosted rewards
  are claimed for the recorded owner (incl. `claimRewardsOnBehalf`), also for `unstakeFarm` /
  `compoundRewards` by the recorded owner, and whenever holder and owner have equal pending boosted
  rewards.

  FINDING, not excused by any theorem (`received_position_quote_differs`): for a position received
  by transfer and claimed by its holder, the quote and the payment differ (27500 vs 36666 in the
  history `corpus/staking/c20_quote_received_position_staking.ops`; the real contract gives the same
  two numbers).  C20 "in any state the quote is exactly what executing delivers" therefore fails on
  farm-staking for received positions: the view cannot know who will claim.

  The value the view returns in `s` is computed on the view's OWN settlement of `s`
  (`generate_aggregated_rewards` on a fresh cache), which is cell for cell the one `claimRewards`
  performs when executed directly in `s` (`view_settlement_is_claim_settlement`): no intermediate
  settled state is needed for quote = execution.
-/
import MxModel.Lemmas.StakingView

namespace Mx.C20Staking2
open Mx.Staking

/-- **quote versus claim, any claimer.**  In any state: if the view answers `q` for position `p`
    (its attributes `first`) and `claimRewards` — in any variant: caller `c`, boosted rewards claimed
    for `orig`, further payments `rest` merged, optional new value — succeeds in that same state
    paying `o.c`, then both are the same base reward plus a boosted part; the view's boosted part is
    that of the recorded owner, the claim's that of `orig`. -/
theorem quote_vs_claim_any_claimer {s s' st : St} {c orig : Nat} {p : Pay} {rest : List Pay}
    {nv : Option Nat} {first : Attrs} {q : Nat} {o : Out}
    (hf : posOf s.md p.1 = some first)
    (hq : calcRewards s true p.2 first = some (st, q))
    (hx : claimCore s c orig (p :: rest) nv = some (s', o)) :
    ∃ rOwner rOrig,
      claimBoostedYields (genSt s) first.owner (s.userTotal first.owner) = some rOwner ∧
      claimBoostedYields (genSt s) orig (s.userTotal orig) = some rOrig ∧
      q = baseReward (genCache s s.cache) s.dsc p.2 first + rOwner.2.2 ∧
      o.c = baseReward (genCache s s.cache) s.dsc p.2 first + rOrig.2.2 ∧
      o.c + rOwner.2.2 = q + rOrig.2.2 := by
  obtain ⟨_, _, rO, hrO, rfl⟩ := Reward.of_view hq
  obtain ⟨_, _, r, hr, hc⟩ := claimCore_pays hf hx
  exact ⟨rO, r, hrO, hr, rfl, hc, by rw [hc]; omega⟩

/-- **quote = execution when the boosted rewards are claimed for the recorded owner** (any caller,
    any merged payments, with or without new value) -/
theorem quote_eq_exec_owner {s s' st : St} {c : Nat} {p : Pay} {rest : List Pay}
    {nv : Option Nat} {first : Attrs} {q : Nat} {o : Out}
    (hf : posOf s.md p.1 = some first)
    (hq : calcRewards s true p.2 first = some (st, q))
    (hx : claimCore s c first.owner (p :: rest) nv = some (s', o)) : o.c = q :=
  (claimCore_pays hf hx).unique (.of_view hq)

/-- …and such an execution never succeeds where the quote refuses -/
theorem exec_implies_quote_owner {s s' : St} {c : Nat} {p : Pay} {rest : List Pay}
    {nv : Option Nat} {first : Attrs} {o : Out}
    (hf : posOf s.md p.1 = some first)
    (hx : claimCore s c first.owner (p :: rest) nv = some (s', o)) :
    ∃ st, calcRewards s true p.2 first = some (st, o.c) :=
  (claimCore_pays hf hx).view

/-- `claimRewardsOnBehalf` (any authorised caller, any number of payments): the rewards go to the
    recorded owner and are exactly the quote of the first payment -/
theorem quote_eq_exec_on_behalf {s s' st : St} {c : Nat} {p : Pay} {rest : List Pay}
    {first : Attrs} {q : Nat} {o : Out}
    (hf : posOf s.md p.1 = some first)
    (hq : calcRewards s true p.2 first = some (st, q))
    (hx : claimOnBehalf s c (p :: rest) = some (s', o)) : o.c = q := by
  obtain ⟨user, hu, hx⟩ := peel hx
  obtain ⟨_, hx⟩ := peel_req hx
  obtain ⟨p', hp, hu⟩ := peel hu
  obtain rfl : p = p' := Option.some.inj hp
  obtain ⟨a, ha, hu⟩ := peel hu
  obtain rfl := Option.some.inj (hf.symm.trans ha)
  obtain ⟨_, hu⟩ := peel_req hu
  obtain ⟨_, _, hu⟩ := peel hu
  obtain rfl := Option.some.inj hu
  exact quote_eq_exec_owner hf hq hx

/-- `claimRewards` through a whitelisted contract that passes the recorded owner as original
    caller, and `claimRewardsWithNewValue` likewise: exactly the quote -/
theorem quote_eq_exec_whitelisted {s s' st : St} {c : Nat} {p : Pay} {first : Attrs} {q : Nat} {o : Out}
    (hf : posOf s.md p.1 = some first)
    (hq : calcRewards s true p.2 first = some (st, q)) :
    (claimRewards s c (some first.owner) p = some (s', o) → o.c = q) ∧
    (∀ nv, claimNewValue s c first.owner nv p = some (s', o) → o.c = q) := by
  constructor
  · intro hx
    exact quote_eq_exec_owner hf hq (peel_req hx).2
  · intro nv hx
    exact quote_eq_exec_owner hf hq (peel_req hx).2

/-- the statement C20 asks for on farm-staking, for every claimer: whoever claims position `p`
    is paid what the view quoted for it in the same state -/
def quote_eq_exec_any_claimer_full : Prop :=
  ∀ (s s' st : St) (c : Nat) (p : Pay) (first : Attrs) (q : Nat) (o : Out),
    posOf s.md p.1 = some first → calcRewards s true p.2 first = some (st, q) →
    claimRewards s c none p = some (s', o) → o.c = q

/-- the history of `corpus/staking/c20_quote_received_position_staking.ops`: u1 (no energy) stakes,
    u2 (energy) stakes, a boosted week passes, u1 transfers his position to u2 -/
def receivedOps : List Op :=
  [.topUp 100000000, .setBoostedPct 2500, .setFactors ⟨10, 3, 2, 1, 1⟩, .setEnergy 2 10000 100,
   .stake 1 none 100000000000 [], .stake 2 none 50000000000 [], .advance 10 0,
   .claimBoosted 1 none, .claimBoosted 2 none, .advance 1 7, .transfer 1 2 (1, 100000000000)]

/-- **FINDING — the full statement is false.**  In the reachable state after `receivedOps` the
    view quotes 27500 for position 1 (recorded owner u1, no pending boosted rewards) while
    `claimRewards` by its holder u2 in that same state pays 36666 (u2's own pending boosted rewards
    are added).  The real contract returns the same two numbers (replay of the corpus file). -/
theorem received_position_quote_differs : ¬ quote_eq_exec_any_claimer_full := by
  intro h
  have key :
      let s := run (init 5 10 1000000000000 1000000 5 5000 [1, 2, 101] [101]) receivedOps
      posOf s.md 1 = some ⟨0, 0, 100000000000, 1⟩ ∧
      (calcRewards s true 100000000000 ⟨0, 0, 100000000000, 1⟩).map (·.2) = some 27500 ∧
      (claimRewards s 2 none (1, 100000000000)).map (·.2.c) = some 36666 := by decide +kernel
  obtain ⟨k1, k2, k3⟩ := key
  simp only [Option.map_eq_some_iff] at k2 k3
  obtain ⟨⟨st, q⟩, hq, hq2⟩ := k2
  obtain ⟨⟨s', o⟩, hx, ho⟩ := k3
  have := h _ s' st 2 (1, 100000000000) _ q o k1 hq hx
  simp only at ho hq2 this
  omega

/-- what IS proved about any claimer: `claimRewards` by an arbitrary account `c` pays the quote
    corrected by the difference of the two boosted claims (partial form of
    `quote_eq_exec_any_claimer_full`; missing — and false in general — is
    `boosted(c) = boosted(owner)`) -/
theorem quote_eq_exec_any_claimer_partial {s s' st : St} {c : Nat} {p : Pay} {first : Attrs}
    {q : Nat} {o : Out}
    (hf : posOf s.md p.1 = some first)
    (hq : calcRewards s true p.2 first = some (st, q))
    (hx : claimRewards s c none p = some (s', o)) :
    ∃ rOwner rC,
      claimBoostedYields (genSt s) first.owner (s.userTotal first.owner) = some rOwner ∧
      claimBoostedYields (genSt s) c (s.userTotal c) = some rC ∧
      o.c + rOwner.2.2 = q + rC.2.2 ∧ (rC.2.2 = rOwner.2.2 → o.c = q) := by
  simp only [claimRewards] at hx
  obtain ⟨rO, r, h1, h2, _, _, h5⟩ := quote_vs_claim_any_claimer hf hq hx
  exact ⟨rO, r, h1, h2, h5, fun e => by omega⟩

/-! ### the same view is the quote of `unstakeFarm` and `compoundRewards` -/

/-- `unstakeFarm` (own call, through a whitelisted contract, or `unstakeFarmThroughProxy`) with the
    boosted rewards claimed for the recorded owner pays exactly the quote as its reward part -/
theorem quote_eq_unstake {s s' st : St} {c : Nat} {p : Pay} {x : Option Nat} {first : Attrs}
    {q : Nat} {o : Out}
    (hf : posOf s.md p.1 = some first)
    (hq : calcRewards s true p.2 first = some (st, q))
    (hx : unstakeCore s c first.owner p x = some (s', o)) : o.c = q :=
  (unstakeCore_pays hf hx).unique (.of_view hq)

/-- an unstake never succeeds where the quote refuses -/
theorem unstake_implies_quote {s s' : St} {c : Nat} {p : Pay} {x : Option Nat} {first : Attrs} {o : Out}
    (hf : posOf s.md p.1 = some first)
    (hx : unstakeCore s c first.owner p x = some (s', o)) :
    ∃ st, calcRewards s true p.2 first = some (st, o.c) :=
  (unstakeCore_pays hf hx).view

/-- `compoundRewards` by the recorded owner compounds exactly the quote of the first payment -/
theorem quote_eq_compound {s s' st : St} {p : Pay} {rest : List Pay} {first : Attrs} {q : Nat} {o : Out}
    (hf : posOf s.md p.1 = some first)
    (hq : calcRewards s true p.2 first = some (st, q))
    (hx : compound s first.owner (p :: rest) = some (s', o)) : o.c = q :=
  (compound_pays hf hx).unique (.of_view hq)

/-- a compound never succeeds where the quote refuses -/
theorem compound_implies_quote {s s' : St} {p : Pay} {rest : List Pay} {first : Attrs} {o : Out}
    (hf : posOf s.md p.1 = some first)
    (hx : compound s first.owner (p :: rest) = some (s', o)) :
    ∃ st, calcRewards s true p.2 first = some (st, o.c) :=
  (compound_pays hf hx).view

/-! ### the view settles exactly like the operation -/

/-- **the view's internal settlement is the operation's own.**  The real view runs
    `generate_aggregated_rewards` on a cache before computing the quote (in the VM of the test
    framework the query even commits it); `st` is the state that settlement produces from `s`.
    If `claimRewards` (any variant, any claimer) is executed DIRECTLY in `s` — not in `st` — its own
    settlement produces cell for cell the same values: reward index, last reward block,
    accumulated rewards, the base and boosted budgets, and the reserve from which the payout is
    then subtracted.  Together with `quote_eq_exec_owner` (the quote computed on `st`'s cells is
    what the claim in `s` pays) no intermediate settled state is involved in quote = execution. -/
theorem view_settlement_is_claim_settlement {s s' st : St} {c orig : Nat} {p : Pay}
    {rest : List Pay} {nv : Option Nat} {t : Attrs} {amt q : Nat} {o : Out}
    (hq : calcRewards s true amt t = some (st, q))
    (hx : claimCore s c orig (p :: rest) nv = some (s', o)) :
    st.rps = s'.rps ∧ st.lastBlock = s'.lastBlock ∧ st.accumulated = s'.accumulated ∧
    st.baseBudget = s'.baseBudget ∧ st.boostedBudget = s'.boostedBudget ∧
    st.reserve = s'.reserve + o.c := by
  obtain ⟨_, _, rO, _, _, rfl⟩ := calcRewards_eq_some.mp hq
  obtain ⟨_, _, _, _, _, _, _, _, _, _, t⟩ := claimCore_trace hx
  obtain rfl := t.state
  obtain rfl := t.out
  exact ⟨rfl, rfl, rfl, rfl, rfl, (Nat.sub_add_cancel t.reserve).symm⟩

set_option maxRecDepth 8000 in
/-- non-vacuity (same history, plus u1 authorising u2 in the permissions hub): with a boosted week
    pending, the view for u2's own position is 22916 and `unstakeFarm` / `compoundRewards` by u2 pay /
    compound exactly that; the view for the received position 1 is 27500 and `claimRewardsOnBehalf`
    by its holder u2 (rewards to the recorded owner u1) pays exactly that -/
example :
    let s := run (init 5 10 1000000000000 1000000 5 5000 [1, 2, 101] [101])
      (receivedOps ++ [.hubWhitelist 1 2])
    (calcRewards s true 50000000000 ⟨0, 0, 50000000000, 2⟩).map (·.2) = some 22916 ∧
    (unstakeFarm s 2 none (2, 50000000000)).map (·.2.c) = some 22916 ∧
    (compound s 2 [(2, 50000000000)]).map (·.2.c) = some 22916 ∧
    (calcRewards s true 100000000000 ⟨0, 0, 100000000000, 1⟩).map (·.2) = some 27500 ∧
    (claimOnBehalf s 2 [(1, 100000000000)]).map (·.2.c) = some 27500 := by
  decide +kernel

/-- **why quoting must not change state** (farm-staking twin of `C20Farm2.committed_view_breaks_next_quote`):
    in the same reachable state, u2's own position is quoted 22916; had the view's settlement been
    committed (the state `st` the model's view returns next to the amount — what `execute_query` does
    in the test VM), the same quote and the claim would both be 13750: the pending boosted week is
    consumed by the query without being paid.  So the view must be compared with the operation
    executed in the SAME state (`view_settlement_is_claim_settlement`), never after it. -/
theorem committed_view_breaks_next_quote :
    let s := run (init 5 10 1000000000000 1000000 5 5000 [1, 2, 101] [101]) receivedOps
    let t : Attrs := ⟨0, 0, 50000000000, 2⟩
    (calcRewards s true 50000000000 t).map (·.2) = some 22916 ∧
    (claimRewards s 2 none (2, 50000000000)).map (·.2.c) = some 22916 ∧
    ((calcRewards s true 50000000000 t).bind fun r =>
        (calcRewards r.1 true 50000000000 t).map (·.2)) = some 13750 ∧
    ((calcRewards s true 50000000000 t).bind fun r =>
        (claimRewards r.1 2 none (2, 50000000000)).map (·.2.c)) = some 13750 := by
  decide +kernel

end Mx.C20Staking2
