/-
  C16 — Proxy DEX, original-caller ("on behalf") variants of the proxy endpoints.

  Statement (C16): "… Base asset the proxy mints for a pool or farm entry is matched on exit by
  burning the same amount of base asset or, for the part the pool or a penalty kept, of locked
  tokens (with the USER's energy reduced by exactly their contribution) …".

  `enterFarmProxy`, `exitFarmProxy` and `claimRewardsProxy` take an optional original caller that
  only contracts on the proxy's SC whitelist may supply (`get_orig_caller_from_opt`).  The user in
  the statement is that ORIGINAL caller: `exitFarmProxy` hands `&original_caller` to
  `burn_locked_tokens_and_update_energy`, while every output payment goes to the direct caller.
  `removeLiquidityProxy` has no such argument: there the user is the direct caller.

  Model: Core/ProxyDexWho.lean (`stepA`: whitelist gate + the bookkeeping `step` of
  Core/ProxyDex.lean + the per-account ledger `eBy` of the energy the proxy took from each
  account's entry).  The harness reads the same per-account quantity off the real energy factory
  on every transaction (state line `ed=`), for users, the whitelisted manager contract and
  bystanders.
-/
import MxModel.Lemmas.ProxyDexOps
import MxModel.Lemmas.ProxyDexWho

namespace Mx.C16Who
open Mx.ProxyDex

/-- Only a caller on the proxy's SC whitelist can name an original caller: for EVERY operation,
    all arguments and all callee answers, the transaction of a non-whitelisted caller that
    supplies one fails (state unchanged). -/
theorem orig_caller_needs_whitelist (a : StA) (caller u : Nat) (op : Op)
    (h : a.wlist caller = false) : stepA a ⟨caller, some u, op⟩ = none := by
  apply stepA_eq_none_of_orig
  show (if (hasOrigArg op && a.wlist caller) = true then some u else none) = none
  rw [h, Bool.and_false, if_neg Bool.false_ne_true]

/-- Only the three farm endpoints have the argument: an original caller on `addLiquidityProxy`,
    `removeLiquidityProxy`, a merge or an energy increase is rejected whoever sends it. -/
theorem orig_caller_only_on_farm_endpoints (a : StA) (caller u : Nat) (op : Op)
    (h : hasOrigArg op = false) : stepA a ⟨caller, some u, op⟩ = none := by
  apply stepA_eq_none_of_orig
  show (if (hasOrigArg op && a.wlist caller) = true then some u else none) = none
  rw [h, Bool.false_and, if_neg Bool.false_ne_true]

/-- Every accepted transaction, whatever the operation: the outputs go to the DIRECT caller, the
    call is made for the original caller if one is named and for the direct caller otherwise, the
    proxy's whole energy deduction of this transaction is booked on that one account, nobody
    else's entry is touched, and the proxy's bookkeeping is that of the plain model. -/
theorem energy_booked_on_one_account {a a' : StA} {c : Call} {o : OutA}
    (h : stepA a c = some (a', o)) :
    o.to = c.caller ∧ o.eAcc = c.opt.getD c.caller ∧
    (∀ u, c.opt = some u → a.wlist c.caller = true ∧ hasOrigArg c.op = true) ∧
    a'.eBy o.eAcc = a.eBy o.eAcc + o.out.eDed ∧ (∀ i, i ≠ o.eAcc → a'.eBy i = a.eBy i) ∧
    a'.wlist = a.wlist ∧ step a.s c.op = some (a'.s, o.out) := by
  obtain ⟨u, s', o', hu, hs, rfl, rfl⟩ := stepA_eq_some.mp h
  have hacc : u = c.opt.getD c.caller ∧
      (∀ v, c.opt = some v → a.wlist c.caller = true ∧ hasOrigArg c.op = true) := by
    rcases origOf?_eq_some.mp hu with ⟨h1, h2⟩ | ⟨h1, h2, h3⟩
    · exact ⟨by rw [h1, h2]; rfl, fun v hv => by rw [h1] at hv; cases hv⟩
    · exact ⟨by rw [h1]; rfl, fun _ _ => ⟨h3, h2⟩⟩
  refine ⟨rfl, hacc.1, hacc.2, ?_, ?_, rfl, hs⟩
  · show (if u = u then a.eBy u + o'.eDed else a.eBy u) = _
    rw [if_pos rfl]
  · intro i hi
    show (if i = u then a.eBy i + o'.eDed else a.eBy i) = _
    rw [if_neg hi]

/-- **The early-exit penalty is charged to the ORIGINAL caller.**  `exitFarmProxy` of `x` units of
    a wrapped farm token entered with locked tokens, sent by `caller` in the name of `u`, the farm
    returning `farming ≤ x` farming tokens (`x − farming` = the penalty the farm kept), for all
    arguments and callee answers: the transaction is only accepted from a whitelisted caller;
    exactly `x − farming` locked tokens of the recorded nonce are burned; the energy entry of `u`
    drops by exactly `(x − farming) · (unlock − now)`; NOBODY else's entry moves — in particular
    not the direct caller's when `caller ≠ u`; the remaining locked tokens of the recorded nonce
    go to the direct caller. -/
theorem energy_deduction_on_original_caller {a a' : StA} {caller u farm f x farming : Nat}
    {rew : Option LkTok} {o : OutA} {q : WFarm}
    (h : stepA a ⟨caller, some u, .exitFarm farm f x farming rew⟩ = some (a', o))
    (hq : a.s.wf[f]? = some q) (hk : q.kind = .locked) :
    a.wlist caller = true ∧ farming ≤ x ∧ o.out.burned.2 = x - farming ∧
    a'.eBy u = a.eBy u + ((x - farming : Nat) : Int) * ((a.s.unl q.pn : Int) - (a.s.now : Int)) ∧
    (∀ i, i ≠ u → a'.eBy i = a.eBy i) ∧ (caller ≠ u → a'.eBy caller = a.eBy caller) ∧
    o.to = caller ∧ o.eAcc = u ∧
    (∃ p, part q.pa q.fa x = some p ∧ o.out.locked = (q.pn, p - (x - farming))) ∧
    a'.s.burnL = a.s.burnL + (x - farming) := by
  obtain ⟨hto, hacc, hwl, he, hoth, -, hs⟩ := energy_booked_on_one_account h
  obtain ⟨r, p, t⟩ := exitFarm_moved (show exitFarm a.s farm f x farming rew = _ from hs)
  obtain rfl : q = r := Option.some.inj (hq.symm.trans t.lookup)
  have v := t.locked hk
  have hu : o.eAcc = u := hacc
  rw [hu] at he hoth
  refine ⟨(hwl u rfl).1, t.farming_le, v.burned, by rw [he, v.eDed]; rfl, hoth,
    fun hc => hoth caller hc, hto, hu, ⟨p, t.part, v.locked⟩, v.moved.burnL⟩

/-- The same for a position entered with wrapped LP tokens: with a penalty the wrapped LP part is
    shrunk to a new wrapped LP token for the direct caller, the locked tokens that no longer
    back it (`qO − qN`, recomputed pro rata) are burned and their contribution
    `(qO − qN) · (unlock − now)` is taken from the ORIGINAL caller's entry and from nobody else's;
    without a penalty nobody's entry moves. -/
theorem energy_deduction_on_original_caller_lp {a a' : StA} {caller u farm f x farming : Nat}
    {rew : Option LkTok} {o : OutA} {q : WFarm}
    (h : stepA a ⟨caller, some u, .exitFarm farm f x farming rew⟩ = some (a', o))
    (hq : a.s.wf[f]? = some q) (hk : q.kind = .wlp) :
    a.wlist caller = true ∧ o.to = caller ∧ o.eAcc = u ∧
    (∀ i, i ≠ u → a'.eBy i = a.eBy i) ∧ (caller ≠ u → a'.eBy caller = a.eBy caller) ∧
    ∃ p rw, part q.pa q.fa x = some p ∧ a.s.wl[q.pn]? = some rw ∧
      (x = farming → a'.eBy u = a.eBy u ∧ o.out.wOut = (q.pn, p)) ∧
      (x ≠ farming → ∃ qO qN, part rw.locked rw.total p = some qO ∧
          part rw.locked rw.total (p - (x - farming)) = some qN ∧ o.out.burned.2 = qO - qN ∧
          o.out.wOut = (a.s.wl.length, p - (x - farming)) ∧
          a'.eBy u = a.eBy u +
            ((qO - qN : Nat) : Int) * ((a.s.unl rw.k : Int) - (a.s.now : Int))) := by
  obtain ⟨hto, hacc, hwl, he, hoth, -, hs⟩ := energy_booked_on_one_account h
  obtain ⟨r, p, t⟩ := exitFarm_moved (show exitFarm a.s farm f x farming rew = _ from hs)
  obtain rfl : q = r := Option.some.inj (hq.symm.trans t.lookup)
  obtain ⟨rw, hrw, -, h0, h1⟩ := t.wlp hk
  have hu : o.eAcc = u := hacc
  rw [hu] at he hoth
  refine ⟨(hwl u rfl).1, hto, hu, hoth, fun hc => hoth caller hc, p, rw, t.part, hrw, ?_, ?_⟩
  · intro hx
    obtain ⟨hw, -, hz, -⟩ := h0 hx
    exact ⟨by rw [he, hz]; simp, hw⟩
  · intro hx
    obtain ⟨qO, qN, v⟩ := h1 hx
    exact ⟨qO, qN, v.dissolve, v.part, v.burned, v.wOut, by rw [he, v.eDed]; rfl⟩

/-- `removeLiquidityProxy` has no original-caller argument: the locked tokens burned for the
    pool's shortfall (`recorded part − base asset received`) are charged to the DIRECT caller,
    exactly `(p − rb) · (unlock − now)`, and to nobody else. -/
theorem removeLiq_deduction_on_direct_caller {a a' : StA} {caller w x rb ro : Nat}
    {opt : Option Nat} {o : OutA}
    (h : stepA a ⟨caller, opt, .removeLiq w x rb ro⟩ = some (a', o)) :
    opt = none ∧ o.to = caller ∧ o.eAcc = caller ∧ (∀ i, i ≠ caller → a'.eBy i = a.eBy i) ∧
    ∃ r p, a.s.wl[w]? = some r ∧ part r.locked r.total x = some p ∧ o.out.burned.2 = p - rb ∧
      a'.eBy caller = a.eBy caller +
        ((p - rb : Nat) : Int) * ((a.s.unl r.k : Int) - (a.s.now : Int)) := by
  obtain ⟨hto, hacc, hwl, he, hoth, -, hs⟩ := energy_booked_on_one_account h
  have hopt : opt = none := by
    cases opt with
    | none => rfl
    | some v => have := (hwl v rfl).2; cases this
  subst hopt
  have hu : o.eAcc = caller := hacc
  rw [hu] at he hoth
  obtain ⟨r, p, t⟩ := removeLiq_moved (show removeLiq a.s w x rb ro = _ from hs)
  exact ⟨rfl, hto, hu, hoth, r, p, t.lookup, t.part, t.burned, by rw [he, t.eDed]; rfl⟩

/-- Every state reachable with callers and original callers is a state of the plain bookkeeping
    model reached by the accepted operations: all history theorems of Props/C16, C16Run (stated
    over `run (init now) ops`) hold for every history of calls, on behalf or not. -/
theorem runA_is_run (a : StA) (cs : List Call) : ∃ ops, (runA a cs).s = run a.s ops := by
  refine runA_induct (P := fun a b => ∃ ops, b.s = run a.s ops) cs (fun _ => ⟨[], rfl⟩) ?_ a
  rintro c - a a' b o hc ⟨ops, h⟩
  obtain ⟨-, -, -, -, -, -, hs⟩ := energy_booked_on_one_account hc
  refine ⟨c.op :: ops, ?_⟩
  simp only [run, List.foldl_cons, hs]
  exact h

/-- the backing invariant of C16 after every history of calls (on behalf or not) -/
theorem backed_runA (now : Nat) (wl : Nat → Bool) (cs : List Call) :
    Backed (runA (initA now wl) cs).s := by
  obtain ⟨ops, h⟩ := runA_is_run (initA now wl) cs
  rw [h]
  exact run_backed ops (backed_init now)

/-- the whitelist is never changed by a call (only the owner's endpoints, not modelled, change it) -/
theorem wlist_runA (a : StA) (cs : List Call) : (runA a cs).wlist = a.wlist := by
  refine runA_induct (P := fun a b => b.wlist = a.wlist) cs (fun _ => rfl) ?_ a
  intro c _ a a' b o hc h
  obtain ⟨-, -, -, -, -, hw, -⟩ := energy_booked_on_one_account hc
  exact h.trans hw

/-- One accepted call whose energy account is among the accounts `0 … n-1`: the per-account
    ledger total and the proxy's cumulative deduction move by the same amount. -/
theorem ledger_step {a a' : StA} {c : Call} {o : OutA} {n : Nat}
    (h : stepA a c = some (a', o)) (hc : c.caller < n) (ho : ∀ u, c.opt = some u → u < n) :
    sumTo a'.eBy n = sumTo a.eBy n + o.out.eDed ∧ a'.s.eDed = a.s.eDed + o.out.eDed := by
  obtain ⟨u, s', o', hu, hs, rfl, rfl⟩ := stepA_eq_some.mp h
  have hun : u < n := by
    rcases origOf?_eq_some.mp hu with ⟨_, h2⟩ | ⟨h1, _, _⟩
    · rw [h2]; exact hc
    · exact ho u h1
  exact ⟨sumTo_update a.eBy u o'.eDed hun, step_eDed hs⟩

/-- **Conservation of the energy ledger over every history.**  For any history of calls (on
    behalf or not, accepted or rejected) whose callers and original callers are among the
    accounts `0 … n-1`: the sum over these accounts of the energy the proxy took from each entry
    (`sumTo eBy n = Σ_{i<n} eBy i`) grows by exactly the proxy's cumulative deduction `eDed`, which
    is `amount·(unlock − now)` summed over all locked tokens it burned (`energy_delta_exact*`).
    Every unit of energy the proxy removes is charged to exactly one account — the energy account
    of the call — and nothing is charged without a burn. -/
theorem energy_ledger_conservation (a : StA) (cs : List Call) (n : Nat)
    (hb : ∀ c ∈ cs, c.caller < n ∧ ∀ u, c.opt = some u → u < n) :
    sumTo (runA a cs).eBy n - sumTo a.eBy n = (runA a cs).s.eDed - a.s.eDed := by
  refine runA_induct (P := fun a b => sumTo b.eBy n - sumTo a.eBy n = b.s.eDed - a.s.eDed) cs
    (fun _ => by omega) ?_ a
  intro c hc a a' b o hst h
  obtain ⟨h1, h2⟩ := ledger_step hst (hb c hc).1 (hb c hc).2
  omega

/-- from a freshly deployed proxy: the ledger total IS the cumulative deduction -/
theorem energy_ledger_total (now : Nat) (wl : Nat → Bool) (cs : List Call) (n : Nat)
    (hb : ∀ c ∈ cs, c.caller < n ∧ ∀ u, c.opt = some u → u < n) :
    sumTo (runA (initA now wl) cs).eBy n = (runA (initA now wl) cs).s.eDed := by
  have h := energy_ledger_conservation (initA now wl) cs n hb
  have z : sumTo (initA now wl).eBy n = 0 := by
    have : ∀ m, sumTo (fun _ => (0 : Int)) m = 0 := by
      intro m; induction m with
      | zero => rfl
      | succ m ih => simp only [sumTo, ih]; rfl
    exact this n
  have z2 : (initA now wl).s.eDed = 0 := rfl
  omega

/-- non-vacuity: user 1 enters with locked tokens (nonce 1, unlock 370), hands the position to
    the whitelisted manager 4, which exits 300 units in his name at epoch 10 with a penalty of 3;
    a non-whitelisted user 2 trying the same is rejected; the manager then removes liquidity it
    holds itself after the price moved (shortfall 50).  User 1 is charged 3·360, the manager
    50·360, user 2 and bystander 3 nothing. -/
example :
    let a0 := runA (initA 10 (fun i => i == 4))
      [⟨1, none, .lock ⟨1, 0, 370⟩⟩,
       ⟨1, none, .addLiq 1 1000 500 [] 499 1000 500 none⟩,
       ⟨1, none, .enterL 0 1 600 [] (1, 600) none none []⟩]
    let a1 := runA a0
      [⟨2, some 1, .exitFarm 0 1 300 297 none⟩,
       ⟨4, some 1, .exitFarm 0 1 300 297 none⟩,
       ⟨4, none, .removeLiq 1 100 150 60⟩]
    a0.s.wf[1]? = some ⟨0, 1, 600, .locked, 1, 600, 600, 600, 600⟩ ∧
    stepA a0 ⟨2, some 1, .exitFarm 0 1 300 297 none⟩ = none ∧
    (stepA a0 ⟨4, some 1, .exitFarm 0 1 300 297 none⟩).isSome = true ∧
    a1.eBy 1 = 3 * 360 ∧ a1.eBy 4 = 50 * 360 ∧ a1.eBy 2 = 0 ∧ a1.eBy 3 = 0 ∧
    a1.s.eDed = (3 + 50) * 360 ∧ a1.s.burnL = 53 ∧ sumTo a1.eBy 5 = a1.s.eDed := by
  decide

end Mx.C16Who
