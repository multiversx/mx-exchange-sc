/-
  KStakingToken — the staking model's position attributes (`Core/Staking.lean`: `Attrs.intoPart`,
  `Attrs.mergeWith`) compute what the SOURCE of `StakingFarmTokenAttributes`
  (`farm-staking/farm-staking/src/token_attributes.rs`, `common/traits/fixed-supply-token`) computes.

  `Gen/KStakingToken.lean` is regenerated on every run by `bin/gen-kernels`.
-/
import MxModel.Gen.KStakingToken
import MxModel.Props.KMath
import MxModel.Core.Staking
import MxModel.Lemmas.KTactic

namespace Mx.KStakingToken
open Mx Mx.Gen Mx.Staking

theorem rule_of_three_eq (x full total : Nat) :
    KStakingToken.rule_of_three x full total =
      if x = total then some full else if total = 0 then none else some (full * x / total) := by
  k_defs [KStakingToken.rule_of_three, KStakingToken.get_total_supply]
  try grind

theorem into_part_eq (t : Attrs) (x : Nat) :
    KStakingToken.into_part x t.compounded t.amount =
      (t.intoPart x).map (fun p => (p.compounded, p.amount)) := by
  k_defs [KStakingToken.into_part, KStakingToken.get_total_supply, Attrs.intoPart, rule_of_three_eq]
  grind

theorem intoPart_frame {t p : Attrs} {x : Nat} (h : t.intoPart x = some p) :
    p.rps = t.rps ∧ p.owner = t.owner := by
  simp only [Attrs.intoPart] at h
  split at h
  · cases h; exact ⟨rfl, rfl⟩
  · simp only [Option.bind_eq_bind, Option.bind_eq_some_iff, req_eq_some, Option.pure_def,
      Option.some.injEq] at h
    obtain ⟨_, _, rfl⟩ := h
    exact ⟨rfl, rfl⟩

theorem merge_with_eq (t o : Attrs) :
    KStakingToken.merge_with t.compounded t.amount t.rps o.compounded o.amount o.rps =
      (t.mergeWith o).map (fun m => (m.compounded, m.amount, m.rps)) := by
  k_defs [KStakingToken.merge_with, KStakingToken.get_total_supply, Attrs.mergeWith,
    Mx.KMath.weighted_average_round_up_eq, weightedAvgRoundUp, ceilDiv]
  grind

theorem mergeWith_frame {t o m : Attrs} (h : t.mergeWith o = some m) : m.owner = t.owner := by
  simp only [Attrs.mergeWith, Option.bind_eq_bind, Option.bind_eq_some_iff, req_eq_some,
    Option.pure_def, Option.some.injEq] at h
  obtain ⟨_, _, rfl⟩ := h
  rfl

theorem get_initial_farming_tokens_eq (comp amt : Nat) :
    KStakingToken.get_initial_farming_tokens comp amt =
      if amt < comp then none else some (amt - comp) := by
  k_defs [KStakingToken.get_initial_farming_tokens]
  grind

example : KStakingToken.into_part 30 10 100 = some (3, 30) := by decide
example : KStakingToken.merge_with 1 10 100 2 20 101 = some (3, 30, 101) := by decide

end Mx.KStakingToken
