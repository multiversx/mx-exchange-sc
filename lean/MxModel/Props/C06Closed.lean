/-
  C06 — the base-reward budget in CLOSED FORM, as a function of the history.

  `Props/C06.lean` bounds the base rewards paid by the ghost counter `baseBudget`.  Here the counter is
  eliminated: it is recomputed from the history's admin operations, advances and settlement points
  alone (Lemmas/FarmBudget.lean), and bounded by the emission of the intervals of constant
  configuration.

  Vocabulary (all pure functions, none reads `baseBudget`):
  * `cfgOf s = (perBlock, produce, pct, lastBlock, block)`; `Cfg.next c op` = effect of a successful `op`;
  * `settles op` = the operation calls `generate` (enter, enterOnBehalf, claim, claimOnBehalf, compound, exit,
    claimBoosted, setPerBlock, endProduce, setPct); merge, transfer, startProduce, setFactors, collect, pause, …
    and `advance` do not;
  * `sliceBase pb pr pct d = m − ⌊m·pct/10000⌋` with `m = pb·d` while producing, else `0`;
  * `succOps s ops` = the operations of the history that succeeded (failed ones change nothing);
  * `budgetOf s ops = Σ over the settling operations of sliceBase (configuration met there)`;
  * `(cfgOf s).intervals start (succOps s ops)` = the intervals between consecutive configuration
    changes (setPerBlock / setPct / endProduce / startProduce), each with the rate, production flag and
    percentage in force and the number of blocks elapsed in it; `totalEmission` = Σ `perBlock_i·blocks_i`
    over the producing intervals, `totalEmissionS` = Σ `perBlock_i·blocks_i·(10000 − pct_i)`.

  What is and is not an equality.  The boosted cut is floored PER SETTLEMENT, so `baseBudget` is an
  exact function of the settlement points (`base_budget_is_history_function`) but NOT the one-shot
  expression `Σ_i (M_i − ⌊M_i·pct_i/10000⌋)` over the intervals (`interval_one_shot_not_exact`); against
  the intervals it is determined up to less than one unit per settlement
  (`base_budget_interval_bounds` weighted, `interval_one_shot_partial` for the one-shot form).  Blocks elapsed while production is off contribute 0;
  blocks not yet settled at the end of the history are the pending emission `minted s`, which is in the
  intervals' emission but not in `baseBudget`.
-/
import MxModel.Lemmas.FarmBudget
import MxModel.Props.C06

namespace Mx.C06Closed
open Mx.Farm

/-- **base_budget_step.**  Every successful operation, for ALL arguments: if it is one of the settling
    operations it adds exactly `m − ⌊m·pct/10000⌋` to the base budget, where
    `m = perBlock·(block − lastBlock)` while producing and `0` otherwise — all under the configuration in
    force BEFORE the operation; every other operation (merge, transfer, startProduce, setFactors, advance, …)
    adds nothing.  The configuration itself moves by the pure function `Cfg.next`. -/
theorem base_budget_step {s s' : St} {op : Op} {o : Out} (h : step s op = some (s', o)) :
    s'.baseBudget = s.baseBudget +
      (if settles op then sliceBase s.perBlock s.produce s.pct (s.block - s.lastBlock) else 0) ∧
    cfgOf s' = (cfgOf s).next op := by
  have e := (step_budget h).2
  simp only [ev, Prod.mk.injEq] at e
  exact ⟨e.2.2, e.1⟩

/-- a failed operation changes nothing, so a history and its successful operations reach the same state -/
theorem failed_ops_irrelevant (s : St) (ops : List Op) : run s (succOps s ops) = run s ops :=
  run_succOps ops s

/-- **base_budget_is_history_function (any start state).**  Along every history the base budget grows
    by `budgetOf s ops`, a function of the start configuration and the successful operations only, and
    the configuration reached is the pure trace `Cfg.run`. -/
theorem base_budget_run (s : St) (ops : List Op) :
    (run s ops).baseBudget = s.baseBudget + budgetOf s ops ∧
    cfgOf (run s ops) = (cfgOf s).run (succOps s ops) :=
  ⟨(run_budget ops s).2.2, (run_budget ops s).1⟩

/-- **base_budget_is_history_function.**  In every state reachable from `init` the ghost counter
    `baseBudget` EQUALS the closed expression computed from the history: Σ over the settlement points of
    `perBlock·Δblocks − ⌊perBlock·Δblocks·pct/10000⌋` (0 while production is off) under the configuration
    met at that point, starting from `(perBlock, produce, pct, lastBlock, block) = (pb, produce, 0, 0, 0)`. -/
theorem base_budget_is_history_function (kind : Kind) (same : Bool) (dsc pb : Nat) (produce : Bool)
    (users : List Nat) (e0 : Nat) (ops : List Op) :
    (run (init kind same dsc pb produce users e0) ops).baseBudget
      = (Cfg.mk pb produce 0 0 0).budget (succOps (init kind same dsc pb produce users e0) ops) := by
  have h := (run_budget ops (init kind same dsc pb produce users e0)).2.2
  rw [h]
  show 0 + _ = _
  rw [Nat.zero_add]
  rfl

/-- **total_base_bound_closed.**  Over ANY history the base rewards paid never exceed the closed-form
    budget of the history (no ghost counter on the right-hand side). -/
theorem total_base_bound_closed (kind : Kind) (same : Bool) (dsc pb : Nat) (produce : Bool)
    (users : List Nat) (e0 : Nat) (hnd : users.Nodup) (hd : dsc ≠ 0) (ops : List Op) :
    (run (init kind same dsc pb produce users e0) ops).paidBase
      ≤ budgetOf (init kind same dsc pb produce users e0) ops := by
  have h1 := C06.total_base_bound kind same dsc pb produce users e0 hnd hd ops
  have h2 := base_budget_is_history_function kind same dsc pb produce users e0 ops
  rw [h2] at h1
  exact h1

/-- … and even together with everything still claimable -/
theorem total_base_bound_closed_with_claimable (kind : Kind) (same : Bool) (dsc pb : Nat) (produce : Bool)
    (users : List Nat) (e0 : Nat) (hnd : users.Nodup) (hd : dsc ≠ 0) (ops : List Op) :
    let s := run (init kind same dsc pb produce users e0) ops
    ((nonceList s).map fun n => baseReward s.dsc s.rps (heldBy s n) (rpsOf s n)).sum + s.paidBase
      ≤ budgetOf (init kind same dsc pb produce users e0) ops := by
  intro s
  have h1 := C06.total_base_bound_with_claimable kind same dsc pb produce users e0 hnd hd ops
  have h2 := base_budget_is_history_function kind same dsc pb produce users e0 ops
  simp only at h1
  rw [h2] at h1
  exact h1

/-- the intervals of constant configuration of a history from `init` -/
def intervalsOf (s : St) (ops : List Op) : List Ival := (cfgOf s).intervals s.block (succOps s ops)

theorem init_cfg (kind : Kind) (same : Bool) (dsc pb : Nat) (produce : Bool) (users : List Nat) (e0 : Nat) :
    cfgOf (init kind same dsc pb produce users e0) = ⟨pb, produce, 0, 0, 0⟩ := rfl

/-- **emission_closed_form.**  For every history from `init`: the emission settled so far (Σ over the
    settlement points of `perBlock·Δblocks`) plus the emission still pending at the end (`minted`, the
    blocks since the last settlement) equals Σ over the intervals of constant configuration of
    `perBlock_i · blocks_i`, counting only the intervals in which production was on. -/
theorem emission_closed_form (kind : Kind) (same : Bool) (dsc pb : Nat) (produce : Bool)
    (users : List Nat) (e0 : Nat) (ops : List Op) :
    let s0 := init kind same dsc pb produce users e0
    (cfgOf s0).mintSum (succOps s0 ops) + minted (run s0 ops) = totalEmission (intervalsOf s0 ops) := by
  intro s0
  obtain ⟨r1, r2, _⟩ := run_budget ops s0
  obtain ⟨i1, _⟩ := Cfg.intervals_mint (succOps s0 ops) (cfgOf s0) s0.block ⟨Nat.le_refl _, Nat.zero_le _⟩ r2
    (Nat.le_refl _)
  rw [show (cfgOf s0).lastBlock - s0.block = 0 from rfl, sliceMint_zero, Nat.zero_add] at i1
  rw [minted_cfg, r1]
  exact i1.symm

/-- **generated_closed_form.**  The emission counter `generated` (for a minting farm: the reward tokens
    actually minted) is exactly the closed form: in every state reachable from `init`,
    `generated + pending emission = Σ_i perBlock_i · blocks_i` over the producing intervals — so the
    emission bound of `base_budget_le_emission` is attained, not merely an upper estimate — and the base
    budget never exceeds what was emitted. -/
theorem generated_closed_form (kind : Kind) (same : Bool) (dsc pb : Nat) (produce : Bool)
    (users : List Nat) (e0 : Nat) (ops : List Op) :
    let s0 := init kind same dsc pb produce users e0
    (run s0 ops).generated + minted (run s0 ops) = totalEmission (intervalsOf s0 ops) ∧
    (run s0 ops).baseBudget ≤ (run s0 ops).generated := by
  intro s0
  have h := run_generated ops s0
  have h1 : (cfgOf s0).mintSum (succOps s0 ops) + minted (run s0 ops)
      = totalEmission (intervalsOf s0 ops) := emission_closed_form kind same dsc pb produce users e0 ops
  have h2 : (run s0 ops).baseBudget = (cfgOf s0).budget (succOps s0 ops) :=
    base_budget_is_history_function kind same dsc pb produce users e0 ops
  have h3 := Cfg.budget_le_mintSum (succOps s0 ops) (cfgOf s0)
  have hg : s0.generated = 0 := rfl
  exact ⟨by omega, by omega⟩

/-- **base_budget_le_emission.**  For every history from `init`: the base budget plus the emission
    still pending is at most the total emission of the producing intervals
    `Σ_i perBlock_i · blocks_i` — blocks elapsed while production is off contribute nothing. -/
theorem base_budget_le_emission (kind : Kind) (same : Bool) (dsc pb : Nat) (produce : Bool)
    (users : List Nat) (e0 : Nat) (ops : List Op) :
    let s0 := init kind same dsc pb produce users e0
    (run s0 ops).baseBudget + minted (run s0 ops) ≤ totalEmission (intervalsOf s0 ops) := by
  intro s0
  have h1 : (cfgOf s0).mintSum (succOps s0 ops) + minted (run s0 ops)
      = totalEmission (intervalsOf s0 ops) := emission_closed_form kind same dsc pb produce users e0 ops
  have h2 : (run s0 ops).baseBudget = (cfgOf s0).budget (succOps s0 ops) :=
    base_budget_is_history_function kind same dsc pb produce users e0 ops
  have h3 := Cfg.budget_le_mintSum (succOps s0 ops) (cfgOf s0)
  omega

/-- **base_budget_interval_bounds.**  For every history from `init`, with
    `E = Σ_i perBlock_i · blocks_i · (10000 − pct_i)` over the producing intervals, `P` the pending emission
    and `k` the number of settling operations:
    `E ≤ 10000·baseBudget + P·(10000 − pct) ≤ E + 9999·k` — the budget is the intervals' base share up to
    the per-settlement floors (less than one unit each). -/
theorem base_budget_interval_bounds (kind : Kind) (same : Bool) (dsc pb : Nat) (produce : Bool)
    (users : List Nat) (e0 : Nat) (ops : List Op) :
    let s0 := init kind same dsc pb produce users e0
    let s := run s0 ops
    totalEmissionS (intervalsOf s0 ops) ≤ 10000 * s.baseBudget + minted s * (10000 - s.pct) ∧
    10000 * s.baseBudget + minted s * (10000 - s.pct)
      ≤ totalEmissionS (intervalsOf s0 ops) + 9999 * nSettle (succOps s0 ops) := by
  intro s0 s
  obtain ⟨r1, r2, _⟩ := run_budget ops s0
  have hw : (cfgOf s0).WF := ⟨Nat.le_refl _, Nat.zero_le _⟩
  obtain ⟨_, i2⟩ := Cfg.intervals_mint (succOps s0 ops) (cfgOf s0) s0.block hw r2 (Nat.le_refl _)
  obtain ⟨b1, b2⟩ := Cfg.budget_scaled _ _ hw r2
  have h2 : s.baseBudget = (cfgOf s0).budget (succOps s0 ops) :=
    base_budget_is_history_function kind same dsc pb produce users e0 ops
  have hp : minted s * (10000 - s.pct)
      = ((cfgOf s0).run (succOps s0 ops)).mint * (10000 - ((cfgOf s0).run (succOps s0 ops)).pct) := by
    rw [minted_cfg, ← r1]; rfl
  rw [show (cfgOf s0).lastBlock - s0.block = 0 from rfl, sliceMint_zero, Nat.zero_mul, Nat.zero_add] at i2
  rw [h2, hp, show totalEmissionS (intervalsOf s0 ops) = _ from i2]
  generalize ((cfgOf s0).run (succOps s0 ops)).mint * (10000 - ((cfgOf s0).run (succOps s0 ops)).pct) = X at *
  omega

/-- **paid_base_le_emission.**  The headline: over any history, the base rewards paid (even together
    with the emission still pending) are bounded by the total emission of the producing intervals, and —
    sharper — `10000·paidBase ≤ Σ_i perBlock_i·blocks_i·(10000 − pct_i) + 9999·k`. -/
theorem paid_base_le_emission (kind : Kind) (same : Bool) (dsc pb : Nat) (produce : Bool)
    (users : List Nat) (e0 : Nat) (hnd : users.Nodup) (hd : dsc ≠ 0) (ops : List Op) :
    let s0 := init kind same dsc pb produce users e0
    let s := run s0 ops
    s.paidBase + minted s ≤ totalEmission (intervalsOf s0 ops) ∧
    10000 * s.paidBase + minted s * (10000 - s.pct)
      ≤ totalEmissionS (intervalsOf s0 ops) + 9999 * nSettle (succOps s0 ops) := by
  intro s0 s
  have h0 : s.paidBase ≤ s.baseBudget := C06.total_base_bound kind same dsc pb produce users e0 hnd hd ops
  have h1 : s.baseBudget + minted s ≤ totalEmission (intervalsOf s0 ops) :=
    base_budget_le_emission kind same dsc pb produce users e0 ops
  have h2' : 10000 * s.baseBudget + minted s * (10000 - s.pct)
      ≤ totalEmissionS (intervalsOf s0 ops) + 9999 * nSettle (succOps s0 ops) :=
    (base_budget_interval_bounds kind same dsc pb produce users e0 ops).2
  refine ⟨by omega, ?_⟩
  generalize minted s * (10000 - s.pct) = X at *
  omega

/-- **interval_one_shot_partial.**  For every history from `init`, with
    `F = Σ_i (perBlock_i·blocks_i − ⌊perBlock_i·blocks_i·pct_i/10000⌋)` over the intervals of constant
    configuration (producing intervals only; `Ival.baseOneShot`), `k` the number of settling operations and
    `p = m − ⌊m·pct/10000⌋` the base share of the emission `m` still pending at the end:
    `F ≤ baseBudget + p ≤ F + k + 1`.
    So the interval formula is a LOWER bound of the budget (once the pending blocks are settled), and the
    budget exceeds it by less than one unit per settlement.  What is missing for equality is not a proof:
    equality is false (`interval_one_shot_not_exact`). -/
theorem interval_one_shot_partial (kind : Kind) (same : Bool) (dsc pb : Nat) (produce : Bool)
    (users : List Nat) (e0 : Nat) (ops : List Op) :
    let s0 := init kind same dsc pb produce users e0
    let s := run s0 ops
    totalBaseOneShot (intervalsOf s0 ops)
      ≤ s.baseBudget + sliceBase s.perBlock s.produce s.pct (s.block - s.lastBlock) ∧
    s.baseBudget + sliceBase s.perBlock s.produce s.pct (s.block - s.lastBlock)
      ≤ totalBaseOneShot (intervalsOf s0 ops) + nSettle (succOps s0 ops) + 1 := by
  intro s0 s
  obtain ⟨r1, r2, _⟩ := run_budget ops s0
  have hw : (cfgOf s0).WF := ⟨Nat.le_refl _, Nat.zero_le _⟩
  have h2 : s.baseBudget = (cfgOf s0).budget (succOps s0 ops) :=
    base_budget_is_history_function kind same dsc pb produce users e0 ops
  have hz : sliceBase (cfgOf s0).perBlock (cfgOf s0).produce (cfgOf s0).pct ((cfgOf s0).lastBlock - s0.block) = 0 :=
    sliceBase_zero _ _ _
  obtain ⟨o1, o2⟩ := Cfg.intervals_oneShot (succOps s0 ops) (cfgOf s0) s0.block 0 0 hw r2 (Nat.le_refl _)
    (by rw [hz]) (by rw [hz])
  have hp : sliceBase s.perBlock s.produce s.pct (s.block - s.lastBlock)
      = ((cfgOf s0).run (succOps s0 ops)).base := by rw [← r1]; rfl
  rw [h2, hp]
  unfold intervalsOf
  omega

/-- **paid_base_le_interval_formula.**  Over any history the base rewards paid
    are at most `Σ_i (perBlock_i·blocks_i − ⌊perBlock_i·blocks_i·pct_i/10000⌋)` over the intervals of
    constant configuration, plus the rounding slack of one unit per settlement. -/
theorem paid_base_le_interval_formula (kind : Kind) (same : Bool) (dsc pb : Nat) (produce : Bool)
    (users : List Nat) (e0 : Nat) (hnd : users.Nodup) (hd : dsc ≠ 0) (ops : List Op) :
    let s0 := init kind same dsc pb produce users e0
    (run s0 ops).paidBase ≤ totalBaseOneShot (intervalsOf s0 ops) + nSettle (succOps s0 ops) + 1 := by
  intro s0
  have h0 : (run s0 ops).paidBase ≤ (run s0 ops).baseBudget :=
    C06.total_base_bound kind same dsc pb produce users e0 hnd hd ops
  have h1 : (run s0 ops).baseBudget + sliceBase (run s0 ops).perBlock (run s0 ops).produce (run s0 ops).pct
      ((run s0 ops).block - (run s0 ops).lastBlock)
      ≤ totalBaseOneShot (intervalsOf s0 ops) + nSettle (succOps s0 ops) + 1 :=
    (interval_one_shot_partial kind same dsc pb produce users e0 ops).2
  omega

/-- the one-shot interval formula as an equality: `baseBudget = Σ_i (perBlock_i·blocks_i − ⌊perBlock_i·blocks_i·pct_i/10000⌋)`
    whenever nothing is pending.  FALSE (the floor is taken per settlement): see below. -/
def interval_one_shot_exact_full : Prop :=
  ∀ (kind : Kind) (same : Bool) (dsc pb : Nat) (produce : Bool) (users : List Nat) (e0 : Nat) (ops : List Op),
    minted (run (init kind same dsc pb produce users e0) ops) = 0 →
    (run (init kind same dsc pb produce users e0) ops).baseBudget
      = totalBaseOneShot (intervalsOf (init kind same dsc pb produce users e0) ops)

/-- counter-example history: 50 % boosted, one reward unit per block, a claim after each of two blocks:
    each settlement emits 1 and cuts `⌊1/2⌋ = 0`, so the base budget is 2, while the one-shot interval
    formula gives `2 − ⌊2/2⌋ = 1`.  (Rounding in favour of the BASE side; the real contract's
    `take_reward_slice` floors the boosted part in exactly the same way.) -/
theorem interval_one_shot_not_exact : ¬ interval_one_shot_exact_full := by
  intro h
  have := h .mint false 1000 1 true [1] 0
    [.setPct OWNER 5000, .enter 1 none 5 [], .advance 1 0, .claim 1 none [(1, 5)], .advance 2 0,
     .claim 1 none [(2, 5)]]
  revert this
  decide

/-- a history with four configuration changes (setPct, setPerBlock, endProduce, startProduce), two users,
    claims / enter / exit, two failed operations (unknown caller, non-owner `setPct`) and two blocks still
    unsettled at the end -/
def demo : List Op :=
  [.enter 1 none 1000 [], .advance 10 0, .claim 1 none [(1, 1000)], .setPct OWNER 2500, .advance 13 0,
   .enter 2 none 3000 [], .advance 17 1, .setPerBlock OWNER 70, .advance 20 1, .claim 1 none [(2, 1000)],
   .claim 9 none [(2, 1000)], .setPct 1 100,
   .endProduce OWNER, .advance 30 2, .claim 2 none [(3, 3000)], .startProduce OWNER, .advance 33 2,
   .exit 2 none 5 3000, .advance 35 2]

/-- the concrete numbers: five intervals `(101,on,0 %,10) (101,on,25 %,7) (70,on,25 %,3) (70,off,25 %,10)
    (70,on,25 %,5)`, emission `1010 + 707 + 210 + 0 + 350 = 2277` of which `140` (2 blocks at 70) is still
    pending; 17 of 19 operations succeed, 9 of them settle; base budget `1857` = closed form, `1816` paid;
    weighted: `19602500 ≤ 10000·1857 + 140·7500 = 19620000 ≤ 19602500 + 9999·9`;
    one-shot interval formula `1010 + 531 + 158 + 0 + 263 = 1962 ≤ 1857 + 105 = 1962 ≤ 1962 + 9 + 1`. -/
example :
    let s0 := init .mint false 1000000000000 101 true [1, 2] 0
    let s := run s0 demo
    (succOps s0 demo).length = 17 ∧ nSettle (succOps s0 demo) = 9 ∧
    intervalsOf s0 demo = [⟨101, true, 0, 10⟩, ⟨101, true, 2500, 7⟩, ⟨70, true, 2500, 3⟩,
      ⟨70, false, 2500, 10⟩, ⟨70, true, 2500, 5⟩] ∧
    totalEmission (intervalsOf s0 demo) = 2277 ∧ totalEmissionS (intervalsOf s0 demo) = 19602500 ∧
    minted s = 140 ∧ s.pct = 2500 ∧ (cfgOf s0).mintSum (succOps s0 demo) = 2137 ∧
    s.generated = 2137 ∧ s.baseBudget = 1857 ∧ budgetOf s0 demo = 1857 ∧ s.paidBase = 1816 ∧
    totalBaseOneShot (intervalsOf s0 demo) = 1962 ∧
    sliceBase s.perBlock s.produce s.pct (s.block - s.lastBlock) = 105 := by
  decide

/-- the step-level statement on a concrete settlement: in the state before the `setPerBlock` of `demo`
    4 blocks are pending at rate 101 and 25 %: `404 − ⌊404·2500/10000⌋ = 303` is added -/
example :
    let s := run (init .mint false 1000000000000 101 true [1, 2] 0) (demo.take 7)
    sliceBase s.perBlock s.produce s.pct (s.block - s.lastBlock) = 303 ∧
    (step s (.setPerBlock OWNER 70)).map (fun r => r.1.baseBudget) = some (s.baseBudget + 303) ∧
    (step s (.merge 1 none [(2, 1000)])).map (fun r => r.1.baseBudget) = some s.baseBudget := by
  decide

end Mx.C06Closed
