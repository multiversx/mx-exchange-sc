/-
  C06 — Farm base rewards: pro rata in stake and time, never retroactive or over-issued
  (dex/farm, dex/farm-with-locked-rewards; farm-staking has its own file).

  Statement: a position's base reward on claim / exit / compound is `⌊amount·(RPS_now − RPS_entry)/DSC⌋`;
  the index only grows, by `⌊base_share·DSC/supply⌋` per settlement for the blocks elapsed while
  production is on (nothing at zero supply); a position earns nothing for blocks before it entered;
  rate / percentage / production changes settle under the old configuration first.

  Model: Core/Farm.lean.  `minted s` = `perBlock·(block − lastBlock)` while producing (0 otherwise),
  `cutOf s` = the boosted cut `⌊minted·pct/10000⌋`, `baseShare s = minted s − cutOf s`,
  `rpsIncr s = ⌊baseShare s·dsc/supply⌋` (0 at zero supply) — Lemmas/FarmSpec.lean.
-/
import MxModel.Lemmas.FarmRps
import MxModel.Lemmas.FarmArith
import MxModel.Lemmas.FarmPot

namespace Mx.C06
open Mx.Farm

/-- **reward_formula (claim / compound).**  The base part of what `claimRewards`,
    `claimRewardsOnBehalf`, `compoundRewards` pay for the first payment `(nonce, amount)` is
    `⌊amount·(rps_now − rps_entry)/dsc⌋` (0 if the entry index is not below), where `rps_now` is the
    index AFTER settling up to the current block and `rps_entry` the index recorded in the token. -/
theorem reward_formula_claim {s s' : St} {caller orig : Nat} {pays : List (Nat × Nat)} {cmp : Bool} {o : Out}
    (h : claimCore s caller orig pays cmp = some (s', o)) :
    ∃ n a att, pays.head? = some (n, a) ∧ s.attrs n = some att ∧ s'.rps = s.rps + rpsIncr s ∧
      o.base = (if att.rps < s'.rps then a * (s'.rps - att.rps) / s.dsc else 0) ∧
      o.rew = o.base + o.boosted := by
  obtain ⟨n, a, att, h1, h2, h3, h4, h5⟩ := claimCore_rv h
  have hr : s'.rps = s.rps + rpsIncr s := congrArg RV.rps h5
  exact ⟨n, a, att, h1, h2, hr, by rw [h3, hr]; rfl, h4⟩

/-- **reward_formula (exit).**  Same formula for the amount leaving through `exitFarm`. -/
theorem reward_formula_exit {s s' : St} {caller : Nat} {opt : Option Nat} {n a : Nat} {o : Out}
    (h : exitFarm s caller opt n a = some (s', o)) :
    ∃ att, s.attrs n = some att ∧ s'.rps = s.rps + rpsIncr s ∧
      o.base = (if att.rps < s'.rps then a * (s'.rps - att.rps) / s.dsc else 0) ∧
      o.rew = o.base + o.boosted := by
  obtain ⟨att, h2, _, h3, h4, h5⟩ := exitFarm_rv h
  have hr : s'.rps = s.rps + rpsIncr s := congrArg RV.rps h5
  exact ⟨att, h2, hr, by rw [h3, hr]; rfl, h4⟩

/-- **rps_mono.**  No operation ever lowers the reward-per-share index … -/
theorem rps_mono_step {s s' : St} {op : Op} {o : Out} (h : step s op = some (s', o)) : s.rps ≤ s'.rps := by
  rcases step_rpsMove h with ⟨h1, _⟩ | ⟨h1, _⟩ | ⟨h1, _⟩ <;> omega

/-- … hence it is monotone along every history. -/
theorem rps_mono (s : St) (ops : List Op) : s.rps ≤ (run s ops).rps :=
  run_induction (P := fun s' => s.rps ≤ s'.rps) ops (Nat.le_refl _) fun h hs => Nat.le_trans h (rps_mono_step hs)

/-- **rps_increment.**  An operation either leaves index and last reward block alone, or performs
    exactly one settlement: `rps += ⌊(minted − cut)·dsc/supply⌋` (nothing when the supply is 0),
    `last := block` — with `minted = perBlock·(block − last)` while producing and 0 otherwise, all under
    the configuration in force BEFORE the operation; or it is `startProduceRewards`, which only moves
    the last reward block to now. -/
theorem rps_increment {s s' : St} {op : Op} {o : Out} (h : step s op = some (s', o)) :
    (s'.rps = s.rps ∧ s'.lastBlock = s.lastBlock) ∨
    (s'.rps = s.rps + (if s.supply = 0 then 0 else (minted s - cutOf s) * s.dsc / s.supply) ∧
      s'.lastBlock = (if s.lastBlock < s.block then s.block else s.lastBlock)) ∨
    (s'.rps = s.rps ∧ s'.lastBlock = s.block) := by
  rcases step_rpsMove h with ⟨h1, h2⟩ | ⟨h1, h2⟩ | ⟨h1, h2⟩
  · exact Or.inl ⟨h1, h2⟩
  · exact Or.inr (Or.inl ⟨h1, h2⟩)
  · exact Or.inr (Or.inr ⟨h1, h2⟩)

theorem minted_eq (s : St) :
    minted s = (if s.lastBlock < s.block ∧ s.produce = true then s.perBlock * (s.block - s.lastBlock) else 0) := by
  unfold minted
  by_cases h1 : s.lastBlock < s.block <;> by_cases h2 : s.produce = true <;> simp [h1, h2]

/-- after a settlement nothing more is emitted in the same block: several operations in one block
    share a single emission -/
theorem no_double_emission {s t : St} (h : rv t = settledRV s) : minted t = 0 := by
  have h3 : t.lastBlock = if s.lastBlock < s.block then s.block else s.lastBlock := congrArg RV.lastBlock h
  have h4 : t.block = s.block := congrArg RV.block h
  unfold minted
  rw [if_neg]
  rw [h3, h4]
  split <;> omega

/-- **no_retro_entry.**  The position created by a plain `enterFarm` records the index as settled
    up to the entering block, so its base reward at that index is 0: it earns nothing for blocks
    up to and including the block it entered in. -/
theorem no_retro_entry {s s' : St} {caller orig dst amt : Nat} {o : Out}
    (h : enterCore s caller orig dst amt [] = some (s', o)) :
    ∃ a, s'.attrs o.nonce = some a ∧ a.rps = s'.rps ∧ a.amt = amt ∧
      baseReward s'.dsc s'.rps amt a.rps = 0 ∧ s'.rps = s.rps + rpsIncr s := by
  obtain ⟨a, hm, h1, _⟩ := enterCore_created h
  obtain rfl := Option.some.inj hm
  exact ⟨_, h1, rfl, rfl, baseReward_same _ _ _, congrArg RV.rps (enterCore_rv h)⟩

/-- **no_retro_entry_merge.**  `enterFarm` WITH farm tokens sent along (enter-and-merge, any number of
    extra payments `(nonce, amount)`): the token created has principal `amt + Σ paid amounts`, and at
    EVERY future index `R` it can claim at most `amt·(R − index settled to the entering block)` — the
    fresh principal earns from NOW on only — plus what the merged-in positions could already claim at
    their own entry indexes (read from the pre-state attributes).  At `R = s'.rps` the fresh part
    contributes exactly 0: merging on entry gives the new stake nothing retroactive. -/
theorem no_retro_entry_merge {s s' : St} {caller orig dst amt : Nat} {extra : List (Nat × Nat)} {o : Out}
    (h : enterCore s caller orig dst amt extra = some (s', o)) :
    ∃ a, s'.attrs o.nonce = some a ∧ a.amt = amt + (extra.map (·.2)).sum ∧
      (∀ R, a.amt * (R - a.rps) ≤ amt * (R - s'.rps) +
        (extra.map fun p => p.2 * (R - (match s.attrs p.1 with | some b => b.rps | none => 0))).sum) ∧
      a.amt * (s'.rps - a.rps) ≤
        (extra.map fun p => p.2 * (s'.rps - (match s.attrs p.1 with | some b => b.rps | none => 0))).sum := by
  obtain ⟨a, hm, h1, _⟩ := enterCore_created h
  have h2 : a.amt = amt + paySum extra := (mergeParts_amt extra hm).1
  have h3 : ∀ R, a.amt * (R - a.rps) ≤ amt * (R - s'.rps) +
      (extra.map fun p => p.2 * (R - (match s.attrs p.1 with | some b => b.rps | none => 0))).sum :=
    fun R => payW_potW_explicit s.attrs R extra ▸ mergeParts_pot extra R hm
  refine ⟨a, h1, by rw [h2, paySum_eq_sum], h3, ?_⟩
  have := h3 s'.rps
  rw [Nat.sub_self, Nat.mul_zero, Nat.zero_add] at this
  exact this

/-- non-vacuity: enter 20 together with an older position of 30 after the index has moved -/
example :
    let s := run (init .mint false 7 10 true [1] 0) [.enter 1 none 30 [], .advance 5 0]
    (enterCore s 1 1 1 20 [(1, 30)]).map (fun r => (r.2.amt, (r.1.attrs r.2.nonce).map (·.amt))) =
      some (50, some 50) := by decide

theorem base_reward_mono {dsc a r rps1 rps2 : Nat} (h : rps1 ≤ rps2) :
    baseReward dsc rps1 a r ≤ baseReward dsc rps2 a r := baseReward_mono_rps h

/-- **admin_settles_first.**  `setPerBlockRewardAmount`, `endProduceRewards`,
    `setBoostedYieldsRewardsPercentage`: the post-state is "settle at this block under the OLD rate /
    percentage / production flag, then change the field"; `startProduceRewards` (only possible while
    production is off) just restarts the clock at the current block — none of them is retroactive. -/
theorem admin_settles_first {s s' : St} {c : Nat} :
    (∀ x, setPerBlock s c x = some s' → rv s' = { settledRV s with perBlock := x }) ∧
    (endProduce s c = some s' → rv s' = { settledRV s with produce := false }) ∧
    (∀ p, setPct s c p = some s' → rv s' = { settledRV s with pct := p }) ∧
    (startProduce s c = some s' → s.produce = false ∧
        rv s' = { rv s with produce := true, lastBlock := s.block }) := by
  refine ⟨fun x h => ?_, fun h => ?_, fun p h => ?_, fun h => ?_⟩
  · obtain ⟨_, _, s1, h1, rfl⟩ := setPerBlock_some h
    exact congrArg (fun v : RV => { v with perBlock := x }) (settle_rv h1 : rv s1 = _)
  · obtain ⟨_, s1, h1, rfl⟩ := endProduce_some h
    exact congrArg (fun v : RV => { v with produce := false }) (settle_rv h1 : rv s1 = _)
  · obtain ⟨_, _, s1, h1, rfl⟩ := setPct_some h
    exact congrArg (fun v : RV => { v with pct := p }) (settle_rv h1 : rv s1 = _)
  · obtain ⟨_, _, hn, rfl⟩ := startProduce_some h
    exact ⟨hn, rfl⟩

/-- **total_base_bound.**  Over ANY history (any schedule of enters / exits / merges / transfers of
    several users, any spacing of blocks incl. several operations per block and idle gaps with zero
    supply, any reconfiguration points, any `dsc ≠ 0` and rate) the base rewards paid never exceed the
    sum over the settled intervals of `perBlock·Δblocks − boosted cut` (= `baseBudget`).  Proved with
    the potential `Σ outstanding·(rps − entry)` (Lemmas/FarmPot.lean): a settlement adds at most
    `base·dsc` to it, a payment removes at least `dsc·paid`, merging rounds the entry index up. -/
theorem total_base_bound (kind : Kind) (same : Bool) (dsc pb : Nat) (produce : Bool) (users : List Nat)
    (e0 : Nat) (hnd : users.Nodup) (hd : dsc ≠ 0) (ops : List Op) :
    (run (init kind same dsc pb produce users e0) ops).paidBase ≤
      (run (init kind same dsc pb produce users e0) ops).baseBudget :=
  Farm.total_base_bound kind same dsc pb produce users e0 hnd hd ops

/-- stronger: even together with everything still claimable (each nonce's outstanding amount
    claimed in one piece, the most favourable rounding) the base budget is not exceeded -/
theorem total_base_bound_with_claimable (kind : Kind) (same : Bool) (dsc pb : Nat) (produce : Bool)
    (users : List Nat) (e0 : Nat) (hnd : users.Nodup) (hd : dsc ≠ 0) (ops : List Op) :
    let s := run (init kind same dsc pb produce users e0) ops
    ((nonceList s).map fun n => baseReward s.dsc s.rps (heldBy s n) (rpsOf s n)).sum + s.paidBase ≤ s.baseBudget :=
  Farm.claimable_le kind same dsc pb produce users e0 hnd hd ops

/-- non-vacuity: two users, a reconfiguration between their operations, small `dsc` -/
example :
    let s := run (init .mint false 7 10 true [1, 2] 0)
      [.enter 1 none 3 [], .advance 5 0, .enter 2 none 4 [], .setPerBlock OWNER 100, .advance 6 0,
       .claim 1 none [(1, 3)], .claim 2 none [(2, 4)]]
    s.rps = 216 ∧ s.lastBlock = 6 ∧ s.paidBase = 149 ∧ s.baseBudget = 150 := by decide

end Mx.C06
