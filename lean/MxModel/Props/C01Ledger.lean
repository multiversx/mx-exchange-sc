/-
  C01 (per-account ledger) — "… the LP total supply it reports equals the sum of LP tokens held
  by all accounts (including the permanently locked minimum liquidity) …", and the pool tokens
  are conserved across every wallet.

  Model: Core/PairLedger.lean = Core/Pair.lean + the ESDT wallet of every account that calls
  the pair (`L.accts`), the pair contract's own wallet kept by transfer book-keeping
  (`L.pairA / pairB / pairLp`) and everything ever handed to the accounts (`L.supplyA / supplyB`).
  The wallets are compared with the REAL ESDT balances after every transaction of the
  correspondence run (`acct=` entry of the state line, harness `w_pair`).

  Every theorem quantifies over ALL histories of ledger operations (`LOp.call i op`: account
  `i` calls the pair with any operation and any arguments; `LOp.xfer src dst token x`: a plain
  ESDT transfer of LP / pool tokens between two accounts, no contract involved — see
  Props/C01Xfer.lean; `LOp.fund`: the test faucet) from a freshly deployed pair and any initial
  endowment.
-/
import MxModel.Lemmas.PairLedgerInv

namespace Mx.C01Ledger
open Mx.Pair Mx.PairLedger

/-- one ledger operation preserves the ledger invariant (any caller, operation, arguments) -/
theorem inv_step {l l' : L} {op : LOp} {o : Out} (hi : LInv l) (h : stepL l op = some (l', o)) :
    LInv l' :=
  stepL_inv hi h

/-- the ledger invariant holds after every history -/
theorem inv_run (total special : Nat) (adder : Option Nat) (cap : Nat) (funds : List (Nat × Nat))
    (ops : List LOp) : LInv (runL (initL total special adder cap funds) ops) :=
  runL_inv ops (initL_inv total special adder cap funds)

/-- (1) After every history the LP supply the pair reports is EXACTLY the sum of the LP tokens
    in all accounts' wallets plus the LP tokens the pair contract itself holds (the locked
    minimum liquidity) — no LP token exists outside these wallets and none is counted twice.
    It also equals the model's minted-minus-burned counter `lpCirc`. -/
theorem lp_supply_eq_sum_of_holdings (total special : Nat) (adder : Option Nat) (cap : Nat)
    (funds : List (Nat × Nat)) (ops : List LOp) :
    let l := runL (initL total special adder cap funds) ops
    l.p.S = sumOf (·.lp) l.accts + l.pairLp ∧ l.p.S = l.p.lpCirc := by
  have h := inv_run total special adder cap funds ops
  exact ⟨h.lpSum, h.inv.supply⟩

/-- (2a) After every history: once the pool has liquidity the pair contract's own LP wallet
    holds exactly the 1000 units of minimum liquidity (so at least 1000), and before that it
    holds nothing; in particular no account can ever withdraw them. -/
theorem locked_minimum_held_by_pair (total special : Nat) (adder : Option Nat) (cap : Nat)
    (funds : List (Nat × Nat)) (ops : List LOp) :
    let l := runL (initL total special adder cap funds) ops
    (0 < l.p.S → l.pairLp = MINLIQ ∧ sumOf (·.lp) l.accts + MINLIQ = l.p.S) ∧
    (l.p.S = 0 → l.pairLp = 0 ∧ sumOf (·.lp) l.accts = 0) := by
  intro l
  have h : LInv l := inv_run total special adder cap funds ops
  have h1 := h.pairLp
  have h2 := h.lpSum
  refine ⟨fun hS => ?_, fun hS => ?_⟩
  · have := h.inv.ownPos hS
    exact ⟨by omega, by omega⟩
  · have := h.inv.ownZero hS
    exact ⟨by omega, by omega⟩

/-- (2b) The pair contract's own LP wallet never decreases: whatever happens after a history
    `before`, it holds at least what it held then. -/
theorem pair_lp_never_decreases (total special : Nat) (adder : Option Nat) (cap : Nat)
    (funds : List (Nat × Nat)) (before after : List LOp) :
    (runL (initL total special adder cap funds) before).pairLp ≤
    (runL (initL total special adder cap funds) (before ++ after)).pairLp := by
  rw [runL_append]
  exact runL_pairLp_mono after (inv_run total special adder cap funds before)

/-- (2c) Once liquidity exists it exists forever, and from then on the pair holds its 1000
    locked LP units after every later transaction. -/
theorem locked_minimum_forever (total special : Nat) (adder : Option Nat) (cap : Nat)
    (funds : List (Nat × Nat)) (before after : List LOp)
    (h : 0 < (runL (initL total special adder cap funds) before).p.S) :
    let l := runL (initL total special adder cap funds) (before ++ after)
    0 < l.p.S ∧ l.pairLp = MINLIQ := by
  intro l
  have hb := inv_run total special adder cap funds before
  have hS : 0 < l.p.S := by
    show 0 < (runL _ (before ++ after)).p.S
    rw [runL_append, runL_p]
    exact run_S_pos _ h
  exact ⟨hS, ((locked_minimum_held_by_pair total special adder cap funds (before ++ after)).1 hS).1⟩

/-- (3) Conservation of both pool tokens across ALL wallets, after every history: everything
    ever handed to the accounts (initial endowment + faucet) is, to the unit, in some account's
    wallet, in the pair contract's wallet, burned, in the fees collector, forwarded to a
    trusted pair, or held by simple-lock as the backing of LOCKED tokens.  Nothing appears
    from nowhere and nothing vanishes. -/
theorem token_conservation (total special : Nat) (adder : Option Nat) (cap : Nat)
    (funds : List (Nat × Nat)) (ops : List LOp) :
    let l := runL (initL total special adder cap funds) ops
    l.supplyA = sumOf (·.a) l.accts + l.pairA + l.p.burn1 + l.p.coll1 + l.p.ext1 + l.p.slk1 ∧
    l.supplyB = sumOf (·.b) l.accts + l.pairB + l.p.burn2 + l.p.coll2 + l.p.ext2 + l.p.slk2 := by
  have h := inv_run total special adder cap funds ops
  exact ⟨h.consA, h.consB⟩

/-- (3') The supply side of (3): a call of the pair never creates pool tokens — only the
    faucet does, and by exactly the amount it hands out. -/
theorem calls_create_nothing {l l' : L} {i : Nat} {op : Op} {o : Out}
    (h : stepL l (.call i op) = some (l', o)) : l'.supplyA = l.supplyA ∧ l'.supplyB = l.supplyB := by
  obtain ⟨_, _, _, _, _, _, _, _, _, _, _, e6, e7⟩ := stepL_call_spec h
  exact ⟨e6, e7⟩

/-- (4) The pair contract's wallet as kept by transfer book-keeping (received from callers −
    sent to callers − moved to the sinks) coincides after every history with the balances the
    pair model debits and credits itself (`bal1/bal2/lpOwn`); hence C01's backing statement
    `reserve ≤ balance` is a statement about the ledger's pair wallet. -/
theorem pair_wallet_eq_model_balances (total special : Nat) (adder : Option Nat) (cap : Nat)
    (funds : List (Nat × Nat)) (ops : List LOp) :
    let l := runL (initL total special adder cap funds) ops
    l.pairA = l.p.bal1 ∧ l.pairB = l.p.bal2 ∧ l.pairLp = l.p.lpOwn ∧
    l.p.r1 ≤ l.pairA ∧ l.p.r2 ≤ l.pairB := by
  have h := inv_run total special adder cap funds ops
  refine ⟨h.pairA, h.pairB, h.pairLp, ?_, ?_⟩
  · rw [h.pairA]; exact h.inv.back1
  · rw [h.pairB]; exact h.inv.back2

/-- (5) After every history the LOCKED tokens in the accounts' wallets (per wrapped pool
    token) equal simple-lock's holdings of that pool token: every LOCKED token any account
    holds is backed 1:1. -/
theorem locked_tokens_backed (total special : Nat) (adder : Option Nat) (cap : Nat)
    (funds : List (Nat × Nat)) (ops : List LOp) :
    let l := runL (initL total special adder cap funds) ops
    sumOf (·.lkA) l.accts = l.p.slk1 ∧ sumOf (·.lkB) l.accts = l.p.slk2 := by
  have h := inv_run total special adder cap funds ops
  exact ⟨h.lkA, h.lkB⟩

/-- The pair inside the ledger is a pair reachable by `Pair.run` (so every theorem of
    Props/C01–C04 about `run (init …) ops` applies to it): a ledger history differs from a pair
    history only in that calls whose caller cannot pay are failed transactions. -/
theorem ledger_pair_reachable (total special : Nat) (adder : Option Nat) (cap : Nat)
    (funds : List (Nat × Nat)) (ops : List LOp) :
    ∃ pops : List Op, (runL (initL total special adder cap funds) ops).p =
      run (init total special adder cap) pops :=
  ⟨_, runL_p ops _⟩

/-- A ledger call fails only if the pair rejects the operation, the account does not exist, or
    the caller's wallet is short of what the call sends (all real failure modes). -/
theorem call_succeeds {l : L} {i : Nat} {op : Op} {p' : St} {o : Out} {acc : Acct}
    (hs : step l.p op = some (p', o)) (ha : l.accts[i]? = some acc)
    (h1 : (move op o).payA ≤ acc.a) (h2 : (move op o).payB ≤ acc.b)
    (h3 : (move op o).payLp ≤ acc.lp) : (stepL l (.call i op)).isSome = true := by
  have := pay_isSome h1 h2 h3
  obtain ⟨acc', hp⟩ := Option.isSome_iff_exists.mp this
  simp [stepL, hs, ha, hp]

/-- non-vacuity: three accounts, a history with liquidity added by two of them, fee routing to
    the burn address / the collector, a LOCKED swap output, a removal, a faucet top-up and a
    call rejected because the caller holds no LP; all ledger columns are live. -/
example :
    let l := runL (initL 300 50 none 8 [(5000000, 5000000), (3000000, 3000000), (100, 100)])
      [.call 2 (.cfg (.setState .active)), .call 0 (.addLiq 1000000 2000000 1 1),
       .call 2 (.cfg (.addDest .first)), .call 2 (.cfg (.addDest .second)),
       .call 2 (.cfg (.setCollector 50000)), .call 2 (.advance 3),
       .call 2 (.lock true (.setSc .simpleLock)), .call 2 (.lock true (.setDeadline 2)),
       .call 2 (.lock true (.setUnlock 7)), .call 1 (.addLiq 500000 1000000 1 1),
       .call 1 (.swapIn .ab 100000 1), .call 2 (.epoch 2), .call 0 (.swapOut .ba 500000 1000),
       .call 2 (.removeLiq 5000 1 1), .fund 2 true 7000, .call 0 (.removeLiq 5000 1 1)]
    l.p.S = 1495000 ∧ l.pairLp = 1000 ∧ (l.accts.map (·.lp)) = [994000, 500000, 0] ∧
    0 < l.p.burn1 ∧ 0 < l.p.coll1 ∧ 0 < l.p.slk2 ∧ (l.accts.map (·.lkB)) = [0, l.p.slk2, 0] ∧
    l.supplyA = 8000100 + 6900 ∧ l.p.r1 < l.pairA := by
  decide

end Mx.C01Ledger
