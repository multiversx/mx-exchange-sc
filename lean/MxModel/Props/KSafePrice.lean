/-
  KSafePrice — the safe-price model (`Core/Pair.lean`: `Obs.next`, `SP.update`; `Core/SafePrice.lean`:
  `interp`, `weighted`, `priceOf`) computes what the SOURCE of `dex/pair/src/{safe_price.rs,
  safe_price_view.rs}` computes.

  `Gen/KSafePrice.lean` is regenerated on every run by `bin/gen-kernels` (group `SafePrice`):

    * `compute_new_observation`                         = `Obs.next`   (write side, every reserve change)
    * `update_safe_price` fragment `new_index = …`      = the ring index of `SP.update`
    * `compute_weighted_amounts`                        = `weighted`
    * `price_observation_by_linear_interpolation` (from `let left_weight`)  = `interp`
    * `compute_weighted_price` (from the token dispatch) = `priceOf`

  A `PriceObservation` is the tuple of its fields; the model's `Obs` is
  (`acc1`, `acc2`, `accS`, `w`, `round`) = (first_token_reserve_accumulated,
  second_token_reserve_accumulated, lp_supply_accumulated, weight_accumulated, recording_round).
  The order of a RESULT tuple is fixed by the translator (doc string of bin/gen-kernels): fields of a
  copied-and-updated record alphabetically, fields of a record literal as written.

  Proof style: Lemmas/KTactic.lean (`k_defs`, then `grind`) — no step names a branch condition or an
  operand order of the generated text.
-/
import MxModel.Gen.KSafePrice
import MxModel.Core.SafePrice
import MxModel.Lemmas.KTactic

namespace Mx.KSafePrice
open Mx Mx.Gen Mx.Pair Mx.SafePrice

/-! ### write side (safe_price.rs) -/

/-- The source's round difference is a checked `u64` subtraction: it aborts for a stored observation
    from the future (never on a chain whose rounds grow). -/
theorem compute_new_observation_eq (o : Obs) (now r1 r2 S : Nat) :
    KSafePrice.compute_new_observation now r1 r2 S o.acc1 o.accS o.round o.acc2 o.w =
      if o.round ≠ 0 ∧ now < o.round then none
      else some ((o.next now r1 r2 S).acc1, (o.next now r1 r2 S).accS, (o.next now r1 r2 S).round,
                 (o.next now r1 r2 S).acc2, (o.next now r1 r2 S).w) := by
  k_defs [KSafePrice.compute_new_observation, Obs.next]
  grind

theorem compute_new_observation_some (o : Obs) (now r1 r2 S : Nat) (h : o.round ≤ now) :
    KSafePrice.compute_new_observation now r1 r2 S o.acc1 o.accS o.round o.acc2 o.w =
      some ((o.next now r1 r2 S).acc1, (o.next now r1 r2 S).accS, (o.next now r1 r2 S).round,
            (o.next now r1 r2 S).acc2, (o.next now r1 r2 S).w) := by
  rw [compute_new_observation_eq, if_neg (by omega)]

theorem compute_new_observation_first (now r1 r2 S : Nat) :
    KSafePrice.compute_new_observation now r1 r2 S 0 0 0 0 0 = some (r1, S, now, r2, 1) := by
  k_defs [KSafePrice.compute_new_observation]
  grind

theorem next_observation_index_closed (cur : Nat) :
    KSafePrice.next_observation_index cur = some (cur % 65536 + 1, cur % 65536 + 1) := by
  k_defs [KSafePrice.next_observation_index]
  grind

/-- the ring index of the model's `SP.update` for a non-empty buffer, at capacity `MAX_OBSERVATIONS` -/
theorem next_observation_index_eq (p : SP) (hcap : p.cap = 65536) :
    KSafePrice.next_observation_index p.cur = some (p.cur % p.cap + 1, p.cur % p.cap + 1) := by
  rw [next_observation_index_closed, hcap]

theorem next_observation_index_range (cur i j : Nat)
    (h : KSafePrice.next_observation_index cur = some (i, j)) : 1 ≤ i ∧ i ≤ 65536 ∧ j = i := by
  rw [next_observation_index_closed] at h
  simp only [Option.some.injEq, Prod.mk.injEq] at h
  omega

/-! ### read side (safe_price_view.rs) -/

theorem compute_weighted_amounts_eq (f l : Obs) :
    KSafePrice.compute_weighted_amounts f.acc1 f.accS f.acc2 f.w l.acc1 l.accS l.acc2 l.w =
      (weighted f l).map fun wa => (wa.w1, wa.w2, wa.wS) := by
  k_defs [KSafePrice.compute_weighted_amounts, weighted]
  grind

theorem interpolate_observation_eq (L R : Obs) (q : Nat) :
    KSafePrice.interpolate_observation L.acc1 L.accS L.round L.acc2 L.w R.acc1 R.accS R.round R.acc2 q =
      (interp L R q).map fun o => (o.acc1, o.acc2, o.w, o.round, o.accS) := by
  k_defs [KSafePrice.interpolate_observation, interp]
  grind

theorem weighted_price_first (wa : WA) (amt first second : Nat) :
    KSafePrice.weighted_price amt first first second wa.w1 wa.w2 =
      (priceOf wa (some .ab) amt).map fun out => (second, 0, out) := by
  k_defs [KSafePrice.weighted_price, priceOf]
  grind

theorem weighted_price_second (wa : WA) (amt first second : Nat) (hne : second ≠ first) :
    KSafePrice.weighted_price amt second first second wa.w1 wa.w2 =
      (priceOf wa (some .ba) amt).map fun out => (first, 0, out) := by
  k_defs [KSafePrice.weighted_price, priceOf]
  grind

theorem weighted_price_other (wa : WA) (amt tok first second : Nat) (h1 : tok ≠ first)
    (h2 : tok ≠ second) :
    KSafePrice.weighted_price amt tok first second wa.w1 wa.w2 = none ∧ priceOf wa none amt = none := by
  refine ⟨?_, rfl⟩
  k_defs [KSafePrice.weighted_price]
  grind

theorem safe_price_runs_source (f l : Obs) (wa : WA) (amt out first second : Nat)
    (hw : weighted f l = some wa) (hp : priceOf wa (some .ab) amt = some out) :
    KSafePrice.compute_weighted_amounts f.acc1 f.accS f.acc2 f.w l.acc1 l.accS l.acc2 l.w =
      some (wa.w1, wa.w2, wa.wS) ∧
    KSafePrice.weighted_price amt first first second wa.w1 wa.w2 = some (second, 0, out) := by
  refine ⟨?_, ?_⟩
  · rw [compute_weighted_amounts_eq, hw]; rfl
  · rw [weighted_price_first, hp]; rfl

example : KSafePrice.compute_new_observation 15 100 200 50 1000 500 10 2000 7 =
    some (1500, 750, 15, 3000, 12) := by decide
example : KSafePrice.compute_new_observation 5 100 200 50 1000 500 10 2000 7 = none := by decide
example : KSafePrice.next_observation_index 65536 = some (1, 1) := by decide
example : KSafePrice.compute_weighted_amounts 100 0 200 5 400 90 800 8 = some (100, 200, 0) := by decide
example : KSafePrice.compute_weighted_amounts 100 10 200 5 400 100 800 8 = some (100, 200, 30) := by decide
example : KSafePrice.compute_weighted_amounts 100 10 200 5 400 100 800 5 = none := by decide
example : KSafePrice.weighted_price 10 1 1 2 100 300 = some (2, 0, 30) := by decide
example : KSafePrice.weighted_price 10 3 1 2 100 300 = none := by decide

end Mx.KSafePrice
