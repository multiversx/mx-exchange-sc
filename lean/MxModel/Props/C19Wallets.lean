/-
  C19, clause "rewards claimed on behalf go to the position owner" — on WALLETS.

  `Props/C19Models.lean` states the clause on what the wallet-less farm model records (the owner's
  entitlement, the recorded owner of the new position, the energy entry).  This file states it on the
  per-account wallet ledger `Core/FarmLedger.lean` (farm model + every account's wallet of the farming
  token and of the token rewards are paid in: the reward token for dex/farm, the LOCKED reward tokens
  for farm-with-locked-rewards), whose wallets are compared with the REAL ESDT balances of every user
  after every transaction of the correspondence runs (`rw=` entry of the farm world's state line).

  Receivers, as the Rust sends the payments (dex/farm/src/{lib,external_interaction}.rs and
  dex/farm-with-locked-rewards/src/{lib,external_interaction}.rs agree):
    claimRewardsOnBehalf  rewards → recorded OWNER of the positions, new position → caller
    enterFarmOnBehalf     boosted rewards → the USER acted for,      new position → caller
    claimRewards / exitFarm / enterFarm / mergeFarmTokens, also when a whitelisted contract names an
                          original caller: rewards (and farming tokens) → the CALLER contract; only the
                          ENERGY / weekly entitlement is the original caller's
    compoundRewards       nothing is sent; claimBoostedRewards → the user (= caller).

  All step theorems hold for EVERY ledger state (no invariant needed), all callers and arguments; the
  conservation theorems for every history from `initL` (hypothesis: the accounts are distinct).
-/
import MxModel.Lemmas.FarmLedgerInv
import MxModel.Lemmas.AccessModelsFarm

namespace Mx.C19Wallets
open Mx.Farm Mx.FarmLedger

/-! ## (a) on-behalf operations -/

/-- **Rewards claimed on behalf go to the position owner's WALLET.**  In any ledger state, a successful
    `claimRewardsOnBehalf` by `c` with position payments `pays`: there is ONE account `u` recorded as
    original owner by every position paid in; `u` authorised `c` in the permissions hub and `c` is not
    blacklisted; `u`'s reward wallet grows by exactly the claim's reward `Out.rew`; NO other reward
    wallet changes — in particular the caller's (when `c ≠ u`) — and no farming-token wallet changes;
    the new position token (`Out.nonce`, amount `Out.amt`) records `u` as original owner (it is
    created in the CALLER's account: `createToken … caller` in `Farm.claimCore`, see the example). -/
theorem claim_on_behalf_credits_owner_wallet (l l' : L) (c : Nat) (pays : List (Nat × Nat)) (o : Out)
    (h : stepL l (.op (.claimOB c pays)) = some (l', o)) :
    ∃ u, (∀ p ∈ pays, ∃ att, l.f.attrs p.1 = some att ∧ att.owner = u) ∧ pays ≠ [] ∧
      (c ∉ l.f.hubBl ∧ (u, c) ∈ l.f.hubWl) ∧
      l'.w.rew u = l.w.rew u + o.rew ∧
      (∀ j, j ≠ u → l'.w.rew j = l.w.rew j) ∧
      (∀ j, l'.w.farming j = l.w.farming j) ∧
      (∃ att, l'.f.attrs o.nonce = some att ∧ att.owner = u ∧ att.amt = o.amt) := by
  obtain ⟨_, hs'⟩ := known_some (stepL_op_spec h).1
  obtain ⟨u, hu, ha, hc⟩ := claimRewardsOnBehalf_spec hs'
  obtain ⟨hne, hall⟩ := claimOwner_all pays hu
  obtain ⟨_, hnew, _⟩ := claimCore_payee hc
  have hm : moveF l.f (.claimOB c pays) o = ⟨c, 0, 0, u, o.rew⟩ := by simp [moveF, hu]
  exact ⟨u, hall, hne, (hubAllows_iff l.f u c).mp ha, (stepL_pays h hm).1, (stepL_pays h hm).2.1,
    (stepL_pays h hm).2.2, hnew⟩

/-- non-vacuity (both contracts): user 1 enters, authorises account 2 in the hub and hands it the position; 10 blocks later
    2 claims on behalf: the reward 10000 lands in user 1's wallet, account 2's reward wallet stays empty, the new position
    (nonce 2, recorded owner 1) is in account 2's account; without the authorisation the call fails -/
example :
    ∀ k ∈ [Kind.mint, Kind.noMint],
    let l := runL (initL k false 1000000000000 1000 true [1, 2, 3] 0)
      [.fund 1 100000000, .op (.enter 1 none 100000000 []), .op (.hubWhitelist 1 2),
       .op (.transfer 1 2 1 100000000), .op (.advance 10 6)]
    ((stepL l (.op (.claimOB 2 [(1, 100000000)]))).map fun r => (r.2.rew, r.2.nonce, r.1.w.rew 1, r.1.w.rew 2))
      = some (10000, 2, 10000, 0) ∧
    ((stepL l (.op (.claimOB 2 [(1, 100000000)]))).map fun r =>
        (r.1.f.hold 2 r.2.nonce, ((r.1.f.attrs r.2.nonce).map (·.owner)).getD 0)) = some (100000000, 1) ∧
    (stepL (runL l [.op (.hubRemove 1 2)]) (.op (.claimOB 2 [(1, 100000000)]))).isNone = true := by
  decide

/-- **`enterFarmOnBehalf`**: in any ledger state, a successful call by `c` for user `u ≠ c` with `amt`
    farming tokens: `u` authorised `c` (hub, not blacklisted); the CALLER pays the `amt` farming tokens
    out of its own wallet (it must hold them) and receives no reward; the boosted reward `Out.rew` is
    credited to the USER's reward wallet; no third account's wallet changes. -/
theorem enter_on_behalf_wallets (l l' : L) (c u amt : Nat) (extra : List (Nat × Nat)) (o : Out)
    (h : stepL l (.op (.enterOB c u amt extra)) = some (l', o)) (hcu : c ≠ u) :
    (c ∉ l.f.hubBl ∧ (u, c) ∈ l.f.hubWl) ∧
    amt ≤ l.w.getF (sameCol l.f) c ∧
    l'.w.getF (sameCol l.f) c + amt = l.w.getF (sameCol l.f) c ∧
    l'.w.rew u = l.w.rew u + o.rew ∧
    (sameCol l.f = false → l'.w.rew c = l.w.rew c) ∧
    (∀ j, j ≠ c → j ≠ u → l'.w.rew j = l.w.rew j ∧ l'.w.farming j = l.w.farming j) := by
  obtain ⟨hs, hle, _, _, hfar, hrw⟩ := stepL_op_spec h
  obtain ⟨_, hs'⟩ := known_some hs
  obtain ⟨ha, _, _⟩ := enterFarmOnBehalf_spec hs'
  have hle' : amt ≤ l.w.getF (sameCol l.f) c := hle
  have huc : u ≠ c := fun e => hcu e.symm
  have hm : moveF l.f (.enterOB c u amt extra) o = ⟨c, amt, 0, u, o.rew⟩ := rfl
  rw [hm] at hfar hrw
  refine ⟨(hubAllows_iff l.f u c).mp ha, hle', ?_, ?_, ?_, ?_⟩
  · cases hsame : sameCol l.f
    · have := hfar c
      simp [hsame] at this
      simp only [hsame, Wal.getF, Bool.false_eq_true, if_false] at hle' ⊢
      omega
    · have := hrw c
      simp [hsame, hcu] at this
      simp only [hsame, Wal.getF, if_true] at hle' ⊢
      omega
  · have := hrw u
    simp [huc] at this; exact this
  · intro hsame
    have := hrw c
    simp [hsame, hcu] at this; exact this
  · intro j hjc hju
    have h1 := hrw j
    have h2 := hfar j
    simp [hjc, hju] at h1 h2
    exact ⟨h1, h2⟩

/-! ## (b) plain endpoints, also through a whitelisted contract naming an original caller -/

/-- **`claimRewards` pays the CALLER** — also when the caller is a whitelisted contract that names an
    original caller (`opt = some orig`, which requires `c ∈ scWhitelistAddresses`): the reward
    `Out.rew` (base reward of the position + the ORIGINAL caller's boosted entitlement) is credited to
    the caller's wallet, the original caller's wallet — like everybody else's — does not change. -/
theorem claim_pays_caller (l l' : L) (c : Nat) (opt : Option Nat) (pays : List (Nat × Nat)) (o : Out)
    (h : stepL l (.op (.claim c opt pays)) = some (l', o)) :
    (∀ orig, opt = some orig → c ∈ l.f.scWl) ∧
    l'.w.rew c = l.w.rew c + o.rew ∧
    (∀ j, j ≠ c → l'.w.rew j = l.w.rew j) ∧
    (∀ j, l'.w.farming j = l.w.farming j) := by
  obtain ⟨_, hs'⟩ := known_some (stepL_op_spec h).1
  obtain ⟨orig, ho, _⟩ := claimRewards_spec hs'
  refine ⟨?_, stepL_pays h (c := c) rfl⟩
  intro x hx
  rcases origCaller_spec ho with ⟨h1, _⟩ | ⟨_, h2⟩
  · rw [hx] at h1; cases h1
  · exact h2

/-- non-vacuity (both contracts): contract account 3 is whitelisted by the owner, holds user 1's position and claims naming
    1 as original caller: the reward 10000 is paid to the CONTRACT's wallet, user 1's wallet stays empty — in the
    locked-rewards farm the LOCKED tokens go to the contract while the ENERGY of the lock is credited to user 1
    (`lock_virtual(…, destination = caller, energy_address = orig_caller)`); a non-whitelisted caller naming an original
    caller fails -/
example :
    ∀ k ∈ [Kind.mint, Kind.noMint],
    let l := runL (initL k false 1000000000000 1000 true [1, 2, 3] 0)
      [.fund 1 100000000, .op (.enter 1 none 100000000 []), .op (.scWhitelist 3),
       .op (.transfer 1 3 1 100000000), .op (.advance 10 6)]
    ((stepL l (.op (.claim 3 (some 1) [(1, 100000000)]))).map fun r =>
        (r.2.rew, r.1.w.rew 1, r.1.w.rew 3, ((r.1.f.energy 1).map (·.totalLocked)).getD 0,
         ((r.1.f.energy 3).map (·.totalLocked)).getD 0))
      = some (10000, 0, 10000, if k = .noMint then 10000 else 0, 0) ∧
    (stepL (runL l [.op (.scUnwhitelist 3)]) (.op (.claim 3 (some 1) [(1, 100000000)]))).isNone = true := by
  decide

/-- **`mergeFarmTokens` / `claimBoostedRewards` pay the caller** (merge: also with an original caller
    named by a whitelisted contract; claimBoostedRewards: the only allowed `user` is the caller) -/
theorem merge_and_claim_boosted_pay_caller (l l' : L) (c : Nat) (op : Op) (o : Out)
    (hop : (∃ opt pays, op = .merge c opt pays) ∨ (∃ u, op = .claimBoosted c u))
    (h : stepL l (.op op) = some (l', o)) :
    l'.w.rew c = l.w.rew c + o.rew ∧
    (∀ j, j ≠ c → l'.w.rew j = l.w.rew j) ∧
    (∀ j, l'.w.farming j = l.w.farming j) := by
  rcases hop with ⟨opt, pays, rfl⟩ | ⟨u, rfl⟩
  · exact stepL_pays h (c := c) rfl
  · obtain ⟨_, hs'⟩ := known_some (stepL_op_spec h).1
    have hu := (claimBoostedRewards_needs hs').2
    exact stepL_pays h (c := c) (by simp [moveF, hu])

/-- **`exitFarm` pays the caller** (separate farming / reward tokens; also through a whitelisted
    contract): the caller's farming-token wallet grows by the principal paid out `Out.farming`, its
    reward wallet by `Out.rew`; nobody else's wallet changes. -/
theorem exit_pays_caller (l l' : L) (c : Nat) (opt : Option Nat) (n a : Nat) (o : Out)
    (h : stepL l (.op (.exit c opt n a)) = some (l', o)) (hsep : sameCol l.f = false) :
    (∀ orig, opt = some orig → c ∈ l.f.scWl) ∧
    l'.w.farming c = l.w.farming c + o.farming ∧ l'.w.rew c = l.w.rew c + o.rew ∧
    (∀ j, j ≠ c → l'.w.rew j = l.w.rew j ∧ l'.w.farming j = l.w.farming j) := by
  obtain ⟨hs, _, _, _, hfar, hrw⟩ := stepL_op_spec h
  obtain ⟨_, hs'⟩ := known_some hs
  obtain ⟨_, orig, ho⟩ := exitFarm_needs hs'
  have hm : moveF l.f (.exit c opt n a) o = ⟨c, 0, o.farming, c, o.rew⟩ := rfl
  rw [hm] at hfar hrw
  refine ⟨?_, ?_, ?_, ?_⟩
  · intro x hx
    rcases origCaller_spec ho with ⟨h1, _⟩ | ⟨_, h2⟩
    · rw [hx] at h1; cases h1
    · exact h2
  · have := hfar c
    simp [hsep] at this; exact this
  · have := hrw c
    simp [hsep] at this; exact this
  · intro j hj
    have h1 := hrw j
    have h2 := hfar j
    simp [hsep, hj] at h1 h2
    exact ⟨h1, h2⟩

/-- **`enterFarm`** (separate tokens; also through a whitelisted contract): the caller pays the `amt`
    farming tokens and receives the boosted reward `Out.rew` of the ORIGINAL caller's entitlement;
    nobody else's wallet changes. -/
theorem enter_wallets (l l' : L) (c : Nat) (opt : Option Nat) (amt : Nat) (extra : List (Nat × Nat)) (o : Out)
    (h : stepL l (.op (.enter c opt amt extra)) = some (l', o)) (hsep : sameCol l.f = false) :
    amt ≤ l.w.farming c ∧ l'.w.farming c + amt = l.w.farming c ∧ l'.w.rew c = l.w.rew c + o.rew ∧
    (∀ j, j ≠ c → l'.w.rew j = l.w.rew j ∧ l'.w.farming j = l.w.farming j) := by
  obtain ⟨hs, hle, _, _, hfar, hrw⟩ := stepL_op_spec h
  have hm : moveF l.f (.enter c opt amt extra) o = ⟨c, amt, 0, c, o.rew⟩ := rfl
  rw [hm] at hfar hrw hle
  have hle' : amt ≤ l.w.farming c := by
    have := hle
    simp [hsep, Wal.getF] at this; exact this
  refine ⟨hle', ?_, ?_, ?_⟩
  · have := hfar c
    simp [hsep] at this; omega
  · have := hrw c
    simp [hsep] at this; exact this
  · intro j hj
    have h1 := hrw j
    have h2 := hfar j
    simp [hsep, hj] at h1 h2
    exact ⟨h1, h2⟩

/-- **`compoundRewards` sends nothing**: no wallet changes (the reward stays in the farm as principal) -/
theorem compound_moves_no_wallet (l l' : L) (c : Nat) (opt : Option Nat) (pays : List (Nat × Nat)) (o : Out)
    (h : stepL l (.op (.compound c opt pays)) = some (l', o)) :
    (∀ j, l'.w.rew j = l.w.rew j) ∧ (∀ j, l'.w.farming j = l.w.farming j) := by
  obtain ⟨h0, hr, hf⟩ := stepL_pays h (c := c) (u := 0) (r := 0) rfl
  refine ⟨fun j => ?_, hf⟩
  by_cases hj : j = 0
  · rw [hj]; exact h0
  · exact hr j hj

/-! ## (c) conservation -/

/-- **An operation touches only its parties.**  In any ledger state, after a successful operation, an
    account that is neither the caller nor the receiver of the reward payment (`moveF`) has exactly the
    wallets it had; the faucet total does not change (a call creates no tokens in a wallet). -/
theorem call_touches_only_parties (l l' : L) (op : Op) (o : Out) (h : stepL l (.op op) = some (l', o))
    (j : Nat) (h1 : j ≠ (moveF l.f op o).payer) (h2 : j ≠ (moveF l.f op o).rewTo) :
    l'.w.rew j = l.w.rew j ∧ l'.w.farming j = l.w.farming j ∧ l'.funded = l.funded := by
  obtain ⟨_, _, hfd, _, hfar, hrw⟩ := stepL_op_spec h
  have e1 := hrw j
  have e2 := hfar j
  simp [h1, h2] at e1 e2
  exact ⟨e1, e2, hfd⟩

/-- the conservation invariant holds after every history -/
theorem inv_run (kind : Kind) (sameTok : Bool) (dsc perBlock : Nat) (produce : Bool) (users : List Nat)
    (e0 : Nat) (hnd : users.Nodup) (ops : List LOp) :
    LInv (runL (initL kind sameTok dsc perBlock produce users e0) ops) :=
  runL_inv ops (initL_inv kind sameTok dsc perBlock produce users e0 hnd)

/-- **Reward wallets = what the farm paid** (farming token ≠ reward token, both contracts).  After every
    history: the reward-token holdings of all accounts (dex/farm: the reward token; locked-rewards farm:
    their LOCKED tokens) plus what was sent outside the world equal the farm's cumulative `paid`
    counter `= generated − reward_reserve`; for dex/farm, wallets + the farm's own reward balance is
    exactly everything ever generated: reward tokens enter the world by generation only and reach
    wallets by payments only. -/
theorem reward_wallets_eq_paid (kind : Kind) (sameTok : Bool) (dsc perBlock : Nat) (produce : Bool)
    (users : List Nat) (e0 : Nat) (hnd : users.Nodup) (ops : List LOp) :
    let l := runL (initL kind sameTok dsc perBlock produce users e0) ops
    sameCol l.f = false →
      sumU l.f.users l.w.rew + l.outside = l.f.paid ∧
      sumU l.f.users l.w.rew + l.outside + l.f.reserve = l.f.generated ∧
      (l.f.kind = .mint → sumU l.f.users l.w.rew + l.outside + l.f.balReward = l.f.generated) := by
  intro l hsame
  have hI : LInv l := inv_run kind sameTok dsc perBlock produce users e0 hnd ops
  have hr := hI.rew hsame
  have ha := hI.acct
  refine ⟨hr, ?_, fun hk => ?_⟩
  · have := ha.res; omega
  · have := ha.res; have := ha.bal hk; omega

/-- **Farming tokens are conserved** (farming token ≠ reward token).  After every history: what the
    accounts hold + the farm's farming balance (= the farm-token supply, C05) + the burned exit penalties
    = what the faucet handed out. -/
theorem farming_tokens_conserved (kind : Kind) (sameTok : Bool) (dsc perBlock : Nat) (produce : Bool)
    (users : List Nat) (e0 : Nat) (hnd : users.Nodup) (ops : List LOp) :
    let l := runL (initL kind sameTok dsc perBlock produce users e0) ops
    sameCol l.f = false →
      sumU l.f.users l.w.farming + l.f.balFarming + l.f.penaltyBurned = l.funded ∧
      l.f.balFarming = l.f.supply := by
  intro l hsame
  have hI : LInv l := inv_run kind sameTok dsc perBlock produce users e0 hnd ops
  have hr := hI.rew hsame
  have ht := hI.total
  exact ⟨by omega, hI.acct.prin⟩

/-- **One token** (dex/farm whose farming token is its reward token).  After every history: the wallets
    + what left the world + the farm's whole balance of the token + the burned penalties = what the
    faucet handed out + everything ever generated. -/
theorem single_token_conserved (kind : Kind) (sameTok : Bool) (dsc perBlock : Nat) (produce : Bool)
    (users : List Nat) (e0 : Nat) (hnd : users.Nodup) (ops : List LOp) :
    let l := runL (initL kind sameTok dsc perBlock produce users e0) ops
    sameCol l.f = true →
      sumU l.f.users l.w.rew + l.outside + (l.f.balFarming + l.f.balReward) + l.f.penaltyBurned
        = l.funded + l.f.generated ∧ (∀ u, l.w.farming u = 0) := by
  intro l hsame
  have hI : LInv l := inv_run kind sameTok dsc perBlock produce users e0 hnd ops
  have hk : l.f.kind = .mint := by
    simp only [sameCol, Bool.and_eq_true, decide_eq_true_eq] at hsame
    exact hsame.2
  have hz : sumU l.f.users l.w.farming = 0 := by
    unfold sumU; exact Weekly.usum_zero (fun u _ => hI.unused hsame u)
  have ht := hI.total
  have := hI.acct.res
  have := hI.acct.bal hk
  exact ⟨by omega, hI.unused hsame⟩

/-- non-vacuity of the conservation theorems: a 16-step history on dex/farm, farm-with-locked-rewards and dex/farm with
    farming = reward token — faucet top-ups, an `enter` rejected because the wallet is short, an on-behalf claim and enter,
    an exit with penalty (10000 burned), a compound (succeeds in the one-token farm only): every column is live and the
    three balances hold with non-zero terms -/
example :
    ∀ c ∈ [(Kind.mint, false), (Kind.noMint, false), (Kind.mint, true)],
    let l := runL (initL c.1 c.2 1000000000000 1000 true [1, 2, 3] 0)
      [.fund 1 100000000, .op (.enter 1 none 100000000 []), .op (.hubWhitelist 1 2),
       .op (.transfer 1 2 1 100000000), .op (.advance 10 6), .op (.claimOB 2 [(1, 100000000)]),
       .op (.enter 3 none 5 []), .fund 3 1000000, .op (.enter 3 none 1000000 []), .op (.advance 20 6),
       .op (.exit 3 none 3 1000000), .op (.enterOB 2 1 70 []), .fund 2 50, .fund 2 70, .op (.enterOB 2 1 70 []),
       .op (.compound 2 none [(2, 100000000)])]
    ([1, 2, 3].map l.w.rew, [1, 2, 3].map l.w.farming) =
      (if c.2 then ([10000, 0, 990099], [0, 0, 0]) else ([10000, 0, 99], [0, 0, 990000])) ∧
    (l.f.paid, l.f.generated, l.f.balFarming) =
      (if c.2 then (19999, 20000, 100009970) else (10099, 20000, 100000070)) ∧
    (l.f.penaltyBurned, l.funded, l.outside, l.f.lastNonce) = (10000, 101000070, 0, if c.2 then 5 else 4) := by
  decide

/-- The farm inside the ledger is a farm reachable by `Farm.run` (every theorem of the farm world about
    `run (init …) ops` applies to it): a ledger history differs from a farm history only in that calls
    whose caller cannot pay the farming tokens are failed transactions. -/
theorem ledger_farm_reachable (kind : Kind) (sameTok : Bool) (dsc perBlock : Nat) (produce : Bool)
    (users : List Nat) (e0 : Nat) (ops : List LOp) :
    ∃ fops : List Op, (runL (initL kind sameTok dsc perBlock produce users e0) ops).f =
      Farm.run (Farm.init kind sameTok dsc perBlock produce users e0) fops :=
  ⟨_, runL_f ops _⟩

/-- A ledger call fails only if the farm rejects the operation or the caller's wallet is short of the
    farming tokens it sends. -/
theorem call_succeeds (l : L) (op : Op) (s' : St) (o : Out) (hs : step l.f op = some (s', o))
    (hle : (moveF l.f op o).payFarming ≤ l.w.getF (sameCol l.f) (moveF l.f op o).payer) :
    (stepL l (.op op)).isSome = true := by
  simp [stepL, applyMove, hs, sub?, hle]

end Mx.C19Wallets
