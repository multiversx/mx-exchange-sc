/-
  C05 (farm-staking side) — the reserve covers everything claimable, at full strength.

  Statement (properties.jsonl C05): "… the reward reserve … always covers all currently claimable
  base rewards plus all not-yet-claimed boosted-reward pools …".

  Model: Core/Staking.lean.  `reserve` = the storage cell `reward_reserve`; claimable base rewards
  of nonce `n` = `⌊outstanding(n)·(rps − entryRps(n))/dsc⌋` (outstanding(n) = units of the
  position nonce `n` held by the distinct accounts of the world; C07 `supply_eq_sum`); boosted
  pools of week `w` = `accumulatedRewardsForWeek w + remainingBoostedRewardsToDistribute w`
  (`b.accumulated`, `b.remaining`); `undistributed` = `undistributedBoostedRewards`.

  Three invariants are combined, each proved for every reachable state (any deployment parameters,
  any account list, any history):
    * `Inv` (Lemmas/StakingInv.lean): reserve + paidBase + paidBoosted = accumulated
                                       = baseBudget + boostedBudget;
    * `PotInv` (Lemmas/StakingPot.lean, Props/C06StakingBound.lean): claimable base + paidBase ≤ baseBudget;
    * `BoostInv` (Lemmas/StakingCover.lean): Σ_{w<N} pools + undistributed + paidBoosted ≤ boostedBudget
      for EVERY `N` (so for every finite set of weeks; no statement about which weeks are non-empty
      is needed).
  `reserve_covers` is exactly `Mx.C05Staking.reserve_covers_full`.

  Only property theorems live here.
-/
import MxModel.Lemmas.StakingCover
import MxModel.Props.C05Staking

namespace Mx.C05StakingCover
open Mx.Staking

/-- one successful transaction keeps the boosted-pool conservation bound -/
theorem boost_step {s s' : St} {op : Op} {o : Out} (hI : BoostInv s) (h : step s op = some (s', o)) :
    BoostInv s' :=
  step_boostInv hI h

/-- **boosted pools are budgeted.**  In every reachable state, for every `N`: the boosted pools of
    the weeks `0 … N−1` (accumulated, and frozen-but-unpaid), the undistributed boosted rewards and
    everything paid as boosted rewards together never exceed the sum of the boosted cuts of all
    settlements. -/
theorem boosted_pools_bound (epoch block dsc maxApr minUnbond perBlock : Nat) (accts wl : List Nat)
    (ops : List Op) (N : Nat) :
    let s := run (init epoch block dsc maxApr minUnbond perBlock accts wl) ops
    ((List.range N).map fun w => s.b.accumulated w + s.b.remaining w).sum
      + s.undistributed + s.paidBoosted ≤ s.boostedBudget :=
  (run_boostInv ops (boostInv_init epoch block dsc maxApr minUnbond perBlock accts wl)).explicit N

/-- the reserve is exactly the unspent base budget plus the unspent boosted budget, and neither
    budget is overspent -/
theorem reserve_is_unspent (epoch block dsc maxApr minUnbond perBlock : Nat) (accts wl : List Nat)
    (ops : List Op) (hd : 0 < dsc) :
    let s := run (init epoch block dsc maxApr minUnbond perBlock accts wl) ops
    s.paidBase ≤ s.baseBudget ∧ s.paidBoosted ≤ s.boostedBudget ∧
    s.reserve = (s.baseBudget - s.paidBase) + (s.boostedBudget - s.paidBoosted) := by
  obtain ⟨hI, hP, hB, hd'⟩ := reachable_cover epoch block dsc maxApr minUnbond perBlock accts wl ops hd
  exact reserve_split hI hP hB hd'

/-- **reserve covers** — the full statement `reserve_covers_full` of Props/C05Staking.lean: the
    reserve holds the whole unpaid remainder of both budgets, and the base budget is never overspent -/
theorem reserve_covers : Mx.C05Staking.reserve_covers_full := by
  intro epoch block dsc maxApr minUnbond perBlock accts wl ops hd
  obtain ⟨h1, _, h3⟩ := reserve_is_unspent epoch block dsc maxApr minUnbond perBlock accts wl ops hd
  exact ⟨Nat.le_of_eq (h3.trans (Nat.add_comm _ _)).symm, h1⟩

/-- **reserve covers, claimable form.**  In every reachable state (non-zero division-safety
    constant), for every `N`:
    `reserve ≥ Σ_n ⌊outstanding(n)·(rps − entryRps(n))/dsc⌋ + Σ_{w<N} (accumulated w + remaining w)
               + undistributed` —
    all base rewards claimable right now (one claim per position nonce: the largest the floors can
    add up to), all boosted pools not yet paid out, and the undistributed boosted rewards. -/
theorem reserve_covers_claimable (epoch block dsc maxApr minUnbond perBlock : Nat) (accts wl : List Nat)
    (ops : List Op) (hd : 0 < dsc) (N : Nat) :
    let s := run (init epoch block dsc maxApr minUnbond perBlock accts wl) ops
    ((List.range (s.nonce + 1)).map fun n =>
        match s.md n with
        | some (.pos a) => (s.accts.dedup.map fun u => s.hold u n).sum * (s.rps - a.rps) / s.dsc
        | _ => 0).sum
      + ((List.range N).map fun w => s.b.accumulated w + s.b.remaining w).sum
      + s.undistributed ≤ s.reserve := by
  obtain ⟨hI, hP, hB, hd'⟩ := reachable_cover epoch block dsc maxApr minUnbond perBlock accts wl ops hd
  exact cover_of hI hB (hP.claimable_le hd') N

/-- the same with every account claiming each of its holdings separately — the sum the harness
    oracle `reserve_covers` evaluates on the real contract -/
theorem reserve_covers_holdings (epoch block dsc maxApr minUnbond perBlock : Nat) (accts wl : List Nat)
    (ops : List Op) (hd : 0 < dsc) (N : Nat) :
    let s := run (init epoch block dsc maxApr minUnbond perBlock accts wl) ops
    ((List.range (s.nonce + 1)).map fun n =>
        match s.md n with
        | some (.pos a) => (s.accts.dedup.map fun u => s.hold u n * (s.rps - a.rps) / s.dsc).sum
        | _ => 0).sum
      + ((List.range N).map fun w => s.b.accumulated w + s.b.remaining w).sum
      + s.undistributed ≤ s.reserve :=
  Nat.le_trans (Nat.add_le_add_right (Nat.add_le_add_right (claimableHoldings_le _) _) _)
    (reserve_covers_claimable epoch block dsc maxApr minUnbond perBlock accts wl ops hd N)

/-- the ghost ledger of outstanding unbond amounts is exact: in every reachable state it equals the
    units of all unbond tokens held by the accounts (minted by unstake, burned by unbond,
    conserved by transfers) -/
theorem unbond_ledger_exact (epoch block dsc maxApr minUnbond perBlock : Nat) (accts wl : List Nat)
    (ops : List Op) :
    let s := run (init epoch block dsc maxApr minUnbond perBlock accts wl) ops
    s.unbondOut =
      (((List.range (s.nonce + 1)).map fun n =>
        match s.md n with
        | some (.unbond _) => (s.accts.dedup.map fun a => s.hold a n).sum
        | _ => 0).sum : Nat) :=
  (run_unbInv ops (posInv_init epoch block dsc maxApr minUnbond perBlock accts wl)
    (unbInv_init epoch block dsc maxApr minUnbond perBlock accts wl)).explicit

/-- **principal backed, in terms of what is outstanding** (strengthens `principal_backed` of
    Props/C05Staking.lean, which states it with the ghost ledger): the staking tokens the contract
    holds beyond the capacity not yet accrued and the reserve are exactly the directly staked
    principal (supply minus proxy-virtual stake) plus the units of all outstanding unbond tokens -/
theorem principal_backed_outstanding (epoch block dsc maxApr minUnbond perBlock : Nat) (accts wl : List Nat)
    (ops : List Op) :
    let s := run (init epoch block dsc maxApr minUnbond perBlock accts wl) ops
    (s.bal : Int) - ((s.capacity - s.accumulated : Nat) : Int) - s.reserve
      = ((s.supply : Int) - s.virt) +
        (((List.range (s.nonce + 1)).map fun n =>
          match s.md n with
          | some (.unbond _) => (s.accts.dedup.map fun a => s.hold a n).sum
          | _ => 0).sum : Nat) := by
  intro s
  have hu : s.unbondOut = unbondUnits s :=
    unbond_ledger_exact epoch block dsc maxApr minUnbond perBlock accts wl ops
  show _ = ((s.supply : Int) - s.virt) + ((unbondUnits s : Nat) : Int)
  rw [← hu]
  exact Mx.C05Staking.principal_backed epoch block dsc maxApr minUnbond perBlock accts wl ops

/-- non-vacuity: two stakers, boosted percentage 25 %; user 1 claims the boosted rewards of week 1
    (the rest of that week's pool stays frozen in `remaining 1`), claims base rewards on half of its
    position in week 2, more rewards accrue in week 2 (`accumulated 2`).  Claimable base
    10312 + 20625, pools 2500 + 1250: 34687 ≤ reserve 34688 (one unit lost to a floor). -/
example :
    let s := run (init 5 10 1000000000000 1000000 5 5000 [1, 2, 101] [101])
      [.topUp 100000000, .setBoostedPct 2500, .setFactors ⟨10, 3, 2, 1, 1⟩, .setEnergy 1 10000 100,
       .stake 1 none 100000000000 [], .stake 2 none 100000000000 [], .advance 10 0,
       .claimBoosted 1 none, .advance 1 7, .claim 1 none (1, 50000000000), .advance 5 0]
    s.reserve = 34688 ∧ s.rps = 206250 ∧
    s.hold 1 1 * s.rps / s.dsc = 10312 ∧ s.hold 2 2 * s.rps / s.dsc = 20625 ∧
    s.b.remaining 1 = 2500 ∧ s.b.accumulated 2 = 1250 ∧ s.undistributed = 0 ∧
    s.paidBase = 10312 ∧ s.paidBoosted = 10000 ∧ s.baseBudget = 41250 ∧ s.boostedBudget = 13750 := by
  decide

end Mx.C05StakingCover
