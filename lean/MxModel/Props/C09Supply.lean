/-
  C09 — the base-asset supply of `base_supply_delta` tied to real balances.

  Statement (C09): "Locking burns the base asset and issues locked tokens 1:1; … the penalty is
  split between burn and the fees collector by the configured percentage, so base-asset supply can
  grow only through unlocks of previously burned amounts and reward emission."

  `Props/C09.lean` (`base_supply_delta`) relates the ghost counter `baseSupply` to the mint / burn
  counters.  Here the counter is shown to BE the sum of the base-asset balances the model's token
  effects maintain (`s.base a`: users, any caller, token-unstake — the only contract that ever
  holds base tokens), so the two ledgers become theorems about Σ balances.  The harness computes
  `bs` exactly so (Σ of the real ESDT balances of every user, every contract, owner and farm,
  w_energy.rs `snap`) and the correspondence run compares it, every per-account balance
  (`u<i>=<base>/…`, `un=…/<base>`) and all the counters used below (`bs ci pp pb co mu me bl bc vl`)
  after every transaction.

  `sumN f N` = Σ_{a < N} f a.  `N` is any bound on the addresses in play: above the `users` funded
  accounts, above token-unstake, and above every caller of `unlockTokens` / `claimUnlockedTokens`
  in the history (`Op.PayeeBelow N`; nobody else is ever paid base tokens).
-/
import MxModel.Lemmas.EnergySupply
import MxModel.Lemmas.EnergyBase

namespace Mx.C09Supply
open Mx.Energy

/-- after every history the supply counter is exactly the sum of all base-asset balances, and no
    address beyond the bound holds any -/
theorem supply_is_sum_of_balances (c : Cfg) (ops : List Op) (N : Nat) (hu : c.users < N)
    (hU : UNSTAKE < N) (hw : ∀ op ∈ ops, op.PayeeBelow N) :
    let s := run (init c) ops
    s.baseSupply = sumN s.base N ∧ (∀ a, N ≤ a → s.base a = 0) ∧
    s.baseInit = sumN (init c).base N := by
  intro s
  have h := run_binv ops (init_binv c hu) hU hw
  exact ⟨h.sum, h.out, h.binit.trans (init_binv c hu).sum⟩

/-- one transaction keeps "counter = Σ balances" (any operation, any arguments) -/
theorem supply_is_sum_step {s s' : St} {op : Op} {o : Out} {N B : Nat} (hi : BaseInv s N B)
    (hU : UNSTAKE < N) (hw : op.PayeeBelow N) (h : step s op = some (s', o)) : BaseInv s' N B :=
  step_binv hi hU hw h

/-- C09's supply clause about the SUM OF BALANCES, for every history:
    (1) Σ balances now + burned by lock + burned by cancelled unbonding
          = Σ balances at deployment + minted by unlock + minted by early unlock;
    (2) Σ balances now + locked tokens in circulation + penalties pending in the unbond queue
          + penalties burned + penalties burned-and-counted by the fees collector
          = Σ balances at deployment + reward emission (`lockVirtual`, which mints no base asset);
    (3) hence Σ balances never exceeds the initial supply (`users · funds`) plus reward emission:
        the base supply can grow only through unlocks of previously burned amounts and emission. -/
theorem base_balances_ledger (c : Cfg) (hb : c.burnPct ≤ MAXPCT) (ops : List Op) (N : Nat)
    (hu : c.users < N) (hU : UNSTAKE < N) (hw : ∀ op ∈ ops, op.PayeeBelow N) :
    let s := run (init c) ops
    let now := sumN s.base N
    let start := sumN (init c).base N
    now + s.burnLock + s.burnCancel = start + s.mintUnlock + s.mintEarly ∧
    now + s.circ + s.pendingPenalty + s.penBurned + s.collected = start + s.virtLocked ∧
    now ≤ start + s.virtLocked ∧ start = c.users * c.funds := by
  intro s now start
  obtain ⟨h1, _, h3⟩ := supply_is_sum_of_balances c ops N hu hU hw
  obtain ⟨⟨l, cv⟩, _⟩ : SInv (run (init c) ops) := run_sinv ops (init_sinv c hb)
  have hs : sumN (init c).base N = c.users * c.funds := ((init_binv c hu).sum).symm
  have aux : ∀ (x y bs bi : Nat), bs = x → bi = y →
      bs + s.burnLock + s.burnCancel = bi + s.mintUnlock + s.mintEarly →
      bs + s.circ + s.pendingPenalty + s.penBurned + s.collected = bi + s.virtLocked →
      x + s.burnLock + s.burnCancel = y + s.mintUnlock + s.mintEarly ∧
      x + s.circ + s.pendingPenalty + s.penBurned + s.collected = y + s.virtLocked ∧
      x ≤ y + s.virtLocked := by
    intro x y bs bi e1 e2 a b
    subst e1 e2
    exact ⟨a, b, by omega⟩
  obtain ⟨r1, r2, r3⟩ := aux _ _ _ _ h1 h3 l cv
  exact ⟨r1, r2, r3, hs⟩

/-- non-vacuity: the history of Props/C09's example (lock, early unlock, failed and successful
    claim, reduction, second early unlock, cancelled unbonding) with a third-party caller; the sum
    of the balances of the accounts 0…204 is the counter, token-unstake still holds the remainder of a pending early unlock,
    and the two ledgers hold with non-zero entries everywhere -/
example :
    let c : Cfg := { epoch := 5, opts := [(360, 4000), (720, 6000), (1440, 8000)], unbond := 10,
                     burnPct := 2500, minLock := 4, cooldown := 6, users := 2, funds := 1000000 }
    let ops : List Op :=
      [.lock 1 100000 1440 0, .cfg (.whitelist 9), .lockVirtual 9 777 360 2 2, .advance 545,
       .unlockEarly 1 1 10000, .claim 1, .advance 555, .claim 1, .reduce 1 1 20000 360,
       .unlockEarly 1 1 5000, .cancel 1, .unlockEarly 1 1 4000, .advance 1440, .unlock 1 [(1, 1000)]]
    let s := run (init c) ops
    (∀ op ∈ ops, op.PayeeBelow 205) ∧
    s.baseSupply = 1905931 ∧ s.base 1 = 904514 ∧ s.base 2 = 1000000 ∧ s.base UNSTAKE = 1417 ∧
    s.base 1 + s.base 2 + s.base UNSTAKE = s.baseSupply ∧
    s.burnLock = 100000 ∧ s.burnCancel = 1771 ∧ s.mintUnlock = 1000 ∧ s.mintEarly = 6702 ∧
    s.virtLocked = 777 ∧ s.pendingPenalty = 2583 := by
  decide

end Mx.C09Supply
