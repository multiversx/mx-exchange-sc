/-
  C11 — Boosted rewards (farm-staking): the PAID LOG of a history, and every logged amount is the
  boosted formula.

  `Staking.paidLog s₀ ops` is a function of the history (no model field): one entry
  `(user, week, amount)` per week pool a successful operation paid boosted rewards out of.  The
  user is the operation's `claimerOf` (original caller of stake / claim / unstake and their proxy
  variants, the on-behalf user, the recorded owner for `claimRewardsOnBehalf`, the caller of
  compound / merge / claimBoostedRewards); week and amount are read off the growth of the ghost
  `b.paid week`.  No (user, week) occurs twice, every entry is for one of the four most recent
  completed weeks, `paid w` is exactly the sum of the log and never exceeds the week's frozen pool,
  every amount is `min ⌊maxF·R·f/F⌋ ⌊(⌊R·cE·e/E⌋ + ⌊R·cF·f/F⌋)/(cE+cF)⌋`, and the frozen pool the
  formula reads (`totalRewardsForWeek(w)`) is the ghost pool `collected w`.
-/
import MxModel.Lemmas.StakingLogPool
import MxModel.Lemmas.StakingPool

namespace Mx.C11StakingAmounts
open Mx.Staking
open Mx.Weekly (eForP)

/-- every entry of the log of a history (started in ANY state) was produced by one of its
    operations, executed in the state reached by the operations before it -/
theorem staking_log_entries (s : St) (ops : List Op) (e : Entry) (h : e ∈ paidLog s ops) :
    ∃ ops1 op ops2, ops = ops1 ++ op :: ops2 ∧ e ∈ stepLog (run s ops1) op :=
  paidLog_entries ops s e h

/-- **paid at most once.**  In the log of boosted payments of ANY history of a staking farm, no two
    entries have the same user and week: whatever the sequence of stake / claim / compound /
    unstake / merge / claimBoostedRewards / proxy and on-behalf operations, energy updates,
    configuration changes, collections of undistributed rewards and idle weeks, a user is paid out
    of a given week's pool at most once. -/
theorem staking_log_once (epoch block dsc maxApr minUnbond perBlock : Nat) (accts wl : List Nat)
    (ops : List Op) :
    (paidLog (init epoch block dsc maxApr minUnbond perBlock accts wl) ops).Pairwise
      (fun e e' => ¬ (e.user = e'.user ∧ e.week = e'.week)) := by
  have := paidLog_once_from ops (s := init epoch block dsc maxApr minUnbond perBlock accts wl)
    (pre := []) (fun _ h => by cases h) List.Pairwise.nil
  simpa [sameKey] using this

/-- **only the four most recent completed weeks.**  Every entry an operation logs — in any state —
    is a payment to the operation's claimer, of a positive amount, for a week `w` with
    `current_week − 4 ≤ w < current_week` at the time of payment, and the claimer has a stored claim
    progress that is not after `w`. -/
theorem staking_log_window (s : St) (op : Op) (e : Entry) (h : e ∈ stepLog s op) :
    claimerOf s op = some e.user ∧ s.week ≤ e.week + 4 ∧ e.week < s.week ∧ 0 < e.amount ∧
    ∃ p, s.w.progress e.user = some p ∧ p.week ≤ e.week := by
  obtain ⟨h1, h2, h3, h4⟩ := stepLog_window h
  exact ⟨h1, h2, h3, stepLog_pos h, h4⟩

/-- operations without a boosted claim log nothing, and no operation moves the boosted ledger `paid`
    except through its log: after ANY history `paid w` (Σ boosted rewards paid out of week `w`'s
    pool) is exactly the sum of the logged amounts for week `w` -/
theorem staking_log_complete (epoch block dsc maxApr minUnbond perBlock : Nat) (accts wl : List Nat)
    (ops : List Op) (w : Nat) :
    (run (init epoch block dsc maxApr minUnbond perBlock accts wl) ops).b.paid w =
      logSum (paidLog (init epoch block dsc maxApr minUnbond perBlock accts wl) ops) w :=
  (paidLog_sum_from ops _ w).trans (Nat.zero_add _)

/-- the same from ANY state: along a history `paid w` grows by exactly the logged amounts for `w` -/
theorem staking_log_complete_from (s : St) (ops : List Op) (w : Nat) :
    (run s ops).b.paid w = s.b.paid w + logSum (paidLog s ops) w :=
  paidLog_sum_from ops s w

/-- **the sum paid for a week never exceeds R**: Σ of the log for week `w` plus what is still
    distributable for `w` is at most the week's frozen pool `collected w` (everything that was
    moved from the week's accumulated boosted share into its pool) -/
theorem staking_log_le_pool (epoch block dsc maxApr minUnbond perBlock : Nat) (accts wl : List Nat)
    (ops : List Op) (w : Nat) :
    logSum (paidLog (init epoch block dsc maxApr minUnbond perBlock accts wl) ops) w +
        (run (init epoch block dsc maxApr minUnbond perBlock accts wl) ops).b.remaining w ≤
      (run (init epoch block dsc maxApr minUnbond perBlock accts wl) ops).b.collected w := by
  rw [← staking_log_complete]
  have h : PoolOK (run (init epoch block dsc maxApr minUnbond perBlock accts wl) ops).b :=
    run_pool ops PoolOK.init
  have := h w
  omega

/-- **every logged amount is the boosted formula** (per operation, ANY state `s`).  An entry
    `(u, w, amount)` logged by `op` in `s` satisfies
    `amount = min ⌊maxF·R·f/F⌋ ⌊(⌊R·cE·eU/E⌋ + ⌊R·cF·f/F⌋)/(cE+cF)⌋` where
      * `fa = (maxF, cE, cF, minE, minF)` are the factors in force for week `w` (the stored
        configuration updated to the current week, read at `w`),
      * `R` is the frozen pool of week `w` (`totalRewardsForWeek(w)`) after the operation,
      * `f = userTotalFarmPosition(u)` BEFORE the operation,
      * `F = farmSupplyForWeek(w)`, `E = totalEnergyForWeek(w)` as stored before the operation,
      * `eU` is `u`'s stored claim-progress energy decayed to week `w`;
    and `E ≠ 0`, `F ≠ 0`, `R ≠ 0`, `minE ≤ eU`, `minF ≤ f`: nothing is logged (= nothing is paid,
    by `staking_log_complete`) below the configured minimum energy or minimum position. -/
theorem staking_log_amount_step (s : St) (op : Op) (e : Entry) (h : e ∈ stepLog s op) :
    ∃ fa, facOf s.b.cfg s.week e.week = some fa ∧
      e.amount = boostedAmount fa (rOf ((next s op).w.totalRewards e.week)) (s.userTotal e.user)
        (s.b.farmSupply e.week) (eForP s.w.progress e.user e.week) (s.w.totalEnergy e.week) ∧
      s.w.totalEnergy e.week ≠ 0 ∧ s.b.farmSupply e.week ≠ 0 ∧
      fa.minE ≤ eForP s.w.progress e.user e.week ∧ fa.minF ≤ s.userTotal e.user ∧
      rOf ((next s op).w.totalRewards e.week) ≠ 0 :=
  stepLog_amount h

/-- **the frozen pool is the ghost pool**, in every history from a freshly deployed staking farm:
    for every week `w`, `totalRewardsForWeek(w)` is empty or is the single entry `(0, collected w)`
    — the `R` the reward hook reads is exactly what was moved from the week's accumulated boosted
    share into its pool (`collected w`, the bound of `staking_log_le_pool`) -/
theorem staking_pool_frozen (epoch block dsc maxApr minUnbond perBlock : Nat) (accts wl : List Nat)
    (ops : List Op) (w : Nat) :
    let s := run (init epoch block dsc maxApr minUnbond perBlock accts wl) ops
    s.w.totalRewards w = [] ∨ s.w.totalRewards w = [(0, s.b.collected w)] := by
  intro s
  have hF : Frozen s := run_frozen ops (Frozen.init epoch block dsc maxApr minUnbond perBlock accts wl)
  exact (hF w).imp (·.1) id

/-- **every logged amount is the boosted formula** (history level).  For every history from a
    freshly deployed staking farm and every entry `e` of its paid log there is the operation `op`
    that produced it, executed in the state `s` reached by the operations before it, whose claimer
    is `e.user`, and `e.amount = min ⌊maxF·R·f/F⌋ ⌊(⌊R·cE·eU/E⌋ + ⌊R·cF·f/F⌋)/(cE+cF)⌋` with
    the factors in force for `e.week` in `s`, `R = collected e.week` the week's pool right after
    `op` (non-zero), `f` the user's total position in `s` (BEFORE `op`), `F` / `E` the week's
    recorded farm supply / total energy in `s` (non-zero), `eU` the user's stored progress energy in
    `s` decayed to `e.week`; and the user reaches the minimum energy and the minimum position. -/
theorem staking_log_amount (epoch block dsc maxApr minUnbond perBlock : Nat) (accts wl : List Nat)
    (ops : List Op) (e : Entry)
    (h : e ∈ paidLog (init epoch block dsc maxApr minUnbond perBlock accts wl) ops) :
    ∃ ops1 op ops2, ops = ops1 ++ op :: ops2 ∧
      ∃ s, s = run (init epoch block dsc maxApr minUnbond perBlock accts wl) ops1 ∧
      claimerOf s op = some e.user ∧
      ∃ fa, facOf s.b.cfg s.week e.week = some fa ∧
        e.amount = boostedAmount fa ((next s op).b.collected e.week) (s.userTotal e.user)
          (s.b.farmSupply e.week) (eForP s.w.progress e.user e.week) (s.w.totalEnergy e.week) ∧
        (next s op).b.collected e.week ≠ 0 ∧
        s.w.totalEnergy e.week ≠ 0 ∧ s.b.farmSupply e.week ≠ 0 ∧
        fa.minE ≤ eForP s.w.progress e.user e.week ∧ fa.minF ≤ s.userTotal e.user := by
  obtain ⟨ops1, op, ops2, hops, he⟩ := paidLog_entries ops _ e h
  have hF : Frozen (run (init epoch block dsc maxApr minUnbond perBlock accts wl) ops1) :=
    run_frozen ops1 (Frozen.init epoch block dsc maxApr minUnbond perBlock accts wl)
  obtain ⟨fa, h1, h2, h3, h4, h5, h6, h7⟩ := stepLog_amount_collected hF he
  exact ⟨ops1, op, ops2, hops, _, rfl, (stepLog_window he).1, fa, h1, h2, h7, h3, h4, h5, h6⟩

/-- **the exact per-operation characterisation of the boosted ledger**, for every successful
    operation (any arguments, any state) and EVERY week `w`:
      * if the operation has a claimer `u` and `w` is in `u`'s claim window (`u` has a stored
        progress not after `w`, `current − 4 ≤ w < current`), `paid w` grows by exactly
        `payOf …` = 0 when the week has no total energy or no recorded farm supply, when there is
        no boosted configuration, or when `u` is below the minimum energy or minimum position of
        the week's factors — and the boosted formula otherwise (`dueOf`);
      * in every other case `paid w` does not move. -/
theorem staking_paid_exact {s s' : St} {op : Op} {o : Out} (h : step s op = some (s', o)) (w : Nat) :
    (∀ u, claimerOf s op = some u → InWindow (s.w.progress u) s.week w →
      s'.b.paid w = s.b.paid w +
        payOf (facOf s.b.cfg s.week w) (rOf (s'.w.totalRewards w)) (s.userTotal u)
          (s.b.farmSupply w) (eForP s.w.progress u w) (s.w.totalEnergy w)) ∧
    ((∀ u, claimerOf s op = some u → ¬ InWindow (s.w.progress u) s.week w) →
      s'.b.paid w = s.b.paid w) :=
  step_paid_exact h w

/-- zero below the minima, at the level of the operation: a claimer whose stored energy for the week
    is below the week's minimum energy, or whose total position is below the minimum position, is
    paid nothing for that week by ANY operation -/
theorem staking_zero_below_minimum {s s' : St} {op : Op} {o : Out} (h : step s op = some (s', o))
    {u w : Nat} (hu : claimerOf s op = some u) {fa : Factors}
    (hfa : facOf s.b.cfg s.week w = some fa)
    (hmin : eForP s.w.progress u w < fa.minE ∨ s.userTotal u < fa.minF) :
    s'.b.paid w = s.b.paid w := by
  by_cases hin : InWindow (s.w.progress u) s.week w
  · rw [(step_paid_exact h w).1 u hu hin]
    simp [dueOf, payOf, hfa, hmin]
  · refine (step_paid_exact h w).2 fun u' hu' => ?_
    rw [hu] at hu'
    cases hu'
    exact hin

/-- the example history of `Props/C11StakingOnce.lean` up to the start of week 2: two users with
    energy stake in week 1 (pool 12500).  `exOps` continues it: user 1's `claim` (`exClaim`) pays
    6250 = half the pool for week 1; the same user's next `claimBoosted` succeeds and logs nothing -/
def exPre : List Op :=
  [.topUp 100000000, .setBoostedPct 2500, .setFactors ⟨10, 3, 2, 1, 1⟩, .setEnergy 1 10000 100,
   .setEnergy 2 10000 100, .stake 1 none 100000000000 [], .stake 2 none 100000000000 [],
   .advance 10 0, .claimBoosted 1 none, .advance 1 7]

def exClaim : Op := .claim 1 none (1, 100000000000)

def exOps : List Op := exPre ++ [exClaim, .claimBoosted 1 none]

local notation "exInit" => init 5 10 1000000000000 1000000 5 5000 [1, 2, 101] [101]

theorem ex_state : (run exInit exOps).b.paid 1 = 6250 ∧ (run exInit exOps).b.collected 1 = 12500 := by
  decide +kernel

theorem ex_step : (run exInit exPre).b.paid 1 = 0 ∧ (next (run exInit exPre) exClaim).b.paid 1 = 6250 ∧
    (run exInit exPre).week = 2 ∧ (run exInit exPre).userTotal 1 = 100000000000 ∧
    (run exInit exPre).b.farmSupply 1 = 200000000000 ∧
    facOf (run exInit exPre).b.cfg 2 1 = some ⟨10, 3, 2, 1, 1⟩ ∧
    (next (run exInit exPre) exClaim).w.totalRewards 1 = [(0, 12500)] ∧
    (next (run exInit exPre) exClaim).b.collected 1 = 12500 ∧
    dueOf (run exInit exPre) 1 1 12500 = 6250 := by
  decide +kernel

/-- the log of this history holds exactly 6250 for week 1 (of a pool of 12500) — one positive entry
    exists, and by `staking_log_once` user 1's second claim did not add another one for
    (user 1, week 1) -/
example : logSum (paidLog exInit exOps) 1 = 6250 ∧
    (∃ e ∈ paidLog exInit exOps, e.week = 1 ∧ 0 < e.amount) ∧
    logSum (paidLog exInit exOps) 1 ≤ (run exInit exOps).b.collected 1 := by
  have h0 : (run exInit exOps).b.paid 1 = logSum (paidLog exInit exOps) 1 :=
    staking_log_complete 5 10 1000000000000 1000000 5 5000 [1, 2, 101] [101] exOps 1
  have h : logSum (paidLog exInit exOps) 1 = 6250 := h0.symm.trans ex_state.1
  refine ⟨h, exists_of_logSum_pos (by rw [h]; decide), ?_⟩
  rw [h, ex_state.2]
  decide

/-- the hypotheses of `staking_log_amount_step` are met: user 1's `claim` in week 2 logs an entry
    for week 1 whose amount 6250 is the boosted formula on the factors (10, 3, 2, 1, 1), the frozen
    pool 12500 (= the ghost `collected 1`, as `staking_pool_frozen` says), the position 10¹¹ of a
    farm supply of 2·10¹¹ -/
example : (∃ e ∈ stepLog (run exInit exPre) exClaim, e.user = 1 ∧ e.week = 1 ∧ e.amount = 6250 ∧
    e.amount = boostedAmount ⟨10, 3, 2, 1, 1⟩ 12500 100000000000 200000000000
      (eForP (run exInit exPre).w.progress 1 1) ((run exInit exPre).w.totalEnergy 1)) ∧
    rOf ((next (run exInit exPre) exClaim).w.totalRewards 1) =
      (next (run exInit exPre) exClaim).b.collected 1 := by
  obtain ⟨hp0, hp1, hwk, hut, hfs, hfac, htr, hcol, _⟩ := ex_step
  refine ⟨?_, by rw [htr, hcol]; rfl⟩
  have hsum := stepLog_sum (run exInit exPre) exClaim 1
  rw [hp0, hp1] at hsum
  obtain ⟨e, he, hw, _⟩ := exists_of_logSum_pos (l := stepLog (run exInit exPre) exClaim) (w := 1)
    (by omega)
  obtain ⟨hcu, _⟩ := stepLog_window he
  have hu : e.user = 1 := by
    have : claimerOf (run exInit exPre) exClaim = some 1 := rfl
    rw [this] at hcu
    exact (Option.some.inj hcu).symm
  obtain ⟨fa, h1, h2, _⟩ := staking_log_amount_step _ _ e he
  rw [hw, hwk, hfac] at h1
  cases h1
  rw [hw, hu, htr, hut, hfs] at h2
  -- the entry's amount is also the growth of `paid 1`
  obtain ⟨u', r, _, hs, hm⟩ := stepLog_cases he
  obtain ⟨_, _, _, hamt⟩ := mem_entriesOf hm
  rw [hw, ← next_of_some hs, hp0, hp1] at hamt
  exact ⟨e, he, hu, hw, hamt, h2⟩

end Mx.C11StakingAmounts
