/-
  KBoosted — the boosted-yields model (`Core/Farm.lean` and its farm-staking copy in
  `Core/Staking.lean`: `boostedAmount`, the guards of `boostedRewards`, `BCfg.factorsForWeek`,
  `BCfg.update`, `collectUndistributed`) computes what the SOURCE of
  `energy-integration/farm-boosted-yields/src/{lib.rs, boosted_yields_factors.rs}` computes.

  `Gen/KBoosted.lean` is regenerated on every run by `bin/gen-kernels` (group `Boosted`):

    * `user_boosted_reward`        fragment of `FarmBoostedYieldsWrapper::get_user_rewards_for_week`
                                   from `let max_rewards` to `let user_reward = cmp::min(…)`
    * `user_boosted_reward_gate0`, `user_boosted_reward_gate`   the two early-return guards before it
                                   (0 = "returns no reward", 1 = "goes on")
    * `factors_slot_for_week`      `BoostedYieldsConfig::get_factors_for_week` — the ring slot it reads
    * `config_week_diff`           `BoostedYieldsConfig::update` — the clamped week difference
    * `collect_window`             `collect_undistributed_boosted_rewards` — first / last week collected

  Property C11 (per-week formula, single payment, bounded by the week's pool) rests on the first
  four; C05's late-config finding F6 lives in `factors_slot_for_week` / `config_week_diff`.
-/
import MxModel.Gen.KBoosted
import MxModel.Core.Farm
import MxModel.Core.Staking
import MxModel.Props.KWeek
import MxModel.Lemmas.KTactic

namespace Mx.KBoosted
open Mx Mx.Gen

/-- of the three abort cases the first two are excluded by the guards before the fragment; the third is
    the model's `req (cE + cF ≠ 0)` -/
theorem user_boosted_reward_eq (fa : Farm.Factors) (R f F e E : Nat) :
    KBoosted.user_boosted_reward f e fa.maxF fa.cE fa.cF F E R =
      if F = 0 ∨ E = 0 ∨ fa.cE + fa.cF = 0 then none else some (Farm.boostedAmount fa R f F e E) := by
  k_defs [KBoosted.user_boosted_reward, Farm.boostedAmount]
  k_ac
  grind

theorem user_boosted_reward_staking_eq (x : Staking.Factors) (R f F e E : Nat) :
    KBoosted.user_boosted_reward f e x.maxF x.cE x.cF F E R =
      if F = 0 ∨ E = 0 ∨ x.cE + x.cF = 0 then none else some (Staking.boostedAmount x R f F e E) := by
  k_defs [KBoosted.user_boosted_reward, Staking.boostedAmount]
  k_ac
  grind

theorem boostedAmount_models_agree (fa : Farm.Factors) (R f F e E : Nat) :
    Staking.boostedAmount ⟨fa.maxF, fa.cE, fa.cF, fa.minE, fa.minF⟩ R f F e E =
      Farm.boostedAmount fa R f F e E := rfl

theorem user_boosted_reward_le (f e maxF cE cF F E R u : Nat)
    (h : KBoosted.user_boosted_reward f e maxF cE cF F E R = some u) :
    u ≤ maxF * R * f / F ∧ u ≤ (R * cE * e / E + R * cF * f / F) / (cE + cF) := by
  have h' := user_boosted_reward_eq ⟨maxF, cE, cF, 0, 0⟩ R f F e E
  simp only [] at h'   -- reduces the projections of the literal record
  rw [h'] at h
  split at h
  · cases h
  · simp only [Option.some.injEq, Farm.boostedAmount] at h
    subst h
    exact ⟨Nat.min_le_left _ _, Nat.min_le_right _ _⟩

/-- the model's `if totalEnergy = 0 ∨ F = 0 then some (g, c, [])` -/
theorem user_boosted_reward_gate0_eq (F E : Nat) :
    KBoosted.user_boosted_reward_gate0 F E = some (if E = 0 ∨ F = 0 then 0 else 1) := by
  k_defs [KBoosted.user_boosted_reward_gate0]
  grind

/-- the model's `if energy < fa.minE ∨ userFarm < fa.minF` -/
theorem user_boosted_reward_gate_eq (fa : Farm.Factors) (f e : Nat) :
    KBoosted.user_boosted_reward_gate f e fa.minE fa.minF =
      some (if e < fa.minE ∨ f < fa.minF then 0 else 1) := by
  k_defs [KBoosted.user_boosted_reward_gate]
  grind

theorem factors_slot_for_week_eq (c : Farm.BCfg) (week : Nat) :
    (KBoosted.factors_slot_for_week week c.lastUpdateWeek).bind (fun i => c.ring[i]?) =
      c.factorsForWeek week := by
  have hR : Farm.RING = 5 := rfl
  k_defs [KBoosted.factors_slot_for_week, Farm.BCfg.factorsForWeek, hR]
  grind

theorem factors_slot_for_week_staking_eq (c : Staking.BCfg) (week : Nat) :
    (KBoosted.factors_slot_for_week week c.lastUpdateWeek).bind (fun i => c.f[i]?) =
      c.factorsForWeek week := by
  k_defs [KBoosted.factors_slot_for_week, Staking.BCfg.factorsForWeek]
  grind

theorem factors_slot_for_week_closed (week last : Nat) :
    KBoosted.factors_slot_for_week week last =
      if last ≤ week ∨ last - week ≥ 5 then none else some (4 - (last - week)) := by
  k_defs [KBoosted.factors_slot_for_week]
  grind

/-- the model's `d` in `BCfg.update` -/
theorem config_week_diff_eq (last W : Nat) :
    KBoosted.config_week_diff last W = if W < last then none else some (min (W - last) 5) := by
  k_defs [KBoosted.config_week_diff]
  grind

theorem update_runs_source {c c' : Farm.BCfg} {W : Nat} {new : Option Farm.Factors}
    (h : c.update W new = some c') :
    KBoosted.config_week_diff c.lastUpdateWeek W = some (min (W - c.lastUpdateWeek) Farm.RING) := by
  have hR : Farm.RING = 5 := rfl
  simp only [Farm.BCfg.update, Option.bind_eq_bind, Option.bind_eq_some_iff, req_eq_some] at h
  obtain ⟨_, hle, _⟩ := h
  rw [config_week_diff_eq, hR, if_neg (by omega)]

theorem update_runs_source_staking {c c' : Staking.BCfg} {W : Nat} {new : Option Staking.Factors}
    (h : c.update W new = some c') :
    KBoosted.config_week_diff c.lastUpdateWeek W = some (min (W - c.lastUpdateWeek) 5) := by
  simp only [Staking.BCfg.update, Option.bind_eq_bind, Option.bind_eq_some_iff, req_eq_some] at h
  obtain ⟨_, hle, _⟩ := h
  rw [config_week_diff_eq, if_neg (by omega)]

/-- the `first` / `last` of the model's `collectUndistributed` -/
theorem collect_window_eq (epoch firstWeek lastCollect : Nat) :
    KBoosted.collect_window epoch firstWeek lastCollect =
      (Weekly.weekOf epoch firstWeek).bind fun W =>
        if Weekly.USER_MAX_CLAIM_WEEKS + 1 < W
        then some (lastCollect + 1, W - (Weekly.USER_MAX_CLAIM_WEEKS + 1)) else none := by
  have hU : Weekly.USER_MAX_CLAIM_WEEKS = 4 := rfl
  cases h : Weekly.weekOf epoch firstWeek <;>
    k_defs [KBoosted.collect_window, Mx.KWeek.get_current_week_eq, hU, h] <;> try grind

example : KBoosted.user_boosted_reward 100 50 10 3 2 1000 500 400 = some 40 := by decide
example : KBoosted.user_boosted_reward 100 50 1 3 2 1000 500 400 = some 40 := by decide
example : KBoosted.user_boosted_reward 100 50 10 0 0 1000 500 400 = none := by decide
example : KBoosted.factors_slot_for_week 7 8 = some 3 := by decide
example : KBoosted.factors_slot_for_week 3 8 = none := by decide
example : KBoosted.factors_slot_for_week 8 8 = none := by decide
example : KBoosted.config_week_diff 8 20 = some 5 := by decide
example : KBoosted.config_week_diff 8 7 = none := by decide

end Mx.KBoosted
