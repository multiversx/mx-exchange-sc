/-
  C05 (farm, farm-with-locked-rewards), last clause — LIVENESS of every plain user call:

    "… every position's principal is withdrawable and no legitimate enter/claim/exit/merge fails because an
     internal counter would go negative."

  Props/C05Budget.lean proves it for `exitFarm` (`no_underflow_full_holds`, all histories) and for
  `claimRewards` of ONE payment (its statements carry the hypothesis `GoodOps`, which no proof uses).  Here, for EVERY history of the farm model (both kinds; a
  `setBoostedYieldsFactors` with `cE + cF = 0` is a failed call, so the invariants need no hypothesis on
  the history) and for the plain calls of a holder / user (no `opt_orig_caller`, no on-behalf variant):

  `claimRewards` (any non-empty list of payments), `enterFarm`, `mergeFarmTokens`, `compoundRewards` (where
  the contract has it: dex/farm with farming token = reward token; everywhere else it always fails),
  `claimBoostedRewards`, `exitFarm` succeed; `no_legit_call_fails` is the combined statement over the readable
  call-side guard `legit`, and `plain_call_succeeds_iff` says the guard list is EXACT.

  Every hypothesis is a condition on the CALL: the caller is a known account, the contract is active
  (not paused by the owner), the entered amount is non-zero, the payments are `payable` — non-zero amounts
  covered IN ORDER by what the caller holds of each nonce (the same nonce may be paid twice) —, the list is
  non-empty where the endpoint needs a first payment, the caller of `claimBoostedRewards` has a recorded
  `userTotalFarmPosition`.  None is a condition on an internal counter: all guards and checked
  subtractions inside (reserve − reward, the stored reserve − boosted of `claim_only_boosted_payment`,
  reward balance − reward, the weekly pools, the weekly module's energy bookkeeping, `into_part` /
  `merge_with` divisions, the week lookup, `lockVirtual`'s period, `update_energy_and_progress`) are discharged
  from the invariants `Acct`, `PosInv`, `PotInv`, `PoolInv`, `XInv`, `PM` (`PaidInv`), `WInv`, `WeekPos`, which hold in
  every reachable state (`reachable_good`).

  Hypotheses of the run-level theorems: `users.Nodup` (distinct accounts) and `dsc ≠ 0`.
  All of them read `Farm.step_isSome_iff` (Lemmas/FarmLiveAll.lean): a user call succeeds exactly when its
  call-side guard `Farm.CallOk` holds; `callOk_of_legit` / `legit_of_succeeds` identify `legit` with it.
  Model: Core/Farm.lean.
-/
import MxModel.Lemmas.FarmLiveAll

namespace Mx.C05Live
open Mx.Farm Mx.Farm.Plain

/-- **claim_always_succeeds** (all histories, any number of payments).  In every reachable state of an
    active farm, `claimRewards` by `u` with a non-empty list of position payments `u` can pay — amounts
    non-zero and covered, in order, by what `u` holds; the first payment is the claimed position, the others
    are merged into the new token — succeeds.  No internal counter, guard or checked subtraction can fail. -/
theorem claim_always_succeeds (kind : Kind) (same : Bool) (dsc pb : Nat) (produce : Bool)
    (users : List Nat) (e0 : Nat) (hnd : users.Nodup) (hd : dsc ≠ 0) (ops : List Op)
    (u : Nat) (pays : List (Nat × Nat)) :
    let s := run (init kind same dsc pb produce users e0) ops
    s.active = true → pays ≠ [] → payable (s.hold u) pays = true →
      (step s (.claim u none pays)).isSome = true := by
  intro s hact hne hpay
  obtain ⟨W, hG⟩ := reachable_good kind same dsc pb produce users e0 hnd hd ops
  exact isSome_of_callOk hG _ rfl ⟨hact, hne, hG.pays hpay, Or.inl rfl⟩

/-- **enter_always_succeeds.**  In every reachable state of an active farm, `enterFarm` by a known account
    `u` with a non-zero amount `amt` of the farming token and any list `extra` of additional position
    payments `u` can pay (possibly empty; they are merged into the new position) succeeds.
    Remaining guards, all on the call: `u` known, contract active, `amt ≠ 0`, `extra` payable. -/
theorem enter_always_succeeds (kind : Kind) (same : Bool) (dsc pb : Nat) (produce : Bool)
    (users : List Nat) (e0 : Nat) (hnd : users.Nodup) (hd : dsc ≠ 0) (ops : List Op)
    (u amt : Nat) (extra : List (Nat × Nat)) :
    let s := run (init kind same dsc pb produce users e0) ops
    u ∈ s.users → s.active = true → amt ≠ 0 → payable (s.hold u) extra = true →
      (step s (.enter u none amt extra)).isSome = true := by
  intro s hu hact hamt hpay
  obtain ⟨W, hG⟩ := reachable_good kind same dsc pb produce users e0 hnd hd ops
  exact isSome_of_callOk hG _ rfl ⟨hu, hact, hamt, hG.pays hpay, Or.inl rfl⟩

/-- **merge_always_succeeds.**  In every reachable state of an active farm, `mergeFarmTokens` by `u` with a
    non-empty list of position payments `u` can pay succeeds (one payment is allowed: it re-mints the
    position with `u` as recorded owner). -/
theorem merge_always_succeeds (kind : Kind) (same : Bool) (dsc pb : Nat) (produce : Bool)
    (users : List Nat) (e0 : Nat) (hnd : users.Nodup) (hd : dsc ≠ 0) (ops : List Op)
    (u : Nat) (pays : List (Nat × Nat)) :
    let s := run (init kind same dsc pb produce users e0) ops
    s.active = true → pays ≠ [] → payable (s.hold u) pays = true →
      (step s (.merge u none pays)).isSome = true := by
  intro s hact hne hpay
  obtain ⟨W, hG⟩ := reachable_good kind same dsc pb produce users e0 hnd hd ops
  exact isSome_of_callOk hG _ rfl ⟨hact, hne, hG.pays hpay, Or.inl rfl⟩

/-- **compound succeeds wherever the contract allows it** (stated on the reached state's configuration
    cells `kind`, `sameTok`, which never change: `run_kind`, `run_sameTok`).  `compoundRewards` exists only in dex/farm (kind `mint`) and requires the
    farming token to be the reward token (`require!(farming_token_id == reward_token_id)`,
    farm_base_impl/compound_rewards.rs; `sameTok` is that deployment constant).  In every reachable state of
    such a farm, when active, compounding with a non-empty list of payments the caller can pay succeeds —
    including the move of the reward into the farming balance and the final `update_energy_and_progress`. -/
theorem compound_succeeds_of_config (kind : Kind) (same : Bool) (dsc pb : Nat) (produce : Bool)
    (users : List Nat) (e0 : Nat) (hnd : users.Nodup) (hd : dsc ≠ 0) (ops : List Op)
    (u : Nat) (pays : List (Nat × Nat)) :
    let s := run (init kind same dsc pb produce users e0) ops
    s.kind = .mint → s.sameTok = true →
    s.active = true → pays ≠ [] → payable (s.hold u) pays = true →
      (step s (.compound u none pays)).isSome = true := by
  intro s hk hst hact hne hpay
  obtain ⟨W, hG⟩ := reachable_good kind same dsc pb produce users e0 hnd hd ops
  exact isSome_of_callOk hG _ rfl ⟨hk, hst, hact, hne, hG.pays hpay, Or.inl rfl⟩

/-- **compound_always_succeeds.**  In every reachable state of a dex/farm deployed with farming token =
    reward token (`init .mint true …`; the two deployment constants never change), when active,
    `compoundRewards` with a non-empty list of payments the caller can pay succeeds. -/
theorem compound_always_succeeds (dsc pb : Nat) (produce : Bool)
    (users : List Nat) (e0 : Nat) (hnd : users.Nodup) (hd : dsc ≠ 0) (ops : List Op)
    (u : Nat) (pays : List (Nat × Nat)) :
    let s := run (init .mint true dsc pb produce users e0) ops
    s.active = true → pays ≠ [] → payable (s.hold u) pays = true →
      (step s (.compound u none pays)).isSome = true :=
  compound_succeeds_of_config .mint true dsc pb produce users e0 hnd hd ops u pays
    (run_kind ops _) (run_sameTok ops _)

/-- … and nowhere else: in a farm-with-locked-rewards, or when the farming token is not the reward token,
    every `compoundRewards` fails (the endpoint does not exist / `ERROR_DIFFERENT_TOKEN_IDS`) -/
theorem compound_fails_elsewhere (kind : Kind) (same : Bool) (dsc pb : Nat) (produce : Bool)
    (users : List Nat) (e0 : Nat) (ops : List Op) (c : Nat) (o : Option Nat) (pays : List (Nat × Nat))
    (h : kind = .noMint ∨ same = false) :
    step (run (init kind same dsc pb produce users e0) ops) (.compound c o pays) = none := by
  generalize hs : run (init kind same dsc pb produce users e0) ops = s
  have hk : s.kind = kind := by rw [← hs]; exact run_kind ops _
  have hst : s.sameTok = same := by rw [← hs]; exact run_sameTok ops _
  cases hr : step s (.compound c o pays) with
  | none => rfl
  | some r =>
    exfalso
    have hr' : known s c (compoundRewards s c o pays) = some r := hr
    unfold known at hr'
    split at hr'
    · obtain ⟨hkm', orig, _, hr'⟩ := compoundRewards_spec hr'
      obtain ⟨_, _, _, h4⟩ := claimCore_guards hr'
      rcases h with h | h
      · rw [hk, h] at hkm'; cases hkm'
      · have := h4 rfl
        rw [hst, h] at this; cases this
    · cases hr'

/-- **claimBoosted_always_succeeds.**  In every reachable state of an active farm, `claimBoostedRewards` by a
    known account `u` for itself (`opt_user` absent or `u`) succeeds as soon as `u` has a recorded farm
    position (`userTotalFarmPosition(u)` non-empty — the endpoint's own `require!`; a foreign user is refused
    because `allowExternalClaim` cannot be set). -/
theorem claimBoosted_always_succeeds (kind : Kind) (same : Bool) (dsc pb : Nat) (produce : Bool)
    (users : List Nat) (e0 : Nat) (hnd : users.Nodup) (hd : dsc ≠ 0) (ops : List Op)
    (u : Nat) (opt : Option Nat) :
    let s := run (init kind same dsc pb produce users e0) ops
    u ∈ s.users → s.active = true → opt.getD u = u → s.userTotal u ≠ 0 →
      (step s (.claimBoosted u opt)).isSome = true := by
  intro s hu hact ho htot
  obtain ⟨W, hG⟩ := reachable_good kind same dsc pb produce users e0 hnd hd ops
  exact isSome_of_callOk hG _ rfl ⟨hu, hact, ho, htot⟩

/-- **exit_always_succeeds** at the level of `step`: whoever holds
    `a > 0` of position `n` in an active farm can exit with it -/
theorem exit_always_succeeds (kind : Kind) (same : Bool) (dsc pb : Nat) (produce : Bool)
    (users : List Nat) (e0 : Nat) (hnd : users.Nodup) (hd : dsc ≠ 0) (ops : List Op) (u n a : Nat) :
    let s := run (init kind same dsc pb produce users e0) ops
    s.active = true → payable (s.hold u) [(n, a)] = true →
      (step s (.exit u none n a)).isSome = true := by
  intro s hact hpay
  obtain ⟨W, hG⟩ := reachable_good kind same dsc pb produce users e0 hnd hd ops
  obtain ⟨ha, hle, _⟩ := payable_cons.mp hpay
  exact isSome_of_callOk hG _ rfl ⟨hact, ha, hle, Or.inl rfl⟩

/-- **the call-side guard of a plain user call** (the caller acts for itself: no `opt_orig_caller`, no
    on-behalf endpoint).  Readable list of everything a caller has to get right:
    * the caller is a known account and the contract is active (not paused);
    * `enterFarm`: the farming-token amount is non-zero, the additional positions are `payable`;
    * `claimRewards`, `mergeFarmTokens`: at least one payment, the payments are `payable`;
    * `compoundRewards`: the same, in a minting farm whose farming token is the reward token;
    * `exitFarm`: the single payment is `payable` (non-zero, at most what the caller holds);
    * `claimBoostedRewards`: for oneself, with a recorded farm position.
    Every other op kind (admin calls, whitelisted-contract calls with `opt_orig_caller`, …) is not covered. -/
def legit (s : St) : Op → Bool
  | .enter c none amt extra =>
      decide (c ∈ s.users) && s.active && (amt != 0) && payable (s.hold c) extra
  | .claim c none pays =>
      decide (c ∈ s.users) && s.active && !pays.isEmpty && payable (s.hold c) pays
  | .compound c none pays =>
      decide (c ∈ s.users) && s.active && decide (s.kind = .mint) && s.sameTok &&
        !pays.isEmpty && payable (s.hold c) pays
  | .exit c none n a =>
      decide (c ∈ s.users) && s.active && payable (s.hold c) [(n, a)]
  | .merge c none pays =>
      decide (c ∈ s.users) && s.active && !pays.isEmpty && payable (s.hold c) pays
  | .claimBoosted c u =>
      decide (c ∈ s.users) && s.active && decide (u.getD c = c) && (s.userTotal c != 0)
  | _ => false

theorem not_isEmpty_iff {α : Type} {l : List α} : (!l.isEmpty) = true ↔ l ≠ [] := by
  cases l <;> simp

/-- `legit` is the call-side guard `Farm.CallOk` of the six plain calls: without an original caller the
    whitelist clause is void, and what the caller can pay the transfer accepts (`Good.pays`) -/
theorem callOk_of_legit {s : St} {W : Nat} (hG : Good s W) {op : Op} (hl : legit s op = true) :
    op.isCall = true ∧ CallOk s op := by
  cases op
  case enter c o amt extra =>
    cases o
    case some => cases hl
    simp only [legit, Bool.and_eq_true, decide_eq_true_eq, bne_iff_ne, ne_eq] at hl
    obtain ⟨⟨⟨hu, hact⟩, hamt⟩, hpay⟩ := hl
    exact ⟨rfl, hu, hact, hamt, hG.pays hpay, Or.inl rfl⟩
  case claim c o pays =>
    cases o
    case some => cases hl
    simp only [legit, Bool.and_eq_true, decide_eq_true_eq, not_isEmpty_iff] at hl
    obtain ⟨⟨⟨_, hact⟩, hne⟩, hpay⟩ := hl
    exact ⟨rfl, hact, hne, hG.pays hpay, Or.inl rfl⟩
  case compound c o pays =>
    cases o
    case some => cases hl
    simp only [legit, Bool.and_eq_true, decide_eq_true_eq, not_isEmpty_iff] at hl
    obtain ⟨⟨⟨⟨⟨_, hact⟩, hk⟩, hst⟩, hne⟩, hpay⟩ := hl
    exact ⟨rfl, hk, hst, hact, hne, hG.pays hpay, Or.inl rfl⟩
  case exit c o n a =>
    cases o
    case some => cases hl
    simp only [legit, Bool.and_eq_true, decide_eq_true_eq] at hl
    obtain ⟨ha, hle, _⟩ := payable_cons.mp hl.2
    exact ⟨rfl, hl.1.2, ha, hle, Or.inl rfl⟩
  case merge c o pays =>
    cases o
    case some => cases hl
    simp only [legit, Bool.and_eq_true, decide_eq_true_eq, not_isEmpty_iff] at hl
    obtain ⟨⟨⟨_, hact⟩, hne⟩, hpay⟩ := hl
    exact ⟨rfl, hact, hne, hG.pays hpay, Or.inl rfl⟩
  case claimBoosted c u =>
    simp only [legit, Bool.and_eq_true, decide_eq_true_eq, bne_iff_ne, ne_eq] at hl
    obtain ⟨⟨⟨hu, hact⟩, ho⟩, htot⟩ := hl
    exact ⟨rfl, hu, hact, ho, htot⟩
  all_goals cases hl

/-- **no_legit_call_fails.**  For every reachable state of the farm (either kind, every history) and every
    operation whose call-side guard `legit` holds, the operation SUCCEEDS: no legitimate
    enter / claim / compound / exit / merge / claimBoostedRewards fails because an internal counter would go
    negative — or for any other internal reason. -/
theorem no_legit_call_fails (kind : Kind) (same : Bool) (dsc pb : Nat) (produce : Bool)
    (users : List Nat) (e0 : Nat) (hnd : users.Nodup) (hd : dsc ≠ 0) (ops : List Op) (op : Op) :
    let s := run (init kind same dsc pb produce users e0) ops
    legit s op = true → (step s op).isSome = true := by
  intro s hl
  obtain ⟨W, hG⟩ := reachable_good kind same dsc pb produce users e0 hnd hd ops
  obtain ⟨hop, hc⟩ := callOk_of_legit hG hl
  exact isSome_of_callOk hG op hop hc

/-- the six kinds of plain user calls `legit` talks about -/
def plain : Op → Bool
  | .enter _ none _ _ | .claim _ none _ | .compound _ none _ | .exit _ none _ _ | .merge _ none _
  | .claimBoosted _ _ => true
  | _ => false

/-- **nothing in `legit` is superfluous**: in ANY state, a plain user call that succeeds satisfied its
    call-side guard (each conjunct of `legit` is a `require!` or a payment the VM would refuse, except
    `c ∈ s.users`, the world's list of accounts, and `kind = .mint`, the model's "only dex/farm has
    `compoundRewards`"). -/
theorem legit_of_succeeds (s : St) (op : Op) (hp : plain op = true)
    (h : (step s op).isSome = true) : legit s op = true := by
  have hop : op.isCall = true := by
    cases op
    case enter | claim | compound | exit | merge | claimBoosted => rfl
    all_goals cases hp
  have hc := callOk_of_isSome s op hop h
  cases op
  case enter c o amt extra =>
    cases o
    case some => cases hp
    obtain ⟨hu, hact, ha, h0, _⟩ := hc
    simp only [legit, Bool.and_eq_true, decide_eq_true_eq, bne_iff_ne, ne_eq]
    exact ⟨⟨⟨hu, hact⟩, ha⟩, (takePayments_accepted _ h0).1⟩
  case claim c o pays =>
    cases o
    case some => cases hp
    obtain ⟨hact, hne, h0, _⟩ := hc
    simp only [legit, Bool.and_eq_true, decide_eq_true_eq, not_isEmpty_iff]
    exact ⟨⟨⟨(known_isSome.mp h).1, hact⟩, hne⟩, (takePayments_accepted _ h0).1⟩
  case compound c o pays =>
    cases o
    case some => cases hp
    obtain ⟨hk, hst, hact, hne, h0, _⟩ := hc
    simp only [legit, Bool.and_eq_true, decide_eq_true_eq, not_isEmpty_iff]
    exact ⟨⟨⟨⟨⟨(known_isSome.mp h).1, hact⟩, hk⟩, hst⟩, hne⟩, (takePayments_accepted _ h0).1⟩
  case exit c o n a =>
    cases o
    case some => cases hp
    obtain ⟨hact, ha, hle, _⟩ := hc
    simp only [legit, Bool.and_eq_true, decide_eq_true_eq]
    exact ⟨⟨(known_isSome.mp h).1, hact⟩, payable_cons.mpr ⟨ha, hle, rfl⟩⟩
  case merge c o pays =>
    cases o
    case some => cases hp
    obtain ⟨hact, hne, h0, _⟩ := hc
    simp only [legit, Bool.and_eq_true, decide_eq_true_eq, not_isEmpty_iff]
    exact ⟨⟨⟨(known_isSome.mp h).1, hact⟩, hne⟩, (takePayments_accepted _ h0).1⟩
  case claimBoosted c u =>
    obtain ⟨hu, hact, ho, htot⟩ := hc
    simp only [legit, Bool.and_eq_true, decide_eq_true_eq, bne_iff_ne, ne_eq]
    exact ⟨⟨⟨hu, hact⟩, ho⟩, htot⟩
  all_goals cases hp

/-- **a plain user call succeeds exactly when its call-side guard holds**, in every reachable state of the
    farm: `legit` is the complete and irredundant list of reasons for which an enter / claim / compound /
    exit / merge / claimBoostedRewards of a user acting for itself can fail. -/
theorem plain_call_succeeds_iff (kind : Kind) (same : Bool) (dsc pb : Nat) (produce : Bool)
    (users : List Nat) (e0 : Nat) (hnd : users.Nodup) (hd : dsc ≠ 0) (ops : List Op) (op : Op) :
    let s := run (init kind same dsc pb produce users e0) ops
    plain op = true → ((step s op).isSome = true ↔ legit s op = true) :=
  fun hp => ⟨legit_of_succeeds _ op hp,
    no_legit_call_fails kind same dsc pb produce users e0 hnd hd ops op⟩

/-- the history of the examples: boosted factors and a 25 % boosted cut; users 1 and 2 (energy 1 : 3) enter
    1000 and 3000 and farm through week 1 (10 blocks: week 1's boosted pool is 2500); user 1 re-mints its
    position by a claim (nonce 3), user 2 SENDS 500 of its position (nonce 2) to user 1; then week 2 begins:
    week 1's pool is pending (not yet frozen, nobody has claimed it) and user 1 holds a received position
    whose recorded owner is user 2. -/
def liveOps : List Op :=
  [.setFactors OWNER ⟨10, 3, 2, 1, 1⟩, .setPct OWNER 2500, .setEnergy 1 1000000 0 1000,
   .setEnergy 2 3000000 0 1000, .enter 1 none 1000 [], .enter 2 none 3000 [], .advance 10 6,
   .claim 1 none [(1, 1000)], .transfer 2 1 2 500, .advance 20 7]

def liveState : St := run (init .mint true 1000000000000 1000 true [1, 2] 0) liveOps

/-- non-vacuity of `no_legit_call_fails` and of the endpoint theorems (closed, by `decide`): in
    `liveState` — week 2, week 1's boosted pool of 2500 pending, user 1 holding its own position 3 (1000) and
    500 of the received position 2 — `legit` holds for an enter with a received position merged in, a claim
    and a compound with two payments, a merge, an exit with the received position, and user 2's
    `claimBoostedRewards`; each succeeds and pays the pending boosted share (623 of user 1, 1876 of user 2).
    `legit` is false for an overdrawn payment list (501 of nonce 2; 300 + 201 of nonce 2) — and true for
    300 + 200, the same nonce paid twice. -/
example :
    let s := liveState
    s.week = some 2 ∧ s.b.accum 1 = 2500 ∧ s.hold 1 3 = 1000 ∧ s.hold 1 2 = 500 ∧
    (s.attrs 2).map (·.owner) = some 2 ∧ s.userTotal 1 = 1000 ∧ s.userTotal 2 = 3000 ∧
    legit s (.enter 1 none 7 [(2, 500)]) = true ∧
    legit s (.claim 1 none [(3, 1000), (2, 200)]) = true ∧
    legit s (.compound 1 none [(3, 1000), (2, 200)]) = true ∧
    legit s (.merge 1 none [(3, 400), (2, 500)]) = true ∧
    legit s (.exit 1 none 2 500) = true ∧
    legit s (.claimBoosted 2 none) = true ∧
    legit s (.claim 1 none [(2, 300), (2, 200)]) = true ∧
    legit s (.claim 1 none [(3, 1000), (2, 501)]) = false ∧
    legit s (.claim 1 none [(2, 300), (2, 201)]) = false ∧
    legit s (.claimBoosted 2 (some 1)) = false := by
  decide

/-- … and what the calls do there (the model computes; the theorems above say they cannot fail):
    `(new nonce, amount, reward)` of enter / claim / compound / merge, the boosted reward of
    `claimBoostedRewards`, `(reward, farming tokens)` of the exit -/
example :
    let s := liveState
    (step s (.enter 1 none 7 [(2, 500)])).map (fun r => (r.2.nonce, r.2.amt, r.2.rew)) = some (4, 507, 623) ∧
    (step s (.claim 1 none [(3, 1000), (2, 200)])).map (fun r => (r.2.nonce, r.2.amt, r.2.rew)) =
      some (4, 1200, 2498) ∧
    (step s (.compound 1 none [(3, 1000), (2, 200)])).map (fun r => (r.2.nonce, r.2.amt, r.2.rew)) =
      some (4, 3698, 2498) ∧
    (step s (.merge 1 none [(3, 400), (2, 500)])).map (fun r => (r.2.nonce, r.2.amt, r.2.rew)) =
      some (4, 900, 623) ∧
    (step s (.claimBoosted 2 none)).map (fun r => r.2.rew) = some 1876 ∧
    (step s (.exit 1 none 2 500)).map (fun r => (r.2.rew, r.2.farming)) = some (2498, 500) ∧
    (step s (.claim 1 none [(3, 1000), (2, 501)])).isSome = false := by
  decide

end Mx.C05Live
