/-
  KFarmBase — the reserve / supply bookkeeping every farm endpoint performs on its `StorageCache`
  (`common/modules/farm/farm_base_impl/src/{enter_farm, claim_rewards, compound_rewards, exit_farm}.rs`,
  shared by `dex/farm`, `dex/farm-with-locked-rewards` and `farm-staking`) and the reserve update of
  `claimBoostedRewards` (dex/farm/src/lib.rs, farm-staking/src/claim_only_boosted_staking_rewards.rs).

  `Gen/KFarmBase.lean` is regenerated on every run by `bin/gen-kernels` (group `FarmBase`).  Each
  fragment starts at the statement that computes the reward (the wrapper's `calculate_rewards` /
  `calculate_boosted_rewards`, an opaque input), so WHICH amount leaves the reserve is part of the
  translation, and the bookkeeping statements themselves may be rewritten freely.  The farm and staking models perform exactly these updates
  (`Core/Farm.lean` / `Core/Staking.lean`: `reserve1 ← sub? g.2.reserve reward`,
  `supply1 ← sub? g.2.supply tok.amount`, `supply + amount`, …); properties C05 (reward accounting is
  exact, principal fully backed), C06 and C12 rest on them.
-/
import MxModel.Gen.KFarmBase
import MxModel.Lemmas.KTactic

namespace Mx.KFarmBase
open Mx Mx.Gen

theorem enter_supply_eq (amount supply : Nat) :
    KFarmBase.enter_supply amount supply = some (supply + amount) := by
  k_defs [KFarmBase.enter_supply]
  try grind

theorem claim_reserve_eq (reward reserve : Nat) :
    KFarmBase.claim_reserve reward reserve = sub? reserve reward := by
  k_defs [KFarmBase.claim_reserve]

theorem compound_reserve_supply_eq (reward supply reserve : Nat) :
    KFarmBase.compound_reserve_supply reward supply reserve =
      (sub? reserve reward).map fun r => (supply + reward, r) := by
  k_defs [KFarmBase.compound_reserve_supply]
  try grind

theorem compound_conserves (reward supply reserve s' r' : Nat)
    (h : KFarmBase.compound_reserve_supply reward supply reserve = some (s', r')) :
    s' + r' = supply + reserve := by
  rw [compound_reserve_supply_eq] at h
  simp only [sub?] at h
  split at h
  · simp only [Option.map_some, Option.some.injEq, Prod.mk.injEq] at h
    omega
  · cases h

/-- `amount` is `token_attributes.get_total_supply()`; the token identifiers and the burned farm-token
    payment `ftp` do not matter -/
theorem exit_reserve_supply_eq (amount ftp reward supply farmingId reserve rewardId : Nat) :
    KFarmBase.exit_reserve_supply amount reward ftp supply farmingId reserve rewardId =
      (sub? reserve reward).bind fun r => (sub? supply amount).map fun s => (amount, reward, s, r) := by
  k_defs [KFarmBase.exit_reserve_supply]
  try grind

theorem claim_boosted_reserve_eq (boosted reserve : Nat) :
    KFarmBase.claim_boosted_reserve boosted reserve = sub? reserve boosted ∧
    KFarmBase.staking_claim_boosted_reserve boosted reserve = sub? reserve boosted := by
  constructor
  · k_defs [KFarmBase.claim_boosted_reserve]
  · k_defs [KFarmBase.staking_claim_boosted_reserve]

example : KFarmBase.compound_reserve_supply 5 100 20 = some (105, 15) := by decide
example : KFarmBase.exit_reserve_supply 30 21 0 100 1 20 2 = none := by decide
example : KFarmBase.exit_reserve_supply 30 5 0 100 1 20 2 = some (30, 5, 70, 15) := by decide

end Mx.KFarmBase
