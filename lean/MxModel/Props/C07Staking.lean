/-
  C07 (farm-staking side) — position tokens: supply = sum; split / merge create no value; owner
  totals exact.

  Statement: the farm-token supply always equals the sum of all outstanding position amounts;
  splitting a position or merging positions preserves total principal and compounded amounts and
  never increases the un-rounded reward entitlement (the amount-weighted entry index of the result
  is never below that of the parts); each user's tracked total farm position equals the sum of
  outstanding positions whose recorded owner is that user.

  Model: Core/Staking.lean, `StakingFarmTokenAttributes` = `Attrs {rps, compounded, amount, owner}`.
  This file has the split / merge clauses; the two sum clauses (supply = sum of positions, owner
  totals) are `supply_eq_sum` / `owner_totals` of Props/C07StakingSum.lean.
  Only property theorems live here (helpers: Lemmas/StakingMerge.lean).
-/
import MxModel.Lemmas.StakingMerge
import MxModel.Lemmas.StakingReward

namespace Mx.C07Staking
open Mx.Staking

/-- merging two positions adds principal and compounded rewards exactly -/
theorem merge_amounts {t o m : Attrs} (h : t.mergeWith o = some m) :
    m.amount = t.amount + o.amount ∧ m.compounded = t.compounded + o.compounded ∧
    m.owner = t.owner := by
  obtain ⟨_, h2, h3, _, h5⟩ := mergeWith_spec h
  exact ⟨h2, h3, h5⟩

/-- the merged entry index is the amount-weighted average rounded UP:
    `rps_m·(a1+a2) ≥ rps1·a1 + rps2·a2` and `< … + (a1+a2)` -/
theorem merge_index_ceil {t o m : Attrs} (h : t.mergeWith o = some m) :
    t.rps * t.amount + o.rps * o.amount ≤ m.rps * (t.amount + o.amount) ∧
    m.rps * (t.amount + o.amount) < t.rps * t.amount + o.rps * o.amount + (t.amount + o.amount) := by
  obtain ⟨h1, _, _, h4, _⟩ := mergeWith_spec h
  rw [h4]
  exact weightedAvgRoundUp_bounds _ _ _ _ h1

/-- merging creates no value: for EVERY later reward index `R` the un-rounded entitlement of the
    merged position, `(a1+a2)·(R − rps_m)`, is at most that of the two parts together -/
theorem merge_no_gain {t o m : Attrs} (h : t.mergeWith o = some m) (R : Nat) :
    m.amount * (R - m.rps) ≤ t.amount * (R - t.rps) + o.amount * (R - o.rps) := by
  obtain ⟨h1, h2, _, h4, _⟩ := mergeWith_spec h
  rw [h2, h4]
  exact merge_no_gain_arith _ _ _ _ R h1

/-- … hence also after the floor: the base reward of the merged position at any later index is at
    most the un-rounded sum of the parts' entitlements divided by the safety constant -/
theorem merge_no_gain_floor {t o m : Attrs} (h : t.mergeWith o = some m) (R dsc : Nat) :
    m.amount * (R - m.rps) / dsc ≤ (t.amount * (R - t.rps) + o.amount * (R - o.rps)) / dsc :=
  Nat.div_le_div_right (merge_no_gain h R)

/-- splitting: the part used carries exactly the amount sent, the same index and owner -/
theorem split_principal {t a : Attrs} {x : Nat} (h : t.intoPart x = some a) :
    a.amount = x ∧ a.rps = t.rps ∧ a.owner = t.owner := by
  obtain ⟨h1, h2, h3, _⟩ := intoPart_spec h
  exact ⟨h3, h1, h2⟩

/-- splitting a position in two: principal is exact, compounded rewards are floored per part (the
    parts together never carry more than the whole), index unchanged -/
theorem split_compounded_floor {t a b : Attrs} {x y : Nat} (hx : t.intoPart x = some a)
    (hy : t.intoPart y = some b) (hxy : x + y = t.amount) (hx0 : 0 < x) (hy0 : 0 < y) :
    a.amount + b.amount = t.amount ∧ a.compounded + b.compounded ≤ t.compounded ∧
    a.rps = t.rps ∧ b.rps = t.rps := by
  obtain ⟨h1, h2, h3, h4, _, _⟩ := split_spec hx hy hxy hx0 hy0
  exact ⟨h1, h2, h3, h4⟩

/-- what is left of a partially used token keeps its attributes: a claim never rewrites the
    metadata of an existing nonce, it only creates a new one -/
theorem split_index_unchanged {s s' : St} {c orig : Nat} {pays : List Pay} {nv : Option Nat} {o : Out}
    (h : claimCore s c orig pays nv = some (s', o)) (n : Nat) (hn : n ≠ s.nonce + 1) :
    s'.md n = s.md n := by
  obtain ⟨_, _, _, _, _, _, _, _, _, _, t⟩ := claimCore_trace h
  obtain rfl := t.state
  exact Mx.Weekly.upd_other _ _ hn

/-- the position a claim hands out has the total amount of the payments (or the proxy's new
    value), and records the ORIGINAL CALLER as owner, whoever owned the parts before -/
theorem claim_rewrites_owner {s s' : St} {c orig : Nat} {pays : List Pay} {nv : Option Nat} {o : Out}
    (h : claimCore s c orig pays nv = some (s', o)) :
    ∃ a, s'.md o.a = some (.pos a) ∧ a.owner = orig ∧
      a.amount = nv.getD ((pays.map (·.2)).sum) ∧ s'.hold c o.a = a.amount := by
  obtain ⟨p, first, tok, r, merged, hp, _, ht, _, _, _, _, hm, hmd, _, hoa, _, hh⟩ := claimCore_reward h
  obtain ⟨m1, m2, _⟩ := mergeParts_spec _ _ _ _ hm
  obtain ⟨_, _, t3, _⟩ := intoPart_spec ht
  have hsum : (pays.map (·.2)).sum = p.2 + (pays.tail.map (·.2)).sum := by
    cases pays with
    | nil => simp at hp
    | cons q qs =>
      simp only [List.head?_cons, Option.some.injEq] at hp
      subst hp
      simp
  refine ⟨{ merged with amount := nv.getD merged.amount }, by rw [hoa]; exact hmd, m2, ?_, by rw [hoa]; exact hh⟩
  simp only at m1
  cases nv with
  | none => simp only [Option.getD_none]; omega
  | some x => simp

/-- non-vacuity: two positions with different entry indexes merge with a genuinely rounded-up
    index (ceil ≠ floor), and the merged amount is the sum -/
example :
    let t : Attrs := ⟨3, 0, 2, 1⟩
    let o : Attrs := ⟨4, 5, 1, 2⟩
    (t.mergeWith o).map (fun m => (m.rps, m.amount, m.compounded, m.owner)) = some (4, 3, 5, 1) ∧
    (3 * 2 + 4 * 1) / 3 = 3 := by
  decide

end Mx.C07Staking
