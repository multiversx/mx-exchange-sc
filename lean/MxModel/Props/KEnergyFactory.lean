/-
  KEnergyFactory — the model's month normalisation and early-unlock penalty (`Core/Energy.lean`:
  `startOfMonth`, `pctPartial`, `penaltyAmount`) compute what the SOURCE of
  `locked-asset/energy-factory/src/{lock_options.rs, unlock_with_penalty.rs}` computes.

  `Gen/KEnergyFactory.lean` is regenerated on every run by `bin/gen-kernels`.  The source functions
  call `calculate_penalty_percentage_full_unlock` (a loop over the stored lock options, outside the
  translated subset); the translation takes it as a function parameter, instantiated here with the
  model's `pctFull opts` (bracket search + `linear_interpolation`).  Under that instantiation the
  source functions ARE the model functions: same result, same aborts.
-/
import MxModel.Gen.KEnergyFactory
import MxModel.Core.Energy
import MxModel.Props.KMath
import MxModel.Lemmas.KTactic

namespace Mx.KEnergyFactory
open Mx Mx.Gen Mx.Energy

/-- it never aborts: the modulus is the constant 30 and the remainder never exceeds the epoch -/
theorem unlock_epoch_to_start_of_month_eq (e : Nat) :
    KEnergyFactory.unlock_epoch_to_start_of_month e = some (startOfMonth e) := by
  have hM : MONTH = 30 := rfl
  k_defs [KEnergyFactory.unlock_epoch_to_start_of_month, startOfMonth, hM]
  grind

theorem unlock_epoch_to_start_of_month_spec (e m : Nat)
    (h : KEnergyFactory.unlock_epoch_to_start_of_month e = some m) :
    m % 30 = 0 ∧ m ≤ e ∧ e < m + 30 := by
  rw [unlock_epoch_to_start_of_month_eq, Option.some.injEq] at h
  subst h
  have hM : MONTH = 30 := rfl
  simp only [startOfMonth, hM]
  omega

/-- for ANY full-unlock percentage function `f`.  The abort cases: `pp < pn` is the checked `u64`
    subtraction, `pn = 10000` the division by zero. -/
theorem partial_unlock_generic (f : Nat → Option Nat) (prev new pp pn : Nat)
    (hp : f prev = some pp) (hn : f new = some pn) :
    KEnergyFactory.calculate_penalty_percentage_partial_unlock prev new f =
      if pp < pn ∨ 10000 ≤ pn then none else some ((pp - pn) * 10000 / (10000 - pn)) := by
  k_defs [KEnergyFactory.calculate_penalty_percentage_partial_unlock, hp, hn]
  grind

theorem partial_unlock_eq (opts : List Opt) (prev new : Nat) :
    KEnergyFactory.calculate_penalty_percentage_partial_unlock prev new (pctFull opts) =
      pctPartial opts prev new := by
  have hX : MAXPCT = 10000 := rfl
  cases hp : pctFull opts prev <;> cases hn : pctFull opts new <;>
    k_defs [KEnergyFactory.calculate_penalty_percentage_partial_unlock, pctPartial, hX, hp, hn] <;> try grind

theorem calculate_penalty_amount_eq (opts : List Opt) (amt prev new : Nat) :
    KEnergyFactory.calculate_penalty_amount amt prev new (pctFull opts) =
      penaltyAmount opts amt prev new := by
  have hX : MAXPCT = 10000 := rfl
  -- an empty table aborts in the model's percentage functions too: its `req (opts ≠ [])` changes nothing
  cases opts with
  | nil => k_defs [KEnergyFactory.calculate_penalty_amount, penaltyAmount, partial_unlock_eq, pctPartial, pctFull,
      pctFrom, ite_self, ne_eq]
  | cons o r =>
    k_defs [KEnergyFactory.calculate_penalty_amount, penaltyAmount, partial_unlock_eq, hX]
    grind

/-- unlock_with_penalty.rs computes `lock_epochs − (tentative − start_of_month(tentative))` with
    `tentative = current + lock_epochs`; the model's `reduceLock` uses `epochs − (now + epochs) % 30` -/
theorem reduce_new_lock_epochs_eq (now epochs m : Nat)
    (h : KEnergyFactory.unlock_epoch_to_start_of_month (now + epochs) = some m) :
    (now + epochs) - m = (now + epochs) % MONTH := by
  rw [unlock_epoch_to_start_of_month_eq, Option.some.injEq] at h
  subst h
  have hM : MONTH = 30 := rfl
  simp only [startOfMonth, hM]
  omega

/-- on the brackets the model's search produces, the source's `linear_interpolation` never divides by
    zero, so the model's unguarded `linInterp` is the source's.  `h0`: reachable calls have `0 = e0 < rem`. -/
theorem pctFrom_runs_linear_interpolation (opts : List Opt) (e0 p0 rem p : Nat) (h0 : e0 < rem)
    (h : pctFrom e0 p0 opts rem = some p) :
    ∃ a pa b pb, a < rem ∧ rem ≤ b ∧ (b, pb) ∈ opts ∧
      KMath.linear_interpolation a b rem pa pb = some p := by
  induction opts generalizing e0 p0 with
  | nil => simp only [pctFrom] at h; cases h
  | cons o rest ih =>
    obtain ⟨e1, p1⟩ := o
    simp only [pctFrom] at h
    by_cases hle : rem ≤ e1
    · rw [if_pos hle, Option.some.injEq] at h
      refine ⟨e0, p0, e1, p1, h0, hle, List.mem_cons_self, ?_⟩
      rw [Mx.KMath.linear_interpolation_some e0 e1 rem p0 p1 (by omega) hle (by omega), h]
    · rw [if_neg hle] at h
      obtain ⟨a, pa, b, pb, h1, h2, h3, h4⟩ := ih e1 p1 (by omega) h
      exact ⟨a, pa, b, pb, h1, h2, List.mem_cons_of_mem _ h3, h4⟩

/-! ### unlock epochs of `lockTokens` / `lockVirtual` / `extendLockPeriod` -/

/-- the model's `unlock` and its guard `s.epoch < unlock` -/
theorem lock_unlock_epoch_eq (now epochs : Nat) :
    KEnergyFactory.lock_unlock_epoch now epochs =
      if now < startOfMonth (now + epochs) then some (startOfMonth (now + epochs)) else none := by
  k_defs [KEnergyFactory.lock_unlock_epoch, unlock_epoch_to_start_of_month_eq]
  try grind

theorem lock_virtual_unlock_epoch_eq (now epochs : Nat) :
    KEnergyFactory.lock_virtual_unlock_epoch now epochs =
      if now < startOfMonth (now + epochs) then some (startOfMonth (now + epochs)) else none := by
  k_defs [KEnergyFactory.lock_virtual_unlock_epoch, unlock_epoch_to_start_of_month_eq]
  try grind

theorem extend_unlock_epoch_eq (now epochs : Nat) :
    KEnergyFactory.extend_unlock_epoch now epochs =
      if now < startOfMonth (now + epochs) then some (startOfMonth (now + epochs)) else none := by
  k_defs [KEnergyFactory.extend_unlock_epoch, unlock_epoch_to_start_of_month_eq]
  try grind

/-- the model's `req (old < unlock)` -/
theorem extend_epoch_guard_eq (old new : Nat) :
    KEnergyFactory.extend_epoch_guard old new = if old < new then some () else none := by
  k_defs [KEnergyFactory.extend_epoch_guard]
  try grind

theorem lockTokens_runs_source {s s' : St} {c amt epochs dest : Nat} {o : Out}
    (h : lockTokens s c amt epochs dest = some (s', o)) :
    KEnergyFactory.lock_unlock_epoch s.epoch epochs = some (startOfMonth (s.epoch + epochs)) := by
  simp only [lockTokens, Option.bind_eq_bind, Option.bind_eq_some_iff, req_eq_some] at h
  obtain ⟨_, _, _, _, _, _, _, hu, _⟩ := h
  rw [lock_unlock_epoch_eq, if_pos hu]

theorem lockVirtual_runs_source {s s' : St} {c amt epochs dest eaddr : Nat} {o : Out}
    (h : lockVirtual s c amt epochs dest eaddr = some (s', o)) :
    KEnergyFactory.lock_virtual_unlock_epoch s.epoch epochs =
      some (startOfMonth (s.epoch + epochs)) := by
  simp only [lockVirtual, Option.bind_eq_bind, Option.bind_eq_some_iff, req_eq_some] at h
  obtain ⟨_, _, _, _, _, _, _, _, _, _, _, hu, _⟩ := h
  rw [lock_virtual_unlock_epoch_eq, if_pos hu]

theorem extendLock_runs_source {s s' : St} {c n amt epochs dest : Nat} {o : Out}
    (h : extendLock s c n amt epochs dest = some (s', o)) :
    KEnergyFactory.extend_unlock_epoch s.epoch epochs = some (startOfMonth (s.epoch + epochs)) ∧
    ∃ old, s.unlockOf n = some old ∧
      KEnergyFactory.extend_epoch_guard old (startOfMonth (s.epoch + epochs)) = some () := by
  simp only [extendLock, Option.bind_eq_bind, Option.bind_eq_some_iff, req_eq_some] at h
  obtain ⟨_, _, _, _, _, _, _, hu, _, _, old, hold, _, _, _, hlt, _⟩ := h
  refine ⟨by rw [extend_unlock_epoch_eq, if_pos hu], old, hold, ?_⟩
  rw [extend_epoch_guard_eq, if_pos hlt]

/-! ### `reduceLockPeriod` / `unlockEarly` (reduce_lock_period_common) -/

theorem reduce_unlockable_guard_eq (unlock now : Nat) :
    KEnergyFactory.reduce_unlockable_guard unlock now = if now < unlock then some () else none := by
  k_defs [KEnergyFactory.reduce_unlockable_guard]
  try grind

/-- the model's `newEpochs ← sub? epochs ((s.epoch + epochs) % MONTH)` -/
theorem reduce_new_lock_epochs_src_eq (now epochs : Nat) :
    KEnergyFactory.reduce_new_lock_epochs now epochs = sub? epochs ((now + epochs) % MONTH) := by
  have hM : MONTH = 30 := rfl
  k_defs [KEnergyFactory.reduce_new_lock_epochs, unlock_epoch_to_start_of_month_eq, startOfMonth, hM]
  grind

theorem reduce_prev_lock_epochs_eq (unlock now new : Nat) :
    KEnergyFactory.reduce_prev_lock_epochs unlock now new =
      if unlock < now ∨ unlock - now ≤ new then none else some (unlock - now) := by
  k_defs [KEnergyFactory.reduce_prev_lock_epochs]
  grind

/-- the model's `req (pen < amt)`, `amt − pen` -/
theorem reduce_apply_penalty_eq (pen amt : Nat) :
    KEnergyFactory.reduce_apply_penalty pen amt = if pen < amt then some (amt - pen) else none := by
  k_defs [KEnergyFactory.reduce_apply_penalty]
  grind

/-- `reduceLockPeriod` after the common part; the second component is the penalty sent on -/
theorem reduce_relock_eq (now paid newEpochs x relocked : Nat) :
    KEnergyFactory.reduce_relock now paid newEpochs x relocked =
      if paid < relocked then none else some (now + newEpochs, paid - relocked) := by
  k_defs [KEnergyFactory.reduce_relock]
  grind

/-- what is burned of the old locked tokens; the penalty part travels on to token-unstake as locked
    tokens -/
theorem reduce_burn_amount_eq (paid pen : Nat) :
    KEnergyFactory.reduce_burn_amount paid pen = if paid < pen then none else some (paid - pen) := by
  k_defs [KEnergyFactory.reduce_burn_amount]
  grind

theorem reduceLock_runs_source {s s' : St} {c n amt epochs : Nat} {o : Out}
    (h : reduceLock s c n amt epochs = some (s', o)) :
    ∃ unlock newEpochs,
      s.unlockOf n = some unlock ∧
      KEnergyFactory.reduce_unlockable_guard unlock s.epoch = some () ∧
      KEnergyFactory.reduce_new_lock_epochs s.epoch epochs = some newEpochs ∧
      KEnergyFactory.reduce_prev_lock_epochs unlock s.epoch newEpochs = some (unlock - s.epoch) ∧
      KEnergyFactory.calculate_penalty_amount amt (unlock - s.epoch) newEpochs (pctFull s.opts) =
        some o.v3 ∧
      KEnergyFactory.reduce_apply_penalty o.v3 amt = some o.v2 ∧
      KEnergyFactory.reduce_relock s.epoch amt newEpochs 0 o.v2 = some (s.epoch + newEpochs, o.v3) := by
  simp only [reduceLock, Option.bind_eq_bind, Option.bind_eq_some_iff, req_eq_some,
    Option.pure_def, Option.some.injEq, Prod.mk.injEq] at h
  obtain ⟨_, _, _, _, _, _, unlock, hun, _, _, _, hlt, newEpochs, hnew, _, hprev, _, _, pen, hpen,
    _, hpos, _, hpa, _, _, _, _, _, rfl⟩ := h
  refine ⟨unlock, newEpochs, hun, ?_, ?_, ?_, ?_, ?_, ?_⟩
  · rw [reduce_unlockable_guard_eq, if_pos hlt]
  · rw [reduce_new_lock_epochs_src_eq, hnew]
  · rw [reduce_prev_lock_epochs_eq, if_neg (by omega)]
  · rw [calculate_penalty_amount_eq, hpen]
  · rw [reduce_apply_penalty_eq, if_pos hpa]
  · have e2 : amt - (amt - pen) = pen := by omega
    have e3 : ¬ amt < amt - pen := by omega
    simp only [reduce_relock_eq, e2, if_neg e3]

/-- `unlockEarly` is the common part with new period 0 -/
theorem unlockEarly_runs_source {s s' : St} {c n amt : Nat} {o : Out}
    (h : unlockEarly s c n amt = some (s', o)) :
    ∃ unlock,
      s.unlockOf n = some unlock ∧
      KEnergyFactory.reduce_unlockable_guard unlock s.epoch = some () ∧
      KEnergyFactory.reduce_prev_lock_epochs unlock s.epoch 0 = some (unlock - s.epoch) ∧
      KEnergyFactory.calculate_penalty_amount amt (unlock - s.epoch) 0 (pctFull s.opts) = some o.v1 ∧
      KEnergyFactory.reduce_apply_penalty o.v1 amt = some o.v2 := by
  simp only [unlockEarly, Option.bind_eq_bind, Option.bind_eq_some_iff, req_eq_some,
    Option.pure_def, Option.some.injEq, Prod.mk.injEq] at h
  obtain ⟨_, _, unlock, hun, _, _, _, hlt, _, _, pen, hpen, _, _, _, hpa, _, _, _, rfl⟩ := h
  refine ⟨unlock, hun, ?_, ?_, ?_, ?_⟩
  · rw [reduce_unlockable_guard_eq, if_pos hlt]
  · rw [reduce_prev_lock_epochs_eq, if_neg (by omega)]
  · rw [calculate_penalty_amount_eq, hpen]
  · rw [reduce_apply_penalty_eq, if_pos hpa]

example : KEnergyFactory.unlock_epoch_to_start_of_month 95 = some 90 := by decide
example : KEnergyFactory.lock_unlock_epoch 100 360 = some 450 := by decide
example : KEnergyFactory.lock_unlock_epoch 100 10 = none := by decide
example : KEnergyFactory.reduce_new_lock_epochs 100 360 = some 350 := by decide
example : KEnergyFactory.calculate_penalty_amount 1000 360 0 (pctFull [(360, 4000), (720, 6000)]) =
    some 400 := by decide
example : KEnergyFactory.calculate_penalty_amount 1000 720 360 (pctFull [(360, 4000), (720, 6000)]) =
    some 333 := by decide
example : KEnergyFactory.calculate_penalty_amount 1000 721 0 (pctFull [(360, 4000), (720, 6000)]) =
    none := by decide

end Mx.KEnergyFactory
