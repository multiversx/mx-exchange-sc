/-
  KPairState — the state predicates, the reserve selection and the opening `require!` blocks of the
  pair's user endpoints, as the SOURCE states them (dex/pair/src/pair_actions/*.rs,
  contexts/base.rs), against the pair model (`Core/Pair.lean`).

  `Gen/KPairState.lean` is regenerated on every run by `bin/gen-kernels`.  `pausable::State` and
  `SwapTokensOrder` are plain enums: a value is its variant index (`Status.tag`, `Dir.tag` of
  `Lemmas/KernelTags.lean`); an `Option` place is the pair (tag, payload) (`optTag`, `optVal`).
  Token identifiers are numbers; `is_valid_esdt_identifier()` and `whitelist().contains(..)` are
  Bool inputs.

  What this file ties to the source (the deterministic side of C19's "paused means no fund moves,
  a partially active pair accepts liquidity but no swaps"):
  * `is_state_active` / `can_swap` of the source decide the model's status conditions;
  * `get_reserve_in` / `get_reserve_out` (a `match` on the swap direction) are the model's `rin` / `rout`;
  * the guard block of every user endpoint, in closed form, and: every successful model step passes
    the source's guard block (`*_runs_source_guards`); in an Inactive pair every guard block of a
    gated endpoint aborts for ALL arguments, in a PartialActive pair every swap guard aborts.
-/
import MxModel.Gen.KPairState
import MxModel.Lemmas.PairSpec
import MxModel.Lemmas.KernelTags
import MxModel.Lemmas.KTactic

namespace Mx.KPairState
open Mx Mx.Pair Mx.Gen

theorem is_state_active_eq (st : Status) :
    KPairState.is_state_active st.tag = some (decide (st = .active ∨ st = .partialActive)) := by
  cases st <;> k_defs [KPairState.is_state_active, Status.tag] <;> simp

theorem can_swap_eq (st : Status) :
    KPairState.can_swap st.tag = some (decide (st = .active)) := by
  cases st <;> k_defs [KPairState.can_swap, Status.tag] <;> simp

theorem get_reserve_in_eq (s : St) (d : Dir) :
    KPairState.get_reserve_in d.tag s.r1 s.r2 = some (s.rin d) := by
  cases d <;> k_defs [KPairState.get_reserve_in, Dir.tag, St.rin] <;> try grind

theorem get_reserve_out_eq (s : St) (d : Dir) :
    KPairState.get_reserve_out d.tag s.r1 s.r2 = some (s.rout d) := by
  cases d <;> k_defs [KPairState.get_reserve_out, Dir.tag, St.rout] <;> try grind

/-- a direction index outside the enum makes the selection abort (the `| _ => none` the translator
    adds to a `match` without catch-all arm) -/
theorem get_reserve_bad_order (n a b : Nat) (h : 2 ≤ n) :
    KPairState.get_reserve_in n a b = none ∧ KPairState.get_reserve_out n a b = none := by
  obtain ⟨k, rfl⟩ : ∃ k, n = k + 2 := ⟨n - 2, by omega⟩
  constructor <;> rfl

/-- `addLiquidity`: the block between reading the payments and `update_safe_price` -/
theorem add_liq_guard_eq (a1 t1 a2 t2 id1 id2 S : Nat) (st : Status) (adder : Option Nat)
    (lpValid : Bool) :
    KPairState.add_liq_guard a1 t1 (optTag adder) a2 t2 st.tag id1 lpValid S id2 =
      if (t1 = id1 ∧ 0 < a1) ∧ (t2 = id2 ∧ 0 < a2) ∧ (st = .active ∨ st = .partialActive) ∧
         lpValid = true ∧ (adder = none ∨ S ≠ 0) then some () else none := by
  have ho : optTag adder = 0 ↔ adder = none := by cases adder <;> simp [optTag]
  generalize optTag adder = ot at ho
  k_defs [KPairState.add_liq_guard, is_state_active_eq]
  cases st <;> cases lpValid <;> simp [ho] <;> try grind

theorem remove_liq_guard_eq (lp tok lpId : Nat) (st : Status) (lpValid : Bool) :
    KPairState.remove_liq_guard lp tok st.tag lpId lpValid =
      if (st = .active ∨ st = .partialActive) ∧ lpValid = true ∧ (tok = lpId ∧ 0 < lp)
      then some () else none := by
  k_defs [KPairState.remove_liq_guard, is_state_active_eq]
  cases st <;> cases lpValid <;> simp <;> try grind

/-- `addInitialLiquidity`, the caller check (`if let Some(adder) = … { require!(caller == adder) }`): the
    model's first guard -/
theorem add_initial_adder_guard_eq (c : Nat) (adder : Option Nat) :
    KPairState.add_initial_adder_guard c (optTag adder) (optVal adder) =
      if adder = none ∨ adder = some c then some () else none := by
  cases adder with
  | none =>
    k_defs [KPairState.add_initial_adder_guard, optTag, optVal]
    try grind
  | some v =>
    have hv : (some v = none ∨ some v = some c) ↔ c = v := by
      constructor
      · rintro (h | h)
        · cases h
        · exact (Option.some.inj h).symm
      · rintro rfl; exact Or.inr rfl
    k_defs [KPairState.add_initial_adder_guard, optTag, optVal, hv]
    try grind

/-- `addInitialLiquidity`, the block after the payments; `!is_state_active` leaves only Inactive -/
theorem add_initial_guard_eq (a1 t1 a2 t2 id1 id2 S : Nat) (st : Status) :
    KPairState.add_initial_guard a1 t1 a2 t2 st.tag id1 S id2 =
      if (t1 = id1 ∧ 0 < a1) ∧ (t2 = id2 ∧ 0 < a2) ∧ st = .inactive ∧ S = 0
      then some () else none := by
  k_defs [KPairState.add_initial_guard, is_state_active_eq]
  cases st <;> simp <;> try grind

theorem swap_fixed_input_guard_eq (s : St) (d : Dir) (minOut : Nat) :
    KPairState.swap_fixed_input_guard s.status.tag s.r1 s.r2 minOut d.tag =
      if s.status = .active ∧ minOut < s.rout d then some () else none := by
  k_defs [KPairState.swap_fixed_input_guard, can_swap_eq, get_reserve_out_eq]
  cases s.status <;> simp <;> try grind

theorem swap_fixed_output_guard_eq (s : St) (d : Dir) (out : Nat) :
    KPairState.swap_fixed_output_guard s.status.tag s.r1 s.r2 out d.tag =
      if s.status = .active ∧ out < s.rout d then some () else none := by
  k_defs [KPairState.swap_fixed_output_guard, can_swap_eq, get_reserve_out_eq]
  cases s.status <;> simp <;> try grind

theorem swap_no_fee_guards_eq (c : Nat) (wl : Bool) (st : Status) :
    KPairState.swap_no_fee_whitelist_guard c wl = (if wl = true then some () else none) ∧
    KPairState.swap_no_fee_state_guard st.tag = (if st = .active then some () else none) := by
  constructor
  · k_defs [KPairState.swap_no_fee_whitelist_guard]
  · k_defs [KPairState.swap_no_fee_state_guard, can_swap_eq]
    try (cases st <;> simp)

theorem args_guards_eq (m1 m2 : Nat) :
    KPairState.add_liq_args_guard m1 m2 = (if 0 < m1 ∧ 0 < m2 then some () else none) ∧
    KPairState.remove_liq_args_guard m1 m2 = (if 0 < m1 ∧ 0 < m2 then some () else none) ∧
    KPairState.swap_fixed_input_args_guard m1 = (if 0 < m1 then some () else none) ∧
    KPairState.swap_fixed_output_args_guard m1 = (if 0 < m1 then some () else none) := by
  refine ⟨?_, ?_, ?_, ?_⟩
  · k_defs [KPairState.add_liq_args_guard]
    try grind
  · k_defs [KPairState.remove_liq_args_guard]
    try grind
  · k_defs [KPairState.swap_fixed_input_args_guard]
    try grind
  · k_defs [KPairState.swap_fixed_output_args_guard]
    try grind

/-- the payments carry the pool's own token identifiers (`id1`, `id2`) and the LP token is issued (`true`) -/
theorem addLiq_runs_source_guards {s : St} {a1 a2 m1 m2 : Nat} {r : St × Out}
    (h : addLiq s a1 a2 m1 m2 = some r) (id1 id2 : Nat) :
    KPairState.add_liq_args_guard m1 m2 = some () ∧
    KPairState.add_liq_guard a1 id1 (optTag s.adder) a2 id2 s.status.tag id1 true s.S id2 = some () := by
  obtain ⟨s', o⟩ := r
  rw [(args_guards_eq m1 m2).1, add_liq_guard_eq]
  have hm : 0 < m1 ∧ 0 < m2 := by
    simp only [addLiq, Option.bind_eq_bind, Option.bind_eq_some_iff, req_eq_some] at h
    exact h.choose_spec.1
  by_cases hS : s.S = 0
  · obtain ⟨h1, h2, h3, h4, _⟩ := addLiq_first_spec hS h
    rw [if_pos hm, if_pos ⟨⟨rfl, h1⟩, ⟨rfl, h2⟩, h3, rfl, Or.inl h4⟩]; exact ⟨rfl, rfl⟩
  · obtain ⟨_, _, _, _, h1, h2, h3, _⟩ := addLiq_spec hS h
    rw [if_pos hm, if_pos ⟨⟨rfl, h1⟩, ⟨rfl, h2⟩, h3, rfl, Or.inr hS⟩]; exact ⟨rfl, rfl⟩

theorem removeLiq_runs_source_guards {s : St} {lp m1 m2 : Nat} {r : St × Out}
    (h : removeLiq s lp m1 m2 = some r) (lpId : Nat) :
    KPairState.remove_liq_args_guard m1 m2 = some () ∧
    KPairState.remove_liq_guard lp lpId s.status.tag lpId true = some () := by
  obtain ⟨s', o⟩ := r
  obtain ⟨h1, h2, h3, h4, _⟩ := removeLiq_spec h
  rw [(args_guards_eq m1 m2).2.1, remove_liq_guard_eq, if_pos ⟨h1, h2⟩, if_pos ⟨h3, rfl, rfl, h4⟩]
  exact ⟨rfl, rfl⟩

theorem addInitial_runs_source_guards {s : St} {c a1 a2 : Nat} {r : St × Out}
    (h : addInitial s c a1 a2 = some r) (id1 id2 : Nat) :
    KPairState.add_initial_adder_guard c (optTag s.adder) (optVal s.adder) = some () ∧
    KPairState.add_initial_guard a1 id1 a2 id2 s.status.tag id1 s.S id2 = some () := by
  obtain ⟨s', o⟩ := r
  obtain ⟨h1, h2, h3, h4, h5, _⟩ := addInitial_spec h
  rw [add_initial_adder_guard_eq, add_initial_guard_eq, if_pos h1,
    if_pos ⟨⟨rfl, h2⟩, ⟨rfl, h3⟩, h4, h5⟩]
  exact ⟨rfl, rfl⟩

theorem swapIn_runs_source_guards {s : St} {d : Dir} {a minOut : Nat} {r : St × Out}
    (h : swapIn s d a minOut = some r) :
    KPairState.swap_fixed_input_args_guard minOut = some () ∧
    KPairState.swap_fixed_input_guard s.status.tag s.r1 s.r2 minOut d.tag = some () := by
  obtain ⟨s', o⟩ := r
  obtain ⟨h1, _, h3, h5, h6, _⟩ := swapIn_iff.mp h
  rw [(args_guards_eq minOut 0).2.2.1, swap_fixed_input_guard_eq, if_pos h1,
    if_pos ⟨h3, Nat.lt_of_le_of_lt h5 h6⟩]
  exact ⟨rfl, rfl⟩

theorem swapOut_runs_source_guards {s : St} {d : Dir} {maxIn out : Nat} {r : St × Out}
    (h : swapOut s d maxIn out = some r) :
    KPairState.swap_fixed_output_args_guard out = some () ∧
    KPairState.swap_fixed_output_guard s.status.tag s.r1 s.r2 out d.tag = some () := by
  obtain ⟨s', o⟩ := r
  obtain ⟨h1, _, h3, h4, _⟩ := swapOut_iff.mp h
  rw [(args_guards_eq out 0).2.2.2, swap_fixed_output_guard_eq, if_pos h1, if_pos ⟨h3, h4⟩]
  exact ⟨rfl, rfl⟩

/-- `c ∈ wl` is what `whitelist().contains(&caller)` reads -/
theorem swapNoFee_runs_source_guards {s : St} {c : Nat} {d : Dir} {a : Nat} {r : St × Out}
    (h : swapNoFee s c d a = some r) :
    KPairState.swap_no_fee_whitelist_guard c (decide (c ∈ s.wl)) = some () ∧
    KPairState.swap_no_fee_state_guard s.status.tag = some () := by
  obtain ⟨s', o⟩ := r
  obtain ⟨h1, _, h3, _⟩ := swapNoFee_spec h
  rw [(swap_no_fee_guards_eq c (decide (c ∈ s.wl)) s.status).1,
    (swap_no_fee_guards_eq c true s.status).2, if_pos (by simpa using h1), if_pos h3]
  exact ⟨rfl, rfl⟩

theorem source_guards_block_when_inactive
    (a1 t1 ot a2 t2 id1 id2 S lp tok lpId r1 r2 x dir : Nat) (v : Bool) :
    KPairState.add_liq_guard a1 t1 ot a2 t2 Status.inactive.tag id1 v S id2 = none ∧
    KPairState.remove_liq_guard lp tok Status.inactive.tag lpId v = none ∧
    KPairState.swap_fixed_input_guard Status.inactive.tag r1 r2 x dir = none ∧
    KPairState.swap_fixed_output_guard Status.inactive.tag r1 r2 x dir = none ∧
    KPairState.swap_no_fee_state_guard Status.inactive.tag = none := by
  refine ⟨?_, ?_, ?_, ?_, ?_⟩
  · k_defs [KPairState.add_liq_guard, is_state_active_eq]
    simp; try grind
  · k_defs [KPairState.remove_liq_guard, is_state_active_eq]
    simp
  · k_defs [KPairState.swap_fixed_input_guard, can_swap_eq]
    simp
  · k_defs [KPairState.swap_fixed_output_guard, can_swap_eq]
    simp
  · k_defs [KPairState.swap_no_fee_state_guard, can_swap_eq]
    simp

theorem source_guards_partial_active (r1 r2 x dir : Nat) :
    KPairState.swap_fixed_input_guard Status.partialActive.tag r1 r2 x dir = none ∧
    KPairState.swap_fixed_output_guard Status.partialActive.tag r1 r2 x dir = none ∧
    KPairState.swap_no_fee_state_guard Status.partialActive.tag = none ∧
    KPairState.is_state_active Status.partialActive.tag = some true := by
  refine ⟨?_, ?_, ?_, ?_⟩
  · k_defs [KPairState.swap_fixed_input_guard, can_swap_eq]
    simp
  · k_defs [KPairState.swap_fixed_output_guard, can_swap_eq]
    simp
  · k_defs [KPairState.swap_no_fee_state_guard, can_swap_eq]
    simp
  · rw [is_state_active_eq]; rfl

/-! non-vacuity: concrete inputs on which the guards pass / abort -/
example : KPairState.add_liq_guard 5 7 0 6 8 1 7 true 0 8 = some () := by decide
example : KPairState.add_liq_guard 5 7 1 6 8 1 7 true 0 8 = none := by decide      -- adder set, empty pool
example : KPairState.add_liq_guard 5 7 1 6 8 2 7 true 9 8 = some () := by decide   -- PartialActive accepts liquidity
example : KPairState.add_liq_guard 5 7 0 6 8 0 7 true 9 8 = none := by decide      -- Inactive
example : KPairState.swap_fixed_input_guard 1 100 200 150 0 = some () := by decide
example : KPairState.swap_fixed_input_guard 1 100 200 150 1 = none := by decide    -- other direction: reserve 100
example : KPairState.swap_fixed_input_guard 2 100 200 150 0 = none := by decide    -- PartialActive: no swaps
example : KPairState.add_initial_adder_guard 4 1 4 = some () := by decide
example : KPairState.add_initial_adder_guard 5 1 4 = none := by decide
example : KPairState.get_reserve_in 1 10 20 = some 20 := by decide
example : (addLiq { (Pair.init 300 100 none 0) with status := .active } 5000 6000 1 1).isSome = true ∧
    KPairState.add_liq_guard 5000 7 (optTag (none : Option Nat)) 6000 8 Status.active.tag 7 true 0 8 = some () :=
  ⟨by decide, by decide⟩

end Mx.KPairState
