/-
  KGovGuards — the guards of governance `vote` and `withdrawDeposit`
  (energy-integration/governance-v2/src/lib.rs) as the SOURCE writes them, against
  `Core/Governance.lean` (property C18: only an Active proposal can be voted on and only once per
  address; the deposit comes back only after the vote ended, once, and — unless vetoed — only to
  the proposer).

  Generated (`Gen/KGov.lean`):
    * `vote_guard`               head of `vote` up to the tally: `require_valid_proposal_id` (a helper
                                 of the crate, inlined), `get_proposal_status(id) == Active` (the
                                 translated status function, its enum result compared by variant
                                 index), `user_voted_proposals(voter).insert(id)` must be new
    * `withdraw_deposit_guards`  the WHOLE `withdraw_deposit` with the transfers / the burn / the
                                 storage write-back skipped: the `match` on the status (None and
                                 Pending / Active abort), the proposer and once-only checks per
                                 arm; result = the new `fee_withdrawn` flag
-/
import MxModel.Props.KGov

namespace Mx.KGovGuards
open Mx Mx.Gen Mx.Gov

theorem vote_guard_eq (p : Proposal) (b c id : Nat) (valid voted : Bool) :
    KGov.vote_guard (decide p.vetoed) (decide p.voteReached) b c valid true p.start p.delay p.period id
        (decide p.quorumReached) voted =
      if valid = true ∧ p.statusAt b = .active ∧ voted = false then some () else none := by
  k_defs [KGov.vote_guard, KGov.get_proposal_status_eq]
  cases valid <;> cases voted <;> cases h : p.statusAt b <;> simp [Status.tag]

theorem vote_guard_missing (b c st dl pd id : Nat) (valid voted q v r : Bool) :
    KGov.vote_guard v r b c valid false st dl pd id q voted = none := by
  k_defs [KGov.vote_guard, KGov.get_proposal_status_missing]
  cases valid <;> simp [Status.tag]

/-- "already voted" is membership in the model's voter list -/
theorem vote_runs_source_guard {s s' : St} {c id : Nat} {v : Vote} {o : Out}
    (h : vote s c id v = some (s', o)) :
    ∃ p, s.get? id = some p ∧
      KGov.vote_guard (decide p.vetoed) (decide p.voteReached) s.block c true true p.start p.delay
        p.period id (decide p.quorumReached) (decide (c ∈ p.voters)) = some () := by
  obtain ⟨p, r⟩ := vote_spec h
  have hst := r.active
  have hg := r.get
  have hnv := r.not_voted
  refine ⟨p, hg, ?_⟩
  have hs : p.statusAt s.block = .active := by
    simp only [St.status, hg] at hst
    split at hst
    · cases hst
    · exact hst
  rw [vote_guard_eq, if_pos ⟨rfl, hs, by simp [hnv]⟩]

theorem withdraw_deposit_guards_eq (p : Proposal) (b c id : Nat) :
    KGov.withdraw_deposit_guards b c true p.fee p.withdrawn p.start p.proposer p.delay p.period p.wpct id
        (decide p.quorumReached) (decide p.vetoed) (decide p.voteReached) =
      match p.statusAt b with
      | .succeeded | .defeated => if c = p.proposer ∧ p.withdrawn = false then some true else none
      | .vetoed => if p.withdrawn = false ∧ p.wpct * p.fee / FULL ≤ p.fee then some true else none
      | _ => none := by
  have hF : FULL = 10000 := rfl
  k_defs [KGov.withdraw_deposit_guards, KGov.get_proposal_status_eq, hF]
  -- the status (a term of the model, under no bind) is fixed; the source compares its index
  cases p.statusAt b <;> k_defs [Status.tag] <;> grind

theorem withdraw_deposit_guards_missing (b c fee st pr dl pd wp id : Nat) (w q v r : Bool) :
    KGov.withdraw_deposit_guards b c false fee w st pr dl pd wp id q v r = none := by
  k_defs [KGov.withdraw_deposit_guards, KGov.get_proposal_status_missing]
  simp [Status.tag]

theorem withdraw_runs_source_guards {s s' : St} {c id : Nat} {o : Out}
    (h : withdraw s c id = some (s', o)) :
    ∃ p, s.get? id = some p ∧
      KGov.withdraw_deposit_guards s.block c true p.fee p.withdrawn p.start p.proposer p.delay p.period
        p.wpct id (decide p.quorumReached) (decide p.vetoed) (decide p.voteReached) = some true := by
  obtain ⟨p, _, hg, hw, hc⟩ := withdraw_spec h
  refine ⟨p, hg, ?_⟩
  have hs : ∀ x, s.status id = x → x ≠ .none → p.statusAt s.block = x := by
    intro x hx hn
    simp only [St.status, hg] at hx
    split at hx
    · exact absurd hx.symm hn
    · exact hx
  rw [withdraw_deposit_guards_eq]
  rcases hc with ⟨hst, hcp, _⟩ | ⟨hst, hle, _⟩
  · rcases hst with hst | hst
    · rw [hs _ hst (by simp)]; simp [hcp, hw]
    · rw [hs _ hst (by simp)]; simp [hcp, hw]
  · rw [hs _ hst (by simp)]; simp [hw, hle]

example : KGov.vote_guard false false 20 9 true true 10 5 20 1 false false = some () := by decide
example : KGov.vote_guard false false 20 9 true true 10 5 20 1 false true = none := by decide
example : KGov.vote_guard false false 12 9 true true 10 5 20 1 false false = none := by decide
example : KGov.vote_guard false false 20 9 false true 10 5 20 1 false false = none := by decide
-- block 50: voting over; defeated (no quorum): only the proposer (7), only once
example : KGov.withdraw_deposit_guards 50 7 true 1000 false 10 7 5 20 2500 1 false false false = some true := by decide
example : KGov.withdraw_deposit_guards 50 8 true 1000 false 10 7 5 20 2500 1 false false false = none := by decide
example : KGov.withdraw_deposit_guards 50 7 true 1000 true 10 7 5 20 2500 1 false false false = none := by decide
example : KGov.withdraw_deposit_guards 20 7 true 1000 false 10 7 5 20 2500 1 false false false = none := by decide
example : KGov.withdraw_deposit_guards 50 8 true 1000 false 10 7 5 20 2500 1 false true false = some true := by decide

end Mx.KGovGuards
