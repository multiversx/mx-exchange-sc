/-
  C01 (per-account ledger, plain transfers) — "… the LP total supply it reports equals the sum of
  LP tokens held by ALL accounts …" when LP tokens and pool tokens also move between accounts by
  plain ESDT transfers that never touch the pair (`LOp.xfer src dst token amount`).

  Since `LOp` contains `xfer`, every theorem of Props/C01Ledger.lean (`inv_run`,
  `lp_supply_eq_sum_of_holdings`, `locked_minimum_held_by_pair`, `token_conservation`,
  `locked_tokens_backed`, …) already quantifies over histories with arbitrary transfers in
  between the calls.  This file states what a transfer itself does and exactly when it succeeds;
  the closing example has an account redeem LP tokens it obtained by transfer only.

  The harness op `xfer u_i u_j LP|A|B amount` performs the same transfer on the real ESDT
  balances; the wallets are compared after every transaction (`acct=`).
-/
import MxModel.Lemmas.PairLedgerInv

namespace Mx.C01Xfer
open Mx.Pair Mx.PairLedger

/-- a plain transfer succeeds exactly when the amount is positive, the sender exists and holds
    at least the amount of that token, and the receiver exists — there is no other guard -/
theorem xfer_succeeds_iff (l : L) (src dst : Nat) (t : Tok) (x : Nat) :
    (stepL l (.xfer src dst t x)).isSome = true ↔
      0 < x ∧ dst < l.accts.length ∧ ∃ s, l.accts[src]? = some s ∧ x ≤ s.bal t := by
  constructor
  · intro h
    obtain ⟨⟨l', o⟩, h⟩ := Option.isSome_iff_exists.mp h
    obtain ⟨accts', ha, _⟩ := stepL_xfer_spec h
    obtain ⟨s, s', d, hx, hs, hd, hdst, _⟩ := xferAccts_spec ha
    refine ⟨hx, ?_, s, hs, (debit_spec hd).1⟩
    rcases Nat.lt_or_ge dst l.accts.length with h' | h'
    · exact h'
    · rw [List.getElem?_eq_none_iff.mpr (by simpa using h')] at hdst; simp at hdst
  · rintro ⟨hx, hd, s, hs, hb⟩
    have hdeb : ∃ s', s.debit t x = some s' := by
      cases t <;> simp only [Acct.bal] at hb <;> simp [Acct.debit, sub?, hb]
    obtain ⟨s', hs'⟩ := hdeb
    have hlen : dst < (l.accts.set src s').length := by simpa using hd
    simp [stepL, xferAccts, req, hx, hs, hs', List.getElem?_eq_getElem hlen]

/-- what a successful transfer of `x` units of token `t` from `src` to `dst` does: the pair,
    the pair contract's wallet and the created supply are untouched; no account other than
    `src` and `dst` changes; `src` holds exactly `x` less of `t` and `dst` exactly `x` more,
    every other holding of the two (the other tokens, LOCKED tokens) is unchanged; a transfer
    to oneself changes nothing -/
theorem xfer_effect {l l' : L} {src dst : Nat} {t : Tok} {x : Nat} {o : Out}
    (h : stepL l (.xfer src dst t x) = some (l', o)) :
    l'.p = l.p ∧ l'.pairA = l.pairA ∧ l'.pairB = l.pairB ∧ l'.pairLp = l.pairLp ∧
    l'.supplyA = l.supplyA ∧ l'.supplyB = l.supplyB ∧ l'.accts.length = l.accts.length ∧
    (∀ k, k ≠ src → k ≠ dst → l'.accts[k]? = l.accts[k]?) ∧
    ∃ s d, l.accts[src]? = some s ∧ l.accts[dst]? = some d ∧ 0 < x ∧ x ≤ s.bal t ∧
      (src = dst → l'.accts = l.accts) ∧
      (src ≠ dst → ∃ s' d', l'.accts[src]? = some s' ∧ l'.accts[dst]? = some d' ∧
        s'.bal t = s.bal t - x ∧ d'.bal t = d.bal t + x ∧
        (∀ t', t' ≠ t → s'.bal t' = s.bal t' ∧ d'.bal t' = d.bal t') ∧
        s'.lkA = s.lkA ∧ s'.lkB = s.lkB ∧ d'.lkA = d.lkA ∧ d'.lkB = d.lkB) := by
  obtain ⟨accts', ha, rfl⟩ := stepL_xfer_spec h
  obtain ⟨s, s', d0, hx, hs, hd, hdst, rfl⟩ := xferAccts_spec ha
  obtain ⟨hb, db, d1, d2, d3, d4, d5⟩ := debit_spec hd
  obtain ⟨cb, c1, c2, c3, c4, c5⟩ := credit_spec d0 t x
  refine ⟨rfl, rfl, rfl, rfl, rfl, rfl, by simp, ?_, ?_⟩
  · intro k h1 h2
    simp only [List.getElem?_set_ne (Ne.symm h2), List.getElem?_set_ne (Ne.symm h1)]
  · by_cases e : src = dst
    · subst e
      rw [getElem?_set_self' _ _ _ hs] at hdst
      obtain rfl := Option.some.inj hdst
      refine ⟨s, s, hs, hs, hx, hb, fun _ => ?_, fun hne => absurd rfl hne⟩
      have hback : s'.credit t x = s := by
        cases t <;> simp only [Acct.debit, Option.bind_eq_bind, Option.bind_eq_some_iff,
          sub?_eq_some, Option.pure_def, Option.some.injEq] at hd <;>
          obtain ⟨v, ⟨h1, rfl⟩, rfl⟩ := hd <;>
          simp only [Acct.credit, Nat.sub_add_cancel h1]
      show ((l.accts.set src s').set src (s'.credit t x)) = l.accts
      rw [hback, List.set_set]
      apply List.ext_getElem?
      intro k
      by_cases e : src = k
      · subst e; rw [getElem?_set_self' _ _ _ hs, hs]
      · rw [List.getElem?_set_ne e]
    · rw [List.getElem?_set_ne e] at hdst
      refine ⟨s, d0, hs, hdst, hx, hb, fun h => absurd h e, fun _ => ?_⟩
      refine ⟨s', d0.credit t x, ?_, ?_, db, cb, ?_, d4, d5, c4, c5⟩
      · show ((l.accts.set src s').set dst (d0.credit t x))[src]? = some s'
        rw [List.getElem?_set_ne (Ne.symm e)]
        exact getElem?_set_self' _ _ _ hs
      · show ((l.accts.set src s').set dst (d0.credit t x))[dst]? = some (d0.credit t x)
        have : (l.accts.set src s')[dst]? = some d0 := by rw [List.getElem?_set_ne e]; exact hdst
        exact getElem?_set_self' _ _ _ this
      · intro t' ht'
        cases t <;> cases t' <;> simp only [ne_eq, not_true_eq_false, reduceCtorEq,
          not_false_eq_true, if_true, if_false, Acct.bal] at * <;> omega

/-- a transfer conserves every column total of the ledger: the sums of first-token,
    second-token, LP, LOCKED-first and LOCKED-second holdings over all accounts are unchanged
    (so the supply identities of C01 are insensitive to who holds the tokens) -/
theorem xfer_conserves {l l' : L} {src dst : Nat} {t : Tok} {x : Nat} {o : Out}
    (h : stepL l (.xfer src dst t x) = some (l', o)) :
    sumOf (·.a) l'.accts = sumOf (·.a) l.accts ∧ sumOf (·.b) l'.accts = sumOf (·.b) l.accts ∧
    sumOf (·.lp) l'.accts = sumOf (·.lp) l.accts ∧
    sumOf (·.lkA) l'.accts = sumOf (·.lkA) l.accts ∧
    sumOf (·.lkB) l'.accts = sumOf (·.lkB) l.accts := by
  obtain ⟨accts', ha, rfl⟩ := stepL_xfer_spec h
  obtain ⟨e1, e2, e3, e4, e5, _⟩ := xferAccts_sums ha
  exact ⟨e1, e2, e3, e4, e5⟩

/-- After every history of pair calls, faucet top-ups AND plain transfers of LP / pool tokens
    between any accounts: the LP supply the pair reports is exactly the sum of the LP tokens
    in all accounts' wallets plus the 1000 the pair contract holds once liquidity exists, and
    both pool tokens are conserved across all wallets and sinks.  (Restates
    `C01Ledger.lp_supply_eq_sum_of_holdings`, `locked_minimum_held_by_pair` and
    `token_conservation` in one statement; `ops : List LOp` ranges over histories containing
    `LOp.xfer`.) -/
theorem supply_identities_with_transfers (total special : Nat) (adder : Option Nat) (cap : Nat)
    (funds : List (Nat × Nat)) (ops : List LOp) :
    let l := runL (initL total special adder cap funds) ops
    l.p.S = sumOf (·.lp) l.accts + l.pairLp ∧
    (0 < l.p.S → l.pairLp = MINLIQ) ∧ (l.p.S = 0 → l.pairLp = 0) ∧
    l.supplyA = sumOf (·.a) l.accts + l.pairA + l.p.burn1 + l.p.coll1 + l.p.ext1 + l.p.slk1 ∧
    l.supplyB = sumOf (·.b) l.accts + l.pairB + l.p.burn2 + l.p.coll2 + l.p.ext2 + l.p.slk2 := by
  intro l
  have h : LInv l := runL_inv ops (initL_inv total special adder cap funds)
  have h1 := h.pairLp
  refine ⟨h.lpSum, fun hS => ?_, fun hS => ?_, h.consA, h.consB⟩
  · have := h.inv.ownPos hS; omega
  · have := h.inv.ownZero hS; omega

/-- non-vacuity: account 1 never deposits; it receives LP and first-token by plain transfers
    from account 0 and redeems the received LP.  A transfer of more than the sender holds and a
    zero transfer are rejected.  All identities hold with three LP holders' wallets live. -/
example :
    let l0 := runL (initL 300 50 none 8 [(5000000, 5000000), (100, 100), (0, 0)])
      [.call 0 (.cfg (.setState .active)), .call 0 (.addLiq 1000000 2000000 1 1)]
    let l := runL l0
      [.xfer 0 1 .lp 400000, .xfer 0 1 .lp 600000, .xfer 0 2 .lp 0, .xfer 1 2 .lp 150000,
       .xfer 0 1 .a 77, .xfer 1 1 .b 5, .call 1 (.removeLiq 100000 1 1), .xfer 2 0 .lp 50000]
    (l0.accts.map (·.lp)) = [999000, 0, 0] ∧ (l.accts.map (·.lp)) = [649000, 150000, 100000] ∧
    l.p.S = 900000 ∧ l.pairLp = 1000 ∧ sumOf (·.lp) l.accts + 1000 = l.p.S ∧
    (l.accts.map (·.a)) = [3999923, 100177 + 0, 0] ∧ (l.accts.map (·.b)) = [3000000, 200100, 0] ∧
    (stepL l (.xfer 1 0 .lp 150001)).isSome = false ∧ (stepL l (.xfer 1 0 .lp 150000)).isSome = true := by
  decide

end Mx.C01Xfer
