/-
  C07 — Position tokens: supply = Σ; split / merge create no value; owner totals exact
  (dex/farm, dex/farm-with-locked-rewards; farm-staking has its own file).

  Model: Core/Farm.lean — `Attr` = `FarmTokenAttributes`, `Attr.intoPart` = `into_part`
  (rule of three, floor), `Attr.mergeWith` = `merge_with` (weighted average rounded UP).
-/
import MxModel.Lemmas.FarmArith
import MxModel.Lemmas.FarmPos
import MxModel.Lemmas.FarmPot

namespace Mx.C07
open Mx Mx.Farm

/-- **merge_amounts.**  Merging adds principal and compounded amounts exactly; the epoch is the later
    one, the owner of the result is taken from the left operand (the endpoints overwrite it with the
    acting user). -/
theorem merge_amounts {a b m : Attr} (h : a.mergeWith b = some m) :
    m.amt = a.amt + b.amt ∧ m.comp = a.comp + b.comp ∧ m.epoch = max a.epoch b.epoch := by
  obtain ⟨_, h1, h2, h3, _, _⟩ := mergeWith_spec h
  exact ⟨h1, h2, h3⟩

/-- **merge_index_ceil.**  The merged entry index is the amount-weighted average rounded UP:
    `rps_m·(a1+a2) ≥ rps1·a1 + rps2·a2` and `< … + (a1+a2)`. -/
theorem merge_index_ceil {a b m : Attr} (h : a.mergeWith b = some m) :
    a.rps * a.amt + b.rps * b.amt ≤ m.rps * (a.amt + b.amt) ∧
    m.rps * (a.amt + b.amt) < a.rps * a.amt + b.rps * b.amt + (a.amt + b.amt) :=
  Farm.merge_index_ceil h

/-- **merge_no_gain.**  For EVERY future index `R` the un-rounded entitlement `amount·(R − entry)` of
    the merged position is at most the sum of the parts' entitlements: merging creates no value. -/
theorem merge_no_gain {a b m : Attr} (h : a.mergeWith b = some m) (R : Nat) :
    m.amt * (R - m.rps) ≤ a.amt * (R - a.rps) + b.amt * (R - b.rps) :=
  Farm.merge_no_gain h R

/-- the merged index lies between the parts' indexes (never above the current index if both parts are not) -/
theorem merge_index_between {a b m : Attr} (h : a.mergeWith b = some m) :
    min a.rps b.rps ≤ m.rps ∧ m.rps ≤ max a.rps b.rps := by
  obtain ⟨hw, _, _, _, _, hr⟩ := mergeWith_spec h
  rw [hr]
  exact ⟨wavgUp_ge_min _ _ _ _ hw, wavgUp_le_max _ _ _ _ _ hw (Nat.le_max_left _ _) (Nat.le_max_right _ _)⟩

/-- **split_principal / split_index_unchanged.**  A part of a position has exactly the paid amount as
    principal and keeps entry index, epoch and owner; its compounded amount is the floor share. -/
theorem split_principal {a p : Attr} {x : Nat} (h : a.intoPart x = some p) :
    p.amt = x ∧ p.rps = a.rps ∧ p.epoch = a.epoch ∧ p.owner = a.owner ∧
    p.comp = (if x = a.amt then a.comp else a.comp * x / a.amt) := by
  obtain ⟨h1, h2, h3, h4, h5, _⟩ := intoPart_spec h
  exact ⟨h1, h2, h3, h4, h5⟩

/-- **split_compounded_floor.**  However a position is cut into parts (any number of non-zero
    payments within its amount), the parts' compounded amounts sum to at most the whole. -/
theorem split_compounded_floor {a : Attr} {xs : List Nat} {ps : List Attr}
    (h : List.Forall₂ (fun x p => a.intoPart x = some p) xs ps) (hnz : ∀ x ∈ xs, x ≠ 0)
    (hs : xs.sum ≤ a.amt) : (ps.map (·.comp)).sum ≤ a.comp :=
  split_compounded_floor_list h hnz hs

/-- splitting then re-merging the two halves of a position gives back principal exactly, never more
    compounded amount, and the same entry index -/
theorem split_merge_roundtrip {a p q m : Attr} {x y : Nat} (hp : a.intoPart x = some p)
    (hq : a.intoPart y = some q) (hxy : x + y = a.amt) (hx : x ≠ 0) (hy : y ≠ 0)
    (hm : p.mergeWith q = some m) : m.amt = a.amt ∧ m.comp ≤ a.comp ∧ m.rps = a.rps := by
  obtain ⟨p1, p2, _, _, _, _⟩ := intoPart_spec hp
  obtain ⟨q1, q2, _, _, _, _⟩ := intoPart_spec hq
  obtain ⟨hw, m1, m2, _, _, m5⟩ := mergeWith_spec hm
  have hc := Farm.split_compounded_floor hp hq (by omega) hx hy
  refine ⟨by omega, by omega, ?_⟩
  have hb := weightedAvgRoundUp_bounds p.rps p.amt q.rps q.amt (Nat.pos_of_ne_zero hw)
  rw [← m5, p2, q2] at hb
  have hpos : 0 < p.amt + q.amt := by omega
  obtain ⟨h1, h2⟩ := hb
  have e : a.rps * p.amt + a.rps * q.amt = a.rps * (p.amt + q.amt) := by ring
  rw [e] at h1 h2
  have l1 : a.rps ≤ m.rps := Nat.le_of_mul_le_mul_right h1 hpos
  have l2 : m.rps * (p.amt + q.amt) < (a.rps + 1) * (p.amt + q.amt) := by
    calc m.rps * (p.amt + q.amt) < a.rps * (p.amt + q.amt) + (p.amt + q.amt) := h2
      _ = (a.rps + 1) * (p.amt + q.amt) := by ring
  have l3 : m.rps < a.rps + 1 := Nat.lt_of_mul_lt_mul_right l2
  omega

theorem pos_step {s s' : St} {op : Op} {o : Out} (hI : PosInv s) (h : step s op = some (s', o)) : PosInv s' :=
  step_posInv hI h

/-- **supply_eq_sum.**  After every history — enters with and without merging, claims, compounds,
    full and partial exits, merges, on-behalf operations, position transfers between accounts — the
    reported farm-token supply equals the sum, over all accounts and all nonces, of the outstanding
    position amounts. -/
theorem supply_eq_sum (kind : Kind) (same : Bool) (dsc pb : Nat) (produce : Bool) (users : List Nat)
    (e0 : Nat) (hnd : users.Nodup) (ops : List Op) :
    let s := run (init kind same dsc pb produce users e0) ops
    s.supply = ((List.range (s.lastNonce + 1)).map fun n => (s.users.map fun u => s.hold u n).sum).sum :=
  (reachable_posInv kind same dsc pb produce users e0 hnd ops).sup

/-- **owner_totals.**  After every history, for EVERY address `o`: the tracked total farm position of
    `o` equals the sum of the outstanding positions whose recorded original owner is `o` — also after
    positions were transferred and then claimed / exited / merged / entered-with by the receiver. -/
theorem owner_totals (kind : Kind) (same : Bool) (dsc pb : Nat) (produce : Bool) (users : List Nat)
    (e0 : Nat) (hnd : users.Nodup) (ops : List Op) (o : Nat) :
    let s := run (init kind same dsc pb produce users e0) ops
    s.userTotal o = ((List.range (s.lastNonce + 1)).map fun n =>
      if (s.attrs n).map (·.owner) = some o then (s.users.map fun u => s.hold u n).sum else 0).sum :=
  (reachable_posInv kind same dsc pb produce users e0 hnd ops).own o

/-- position tokens only exist for nonces that were created, with attributes, in known accounts -/
theorem positions_wellformed (kind : Kind) (same : Bool) (dsc pb : Nat) (produce : Bool) (users : List Nat)
    (e0 : Nat) (hnd : users.Nodup) (ops : List Op) (u n : Nat) :
    let s := run (init kind same dsc pb produce users e0) ops
    s.hold u n ≠ 0 → u ∈ s.users ∧ n ≤ s.lastNonce ∧ (s.attrs n).isSome :=
  (reachable_posInv kind same dsc pb produce users e0 hnd ops).dom u n

/-- **merge_no_gain_nary.**  The n-ary form, for the whole payment list of `mergeFarmTokens`
    (`mergeAll` = `merge_from_payments_and_burn`; `(nonce, amount)` pairs, in the order sent): the merged position has
    exactly the sum of the paid amounts as principal, and for EVERY future index `R` its un-rounded
    entitlement is at most the sum of what the paid parts could claim at their own entry indexes —
    stated with plain list sums over the stored attributes, no ghost. -/
theorem merge_no_gain_nary {s : St} {pays : List (Nat × Nat)} {m : Attr} (h : mergeAll s pays = some m)
    (R : Nat) :
    m.amt = (pays.map (·.2)).sum ∧
    m.amt * (R - m.rps) ≤
      (pays.map fun p => p.2 * (R - (match s.attrs p.1 with | some a => a.rps | none => 0))).sum := by
  exact ⟨(mergeAll_amt h).trans (paySum_eq_sum pays), payW_potW_explicit s.attrs R pays ▸ mergeAll_pot R h⟩

/-- every payment of a successful n-ary merge names a stored position (so the `none => 0` branch of
    `merge_no_gain_nary` is never taken) -/
theorem merge_nary_payments_exist : ∀ (pays : List (Nat × Nat)) {s : St} {base m : Attr},
    mergeParts s base pays = some m → ∀ p ∈ pays, (s.attrs p.1).isSome := by
  intro pays
  induction pays with
  | nil => intro s base m _ p hp; cases hp
  | cons q rest ih =>
    intro s base m h p hp
    obtain ⟨n, a⟩ := q
    obtain ⟨att, part, m1, hat, _, _, h2⟩ := mergeParts_cons.mp h
    rcases List.mem_cons.mp hp with rfl | hp
    · simp only [hat, Option.isSome_some]
    · exact ih h2 p hp

/-- non-vacuity: three positions with three different entry indexes merged at once -/
example :
    let s := run (init .mint false 7 10 true [1] 0)
      [.enter 1 none 30 [], .advance 5 0, .enter 1 none 20 [], .advance 9 0, .enter 1 none 11 []]
    (mergeAll s [(1, 30), (2, 20), (3, 11)]).map (fun m => m.amt) = some 61 ∧
    (s.attrs 1).map (·.rps) ≠ (s.attrs 2).map (·.rps) ∧ (s.attrs 2).map (·.rps) ≠ (s.attrs 3).map (·.rps) := by
  decide

/-- non-vacuity of the invariants: a transfer followed by a claim of the receiver moves the total -/
example :
    let s := run (init .mint false 7 10 true [1, 2] 0)
      [.enter 1 none 30 [], .advance 5 0, .transfer 1 2 1 10, .claim 2 none [(1, 10)], .exit 1 none 1 5]
    s.supply = 25 ∧ s.userTotal 1 = 15 ∧ s.userTotal 2 = 10 ∧ s.hold 1 1 = 15 ∧ s.hold 2 2 = 10 := by decide

/-- non-vacuity: distinct entry indexes and a small `dsc`, so that the ceiling differs from the floor -/
example :
    (Attr.mergeWith ⟨10, 0, 0, 3, 1⟩ ⟨11, 0, 0, 4, 1⟩).map (fun m => (m.rps, m.amt)) = some (11, 7) ∧
    (10 * 3 + 11 * 4) / 7 = 10 := by decide

end Mx.C07
