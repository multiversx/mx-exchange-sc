/-
  KFarmState — the state gate of the farms (dex/farm, farm-with-locked-rewards, farm-staking) as the
  SOURCE states it, against the kill switch `active` of the farm and staking models.

  `Gen/KFarmState.lean` is regenerated on every run by `bin/gen-kernels`:
  * `validate_contract_state` (farm_base_impl/src/base_farm_validation.rs) — the first call of
    `enter_farm_base`, `claim_rewards_base`, `compound_rewards_base`, `exit_farm_base`;
  * `is_active` (farm config) and the guard `require!(self.is_active())` that opens
    `mergeFarmTokens` of dex/farm and of farm-staking (the repaired finding F2).
  `pausable::State` is a plain enum: a value is its variant index (`Inactive` 0, `Active` 1,
  `PartialActive` 2).  The models keep a Bool `active`; `pause` / `resume` store Inactive / Active, so the
  stored index is `stateTag active`.

  This ties `Props/C19Models.farm_paused_blocks_funds` / `staking_paused_blocks_funds` to the source:
  the gate of the source aborts for every state index other than Active, and every fund-moving step
  the models accept passes the source's gate.
-/
import MxModel.Gen.KFarmState
import MxModel.Props.C19Models
import MxModel.Lemmas.KTactic

namespace Mx.KFarmState
open Mx Mx.Gen

/-- the `pausable::State` index a farm stores for its kill switch (`pause` → Inactive, `resume` → Active) -/
def stateTag (active : Bool) : Nat := if active then 1 else 0

theorem validate_contract_state_eq (n : Nat) (issued : Bool) :
    KFarmState.validate_contract_state n issued =
      if n = 1 ∧ issued = true then some () else none := by
  k_defs [KFarmState.validate_contract_state]
  try grind

theorem merge_guards_eq (n : Nat) :
    KFarmState.is_active n = some (decide (n = 1)) ∧
    KFarmState.farm_merge_guard n = (if n = 1 then some () else none) ∧
    KFarmState.staking_merge_guard n = (if n = 1 then some () else none) := by
  refine ⟨?_, ?_, ?_⟩
  · k_defs [KFarmState.is_active]
  · k_defs [KFarmState.farm_merge_guard, KFarmState.is_active]
    try grind
  · k_defs [KFarmState.staking_merge_guard, KFarmState.is_active]
    try grind

theorem source_gate_blocks_unless_active (n : Nat) (issued : Bool) (h : n ≠ 1) :
    KFarmState.validate_contract_state n issued = none ∧
    KFarmState.farm_merge_guard n = none ∧ KFarmState.staking_merge_guard n = none := by
  rw [validate_contract_state_eq, (merge_guards_eq n).2.1, (merge_guards_eq n).2.2]
  simp [h]

theorem gate_on_model (active : Bool) :
    KFarmState.validate_contract_state (stateTag active) true =
      (if active = true then some () else none) ∧
    KFarmState.farm_merge_guard (stateTag active) = (if active = true then some () else none) := by
  rw [validate_contract_state_eq, (merge_guards_eq _).2.1]
  cases active <;> simp [stateTag]

theorem farm_step_passes_source_gate (s : Farm.St) (op : Farm.Op) (r : Farm.St × Farm.Out)
    (hf : C19Models.farmUserFundsOp op = true) (h : Farm.step s op = some r) :
    KFarmState.validate_contract_state (stateTag s.active) true = some () ∧
    KFarmState.farm_merge_guard (stateTag s.active) = some () := by
  have ha : s.active = true := by
    cases hs : s.active with
    | true => rfl
    | false => rw [C19Models.farm_paused_blocks_funds s op hs hf] at h; cases h
  rw [(gate_on_model s.active).1, (gate_on_model s.active).2, if_pos ha]; exact ⟨rfl, rfl⟩

theorem staking_step_passes_source_gate (s : Staking.St) (op : Staking.Op) (r : Staking.St × Staking.Out)
    (hf : C19Models.stakingUserFundsOp op = true) (h : Staking.step s op = some r) :
    KFarmState.validate_contract_state (stateTag s.active) true = some () ∧
    KFarmState.staking_merge_guard (stateTag s.active) = some () := by
  have ha : s.active = true := by
    cases hs : s.active with
    | true => rfl
    | false => rw [C19Models.staking_paused_blocks_funds s op hs hf] at h; cases h
  have := gate_on_model s.active
  rw [this.1, (merge_guards_eq _).2.2, if_pos ha]
  simp [stateTag, ha]

theorem is_old_farm_position_eq (nonce mig : Nat) :
    KFarmState.is_old_farm_position nonce mig = some (decide (0 < nonce ∧ nonce < mig)) := by
  k_defs [KFarmState.is_old_farm_position]

example : KFarmState.validate_contract_state 1 true = some () := by decide
example : KFarmState.validate_contract_state 2 true = none := by decide
example : KFarmState.validate_contract_state 1 false = none := by decide
example : KFarmState.farm_merge_guard 0 = none := by decide
example : KFarmState.staking_merge_guard 1 = some () := by decide

end Mx.KFarmState
