/-
  C19 — Only authorised callers configure or act for others; paused means no fund moves.

  Statement: configuration and admin endpoints succeed only for callers holding the required
  role (owner, admin, pauser, whitelisted contract, router for pairs); acting on behalf of
  another user requires a whitelisted contract caller or the user's explicit, non-blacklisted
  authorisation in the permissions hub, and rewards claimed on behalf go to the position
  owner.  While a pair, farm, staking or energy contract is paused or inactive no user
  operation that moves funds succeeds, and a partially active pair accepts liquidity but no
  swaps.

  Model: Core/Access.lean — the access table `endpoint ↦ (class, guard, required state)`, the
  decision function `allowed`, and the state machines of the permission bit-set, pausable,
  sc-whitelist and permissions hub.  The quantifier of the table theorems IS the finite
  table (every endpoint of every in-scope contract × every role × every state), so they are
  decided by kernel evaluation (`decide +kernel`); where a theorem speaks of `allowed c ent.name`
  for the rows `ent` of the table, the lookup is first replaced by the row itself
  (`allowed_of_mem`: names are distinct), which spares the kernel the string comparisons.
  `Gen/Endpoints.lean` is regenerated from the compiled contracts' ABI on every run: a new,
  renamed or re-flagged endpoint breaks the evaluation `table_ok`, on whose second half (`inventory_ok`)
  `inventory_classified` / `only_owner_agrees` / `readonly_agrees` rest.
  The state-machine theorems hold for every operation history (induction).
-/
import MxModel.Lemmas.AccessSM
import MxModel.Lemmas.AccessTable

namespace Mx.C19
open Mx.Access

/-- roles that hold some privilege in the deployment of the matrix world -/
def privileged : List Role := [.owner, .admin, .pauser, .router]

-- the generated inventory against the hand-written table

/-- every endpoint the compiled contracts export is classified: by a row of the access table, or — for an
    endpoint the table does not list — by the ABI default (`Access.abiDefault`: read-only ⇒ view,
    `#[only_owner]` ⇒ owner-guarded configuration).  An unlisted endpoint that is mutable and callable by
    anybody is NOT classified and breaks this obligation. -/
theorem inventory_classified :
    ∀ x ∈ Mx.Gen.endpoints, (classify x.1 x.2.1 x.2.2.1 x.2.2.2.1).isSome = true := by
  intro x hx
  obtain ⟨ent, hc, _⟩ := abiEntryOk_iff.1 (inventory_ok x hx)
  rw [hc]; rfl

/-- what the ABI default can be: a view open to everybody in every state, or configuration that only the
    contract owner passes — never a fund-moving, on-behalf or contract-only class, never an unrestricted setter -/
theorem abi_default_is_safe (e : String) (ow ro : Bool) (ent : Entry) (h : abiDefault e ow ro = some ent) :
    (ent.cls = Class.view ∧ ro = true) ∨ (ent.cls = Class.config ∧ ent.guard = Guard.scOwner ∧ ow = true) := by
  unfold abiDefault at h
  cases ro <;> cases ow <;> simp_all [vw, cfg] <;> subst h <;> simp

/-- the ABI's `only_owner` flag and the table agree, in both directions: an endpoint is
    `#[only_owner]` in the compiled contract iff the table guards it by the contract owner -/
theorem only_owner_agrees :
    ∀ x ∈ Mx.Gen.endpoints,
      (x.2.2.1 = true ↔ (classify x.1 x.2.1 x.2.2.1 x.2.2.2.1).map (·.guard) = some Guard.scOwner) := by
  intro x hx
  obtain ⟨ent, hc, ho, _⟩ := abiEntryOk_iff.1 (inventory_ok x hx)
  rw [hc, Option.map_some, Option.some.injEq]
  exact ho

/-- every endpoint the ABI marks read-only is classified as a view, and every endpoint the
    table treats as fund-moving or on-behalf is mutable in the ABI -/
theorem readonly_agrees :
    ∀ x ∈ Mx.Gen.endpoints,
      (x.2.2.2.1 = true → (classify x.1 x.2.1 x.2.2.1 x.2.2.2.1).map (·.cls) = some Class.view) := by
  intro x hx
  obtain ⟨ent, hc, _, hr⟩ := abiEntryOk_iff.1 (inventory_ok x hx)
  rw [hc, Option.map_some, Option.some.injEq]
  exact hr

/-- the table has no second entry for the same endpoint name (lookups are unambiguous) -/
theorem table_names_unique : ∀ c ∈ Contract.all, ((table c).map (·.name)).Nodup := names_nodup

-- admin endpoints need the role

/-- configuration / admin endpoints are never open: their guard is the contract owner, the
    router's stored owner, or a non-empty permission mask -/
theorem config_is_guarded :
    ∀ c ∈ Contract.all, ∀ ent ∈ table c, ent.cls = .config → ent.guard.restricted = true := by decide +kernel

/-- a configuration / admin endpoint succeeds only for a privileged role: never for a plain
    user, a whitelisted contract, or any (authorised, revoked, blacklisted) hub agent —
    in every contract, every state -/
theorem admin_needs_role :
    ∀ c ∈ Contract.all, ∀ ent ∈ table c, ent.cls = .config → ∀ r ∈ Role.all, ∀ s ∈ CState.all,
      allowed c ent.name r s = true → r ∈ privileged := by
  simp +contextual only [allowed_of_mem]
  decide +kernel

/-- … and when the guard is a permission mask, the caller really holds one of its bits in the
    permission storage reached by the deployment history (`deployed c` is computed by running
    the permission state machine, not asserted) -/
theorem perm_guard_sound (c : Contract) (e : String) (r : Role) (s : CState) (ent : Entry) (m : Perm)
    (hl : lookup c e = some ent) (hg : ent.guard = .perm m) (ha : allowed c e r s = true) :
    (((initPerm c).run (deployOps c)).perms r.addr).intersects m = true := by
  simp only [allowed, hl, Bool.and_eq_true] at ha
  have := ha.1
  simp only [hg, guardOk, PermSt.holds, deployed] at this
  exact this

/-- `#[only_owner]` endpoints succeed for exactly one role: the account owning the contract
    (the router for a pair, `owner` elsewhere) -/
theorem only_owner_single_role :
    ∀ c ∈ Contract.all, ∀ ent ∈ table c, ent.guard = .scOwner → ∀ r ∈ Role.all, ∀ s ∈ CState.all,
      allowed c ent.name r s = true → r = (if c = .pair then Role.router else Role.owner) := by
  simp +contextual only [allowed_of_mem]
  decide +kernel

-- paused / inactive means no fund moves

/-- in a contract with a kill switch, no user operation that moves funds succeeds while the
    contract is Inactive / paused — for any caller -/
theorem paused_blocks_funds :
    ∀ c ∈ Contract.all, pausable c = true → ∀ ent ∈ table c, ent.cls = .userFunds ∨ ent.cls = .onBehalf →
      ∀ r ∈ Role.all, allowed c ent.name r .inactive = false := by
  simp +contextual only [allowed_of_mem]
  decide +kernel

/-- every fund-moving user endpoint of a pausable contract requires Active, the only
    exception being the pair's two liquidity operations (Active or PartialActive) -/
theorem user_funds_require_active :
    ∀ c ∈ Contract.all, pausable c = true → ∀ ent ∈ table c, ent.cls = .userFunds ∨ ent.cls = .onBehalf →
      ent.st = .active ∨
      (c = .pair ∧ (ent.name = "addLiquidity" ∨ ent.name = "removeLiquidity") ∧ ent.st = .activeOrPartial) := by
  decide +kernel

/-- a partially active pair accepts liquidity from everybody and swaps from nobody (neither
    user swaps nor the whitelisted no-fee swap) -/
theorem partial_pair_liquidity_only :
    ∀ r ∈ Role.all,
      allowed .pair "addLiquidity" r .partialActive = true ∧
      allowed .pair "removeLiquidity" r .partialActive = true ∧
      allowed .pair "swapTokensFixedInput" r .partialActive = false ∧
      allowed .pair "swapTokensFixedOutput" r .partialActive = false ∧
      allowed .pair "swapNoFeeAndForward" r .partialActive = false := by decide +kernel

/-- outside the pair, PartialActive is as good as paused for every fund-moving endpoint -/
theorem partial_blocks_funds_elsewhere :
    ∀ c ∈ Contract.all, pausable c = true → c ≠ .pair → ∀ ent ∈ table c,
      ent.cls = .userFunds ∨ ent.cls = .onBehalf →
      ∀ r ∈ Role.all, allowed c ent.name r .partialActive = false := by
  simp +contextual only [allowed_of_mem]
  decide +kernel

/-- the pair's bootstrap (`addInitialLiquidity`) is the one operation that needs the pair
    NOT to be active, and it is reserved to the initial liquidity adder when one is set -/
theorem bootstrap_only_inactive :
    ∀ r ∈ Role.all, ∀ s ∈ CState.all,
      (allowed .pair "addInitialLiquidity" r s = true → s = .inactive) ∧
      (allowed .pair "addInitialLiquidity@adder" r s = true → s = .inactive ∧ r = .user) := by decide +kernel

-- acting on behalf of another user

/-- an on-behalf endpoint is guarded by the contract whitelist or by the hub (or is disabled),
    needs the contract Active, and succeeds only for the whitelisted contract resp. the agent
    the position owner authorised — never for the owner, an admin, a plain user, a revoked
    agent or a blacklisted agent -/
theorem on_behalf_rules :
    ∀ c ∈ Contract.all, ∀ ent ∈ table c, ent.cls = .onBehalf →
      (ent.guard = .whitelisted ∨ ent.guard = .hubAgent ∨ ent.guard = .nobody) ∧ ent.st = .active ∧
      ∀ r ∈ Role.all, ∀ s ∈ CState.all, allowed c ent.name r s = true →
        s = .active ∧ ((ent.guard = .whitelisted ∧ r = .wsc) ∨ (ent.guard = .hubAgent ∧ r = .agent)) := by
  simp +contextual only [allowed_of_mem]
  decide +kernel

/-- rewards claimed on behalf through the hub go to the position owner, never to the caller -/
theorem on_behalf_rewards_to_owner :
    ∀ c ∈ Contract.all, ∀ ent ∈ table c,
      (ent.name = "claimRewardsOnBehalf" → ent.guard = .hubAgent ∧ ent.payee = .positionOwner) ∧
      ent.payee ≠ .caller := by decide +kernel

/-- contract-only endpoints succeed for the whitelisted contract and nobody else -/
theorem contract_only_rules :
    ∀ c ∈ Contract.all, ∀ ent ∈ table c, ent.cls = .contractOnly → ent.guard = .whitelisted ∧
      ∀ r ∈ Role.all, ∀ s ∈ CState.all, allowed c ent.name r s = true → r = .wsc := by
  simp +contextual only [allowed_of_mem]
  decide +kernel

/-- the hub authorisations the matrix world ends up with, computed by running the hub state
    machine on the world's history: exactly `agent` is authorised by `user` -/
theorem hub_deployment :
    ∀ r ∈ Role.all, hubDeployed.isWhitelisted Role.user.addr r.addr = (r == .agent) := by decide

-- state machines: every operation history

/-- permission bit-set: a successful operation proves its caller held OWNER or is the
    contract owner -/
theorem perm_change_needs_authority {s s' : PermSt} {o : PermOp} (h : s.step o = some s') :
    s.holds o.caller Perm.OWNER = true ∨ o.caller = s.scOwner :=
  PermSt.step_authority h

/-- permission bit-set: whatever callers without the OWNER permission (and other than the
    contract owner) try, in whatever order, nobody's permissions change -/
theorem perm_history_unauthorised_frozen (s : PermSt) (ops : List PermOp)
    (h : ∀ o ∈ ops, s.holds o.caller Perm.OWNER = false ∧ o.caller ≠ s.scOwner) : s.run ops = s :=
  PermSt.run_unauthorised s ops h

/-- permission bit-set: the add/remove endpoints never grant or take the OWNER bit -/
theorem perm_owner_bit_stable {s s' : PermSt} {o : PermOp} (h : s.step o = some s')
    (hno : ∀ c p, o ≠ .updateOwnerOrAdmin c p) (x : Addr) : (s'.perms x).owner = (s.perms x).owner := by
  cases o with
  | updateOwnerOrAdmin c p => exact absurd rfl (hno c p)
  | addAdmin c a | removeAdmin c a | addPause c a | removePause c a =>
    obtain ⟨_, rfl⟩ := PermSt.step_some h
    by_cases hx : x = a
    · subst hx; simp [setAt, Perm.union, Perm.diff, Perm.ADMIN, Perm.PAUSE]
    · simp [setAt, hx]

/-- permission bit-set: removal is effective -/
theorem perm_remove_effective {s s' : PermSt} {c a : Addr} :
    (s.step (.removeAdmin c a) = some s' → (s'.perms a).admin = false) ∧
    (s.step (.removePause c a) = some s' → (s'.perms a).pause = false) := by
  constructor <;> intro h <;> obtain ⟨_, rfl⟩ := PermSt.step_some h <;> simp [setAt, Perm.diff, Perm.ADMIN, Perm.PAUSE]

/-- pausable: the kill switch moves only for a caller holding PAUSE (pause / resume) or
    OWNER (active-no-swaps) -/
theorem pause_change_needs_permission {s s' : PauseSt} {o : PauseOp} (h : s.step o = some s')
    (hne : s'.state ≠ s.state) :
    (∃ c, (o = .pause c ∨ o = .resume c) ∧ s.perm.holds c Perm.PAUSE = true) ∨
    (∃ c, o = .setActiveNoSwaps c ∧ s.perm.holds c Perm.OWNER = true) := by
  cases o with
  | pause c => exact Or.inl ⟨c, Or.inl rfl, (PauseSt.step_some h).1⟩
  | resume c => exact Or.inl ⟨c, Or.inr rfl, (PauseSt.step_some h).1⟩
  | setActiveNoSwaps c => exact Or.inr ⟨c, rfl, (PauseSt.step_some h).1⟩
  | perm o =>
    obtain ⟨p, _, rfl⟩ := PauseSt.step_some h
    exact absurd rfl hne

/-- whitelist: only the contract owner changes it, removal is effective, no duplicates arise -/
theorem whitelist_step {s s' : WlSt} {o : WlOp} (h : s.step o = some s') :
    (∃ a, o = .add s.scOwner a ∨ o = .remove s.scOwner a) ∧ (s.members.Nodup → s'.members.Nodup) := by
  cases o with
  | add c a =>
    obtain ⟨⟨rfl, ha⟩, rfl⟩ := WlSt.step_some h
    exact ⟨⟨a, Or.inl rfl⟩, fun hn => List.nodup_cons.mpr ⟨ha, hn⟩⟩
  | remove c a =>
    obtain ⟨⟨rfl, _⟩, rfl⟩ := WlSt.step_some h
    exact ⟨⟨a, Or.inr rfl⟩, fun hn => hn.filter _⟩

/-- whitelist, every history: a member was a member at the start or was added by the owner -/
theorem whitelist_history (s : WlSt) (ops : List WlOp) (a : Addr) (h : a ∈ (s.run ops).members) :
    a ∈ s.members ∨ WlOp.add s.scOwner a ∈ ops := by
  by_cases h0 : a ∈ s.members
  · exact Or.inl h0
  · obtain ⟨pre, o, post, s', rfl, hst, hn, hy⟩ := Run.first WlSt.run_def (Q := fun t : WlSt => a ∈ t.members) h0 h
    cases o with
    | add c b =>
      obtain ⟨⟨rfl, _⟩, rfl⟩ := WlSt.step_some hst
      rw [WlSt.run_scOwner]
      rcases List.mem_cons.mp hy with rfl | h2
      · exact Or.inr (List.mem_append_right _ (List.mem_cons_self ..))
      · exact absurd h2 hn
    | remove c b =>
      obtain ⟨_, rfl⟩ := WlSt.step_some hst
      exact absurd (List.mem_filter.mp hy).1 hn

/-- hub: a blacklisted address is authorised for nobody, whoever whitelisted it -/
theorem hub_blacklisted_never (s : HubSt) (u a : Addr) (h : a ∈ s.bl) : s.isWhitelisted u a = false := by
  simp [HubSt.isWhitelisted, h]

/-- hub: revoking and blacklisting take effect immediately -/
theorem hub_revoke_blacklist_effective {s s' : HubSt} {u c a : Addr} :
    (s.step (.removeWhitelist u a) = some s' → s'.isWhitelisted u a = false) ∧
    (s.step (.blacklist c a) = some s' → ∀ v, s'.isWhitelisted v a = false) := by
  constructor <;> intro h
  · obtain ⟨_, rfl⟩ := HubSt.step_some h
    simp [HubSt.isWhitelisted, setAt, List.mem_filter]
  · obtain ⟨_, rfl⟩ := HubSt.step_some h
    intro v
    by_cases hm : a ∈ s.bl <;> simp [HubSt.isWhitelisted, hm]

/-- hub, every history from the empty hub: `a` is authorised to act for `u` only if `u`
    himself whitelisted `a` at some point; and whoever is blacklisted was blacklisted by the
    hub owner -/
theorem hub_history (owner : Addr) (ops : List HubOp) (u a : Addr) :
    let s := ({ scOwner := owner, wl := fun _ => [], bl := [] } : HubSt).run ops
    (s.isWhitelisted u a = true → HubOp.whitelist u a ∈ ops) ∧
    (a ∈ s.bl → HubOp.blacklist owner a ∈ ops) := by
  intro s
  constructor
  · intro h
    simp only [HubSt.isWhitelisted, Bool.and_eq_true, decide_eq_true_eq] at h
    rcases HubSt.run_wl _ ops u a h.2 with h1 | h1
    · cases h1
    · exact h1
  · intro h
    rcases HubSt.run_bl _ ops a h with h1 | h1
    · cases h1
    · exact h1

/-- hub: nobody but `u` changes `u`'s whitelist; only the hub owner changes the blacklist -/
theorem hub_step_authority {s s' : HubSt} {o : HubOp} (h : s.step o = some s') :
    (∀ u, o.caller ≠ u → s'.wl u = s.wl u) ∧ (s'.bl ≠ s.bl → o.caller = s.scOwner) := by
  refine ⟨fun u hu => HubSt.step_wl_other h u hu, fun hne => ?_⟩
  cases o with
  | whitelist c a | removeWhitelist c a =>
    obtain ⟨_, rfl⟩ := HubSt.step_some h
    exact absurd rfl hne
  | blacklist c a | removeBlacklist c a => exact (HubSt.step_some h).1

-- non-vacuity: the hypotheses above are met by reachable cells

example : allowed .farm "claimRewardsOnBehalf" .agent .active = true := by decide +kernel
example : allowed .farm "claimRewardsOnBehalf" .revoked .active = false := by decide +kernel
example : allowed .farm "claimRewardsOnBehalf" .blacklisted .active = false := by decide +kernel
example : allowed .staking "mergeFarmTokens" .user .active = true ∧ allowed .staking "mergeFarmTokens" .user .inactive = false := by decide +kernel
example : allowed .pair "setFeePercents" .admin .inactive = true ∧ allowed .pair "setFeePercents" .user .inactive = false := by decide +kernel
example : allowed .pair "updateOwnerOrAdmin" .router .active = true ∧ allowed .pair "updateOwnerOrAdmin" .owner .active = false := by decide +kernel
example : allowed .energy "lockVirtual" .wsc .active = true ∧ allowed .energy "lockVirtual" .owner .active = false := by decide +kernel
example : (lookup .farm "noSuchEndpoint").isSome = false := by decide +kernel
example : ∃ s : HubSt, s.isWhitelisted 5 6 = true := ⟨hubDeployed, by decide⟩
example : ((deployed .pair).perms Role.pauser.addr) = Perm.PAUSE := by decide +kernel

end Mx.C19
