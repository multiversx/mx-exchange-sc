/-
  C18 — Governance: status from time and tallies; one vote per address; exact fee escrow.

  Statement: a proposal's status is the documented function of block height and tallies
  (pending before the delay, active during the voting period, then succeeded iff quorum is
  reached, up-votes exceed half and veto votes do not exceed a third; vetoed iff veto votes
  exceed a third; otherwise defeated).  Each address votes at most once per proposal, only
  while it is active, with power sqrt(energy) and quorum weight energy.  The proposal fee
  leaves escrow at most once: fully refunded to the proposer on cancel (proposer only,
  pending only), success or defeat, and on veto the configured fraction is refunded and the
  rest burned.

  Model: Core/Governance.lean.  `s.bal` = the contract's real fee-token balance, `s.wallet` =
  users' fee-token balances, `s.burned` = fee tokens burned so far.
-/
import MxModel.Lemmas.GovInv

namespace Mx.C18
open Mx.Gov

/-- the status of a stored proposal is the documented function of block and tallies:
    Pending before `start + delay`, Active for the next `period` blocks, and from then on
    Succeeded ⇔ quorum reached ∧ up > ⌊total/2⌋ ∧ ¬ veto > ⌊total/3⌋,
    DefeatedWithVeto ⇔ veto > ⌊total/3⌋, Defeated otherwise; where quorum reached means
    `quorum · 10000 ≥ minimum_quorum · total_quorum` -/
theorem status_fn (p : Proposal) (b : Nat) :
    (b < p.start + p.delay → p.statusAt b = .pending) ∧
    (p.start + p.delay ≤ b → b < p.start + p.delay + p.period → p.statusAt b = .active) ∧
    (p.start + p.delay + p.period ≤ b →
      (p.statusAt b = .succeeded ↔
        p.minQuorum * p.totalQuorum ≤ p.quorum * 10000 ∧
        (p.up + p.down + p.veto + p.abstain) / 2 < p.up ∧
        ¬ (p.up + p.down + p.veto + p.abstain) / 3 < p.veto) ∧
      (p.statusAt b = .vetoed ↔ (p.up + p.down + p.veto + p.abstain) / 3 < p.veto) ∧
      (p.statusAt b = .defeated ↔
        ¬ (p.up + p.down + p.veto + p.abstain) / 3 < p.veto ∧
        ¬ (p.minQuorum * p.totalQuorum ≤ p.quorum * 10000 ∧
           (p.up + p.down + p.veto + p.abstain) / 2 < p.up))) := by
  refine ⟨fun h => statusAt_pending.2 h, fun h1 h2 => statusAt_active.2 ⟨h1, h2⟩, fun h => ?_⟩
  have a1 : ¬ b < p.start + p.delay := by omega
  have a2 : ¬ b < p.start + p.delay + p.period := by omega
  have hF : FULL = 10000 := rfl
  simp only [Proposal.statusAt, a1, a2, if_false, Proposal.quorumReached, Proposal.voteReached,
    Proposal.vetoed, Proposal.totalVotes, hF]
  by_cases hv : (p.up + p.down + p.veto + p.abstain) / 3 < p.veto <;>
  by_cases hq : p.minQuorum * p.totalQuorum ≤ p.quorum * 10000 <;>
  by_cases hu : (p.up + p.down + p.veto + p.abstain) / 2 < p.up <;>
  simp [hv, hq, hu]

/-- the threshold-equality cases: exactly half the votes up is not enough, exactly a third
    veto is not a veto, exactly the required quorum is enough -/
theorem status_thresholds (p : Proposal) (b : Nat) (h : p.start + p.delay + p.period ≤ b) :
    (p.up = p.totalVotes / 2 → p.statusAt b ≠ .succeeded) ∧
    (p.veto = p.totalVotes / 3 → p.statusAt b ≠ .vetoed) ∧
    (p.quorum * 10000 = p.minQuorum * p.totalQuorum → p.totalVotes / 2 < p.up →
      p.veto ≤ p.totalVotes / 3 → p.statusAt b = .succeeded) ∧
    (p.veto = p.totalVotes / 3 + 1 → p.statusAt b = .vetoed) := by
  obtain ⟨_, _, h3⟩ := status_fn p b
  obtain ⟨hs, hv, _⟩ := h3 h
  unfold Proposal.totalVotes
  refine ⟨?_, ?_, ?_, ?_⟩
  · intro e hst; have := (hs.1 hst).2.1; omega
  · intro e hst; have := hv.1 hst; omega
  · intro e hu hv'; exact hs.2 ⟨by omega, hu, by omega⟩
  · intro e; exact hv.2 (by omega)

/-- `getProposalStatus`: None exactly for ids never issued or cancelled, otherwise `statusAt` -/
theorem status_view (s : St) (id : Nat) :
    (s.status id = .none ↔ (s.get? id = none ∨ ∃ p, s.get? id = some p ∧ p.cleared = true)) ∧
    (∀ p, s.get? id = some p → p.cleared = false → s.status id = p.statusAt s.block) := by
  constructor
  · cases hg : s.get? id with
    | none => simp [status_none_of_get_none hg]
    | some p =>
      rw [status_of_get hg]
      cases hc : p.cleared with
      | true => simp [hc]
      | false => simp [hc, statusAt_ne_none]
  · intro p hg hc
    rw [status_of_get hg]; simp [hc]

/-- a vote is accepted only while the proposal is Active: stored, not cancelled, and the
    block within `[start + delay, start + delay + period)` -/
theorem vote_only_active {s s' : St} {c id : Nat} {v : Vote} {o : Out}
    (h : vote s c id v = some (s', o)) :
    ∃ p, s.get? id = some p ∧ p.cleared = false ∧ s.status id = .active ∧
      p.start + p.delay ≤ s.block ∧ s.block < p.start + p.delay + p.period := by
  obtain ⟨p, r⟩ := vote_spec h
  obtain ⟨hc, e⟩ := status_get r.get r.active (by decide)
  obtain ⟨a, b⟩ := statusAt_active.1 e
  exact ⟨p, r.get, hc, r.active, a, b⟩

/-- one vote per address per proposal: an accepted vote records the voter, and whatever
    happens afterwards (any history) a further vote of that address on that proposal fails -/
theorem vote_once {s s' : St} {c id : Nat} {v : Vote} {o : Out}
    (h : vote s c id v = some (s', o)) :
    (∃ p, s.get? id = some p ∧ c ∉ p.voters) ∧
    (∃ q, s'.get? id = some q ∧ c ∈ q.voters) ∧
    ∀ (ops : List Op) (v' : Vote), vote (run s' ops) c id v' = none := by
  obtain ⟨p, r⟩ := vote_spec h
  obtain rfl := r.state
  have hg := r.get
  have hq := get?_set_same (voted p s.total v (s.energy c) c) hg
  have hin : c ∈ (voted p s.total v (s.energy c) c).voters :=
    List.mem_append_right _ (List.mem_singleton_self c)
  exact ⟨⟨p, hg, r.not_voted⟩, ⟨_, hq, hin⟩, no_second_vote hq hin⟩

/-- voting power is ⌊√energy⌋ (returned and added to the chosen tally only), the quorum
    grows by the energy itself, and the caller must have energy -/
theorem vote_power_quorum {s s' : St} {c id : Nat} {v : Vote} {o : Out}
    (h : vote s c id v = some (s', o)) :
    ∃ p q, s.get? id = some p ∧ s'.get? id = some q ∧ 0 < s.energy c ∧
      o.v1 * o.v1 ≤ s.energy c ∧ s.energy c < (o.v1 + 1) * (o.v1 + 1) ∧ o.v2 = s.energy c ∧
      q.quorum = p.quorum + s.energy c ∧
      q.up = p.up + (if v = .up then o.v1 else 0) ∧
      q.down = p.down + (if v = .down then o.v1 else 0) ∧
      q.veto = p.veto + (if v = .veto then o.v1 else 0) ∧
      q.abstain = p.abstain + (if v = .abstain then o.v1 else 0) := by
  obtain ⟨p, r⟩ := vote_spec h
  obtain rfl := r.out
  obtain rfl := r.state
  exact ⟨p, _, r.get, get?_set_same _ r.get, r.energy, Nat.sqrt_le _, Nat.lt_succ_sqrt _, rfl,
    rfl, rfl, rfl, rfl, rfl⟩

/-- the total energy used for the quorum test is the fees collector's total at the moment of
    the first vote, and no later history (votes, total-energy changes, anything) moves it -/
theorem total_quorum_snapshot {s s' : St} {c id : Nat} {v : Vote} {o : Out}
    (h : vote s c id v = some (s', o)) :
    ∃ p q, s.get? id = some p ∧ s'.get? id = some q ∧
      q.totalQuorum = (if p.quorum = 0 then s.total else p.totalQuorum) ∧ q.quorum ≠ 0 ∧
      ∀ ops q', (run s' ops).get? id = some q' → q'.totalQuorum = q.totalQuorum := by
  obtain ⟨p, r⟩ := vote_spec h
  obtain rfl := r.state
  have hg := r.get
  have he := r.energy
  have hq := get?_set_same (voted p s.total v (s.energy c) c) hg
  have f11 : (voted p s.total v (s.energy c) c).quorum = p.quorum + s.energy c := rfl
  refine ⟨p, _, hg, hq, rfl, by omega, fun ops q' hg' => ?_⟩
  obtain ⟨q2, hg2, hl, _⟩ := run_later ops hq
  rw [hg2] at hg'
  cases hg'
  exact hl.snapshot (by omega)

/-- after every history the contract's fee-token balance is exactly the sum of the fees of
    the proposals that were neither cancelled nor withdrawn -/
theorem fee_escrow_inv (a b c d e f n funds : Nat) (ops : List Op) :
    (run (init a b c d e f n funds) ops).bal =
      ((run (init a b c d e f n funds) ops).props.map
        (fun p => if p.cleared || p.withdrawn then 0 else p.fee)).sum :=
  (run_inv ops (inv_init a b c d e f n funds)).escrow

/-- `propose` escrows exactly the configured fee, requires the minimum energy, freezes the
    current configuration in the proposal and hands out the next id -/
theorem propose_rules {s s' : St} {c fee : Nat} {o : Out} (h : propose s c fee = some (s', o)) :
    s.minEnergy ≤ s.energy c ∧ fee = s.minFee ∧ o.v1 = s.props.length + 1 ∧
    s'.bal = s.bal + fee ∧ s'.wallet c + fee = s.wallet c ∧
    s'.get? o.v1 = some (newProposal s c fee) ∧
    (newProposal s c fee).minQuorum = s.quorumPct ∧ (newProposal s c fee).delay = s.delay ∧
    (newProposal s c fee).period = s.period ∧ (newProposal s c fee).wpct = s.wpct ∧
    (newProposal s c fee).start = s.block := by
  obtain ⟨_, h2, _, h4, h5, rfl, rfl⟩ := propose_spec h
  refine ⟨h2, h5.symm, rfl, rfl, ?_, ?_, rfl, rfl, rfl, rfl, rfl⟩
  · simp only [upd_same]; omega
  · simp [St.get?]

/-- cancel: only the proposer, only while Pending; the whole fee goes back to the proposer
    and the proposal is gone (status None) -/
theorem cancel_rules {s s' : St} {c id : Nat} {o : Out} (h : cancel s c id = some (s', o)) :
    ∃ p, s.get? id = some p ∧ c = p.proposer ∧ s.status id = .pending ∧
      s.block < p.start + p.delay ∧
      o.v1 = p.fee ∧ s'.bal + p.fee = s.bal ∧ s'.wallet c = s.wallet c + p.fee ∧
      (∀ u, u ≠ c → s'.wallet u = s.wallet u) ∧ s'.burned = s.burned ∧
      s'.status id = .none := by
  obtain ⟨p, _, hst, hg, hc, hb, rfl, rfl⟩ := cancel_spec h
  obtain ⟨_, e⟩ := status_get hg hst (by decide)
  have hg0 : (refunded s p.proposer p.fee).get? id = some p := hg
  refine ⟨p, hg, hc, hst, statusAt_pending.1 e, rfl, ?_, ?_, ?_, rfl, ?_⟩
  · simp only [set_bal, refunded]; omega
  · subst hc; simp [refunded]
  · intro u hu; subst hc; simp [refunded, upd_ne _ _ hu]
  · rw [status_of_get (get?_set_same _ hg0)]; simp

/-- withdrawDeposit after success or defeat: proposer only, not withdrawn before, the whole
    fee goes back to the proposer, nothing is burned -/
theorem full_refund {s s' : St} {c id : Nat} {o : Out} (h : withdraw s c id = some (s', o))
    (hst : s.status id = .succeeded ∨ s.status id = .defeated) :
    ∃ p, s.get? id = some p ∧ c = p.proposer ∧ p.withdrawn = false ∧
      o.v1 = p.fee ∧ o.v2 = 0 ∧ s'.bal + p.fee = s.bal ∧ s'.wallet c = s.wallet c + p.fee ∧
      (∀ u, u ≠ c → s'.wallet u = s.wallet u) ∧ s'.burned = s.burned := by
  obtain ⟨p, _, hg, hw, hcase⟩ := withdraw_spec h
  rcases hcase with ⟨_, hc, hb, rfl, rfl⟩ | ⟨hv, _⟩
  · refine ⟨p, hg, hc, hw, rfl, rfl, ?_, ?_, ?_, rfl⟩
    · simp only [set_bal, refunded]; omega
    · subst hc; simp [refunded]
    · intro u hu; subst hc; simp [refunded, upd_ne _ _ hu]
  · rcases hst with h1 | h1 <;> rw [h1] at hv <;> simp at hv

/-- withdrawDeposit after a veto: anyone may trigger it, once; the proposer receives
    `⌊pct·fee/10000⌋` and the rest of the fee is burned -/
theorem veto_split {s s' : St} {c id : Nat} {o : Out} (h : withdraw s c id = some (s', o))
    (hst : s.status id = .vetoed) :
    ∃ p, s.get? id = some p ∧ p.withdrawn = false ∧
      o.v1 = p.wpct * p.fee / 10000 ∧ o.v2 = p.fee - o.v1 ∧ o.v1 ≤ p.fee ∧
      s'.bal + p.fee = s.bal ∧ s'.burned = s.burned + o.v2 ∧
      s'.wallet p.proposer = s.wallet p.proposer + o.v1 ∧
      (∀ u, u ≠ p.proposer → s'.wallet u = s.wallet u) := by
  obtain ⟨p, _, hg, hw, hcase⟩ := withdraw_spec h
  have hF : FULL = 10000 := rfl
  rcases hcase with ⟨hs, _⟩ | ⟨_, hr, hb1, hb2, rfl, rfl⟩
  · rcases hs with h1 | h1 <;> rw [h1] at hst <;> simp at hst
  · rw [hF] at *
    refine ⟨p, hg, hw, rfl, rfl, hr, ?_, rfl, ?_, ?_⟩
    · simp only [set_bal, refunded, burnedSt]; omega
    · simp [refunded, burnedSt]
    · intro u hu; simp [refunded, burnedSt, upd_ne _ _ hu]

/-- withdrawDeposit is only possible once the voting period is over, and marks the fee as
    withdrawn -/
theorem withdraw_rules {s s' : St} {c id : Nat} {o : Out} (h : withdraw s c id = some (s', o)) :
    ∃ p q, s.get? id = some p ∧ p.cleared = false ∧ p.withdrawn = false ∧
      p.start + p.delay + p.period ≤ s.block ∧
      (s.status id = .succeeded ∨ s.status id = .defeated ∨ s.status id = .vetoed) ∧
      s'.get? id = some q ∧ q.withdrawn = true := by
  obtain ⟨p, _, _, w⟩ := withdraw_ended h
  obtain rfl := w.state
  exact ⟨p, _, w.get, w.cleared, w.withdrawn, w.ended, w.status, get?_set_same _ (by exact w.get),
    rfl⟩

/-- the fee leaves escrow at most once: after a successful cancel or withdrawDeposit of a
    proposal, no history whatsoever leads to a state in which cancel or withdrawDeposit of
    that proposal succeeds again, for any caller -/
theorem fee_leaves_once {s s' : St} {c id : Nat} {o : Out}
    (h : cancel s c id = some (s', o) ∨ withdraw s c id = some (s', o))
    (ops : List Op) (c' : Nat) :
    cancel (run s' ops) c' id = none ∧ withdraw (run s' ops) c' id = none := by
  -- after the call the stored proposal is cleared, or withdrawn with its voting period over
  have key : ∃ q, s'.get? id = some q ∧
      (q.cleared = true ∨ (q.withdrawn = true ∧ q.start + q.delay + q.period ≤ s'.block)) := by
    rcases h with h | h
    · obtain ⟨p, _, _, hg, _, _, _, rfl⟩ := cancel_spec h
      exact ⟨_, get?_set_same _ (by exact hg), .inl rfl⟩
    · obtain ⟨p, _, _, w⟩ := withdraw_ended h
      obtain rfl := w.state
      exact ⟨_, get?_set_same _ (by exact w.get), .inr ⟨rfl, w.ended⟩⟩
  obtain ⟨q, hq, hflag⟩ := key
  exact no_second_payout hq hflag ops c'

/-- configuration changes, energy updates and the passage of time never touch a stored
    proposal: its frozen parameters, tallies and flags stay as they are -/
theorem config_change_keeps_proposals {s s' : St} {op : Op} {o : Out}
    (h : step s op = some (s', o))
    (hop : (∃ x, op = .cfg x) ∨ (∃ u e, op = .setEnergy u e) ∨ (∃ x, op = .setTotal x) ∨
           (∃ u, op = .claim u) ∨ (∃ b, op = .advance b)) :
    s'.props = s.props ∧ s'.bal = s.bal ∧ s'.burned = s.burned ∧ s'.wallet = s.wallet := by
  rcases step_cases h with ⟨c, fee, e, _⟩ | ⟨c, id, v, e, _⟩ | ⟨c, id, e, _⟩ | ⟨c, id, e, _⟩ |
      ⟨h1, h2, h3, h4, _⟩
  · subst e; simp at hop
  · subst e; simp at hop
  · subst e; simp at hop
  · subst e; simp at hop
  · exact ⟨h1, h2, h3, h4⟩

/-- every stored proposal keeps its proposer, fee and frozen configuration for ever; flags,
    voters and quorum only move forward -/
theorem proposal_frozen (s : St) (ops : List Op) (id : Nat) (p : Proposal)
    (h : s.get? id = some p) :
    ∃ p', (run s ops).get? id = some p' ∧ p'.proposer = p.proposer ∧ p'.fee = p.fee ∧
      p'.minQuorum = p.minQuorum ∧ p'.delay = p.delay ∧ p'.period = p.period ∧
      p'.wpct = p.wpct ∧ p'.start = p.start ∧
      (p.cleared = true → p'.cleared = true) ∧ (p.withdrawn = true → p'.withdrawn = true) := by
  obtain ⟨p', hg, hl, _⟩ := run_later ops h
  exact ⟨p', hg, hl.proposer, hl.fee, hl.minQuorum, hl.delay, hl.period, hl.wpct, hl.start,
    hl.cleared, hl.withdrawn⟩

/-- a failed transaction leaves the state untouched (atomicity as modelled) -/
theorem failed_tx_no_effect (s : St) (op : Op) (h : step s op = none) : run s [op] = s := by
  simp [run, h]

/-- a world used by the examples: min energy 4, fee 3·10^24, quorum 40 %, delay 2, period 14400,
    50 % refund on veto, four users with 10^25 fee tokens each -/
def exInit : St := init 4 3000000000000000000000000 4000 2 14400 5000 4 10000000000000000000000000

/-- non-vacuity: three proposals run to the three final statuses — one succeeds with the
    quorum exactly met and a veto of exactly a third, one is vetoed (third + 1) and split
    50/50 on a third party's request, one is defeated with up-votes exactly half; a fourth is
    cancelled while pending.  Every fee has left escrow exactly once. -/
example :
    let s := run exInit
      [.setEnergy 1 36, .setEnergy 2 9, .setEnergy 3 5, .setEnergy 4 16,
       .propose 1 3000000000000000000000000, .propose 4 3000000000000000000000000,
       .propose 1 3000000000000000000000000, .propose 2 3000000000000000000000000,
       .cancel 2 4, .advance 2, .setTotal 125,
       .vote 1 1 .up, .vote 2 1 .veto, .vote 3 1 .abstain,       -- up 6 > ⌊11/2⌋, veto 3 = ⌊11/3⌋, quorum 50 = 40 % of 125
       .vote 1 2 .up, .vote 4 2 .veto,                            -- veto 4 = ⌊10/3⌋ + 1
       .vote 2 3 .up, .vote 4 3 .down,                            -- up 3 = ⌊7/2⌋
       .setTotal 1000000, .advance 14402,
       .withdraw 1 1, .withdraw 3 2, .withdraw 1 3]
    s.status 1 = .succeeded ∧ s.status 2 = .vetoed ∧ s.status 3 = .defeated ∧ s.status 4 = .none ∧
    s.bal = 0 ∧ s.burned = 1500000000000000000000000 ∧
    s.wallet 4 = 8500000000000000000000000 ∧ s.wallet 1 = 10000000000000000000000000 := by
  decide +kernel

/-- non-vacuity of the "once" and "who / when" clauses on the same world: a vote after the voting
    period, a second vote of the same address while Active, a third party's withdraw of a
    succeeded proposal, the proposer's cancel after Pending and a second withdraw all fail; the
    proposer's first withdraw succeeds -/
example :
    let s := run exInit
      [.setEnergy 1 16, .setEnergy 2 4, .propose 1 3000000000000000000000000, .advance 2,
       .vote 1 1 .up, .advance 14402]
    (vote s 2 1 .up).isSome = false ∧ (vote (run exInit [.setEnergy 1 16, .propose 1 3000000000000000000000000,
       .advance 2, .vote 1 1 .up]) 1 1 .down).isSome = false ∧ (withdraw s 2 1).isSome = false ∧
    (cancel s 1 1).isSome = false ∧ (withdraw s 1 1).isSome = true ∧
    (withdraw (run s [.withdraw 1 1]) 1 1).isSome = false := by
  decide +kernel

end Mx.C18
