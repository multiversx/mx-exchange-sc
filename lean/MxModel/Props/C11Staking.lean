/-
  C11 (farm-staking side) — boosted rewards: per-week formula, single payment, bounded by the pool.

  Statement: for each completed week a user's boosted reward is
  min(maxFactor·R·f/F, R·(cE·e/E + cF·f/F)/(cE+cF)) with R the boosted share accumulated that
  week, f and F the user's and the farm's position, e and E the user's and total energy for that
  week, and zero below the configured minimum energy or minimum position.  The sum paid for a week
  never exceeds R, and whatever is left after the four-week claim window can be collected exactly
  once as undistributed rewards.

  Model: Core/Staking.lean (`boostedRewards` = `FarmBoostedYieldsWrapper::get_user_rewards_for_week`,
  plugged into the shared `Weekly.claimMulti`; `B.collected w` = the pool R(w) moved out of
  `accumulatedRewardsForWeek`, `B.paid w` = paid for week w, both ghosts).
  This file has the per-call facts; "paid at most once" and "collected exactly once" over whole
  histories are `paid_once` / `collected_once` of Props/C11StakingOnce.lean.
  Only property theorems live here (helpers: Lemmas/Staking{Boosted,Pool,Factors}.lean).
-/
import MxModel.Lemmas.StakingPool
import MxModel.Lemmas.StakingFactors

namespace Mx.C11Staking
open Mx.Staking
open Mx.Weekly (collectAndGet upd Tok)

/-- the weekly reward hook pays either nothing, or — only when the week has energy and farm
    supply, and the user reaches the minimum energy and minimum position of the factors in force
    for THAT week — exactly
    `min ⌊maxF·R·f/F⌋ ⌊(⌊R·cE·e/E⌋ + ⌊R·cF·f/F⌋)/(cE+cF)⌋` of the week's frozen pool `R` -/
theorem boosted_formula {c' : BCfg} {userFarm : Nat} {g g' : Weekly.St} {b b' : B}
    {week e E : Nat} {r : List (Tok × Nat)}
    (h : boostedRewards c' userFarm g b week e E = some (g', b', r)) :
    r = [] ∨
    ∃ x R fac, r = [(0, x)] ∧ 0 < x ∧ E ≠ 0 ∧ b.farmSupply week ≠ 0 ∧
      c'.factorsForWeek week = some fac ∧ fac.minE ≤ e ∧ fac.minF ≤ userFarm ∧
      x = min (fac.maxF * R * userFarm / b.farmSupply week)
            ((R * fac.cE * e / E + R * fac.cF * userFarm / b.farmSupply week) / (fac.cE + fac.cF)) ∧
      (∃ t, (collectAndGet (collectBoosted c') g b week).2.2 = [(t, R)]) ∧
      b'.paid week = b.paid week + x := by
  rcases boostedRewards_char h with ⟨-, -, h1, -⟩ |
    ⟨fac, cg, hE, hF, hfac, hmE, hmF, rfl, -,
      ⟨-, h1, -⟩ | ⟨t, R, x, hl, -, -, hx, hx0, -, rfl, rfl⟩⟩
  · exact Or.inl h1
  · exact Or.inl h1
  · refine Or.inr ⟨x, R, fac, rfl, Nat.pos_of_ne_zero hx0, hE, hF, hfac, hmE, hmF, hx, ⟨t, hl⟩, ?_⟩
    show upd _ week _ week = _
    rw [Mx.Weekly.upd_same, (collectBoosted_frame c' g b week).2]

/-- zero below the thresholds: with less than the minimum energy or minimum farm position of the
    week's factors the hook pays nothing and leaves the pools alone -/
theorem boosted_zero_below_minimum {c' : BCfg} {userFarm : Nat} {g : Weekly.St} {b : B}
    {week e E : Nat} {fac : Factors} (hE : E ≠ 0) (hF : b.farmSupply week ≠ 0)
    (hf : c'.factorsForWeek week = some fac) (hmin : e < fac.minE ∨ userFarm < fac.minF) :
    boostedRewards c' userFarm g b week e E = some (g, b, []) := by
  unfold boostedRewards
  have h0 : ¬(E = 0 ∨ b.farmSupply week = 0) := by
    intro h; rcases h with h | h
    · exact hE h
    · exact hF h
  simp only [h0, if_false, hf, Option.bind_eq_bind, Option.bind_some, hmin, if_true, Option.pure_def]

/-- zero without energy or supply for the week -/
theorem boosted_zero_without_totals {c' : BCfg} {userFarm : Nat} {g : Weekly.St} {b : B}
    {week e E : Nat} (h0 : E = 0 ∨ b.farmSupply week = 0) :
    boostedRewards c' userFarm g b week e E = some (g, b, []) := by
  unfold boostedRewards
  simp only [h0, if_true]

/-- the pool bound as an invariant of every history: for every week, what is still distributable
    plus everything paid for that week is at most the pool `R(week)` that was frozen for it —
    so the sum paid for a week never exceeds R -/
theorem week_pool_bound (epoch block dsc maxApr minUnbond perBlock : Nat) (accts wl : List Nat)
    (ops : List Op) (week : Nat) :
    let s := run (init epoch block dsc maxApr minUnbond perBlock accts wl) ops
    s.b.remaining week + s.b.paid week ≤ s.b.collected week := by
  intro s
  have h : PoolOK s.b := run_pool ops PoolOK.init
  exact h week

/-- one transaction keeps the bound for every week (any operation, any arguments) -/
theorem week_pool_bound_step {s s' : St} {op : Op} {o : Out}
    (hb : ∀ k, s.b.remaining k + s.b.paid k ≤ s.b.collected k) (h : step s op = some (s', o)) :
    ∀ k, s'.b.remaining k + s'.b.paid k ≤ s'.b.collected k :=
  step_pool hb h

/-- `collectUndistributedBoostedRewards` takes exactly the not-yet-collected weeks up to
    `current − 5` (i.e. only weeks outside the four-week claim window), moves their `remaining`
    into the undistributed total and zeroes them; no other week is touched -/
theorem undistributed_collect {s s' : St} {o : Out} (h : collectUndistributed s = some (s', o)) :
    5 < s.week ∧
    (s.week - 5 ≤ s.lastCollectWeek ∧ s' = s ∨
     s.lastCollectWeek < s.week - 5 ∧ s'.lastCollectWeek = s.week - 5 ∧
       (∀ k, s'.b.remaining k =
          if s.lastCollectWeek + 1 ≤ k ∧ k ≤ s.week - 5 then 0 else s.b.remaining k) ∧
       s'.undistributed = s.undistributed +
          ((List.range (s.week - 5 - s.lastCollectWeek)).map
             fun i => s.b.remaining (s.lastCollectWeek + 1 + i)).sum) := by
  obtain ⟨h1, h2 | ⟨h2, h3, h4, h5, _⟩⟩ := collectUndistributed_spec h
  · exact ⟨h1, Or.inl h2⟩
  · exact ⟨h1, Or.inr ⟨h2, h3, h4, h5⟩⟩

/-- exactly once: collecting again in the same week changes nothing -/
theorem undistributed_once {s s1 : St} {o : Out} (h : collectUndistributed s = some (s1, o)) :
    collectUndistributed s1 = some (s1, {}) := by
  have key : 5 < s1.week ∧ s1.week - 5 ≤ s1.lastCollectWeek := by
    obtain ⟨hw, ⟨hle, rfl⟩ | ⟨_, hl, _, _, _, _, _, hwk⟩⟩ := collectUndistributed_spec h
    · exact ⟨hw, hle⟩
    · rw [hl, hwk]
      omega
  have hU : Mx.Weekly.USER_MAX_CLAIM_WEEKS = 4 := rfl
  simp only [collectUndistributed, hU, Option.bind_eq_bind]
  rw [req_pos (by omega)]
  simp only [Option.bind_some]
  rw [if_pos (by omega)]
  rfl

/-- factors in force: the very first configuration also covers the four weeks before it -/
theorem factors_first_config (W w : Nat) (x : Factors) (h1 : w < W) (h2 : W - w < 5) :
    (BCfg.new W x).factorsForWeek w = some x :=
  BCfg.new_factorsForWeek W w x h1 h2

/-- factors in force under updates between weeks (`update W new` is what both
    `setBoostedYieldsFactors` and every read of the configuration perform): weeks before the
    previous update keep their factors while they stay in the 5-slot window; the weeks from the
    previous update up to (excluding) the current one get the factors that were latest; the
    current week gets the new factors (or keeps the latest) -/
theorem factors_for_week {c c' : BCfg} {W : Nat} {new : Option Factors} (hl : c.f.length = 5)
    (h : c.update W new = some c') :
    c'.f.length = 5 ∧ c'.lastUpdateWeek = W ∧
    (∃ last, c.latest = some last ∧ c'.latest = some (new.getD last)) ∧
    (∀ w, w < c.lastUpdateWeek → W - w < 5 → c'.factorsForWeek w = c.factorsForWeek w) ∧
    (∀ w, c.lastUpdateWeek ≤ w → w < W → W - w < 5 → c'.factorsForWeek w = c.latest) := by
  obtain ⟨_, h2, h3, h4, h5, h6⟩ := BCfg.update_spec hl h
  exact ⟨h2, h3, h4, h5, h6⟩

/-- non-vacuity: a user with energy stakes in week 1, the week's cut is 12500, and the claim in
    week 2 pays exactly that pool (single user: min(10·R, R) = R) -/
example :
    let s0 := init 5 10 1000000000000 1000000 5 5000 [1, 2, 101] [101]
    let s := run s0
      [.topUp 100000000, .setBoostedPct 2500, .setFactors ⟨10, 3, 2, 1, 1⟩, .setEnergy 1 10000 100,
       .stake 1 none 100000000000 [], .advance 10 0, .claimBoosted 1 none, .advance 1 7,
       .claim 1 none (1, 100000000000)]
    s.b.collected 1 = 12500 ∧ s.b.paid 1 = 12500 ∧ s.b.remaining 1 = 0 ∧ s.paidBoosted = 12500 ∧
    s.paidBase = 41250 := by
  decide

end Mx.C11Staking
