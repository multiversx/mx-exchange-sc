/-
  KFarmToken — the farm model's position attributes (`Core/Farm.lean`: `Attr.intoPart`,
  `Attr.mergeWith`) compute what the SOURCE of `FarmTokenAttributes`
  (`common/common_structs/src/farm_types.rs`, `common/traits/fixed-supply-token/src/lib.rs`)
  computes: `into_part` (rule of three on the compounded reward) and `merge_with` (index =
  amount-weighted average rounded UP, amounts and compounded rewards add, epoch = max).

  `Gen/KFarmToken.lean` is regenerated on every run by `bin/gen-kernels`; the record fields are
  explicit inputs, the fields a method writes are its outputs (a method returning the record
  writes the fields of `self`).
-/
import MxModel.Gen.KFarmToken
import MxModel.Props.KMath
import MxModel.Core.Farm
import MxModel.Lemmas.KTactic

namespace Mx.KFarmToken
open Mx Mx.Gen Mx.Farm

theorem get_total_supply_eq (amt : Nat) : KFarmToken.get_total_supply amt = some amt := by
  k_defs [KFarmToken.get_total_supply]

theorem rule_of_three_eq (x full total : Nat) :
    KFarmToken.rule_of_three x full total =
      if x = total then some full else if total = 0 then none else some (full * x / total) := by
  k_defs [KFarmToken.rule_of_three, get_total_supply_eq]
  try grind

theorem rule_of_three_non_zero_result_eq (x full total r : Nat) :
    KFarmToken.rule_of_three_non_zero_result x full total = some r ↔
      KFarmToken.rule_of_three x full total = some r ∧ r ≠ 0 := by
  k_defs [KFarmToken.rule_of_three_non_zero_result]
  cases KFarmToken.rule_of_three x full total with
  | none => simp
  | some v =>
    simp only [Option.bind_some]
    split <;> simp_all <;> omega

theorem into_part_eq (a : Attr) (x : Nat) :
    KFarmToken.into_part x a.comp a.amt = (a.intoPart x).map (fun p => (p.comp, p.amt)) := by
  k_defs [KFarmToken.into_part, Attr.intoPart, get_total_supply_eq, rule_of_three_eq]
  grind

/-- the source's literal copies these three fields from `self`; the translation does not list them among
    the written fields -/
theorem intoPart_frame {a p : Attr} {x : Nat} (h : a.intoPart x = some p) :
    p.rps = a.rps ∧ p.epoch = a.epoch ∧ p.owner = a.owner := by
  simp only [Attr.intoPart] at h
  split at h
  · cases h; exact ⟨rfl, rfl, rfl⟩
  · simp only [Option.bind_eq_bind, Option.bind_eq_some_iff, req_eq_some, Option.pure_def,
      Option.some.injEq] at h
    obtain ⟨_, _, rfl⟩ := h
    exact ⟨rfl, rfl, rfl⟩

/-- the abort case is both amounts 0: division by zero in the weighted average -/
theorem merge_with_eq (a b : Attr) :
    KFarmToken.merge_with a.comp a.amt a.epoch a.rps b.comp b.amt b.epoch b.rps =
      (a.mergeWith b).map (fun m => (m.comp, m.amt, m.epoch, m.rps)) := by
  k_defs [KFarmToken.merge_with, Attr.mergeWith, get_total_supply_eq,
    Mx.KMath.weighted_average_round_up_eq, weightedAvgRoundUp, ceilDiv]
  grind

theorem mergeWith_frame {a b m : Attr} (h : a.mergeWith b = some m) : m.owner = a.owner := by
  simp only [Attr.mergeWith, Option.bind_eq_bind, Option.bind_eq_some_iff, req_eq_some,
    Option.pure_def, Option.some.injEq] at h
  obtain ⟨_, _, rfl⟩ := h
  rfl

theorem get_initial_farming_tokens_eq (comp amt : Nat) :
    KFarmToken.get_initial_farming_tokens comp amt = if amt < comp then none else some (amt - comp) := by
  k_defs [KFarmToken.get_initial_farming_tokens]
  grind

example : KFarmToken.into_part 30 10 100 = some (3, 30) := by decide
example : KFarmToken.into_part 100 10 100 = some (10, 100) := by decide
example : KFarmToken.into_part 5 10 0 = none := by decide
example : KFarmToken.merge_with 1 10 5 100 2 20 7 101 = some (3, 30, 7, 101) := by decide
example : KFarmToken.merge_with 1 0 5 100 2 0 7 101 = none := by decide

end Mx.KFarmToken
