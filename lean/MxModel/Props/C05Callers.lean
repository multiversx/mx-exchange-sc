/-
  C05 (farm, farm-with-locked-rewards), last clause — "no legitimate claim / exit fails because an internal
  counter would go negative" — for EVERY legitimate caller.

  `C05Budget.exit_always_succeeds` / `claim_always_succeeds` are stated for the holder acting for himself
  (`opt_orig_caller = none`).  The property's quantifier covers every legitimate caller; the farm contracts
  have two more kinds:

    * a contract on the SC whitelist that passes an ORIGINAL CALLER (`exitFarm(opt_orig_caller)`,
      `claimRewards(opt_orig_caller)`): it holds the position token, the boosted claim / reward / energy are
      the original caller's;
    * an agent authorised in the permissions hub (`claimRewardsOnBehalf`): it holds the position token
      whose recorded owner authorised it; rewards go to that owner.

  For every reachable state (both kinds of farm, any history) the theorems below say that such a call
  SUCCEEDS under exactly the guards the code has — each is an `↔` between success and the guard list of
  the endpoint (exit, claim, claimOB, enter, enterOB, claimBoosted; the `*_list_*` forms take any number
  of payments, with "the ESDT multi-transfer of the payments is valid" in the place of "the caller holds
  the amount").  That the caller is an account of the world and that the nonce is a position token are
  consequences of the holding in a reachable state.  No internal counter — reserve, supply, owner totals,
  weekly pools, energy buckets, balances — appears.  All are instances of `step_isSome_iff`
  (Lemmas/FarmLiveAll.lean).

  Hypotheses of the run-level theorems (as in C05Budget): distinct accounts (`users.Nodup`), `dsc ≠ 0`.
-/
import MxModel.Lemmas.FarmLiveAll

namespace Mx.C05Callers
open Mx.Farm

/-- **exit: every legitimate caller.**  In every reachable state of a farm (both kinds, any history),
    `exitFarm(opt_orig_caller)` with payment `(nonce n, amount a)` sent by `c` succeeds IF AND ONLY IF
    the contract is active, `a ≠ 0`, `c` holds `a` units of `n`, and either no original caller is passed or
    `c` is on the SC whitelist (then ANY original caller `orig` is accepted: the boosted claim, the reward
    and the energy clearing are `orig`'s).  No internal counter stands in the way. -/
theorem exit_succeeds_iff_guards (kind : Kind) (same : Bool) (dsc pb : Nat) (produce : Bool)
    (users : List Nat) (e0 : Nat) (hnd : users.Nodup) (hd : dsc ≠ 0) (ops : List Op)
    (c : Nat) (opt : Option Nat) (n a : Nat) :
    let s := run (init kind same dsc pb produce users e0) ops
    (step s (.exit c opt n a)).isSome = true ↔
      (s.active = true ∧ a ≠ 0 ∧ a ≤ s.hold c n ∧ (opt = none ∨ c ∈ s.scWl)) := by
  intro s
  obtain ⟨W, hG⟩ := Plain.reachable_good kind same dsc pb produce users e0 hnd hd ops
  exact step_isSome_iff hG _ rfl

/-- the whitelisted-contract case spelled out: a contract `c` on the SC whitelist that holds `a > 0` units
    of position `n` can exit with them for ANY original caller `orig`, in every reachable state of an active
    farm -/
theorem exit_with_orig_caller_succeeds (kind : Kind) (same : Bool) (dsc pb : Nat) (produce : Bool)
    (users : List Nat) (e0 : Nat) (hnd : users.Nodup) (hd : dsc ≠ 0) (ops : List Op) (c orig n a : Nat) :
    let s := run (init kind same dsc pb produce users e0) ops
    s.active = true → c ∈ s.scWl → a ≠ 0 → a ≤ s.hold c n →
      (step s (.exit c (some orig) n a)).isSome = true := by
  intro s hact hw ha hle
  exact (exit_succeeds_iff_guards kind same dsc pb produce users e0 hnd hd ops c (some orig) n a).mpr
    ⟨hact, ha, hle, Or.inr hw⟩

/-- the history of the non-vacuity examples: contract 7 is put on the SC whitelist and enters for user 1
    (position 1, held by 7, owner 1); user 1 authorises agent 2 in the hub, agent 2 enters on behalf of 1
    (position 2, held by 2, owner 1); a week with a boosted pool passes, in which 7 claims for user 1
    (position 1 is reissued as position 3) -/
def callersOps : List Op :=
  [.setFactors OWNER ⟨10, 3, 2, 1, 1⟩, .setPct OWNER 2500, .setEnergy 1 1000000 0 1000, .scWhitelist 7,
   .hubWhitelist 1 2, .enter 7 (some 1) 3000 [], .enterOB 2 1 1000 [], .advance 10 6,
   .claim 7 (some 1) [(1, 3000)], .advance 20 7]

/-! ### the general forms: any list of payments

  `(takePayments s c pays).isSome` is the ESDT multi-transfer's own precondition — every payment is a non-zero
  amount of an existing position token and the sender owns them (payments of the same nonce are debited one
  after the other) — not an internal counter of the farm. -/

/-- **claim with any number of payments, every legitimate caller.**  `claimRewards(opt_orig_caller)` with the
    payments `pays` sent by `c` succeeds IF AND ONLY IF the contract is active, there is at least one payment,
    the transfer of the payments is valid, and either no original caller is passed or `c` is on the SC whitelist.
    (The additional payments are merged into the new token: `merge_attributes_from_payments` — `into_part`, the
    weighted-average index, the amounts — cannot fail.) -/
theorem claim_list_succeeds_iff_guards (kind : Kind) (same : Bool) (dsc pb : Nat) (produce : Bool)
    (users : List Nat) (e0 : Nat) (hnd : users.Nodup) (hd : dsc ≠ 0) (ops : List Op)
    (c : Nat) (opt : Option Nat) (pays : List (Nat × Nat)) :
    let s := run (init kind same dsc pb produce users e0) ops
    (step s (.claim c opt pays)).isSome = true ↔
      (s.active = true ∧ pays ≠ [] ∧ (takePayments s c pays).isSome = true ∧ (opt = none ∨ c ∈ s.scWl)) := by
  intro s
  obtain ⟨W, hG⟩ := Plain.reachable_good kind same dsc pb produce users e0 hnd hd ops
  exact step_isSome_iff hG _ rfl

/-- **claim on behalf with any number of payments.**  `claimRewardsOnBehalf` with the payments `pays` sent by the
    agent `c` succeeds IF AND ONLY IF the contract is active, the transfer of the payments is valid, all payments
    record the same owner `u` (`get_claim_original_owner`), `c` is not on the hub's blacklist and `u` has
    whitelisted `c` in the hub. -/
theorem claim_on_behalf_list_succeeds_iff_guards (kind : Kind) (same : Bool) (dsc pb : Nat) (produce : Bool)
    (users : List Nat) (e0 : Nat) (hnd : users.Nodup) (hd : dsc ≠ 0) (ops : List Op)
    (c : Nat) (pays : List (Nat × Nat)) :
    let s := run (init kind same dsc pb produce users e0) ops
    (step s (.claimOB c pays)).isSome = true ↔
      (s.active = true ∧ (takePayments s c pays).isSome = true ∧
        ∃ u, claimOwner s pays = some u ∧ c ∉ s.hubBl ∧ (u, c) ∈ s.hubWl) := by
  intro s
  obtain ⟨W, hG⟩ := Plain.reachable_good kind same dsc pb produce users e0 hnd hd ops
  exact step_isSome_iff hG _ rfl

/-- **enter with additional position tokens, every legitimate caller.**  `enterFarm(opt_orig_caller)` with `amt`
    farming tokens and the additional farm-token payments `extra` sent by the account `c` succeeds IF AND ONLY IF
    the contract is active, `amt ≠ 0`, the transfer of `extra` is valid, and either no original caller is passed
    or `c` is on the SC whitelist. -/
theorem enter_list_succeeds_iff_guards (kind : Kind) (same : Bool) (dsc pb : Nat) (produce : Bool)
    (users : List Nat) (e0 : Nat) (hnd : users.Nodup) (hd : dsc ≠ 0) (ops : List Op)
    (c : Nat) (opt : Option Nat) (amt : Nat) (extra : List (Nat × Nat)) :
    let s := run (init kind same dsc pb produce users e0) ops
    (step s (.enter c opt amt extra)).isSome = true ↔
      (c ∈ s.users ∧ s.active = true ∧ amt ≠ 0 ∧ (takePayments s c extra).isSome = true ∧
        (opt = none ∨ c ∈ s.scWl)) := by
  intro s
  obtain ⟨W, hG⟩ := Plain.reachable_good kind same dsc pb produce users e0 hnd hd ops
  exact step_isSome_iff hG _ rfl

/-- **enter on behalf with additional position tokens.**  `enterFarmOnBehalf(user)` with `amt` farming tokens and
    the additional payments `extra` sent by the account `c` succeeds IF AND ONLY IF the contract is active,
    `amt ≠ 0`, the transfer of `extra` is valid, every additional token records `user` as its original owner,
    `c` is not on the hub's blacklist and `user` has whitelisted `c` in the hub. -/
theorem enter_on_behalf_list_succeeds_iff_guards (kind : Kind) (same : Bool) (dsc pb : Nat) (produce : Bool)
    (users : List Nat) (e0 : Nat) (hnd : users.Nodup) (hd : dsc ≠ 0) (ops : List Op)
    (c u amt : Nat) (extra : List (Nat × Nat)) :
    let s := run (init kind same dsc pb produce users e0) ops
    (step s (.enterOB c u amt extra)).isSome = true ↔
      (c ∈ s.users ∧ s.active = true ∧ amt ≠ 0 ∧ (takePayments s c extra).isSome = true ∧
        allOwnedBy s u extra = true ∧ c ∉ s.hubBl ∧ (u, c) ∈ s.hubWl) := by
  intro s
  obtain ⟨W, hG⟩ := Plain.reachable_good kind same dsc pb produce users e0 hnd hd ops
  exact step_isSome_iff hG _ rfl

/-- **claim: every legitimate caller.**  `claimRewards(opt_orig_caller)` with one payment `(n, a)` sent by
    `c` succeeds IF AND ONLY IF the contract is active, `a ≠ 0`, `c` holds `a` units of `n`, and either no
    original caller is passed or `c` is on the SC whitelist. -/
theorem claim_succeeds_iff_guards (kind : Kind) (same : Bool) (dsc pb : Nat) (produce : Bool)
    (users : List Nat) (e0 : Nat) (hnd : users.Nodup) (hd : dsc ≠ 0) (ops : List Op)
    (c : Nat) (opt : Option Nat) (n a : Nat) :
    let s := run (init kind same dsc pb produce users e0) ops
    (step s (.claim c opt [(n, a)])).isSome = true ↔
      (s.active = true ∧ a ≠ 0 ∧ a ≤ s.hold c n ∧ (opt = none ∨ c ∈ s.scWl)) := by
  intro s
  obtain ⟨W, hG⟩ := Plain.reachable_good kind same dsc pb produce users e0 hnd hd ops
  refine (claim_list_succeeds_iff_guards kind same dsc pb produce users e0 hnd hd ops c opt [(n, a)]).trans ?_
  rw [hG.pays_single]
  exact ⟨fun ⟨h1, _, h3, h4⟩ => ⟨h1, h3.1, h3.2, h4⟩,
    fun ⟨h1, h2, h3, h4⟩ => ⟨h1, List.cons_ne_nil _ _, ⟨h2, h3⟩, h4⟩⟩

/-- **claim on behalf: the hub-authorised agent.**  `claimRewardsOnBehalf` with one payment `(n, a)` sent by
    the agent `c` succeeds IF AND ONLY IF the contract is active, `a ≠ 0`, `c` holds `a` units of `n`, `c` is
    not on the hub's blacklist and the owner RECORDED in the position has whitelisted `c` in the hub. -/
theorem claim_on_behalf_succeeds_iff_guards (kind : Kind) (same : Bool) (dsc pb : Nat) (produce : Bool)
    (users : List Nat) (e0 : Nat) (hnd : users.Nodup) (hd : dsc ≠ 0) (ops : List Op) (c n a : Nat) :
    let s := run (init kind same dsc pb produce users e0) ops
    (step s (.claimOB c [(n, a)])).isSome = true ↔
      (s.active = true ∧ a ≠ 0 ∧ a ≤ s.hold c n ∧
        ∃ att, s.attrs n = some att ∧ c ∉ s.hubBl ∧ (att.owner, c) ∈ s.hubWl) := by
  intro s
  obtain ⟨W, hG⟩ := Plain.reachable_good kind same dsc pb produce users e0 hnd hd ops
  refine (claim_on_behalf_list_succeeds_iff_guards kind same dsc pb produce users e0 hnd hd ops c
    [(n, a)]).trans ?_
  rw [hG.pays_single]
  have hown : ∀ u, claimOwner s [(n, a)] = some u ↔ ∃ att, s.attrs n = some att ∧ att.owner = u := by
    intro u
    simp only [claimOwner, Option.bind_eq_bind, Option.bind_eq_some_iff, Option.pure_def,
      Option.some.injEq]
  constructor
  · rintro ⟨h1, ⟨h2, h3⟩, u, hu, hbl, hwl⟩
    obtain ⟨att, hat, rfl⟩ := (hown u).mp hu
    exact ⟨h1, h2, h3, att, hat, hbl, hwl⟩
  · rintro ⟨h1, h2, h3, att, hat, hbl, hwl⟩
    exact ⟨h1, ⟨h2, h3⟩, att.owner, (hown _).mpr ⟨att, hat, rfl⟩, hbl, hwl⟩

/-- non-vacuity (closed): in the reached state (week 2, week 1's pool 2500 pending) the whitelisted contract 7
    holds position 3 recorded for user 1, the agent 2 holds position 2 recorded for user 1; the guards hold;
    exit / claim by 7 for original caller 1 succeed and pay user 1's boosted share; the claim on behalf by 2
    succeeds; the same calls by the non-whitelisted / non-authorised account 5 … are not legitimate:
    a non-whitelisted holder passing an original caller fails, an unauthorised agent fails -/
example :
    let s := run (init .mint false 1000000000000 1000 true [1, 2, 7] 0) callersOps
    s.active = true ∧ s.week = some 2 ∧ s.scWl = [7] ∧ s.hubWl = [(1, 2)] ∧
    s.hold 7 3 = 3000 ∧ s.hold 2 2 = 1000 ∧ (s.attrs 3).map (·.owner) = some 1 ∧
    (s.attrs 2).map (·.owner) = some 1 ∧
    (step s (.exit 7 (some 1) 3 3000)).map (fun r => (r.2.farming, r.2.base, r.2.boosted)) = some (3000, 5625, 2500) ∧
    (step s (.claim 7 (some 1) [(3, 1000)])).map (fun r => (r.2.base, r.2.boosted)) = some (1875, 2500) ∧
    (step s (.claimOB 2 [(2, 1000)])).map (fun r => (r.2.base, r.2.boosted)) = some (3750, 2500) ∧
    (step s (.exit 2 (some 1) 2 1000)).isSome = false ∧
    (step s (.claimOB 7 [(3, 3000)])).isSome = false := by
  decide

/-- **enter: every legitimate caller.**  `enterFarm(opt_orig_caller)` with `amt` fresh farming tokens (no extra
    position tokens) sent by the account `c` succeeds IF AND ONLY IF the contract is active, `amt ≠ 0` and either
    no original caller is passed or `c` is on the SC whitelist (then the position is recorded for ANY `orig`).
    (`c ∈ s.users`: only accounts of the world act; the model keeps no user wallets, so "c owns `amt` farming
    tokens" is the ESDT transfer's own precondition, outside the contract.)  In particular the boosted claim of
    the user, the direct reserve subtraction of `claim_only_boosted_payment`, the settlement, the reward
    payment and `update_energy_and_progress` cannot fail. -/
theorem enter_succeeds_iff_guards (kind : Kind) (same : Bool) (dsc pb : Nat) (produce : Bool)
    (users : List Nat) (e0 : Nat) (hnd : users.Nodup) (hd : dsc ≠ 0) (ops : List Op)
    (c : Nat) (opt : Option Nat) (amt : Nat) :
    let s := run (init kind same dsc pb produce users e0) ops
    (step s (.enter c opt amt [])).isSome = true ↔
      (c ∈ s.users ∧ s.active = true ∧ amt ≠ 0 ∧ (opt = none ∨ c ∈ s.scWl)) := by
  intro s
  refine (enter_list_succeeds_iff_guards kind same dsc pb produce users e0 hnd hd ops c opt amt []).trans ?_
  exact ⟨fun ⟨h1, h2, h3, _, h5⟩ => ⟨h1, h2, h3, h5⟩, fun ⟨h1, h2, h3, h5⟩ => ⟨h1, h2, h3, rfl, h5⟩⟩

/-- **enter on behalf: the hub-authorised agent.**  `enterFarmOnBehalf(user)` with `amt` fresh farming tokens
    sent by the account `c` succeeds IF AND ONLY IF the contract is active, `amt ≠ 0`, `c` is not on the hub's
    blacklist and `user` has whitelisted `c` in the hub. -/
theorem enter_on_behalf_succeeds_iff_guards (kind : Kind) (same : Bool) (dsc pb : Nat) (produce : Bool)
    (users : List Nat) (e0 : Nat) (hnd : users.Nodup) (hd : dsc ≠ 0) (ops : List Op) (c u amt : Nat) :
    let s := run (init kind same dsc pb produce users e0) ops
    (step s (.enterOB c u amt [])).isSome = true ↔
      (c ∈ s.users ∧ s.active = true ∧ amt ≠ 0 ∧ c ∉ s.hubBl ∧ (u, c) ∈ s.hubWl) := by
  intro s
  refine (enter_on_behalf_list_succeeds_iff_guards kind same dsc pb produce users e0 hnd hd ops c u amt
    []).trans ?_
  exact ⟨fun ⟨h1, h2, h3, _, _, h6⟩ => ⟨h1, h2, h3, h6⟩, fun ⟨h1, h2, h3, h6⟩ => ⟨h1, h2, h3, rfl, rfl, h6⟩⟩

/-- non-vacuity for the two enter theorems, in the same state: the whitelisted contract enters for user 1 and
    the agent enters on behalf of user 1 — both are paid user 1's pending boosted share 2500 of week 1 on the
    way; a non-whitelisted account passing an original caller and a non-authorised agent fail -/
example :
    let s := run (init .mint false 1000000000000 1000 true [1, 2, 7] 0) callersOps
    (step s (.enter 7 (some 1) 500 [])).map (fun r => (r.2.nonce, r.2.amt, r.2.boosted)) = some (4, 500, 2500) ∧
    (step s (.enterOB 2 1 500 [])).map (fun r => (r.2.nonce, r.2.amt, r.2.boosted)) = some (4, 500, 2500) ∧
    (step s (.enter 2 (some 1) 500 [])).isSome = false ∧
    (step s (.enterOB 7 1 500 [])).isSome = false := by
  decide

/-- **claimBoostedRewards.**  `claimBoostedRewards(opt_user)` sent by `c` succeeds IF AND ONLY IF the contract is
    active, the user named is the caller himself (`allowExternalClaim` cannot be set in this code base, so a claim
    for another user is never legitimate) and the caller has a recorded farm position
    (`userTotalFarmPosition ≠ 0`).  The live-cache subtraction `reward_reserve −= boosted` (finding F1's site)
    cannot fail. -/
theorem claim_boosted_succeeds_iff_guards (kind : Kind) (same : Bool) (dsc pb : Nat) (produce : Bool)
    (users : List Nat) (e0 : Nat) (hnd : users.Nodup) (hd : dsc ≠ 0) (ops : List Op)
    (c : Nat) (optUser : Option Nat) :
    let s := run (init kind same dsc pb produce users e0) ops
    (step s (.claimBoosted c optUser)).isSome = true ↔
      (c ∈ s.users ∧ s.active = true ∧ optUser.getD c = c ∧ s.userTotal c ≠ 0) := by
  intro s
  obtain ⟨W, hG⟩ := Plain.reachable_good kind same dsc pb produce users e0 hnd hd ops
  exact step_isSome_iff hG _ rfl

/-- non-vacuity: user 1 (recorded owner of 4000 units held by 7 and 2) claims the pending boosted 2500 himself;
    the contract 7, which holds tokens but has no recorded position, cannot -/
example :
    let s := run (init .mint false 1000000000000 1000 true [1, 2, 7] 0) callersOps
    s.userTotal 1 = 4000 ∧ s.userTotal 7 = 0 ∧
    (step s (.claimBoosted 1 none)).map (fun r => r.2.boosted) = some 2500 ∧
    (step s (.claimBoosted 7 none)).isSome = false ∧ (step s (.claimBoosted 2 (some 1))).isSome = false := by
  decide

/-- non-vacuity of the general forms, same state: the whitelisted contract 7 claims for user 1 with two payments
    of its position 3 (base reward of the first payment, the second merged in: new token of 3000); the same
    with 2000 + 2000 > 3000 held is not a valid transfer and fails; the agent 2 claims on behalf with two
    payments recording owner 1; 7 enters for user 1 merging its position 3, agent 2 enters on behalf merging
    position 2 (owned by user 1) -/
example :
    let s := run (init .mint false 1000000000000 1000 true [1, 2, 7] 0) callersOps
    (takePayments s 7 [(3, 1000), (3, 2000)]).isSome = true ∧
    (step s (.claim 7 (some 1) [(3, 1000), (3, 2000)])).map (fun r => (r.2.nonce, r.2.amt, r.2.base, r.2.boosted))
      = some (4, 3000, 1875, 2500) ∧
    (takePayments s 7 [(3, 2000), (3, 2000)]).isSome = false ∧
    (step s (.claim 7 (some 1) [(3, 2000), (3, 2000)])).isSome = false ∧
    claimOwner s [(2, 400), (2, 600)] = some 1 ∧
    (step s (.claimOB 2 [(2, 400), (2, 600)])).map (fun r => (r.2.nonce, r.2.amt, r.2.base, r.2.boosted))
      = some (4, 1000, 1500, 2500) ∧
    (step s (.enter 7 (some 1) 500 [(3, 3000)])).map (fun r => (r.2.nonce, r.2.amt, r.2.boosted)) = some (4, 3500, 2500) ∧
    allOwnedBy s 1 [(2, 1000)] = true ∧
    (step s (.enterOB 2 1 500 [(2, 1000)])).map (fun r => (r.2.nonce, r.2.amt, r.2.boosted)) = some (4, 1500, 2500) := by
  decide

end Mx.C05Callers
