/-
  C06 (farm-staking side) — the emission bound on base rewards, at full strength.

  Statement (properties.jsonl C06, last sentence / DESIGN.md `total_base_bound`): base rewards are
  pro rata and never retroactive, hence over any history the base rewards paid out (or compounded)
  never exceed the base share of what was emitted — and what the outstanding positions can still
  claim fits into the remainder.

  Model: Core/Staking.lean.  Ledgers: `paidBase` = Σ base rewards paid or compounded;
  `baseBudget` = Σ over all settlements of `emission − boosted cut`; index `rps`, entry index of a
  position `attrs.rps`, division-safety constant `dsc`.

  The theorem behind everything is the potential-function invariant
      Σ_n outstanding(n)·(rps − entryRps(n)) + dsc·paidBase ≤ dsc·baseBudget
  (`potential_bound`; n ranges over the position nonces, outstanding(n) = units of nonce n held by
  the distinct accounts of the world — by C07 `supply_eq_sum` these are all position units).
  It is proved for EVERY reachable state: any deployment parameters (also `dsc = 0`), any account
  list, any history.  `total_base_bound` is exactly `Mx.C06Staking.total_base_bound_full`.

  Only property theorems live here (helpers: Lemmas/StakingPos.lean, StakingTrans.lean,
  StakingPot.lean).
-/
import MxModel.Lemmas.StakingPot
import MxModel.Props.C06Staking

namespace Mx.C06StakingBound
open Mx.Staking

/-- one successful transaction keeps the potential-function bound (in a state that satisfies the
    position-token invariant of C07) -/
theorem potential_step {s s' : St} {op : Op} {o : Out} (hI : PosInv s) (hP : PotInv s)
    (h : step s op = some (s', o)) : PotInv s' :=
  step_potInv hI hP h

/-- the potential-function bound holds in every reachable state -/
theorem pot_inv_reachable (epoch block dsc maxApr minUnbond perBlock : Nat) (accts wl : List Nat)
    (ops : List Op) : PotInv (run (init epoch block dsc maxApr minUnbond perBlock accts wl) ops) :=
  run_potInv ops (posInv_init epoch block dsc maxApr minUnbond perBlock accts wl)
    (potInv_init epoch block dsc maxApr minUnbond perBlock accts wl)

/-- **potential-function bound.**  In every reachable state
    `Σ_n outstanding(n)·(rps − entryRps(n)) + dsc·paidBase ≤ dsc·baseBudget`: what was paid as
    base rewards plus the un-rounded entitlement of everything still outstanding never exceeds
    the base share of the emission (times the division-safety constant). -/
theorem potential_bound (epoch block dsc maxApr minUnbond perBlock : Nat) (accts wl : List Nat)
    (ops : List Op) :
    let s := run (init epoch block dsc maxApr minUnbond perBlock accts wl) ops
    ((List.range (s.nonce + 1)).map fun n =>
        match s.md n with
        | some (.pos a) => (s.accts.dedup.map fun u => s.hold u n).sum * (s.rps - a.rps)
        | _ => 0).sum
      + s.dsc * s.paidBase ≤ s.dsc * s.baseBudget :=
  (pot_inv_reachable epoch block dsc maxApr minUnbond perBlock accts wl ops).explicit

/-- **total base bound** (the full statement `total_base_bound_full` of Props/C06Staking.lean):
    with a non-zero division-safety constant, after any history the base rewards paid out or
    compounded never exceed the base share of the emission -/
theorem total_base_bound : Mx.C06Staking.total_base_bound_full := by
  intro epoch block dsc maxApr minUnbond perBlock accts wl ops hd
  have h := pot_inv_reachable epoch block dsc maxApr minUnbond perBlock accts wl ops
  exact h.paid_le (by rw [run_dsc]; exact hd)

/-- **claimable base rewards are covered by the unspent base budget**: the base rewards all
    outstanding positions could claim right now — `⌊outstanding(n)·(rps − entryRps(n))/dsc⌋` per
    position nonce, the largest the floors can add up to — plus what was already paid fit into the
    base share of the emission -/
theorem claimable_base_bound (epoch block dsc maxApr minUnbond perBlock : Nat) (accts wl : List Nat)
    (ops : List Op) (hd : 0 < dsc) :
    let s := run (init epoch block dsc maxApr minUnbond perBlock accts wl) ops
    ((List.range (s.nonce + 1)).map fun n =>
        match s.md n with
        | some (.pos a) => (s.accts.dedup.map fun u => s.hold u n).sum * (s.rps - a.rps) / s.dsc
        | _ => 0).sum
      ≤ s.baseBudget - s.paidBase ∧ s.paidBase ≤ s.baseBudget := by
  intro s
  have h := pot_inv_reachable epoch block dsc maxApr minUnbond perBlock accts wl ops
  have hd' : 0 < s.dsc := by rw [run_dsc]; exact hd
  exact ⟨Nat.le_sub_of_add_le (h.claimable_le hd'), h.paid_le hd'⟩

/-- the same with every account claiming each of its holdings separately (the sum the harness
    oracle `reserve_covers` / `total_base_bound` computes): separate claims only lose to the floor -/
theorem claimable_holdings_bound (epoch block dsc maxApr minUnbond perBlock : Nat) (accts wl : List Nat)
    (ops : List Op) (hd : 0 < dsc) :
    let s := run (init epoch block dsc maxApr minUnbond perBlock accts wl) ops
    ((List.range (s.nonce + 1)).map fun n =>
        match s.md n with
        | some (.pos a) => (s.accts.dedup.map fun u => s.hold u n * (s.rps - a.rps) / s.dsc).sum
        | _ => 0).sum
      ≤ s.baseBudget - s.paidBase :=
  (pot_inv_reachable epoch block dsc maxApr minUnbond perBlock accts wl ops).holdings_explicit
    (by show 0 < (run _ ops).dsc; rw [run_dsc]; exact hd)

/-- non-vacuity: two users, a rate change; user 1 has claimed 80000, user 2's position can still
    claim 30000, the base budget is 110000 — the bound is tight here -/
example :
    let s := run (init 5 10 1000000000000 1000000 2 5000 [1, 2, 101] [101])
      [.topUp 1000000, .stake 1 none 1000000000000 [], .advance 10 0, .stake 2 none 1000000000000 [],
       .advance 10 0, .setPerBlock 1000, .advance 10 0, .claim 1 none (1, 1000000000000)]
    s.rps = 80000 ∧ s.paidBase = 80000 ∧ s.baseBudget = 110000 ∧
    s.hold 2 2 * (s.rps - 50000) / s.dsc = 30000 ∧ s.hold 1 3 = 1000000000000 ∧
    (s.md 2).map (fun m => match m with | .pos a => a.rps | _ => 0) = some 50000 ∧
    (s.md 3).map (fun m => match m with | .pos a => a.rps | _ => 0) = some 80000 := by
  decide

end Mx.C06StakingBound
