/-
  KDualYield — the metastaking model (`Core/DualYield.lean`: `part`) computes what the SOURCE of
  `farm-staking/farm-staking-proxy/src/{dual_yield_token.rs, external_contracts_interactions.rs}` and
  `common/traits/fixed-supply-token` computes.

  `Gen/KDualYield.lean` is regenerated on every run by `bin/gen-kernels` (group `DualYield`):

    * `get_total_supply`, `rule_of_three`, `rule_of_three_non_zero_result`, `into_part`
      of `DualYieldTokenAttributes` (fields `lp_farm_token_amount`, `staking_farm_token_amount`)
    * `safe_price_side`   the tail of `get_lp_tokens_safe_price`: which of the two safe-price amounts
      is the staking token's

  Property C15 (dual-yield tokens are fully backed and unwind to their parts) rests on `into_part`:
  a payment of `x` units releases `x` staking-farm tokens and `⌊lp · x / total⌋` (never 0) LP-farm tokens.
-/
import MxModel.Gen.KDualYield
import MxModel.Core.DualYield
import MxModel.Lemmas.KTactic

namespace Mx.KDualYield
open Mx Mx.Gen Mx.DualYield

theorem get_total_supply_eq (stA : Nat) : KDualYield.get_total_supply stA = some stA := by
  k_defs [KDualYield.get_total_supply]

theorem rule_of_three_eq (x full total : Nat) :
    KDualYield.rule_of_three x full total =
      if x = total then some full else if total = 0 then none else some (full * x / total) := by
  k_defs [KDualYield.rule_of_three, get_total_supply_eq]
  try grind

theorem rule_of_three_non_zero_result_eq (x full total : Nat) :
    KDualYield.rule_of_three_non_zero_result x full total =
      if x = total then (if full = 0 then none else some full)
      else if total = 0 ∨ full * x / total = 0 then none else some (full * x / total) := by
  k_defs [KDualYield.rule_of_three_non_zero_result, rule_of_three_eq]
  grind

theorem into_part_eq (t : Tok) (x : Nat) :
    KDualYield.into_part x t.lpA t.stA = (part t x).map fun p => (p, x) := by
  k_defs [KDualYield.into_part, get_total_supply_eq, rule_of_three_non_zero_result_eq, part]
  grind

theorem into_part_le (t : Tok) (x p q : Nat) (hx : x ≤ t.stA)
    (h : KDualYield.into_part x t.lpA t.stA = some (p, q)) : p ≤ t.lpA ∧ q = x := by
  rw [into_part_eq] at h
  simp only [part] at h
  split at h
  · simp only [Option.map_some, Option.some.injEq, Prod.mk.injEq] at h
    omega
  · simp only [Option.bind_eq_bind, Option.map_eq_some_iff, Option.bind_eq_some_iff, req_eq_some,
      Option.pure_def, Option.some.injEq, Prod.mk.injEq] at h
    obtain ⟨_, ⟨_, h0, _, _, rfl⟩, rfl, rfl⟩ := h
    refine ⟨?_, rfl⟩
    apply Nat.div_le_of_le_mul
    rw [Nat.mul_comm t.stA t.lpA]
    exact Nat.mul_le_mul_left _ hx

theorem safe_price_side_eq (a1 t1 a2 t2 st : Nat) :
    KDualYield.safe_price_side a1 t1 a2 t2 st =
      if t1 = st then some a1 else if t2 = st then some a2 else none := by
  k_defs [KDualYield.safe_price_side]
  try grind

example : KDualYield.into_part 30 10 100 = some (3, 30) := by decide
example : KDualYield.into_part 100 10 100 = some (10, 100) := by decide
example : KDualYield.into_part 5 10 100 = none := by decide
example : KDualYield.into_part 5 10 0 = none := by decide

end Mx.KDualYield
