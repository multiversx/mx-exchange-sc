/-
  KLoops — bounded `for` loops of the contracts, as the SOURCE states them, against closed forms
  and the hand-written models (the translator reads `for x in lo..hi`, `for x in lo..=hi`,
  `for x in &vec`, with `break`, `continue` and `return;`).

  `Gen/KLoops.lean` is regenerated on every run by `bin/gen-kernels`.  A loop becomes an auxiliary,
  structurally recursive definition `<name>_loop` over the LIST of loop values (`List.range' lo
  (hi − lo)` for a range; the vector, as a list of the fields the body reads, for `&vec`); the places
  the body assigns and that live outside the loop are its accumulator.  A storage mapper keyed by the
  loop variable (`remaining_boosted_rewards_to_distribute(week)`) is a function `Nat → Nat`.

  * `merge_weighted_average`  common/modules/token_merge_helper `weighted_average` (loop + `match`)
  * `burn_farm_tokens_from_payments`  common/modules/farm/farm_token (sum, then supply −= sum)
  * `boosted_rewards_total`  farm-boosted-yields `claim_boosted_yields_rewards` (sum of the weekly payments)
  * `collect_weeks`  farm-boosted-yields `collect_undistributed_boosted_rewards` — the model's `Farm.collectWeeks`
  * `is_listed_lock_option`  energy-factory `require_is_listed_lock_option` — the model's `Energy.isListed`

  Every `*_loop_eq` proof is an induction over the list; its step unfolds ONE iteration with
  `k_defs [loop, ih, …]` (unfold, monad plumbing, induction hypothesis) and leaves what remains of
  the accumulator update to `grind`, so binder renames, commuted operands and
  swapped independent statements in the loop body keep it checking.  The function around the loop
  then follows from `k_defs [function, loop_eq, …]`.
-/
import MxModel.Gen.KLoops
import MxModel.Core.Farm
import MxModel.Core.Energy
import MxModel.Lemmas.KTactic

namespace Mx.KLoops
open Mx Mx.Gen

/-- `Σ value·weight` of a data set of (value, weight) pairs -/
def wsum : List (Nat × Nat) → Nat
  | [] => 0
  | (v, w) :: ds => v * w + wsum ds

/-- `Σ weight` -/
def wtot : List (Nat × Nat) → Nat
  | [] => 0
  | (_, w) :: ds => w + wtot ds

/-- the accumulators come in the translator's canonical order: locals of the function in the order of
    their declaration (`weight_sum`, then `elem_weight_sum`) -/
theorem merge_weighted_average_loop_eq (ds : List (Nat × Nat)) (e w : Nat) :
    KLoops.merge_weighted_average_loop ds (w, e) = some (w + wtot ds, e + wsum ds) := by
  induction ds generalizing e w with
  | nil => k_defs [KLoops.merge_weighted_average_loop, wsum, wtot, Nat.add_zero]
  | cons d ds ih =>
    obtain ⟨v, wt⟩ := d
    k_defs [KLoops.merge_weighted_average_loop, ih, wsum, wtot]
    try grind

/-- the rounding type is its variant index: `Floor` = 0, `Ceil` = 1.  For `Ceil` on an empty data set
    it is already the checked `− 1` that aborts. -/
theorem merge_weighted_average_eq (ds : List (Nat × Nat)) :
    KLoops.merge_weighted_average 0 ds = (if wtot ds = 0 then none else some (wsum ds / wtot ds)) ∧
    KLoops.merge_weighted_average 1 ds =
      (if wtot ds = 0 then none else some ((wsum ds + wtot ds - 1) / wtot ds)) := by
  constructor
  · k_defs [KLoops.merge_weighted_average, merge_weighted_average_loop_eq, Nat.zero_add]
    try grind
  · k_defs [KLoops.merge_weighted_average, merge_weighted_average_loop_eq, Nat.zero_add]
    try grind

/-- for two entries: the two-point `weightedAvg` of `Core/Arith`, which `KMath.weighted_average_eq`
    ties to common/modules/math -/
theorem merge_weighted_average_two (v1 w1 v2 w2 : Nat) (h : w1 + w2 ≠ 0) :
    KLoops.merge_weighted_average 0 [(v1, w1), (v2, w2)] = some (weightedAvg v1 w1 v2 w2) := by
  rw [(merge_weighted_average_eq _).1]
  have : wtot [(v1, w1), (v2, w2)] = w1 + w2 := by simp [wtot]
  have h2 : wsum [(v1, w1), (v2, w2)] = v1 * w1 + v2 * w2 := by simp [wsum]
  rw [this, h2, if_neg h]; rfl

theorem burn_loop_eq (as : List Nat) (t : Nat) :
    KLoops.burn_farm_tokens_from_payments_loop as t = some (t + as.sum) := by
  induction as generalizing t with
  | nil => k_defs [KLoops.burn_farm_tokens_from_payments_loop, List.sum_nil, Nat.add_zero]
  | cons a as ih =>
    k_defs [KLoops.burn_farm_tokens_from_payments_loop, ih, List.sum_cons]
    try grind

theorem burn_farm_tokens_from_payments_eq (as : List Nat) (supply : Nat) :
    KLoops.burn_farm_tokens_from_payments as supply = sub? supply as.sum := by
  k_defs [KLoops.burn_farm_tokens_from_payments, burn_loop_eq, Nat.zero_add]
  try grind

theorem boosted_total_loop_eq (as : List Nat) (t : Nat) :
    KLoops.boosted_rewards_total_loop as t = some (t + as.sum) := by
  induction as generalizing t with
  | nil => k_defs [KLoops.boosted_rewards_total_loop, List.sum_nil, Nat.add_zero]
  | cons a as ih =>
    k_defs [KLoops.boosted_rewards_total_loop, ih, List.sum_cons]
    try grind

theorem boosted_rewards_total_eq (as : List Nat) :
    KLoops.boosted_rewards_total as = some as.sum := by
  k_defs [KLoops.boosted_rewards_total, boosted_total_loop_eq, Nat.zero_add]

theorem collect_weeks_loop_eq (n : Nat) (b : Farm.BSt) (u first : Nat) :
    KLoops.collect_weeks_loop (List.range' first n) (b.remaining, u) =
      some ((Farm.collectWeeks b u first n).1.remaining, (Farm.collectWeeks b u first n).2) := by
  induction n generalizing b u first with
  | zero => k_defs [List.range'_zero, KLoops.collect_weeks_loop, Farm.collectWeeks]
  | succ n ih =>
    have hstep := ih { b with remaining := Weekly.upd b.remaining first 0
                              collW := Weekly.upd b.collW first (b.collW first + b.remaining first) }
                     (u + b.remaining first) (first + 1)
    have hupd : (fun k' => if k' = first then 0 else b.remaining k') = Weekly.upd b.remaining first 0 := rfl
    rw [List.range'_succ]
    k_defs [KLoops.collect_weeks_loop, Farm.collectWeeks, hupd]
    -- the source may write the counter update as `u + r` or `r + u`
    first | exact hstep | (rw [Nat.add_comm]; exact hstep) | (simp only [Nat.add_comm] at hstep ⊢; exact hstep)

/-- `for week in first..=last`: an inverted window runs zero times -/
theorem collect_weeks_eq (b : Farm.BSt) (u first last : Nat) :
    KLoops.collect_weeks first last b.remaining u =
      some ((Farm.collectWeeks b u first (last + 1 - first)).1.remaining,
            (Farm.collectWeeks b u first (last + 1 - first)).2) := by
  k_defs [KLoops.collect_weeks, collect_weeks_loop_eq]

theorem collectUndistributed_runs_source {s s' : Farm.St} {c : Nat}
    (h : Farm.collectUndistributed s c = some s') :
    s' = s ∨ ∃ first last,
      KLoops.collect_weeks first last s.b.remaining s.undist = some (s'.b.remaining, s'.undist) := by
  simp only [Farm.collectUndistributed, Option.bind_eq_bind, Option.bind_eq_some_iff, req_eq_some] at h
  obtain ⟨_, _, W, _, _, _, h⟩ := h
  split at h
  · left; simpa using h.symm
  · right
    refine ⟨s.lastCollect + 1, W - (Weekly.USER_MAX_CLAIM_WEEKS + 1), ?_⟩
    rw [collect_weeks_eq]
    simp only [Option.pure_def, Option.some.injEq] at h
    subst h; rfl

theorem is_listed_loop_eq (es : List Nat) (ep : Nat) :
    KLoops.is_listed_lock_option_loop ep es () = some (decide (ep ∈ es), ()) := by
  induction es with
  | nil => k_defs [KLoops.is_listed_lock_option_loop]; simp
  | cons e es ih =>
    k_defs [KLoops.is_listed_lock_option_loop, ih]
    by_cases h : e = ep
    · simp [h]
    · have h' : ep ≠ e := fun x => h x.symm
      simp [h, h']

/-- in the source a loop with an early `return`, then `sc_panic!` -/
theorem is_listed_lock_option_eq (opts : List Energy.Opt) (ep : Nat) :
    KLoops.is_listed_lock_option ep (opts.map (·.1)) =
      if Energy.isListed opts ep = true then some () else none := by
  have hm : (ep ∈ opts.map (·.1)) ↔ Energy.isListed opts ep = true := by
    simp only [Energy.isListed, List.any_eq_true, List.mem_map, decide_eq_true_eq]
  k_defs [KLoops.is_listed_lock_option, is_listed_loop_eq]
  by_cases h : ep ∈ opts.map (·.1)
  · have := hm.1 h; simp [h, this]
  · have : ¬ Energy.isListed opts ep = true := fun x => h (hm.2 x); simp [h, this]

/-! non-vacuity -/
example : KLoops.merge_weighted_average 0 [(10, 1), (20, 3)] = some 17 := by decide
example : KLoops.merge_weighted_average 1 [(10, 1), (20, 3)] = some 18 := by decide
example : KLoops.merge_weighted_average 0 [] = none := by decide
example : KLoops.burn_farm_tokens_from_payments [3, 4, 5] 20 = some 8 := by decide
example : KLoops.burn_farm_tokens_from_payments [3, 4, 5] 11 = none := by decide
example : KLoops.boosted_rewards_total [7, 0, 5] = some 12 := by decide
example : (KLoops.collect_weeks 3 5 (fun w => 10 * w) 1).map (fun r => (r.1 3, r.1 5, r.1 6, r.2)) =
    some (0, 0, 60, 121) := by decide
example : (KLoops.collect_weeks 5 3 (fun w => 10 * w) 1).map (fun r => (r.1 3, r.2)) = some (30, 1) := by decide
example : KLoops.is_listed_lock_option 720 [360, 720, 1440] = some () := by decide
example : KLoops.is_listed_lock_option 700 [360, 720, 1440] = none := by decide

end Mx.KLoops
