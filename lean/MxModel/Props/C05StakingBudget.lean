/-
  C05 (farm-staking side), last clause — the POSITION half of the week budget for the staking farm.

  farm-staking uses the same shared Rust module `farm-boosted-yields` as dex/farm and
  farm-with-locked-rewards, hence finding F6 applies to it too, and the model carries the same repair
  (`claim_boosted_yields_rewards` runs `update_energy_and_progress` also when no boosted-yields factors
  are configured; Core/Staking.lean `claimBoostedYields`, `none` branch).  With the repair, in every
  reachable state of the staking model (any deployment parameters, any account list, any history),
  for every completed week `w`: `farmSupplyForWeek(w) = 0` or the CURRENT total farm positions of all
  users who can still claim `w` sum to at most `farmSupplyForWeek(w)`.  Hence `f ≤ F` for every single
  claimer, so (with `e ≤ E`) the reward computed for a claimer is at most the week's whole pool.

  NOT proved for the staking world: the energy half (`Weekly.EB` transported through the staking
  operations — the farm analogue is Lemmas/FarmEnergy.lean) and the budget with payments
  (Lemmas/FarmWeekPaid.lean is farm-only); see notes/f6fix.md.

  Model: Core/Staking.lean.  Lemmas: Lemmas/StakingWeekPos.lean (view and generic lemmas shared with
  Lemmas/FarmWeekPos.lean), Lemmas/StakingTrans.lean (`PosInv`, C07).
-/
import MxModel.Lemmas.StakingWeekPos

namespace Mx.C05StakingBudget
open Mx.Staking
open Mx.Farm (fFor)

/-- **the position half of the week budget holds in every reachable state of the staking farm.**  For
    every completed week `w` (before the current week): either no farm supply is recorded for `w` (then
    nothing is paid for it), or the CURRENT total farm positions of all users whose claim progress can
    still reach `w` (`fFor`: the total if `progress(v).week ≤ w`, else 0) sum to at most
    `farmSupplyForWeek(w)`.  (False without the repair of F6.) -/
theorem week_budget_position_half (epoch block dsc maxApr minUnbond perBlock : Nat) (accts wl : List Nat)
    (ops : List Op) :
    let s := run (init epoch block dsc maxApr minUnbond perBlock accts wl) ops
    ∀ w, w < s.week →
      s.b.farmSupply w = 0 ∨
      (s.w.users.map fun v => fFor s.w.progress s.userTotal v w).sum ≤ s.b.farmSupply w := by
  intro s w hw
  have h := reachable_weekPos epoch block dsc maxApr minUnbond perBlock accts wl ops
  exact h.past s.week (wv_week h.time) w hw

/-- the running week: the recorded farm supply is 0 (no supply-changing operation yet) or exactly the
    farm-token supply; no later week has anything recorded; the key list of the weekly module has no
    duplicates; time never runs backwards past the first week -/
theorem current_week_supply_recorded (epoch block dsc maxApr minUnbond perBlock : Nat)
    (accts wl : List Nat) (ops : List Op) :
    let s := run (init epoch block dsc maxApr minUnbond perBlock accts wl) ops
    s.w.users.Nodup ∧ s.firstWeek ≤ s.epoch ∧
    (s.b.farmSupply s.week = 0 ∨ s.b.farmSupply s.week = s.supply) ∧
    ∀ w, s.week < w → s.b.farmSupply w = 0 := by
  intro s
  have h := reachable_weekPos epoch block dsc maxApr minUnbond perBlock accts wl ops
  have hW := wv_week h.time
  exact ⟨h.nodup, h.time, h.cur s.week hW, h.fut s.week hW⟩

/-- **`f ≤ F` for every claimer**: a user `v` of the weekly module's key list whose claim progress is at
    a week `≤ w` for a completed week `w` with a recorded supply has a current total farm position of at
    most that supply -/
theorem claimer_position_le_week_supply (epoch block dsc maxApr minUnbond perBlock : Nat)
    (accts wl : List Nat) (ops : List Op) (v : Nat) (p : Weekly.ClaimProgress) :
    let s := run (init epoch block dsc maxApr minUnbond perBlock accts wl) ops
    ∀ w, w < s.week → v ∈ s.w.users → s.w.progress v = some p → p.week ≤ w →
      s.b.farmSupply w ≠ 0 → s.userTotal v ≤ s.b.farmSupply w := by
  intro s w hw hmem hp hpw hF
  have h := reachable_weekPos epoch block dsc maxApr minUnbond perBlock accts wl ops
  exact h.claimer_le (wv_week h.time) hw hmem hp hpw hF

/-- the staking reward formula is bounded by the week's pool when `f ≤ F` and `e ≤ E` -/
theorem boostedAmount_le_pool (x : Factors) (R f F e E : Nat) (hf : f ≤ F) (he : e ≤ E) :
    boostedAmount x R f F e E ≤ R := by
  unfold boostedAmount
  refine Nat.le_trans (Nat.min_le_right _ _) ?_
  have h1 : R * x.cE * e / E ≤ R * x.cE :=
    Nat.div_le_of_le_mul (Nat.mul_comm E _ ▸ Nat.mul_le_mul_left _ he)
  have h2 : R * x.cF * f / F ≤ R * x.cF :=
    Nat.div_le_of_le_mul (Nat.mul_comm F _ ▸ Nat.mul_le_mul_left _ hf)
  apply Nat.div_le_of_le_mul
  have : R * x.cE + R * x.cF = (x.cE + x.cF) * R := by ring
  omega

/-- **no single reward exceeds the week's pool** (given the claimer's energy is within the week's total):
    for every reachable state, every claimer `v` of a completed week `w` with a recorded supply, any
    factors and pool `R`, and any energy `e ≤ E`: the staking farm's reward formula gives at most `R` -/
theorem single_reward_le_pool (epoch block dsc maxApr minUnbond perBlock : Nat)
    (accts wl : List Nat) (ops : List Op) (v : Nat) (p : Weekly.ClaimProgress) (x : Factors)
    (R e E : Nat) :
    let s := run (init epoch block dsc maxApr minUnbond perBlock accts wl) ops
    ∀ w, w < s.week → v ∈ s.w.users → s.w.progress v = some p → p.week ≤ w →
      s.b.farmSupply w ≠ 0 → e ≤ E →
      boostedAmount x R (s.userTotal v) (s.b.farmSupply w) e E ≤ R := by
  intro s w hw hmem hp hpw hF he
  exact boostedAmount_le_pool x R _ _ e E
    (claimer_position_le_week_supply epoch block dsc maxApr minUnbond perBlock accts wl ops v p w hw
      hmem hp hpw hF) he

/-- non-vacuity: the staking analogue of the F6 history — boosted percentage 25 % but no factors; user 1
    stakes 10⁶ through week 1 (`farmSupplyForWeek 1 = 10⁶`); in week 2 user 2 stakes 10⁹ and sends the
    position to user 1, who claims with it (total position 1 001 000 000); then the FIRST factors are set.
    User 1's progress is at week 2 (moved by the claim without a config — the repair), so user 1 is not a
    claimer of week 1: the claimers' sum is 0 ≤ 10⁶; the boosted claim pays 0 and unstake / claim of the
    received position succeed.  (Without the repair: progress at week 1, sum 1 001 000 000 > 10⁶.) -/
example :
    let s := run (init 0 0 1000000000000 5000000 10 1000 [1, 2] [])
      [.topUp 100000000, .setBoostedPct 2500, .setEnergy 1 1000000 1000, .stake 1 none 1000000 [],
       .advance 10 6, .claim 1 none (1, 1000000), .advance 10 1, .stake 2 none 1000000000 [],
       .transfer 2 1 (3, 1000000000), .claim 1 none (3, 1000000000), .setFactors ⟨10, 3, 2, 1, 1⟩]
    s.week = 2 ∧ s.b.farmSupply 1 = 1000000 ∧ s.userTotal 1 = 1001000000 ∧ s.w.users = [1] ∧
    (s.w.progress 1).map (·.week) = some 2 ∧ s.b.accumulated 1 = 237 ∧
    (s.w.users.map fun v => fFor s.w.progress s.userTotal v 1).sum = 0 ∧
    s.b.farmSupply 2 = s.supply ∧
    (claimBoostedYields s 1 (s.userTotal 1)).map (·.2.2) = some 0 ∧
    (step s (.unstake 1 none (4, 1000000000))).isSome = true ∧
    (step s (.claim 1 none (4, 1000000000))).isSome = true := by
  decide

end Mx.C05StakingBudget
