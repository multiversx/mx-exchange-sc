/-
  C12 — Staking pays only from capacity, within the APR cap, and honours unbonding.

  Statement: staking rewards come only from capacity the admin topped up: accrued rewards never
  exceed capacity, accrual per block never exceeds supply·maxAPR/(10000·blocks_per_year), and the
  contract's staking-token balance always equals directly staked principal plus outstanding
  unbond amounts plus un-accrued capacity plus accrued-but-unpaid rewards.  Unstaked principal
  can be withdrawn in full exactly once the unbond period has elapsed and never before, and the
  admin can withdraw only capacity that has not yet been accrued to stakers.

  Model: Core/Staking.lean (`bal` = real staking-token balance of the contract, `virt` = stake
  entered through the proxy endpoints without tokens moving, `unbondOut` = outstanding unbond
  amounts).  Only property theorems live in this file; helper lemmas are in Lemmas/Staking*.lean.
-/
import MxModel.Lemmas.StakingGate
import MxModel.Lemmas.StakingInv

namespace Mx.C12
open Mx.Staking

/-- the state reached from a fresh deployment (any configuration) by any history -/
abbrev reach (epoch block dsc maxApr minUnbond perBlock : Nat) (accts wl : List Nat)
    (ops : List Op) : St :=
  run (init epoch block dsc maxApr minUnbond perBlock accts wl) ops

/-- one transaction preserves the accounting invariant (any operation, any arguments) -/
theorem inv_step {s s' : St} {op : Op} {o : Out} (hi : Inv s) (h : step s op = some (s', o)) :
    Inv s' :=
  step_inv hi h

/-- every state reachable by any history satisfies the accounting invariant -/
theorem inv_run (epoch block dsc maxApr minUnbond perBlock : Nat) (accts wl : List Nat)
    (ops : List Op) : Inv (reach epoch block dsc maxApr minUnbond perBlock accts wl ops) :=
  run_inv ops (inv_init epoch block dsc maxApr minUnbond perBlock accts wl)

/-- accrued rewards never exceed the capacity the admin topped up, after any history -/
theorem accrued_le_capacity (epoch block dsc maxApr minUnbond perBlock : Nat) (accts wl : List Nat)
    (ops : List Op) :
    (reach epoch block dsc maxApr minUnbond perBlock accts wl ops).accumulated ≤
      (reach epoch block dsc maxApr minUnbond perBlock accts wl ops).capacity :=
  (inv_run epoch block dsc maxApr minUnbond perBlock accts wl ops).acc_le

/-- what ONE transaction can accrue: never negative, and at most
    `min(perBlock·Δ (0 while production is off), ⌊⌊supply·maxApr/10000⌋/blocksPerYear⌋·Δ,
    capacity − accumulated)` with `Δ = block − lastRewardBlock`, all read from the state BEFORE
    the transaction (so a rate / APR / percentage change never applies retroactively) -/
theorem accrual_bound {s s' : St} {op : Op} {o : Out} (h : step s op = some (s', o)) :
    s.accumulated ≤ s'.accumulated ∧
    s'.accumulated - s.accumulated ≤
      min (min (if s.produce then s.perBlock * (s.block - s.lastBlock) else 0)
               (s.supply * s.maxApr / MAX_PERCENT / BLOCKS_IN_YEAR * (s.block - s.lastBlock)))
          (s.capacity - s.accumulated) := by
  obtain ⟨tot, cut, inc, pb, pbo, up, down, hgen, _, e1, _⟩ := step_eff h
  rw [e1, Nat.add_sub_cancel_left]
  refine ⟨Nat.le_add_right _ _, ?_⟩
  rcases hgen with ⟨rfl, _⟩ | ⟨_, rfl, _⟩
  · exact Nat.zero_le _
  · refine Nat.le_min.2 ⟨Nat.le_trans (genTot_le_mint s) ?_, genTot_le_room s⟩
    unfold mintAmount mintOf
    split
    · exact Nat.zero_le _
    · exact Nat.le_refl _

/-- the APR clause per block: over `Δ` blocks a transaction accrues at most `Δ` times the
    per-block bound `supply·maxApr/(10000·blocks_per_year)` (floored twice, as the code does) -/
theorem accrual_le_apr_per_block {s s' : St} {op : Op} {o : Out} (h : step s op = some (s', o)) :
    s'.accumulated - s.accumulated ≤
      s.supply * s.maxApr / 10000 / 5256000 * (s.block - s.lastBlock) :=
  Nat.le_trans (accrual_bound h).2 (Nat.le_trans (Nat.min_le_left _ _) (Nat.min_le_right _ _))

/-- the balance decomposition, after any history:
    balance = (supply − proxy-virtual stake) + outstanding unbond amounts
              + (capacity − accumulated) + reserve -/
theorem staking_balance (epoch block dsc maxApr minUnbond perBlock : Nat) (accts wl : List Nat)
    (ops : List Op) :
    let s := reach epoch block dsc maxApr minUnbond perBlock accts wl ops
    (s.bal : Int) = ((s.supply : Int) - s.virt) + s.unbondOut + ((s.capacity - s.accumulated : Nat) : Int)
      + s.reserve := by
  intro s
  have h : Inv s := inv_run epoch block dsc maxApr minUnbond perBlock accts wl ops
  have h1 := h.bal_eq
  have h2 := h.acc_le
  omega

/-- accrued-but-unpaid rewards: the reserve is exactly what was accrued minus what was paid
    (base and boosted, paid out or compounded), after any history -/
theorem reserve_is_accrued_minus_paid (epoch block dsc maxApr minUnbond perBlock : Nat)
    (accts wl : List Nat) (ops : List Op) :
    let s := reach epoch block dsc maxApr minUnbond perBlock accts wl ops
    s.reserve + (s.paidBase + s.paidBoosted) = s.accumulated := by
  intro s
  have h : Inv s := inv_run epoch block dsc maxApr minUnbond perBlock accts wl ops
  have h1 := h.res_eq
  omega

/-- rewards come only from capacity: everything ever paid is covered by the capacity -/
theorem paid_le_capacity (epoch block dsc maxApr minUnbond perBlock : Nat)
    (accts wl : List Nat) (ops : List Op) :
    let s := reach epoch block dsc maxApr minUnbond perBlock accts wl ops
    s.paidBase + s.paidBoosted ≤ s.capacity := by
  intro s
  have h : Inv s := inv_run epoch block dsc maxApr minUnbond perBlock accts wl ops
  have h1 := h.res_eq
  have h2 := h.acc_le
  omega

/-- the unbond gate: `unbondFarm` succeeds exactly when (contract active, the caller holds the
    unbond tokens, the contract holds the staking tokens and) the unlock epoch has been reached —
    never before; it pays exactly the amount sent and burns those unbond tokens, so the same
    principal cannot be withdrawn twice -/
theorem unbond_gate {s s' : St} {c : Nat} {pay : Pay} {o : Out} :
    unbondFarm s c pay = some (s', o) ↔
      0 < pay.2 ∧ pay.2 ≤ s.hold c pay.1 ∧ s.active = true ∧
      (∃ unlock, s.md pay.1 = some (.unbond unlock) ∧ unlock ≤ s.epoch) ∧ pay.2 ≤ s.bal ∧
      o = ⟨0, pay.2, 0⟩ ∧
      s' = { s with hold := upd2 s.hold c pay.1 (s.hold c pay.1 - pay.2), bal := s.bal - pay.2,
                    unbondOut := s.unbondOut - (pay.2 : Int) } :=
  unbondFarm_iff

/-- never before: while the epoch is below the unlock epoch of the token, unbonding fails -/
theorem unbond_too_early_fails {s : St} {c : Nat} {pay : Pay} {unlock : Nat}
    (hm : s.md pay.1 = some (.unbond unlock)) (h : s.epoch < unlock) :
    unbondFarm s c pay = none := by
  cases hr : unbondFarm s c pay with
  | none => rfl
  | some r =>
    obtain ⟨s', o⟩ := r
    obtain ⟨_, _, _, ⟨u, hu, hle⟩, _⟩ := unbond_gate.1 hr
    rw [hm] at hu
    simp only [Option.some.injEq, Meta.unbond.injEq] at hu
    omega

/-- the unbond period: a successful unstake mints an unbond token of exactly the principal taken
    out (through the proxy: of the staking tokens paid in) that unlocks `minUnbondEpochs` later -/
theorem unstake_mints_unbond {s s' : St} {c orig : Nat} {pay : Pay} {x : Option Nat} {o : Out}
    (h : unstakeCore s c orig pay x = some (s', o)) :
    s'.md (s.nonce + 1) = some (.unbond (s.epoch + s.minUnbond)) ∧
    s'.hold c (s.nonce + 1) = x.getD pay.2 ∧ o.a = s.nonce + 1 ∧ o.b = x.getD pay.2 ∧
    s'.supply + pay.2 = s.supply := by
  obtain ⟨_, h2, h3, h4, h5, _, h7, _⟩ := unstakeCore_unbond h
  exact ⟨h2, h3, h4, h5, by omega⟩

/-- the admin can withdraw only capacity that has not been accrued: rewards are settled up to
    the current block FIRST, and the amount fits into `capacity − accumulated` after settling -/
theorem withdraw_bound {s s' : St} {x : Nat} {o : Out} (h : withdraw s x = some (s', o)) :
    s'.accumulated = s.accumulated + genTot s ∧ x ≤ s.capacity - s'.accumulated ∧
    s'.accumulated ≤ s'.capacity ∧ s'.capacity = s.capacity - x := by
  obtain ⟨_, _, hrem, hx, _, _, rfl, _⟩ := withdraw_trace h
  refine ⟨rfl, hx, ?_, rfl⟩
  show s.accumulated + genTot s ≤ s.capacity - x
  omega

/-- a failed transaction leaves the state untouched (atomicity as modelled) -/
theorem failed_tx_no_effect (s : St) (op : Op) (h : step s op = none) : run s [op] = s := by
  simp [run, h]

/-- non-vacuity: a concrete history in which the capacity is exhausted, a user unstakes, the
    unbond is refused one epoch early and honoured at the unlock epoch -/
example :
    let s0 := init 5 10 1000000000000 2500 2 5000 [1, 2, 101] [101]
    let ops : List Op :=
      [.topUp 20000, .stake 1 none 1000000000000000 [], .advance 3 0, .claim 1 none (1, 1000000000000000),
       .advance 10 0, .unstake 1 none (2, 400000000000000), .advance 0 1, .unbond 1 (3, 400000000000000),
       .advance 0 1, .unbond 1 (3, 400000000000000)]
    let s := run s0 ops
    s.accumulated = 20000 ∧ s.capacity = 20000 ∧ s.paidBase = 17000 ∧ s.unbondOut = 0 ∧
    s.supply = 600000000000000 ∧ s.bal = 600000000003000 ∧ s.epoch = 7 ∧
    (run s0 (ops.take 8)).unbondOut = 400000000000000 := by
  decide

end Mx.C12
