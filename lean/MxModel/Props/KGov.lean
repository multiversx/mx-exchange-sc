/-
  KGov — the governance model (`Core/Governance.lean`) computes what the SOURCE of
  `energy-integration/governance-v2/src/{views.rs, proposal_storage.rs}` computes.

  `Gen/KGov.lean` is regenerated on every run by `bin/gen-kernels`.  The three predicates
  `quorum_reached`, `vote_reached`, `vote_down_with_veto` are translated on the fields of the
  stored `ProposalVotes` / `GovernanceProposal`; `get_proposal_status` takes their results (and
  `proposal_exists`) as Boolean inputs and returns the `GovernanceProposalStatus` variant index
  (`Status.tag`: None 0, Pending 1, Active 2, Defeated 3, DefeatedWithVeto 4, Succeeded 5) with
  payload 0.
-/
import MxModel.Gen.KGov
import MxModel.Lemmas.KernelTags
import MxModel.Lemmas.KTactic
import MxModel.Lemmas.GovSpec

namespace Mx.KGov
open Mx Mx.Gen Mx.Gov

theorem get_total_votes_eq (p : Proposal) :
    KGov.get_total_votes p.abstain p.veto p.down p.up = some p.totalVotes := by
  k_defs [KGov.get_total_votes, Proposal.totalVotes]
  try grind

theorem vote_down_with_veto_eq (p : Proposal) (id : Nat) :
    KGov.vote_down_with_veto p.abstain p.veto p.down id p.up = some (decide p.vetoed) := by
  k_defs [KGov.vote_down_with_veto, KGov.get_total_votes, Proposal.vetoed, Proposal.totalVotes]
  try grind

theorem vote_reached_eq (p : Proposal) (id : Nat) :
    KGov.vote_reached p.abstain p.veto p.down id p.up = some (decide p.voteReached) := by
  k_defs [KGov.vote_reached, KGov.get_total_votes, Proposal.voteReached, Proposal.vetoed,
    Proposal.totalVotes]
  try grind

theorem quorum_reached_eq (p : Proposal) (id : Nat) :
    KGov.quorum_reached p.minQuorum p.totalQuorum p.quorum id = some (decide p.quorumReached) := by
  have hF : FULL = 10000 := rfl
  k_defs [KGov.quorum_reached, Proposal.quorumReached, hF]
  try grind

/-- the three Boolean inputs are fed with what the source's own three predicates return -/
theorem get_proposal_status_eq (p : Proposal) (b id : Nat) :
    KGov.get_proposal_status b true p.start p.delay p.period id (decide p.quorumReached)
        (decide p.vetoed) (decide p.voteReached) = some ((p.statusAt b).tag, 0) := by
  k_defs [KGov.get_proposal_status, Proposal.statusAt, Status.tag]
  grind

/-- `proposal_exists = false`: an invalid id, or a proposal cleared by `cancel` -/
theorem get_proposal_status_missing (b st dl pd id : Nat) (q v r : Bool) :
    KGov.get_proposal_status b false st dl pd id q v r = some (Status.none.tag, 0) := by
  k_defs [KGov.get_proposal_status, Status.tag]
  try grind

theorem get_proposal_status_state (s : St) (id : Nat) (p : Proposal) (hg : s.get? id = some p)
    (hc : p.cleared = false) :
    ∃ q v r, KGov.quorum_reached p.minQuorum p.totalQuorum p.quorum id = some q ∧
      KGov.vote_down_with_veto p.abstain p.veto p.down id p.up = some v ∧
      KGov.vote_reached p.abstain p.veto p.down id p.up = some r ∧
      KGov.get_proposal_status s.block true p.start p.delay p.period id q v r =
        some ((s.status id).tag, 0) := by
  refine ⟨_, _, _, quorum_reached_eq p id, vote_down_with_veto_eq p id, vote_reached_eq p id, ?_⟩
  have hs : s.status id = p.statusAt s.block := by
    simp only [St.status, hg, hc, Bool.false_eq_true, if_false]
  rw [hs]
  exact get_proposal_status_eq p s.block id

theorem get_proposal_status_state_missing (s : St) (id : Nat)
    (h : s.get? id = none ∨ ∃ p, s.get? id = some p ∧ p.cleared = true) (st dl pd : Nat)
    (q v r : Bool) :
    KGov.get_proposal_status s.block false st dl pd id q v r = some ((s.status id).tag, 0) := by
  have hs : s.status id = .none := by
    rcases h with h | ⟨p, hp, hc⟩
    · simp only [St.status, h]
    · simp only [St.status, hp, hc, if_true]
  rw [hs]
  exact get_proposal_status_missing _ _ _ _ _ _ _ _

/-! ### vote: voting power, tally update (lib.rs `vote`) -/

/-- `smoothing_function` is the integer square root -/
theorem vote_power_eq (e : Nat) : KGov.vote_power e = some (Nat.sqrt e) := by
  k_defs [KGov.vote_power, KGov.smoothing_function]

theorem vote_up_eq (p : Proposal) (power e : Nat) :
    KGov.vote_up p.quorum p.up e power =
      some ((p.addVote .up power e).quorum, (p.addVote .up power e).up) := by
  k_defs [KGov.vote_up, Proposal.addVote]
  try grind

theorem vote_down_eq (p : Proposal) (power e : Nat) :
    KGov.vote_down p.down p.quorum e power =
      some ((p.addVote .down power e).down, (p.addVote .down power e).quorum) := by
  k_defs [KGov.vote_down, Proposal.addVote]
  try grind

theorem vote_down_veto_eq (p : Proposal) (power e : Nat) :
    KGov.vote_down_veto p.veto p.quorum e power =
      some ((p.addVote .veto power e).veto, (p.addVote .veto power e).quorum) := by
  k_defs [KGov.vote_down_veto, Proposal.addVote]
  try grind

theorem vote_abstain_eq (p : Proposal) (power e : Nat) :
    KGov.vote_abstain p.abstain p.quorum e power =
      some ((p.addVote .abstain power e).abstain, (p.addVote .abstain power e).quorum) := by
  k_defs [KGov.vote_abstain, Proposal.addVote]
  try grind

theorem addVote_frame (p : Proposal) (v : Vote) (power e : Nat) :
    (p.addVote v power e).quorum = p.quorum + e ∧
    (p.addVote v power e).up + (p.addVote v power e).down + (p.addVote v power e).veto +
      (p.addVote v power e).abstain = p.up + p.down + p.veto + p.abstain + power := by
  cases v <;> simp [Proposal.addVote] <;> omega

theorem vote_runs_source {s s' : St} {c id : Nat} {v : Vote} {o : Out}
    (h : vote s c id v = some (s', o)) :
    KGov.vote_power (s.energy c) = some o.v1 ∧ o.v2 = s.energy c := by
  obtain ⟨p, r⟩ := vote_spec h
  obtain rfl := r.out
  exact ⟨vote_power_eq _, rfl⟩

/-! ### withdrawDeposit after a veto: refund / burn split -/

/-- the abort case: a percentage above 100 % whose refund exceeds the fee (checked subtraction) -/
theorem withdraw_veto_split_eq (fee pct : Nat) :
    KGov.withdraw_veto_split fee pct =
      if fee < pct * fee / FULL then none else some (pct * fee / FULL, fee - pct * fee / FULL) := by
  have hF : FULL = 10000 := rfl
  k_defs [KGov.withdraw_veto_split, hF]
  grind

theorem withdraw_veto_split_sum (fee pct r b : Nat)
    (h : KGov.withdraw_veto_split fee pct = some (r, b)) : r + b = fee := by
  rw [withdraw_veto_split_eq] at h
  split at h
  · cases h
  · simp only [Option.some.injEq, Prod.mk.injEq] at h
    omega

theorem withdraw_vetoed_runs_source {s s' : St} {c id : Nat} {o : Out}
    (h : withdraw s c id = some (s', o)) (hv : s.status id = .vetoed) :
    ∃ p, s.get? id = some p ∧ KGov.withdraw_veto_split p.fee p.wpct = some (o.v1, o.v2) := by
  obtain ⟨p, _, hg, _, hc⟩ := withdraw_spec h
  refine ⟨p, hg, ?_⟩
  rcases hc with ⟨hst, _⟩ | ⟨_, hle, _, _, rfl, _⟩
  · rcases hst with hst | hst <;> rw [hv] at hst <;> cases hst
  · rw [withdraw_veto_split_eq, if_neg (by omega)]

/-! ### propose: the two guards on energy and fee -/

theorem propose_energy_check_eq (e minE : Nat) :
    KGov.propose_energy_check e minE = if minE ≤ e then some () else none := by
  k_defs [KGov.propose_energy_check]
  try grind

theorem propose_fee_check_eq (feeTok minFee amount tok : Nat) :
    KGov.propose_fee_check feeTok minFee amount tok =
      if feeTok = tok ∧ minFee = amount then some () else none := by
  k_defs [KGov.propose_fee_check]
  grind

theorem propose_runs_source {s s' : St} {c fee : Nat} {o : Out} (h : propose s c fee = some (s', o))
    (tok : Nat) :
    KGov.propose_energy_check (s.energy c) s.minEnergy = some () ∧
    KGov.propose_fee_check tok s.minFee fee tok = some () := by
  obtain ⟨_, he, _, _, hf, _⟩ := propose_spec h
  rw [propose_energy_check_eq, propose_fee_check_eq, if_pos he, if_pos ⟨rfl, hf⟩]
  exact ⟨rfl, rfl⟩

/-! ### the range guards of the `change*` endpoints (configurable.rs) = the model's `cfg` -/

theorem try_change_min_fee_eq (s : St) (x : Nat) :
    KGov.try_change_min_fee_for_propose x = (cfg s (.minFee x)).map (·.minFee) := by
  have h1 : MIN_FEE = 2000000 * 1000000000000000000 := rfl
  have h2 : MAX_FEE = 200000000000 * 1000000000000000000 := rfl
  k_defs [KGov.try_change_min_fee_for_propose, cfg, h1, h2]
  try grind

theorem try_change_quorum_eq (s : St) (x : Nat) :
    KGov.try_change_quorum_percentage x = (cfg s (.quorum x)).map (·.quorumPct) := by
  have h1 : MIN_QUORUM = 1000 := rfl
  have h2 : MAX_QUORUM = 6000 := rfl
  k_defs [KGov.try_change_quorum_percentage, cfg, h1, h2]
  try grind

theorem try_change_voting_delay_eq (s : St) (x : Nat) :
    KGov.try_change_voting_delay_in_blocks x = (cfg s (.delay x)).map (·.delay) := by
  have h1 : MIN_VOTING_DELAY = 1 := rfl
  have h2 : MAX_VOTING_DELAY = 100800 := rfl
  k_defs [KGov.try_change_voting_delay_in_blocks, cfg, h1, h2]
  try grind

theorem try_change_voting_period_eq (s : St) (x : Nat) :
    KGov.try_change_voting_period_in_blocks x = (cfg s (.period x)).map (·.period) := by
  have h1 : MIN_VOTING_PERIOD = 14400 := rfl
  have h2 : MAX_VOTING_PERIOD = 201600 := rfl
  k_defs [KGov.try_change_voting_period_in_blocks, cfg, h1, h2]
  try grind

theorem try_change_withdraw_percentage_eq (s : St) (x : Nat) :
    KGov.try_change_withdraw_percentage_defeated x = (cfg s (.wpct x)).map (·.wpct) := by
  have h1 : FULL = 10000 := rfl
  k_defs [KGov.try_change_withdraw_percentage_defeated, cfg, h1]
  try grind

/-- the strict thresholds: exactly a third of veto votes does not veto, exactly half of up votes
    does not pass -/
example : KGov.vote_down_with_veto 0 1 2 7 0 = some false := by decide
example : KGov.vote_down_with_veto 0 2 2 7 0 = some true := by decide
example : KGov.vote_reached 0 0 2 7 2 = some false := by decide
example : KGov.vote_reached 0 0 2 7 3 = some true := by decide
example : KGov.quorum_reached 5000 100 50 7 = some true := by decide
example : KGov.quorum_reached 5000 101 50 7 = some false := by decide
example : KGov.get_proposal_status 50 true 10 5 20 1 true false true = some (5, 0) := by decide
example : KGov.withdraw_veto_split 1000 2500 = some (250, 750) := by decide
example : KGov.withdraw_veto_split 1000 10010 = none := by decide
example : KGov.try_change_quorum_percentage 6000 = none := by decide
example : KGov.try_change_quorum_percentage 1000 = some 1000 := by decide

/-! ### the whole `match vote { … }` of `vote` -/

/-- the `match` on the vote type that ends `vote`, as ONE translated fragment: the arm selection (which
    counter a vote type feeds) is part of the translated source -/
theorem vote_apply_eq (p : Proposal) (v : Vote) (power e : Nat) :
    KGov.vote_apply p.abstain p.veto p.down p.quorum p.up e v.tag power =
      some ((p.addVote v power e).abstain, (p.addVote v power e).veto, (p.addVote v power e).down,
            (p.addVote v power e).quorum, (p.addVote v power e).up) := by
  cases v <;> k_defs [KGov.vote_apply, Proposal.addVote, Vote.tag] <;> try grind

/-- an index outside the enum cannot be decoded on chain; the translated `match` aborts on it -/
theorem vote_apply_bad_tag (a b c d e f g n : Nat) (h : 4 ≤ n) :
    KGov.vote_apply a b c d e f n g = none := by
  obtain ⟨k, rfl⟩ : ∃ k, n = k + 4 := ⟨n - 4, by omega⟩
  rfl

example : KGov.vote_apply 1 2 3 4 5 10 2 7 = some (1, 9, 3, 14, 5) := by decide
example : KGov.vote_apply 1 2 3 4 5 10 0 7 = some (1, 2, 3, 14, 12) := by decide

end Mx.KGov
