/-
  C11 — Boosted rewards (dex/farm, farm-with-locked-rewards), history-level "paid at most once".

  `Farm.paidLog s₀ ops` is a function of the history: one entry `(user, week, amount)` per week
  pool a successful operation paid boosted rewards out of.  The user is the operation's claim user
  (`Farm.claimUser`: original caller of enter / claim / compound / exit / merge, the on-behalf user,
  the recorded owner for `claimRewardsOnBehalf`, the user of `claimBoostedRewards`); week and amount
  are read off the growth of the ghost `paidW week` (Σ boosted rewards paid out of that week's pool).

  No (user, week) occurs twice in the log of ANY history (`boosted_log_once`); every entry is for one of
  the four most recent completed weeks (`boosted_log_window`); `paidW w` is exactly the sum of the log, so
  no payment escapes it (`boosted_log_complete`) and the logged payments of a week never exceed what was
  cut into its pool (`boosted_log_le_pool`).

  That each logged amount equals the boosted formula is `C11Amounts.boosted_log_amount`
  (Props/C11Amounts.lean); the per-`get_user_rewards_for_week` statement is `C11.boosted_formula`.
-/
import MxModel.Props.C11Pool
import MxModel.Lemmas.FarmLogRun

namespace Mx.C11Once
open Mx.Farm

theorem boosted_log_entries (ops : List Op) : ∀ (s : St) (e : Entry), e ∈ paidLog s ops →
    ∃ ops1 op ops2, ops = ops1 ++ op :: ops2 ∧ e ∈ stepLog (run s ops1) op := by
  induction ops with
  | nil => intro s e h; cases h
  | cons op ops ih =>
    intro s e h
    simp only [paidLog, List.mem_append] at h
    rcases h with h | h
    · exact ⟨[], op, ops, rfl, h⟩
    · obtain ⟨ops1, op', ops2, rfl, he⟩ := ih _ e h
      exact ⟨op :: ops1, op', ops2, rfl, by rw [run_cons]; exact he⟩

/-- **paid at most once.**  In the log of boosted payments of ANY history of a farm, no two entries
    have the same user and week: whatever the sequence of enter / claim / compound / exit / merge /
    claimBoostedRewards / on-behalf operations, energy updates, configuration changes and idle
    weeks, a user is paid out of a given week's pool at most once. -/
theorem boosted_log_once (kind : Kind) (same : Bool) (dsc pb : Nat) (produce : Bool)
    (users : List Nat) (e0 : Nat) (ops : List Op) :
    (paidLog (init kind same dsc pb produce users e0) ops).Pairwise
      (fun e e' => ¬ (e.user = e'.user ∧ e.week = e'.week)) := by
  have := paidLog_once_from ops (s := init kind same dsc pb produce users e0) (pre := [])
    (fun _ h => by cases h) List.Pairwise.nil
  simpa [sameKey] using this

/-- **only the four most recent completed weeks.**  Every entry an operation logs — in any state —
    is a payment to the operation's claim user, of a positive amount, for a week `w` with
    `current_week − 4 ≤ w < current_week` at the time of payment and not before the week of the
    user's stored claim progress. -/
theorem boosted_log_window (s : St) (op : Op) (e : Entry) (h : e ∈ stepLog s op) :
    claimUser s op = some e.user ∧ curWeek s ≤ e.week + 4 ∧ e.week < curWeek s ∧ 0 < e.amount ∧
    ∃ p, s.w.progress e.user = some p ∧ p.week ≤ e.week := by
  obtain ⟨h1, h2, h3, h4⟩ := stepLog_window h
  exact ⟨h1, h2, h3, stepLog_pos h, h4⟩

/-- operations that are not boosted claims log nothing, and no operation moves the boosted ledger
    `paidW` except through its log: after ANY history `paidW w` is exactly the sum of the logged
    amounts for week `w` -/
theorem boosted_log_complete (kind : Kind) (same : Bool) (dsc pb : Nat) (produce : Bool)
    (users : List Nat) (e0 : Nat) (ops : List Op) (w : Nat) :
    (run (init kind same dsc pb produce users e0) ops).b.paidW w =
      logSum (paidLog (init kind same dsc pb produce users e0) ops) w := by
  have := paidLog_sum_from ops (init kind same dsc pb produce users e0) w
  rw [this]
  show 0 + _ = _
  rw [Nat.zero_add]

/-- **the logged payments of a week never exceed its pool**: Σ of the log for week `w` ≤ everything
    that was ever cut into week `w`'s boosted pool (`cutW w`, see `C11Pool.week_paid_le_pool`) -/
theorem boosted_log_le_pool (kind : Kind) (same : Bool) (dsc pb : Nat) (produce : Bool)
    (users : List Nat) (e0 : Nat) (ops : List Op) (w : Nat) :
    logSum (paidLog (init kind same dsc pb produce users e0) ops) w ≤
      (run (init kind same dsc pb produce users e0) ops).b.cutW w := by
  rw [← boosted_log_complete]
  exact (C11Pool.week_paid_le_pool kind same dsc pb produce users e0 ops w).1

/-- the progress-side fact behind `boosted_log_once`, per operation: a successful operation either
    leaves the boosted ledger and every claim progress alone, or touches exactly one user `u` in
    the current week `W` — the ledger moves only for weeks `W−4 ≤ w < W` at or after `u`'s stored
    progress, `u`'s progress ends at week `W` (or is cleared), nobody else's changes, and if the
    ledger moved, `u` is the operation's claim user -/
theorem boosted_step_effect {s s' : St} {op : Op} {o : Out} (h : step s op = some (s', o)) :
    (s'.b.paidW = s.b.paidW ∧ s'.w.progress = s.w.progress) ∨
    ∃ u W, s.week = some W ∧
      (∀ w, s'.b.paidW w ≠ s.b.paidW w →
        claimUser s op = some u ∧ W ≤ w + 4 ∧ w < W ∧ ∃ p, s.w.progress u = some p ∧ p.week ≤ w) ∧
      (∀ w, s.b.paidW w ≤ s'.b.paidW w) ∧
      (∀ p, s'.w.progress u = some p → p.week = W) ∧
      (∀ x, x ≠ u → s'.w.progress x = s.w.progress x) := by
  rcases step_eff h with hq | ⟨u, W, eff, hcu⟩
  · exact Or.inl hq
  · obtain ⟨o', ho, hp'⟩ := eff.prog
    refine Or.inr ⟨u, W, eff.week, fun w hne => ⟨hcu w hne, eff.window w hne⟩, eff.mono, fun p hpp => ?_,
      fun x hx => ?_⟩
    · rw [hp', Weekly.upd_same] at hpp
      exact ho p hpp
    · rw [hp', Weekly.upd_other _ _ hx]

/-- non-vacuity: the corpus history f1 of `Props/C11.lean`: the week-1 pool of 2500 is paid to user 1 in week 2;
    the second `claimBoostedRewards` in the same week logs nothing -/
def exOps : List Op :=
  [.setFactors OWNER ⟨10, 3, 2, 1, 1⟩, .setPct OWNER 2500, .setEnergy 1 1000000 0 1000,
   .enter 1 none 100000000 [], .advance 10 6, .claim 1 none [(1, 100000000)], .advance 10 7,
   .claimBoosted 1 none, .claimBoosted 1 none]

local notation "exInit" => init Kind.mint false 1000000000000 1000 true [1, 2] 0

theorem ex_state : (run exInit exOps).b.paidW 1 = 2500 ∧ (run exInit exOps).b.cutW 1 = 2500 := by
  decide

/-- the log of this history holds exactly 2500 for week 1 — one positive entry exists, and by
    `boosted_log_once` user 1's second claim did not add another one for (1, week 1) -/
example : logSum (paidLog exInit exOps) 1 = 2500 ∧
    ∃ e ∈ paidLog exInit exOps, e.week = 1 ∧ 0 < e.amount := by
  have h0 : (run exInit exOps).b.paidW 1 = logSum (paidLog exInit exOps) 1 :=
    boosted_log_complete Kind.mint false 1000000000000 1000 true [1, 2] 0 exOps 1
  have h : logSum (paidLog exInit exOps) 1 = 2500 := h0.symm.trans ex_state.1
  exact ⟨h, exists_of_logSum_pos (by rw [h]; decide)⟩

end Mx.C11Once
