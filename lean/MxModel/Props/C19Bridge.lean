/-
  C19 — the BRIDGE between the hand-written access TABLE (`Core/Access.lean`: endpoint ↦ class, guard,
  required state — the thing the exhaustive access matrix compares with the real contracts) and the
  EXECUTABLE contract models (`Pair.step`, `Farm.step`, `Staking.step`, `Energy.step`, `Router.step` — the
  things the correspondence runs tie to the real contracts and `Props/C19Models.lean` proves gating
  theorems about).  Without this file table and models could drift apart silently.

  Per model:
  * `…Endpoint : Op → Option (…name…)` — which row(s) of the table an operation of the model is
    (decided by the constructor and, where the table has `@variant` rows, by the one argument / state
    field that selects the variant: an original caller is named or not, an adder is configured or not,
    the caller is the owner or not).  Operations that are no contract call (clock, plain ESDT transfer,
    the world's energy mock) have no endpoint.
  * `…GuardHolds : St → Op → Guard → Prop` — the MODEL-side reading of a table guard for the caller the
    operation carries (whitelist membership, hub authorisation, the model's admin account, the adder…).
    Where a model operation carries no caller (pair `cfg`, staking setters, `Energy.cfg`)
    a restricted guard is read as `True` and the doc comment says so: nothing is claimed there.
  * `…_step_allowed` — THE BRIDGE (sound direction): whenever `step s op` succeeds, every table row of the
    operation exists (`lookup` finds it), its guard holds for the operation's caller in `s`, and its state
    requirement `stateOk row.st (status of s)` holds.  Contrapositive: if the table
    refuses the state, `step s op = none` (`…_table_state_blocks`).
  * `…_class_agreement` — the classifications `…UserFundsOp` of `Props/C19Models.lean` against the table's
    `Class` column, exactly, with the exceptions spelled out.
  * `pair_state_tight` (pair only) — the other direction for the state column, by witnesses: for every state the
    table allows for a state-gated row there is a reachable model state with that status in which an operation
    of that row succeeds, so the table does not allow more than the model, and the model does not demand
    more than the table.

  Everything about the finite table is kernel evaluation (`decide +kernel`).  The rows a model is compared with
  are listed ONCE per contract, in the table's order (`pair_rows`, `farm_rows`, … : `Rows c [row, …]`, found in the
  table in one pass, `Access.sub`); a world that answers for several contracts has a list for each (the farm:
  `farm_rows` over `farmRows` for both farm tables, `hub_rows` for the permissions hub, `compound_rows` for the
  endpoint only `farm` has); a theorem about that world unfolds its lists into the equations
  `lookup c "endpoint" = some row` and rewrites with them; the connection to `step` is made by the gating
  theorems of `Props/C19Models.lean` and the spec lemmas those rest on.
-/
import MxModel.Props.C19Models
import MxModel.Lemmas.AccessTable

namespace Mx.C19Bridge
open Mx.Access Mx.C19Models

/-- what "an operation is allowed by the table" means on the model side: the row exists, the model-side
    reading `G` of its guard holds, and the state requirement is met by the contract state `cs` -/
def Allowed (c : Contract) (e : String) (G : Guard → Prop) (cs : CState) : Prop :=
  ∃ ent, lookup c e = some ent ∧ G ent.guard ∧ stateOk ent.st cs = true

theorem allowed_iff {c : Contract} {e : String} {G : Guard → Prop} {cs : CState} :
    Allowed c e G cs ↔ match lookup c e with
      | some x => G x.guard ∧ stateOk x.st cs = true
      | none => False := by
  unfold Allowed
  cases lookup c e with
  | none => exact ⟨fun ⟨_, h, _⟩ => (nomatch h), False.elim⟩
  | some ent => exact ⟨fun h => by obtain ⟨_, h, hg⟩ := h; cases h; exact hg, fun hg => ⟨ent, rfl, hg⟩⟩

theorem Allowed.mono {c : Contract} {e : String} {G G' : Guard → Prop} {cs : CState} (h : Allowed c e G cs)
    (hg : ∀ g, G g → G' g) : Allowed c e G' cs := by
  obtain ⟨ent, h1, h2, h3⟩ := h
  exact ⟨ent, h1, hg _ h2, h3⟩

theorem forall_mem_pair {α : Type} {p : α → Prop} {a b : α} : (∀ x ∈ [a, b], p x) ↔ p a ∧ p b := by simp

/-- an operation whose success would make the table allow a state that the table refuses does not succeed -/
theorem none_of_state {α : Type} {o : Option α} {c : Contract} {e : String} {G : Guard → Prop} {cs : CState}
    {ent : Entry} (h : ∀ r, o = some r → Allowed c e G cs) (hl : lookup c e = some ent)
    (hs : stateOk ent.st cs = false) : o = none := by
  cases o with
  | none => rfl
  | some r =>
    obtain ⟨ent', hl', _, hs'⟩ := h r rfl
    rw [hl] at hl'; cases hl'
    rw [hs] at hs'; cases hs'

/-- the class column of a row -/
def clsOf (c : Contract) (e : String) : Option Class := (lookup c e).map (·.cls)

/-! ## pair -/

section pair
open Mx.Pair

/-- the pair model's status flag as the table's contract state -/
def pairCState : Pair.Status → CState
  | .inactive => .inactive | .active => .active | .partialActive => .partialActive

/-- the table row of an operation of the pair model.  `addInitial` is the row `addInitialLiquidity@adder`
    when an initial-liquidity adder is configured, `addInitialLiquidity` otherwise; `cfg (setState st)` is
    `pause` / `resume` / `setStateActiveNoSwaps`; `addDest` / `removeDest` are the pair's one endpoint
    `setFeeOn(enabled, address, token)`; `advance` / `epoch` (block round, epoch) are no contract call. -/
def pairEndpoint (s : Pair.St) : Pair.Op → Option String
  | .addInitial .. => some (if s.adder = none then "addInitialLiquidity" else "addInitialLiquidity@adder")
  | .addLiq .. => some "addLiquidity"
  | .removeLiq .. => some "removeLiquidity"
  | .swapIn .. => some "swapTokensFixedInput"
  | .swapOut .. => some "swapTokensFixedOutput"
  | .swapNoFee .. => some "swapNoFeeAndForward"
  | .buyback .. => some "removeLiquidityAndBuyBackAndBurnToken"
  | .cfg (.setFee ..) => some "setFeePercents"
  | .cfg (.addDest _) | .cfg (.removeDest _) => some "setFeeOn"
  | .cfg (.setCollector _) => some "setupFeesCollector"
  | .cfg (.setState .inactive) => some "pause"
  | .cfg (.setState .active) => some "resume"
  | .cfg (.setState .partialActive) => some "setStateActiveNoSwaps"
  | .cfg (.whitelist _) => some "whitelist"
  | .cfg (.removeWhitelist _) => some "removeWhitelist"
  | .cfg (.setTrusted _ (some _)) => some "addTrustedSwapPair"
  | .cfg (.setTrusted _ none) => some "removeTrustedSwapPair"
  | .lock _ (.setDeadline _) => some "setLockingDeadlineEpoch"
  | .lock _ (.setUnlock _) => some "setUnlockEpoch"
  | .lock _ (.setSc _) => some "setLockingScAddress"
  | .advance _ | .epoch _ => none

/-- model-side reading of a table guard for the caller a pair operation carries.  `adder`: the caller of
    `addInitial` is the configured adder; `whitelisted`: the caller of the two contract-only operations is on
    the pair's whitelist; a permission mask: the `owner` flag of the locking setters (= the outcome of
    `require_caller_has_owner_permissions`).  The `cfg …` operations of the pair model carry NO caller (the
    pair world applies them as the router / owner): a permission guard is read as `True` for them — nothing
    is claimed (their authorisation is checked on the real contract by the access matrix). -/
def pairGuardHolds (s : Pair.St) (op : Pair.Op) (g : Guard) : Prop :=
  match g, op with
  | .anyone, _ => True
  | .adder, .addInitial c _ _ => s.adder = some c
  | .whitelisted, .swapNoFee c _ _ => c ∈ s.wl
  | .whitelisted, .buyback c _ _ => c ∈ s.wl
  | .perm _, .lock ow _ => ow = true
  | .perm _, .cfg _ => True
  | _, _ => False

/-- the rows of the pair table that the operations of the pair model (and the users' direct pair calls of the
    router world) are compared with -/
theorem pair_rows : Rows .pair [
    Access.cfg "pause" gPause, Access.cfg "resume" gPause, Access.cfg "whitelist" gOwner,
    Access.cfg "removeWhitelist" gOwner, Access.cfg "addTrustedSwapPair" gOwner, Access.cfg "removeTrustedSwapPair" gOwner,
    Access.cfg "setupFeesCollector" gOwner, Access.cfg "setFeeOn" gOwner, Access.cfg "setStateActiveNoSwaps" gOwner,
    Access.cfg "setFeePercents" gOwnerAdmin, Access.cfg "setLockingDeadlineEpoch" gOwner,
    Access.cfg "setLockingScAddress" gOwner, Access.cfg "setUnlockEpoch" gOwner,
    ⟨"addInitialLiquidity", .bootstrap, .anyone, .inactiveOnly, .na⟩,
    ⟨"addInitialLiquidity@adder", .bootstrap, .adder, .inactiveOnly, .na⟩,
    uf "addLiquidity" .activeOrPartial, uf "removeLiquidity" .activeOrPartial,
    uf "swapTokensFixedInput", uf "swapTokensFixedOutput",
    co "removeLiquidityAndBuyBackAndBurnToken" .any, co "swapNoFeeAndForward" .active] :=
  rows (by decide +kernel)

/-- **bridge, pair.**  Whenever an operation of the pair model succeeds, its table row exists, the row's
    guard holds for the caller the operation carries, and the row's state requirement is met by the pair's
    status: `Pair.step` never succeeds where the access table says "not callable". -/
theorem pair_step_allowed (s : Pair.St) (op : Pair.Op) (r : Pair.St × Pair.Out) (e : String)
    (he : pairEndpoint s op = some e) (h : Pair.step s op = some r) :
    Allowed .pair e (pairGuardHolds s op) (pairCState s.status) := by
  have hcfg : ∀ (o : Pair.CfgOp) (m : Perm), pairGuardHolds s (.cfg o) (.perm m) ∧ stateOk .any (pairCState s.status) = true :=
    fun _ _ => ⟨trivial, rfl⟩
  have R := pair_rows
  simp only [Rows, Access.cfg, uf, co] at R
  rw [allowed_iff]
  cases op with
  | addInitial c a1 a2 =>
    obtain ⟨h1, _, h3⟩ := addInitial_state h
    cases he
    rcases h3 with h3 | h3
    · simp only [h3, if_true, R, h1]
      exact ⟨trivial, rfl⟩
    · simp only [h3, reduceCtorEq, if_false, R, h1]
      exact ⟨h3, rfl⟩
  | addLiq a1 a2 m1 m2 =>
    cases he
    simp only [R]
    refine ⟨trivial, ?_⟩
    rcases addLiq_state h with h1 | h1 <;> rw [h1] <;> rfl
  | removeLiq lp m1 m2 =>
    cases he
    simp only [R]
    refine ⟨trivial, ?_⟩
    rcases removeLiq_state h with h1 | h1 <;> rw [h1] <;> rfl
  | swapIn d a m =>
    cases he
    simp only [R, swapIn_active h]
    exact ⟨trivial, rfl⟩
  | swapOut d mx o =>
    cases he
    simp only [R, swapOut_active h]
    exact ⟨trivial, rfl⟩
  | swapNoFee c d a =>
    cases he
    simp only [R, (swapNoFee_active h).1]
    exact ⟨(swapNoFee_active h).2, rfl⟩
  | buyback c lp w =>
    cases he
    simp only [R]
    exact ⟨buyback_wl h, rfl⟩
  | cfg o =>
    cases o with
    | setState st => cases st <;> cases he <;> simp only [R] <;> exact hcfg _ _
    | setTrusted f x => cases x <;> cases he <;> simp only [R] <;> exact hcfg _ _
    | _ => cases he; simp only [R]; exact hcfg _ _
  | lock ow l =>
    have how : ow = true := (pair_contract_ops_need_role s _ r h).2.2 ow l rfl
    cases l <;> cases he <;> simp only [R] <;> exact ⟨how, rfl⟩
  | advance rd => cases he
  | epoch ep => cases he

/-- contrapositive of the bridge, pair: if the table's state requirement of the operation's row is NOT met by the pair's status,
    the operation fails — for all arguments -/
theorem pair_table_state_blocks (s : Pair.St) (op : Pair.Op) (e : String) (ent : Entry)
    (he : pairEndpoint s op = some e) (hl : lookup .pair e = some ent)
    (hs : stateOk ent.st (pairCState s.status) = false) : Pair.step s op = none :=
  none_of_state (fun r hstep => pair_step_allowed s op r e he hstep) hl hs

/-- the bootstrap operation of the pair model -/
def pairBootstrapOp : Pair.Op → Bool
  | .addInitial .. => true
  | _ => false

/-- the contract-only operations of the pair model -/
def pairContractOp : Pair.Op → Bool
  | .swapNoFee .. | .buyback .. => true
  | _ => false

/-- **class agreement, pair.**  The table's class of the row of every operation of the pair model that has a
    row: `addInitial` ↦ `bootstrap`; `swapNoFee`, `buyback` ↦ `contractOnly`; the other members of
    `C19Models.pairUserFundsOp` (add / remove liquidity, the two user swaps) ↦ `userFunds`; everything else
    (`cfg …`, `lock …`) ↦ `config`.  So the gated list `pairUserFundsOp` is EXACTLY the pair's `userFunds` rows
    plus the contract-only no-fee swap (`pairUserFundsOp swapNoFee = true`, class `contractOnly`, state
    requirement Active), and the one `userFunds`-like operation outside it is the bootstrap deposit (class
    `bootstrap`, state requirement Inactive). -/
theorem pair_class_agreement (s : Pair.St) (op : Pair.Op) (e : String) (he : pairEndpoint s op = some e) :
    clsOf .pair e = some (if pairBootstrapOp op then Class.bootstrap else if pairContractOp op then .contractOnly
      else if pairUserFundsOp op then .userFunds else .config) := by
  have R := pair_rows
  simp only [Rows, Access.cfg, uf, co] at R
  unfold clsOf
  cases op with
  | addInitial c a1 a2 => cases he; split <;> simp only [R, Option.map_some, pairBootstrapOp, if_true]
  | cfg o =>
    cases o with
    | setState st => cases st <;> cases he <;> simp [R, pairBootstrapOp, pairContractOp, pairUserFundsOp]
    | setTrusted f x => cases x <;> cases he <;> simp [R, pairBootstrapOp, pairContractOp, pairUserFundsOp]
    | _ => cases he; simp [R, pairBootstrapOp, pairContractOp, pairUserFundsOp]
  | lock ow l => cases l <;> cases he <;> simp [R, pairBootstrapOp, pairContractOp, pairUserFundsOp]
  | advance | epoch => cases he
  | _ => cases he; simp [R, pairBootstrapOp, pairContractOp, pairUserFundsOp]

/-- … and every `userFunds` / `bootstrap` / `contractOnly` row of the pair table IS modelled: it is the row of
    some operation of the pair model (no fund-moving pair endpoint is missing from the model) -/
theorem pair_fund_rows_modelled :
    ∀ ent ∈ pairTable, ent.cls = .userFunds ∨ ent.cls = .bootstrap ∨ ent.cls = .contractOnly →
      ent.name ∈ ["addInitialLiquidity", "addInitialLiquidity@adder", "addLiquidity", "removeLiquidity",
        "swapTokensFixedInput", "swapTokensFixedOutput", "swapNoFeeAndForward",
        "removeLiquidityAndBuyBackAndBurnToken"] := by decide +kernel

/-- witnesses for `pair_state_tight`: (configured adder, history from a fresh pair, operation) -/
def pairWitnesses : List (Option Nat × List Pair.Op × Pair.Op) :=
  let boot : List Pair.Op := [.addInitial 1 1000000 2000000, .cfg (.whitelist 7)]
  [ (none, [], .addInitial 1 1000000 2000000), (some 1, [], .addInitial 1 1000000 2000000),
    (none, boot, .addLiq 5000 10000 1 1), (none, boot ++ [.cfg (.setState .active)], .addLiq 5000 10000 1 1),
    (none, boot, .removeLiq 5000 1 1), (none, boot ++ [.cfg (.setState .active)], .removeLiq 5000 1 1),
    (none, boot ++ [.cfg (.setState .active)], .swapIn .ab 1000 1),
    (none, boot ++ [.cfg (.setState .active)], .swapOut .ba 90000 500),
    (none, boot ++ [.cfg (.setState .active)], .swapNoFee 7 .ab 1000),
    (none, boot, .buyback 7 5000 .first), (none, boot ++ [.cfg (.setState .active)], .buyback 7 5000 .first),
    (none, boot ++ [.cfg (.setState .inactive)], .buyback 7 5000 .first) ]

/-- **state column, other direction (pair).**  For every fund-moving row of the pair table (`userFunds`,
    `bootstrap`, `contractOnly`) and every contract state the table ALLOWS for it, there is a state of the pair
    model reachable from a fresh pair, with that status, in which an operation of that row succeeds.  Together
    with `pair_step_allowed`: the set of statuses in which the model lets the endpoint succeed is exactly the
    set the table allows — the table is neither stricter nor laxer than the model. -/
theorem pair_state_tight :
    ∀ ent ∈ pairTable, ent.cls = .userFunds ∨ ent.cls = .bootstrap ∨ ent.cls = .contractOnly →
      ∀ cs ∈ CState.all, stateOk ent.st cs = true →
        ∃ w ∈ pairWitnesses,
          pairEndpoint (Pair.run (Pair.init 300 50 w.1 8) w.2.1) w.2.2 = some ent.name ∧
          pairCState (Pair.run (Pair.init 300 50 w.1 8) w.2.1).status = cs ∧
          (Pair.step (Pair.run (Pair.init 300 50 w.1 8) w.2.1) w.2.2).isSome = true := by
  decide +kernel

end pair

/-! ## farm (dex/farm = kind `mint` = table `farm`; farm-with-locked-rewards = kind `noMint` = table `fwlr`) -/

section farm
open Mx.Farm

/-- which table a farm of kind `k` is compared with -/
def farmC : Farm.Kind → Contract
  | .mint => .farm | .noMint => .fwlr

/-- the farm model's kill switch as the table's contract state -/
def farmCState (active : Bool) : CState := if active then .active else .inactive

/-- the table row of an operation of the farm model (contract, endpoint).  An operation naming an original
    caller is the `@orig` row; `claimBoosted c (some u)` with `u ≠ c` is `claimBoostedRewards@other`; the three
    `hub…` operations are the permissions hub's own endpoints; `transfer` (plain ESDT transfer), `setEnergy`
    (the world's energy-factory mock), `advance`, `bad` (a malformed call) are no endpoint. -/
def farmEndpoint (k : Farm.Kind) : Farm.Op → Option (Contract × String)
  | .enter _ none .. => some (farmC k, "enterFarm")
  | .enter _ (some _) .. => some (farmC k, "enterFarm@orig")
  | .enterOB .. => some (farmC k, "enterFarmOnBehalf")
  | .claim _ none _ => some (farmC k, "claimRewards")
  | .claim _ (some _) _ => some (farmC k, "claimRewards@orig")
  | .claimOB .. => some (farmC k, "claimRewardsOnBehalf")
  | .compound _ none _ => some (farmC k, "compoundRewards")
  | .compound _ (some _) _ => some (farmC k, "compoundRewards@orig")
  | .exit _ none .. => some (farmC k, "exitFarm")
  | .exit _ (some _) .. => some (farmC k, "exitFarm@orig")
  | .merge _ none _ => some (farmC k, "mergeFarmTokens")
  | .merge _ (some _) _ => some (farmC k, "mergeFarmTokens@orig")
  | .claimBoosted _ none => some (farmC k, "claimBoostedRewards")
  | .claimBoosted c (some u) =>
      some (farmC k, if u = c then "claimBoostedRewards" else "claimBoostedRewards@other")
  | .updateEnergy _ => some (farmC k, "updateEnergyForUser")
  | .setPerBlock .. => some (farmC k, "setPerBlockRewardAmount")
  | .startProduce _ => some (farmC k, "startProduceRewards")
  | .endProduce _ => some (farmC k, "endProduceRewards")
  | .setPct .. => some (farmC k, "setBoostedYieldsRewardsPercentage")
  | .setFactors .. => some (farmC k, "setBoostedYieldsFactors")
  | .collect _ => some (farmC k, "collectUndistributedBoostedRewards")
  | .pause _ => some (farmC k, "pause")
  | .resume _ => some (farmC k, "resume")
  | .setPenalty .. => some (farmC k, "set_penalty_percent")
  | .setMinEpochs .. => some (farmC k, "set_minimum_farming_epochs")
  | .hubWhitelist .. => some (.hub, "whitelist")
  | .hubRemove .. => some (.hub, "removeWhitelist")
  | .hubBlacklist _ => some (.hub, "blacklist")
  | .scWhitelist _ => some (farmC k, "addSCAddressToWhitelist")
  | .scUnwhitelist _ => some (farmC k, "removeSCAddressFromWhitelist")
  | .transfer .. | .setEnergy .. | .advance .. | .bad => none

/-- model-side reading of a table guard for the caller a farm operation carries.  `whitelisted`: the caller of
    an operation naming an original caller is on the farm's contract whitelist; `hubAgent`: the user named by
    `enterOB` — resp. the ONE owner recorded by every position paid into `claimOB` — whitelisted the caller in
    the permissions hub and the caller is not blacklisted; `scOwner` / a permission mask: the caller is the
    model's admin account (`isAdmin`: the farm world's owner, who holds OWNER|ADMIN|PAUSE and is the contract
    owner — the model does not distinguish the three bits); `nobody`: never.  `scWhitelist`, `scUnwhitelist`,
    `hubBlacklist` carry NO caller in the model (applied by the world as the owner): a restricted guard is read
    as `True` for them — nothing is claimed. -/
def farmGuardHolds (s : Farm.St) (op : Farm.Op) (g : Guard) : Prop :=
  match g, op with
  | .anyone, _ => True
  | .whitelisted, .enter c (some _) .. | .whitelisted, .claim c (some _) _
  | .whitelisted, .compound c (some _) _ | .whitelisted, .exit c (some _) ..
  | .whitelisted, .merge c (some _) _ => c ∈ s.scWl
  | .hubAgent, .enterOB c u _ _ => c ∉ s.hubBl ∧ (u, c) ∈ s.hubWl
  | .hubAgent, .claimOB c pays =>
      ∃ u, (∀ p ∈ pays, ∃ att, s.attrs p.1 = some att ∧ att.owner = u) ∧ c ∉ s.hubBl ∧ (u, c) ∈ s.hubWl
  | .scOwner, .scWhitelist _ | .scOwner, .scUnwhitelist _ | .scOwner, .hubBlacklist _ => True
  | .scOwner, o | .perm _, o =>
      match farmAdminCaller o with
      | some c => s.isAdmin c = true
      | none => False
  | _, _ => False

/-- the rows of the permissions hub's own endpoints, which the farm and staking models include -/
theorem hub_rows : Rows .hub [Access.op "whitelist", Access.op "removeWhitelist", cfg "blacklist" .scOwner] :=
  rows (by decide +kernel)

/-- the rows common to both farm tables that the operations of the farm model are compared with -/
def farmRows : List Entry := [
  cfg "pause" gPause, cfg "resume" gPause,
  uf "claimRewards", ob "claimRewards@orig" .whitelisted, uf "mergeFarmTokens", uf "claimBoostedRewards",
  ⟨"claimBoostedRewards@other", .onBehalf, .nobody, .active, .na⟩,
  cfg "startProduceRewards" gAdmin, cfg "endProduceRewards" gAdmin, cfg "setPerBlockRewardAmount" gAdmin,
  cfg "setBoostedYieldsRewardsPercentage" gAdmin,
  cfg "addSCAddressToWhitelist" .scOwner, cfg "removeSCAddressFromWhitelist" .scOwner,
  cfg "collectUndistributedBoostedRewards" gAdmin, cfg "setBoostedYieldsFactors" gAdmin,
  ob "claimRewardsOnBehalf" .hubAgent .positionOwner, Access.op "updateEnergyForUser",
  uf "enterFarm", ob "enterFarm@orig" .whitelisted, uf "exitFarm", ob "exitFarm@orig" .whitelisted,
  ob "mergeFarmTokens@orig" .whitelisted, ob "enterFarmOnBehalf" .hubAgent,
  cfg "set_penalty_percent" .scOwner, cfg "set_minimum_farming_epochs" gAdmin]

theorem farm_sub : ∀ c ∈ [Contract.farm, .fwlr], sub farmRows (table c) = true := by decide +kernel

theorem farm_rows (k : Farm.Kind) : Rows (farmC k) farmRows :=
  rows (farm_sub _ (by cases k <;> decide))

/-- `compoundRewards` is an endpoint of `farm` and not of the farm with locked rewards -/
theorem compound_rows :
    Rows .farm [uf "compoundRewards", ob "compoundRewards@orig" .whitelisted] ∧
    lookup .fwlr "compoundRewards" = none ∧ lookup .fwlr "compoundRewards@orig" = none :=
  ⟨rows (by decide +kernel), by decide +kernel⟩

/-- **bridge, farm (both kinds).**  Whenever an operation of the farm model succeeds, its table row exists in
    the table of the farm's kind (so `compoundRewards` never succeeds in a farm-with-locked-rewards, whose table
    has no such row), the row's guard holds for the operation's caller, and the row's state requirement is met
    by the kill switch. -/
theorem farm_step_allowed (s : Farm.St) (op : Farm.Op) (r : Farm.St × Farm.Out) (c : Contract) (e : String)
    (he : farmEndpoint s.kind op = some (c, e)) (h : Farm.step s op = some r) :
    Allowed c e (farmGuardHolds s op) (farmCState s.active) := by
  obtain ⟨s', o⟩ := r
  have hact := step_active h
  have hst : s.active = true → stateOk .active (farmCState s.active) = true := by
    intro ha; rw [ha]; rfl
  have wl := fun ca og hop => farm_orig_caller_needs_whitelist s op ca og _ hop h
  have adm : ∀ (g : Guard) (ca : Nat), farmAdminCaller op = some ca → (g = .scOwner ∨ ∃ m, g = .perm m) →
      farmGuardHolds s op g ∧ stateOk .any (farmCState s.active) = true := by
    intro g ca hca hg
    have hadm := farm_admin_needs_role s op ca (s', o) hca h
    refine ⟨?_, rfl⟩
    rcases hg with rfl | ⟨m, rfl⟩ <;> cases op <;> simp only [farmGuardHolds, hca] <;> exact hadm
  have R := farm_rows s.kind
  have H := hub_rows
  have C := compound_rows.1
  simp only [Rows, farmRows, cfg, uf, ob, Access.op] at R H C
  rw [allowed_iff]
  cases op with
  | enter ca og _ _ | claim ca og _ | exit ca og _ _ | merge ca og _ =>
    cases og <;> cases he <;> simp only [R]
    · exact ⟨trivial, hst hact⟩
    · rename_i u
      exact ⟨wl ca u (by simp), hst hact⟩
  | enterOB ca u a ex =>
    cases he; simp only [R]
    exact ⟨(farm_enter_on_behalf s s' ca u a ex o h).1, hst hact⟩
  | claimOB ca p =>
    cases he; simp only [R]
    obtain ⟨u, h1, _, h3, _⟩ := farm_claim_on_behalf s s' ca p o h
    exact ⟨⟨u, h1, h3.1, h3.2⟩, hst hact⟩
  | compound ca og p =>
    have hk : s.kind = .mint := (compoundRewards_spec (known_some h).2).1
    cases og <;> cases he <;> simp only [hk, farmC, C]
    · exact ⟨trivial, hst hact⟩
    · rename_i u
      exact ⟨wl ca u (by simp), hst hact⟩
  | claimBoosted ca ou =>
    cases ou with
    | none =>
      cases he; simp only [R]
      exact ⟨trivial, hst hact⟩
    | some u =>
      cases farm_claim_boosted_only_self s ca u _ h
      cases he; simp only [if_true, R]
      exact ⟨trivial, hst hact⟩
  | setPerBlock ca _ | startProduce ca | endProduce ca | setPct ca _ | setFactors ca _ | collect ca | pause ca
  | resume ca | setMinEpochs ca _ =>
    cases he; simp only [R]
    exact adm _ ca rfl (Or.inr ⟨_, rfl⟩)
  | setPenalty ca x =>
    cases he; simp only [R]
    exact adm _ ca rfl (Or.inl rfl)
  | updateEnergy _ | hubWhitelist _ _ | hubRemove _ _ | hubBlacklist _ | scWhitelist _ | scUnwhitelist _ =>
    cases he; simp only [R, H]
    exact ⟨trivial, rfl⟩
  | transfer _ _ _ _ | setEnergy _ _ _ _ | advance _ _ | bad => cases he

/-- contrapositive of the bridge, farm: if the table's state requirement of the operation's row is NOT met by the kill switch, the
    operation fails — for every caller and all arguments, both kinds -/
theorem farm_table_state_blocks (s : Farm.St) (op : Farm.Op) (c : Contract) (e : String) (ent : Entry)
    (he : farmEndpoint s.kind op = some (c, e)) (hl : lookup c e = some ent)
    (hs : stateOk ent.st (farmCState s.active) = false) : Farm.step s op = none :=
  none_of_state (fun r hstep => farm_step_allowed s op r c e he hstep) hl hs

/-- an operation whose row is guarded by `nobody` (`claimBoostedRewards` for ANOTHER user) never succeeds, and
    an operation whose row does not exist in the table of the farm's kind (`compoundRewards` in a
    farm-with-locked-rewards) never succeeds -/
theorem farm_no_row_no_success (s : Farm.St) (op : Farm.Op) (c : Contract) (e : String)
    (he : farmEndpoint s.kind op = some (c, e))
    (hn : lookup c e = none ∨ ∃ ent, lookup c e = some ent ∧ ent.guard = .nobody) : Farm.step s op = none := by
  cases hstep : Farm.step s op with
  | none => rfl
  | some r =>
    obtain ⟨ent, hl, hg, _⟩ := farm_step_allowed s op r c e he hstep
    rcases hn with hn | ⟨ent', hl', hg'⟩
    · rw [hn] at hl; cases hl
    · rw [hl] at hl'; cases hl'
      rw [hg'] at hg
      cases op <;> simp [farmGuardHolds] at hg

/-- non-vacuity of `farm_no_row_no_success`: both situations occur (the rows are what the statement says) -/
example :
    farmEndpoint .noMint (.compound 1 none [(1, 5)]) = some (.fwlr, "compoundRewards") ∧
    lookup .fwlr "compoundRewards" = none ∧
    farmEndpoint .mint (.claimBoosted 1 (some 2)) = some (.farm, "claimBoostedRewards@other") ∧
    (lookup .farm "claimBoostedRewards@other").map (·.guard) = some .nobody := by decide +kernel

/-- **class agreement, farm.**  For every operation of the farm model whose row exists in the table of the
    farm's kind: the operation is in `C19Models.farmUserFundsOp` (the list `farm_paused_blocks_funds` gates)
    IF AND ONLY IF the table's class of its row is `userFunds` or `onBehalf`. -/
theorem farm_class_agreement (k : Farm.Kind) (op : Farm.Op) (c : Contract) (e : String) (cl : Class)
    (he : farmEndpoint k op = some (c, e)) (hc : clsOf c e = some cl) :
    (farmUserFundsOp op = true ↔ (cl = .userFunds ∨ cl = .onBehalf)) := by
  have R := farm_rows k
  have H := hub_rows
  have C := compound_rows
  simp only [Rows, farmRows, cfg, uf, ob, Access.op] at R H C
  unfold clsOf at hc
  cases op with
  | enter _ og _ _ | claim _ og _ | exit _ og _ _ | merge _ og _ =>
    cases og <;> cases he <;> simp only [R, Option.map_some, Option.some.injEq] at hc <;> subst hc <;>
      simp [farmUserFundsOp]
  | compound _ og _ =>
    cases og <;> cases he <;> cases k <;> simp only [farmC, C, Option.map_some, Option.map_none,
      Option.some.injEq, reduceCtorEq] at hc <;> subst hc <;> simp [farmUserFundsOp]
  | claimBoosted ca ou =>
    cases ou with
    | none => cases he; simp only [R, Option.map_some, Option.some.injEq] at hc; subst hc; simp [farmUserFundsOp]
    | some u =>
      cases he
      split at hc <;> simp only [R, Option.map_some, Option.some.injEq] at hc <;> subst hc <;>
        simp [farmUserFundsOp]
  | transfer | setEnergy | advance | bad => cases he
  | _ =>
    cases he; simp only [R, H, Option.map_some, Option.some.injEq] at hc; subst hc
    simp [farmUserFundsOp]

end farm

/-! ## farm-staking -/

section staking
open Mx.Staking

/-- the table row of an operation of the staking model (contract, endpoint).  `calc false …` is
    `calculateRewardsForGivenPosition` sent as a TRANSACTION (the row's guard is `nobody`: `require_queried`);
    `calc true …` is the VM query, which is no transaction and has no row; `transfer`, `setEnergy`, `advance`
    are no endpoint. -/
def stakingEndpoint : Staking.Op → Option (Contract × String)
  | .stake _ none .. => some (.staking, "stakeFarm")
  | .stake _ (some _) .. => some (.staking, "stakeFarm@orig")
  | .stakeProxy .. => some (.staking, "stakeFarmThroughProxy")
  | .stakeBehalf .. => some (.staking, "stakeFarmOnBehalf")
  | .claim _ none _ => some (.staking, "claimRewards")
  | .claim _ (some _) _ => some (.staking, "claimRewards@orig")
  | .claimNew .. => some (.staking, "claimRewardsWithNewValue")
  | .claimBehalf .. => some (.staking, "claimRewardsOnBehalf")
  | .compound .. => some (.staking, "compoundRewards")
  | .unstake _ none _ => some (.staking, "unstakeFarm")
  | .unstake _ (some _) _ => some (.staking, "unstakeFarm@orig")
  | .unstakeProxy .. => some (.staking, "unstakeFarmThroughProxy")
  | .unbond .. => some (.staking, "unbondFarm")
  | .merge .. => some (.staking, "mergeFarmTokens")
  | .claimBoosted _ none => some (.staking, "claimBoostedRewards")
  | .claimBoosted c (some u) =>
      some (.staking, if u = c then "claimBoostedRewards" else "claimBoostedRewards@other")
  | .calc false .. => some (.staking, "calculateRewardsForGivenPosition")
  | .calc true .. => none
  | .updateEnergy _ => some (.staking, "updateEnergyForUser")
  | .topUp _ => some (.staking, "topUpRewards")
  | .withdraw _ => some (.staking, "withdrawRewards")
  | .setMaxApr _ => some (.staking, "setMaxApr")
  | .setPerBlock _ => some (.staking, "setPerBlockRewardAmount")
  | .startProduce => some (.staking, "startProduceRewards")
  | .endProduce => some (.staking, "endProduceRewards")
  | .setMinUnbond _ => some (.staking, "setMinUnbondEpochs")
  | .setBoostedPct _ => some (.staking, "setBoostedYieldsRewardsPercentage")
  | .setFactors _ => some (.staking, "setBoostedYieldsFactors")
  | .collectUndistributed => some (.staking, "collectUndistributedBoostedRewards")
  | .pause => some (.staking, "pause")
  | .resume => some (.staking, "resume")
  | .hubWhitelist .. => some (.hub, "whitelist")
  | .hubRemove .. => some (.hub, "removeWhitelist")
  | .transfer .. | .setEnergy .. | .advance .. => none

/-- the admin operations of the staking model: they carry NO caller (the staking world applies them as the
    owner) -/
def stakingCallerless : Staking.Op → Bool
  | .topUp _ | .withdraw _ | .setMaxApr _ | .setPerBlock _ | .startProduce | .endProduce | .setMinUnbond _
  | .setBoostedPct _ | .setFactors _ | .collectUndistributed | .pause | .resume => true
  | _ => false

/-- model-side reading of a table guard for the caller a staking operation carries.  `whitelisted`: the caller
    of a proxy endpoint or of an operation naming an original caller is on the contract whitelist; `hubAgent`:
    the user named by `stakeBehalf` — resp. the ONE owner recorded by every position paid into `claimBehalf` —
    authorised the caller in the permissions hub (the staking world's hub has no blacklist); `nobody`: never.
    A permission mask is read as `True` for the caller-less admin operations — nothing is claimed there. -/
def stakingGuardHolds (s : Staking.St) (op : Staking.Op) (g : Guard) : Prop :=
  match g, op with
  | .anyone, _ => True
  | .whitelisted, .stakeProxy c .. | .whitelisted, .claimNew c .. | .whitelisted, .unstakeProxy c ..
  | .whitelisted, .stake c (some _) .. | .whitelisted, .claim c (some _) _
  | .whitelisted, .unstake c (some _) _ => c ∈ s.whitelist
  | .hubAgent, .stakeBehalf c u _ _ => (u, c) ∈ s.hub
  | .hubAgent, .claimBehalf c pays =>
      ∃ u, (∀ p ∈ pays, ∃ a, posOf s.md p.1 = some a ∧ a.owner = u) ∧ (u, c) ∈ s.hub
  | .perm _, o => stakingCallerless o = true
  | _, _ => False

/-- the rows of the staking table that the operations of the staking model are compared with -/
theorem staking_rows : Rows .staking [
    cfg "pause" gPause, cfg "resume" gPause,
    uf "claimRewards", ob "claimRewards@orig" .whitelisted, uf "mergeFarmTokens", uf "claimBoostedRewards",
    ⟨"claimBoostedRewards@other", .onBehalf, .nobody, .active, .na⟩,
    cfg "startProduceRewards" gAdmin, cfg "endProduceRewards" gAdmin, cfg "setPerBlockRewardAmount" gAdmin,
    cfg "setBoostedYieldsRewardsPercentage" gAdmin, cfg "collectUndistributedBoostedRewards" gAdmin,
    cfg "setBoostedYieldsFactors" gAdmin, ob "claimRewardsOnBehalf" .hubAgent .positionOwner,
    Access.op "updateEnergyForUser", vwNobody "calculateRewardsForGivenPosition",
    uf "stakeFarm", ob "stakeFarm@orig" .whitelisted, uf "unstakeFarm", ob "unstakeFarm@orig" .whitelisted,
    uf "compoundRewards", uf "unbondFarm", ob "stakeFarmThroughProxy" .whitelisted,
    ob "claimRewardsWithNewValue" .whitelisted, ob "unstakeFarmThroughProxy" .whitelisted,
    ob "stakeFarmOnBehalf" .hubAgent, cfg "topUpRewards" gAdmin, cfg "withdrawRewards" gAdmin,
    cfg "setMaxApr" gAdmin, cfg "setMinUnbondEpochs" gAdmin] :=
  rows (by decide +kernel)

/-- **bridge, staking.**  Whenever an operation of the staking model succeeds, its table row exists, the row's
    guard holds for the operation's caller, and the row's state requirement is met by the kill switch. -/
theorem staking_step_allowed (s : Staking.St) (op : Staking.Op) (r : Staking.St × Staking.Out) (c : Contract)
    (e : String) (he : stakingEndpoint op = some (c, e)) (h : Staking.step s op = some r) :
    Allowed c e (stakingGuardHolds s op) (farmCState s.active) := by
  have hst : stakingUserFundsOp op = true → stateOk .active (farmCState s.active) = true := by
    intro hf; rw [staking_funds_need_active s op r hf h]; rfl
  have hwl := fun ca hop => staking_contract_ops_need_whitelist s op ca r hop h
  have R := staking_rows
  have H := hub_rows
  simp only [Rows, cfg, uf, ob, Access.op, vwNobody] at R H
  rw [allowed_iff]
  cases op with
  | stake ca og _ _ | claim ca og _ | unstake ca og _ =>
    cases og <;> cases he <;> simp only [R]
    · exact ⟨trivial, hst rfl⟩
    · exact ⟨hwl ca (by simp), hst rfl⟩
  | stakeProxy ca _ _ _ | claimNew ca _ _ _ | unstakeProxy ca _ _ _ =>
    cases he; simp only [R]
    exact ⟨hwl ca (by simp), hst rfl⟩
  | stakeBehalf ca u a ads =>
    cases he; simp only [R]
    exact ⟨(staking_stake_on_behalf s ca u a ads r h).1, hst rfl⟩
  | claimBehalf ca ps =>
    cases he; simp only [R]
    obtain ⟨s', o⟩ := r
    obtain ⟨u, _, _, h3, h4, _⟩ := staking_claim_on_behalf s s' ca ps o h
    exact ⟨⟨u, h3, h4⟩, hst rfl⟩
  | compound _ _ | unbond _ _ | merge _ _ =>
    cases he; simp only [R]
    exact ⟨trivial, hst rfl⟩
  | claimBoosted ca ou =>
    cases ou with
    | none =>
      cases he; simp only [R]
      exact ⟨trivial, hst rfl⟩
    | some u =>
      have hu : u = ca := by
        cases Step.of_step (s' := r.1) (o := r.2) h with
        | claimBoosted _ hc => exact Option.some.inj ((claimBoostedRewards_needs hc).2.resolve_left nofun)
      cases hu; cases he; simp only [if_true, R]
      exact ⟨trivial, hst rfl⟩
  | «calc» q a t =>
    cases q with
    | true => cases he
    | false =>
      obtain ⟨s', o⟩ := r
      cases Step.of_step h with
      | query h2 => simp [calcRewards, req] at h2
  | updateEnergy _ | hubWhitelist _ _ | hubRemove _ _ =>
    cases he; simp only [R, H]
    exact ⟨trivial, rfl⟩
  | topUp _ | withdraw _ | setMaxApr _ | setPerBlock _ | startProduce | endProduce | setMinUnbond _
  | setBoostedPct _ | setFactors _ | collectUndistributed | pause | resume =>
    cases he; simp only [R]
    exact ⟨rfl, rfl⟩
  | transfer _ _ _ | setEnergy _ _ _ | advance _ _ => cases he

/-- contrapositive of the bridge, staking: if the table's state requirement of the operation's row is NOT met by the kill switch,
    the operation fails — for every caller and all arguments -/
theorem staking_table_state_blocks (s : Staking.St) (op : Staking.Op) (c : Contract) (e : String) (ent : Entry)
    (he : stakingEndpoint op = some (c, e)) (hl : lookup c e = some ent)
    (hs : stateOk ent.st (farmCState s.active) = false) : Staking.step s op = none :=
  none_of_state (fun r hstep => staking_step_allowed s op r c e he hstep) hl hs

/-- **class agreement, staking.**  For every operation of the staking model that has a row: the operation is in
    `C19Models.stakingUserFundsOp` (the list `staking_paused_blocks_funds` gates) IF AND ONLY IF the table's class
    of its row is `userFunds` or `onBehalf`.  (`topUpRewards` / `withdrawRewards` move reward tokens but are
    class `config`, guard ADMIN, state `any` in the table, and un-gated in the model: both sides agree that the
    admin can fund and de-fund a paused farm.) -/
theorem staking_class_agreement (op : Staking.Op) (c : Contract) (e : String)
    (he : stakingEndpoint op = some (c, e)) :
    (clsOf c e).map (fun x => decide (x = .userFunds ∨ x = .onBehalf)) = some (stakingUserFundsOp op) := by
  have R := staking_rows
  have H := hub_rows
  simp only [Rows, cfg, uf, ob, Access.op, vwNobody] at R H
  unfold clsOf
  cases op with
  | stake _ og _ _ | claim _ og _ | unstake _ og _ =>
    cases og <;> cases he <;> simp [R, stakingUserFundsOp]
  | claimBoosted ca ou =>
    cases ou with
    | none => cases he; simp [R, stakingUserFundsOp]
    | some u => cases he; split <;> simp [R, stakingUserFundsOp]
  | «calc» q a t =>
    cases q with
    | true => cases he
    | false => cases he; simp [R, stakingUserFundsOp]
  | transfer | setEnergy | advance => cases he
  | _ => cases he; simp [R, H, stakingUserFundsOp]

end staking

/-! ## energy factory world (energy factory + token-unstake + lkmex-transfer + locked-token wrapper) -/

section energy
open Mx.Energy

/-- the energy factory's pause flag as the table's contract state -/
def energyCState (paused : Bool) : CState := if paused then .inactive else .active

/-- the table rows an operation of the energy world passes through, in call order (contract, endpoint).  The
    satellite contracts' endpoints call back into the factory: `cancel` = token-unstake `cancelUnbond` →
    factory `revertUnstake`; `lockFunds` / `withdraw` / `cancelTransfer` = lkmex-transfer → factory
    `setUserEnergyAfterLockedTokenTransfer`; `wrap` / `unwrap` = the locked-token wrapper (not a contract of the
    table) → the same factory endpoint.  `extend` is `lockTokens` paid with locked tokens.  `merge c orig …` is the
    `@orig` row iff an original caller is named (`orig ≠ 0`).  `cfg (setBurnPct _)` is token-unstake's
    `setFeesBurnPercentage`.  `xferWrapped` (plain ESDT transfer) and `advance` pass through no endpoint. -/
def energyPath : Energy.Op → List (Contract × String)
  | .lock .. | .extend .. => [(.energy, "lockTokens")]
  | .unlock .. => [(.energy, "unlockTokens")]
  | .merge _ orig _ => [(.energy, if orig = 0 then "mergeTokens" else "mergeTokens@orig")]
  | .unlockEarly .. => [(.energy, "unlockEarly")]
  | .reduce .. => [(.energy, "reduceLockPeriod")]
  | .lockVirtual .. => [(.energy, "lockVirtual")]
  | .claim _ => [(.unstake, "claimUnlockedTokens")]
  | .cancel _ => [(.unstake, "cancelUnbond"), (.energy, "revertUnstake")]
  | .lockFunds .. => [(.lkmex, "lockFunds"), (.energy, "setUserEnergyAfterLockedTokenTransfer")]
  | .withdraw .. => [(.lkmex, "withdraw"), (.energy, "setUserEnergyAfterLockedTokenTransfer")]
  | .cancelTransfer .. => [(.lkmex, "cancelTransfer"), (.energy, "setUserEnergyAfterLockedTokenTransfer")]
  | .wrap .. | .unwrap .. => [(.energy, "setUserEnergyAfterLockedTokenTransfer")]
  | .cfg (.addOptions _) => [(.energy, "addLockOptions")]
  | .cfg (.setBurnPct _) => [(.unstake, "setFeesBurnPercentage")]
  | .cfg (.pause true) => [(.energy, "pause")]
  | .cfg (.pause false) => [(.energy, "unpause")]
  | .cfg (.whitelist _) => [(.energy, "addSCAddressToWhitelist")]
  | .cfg (.unwhitelist _) => [(.energy, "removeSCAddressFromWhitelist")]
  | .xferWrapped .. | .advance _ => []

/-- model-side reading of a table guard for the caller an energy-world operation carries.  `whitelisted`: the
    caller of `lockVirtual`, and of `mergeTokens` naming an original caller, is on the factory's contract
    whitelist; for the call-back rows (`revertUnstake`, `setUserEnergyAfterLockedTokenTransfer`) the caller is the
    satellite contract itself, which the model hard-wires as configured (token-unstake address / token-transfer
    whitelist) — read as `True`.  `cfg …` and `cancelTransfer` carry NO caller (applied by the world as the
    owner / lkmex admin): a restricted guard is read as `True` — nothing is claimed there. -/
def energyGuardHolds (s : Energy.St) (op : Energy.Op) (g : Guard) : Prop :=
  match g, op with
  | .anyone, _ => True
  | .whitelisted, .lockVirtual c .. => c ∈ s.wl
  | .whitelisted, .merge c _ _ => c ∈ s.wl
  | .whitelisted, .cancel _ | .whitelisted, .lockFunds .. | .whitelisted, .withdraw ..
  | .whitelisted, .cancelTransfer .. | .whitelisted, .wrap .. | .whitelisted, .unwrap .. => True
  | .scOwner, .cfg _ => True
  | .perm _, .cancelTransfer .. => True
  | _, _ => False

/-- the rows of the energy factory, token-unstake and lkmex-transfer tables on the paths of the energy world's
    operations -/
theorem energy_rows :
    Rows .energy [uf "lockTokens", uf "unlockTokens", uf "unlockEarly", uf "reduceLockPeriod", uf "mergeTokens",
      ob "mergeTokens@orig" .whitelisted, co "revertUnstake", co "lockVirtual",
      co "setUserEnergyAfterLockedTokenTransfer", Access.cfg "addLockOptions" .scOwner, Access.cfg "pause" .scOwner,
      Access.cfg "unpause" .scOwner, Access.cfg "addSCAddressToWhitelist" .scOwner,
      Access.cfg "removeSCAddressFromWhitelist" .scOwner] ∧
    Rows .unstake [uf "claimUnlockedTokens" .any, uf "cancelUnbond" .any, Access.cfg "setFeesBurnPercentage" .scOwner] ∧
    Rows .lkmex [uf "withdraw" .any, uf "lockFunds" .any, Access.cfg "cancelTransfer" gAdmin] :=
  ⟨rows (by decide +kernel), rows (by decide +kernel), rows (by decide +kernel)⟩

/-- **bridge, energy world.**  Whenever an operation of the energy-world model succeeds, EVERY table row on its
    path exists, the row's guard holds for the operation's caller, and the row's state requirement is met by the
    factory's pause flag (token-unstake and lkmex-transfer have no kill switch: their rows require no state; the
    factory rows the satellites call back into require the factory unpaused). -/
theorem energy_step_allowed (s : Energy.St) (op : Energy.Op) (r : Energy.St × Energy.Out)
    (h : Energy.step s op = some r) :
    ∀ ce ∈ energyPath op, Allowed ce.1 ce.2 (energyGuardHolds s op) (energyCState s.paused) := by
  have hst : energyUserFundsOp op = true → stateOk .active (energyCState s.paused) = true := by
    intro hf
    cases hp : s.paused with
    | false => rfl
    | true => rw [energy_paused_blocks_funds s op hp hf] at h; cases h
  have R := energy_rows
  simp only [Rows, Access.cfg, uf, ob, co] at R
  cases op with
  | lock | extend | unlock | unlockEarly | reduce | wrap | unwrap =>
    simp only [energyPath, List.forall_mem_singleton, allowed_iff, R]
    exact ⟨trivial, hst rfl⟩
  | cancel | lockFunds | withdraw | cancelTransfer =>
    simp only [energyPath, forall_mem_pair, allowed_iff, R]
    exact ⟨⟨trivial, rfl⟩, trivial, hst rfl⟩
  | lockVirtual c amt ep d ea =>
    simp only [energyPath, List.forall_mem_singleton, allowed_iff, R]
    exact ⟨lockVirtual_wl h, hst rfl⟩
  | merge c orig ps =>
    by_cases ho : orig = 0 <;> simp only [energyPath, List.forall_mem_singleton, allowed_iff, ho, if_true, if_false,
      R]
    · exact ⟨trivial, hst rfl⟩
    · exact ⟨(mergeTokens_wl h).resolve_left ho, hst rfl⟩
  | claim c =>
    simp only [energyPath, List.forall_mem_singleton, allowed_iff, R]
    exact ⟨trivial, rfl⟩
  | cfg o =>
    cases o with
    | pause b =>
      cases b <;> simp only [energyPath, List.forall_mem_singleton, allowed_iff, R] <;> exact ⟨trivial, rfl⟩
    | _ =>
      simp only [energyPath, List.forall_mem_singleton, allowed_iff, R]
      exact ⟨trivial, rfl⟩
  | xferWrapped | advance => exact fun _ hce => nomatch hce

/-- contrapositive of the bridge, energy world: if the state requirement of ANY row on the operation's path is not met by the
    factory's pause flag, the operation fails — for every caller and all arguments -/
theorem energy_table_state_blocks (s : Energy.St) (op : Energy.Op) (ce : Contract × String) (ent : Access.Entry)
    (hce : ce ∈ energyPath op) (hl : lookup ce.1 ce.2 = some ent)
    (hs : stateOk ent.st (energyCState s.paused) = false) : Energy.step s op = none :=
  none_of_state (fun r hstep => energy_step_allowed s op r hstep ce hce) hl hs

/-- **class agreement, energy world.**  An operation is in `C19Models.energyUserFundsOp` (the list
    `energy_paused_blocks_funds` gates) IF AND ONLY IF its path contains an energy-FACTORY row of class
    `userFunds`, `onBehalf` or `contractOnly` (all of which require the factory unpaused).  The one fund-moving
    user operation outside the list, `claim`, passes through token-unstake's `claimUnlockedTokens` only, which
    is class `userFunds` with state requirement `any` in the table (token-unstake has no kill switch). -/
theorem energy_class_agreement (op : Energy.Op) :
    (energyPath op).any (fun ce => decide (ce.1 = Contract.energy ∧
        (clsOf ce.1 ce.2 = some .userFunds ∨ clsOf ce.1 ce.2 = some .onBehalf ∨
         clsOf ce.1 ce.2 = some .contractOnly))) = energyUserFundsOp op := by
  have R := energy_rows
  simp only [Rows, Access.cfg, uf, ob, co] at R
  cases op with
  | merge c orig ps =>
    simp only [energyPath]
    split <;> simp only [List.any_cons, List.any_nil, clsOf, R, Option.map_some, energyUserFundsOp] <;>
      decide
  | cfg o =>
    cases o with
    | pause b =>
      cases b <;>
        simp only [energyPath, List.any_cons, List.any_nil, clsOf, R, Option.map_some,
          energyUserFundsOp] <;> decide
    | _ =>
      simp only [energyPath, List.any_cons, List.any_nil, clsOf, R, Option.map_some, energyUserFundsOp]
      decide
  | xferWrapped _ _ _ _ | advance _ => rfl
  | _ =>
    simp only [energyPath, List.any_cons, List.any_nil, clsOf, R, Option.map_some, energyUserFundsOp]
    decide

end energy

/-! ## router (its own endpoints, and the users' direct calls to the pairs it deployed) -/

section router
open Mx.Router

/-- the router's `state` flag as the table's contract state -/
def routerCState (active : Bool) : CState := if active then .active else .inactive

/-- the router-table row of an operation of the router world.  `createPair` is the owner's row `createPair`
    when the caller is the router's owner and the open row `createPair@enabled` otherwise, and likewise
    `issueLp` ↦ `issueLpToken` / `issueLpToken@enabled` (the temporary-owner rule of `issueLpToken` — while the
    creator's entry is live the caller must be that creator, the router owner included — is finer than the
    table's two rows; it is `C14Admin.issue_caller_rule`); `enablePlain` (`setSwapEnabledByUser` paid with a plain
    token) is the same endpoint as `enableByUser`; `advanceBlock` (block nonce) and `bareNext` (harness
    environment flag) are no endpoint.  The users' direct
    calls to pair contracts have no ROUTER row (see `routerPairRow`); `lock` / `unlock` (simple-lock) and
    `advance` have none. -/
def routerEndpoint (s : Router.St) : Router.Op → Option String
  | .createPair c .. => some (if c = s.owner then "createPair" else "createPair@enabled")
  | .removePair .. => some "removePair"
  | .setCreation .. => some "setPairCreationEnabled"
  | .setTemplate _ => some "setPairTemplateAddress"
  | .pause .. => some "pause"
  | .resume .. => some "resume"
  | .setFeeOn .. => some "setFeeOn"
  | .setFeeOff .. => some "setFeeOff"
  | .multi .. => some "multiPairSwap"
  | .configEnable .. => some "configEnableByUserParameters"
  | .addCommon .. => some "addCommonTokensForUserPairs"
  | .removeCommon .. => some "removeCommonTokensForUserPairs"
  | .enableByUser .. | .enablePlain .. => some "setSwapEnabledByUser"
  | .setTmpPeriod .. => some "setTemporaryOwnerPeriod"
  | .clearTmp _ => some "clearPairTemporaryOwnerStorage"
  | .issueLp c _ => some (if c = s.owner then "issueLpToken" else "issueLpToken@enabled")
  | .setLocalRoles .. => some "setLocalRoles"
  | .upgradePair .. => some "upgradePair"
  | .addInitial .. | .addLiq .. | .removeLiq .. | .swapIn .. | .swapOut .. | .lock .. | .unlock ..
  | .advance _ | .advanceBlock _ | .bareNext _ => none

/-- model-side reading of a table guard for the caller a router operation carries: `scOwner` / `storedOwner`
    (the model keeps ONE owner: account owner = `owner` storage cell = deployer): the caller is `s.owner`;
    `adder`: the caller of `setSwapEnabledByUser` is the target pair's initial-liquidity adder -/
def routerGuardHolds (s : Router.St) (op : Router.Op) (g : Guard) : Prop :=
  match g, op with
  | .anyone, _ => True
  | .storedOwner, .createPair c .. => c = s.owner
  | .storedOwner, .issueLp c _ => c = s.owner
  | .scOwner, o =>
      match routerAdminCaller o with
      | some c => c = s.owner
      | none => False
  | .adder, .enableByUser c a _ _ => ∃ p, s.pairs a = some p ∧ p.st.adder = some c
  | _, _ => False

/-- the rows of the router table that the router's own endpoints are compared with -/
theorem router_rows : Rows .router [
    cfg "pause" .scOwner, cfg "resume" .scOwner, cfg "createPair" .storedOwner .active,
    Access.op "createPair@enabled" .active, cfg "upgradePair" .scOwner .active,
    cfg "issueLpToken" .storedOwner .active, Access.op "issueLpToken@enabled" .active,
    Access.op "setLocalRoles" .active, cfg "removePair" .scOwner .active, cfg "setFeeOn" .scOwner .active,
    cfg "setFeeOff" .scOwner .active, cfg "setPairCreationEnabled" .scOwner, cfg "setTemporaryOwnerPeriod" .scOwner,
    cfg "setPairTemplateAddress" .scOwner, cfg "clearPairTemporaryOwnerStorage" .scOwner,
    cfg "configEnableByUserParameters" .scOwner, cfg "addCommonTokensForUserPairs" .scOwner,
    cfg "removeCommonTokensForUserPairs" .scOwner, uf "multiPairSwap",
    ⟨"setSwapEnabledByUser", .bootstrap, .adder, .active, .na⟩] :=
  rows (by decide +kernel)

/-- **bridge, router.**  Whenever one of the router's own endpoints succeeds in the model, its table row exists,
    the row's guard holds for the caller, and the row's state requirement is met by the router's `state` flag. -/
theorem router_step_allowed (s : Router.St) (op : Router.Op) (r : Router.St × Router.Out) (e : String)
    (he : routerEndpoint s op = some e) (h : Router.step s op = some r) :
    Allowed .router e (routerGuardHolds s op) (routerCState s.active) := by
  obtain ⟨s', o⟩ := r
  have hst : s.active = true → stateOk .active (routerCState s.active) = true := by
    intro ha; rw [ha]; rfl
  have own : ∀ c, routerAdminCaller op = some c → c = s.owner :=
    fun c hc => router_admin_needs_owner s op c (s', o) hc h
  have hact := router_gated_needs_active s op _ h
  have R := router_rows
  simp only [Rows, cfg, uf, Access.op] at R
  rw [allowed_iff]
  cases op with
  | createPair c _ _ _ _ | issueLp c _ =>
    cases he
    by_cases hc : c = s.owner <;> simp only [hc, if_true, if_false, R]
    · exact ⟨rfl, hst hact⟩
    · exact ⟨trivial, hst hact⟩
  | setLocalRoles _ _ | multi _ _ _ _ =>
    cases he; simp only [R]
    exact ⟨trivial, hst hact⟩
  | enableByUser c a k amt =>
    cases he; simp only [R]
    obtain ⟨p, _, _, t⟩ := enableByUser_spec h
    exact ⟨⟨p, t.pairs, t.adder⟩, hst hact⟩
  | enablePlain c a tok amt => simp [Router.step, enablePlain] at h
  | removePair c _ _ | setFeeOn c _ _ | setFeeOff c _ _ _ | upgradePair c _ _ =>
    cases he; simp only [R]
    exact ⟨own c rfl, hst hact⟩
  | setCreation c _ | setTemplate c | pause c _ | resume c _ | configEnable c _ _ _ _ | addCommon c _ | removeCommon c _
  | setTmpPeriod c _ | clearTmp c =>
    cases he; simp only [R]
    exact ⟨own c rfl, rfl⟩
  | advanceBlock _ | bareNext _ | addInitial _ _ _ _ | addLiq _ _ _ _ _ _ | removeLiq _ _ _ _ _ | swapIn _ _ _ _ _ _
  | swapOut _ _ _ _ _ _ | lock _ _ _ _ _ | unlock _ _ _ | advance _ => cases he

/-- contrapositive of the bridge, router: if the table's state requirement of the operation's row is NOT met by the router's
    `state` flag, the operation fails — for every caller and all arguments -/
theorem router_table_state_blocks (s : Router.St) (op : Router.Op) (e : String) (ent : Entry)
    (he : routerEndpoint s op = some e) (hl : lookup .router e = some ent)
    (hs : stateOk ent.st (routerCState s.active) = false) : Router.step s op = none :=
  none_of_state (fun r hstep => router_step_allowed s op r e he hstep) hl hs

/-- a user's direct call to pair contract `a` in the router world: the target and the PAIR-table row (the row
    of `addInitial` depends on whether the pair `p` has a configured adder, as in `pairEndpoint`) -/
def routerPairRow (p : Pair.St) : Router.Op → Option (Router.Addr × String)
  | .addInitial _ a .. => some (a, if p.adder = none then "addInitialLiquidity" else "addInitialLiquidity@adder")
  | .addLiq _ a .. => some (a, "addLiquidity")
  | .removeLiq _ a .. => some (a, "removeLiquidity")
  | .swapIn _ a .. => some (a, "swapTokensFixedInput")
  | .swapOut _ a .. => some (a, "swapTokensFixedOutput")
  | _ => none

/-- the address a direct pair call is sent to -/
def routerPairTarget : Router.Op → Option Router.Addr
  | .addInitial _ a .. | .addLiq _ a .. | .removeLiq _ a .. | .swapIn _ a .. | .swapOut _ a .. => some a
  | _ => none

/-- **bridge, the users' direct pair calls in the composed world.**  Whenever a user's add-initial / add / remove
    liquidity or swap addressed to pair contract `a` succeeds, that pair exists, and the PAIR table's row of the
    call exists, its guard holds (the bootstrap caller is the configured adder when there is one) and its state
    requirement is met by THAT pair's status. -/
theorem router_pair_call_allowed (s : Router.St) (op : Router.Op) (r : Router.St × Router.Out) (a : Router.Addr)
    (ha : routerPairTarget op = some a) (h : Router.step s op = some r) :
    ∃ p, s.pairs a = some p ∧ ∃ e, routerPairRow p.st op = some (a, e) ∧
      Allowed .pair e (fun g => g = .anyone ∨ (g = .adder ∧ ∃ u a1 a2, op = .addInitial u a a1 a2 ∧ p.st.adder = some u))
        (pairCState p.st.status) := by
  have hd : ∃ d pop, directOp d op = some (a, pop) := by
    cases op <;> simp only [routerPairTarget, Option.some.injEq, reduceCtorEq] at ha <;> subst ha <;> exact ⟨.ab, _, rfl⟩
  -- the call is a step of the pair model on pair `a`, so the pair's own bridge applies; of the guards the pair model
  -- reads, only `anyone` and `adder` concern these five operations
  obtain ⟨p, d, pop, q, hp, hd, hstep⟩ := direct_step h hd
  refine ⟨p, hp, ?_⟩
  cases op <;> simp only [directOp, Option.some.injEq, Prod.mk.injEq, reduceCtorEq] at hd <;> obtain ⟨rfl, rfl⟩ := hd
  · refine ⟨_, rfl, (pair_step_allowed p.st _ q _ rfl hstep).mono fun g hg => ?_⟩
    cases g with
    | anyone => exact .inl rfl
    | adder => exact .inr ⟨rfl, _, _, _, rfl, hg⟩
    | _ => exact hg.elim
  all_goals
    refine ⟨_, rfl, (pair_step_allowed p.st _ q _ rfl hstep).mono fun g hg => ?_⟩
    cases g with
    | anyone => exact .inl rfl
    | _ => exact hg.elim

end router

/-! ## guard agreement with the ROLES of the matrix world, and non-vacuity -/

section roles

/-- the row exists, its guard is restricted, a privileged role of the matrix world's deployment passes it (`owner`,
    who holds OWNER|PAUSE and owns the contract, or `admin`, who holds ADMIN), and no unprivileged role (plain user,
    whitelisted contract, hub agent, revoked agent, blacklisted agent) does -/
def privilegedOnly (c : Contract) (e : String) : Bool :=
  match lookup c e with
  | some ent => ent.guard.restricted && (guardOk c ent.guard .owner || guardOk c ent.guard .admin) &&
      [Role.user, .wsc, .agent, .revoked, .blacklisted].all (fun r => !guardOk c ent.guard r)
  | none => false

/-- **guard agreement, farm admin operations.**  The farm model checks ONE thing for its ten configuration / admin
    operations: the caller is the admin account (`isAdmin`; `farm_admin_needs_role`).  The table's rows of exactly
    these operations (guards ADMIN, PAUSE, `#[only_owner]`) are all restricted, are passed by a privileged role of
    the matrix world and by no unprivileged role: model and table agree on "privileged only".  The model is
    COARSER than the table: its one admin account holds OWNER|ADMIN|PAUSE (the farm world deploys the farm with the
    owner in the `admins` list), whereas in the matrix world `owner` (OWNER|PAUSE, contract owner) and `admin`
    (ADMIN) are different accounts — `farm_admin_rows_split` shows that no single role of the matrix world passes
    all ten rows (the real contract's owner cannot call an ADMIN-only endpoint unless it is also listed as admin;
    the matrix world checks that, `C19.admin_needs_role`; the farm model cannot express it). -/
theorem farm_admin_guard_agreement (k : Farm.Kind) (op : Farm.Op) (ca : Nat) (c : Contract) (e : String)
    (hca : farmAdminCaller op = some ca) (he : farmEndpoint k op = some (c, e)) : privilegedOnly c e = true := by
  have R := farm_rows k
  simp only [Rows, farmRows, cfg, uf, ob, Access.op] at R
  unfold privilegedOnly
  cases op <;> simp only [farmAdminCaller, reduceCtorEq] at hca <;> cases he <;> simp only [R] <;>
    cases k <;> decide +kernel

/-- the split the farm model does not see: in the matrix world's deployment the ADMIN-only rows are passed by `admin`
    and NOT by `owner`; the `#[only_owner]` and PAUSE rows by `owner` and NOT by `admin` -/
theorem farm_admin_rows_split :
    ∀ c ∈ [Contract.farm, .fwlr],
      (∀ e ∈ ["setPerBlockRewardAmount", "startProduceRewards", "endProduceRewards",
              "setBoostedYieldsRewardsPercentage", "setBoostedYieldsFactors", "collectUndistributedBoostedRewards",
              "set_minimum_farming_epochs"], allowed c e .admin .active = true ∧ allowed c e .owner .active = false) ∧
      (∀ e ∈ ["pause", "resume", "set_penalty_percent"],
        allowed c e .owner .active = true ∧ allowed c e .admin .active = false) := by decide +kernel

/-- **guard agreement, router owner operations.**  Every operation for which the router model checks
    `caller = owner` (`router_admin_needs_owner`, `setTemporaryOwnerPeriod` / `clearPairTemporaryOwnerStorage` /
    `upgradePair` included), and `createPair` / `issueLpToken` by the owner, is a row guarded by the contract
    owner / the stored owner in the table: restricted, passed by the `owner` role, by no unprivileged role. -/
theorem router_admin_guard_agreement (s : Router.St) (op : Router.Op) (ca : Router.Addr) (e : String)
    (hca : routerAdminCaller op = some ca ∨ (∃ t1 t2 ad f, op = .createPair s.owner t1 t2 ad f) ∨
           ∃ a, op = .issueLp s.owner a)
    (he : routerEndpoint s op = some e) : privilegedOnly .router e = true := by
  have R := router_rows
  simp only [Rows, cfg, uf, Access.op] at R
  unfold privilegedOnly
  rcases hca with hca | ⟨t1, t2, ad, f, rfl⟩ | ⟨a, rfl⟩
  · cases op <;> simp only [routerAdminCaller, reduceCtorEq] at hca <;> cases he <;> simp only [R] <;>
      decide +kernel
  · cases he; simp only [if_true, R]; decide +kernel
  · cases he; simp only [if_true, R]; decide +kernel

/-- **guard agreement, the pair's locking setters.**  The pair model's `lock owner …` operations succeed only with
    `owner = true` (`pair_contract_ops_need_role`); their rows are guarded by the OWNER permission in the table:
    restricted, passed by the `owner` role (the router's owner holds OWNER on every pair), by no unprivileged role. -/
theorem pair_lock_guard_agreement (s : Pair.St) (ow : Bool) (l : Pair.LockOp) (e : String)
    (he : pairEndpoint s (.lock ow l) = some e) : privilegedOnly .pair e = true := by
  have R := pair_rows
  simp only [Rows, cfg, uf, co] at R
  unfold privilegedOnly
  cases l <;> cases he <;> simp only [R] <;> decide +kernel

/-- **on-behalf rows, both readings agree.**  The rows the models read as "the user authorised the caller in the
    permissions hub and the caller is not blacklisted" (`hubAgent`) are passed, in the matrix world's hub history,
    by the authorised `agent` and by nobody else — not by the revoked agent, the blacklisted agent, a plain user,
    a whitelisted contract or the owner; the rows read as "caller on the contract whitelist" (`whitelisted`) are
    passed by the whitelisted contract `wsc` only. -/
theorem on_behalf_guard_roles :
    ∀ c ∈ [Contract.farm, .fwlr, .staking, .energy], ∀ ent ∈ table c, ent.cls = .onBehalf →
      (ent.guard = .hubAgent ∧ ∀ r ∈ Role.all, guardOk c ent.guard r = decide (r = .agent)) ∨
      (ent.guard = .whitelisted ∧ ∀ r ∈ Role.all, guardOk c ent.guard r = decide (r = .wsc)) ∨
      (ent.guard = .nobody) := by decide +kernel

end roles

section nonvacuity

/-- non-vacuity (pair): in a reachable PartialActive pair `addLiquidity` succeeds and has a row (hypotheses of
    `pair_step_allowed`), while the row of `swapTokensFixedInput` refuses the state (hypotheses of
    `pair_table_state_blocks`) -/
example :
    let s := Pair.run (Pair.init 300 50 none 8) [.addInitial 1 1000000 2000000]
    (Pair.step s (.addLiq 5000 10000 1 1)).isSome = true ∧
    pairEndpoint s (.addLiq 5000 10000 1 1) = some "addLiquidity" ∧
    pairEndpoint s (.swapIn .ab 1000 1) = some "swapTokensFixedInput" ∧
    ((lookup .pair "swapTokensFixedInput").map fun ent => stateOk ent.st (pairCState s.status)) = some false := by
  decide +kernel

/-- non-vacuity (farm, locked-rewards kind): an authorised agent's `claimRewardsOnBehalf` succeeds and has a row;
    after the owner's `pause` the row's state requirement is refused (and the call fails), while rows with state
    requirement `any` (`setPerBlockRewardAmount`) still succeed — the table's `any` is not laxer than the model -/
example :
    let s := Farm.run (Farm.init .noMint false 1000000000000 1000 true [1, 2, 3] 0)
      [.enter 1 none 100000000 [], .hubWhitelist 1 2, .transfer 1 2 1 100000000, .advance 10 6]
    let p := Farm.run s [.pause Farm.OWNER]
    (Farm.step s (.claimOB 2 [(1, 100000000)])).isSome = true ∧
    farmEndpoint s.kind (.claimOB 2 [(1, 100000000)]) = some (.fwlr, "claimRewardsOnBehalf") ∧
    ((lookup .fwlr "claimRewardsOnBehalf").map fun ent => stateOk ent.st (farmCState p.active)) = some false ∧
    Farm.step p (.claimOB 2 [(1, 100000000)]) = none ∧
    (Farm.step p (.setPerBlock Farm.OWNER 500)).isSome = true ∧
    ((lookup .fwlr "setPerBlockRewardAmount").map fun ent => stateOk ent.st (farmCState p.active)) = some true := by
  decide +kernel

/-- non-vacuity (staking): the same for `claimRewardsOnBehalf`; `topUpRewards` (state `any`) succeeds while paused -/
example :
    let s := Staking.run (Staking.init 0 0 10000000000000000000 2500 10 100 [1, 2, 3, 101] [101])
      [.topUp 1000000, .stake 1 none 1000000000000 [], .hubWhitelist 1 2, .transfer 1 2 (1, 1000000000000),
       .advance 10 0]
    let p := Staking.run s [.pause]
    (Staking.step s (.claimBehalf 2 [(1, 1000000000000)])).isSome = true ∧
    stakingEndpoint (.claimBehalf 2 [(1, 1000000000000)]) = some (.staking, "claimRewardsOnBehalf") ∧
    ((lookup .staking "claimRewardsOnBehalf").map fun ent => stateOk ent.st (farmCState p.active)) = some false ∧
    Staking.step p (.claimBehalf 2 [(1, 1000000000000)]) = none ∧
    (Staking.step p (.topUp 5)).isSome = true := by
  decide +kernel

/-- non-vacuity (energy world): `unlockEarly` succeeds unpaused; paused, the factory row refuses; token-unstake's
    `cancelUnbond` row itself allows every state but the factory row on its path (`revertUnstake`) refuses, and the
    model's `cancel` fails; `claimUnlockedTokens` (no factory row on its path) succeeds while the factory is paused -/
example :
    let s := Energy.run (Energy.init ⟨100, [(360, 4000), (720, 6000), (1440, 8000)], 10, 5000, 2, 3, 3, 1000000⟩)
      [.lock 1 1000 360 0]
    let q := Energy.run s [.unlockEarly 1 1 100, .advance 111, .unlockEarly 1 1 100, .cfg (.pause true)]
    (Energy.step s (.unlockEarly 1 1 100)).isSome = true ∧
    energyPath (.cancel 1) = [(.unstake, "cancelUnbond"), (.energy, "revertUnstake")] ∧
    ((lookup .unstake "cancelUnbond").map fun ent => stateOk ent.st (energyCState q.paused)) = some true ∧
    ((lookup .energy "revertUnstake").map fun ent => stateOk ent.st (energyCState q.paused)) = some false ∧
    Energy.step q (.cancel 1) = none ∧
    (Energy.step (Energy.run q [.cfg (.pause false)]) (.cancel 1)).isSome = true ∧
    (Energy.step q (.claim 1)).isSome = true := by
  decide +kernel

/-- non-vacuity (router world): a multi-hop swap and a user's direct swap succeed on an Active router / pair and
    have rows; with the router paused the `multiPairSwap` row refuses the state and the call fails, while the
    owner's `setPairCreationEnabled` (state `any`) still succeeds and the direct swap on the (still Active) pair
    is unaffected — the router's pause is not a pair's pause, in the table and in the model alike -/
example :
    let funds : Router.Addr → Nat → Nat := fun a t => if a ≤ 100 ∧ 1 ≤ t ∧ t ≤ 3 then 1000000000000 else 0
    let s := Router.run (Router.init 100 200 true [] funds)
      [.createPair 100 1 2 0 (some (300, 50)), .addInitial 1 1000 1000000 2000000, .resume 100 1000]
    let p := Router.run s [.pause 100 200]
    (Router.step s (.multi 2 1 10000 [⟨1000, .fixedIn, 2, 1⟩])).isSome = true ∧
    routerEndpoint s (.multi 2 1 10000 [⟨1000, .fixedIn, 2, 1⟩]) = some "multiPairSwap" ∧
    ((lookup .router "multiPairSwap").map fun ent => stateOk ent.st (routerCState p.active)) = some false ∧
    Router.step p (.multi 2 1 10000 [⟨1000, .fixedIn, 2, 1⟩]) = none ∧
    (Router.step p (.setCreation 100 true)).isSome = true ∧
    routerPairTarget (.swapIn 2 1000 1 10000 2 1) = some 1000 ∧
    (Router.step p (.swapIn 2 1000 1 10000 2 1)).isSome = true := by
  decide +kernel

end nonvacuity

end Mx.C19Bridge
