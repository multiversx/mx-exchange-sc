/-
  C15 — Dual-yield (metastaking) tokens are fully backed and unwind to their parts.

  Statement: every dual-yield token is backed: for each outstanding nonce the proxy holds the
  LP-farm and staking-farm tokens recorded in it, a partial exit releases the proportional (floor)
  part, and the parts released over the token's life never exceed the whole.  Unstaking returns the
  other pool token, both farms' rewards and an unbond token for exactly the staking-token amount
  obtained from the removed liquidity; the proxy keeps no user funds, and the staked value it
  registers is the pool's safe price of the position, not the spot price.

  Model: Core/DualYield.lean — the PROXY's own logic.  Whatever the pair, the LP farm and the
  staking farm return is an argument of the operation (`StakeResp`, `ClaimResp`, `UnstakeResp`);
  every theorem is universally quantified over those responses, with the callee facts it needs
  as explicit hypotheses.  `holdLp`/`holdSt` are the proxy's balances of LP-farm / staking-farm
  tokens per nonce, `pass` its balances of the pass-through tokens, `Tok.out` the outstanding
  supply and `Tok.rel` the LP-farm amount released so far of one dual-yield nonce.  The
  composition with the real callees is validated by the correspondence run and the oracles of
  harness/src/bin/w_metastaking.rs.
-/
import MxModel.Lemmas.DualYieldInv
import MxModel.Lemmas.DualYieldLife
import MxModel.Lemmas.DualYieldSupply

namespace Mx.C15
open Mx.DualYield


/-- one transaction preserves the backing invariant (any operation, any callee responses) -/
theorem inv_step {s s' : St} {op : Op} {o : Out} (hi : Inv s) (h : step s op = some (s', o)) :
    Inv s' :=
  step_inv hi h

/-- the backing invariant holds after every history -/
theorem inv_run (ops : List Op) : Inv (run init ops) :=
  run_inv ops inv_init

/-- **dy_backed.**  After any history, for every LP-farm nonce `n` the proxy holds at least the
    sum of the (rounded-up) shares `⌈lpA·out/stA⌉` of the outstanding dual-yield tokens that record
    `n` — `≥`, because the floor of a partial exit leaves sub-unit dust behind — and for every
    staking-farm nonce exactly the outstanding supply recorded against it. -/
theorem dy_backed (ops : List Op) (n : Nat) :
    let s := run init ops
    needLp s.toks n ≤ s.holdLp n ∧ s.holdSt n = owedSt s.toks n := by
  intro s
  have hi := inv_run ops
  refine ⟨?_, hi.st n⟩
  rw [hi.lp n]
  exact needLp_le_owedLp n hi.toks

/-- dy_backed, the exact ledger behind it: the proxy's balance of LP-farm nonce `n` is the sum of
    the not-yet-released amounts `lpA − rel`, and each of them covers its outstanding share. -/
theorem dy_backed_exact (ops : List Op) :
    let s := run init ops
    (∀ n, s.holdLp n = owedLp s.toks n) ∧
      ∀ t ∈ s.toks, t.lpA * t.out ≤ (t.lpA - t.rel) * t.stA ∧ shareCeil t ≤ t.lpA - t.rel := by
  intro s
  have hi := inv_run ops
  exact ⟨hi.lp, fun t ht => ⟨(hi.toks t ht).share, shareCeil_le (hi.toks t ht)⟩⟩

/-- dy_backed, operationally: in every reachable state whoever holds `x` units of an outstanding
    dual-yield nonce can have them unwound — the proxy's farm-token balances never block it.
    (The only refusal left is `into_part`'s own "Zero amount" guard.) -/
theorem dy_redeemable (ops : List Op) {u d x p : Nat} {t : Tok}
    (hd : d ≠ 0) (ht : (run init ops).toks[d - 1]? = some t) (hx : x ≠ 0)
    (hu : x ≤ (run init ops).user u d) (hp : part t x = some p) :
    ∃ s', release (run init ops) u d x = some (s', p) :=
  release_ok (inv_run ops) hd ht hx hu
    (Nat.le_trans hu (outOf_eq hd ht ▸ holding_le_out (supply_run ops) u d)) hp

/-- the outstanding supply of every dual-yield nonce is exactly what the accounts hold: the proxy
    itself keeps no dual-yield tokens (`B` bounds the accounts that ever held one). -/
theorem dy_supply_is_held (ops : List Op) :
    ∃ B, (∀ u d, B ≤ u → (run init ops).user u d = 0) ∧
      ∀ d, held (run init ops).user B d = outOf (run init ops).toks d := by
  obtain ⟨B, h⟩ := supply_run ops
  exact ⟨B, h.bound, h.sum⟩


/-- **dy_part.**  `into_part`: paying the whole supply releases the whole LP-farm amount; paying
    `x` of `stA` releases `⌊lpA·x/stA⌋`, and the call fails when that is 0; the staking-farm part
    is `x` itself. -/
theorem dy_part {t : Tok} {x p : Nat} :
    part t x = some p ↔
      (x = t.stA ∧ p = t.lpA) ∨ (x ≠ t.stA ∧ t.stA ≠ 0 ∧ p = t.lpA * x / t.stA ∧ p ≠ 0) :=
  part_eq_some

/-- a partial/full exit releases exactly the part: `unstakeFarmTokens` with `x` units of nonce `d`
    takes `part t x` LP-farm tokens of nonce `t.lpN` and `x` staking-farm tokens of nonce `t.stN`
    out of the proxy and burns `x` of the caller's dual-yield tokens (the pass-through balances:
    `pass_through_untouched`). -/
theorem unstake_releases_part {s s' : St} {c d x : Nat} {r : UnstakeResp} {o : Out}
    (h : unstake s c d x r = some (s', o)) :
    ∃ t, s.toks[d - 1]? = some t ∧ part t x = some o.lpReleased ∧ o.stReleased = x ∧
      s'.holdLp = upd s.holdLp t.lpN (s.holdLp t.lpN - o.lpReleased) ∧ o.lpReleased ≤ s.holdLp t.lpN ∧
      s'.holdSt = upd s.holdSt t.stN (s.holdSt t.stN - x) ∧ x ≤ s.holdSt t.stN ∧
      s'.user = upd2 s.user c d (s.user c d - x) ∧ x ≤ s.user c d ∧
      s'.toks = s.toks.set (d - 1) (relTok t x o.lpReleased) := by
  obtain ⟨s1, p, hq, rfl, rfl⟩ := unstake_spec h
  obtain ⟨t, rel⟩ := release_spec hq
  obtain rfl := rel.state
  exact ⟨t, rel.lookup, rel.part, rfl, rfl, rel.holdLp, rfl, rel.holdSt, rfl, rel.user, rfl⟩


/-- **dy_parts_le_whole.**  After any history, for every dual-yield nonce the LP-farm amount
    released so far is at most the recorded whole, and the outstanding supply at most the minted
    supply (so the staking-farm amount released, `stA − out`, is at most the whole too). -/
theorem dy_parts_le_whole (ops : List Op) :
    ∀ t ∈ (run init ops).toks, t.rel ≤ t.lpA ∧ t.out ≤ t.stA := fun t ht =>
  ⟨((inv_run ops).toks t ht).rel_le, ((inv_run ops).toks t ht).out_le⟩

/-- … over the token's life: along any continuation of any history a nonce keeps its attributes,
    its released amount only grows and its outstanding supply only shrinks — and stays within the
    whole by the previous theorem. -/
theorem dy_token_life (before after : List Op) {i : Nat} {t : Tok}
    (h : (run init before).toks[i]? = some t) :
    ∃ t', (run init (before ++ after)).toks[i]? = some t' ∧
      t'.lpN = t.lpN ∧ t'.lpA = t.lpA ∧ t'.stN = t.stN ∧ t'.stA = t.stA ∧
      t.rel ≤ t'.rel ∧ t'.rel ≤ t.lpA ∧ t'.out ≤ t.out := by
  rw [run_append]
  obtain ⟨t', ht', l⟩ := run_grows (run init before) after i t h
  have hk : TokOk t' := by
    have := inv_run (before ++ after)
    rw [run_append] at this
    exact this.toks t' (List.mem_of_getElem? ht')
  exact ⟨t', ht', l.lpN, l.lpA, l.stN, l.stA, l.rel, l.lpA ▸ hk.rel_le, l.out⟩

/-- each release adds exactly its part to the released amount of the paid nonce -/
theorem release_accumulates {s s' : St} {u d x p : Nat} (h : release s u d x = some (s', p)) :
    ∃ t, s.toks[d - 1]? = some t ∧ part t x = some p ∧
      s'.toks = s.toks.set (d - 1) { t with out := t.out - x, rel := t.rel + p } := by
  obtain ⟨t, rel⟩ := release_spec h
  obtain rfl := rel.state
  exact ⟨t, rel.lookup, rel.part, rfl⟩


/-- **unstake_outputs.**  A successful `unstakeFarmTokens` hands the caller the other pool token
    the pair returned, the LP farm's rewards, the staking farm's rewards and the unbond token the
    staking farm created; the staking tokens the pair returned are what is sent to the staking farm
    as the unbond amount. -/
theorem unstake_outputs {s s' : St} {c d x : Nat} {r : UnstakeResp} {o : Out}
    (h : unstake s c d x r = some (s', o)) :
    o.o1 = r.other ∧ o.o2 = r.lpRew ∧ o.o3 = r.stRew ∧ o.unN = r.unN ∧ o.unA = r.unA ∧
      o.toStaking = r.stk := by
  obtain ⟨s1, p, -, -, rfl⟩ := unstake_spec h
  exact ⟨rfl, rfl, rfl, rfl, rfl, rfl⟩

/-- … hence, if the staking farm mints the unbond token for the amount it was sent
    (`unstake_farm_through_proxy`: `Some(first_payment.amount)`), the caller's unbond token is for
    exactly the staking-token amount obtained from the removed liquidity — not for the position. -/
theorem unbond_eq_pool_output {s s' : St} {c d x : Nat} {r : UnstakeResp} {o : Out}
    (h : unstake s c d x r = some (s', o)) (hfarm : r.unA = r.stk) : o.unA = r.stk := by
  rw [(unstake_outputs h).2.2.2.2.1, hfarm]


/-- **proxy_keeps_nothing.**  After every history the proxy's balance of every pass-through
    token — staking token (= staking reward token), other pool token, LP token, LP-farm reward
    (locked) tokens, unbond tokens — is 0.  Only the backing farm tokens of `dy_backed` remain. -/
theorem proxy_keeps_nothing (ops : List Op) : (run init ops).pass = ⟨0, 0, 0, 0, 0⟩ :=
  (inv_run ops).pass

/-- no operation changes a pass-through balance, whatever the callees answered (in particular the
    forwarding of what was just received can never fail for lack of funds) -/
theorem pass_through_untouched {s s' : St} {op : Op} {o : Out} (h : step s op = some (s', o)) :
    s'.pass = s.pass :=
  step_induct (P := fun s' => s'.pass = s.pass) (M := fun _ => True)
    (fun hs h => (release_pass h).trans hs) (fun _ _ _ _ _ hs _ => hs)
    (fun hs h => by
      obtain ⟨-, -, -, -, rfl⟩ := xfer_spec h
      exact hs)
    rfl (fun _ _ => trivial) h

/-- no zero-supply nonces: if every staking-farm answer in the history is a non-zero amount, every
    dual-yield nonce has a non-zero total supply — so every LP-farm token the proxy holds is either
    owed to an outstanding dual-yield token or floor dust of partial exits. -/
theorem no_zero_supply (ops : List Op) (hr : ∀ op ∈ ops, RespPos op) :
    ∀ t ∈ (run init ops).toks, t.stA ≠ 0 :=
  run_allPos ops (by intro t h; simp [init] at h) hr


/-- **stake_value_is_safe_price.**  The amount `stakeFarmTokens` registers in the staking farm
    (`staked_token_amount` of `stakeFarmThroughProxy`) is exactly the pair's safe-price answer for
    the LP amount of the position, and the call is refused when that value is 0. -/
theorem stake_value_is_safe_price {s s' : St} {c lpN a : Nat} {auth : Bool} {ms : List (Nat × Nat)}
    {r : StakeResp} {o : Out} (h : stake s c auth lpN a ms r = some (s', o)) :
    o.toStaking = r.safe ∧ r.safe ≠ 0 := by
  obtain ⟨q, -, -, -, hs, -, rfl⟩ := stake_spec h
  exact ⟨rfl, hs⟩

/-- the same for `claimDualYield`: the new value handed to `claimRewardsWithNewValue` is the
    safe-price answer for the LP part of the payment -/
theorem claim_value_is_safe_price {s s' : St} {c d x : Nat} {auth : Bool} {r : ClaimResp} {o : Out}
    (h : claim s c auth d x r = some (s', o)) : o.toStaking = r.safe ∧ r.safe ≠ 0 := by
  obtain ⟨s1, p, -, -, hs, -, rfl⟩ := claim_spec h
  exact ⟨rfl, hs⟩

/-- the new dual-yield token of a stake: it records the LP-farm token the proxy now holds and is
    minted for the staking-farm amount; if the staking farm returned a token for the value it was
    asked to create plus the merged-in positions, that is `safe + Σ merged staking parts`. -/
theorem stake_mints {s s' : St} {c lpN a : Nat} {auth : Bool} {ms : List (Nat × Nat)}
    {r : StakeResp} {o : Out} (h : stake s c auth lpN a ms r = some (s', o))
    (hfarm : r.stA = r.safe + o.stReleased) :
    o.dyA = r.safe + o.stReleased ∧
      s'.toks[o.dyN - 1]? = some ⟨(stakeLp lpN a ms r).1, (stakeLp lpN a ms r).2, r.stN, r.stA, r.stA, 0⟩ ∧
      s'.user c o.dyN = s.user c o.dyN + o.dyA := by
  obtain ⟨q, -, -, hq, -, rfl, rfl⟩ := stake_spec h
  refine ⟨hfarm, ?_, ?_⟩
  · rw [mint_fst]
    show (q.1.toks ++ [newTok _ _ _ _])[q.1.toks.length + 1 - 1]? = _
    simp [newTok]
  · rw [mint_fst]
    show upd2 q.1.user c (q.1.toks.length + 1) (q.1.user c (q.1.toks.length + 1) + r.stA) c
      (q.1.toks.length + 1) = s.user c (q.1.toks.length + 1) + r.stA
    rw [upd2_same, releaseAll_user_fresh hq]

/-- a failed transaction leaves the state untouched (atomicity as modelled) -/
theorem failed_tx_no_effect (s : St) (op : Op) (h : step s op = none) : run s [op] = s := by
  simp [run, h]

/-- a plain transfer of dual-yield tokens between accounts changes nothing the proxy holds -/
theorem xfer_touches_only_holders {s s' : St} {u v d x : Nat} {o : Out}
    (h : xfer s u v d x = some (s', o)) :
    s'.toks = s.toks ∧ s'.holdLp = s.holdLp ∧ s'.holdSt = s.holdSt ∧ s'.pass = s.pass := by
  obtain ⟨-, -, -, -, rfl⟩ := xfer_spec h
  exact ⟨rfl, rfl, rfl, rfl⟩

/-- a concrete history: two stakes of the same LP-farm nonce, a partial claim, a stake that merges
    a part of an older token, a partial and a full unstake, a transfer, and a last unstake of one
    unit that `into_part` refuses (`⌊100·1/300⌋ = 0`) — every guard of the theorems above is live,
    floor dust appears (nonce 1: 28 LP-farm tokens left for a share of `⌈100·80/300⌉ = 27`), and
    the pass-through balances are 0. -/
example :
    let s := run init
      [.stake 1 true 7 100 [] ⟨300, 1, 300, 0, 0, 0, 0⟩,
       .stake 2 true 7 50 [] ⟨150, 2, 150, 5, 0, 0, 0⟩,
       .claim 1 true 1 100 ⟨99, 8, 33, 4, 3, 99, 2⟩,
       .stake 1 true 9 10 [(1, 50), (3, 99)] ⟨30, 4, 179, 1, 10, 59, 6⟩,
       .unstake 1 1 70 ⟨23, 1, 60, 9, 5, 60, 0⟩,
       .unstake 2 2 150 ⟨50, 2, 140, 20, 6, 140, 3⟩,
       .xfer 1 2 4 79,
       .unstake 1 1 1 ⟨1, 0, 1, 1, 7, 1, 0⟩]
    s.toks.length = 4 ∧ s.holdLp 7 = 28 ∧ s.holdLp 10 = 59 ∧ s.holdSt 1 = 80 ∧ s.holdSt 4 = 179 ∧
      s.user 1 1 = 80 ∧ s.user 1 4 = 100 ∧ s.user 2 4 = 79 ∧ s.user 2 2 = 0 ∧
      s.pass = ⟨0, 0, 0, 0, 0⟩ := by
  decide

/-- the "Zero amount" guard is reachable: with `lpA = 10`, `stA = 300` one unit releases
    `⌊10·1/300⌋ = 0` LP-farm tokens and the call is refused, 30 units release 1 -/
example : part ⟨7, 10, 1, 300, 300, 0⟩ 1 = none ∧ part ⟨7, 10, 1, 300, 300, 0⟩ 30 = some 1 ∧
    part ⟨7, 10, 1, 300, 300, 0⟩ 300 = some 10 := by
  decide

/-- the zero-value guard (finding F4): a stake whose safe-price value is 0 is refused -/
example : stake init 1 true 7 100 [] ⟨0, 1, 0, 0, 0, 0, 0⟩ = none := by
  decide

end Mx.C15
