/-
  C11 — run-level corollaries of the boosted-pool invariant (dex/farm, dex/farm-with-locked-rewards):
  "the sum paid for a week never exceeds R" and "undistributed rewards are collected once", for
  EVERY reachable state (Props/C11.lean has the per-operation statements).

  Ghosts of Core/Farm.lean: `cutW w` = Σ boosted cut accumulated into week `w`'s pool (everything the
  week ever had — the frozen amount `R` of the week is at most this), `paidW w` = Σ boosted rewards
  paid out of it, `collW w` = what was moved from it to `undistributedBoostedRewards`,
  `accum w` / `remaining w` = the two storage cells of the pool, `lastCollect` =
  `lastUndistributedBoostedRewardsCollectWeek`.

  Closest true statements where the property's wording needed adapting:
  * the bound is against `cutW w` (all that was ever put into the week's pool); the frozen amount
    `R = totalRewardsForWeek(w)` is the accumulated part at freeze time, and the life-cycle equation
    `accum + remaining + paid + collected = cut` is exact;
  * "collected once": a week's `collW` changes at most once, from 0 to the pool then remaining (which
    is emptied), exactly when the collection marker passes the week; the marker never moves back.
-/
import MxModel.Lemmas.FarmColl
import MxModel.Lemmas.FarmPool

namespace Mx.C11Pool
open Mx.Farm

/-- **week_pool_life_cycle.**  In every reachable state, for every week `w`: what is still
    accumulated or frozen-and-unpaid, what was paid and what was collected as undistributed add up to
    exactly what was ever cut into that week's pool. -/
theorem week_pool_life_cycle (kind : Kind) (same : Bool) (dsc pb : Nat) (produce : Bool)
    (users : List Nat) (e0 : Nat) (ops : List Op) (w : Nat) :
    let s := run (init kind same dsc pb produce users e0) ops
    s.b.accum w + s.b.remaining w + s.b.paidW w + s.b.collW w = s.b.cutW w :=
  (reachable_poolInv kind same dsc pb produce users e0 ops).week w

/-- **week_paid_le_pool.**  The sum paid for a week never exceeds the week's pool — not even together
    with what was collected from it and what is still in it. -/
theorem week_paid_le_pool (kind : Kind) (same : Bool) (dsc pb : Nat) (produce : Bool)
    (users : List Nat) (e0 : Nat) (ops : List Op) (w : Nat) :
    let s := run (init kind same dsc pb produce users e0) ops
    s.b.paidW w ≤ s.b.cutW w ∧ s.b.paidW w + s.b.collW w ≤ s.b.cutW w ∧
      s.b.paidW w + s.b.remaining w ≤ s.b.cutW w := by
  intro s
  have h : s.b.accum w + s.b.remaining w + s.b.paidW w + s.b.collW w = s.b.cutW w :=
    (reachable_poolInv kind same dsc pb produce users e0 ops).week w
  omega

/-- nothing is ever accumulated, paid or collected for a week after the current one -/
theorem future_weeks_empty (kind : Kind) (same : Bool) (dsc pb : Nat) (produce : Bool)
    (users : List Nat) (e0 : Nat) (ops : List Op) (W w : Nat) :
    let s := run (init kind same dsc pb produce users e0) ops
    s.week = some W → W < w →
      s.b.cutW w = 0 ∧ s.b.paidW w = 0 ∧ s.b.collW w = 0 ∧ s.b.accum w = 0 ∧ s.b.remaining w = 0 := by
  intro s hW hw
  have hI := reachable_poolInv kind same dsc pb produce users e0 ops
  have h1 : s.b.cutW w = 0 := hI.fut W w hW hw
  have h2 : s.b.accum w + s.b.remaining w + s.b.paidW w + s.b.collW w = s.b.cutW w := hI.week w
  omega

/-- **pool_ledgers.**  The per-week ghosts are the global counters, week by week:
    Σ cut + base budget = generated, Σ paid = boosted rewards paid, Σ collected = undistributed. -/
theorem pool_ledgers (kind : Kind) (same : Bool) (dsc pb : Nat) (produce : Bool)
    (users : List Nat) (e0 : Nat) (ops : List Op) (W : Nat) :
    let s := run (init kind same dsc pb produce users e0) ops
    s.week = some W →
      ((List.range (W + 1)).map s.b.cutW).sum + s.baseBudget = s.generated ∧
      ((List.range (W + 1)).map s.b.paidW).sum = s.paidBoosted ∧
      ((List.range (W + 1)).map s.b.collW).sum = s.undist := by
  intro s hW
  have hI := reachable_poolInv kind same dsc pb produce users e0 ops
  exact ⟨hI.cut W hW, hI.paid W hW, hI.coll W hW⟩

/-- all boosted rewards ever paid, all undistributed rewards and all pools together are exactly the
    boosted share of the emission: total boosted payments never exceed Σ_w R_w -/
theorem boosted_paid_le_cut (kind : Kind) (same : Bool) (dsc pb : Nat) (produce : Bool)
    (users : List Nat) (e0 : Nat) (ops : List Op) (W : Nat) :
    let s := run (init kind same dsc pb produce users e0) ops
    s.week = some W →
      s.paidBoosted + s.undist + ((List.range (W + 1)).map fun w => s.b.accum w + s.b.remaining w).sum
        = ((List.range (W + 1)).map s.b.cutW).sum := by
  intro s hW
  have hI := reachable_poolInv kind same dsc pb produce users e0 ops
  have h1 := pools_eq hI hW
  have h2 : ((List.range (W + 1)).map s.b.cutW).sum + s.baseBudget = s.generated := hI.cut W hW
  have h3 : ((List.range (W + 1)).map fun w => s.b.accum w + s.b.remaining w).sum + s.undist +
      s.paidBoosted + s.baseBudget = s.generated := h1
  omega

/-- **collected_once (one operation).**  In every reachable state, whatever the next operation is, for
    every week `w`: either the week's collected ghost does not change, or it goes from 0 to the pool
    then remaining, the pool is emptied, and the collection marker has just passed `w`.  Weeks at or
    below the marker never change again, and the marker never moves back. -/
theorem collected_once (kind : Kind) (same : Bool) (dsc pb : Nat) (produce : Bool)
    (users : List Nat) (e0 : Nat) (ops : List Op) {op : Op} {s' : St} {o : Out} :
    let s := run (init kind same dsc pb produce users e0) ops
    step s op = some (s', o) →
    s.lastCollect ≤ s'.lastCollect ∧
    ∀ w,
      (s'.b.collW w = s.b.collW w ∨
        (s.lastCollect < w ∧ w ≤ s'.lastCollect ∧ s.b.collW w = 0 ∧
          s'.b.collW w = s.b.remaining w ∧ s'.b.remaining w = 0)) ∧
      (w ≤ s.lastCollect → s'.b.collW w = s.b.collW w) := by
  intro s h
  have hI : CollInv s := (run_collInv ops (init_collInv kind same dsc pb produce users e0)).1
  rcases step_collMove h with hc | ⟨h1, _, h3, h4⟩
  · simp only [cl, Prod.mk.injEq] at hc
    obtain ⟨e1, e2⟩ := hc
    refine ⟨by omega, fun w => ⟨Or.inl (by rw [e1]), fun _ => by rw [e1]⟩⟩
  · refine ⟨by omega, fun w => ⟨?_, fun hw => (h4 w (Or.inl hw)).1⟩⟩
    by_cases hw : s.lastCollect < w ∧ w ≤ s'.lastCollect
    · obtain ⟨j1, j2⟩ := h3 w hw.1 hw.2
      have hz := hI w hw.1
      exact Or.inr ⟨hw.1, hw.2, hz, by rw [j1, hz, Nat.zero_add], j2⟩
    · exact Or.inl (h4 w (by omega)).1

/-- **collected_once (reachable states).**  A week above the collection marker has never been
    collected; so (with `collected_once`) every week is collected at most once over a whole history. -/
theorem uncollected_above_marker (kind : Kind) (same : Bool) (dsc pb : Nat) (produce : Bool)
    (users : List Nat) (e0 : Nat) (ops : List Op) (w : Nat) :
    let s := run (init kind same dsc pb produce users e0) ops
    s.lastCollect < w → s.b.collW w = 0 :=
  fun hw => (run_collInv ops (init_collInv kind same dsc pb produce users e0)).1 w hw

/-- only `collectUndistributedBoostedRewards` collects: any other operation leaves every `collW w` and
    the marker alone -/
theorem only_collect_collects {s s' : St} {op : Op} {o : Out} (h : step s op = some (s', o))
    (hop : ∀ c, op ≠ .collect c) : s'.b.collW = s.b.collW ∧ s'.lastCollect = s.lastCollect := by
  have hc := step_cl_of_not_collect h hop
  simp only [cl, Prod.mk.injEq] at hc
  exact hc

/-- non-vacuity: two users with equal energy and position, only user 1 claims week 1's pool (2500):
    1247 paid, the other 1253 collected in week 7 (marker → 2); a second collection in the same week
    and one in week 8 (marker → 3) leave week 1 alone -/
example :
    let s := run (init .mint false 1000000000000 1000 true [1, 2] 0)
      [.setFactors OWNER ⟨10, 3, 2, 1, 1⟩, .setPct OWNER 2500, .setEnergy 1 1000000 0 1000,
       .setEnergy 2 1000000 0 1000, .enter 1 none 100 [], .enter 2 none 100 [], .advance 10 6,
       .claim 1 none [(1, 100)], .advance 10 7, .claimBoosted 1 none, .advance 10 42, .collect OWNER]
    let s' := run s [.collect OWNER, .advance 10 49, .collect OWNER]
    s.week = some 7 ∧ s.lastCollect = 2 ∧ s.b.cutW 1 = 2500 ∧ s.b.paidW 1 = 1247 ∧
    s.b.collW 1 = 1253 ∧ s.b.remaining 1 = 0 ∧ s.undist = 1253 ∧ s.paidBoosted = 1247 ∧
    s'.lastCollect = 3 ∧ s'.b.collW 1 = 1253 ∧ s'.undist = 1253 := by
  decide

end Mx.C11Pool
