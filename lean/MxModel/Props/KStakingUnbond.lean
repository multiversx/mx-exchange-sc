/-
  KStakingUnbond — farm-staking `unbondFarm` (farm-staking/farm-staking/src/unbond_farm.rs) as the
  SOURCE writes it, against `Staking.unbondFarm` of `Core/Staking.lean` (property C12: an unbond
  token pays out its exact amount of the farming token, once, and only after the unbond period).

  Generated definitions:
    * `KFarmState.staking_unbond_gate`  the state gate `validate_contract_state(…)` that opens the endpoint
    * `KStaking.unbond_payout`          from the unlock-epoch guard to the payment that is sent:
                                        (token id, nonce, amount) of `farming_tokens`
    * `KStaking.unbond_burn_amount`     the amount handed to `nft_burn`
  (`KStaking.unbond_guard`, the guard alone, is in `Props/KStaking.lean`.)
-/
import MxModel.Gen.KStaking
import MxModel.Props.KFarmState
import MxModel.Core.Staking
import MxModel.Lemmas.KTactic

namespace Mx.KStakingUnbond
open Mx Mx.Gen Mx.Staking

/-- the arguments are passed BY NAME: the statement says which source value is the token id
    (`storage_cache.farming_token_id`) and which the amount -/
theorem unbond_payout_eq (unlock now amt tok : Nat) :
    KStaking.unbond_payout (attributes_unlock_epoch := unlock) (current_epoch := now)
        (payment_amount := amt) (storage_cache_farming_token_id := tok) =
      if unlock ≤ now then some (tok, 0, amt) else none := by
  k_defs [KStaking.unbond_payout]
  try grind

theorem unbond_burn_amount_eq (amt : Nat) : KStaking.unbond_burn_amount amt = some amt := by
  k_defs [KStaking.unbond_burn_amount]

theorem unbond_burn_eq_payout (unlock now amt tok : Nat) (r : Nat × Nat × Nat)
    (h : KStaking.unbond_payout unlock now amt tok = some r) :
    KStaking.unbond_burn_amount amt = some r.2.2 ∧ r.1 = tok ∧ r.2.1 = 0 := by
  rw [unbond_payout_eq] at h
  split at h
  · cases h; exact ⟨unbond_burn_amount_eq amt, rfl, rfl⟩
  · cases h

theorem staking_unbond_gate_eq (n : Nat) (issued : Bool) :
    KFarmState.staking_unbond_gate n issued = KFarmState.validate_contract_state n issued := by
  k_defs [KFarmState.staking_unbond_gate]
  cases KFarmState.validate_contract_state n issued <;> rfl

theorem staking_unbond_gate_blocks_unless_active (n : Nat) (issued : Bool) (h : n ≠ 1) :
    KFarmState.staking_unbond_gate n issued = none := by
  rw [staking_unbond_gate_eq, (KFarmState.source_gate_blocks_unless_active n issued h).1]

theorem unbondFarm_runs_source {s s' : St} {caller : Nat} {pay : Pay} {o : Out} (tok : Nat)
    (h : unbondFarm s caller pay = some (s', o)) :
    KFarmState.staking_unbond_gate (KFarmState.stateTag s.active) true = some () ∧
    ∃ unlock, unbondOf s.md pay.1 = some unlock ∧
      KStaking.unbond_payout unlock s.epoch pay.2 tok = some (tok, 0, o.b) ∧
      KStaking.unbond_burn_amount pay.2 = some o.b := by
  simp only [unbondFarm, Option.bind_eq_bind, Option.bind_eq_some_iff, req_eq_some] at h
  obtain ⟨_, _, _, ha, unlock, hu, _, hle, _, _, hr⟩ := h
  simp only [Option.pure_def, Option.some.injEq, Prod.mk.injEq] at hr
  obtain ⟨_, ho⟩ := hr
  subst ho
  refine ⟨?_, unlock, hu, ?_, ?_⟩
  · rw [staking_unbond_gate_eq, (KFarmState.gate_on_model s.active).1, if_pos ha]
  · rw [unbond_payout_eq, if_pos hle]
  · exact unbond_burn_amount_eq _

example : KStaking.unbond_payout 10 10 500 42 = some (42, 0, 500) := by decide
example : KStaking.unbond_payout 10 9 500 42 = none := by decide
example : KFarmState.staking_unbond_gate 1 true = some () := by decide
example : KFarmState.staking_unbond_gate 0 true = none := by decide

end Mx.KStakingUnbond
