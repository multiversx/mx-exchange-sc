/-
  C20 (price-discovery part) — `getCurrentPhase` / `getCurrentPrice` versus deposit and withdraw
  in the same state.  Views are pure functions of the state in the model; on the real code
  "quoting never changes state" is the harness clause `view_pure`.
-/
import MxModel.Lemmas.PdSpec

namespace Mx.C20
open Mx.PD

/-- a deposit only succeeds in a phase that `getCurrentPhase` reports as open for deposits -/
theorem pd_deposit_phase_quote {s s' : St} {c : Nat} {t : Tok} {amt : Nat} {o : Out}
    (h : deposit s c t amt = some (s', o)) : (viewPhase s).depositAllowed = true := by
  obtain ⟨_, d⟩ := deposit_spec h
  exact d.allowed

/-- a withdrawal only succeeds in a phase `getCurrentPhase` reports as open for withdrawals and
    pays exactly `amt − ⌊amt·pct/10^13⌋` with the penalty percentage that view reported -/
theorem pd_withdraw_phase_quote {s s' : St} {c : Nat} {t : Tok} {amt : Nat} {o : Out}
    (h : withdraw s c t amt = some (s', o)) :
    (viewPhase s).withdrawAllowed = true ∧
    o.v1 = amt - amt * (viewPhase s).pct / MAXP ∧ o.v2 = amt * (viewPhase s).pct / MAXP := by
  obtain ⟨_, pen, w⟩ := withdraw_spec h
  obtain rfl := w.out
  obtain rfl := w.penalty
  exact ⟨w.allowed, rfl, rfl⟩

/-- after a successful deposit `getCurrentPrice` reports the price the deposit itself checked
    against the configured minimum -/
theorem pd_price_after_deposit {s s' : St} {c : Nat} {t : Tok} {amt : Nat} {o : Out}
    (h : deposit s c t amt = some (s', o)) :
    ∃ p, viewPrice s' = some p ∧ (p = 0 ∨ s.cfg.minPrice ≤ p ∨ t = .accepted) := by
  obtain ⟨p, d⟩ := deposit_spec h
  exact ⟨p, d.price, d.minPrice⟩

/-- …and likewise after a withdrawal (which is never exempt from the floor) -/
theorem pd_price_after_withdraw {s s' : St} {c : Nat} {t : Tok} {amt : Nat} {o : Out}
    (h : withdraw s c t amt = some (s', o)) :
    ∃ p, viewPrice s' = some p ∧ s.cfg.minPrice ≤ p := by
  obtain ⟨p, _, w⟩ := withdraw_spec h
  exact ⟨p, w.price, w.minPrice⟩

/-- the quote is complete: a deposit succeeds exactly when the caller is a user with the
    funds, the amount is positive, the reported phase admits deposits and the price the views
    would report afterwards passes the floor rule — there is no hidden guard -/
theorem pd_deposit_ok_iff (s : St) (c : Nat) (t : Tok) (amt : Nat) :
    (deposit s c t amt).isSome = true ↔
      s.isUser c ∧ 0 < amt ∧ (viewPhase s).depositAllowed = true ∧ amt ≤ (s.side t).w c ∧
      ∃ p, priceOf s.cfg (if t = .launched then s.L.bal + amt else s.L.bal)
              (if t = .accepted then s.A.bal + amt else s.A.bal) = some p ∧
           (p = 0 ∨ s.cfg.minPrice ≤ p ∨ t = .accepted) := by
  have hpr : (s.setSide t (depSide (s.side t) c amt)).price =
      priceOf s.cfg (if t = .launched then s.L.bal + amt else s.L.bal)
        (if t = .accepted then s.A.bal + amt else s.A.bal) := by
    cases t <;> rfl
  rw [Option.isSome_iff_exists, ← hpr]
  constructor
  · rintro ⟨⟨s', o⟩, hd⟩
    obtain ⟨p, d⟩ := deposit_spec hd
    obtain rfl := d.state
    exact ⟨d.isUser, d.amt_pos, d.allowed, d.w, p, d.price, d.minPrice⟩
  · rintro ⟨h1, h2, h3, h4, p, h5, h6⟩
    exact ⟨_, deposit_eq_some_iff.2 ⟨p, h1, h2, h3, h4, h5, h6, rfl, rfl⟩⟩

end Mx.C20
