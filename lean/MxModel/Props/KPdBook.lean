/-
  KPdBook — the BOOKKEEPING lines of price-discovery `deposit` and `withdraw`
  (dex/price-discovery/src/lib.rs) as the SOURCE writes them, against `Core/PriceDiscovery.lean`
  (property C17: the pool balances and the redeem-token supply move by exactly the deposited /
  withdrawn amounts, on the side of the token that was paid).

  Generated (`Gen/KPd.lean`):
    * `deposit_bookkeeping`   from `let accepted_token_id = …` to the price check: the `if / else if /
                              else sc_panic!` that picks (redeem nonce, balance mapper) and the
                              `increase_balance` (a helper of the crate, inlined) on the mapper picked
    * `withdraw_bookkeeping`  from the `match payment_nonce` that picks (refund token, balance mapper)
                              to the price check: `burn_redeem_token` (inlined, two levels),
                              the penalty arithmetic, `decrease_balance` on the mapper picked
  A storage mapper chosen by a branch is a NAME for the mapper inside that branch; the places written
  (`accepted_token_balance`, `launched_token_balance`, `totalCirculatingSupply(nonce)`) are returned
  next to the fragment's own result.
-/
import MxModel.Props.KPd

namespace Mx.KPdBook
open Mx Mx.Gen Mx.PD

theorem deposit_bookkeeping_eq (balA idA balL idL amt tok : Nat) (hne : idA ≠ idL) :
    KPd.deposit_bookkeeping balA idA balL idL amt tok =
      if tok = idA then some (2, balA + amt, balL)
      else if tok = idL then some (1, balA, balL + amt) else none := by
  -- (`init` requires the two token ids to differ; with equal ids the ORDER of the two tests would matter)
  have hne' : ¬ idL = idA := fun x => hne x.symm
  k_defs [KPd.deposit_bookkeeping] <;>
    (by_cases h1 : tok = idA <;> by_cases h2 : tok = idL <;> simp_all)

/-- token id of a side, given the two configured ids -/
def idOf (idA idL : Nat) : Tok → Nat
  | .accepted => idA
  | .launched => idL

/-- balance of a side after a change of side `t` to `v` -/
def balAfter (s : St) (t u : Tok) (v : Nat) : Nat := if u = t then v else (s.side u).bal

theorem deposit_runs_source_bookkeeping {s s' : St} {c : Nat} {t : Tok} {amt : Nat} {o : Out}
    (idA idL : Nat) (hne : idA ≠ idL) (h : deposit s c t amt = some (s', o)) :
    KPd.deposit_bookkeeping s.A.bal idA s.L.bal idL amt (idOf idA idL t) =
      some (o.v2, s'.A.bal, s'.L.bal) := by
  obtain ⟨_, d⟩ := deposit_spec h
  obtain rfl := d.out
  obtain rfl := d.state
  rw [deposit_bookkeeping_eq _ _ _ _ _ _ hne]
  cases t
  · have : ¬ idL = idA := fun x => hne x.symm
    simp [idOf, this, St.setSide, St.side, depSide, Tok.nonce]
  · simp [idOf, St.setSide, St.side, depSide, Tok.nonce]

theorem withdraw_bookkeeping_eq (ph : Phase) (balA idA balL idL amt nonce sup : Nat) :
    KPd.withdraw_bookkeeping balA idA balL idL amt nonce ph.rank ph.pct sup =
      (sub? sup amt).bind fun sup' =>
      (sub? amt (amt * ph.pct / MAXP)).bind fun wd =>
        if nonce = 1 then (sub? balL wd).map fun b => (idL, wd, balA, b, sup')
        else if nonce = 2 then (sub? balA wd).map fun b => (idA, wd, b, balL, sup')
        else none := by
  have hM : MAXP = 10000000000000 := rfl
  -- (no reliance on the ORDER of the `match` arms: the scrutinee is fixed first)
  by_cases h1 : nonce = 1
  · subst h1
    k_defs [KPd.withdraw_bookkeeping, KPd.get_penalty_percentage_eq, hM]
    grind
  · by_cases h2 : nonce = 2
    · subst h2
      k_defs [KPd.withdraw_bookkeeping, KPd.get_penalty_percentage_eq, hM]
      grind
    · unfold KPd.withdraw_bookkeeping
      split
      all_goals first
        | (exfalso; omega)
        | (k_defs [h1, h2]; grind)

theorem withdraw_runs_source_bookkeeping {s s' : St} {c : Nat} {t : Tok} {amt : Nat} {o : Out}
    (idA idL : Nat) (h : withdraw s c t amt = some (s', o)) :
    KPd.withdraw_bookkeeping s.A.bal idA s.L.bal idL amt t.nonce s.phase.rank s.phase.pct
        (s.side t).sup =
      some (idOf idA idL t, o.v1, s'.A.bal, s'.L.bal, (s'.side t).sup) := by
  obtain ⟨_, pen, w⟩ := withdraw_spec h
  obtain rfl := w.out
  obtain rfl := w.state
  obtain rfl := w.penalty
  have hle := w.wd
  have hsup := w.sup
  have hbal := w.bal
  rw [withdraw_bookkeeping_eq]
  cases t <;>
    simp [sub?, hsup, hle, hbal, idOf, St.setSide, St.side, wdSide, Tok.nonce] <;>
    simp_all [St.side]

example : KPd.deposit_bookkeeping 100 7 200 8 50 7 = some (2, 150, 200) := by decide
example : KPd.deposit_bookkeeping 100 7 200 8 50 8 = some (1, 100, 250) := by decide
example : KPd.deposit_bookkeeping 100 7 200 8 50 9 = none := by decide
-- linear-penalty phase (index 2) with 10 %: 1000 redeem tokens of nonce 1 refund 900 launched tokens
example : KPd.withdraw_bookkeeping 5000 7 6000 8 1000 1 2 1000000000000 3000 =
    some (8, 900, 5000, 5100, 2000) := by decide
example : KPd.withdraw_bookkeeping 5000 7 6000 8 1000 2 1 0 3000 = some (7, 1000, 4000, 6000, 2000) := by decide
example : KPd.withdraw_bookkeeping 5000 7 6000 8 1000 3 1 0 3000 = none := by decide
example : KPd.withdraw_bookkeeping 5000 7 6000 8 1000 1 1 0 999 = none := by decide

end Mx.KPdBook
