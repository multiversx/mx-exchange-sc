/-
  C20 (pair part, second file) — quotes equal execution in BOTH directions and for EVERY fee
  configuration (fee switch on or off, any destinations, fees collector, trusted pairs, output
  locking), in every state a history can reach.

  Props/C20Pair proves exec ⇒ quote; its `quote_implies_swapIn` needs the fee switch off.  Here, on
  `Reach s` (the state after some history on a freshly deployed pair whose constructor fee percentages
  satisfy `special ≤ total ≤ MAX_FEE_PERCENTAGE`, what `setFeePercents` enforces), each (view, operation)
  pair gets an *iff*: the operation succeeds with output `o` exactly when the view answers `o`'s amount
  and an explicit list of guards that do not depend on the quote holds.  Fee routing IS in that list
  (`sendFee … = some _`: the trusted pairs that swap the special fee may refuse).  The K check, the
  `fee ≤ input` subtraction and the final balance debit are NOT: they hold in every reachable state.
-/
import MxModel.Lemmas.PairQuote
import MxModel.Props.C20Pair

namespace Mx.C20Pair2
open Mx.Pair

/-- `s` is reachable: the state after some history on a freshly deployed pair with sane
    constructor fee percentages -/
def Reach (s : St) : Prop :=
  ∃ (total special : Nat) (adder : Option Nat) (cap : Nat) (ops : List Op),
    special ≤ total ∧ total ≤ MAXFEE ∧ s = run (init total special adder cap) ops

theorem Reach.inv {s : St} (h : Reach s) : Inv s ∧ FeeOK s := by
  obtain ⟨t, sp, ad, cap, ops, h1, h2, rfl⟩ := h
  exact ⟨run_inv ops (inv_init t sp ad cap), run_feeOK ops (feeOK_init ad cap ⟨h1, h2⟩)⟩

theorem Reach.run {s : St} (h : Reach s) (ops : List Op) : Reach (run s ops) := by
  obtain ⟨t, sp, ad, cap, ops0, h1, h2, rfl⟩ := h
  exact ⟨t, sp, ad, cap, ops0 ++ ops, h1, h2, (run_append _ _ _).symm⟩

/-- **exec ⇒ quote, any fee configuration.**  In any state, if `swapTokensFixedInput` succeeds, then
    `getAmountOut` asked in that same state answers exactly the amount the swap delivered (and the
    swap's other result fields are fixed: nothing else is returned, the output is LOCKED exactly
    when output locking applies). -/
theorem swapIn_eq_quote {s s' : St} {d : Dir} {a minOut : Nat} {o : Out}
    (h : swapIn s d a minOut = some (s', o)) :
    viewAmountOut s d a = some o.v1 ∧ o = ⟨o.v1, 0, 0, s.locksOut⟩ := by
  obtain ⟨q, hq⟩ := C20.swapIn_implies_quote h
  have e := C20.amountOut_quote_eq_exec hq h
  obtain ⟨_, _, _, _, _, _, _, ho⟩ := swapIn_iff.mp h
  refine ⟨by rw [hq, e], ?_⟩
  rw [ho]

/-- **quote ⇒ exec, any fee configuration.**  In every reachable state: if `getAmountOut` answers
    `q`, then `swapTokensFixedInput` with any minimum `0 < minOut ≤ q` succeeds and delivers exactly
    `q`, provided the guards that do not depend on the quote hold: the pair is Active, `q ≠ 0`, the
    routing of the special fee succeeds (ends in some state `s3`), and while output locking is on
    the locking address is simple-lock.  No other guard exists: the K check, `fee ≤ input` and the
    pair's balance covering the output are consequences of reachability. -/
theorem quote_implies_swapIn {s s3 : St} {d : Dir} {a minOut q : Nat} (hr : Reach s)
    (hq : viewAmountOut s d a = some q) (hact : s.status = .active) (hmin : 0 < minOut)
    (hle : minOut ≤ q) (hq0 : q ≠ 0)
    (hsend : (swapMid s d a (swapFee s a) q).sendFee d (swapFee s a) = some s3)
    (hlock : s.lockOn = true → s.lockSc = .simpleLock) :
    swapIn s d a minOut = some (swapEnd s s3 d q, ⟨q, 0, 0, s.locksOut⟩) := by
  obtain ⟨hi, hf⟩ := hr.inv
  obtain ⟨h1, hq⟩ := peel_req hq
  obtain ⟨_, hq⟩ := peel_req hq
  obtain ⟨_, hq⟩ := peel_req hq
  obtain ⟨h4, hq⟩ := peel_req hq
  obtain rfl := Option.some.inj hq
  obtain ⟨f, _, _, hrel⟩ := sendFee_spec hsend
  exact swapIn_iff.mpr ⟨hmin, h1, hact, hle, h4, hq0, ⟨(swapFee_bound hf a).1,
    swapMid_kdir.mpr (swapIn_k _ a _ _ _ (Nat.le_of_lt hf.total_lt) (swapFee_bound hf a).2
      (Nat.le_of_lt h4)), hlock, s3, hsend,
    swap_out_covered hi (Nat.le_of_lt h4) hrel, rfl⟩, rfl⟩

/-- **the two directions as one statement.**  In every reachable state `swapTokensFixedInput`
    succeeds exactly when the quote-independent guards hold and `getAmountOut` answers some
    `q ≥ minOut`, `q ≠ 0`; its output is then `q`. -/
theorem swapIn_succeeds_iff {s : St} {d : Dir} {a minOut : Nat} (hr : Reach s) (o : Out) :
    (∃ s', swapIn s d a minOut = some (s', o)) ↔
      (s.status = .active ∧ 0 < minOut ∧ (s.lockOn = true → s.lockSc = .simpleLock) ∧
       viewAmountOut s d a = some o.v1 ∧ minOut ≤ o.v1 ∧ o.v1 ≠ 0 ∧
       o = ⟨o.v1, 0, 0, s.locksOut⟩ ∧
       ((swapMid s d a (swapFee s a) o.v1).sendFee d (swapFee s a)).isSome = true) := by
  constructor
  · rintro ⟨s', h⟩
    obtain ⟨hq, ho⟩ := swapIn_eq_quote h
    obtain ⟨g1, _, g3, g6, _, g8, ⟨_, _, hl, s3, hs, _⟩, rfl⟩ := swapIn_iff.mp h
    exact ⟨g3, g1, hl, hq, g6, g8, ho, Option.isSome_iff_exists.mpr ⟨s3, hs⟩⟩
  · rintro ⟨hact, hmin, hlock, hq, hle, hne, ho, hs⟩
    obtain ⟨s3, hs3⟩ := Option.isSome_iff_exists.mp hs
    have h := quote_implies_swapIn (minOut := minOut) hr hq hact hmin hle hne hs3 hlock
    rw [← ho] at h
    exact ⟨_, h⟩

/-- with the fee switch off (no destination, no fees collector) there is no fee-routing guard -/
theorem quote_implies_swapIn_fee_off {s : St} {d : Dir} {a minOut q : Nat} (hr : Reach s)
    (hq : viewAmountOut s d a = some q) (hact : s.status = .active) (hmin : 0 < minOut)
    (hle : minOut ≤ q) (hq0 : q ≠ 0) (hoff : s.feeOn = false)
    (hlock : s.lockOn = true → s.lockSc = .simpleLock) :
    ∃ s', swapIn s d a minOut = some (s', ⟨q, 0, 0, s.locksOut⟩) := by
  have e := swapFee_off hoff a
  refine ⟨_, quote_implies_swapIn (s3 := swapMid s d a (swapFee s a) q) hr hq hact hmin hle hq0 ?_ hlock⟩
  rw [e]
  exact sendFee_zero _ _

/-- **exec ⇒ quote, any fee configuration.**  If `swapTokensFixedOutput` succeeds, `getAmountIn`
    asked in the same state answers exactly the amount charged; the caller receives exactly the
    requested output and is refunded `maxIn − charged`. -/
theorem swapOut_eq_quote {s s' : St} {d : Dir} {maxIn out : Nat} {o : Out}
    (h : swapOut s d maxIn out = some (s', o)) :
    viewAmountIn s d out = some o.v2 ∧ o = ⟨out, o.v2, maxIn - o.v2, s.locksOut⟩ ∧ o.v2 ≤ maxIn := by
  obtain ⟨q, hq⟩ := C20.swapOut_implies_quote h
  have e := (C20.amountIn_quote_eq_exec hq h).1
  obtain ⟨_, _, _, _, _, hle, _, rfl⟩ := swapOut_iff.mp h
  exact ⟨by rw [hq, e], rfl, hle⟩

/-- **quote ⇒ exec, any fee configuration.**  In every reachable state: if `getAmountIn` answers `q`
    for the wanted output `out`, then `swapTokensFixedOutput` with any budget `maxIn ≥ q` succeeds,
    charges exactly `q`, delivers exactly `out` and refunds `maxIn − q`, provided the pair is
    Active, fee routing succeeds and (while locking is on) the locking address is simple-lock. -/
theorem quote_implies_swapOut {s s3 : St} {d : Dir} {maxIn out q : Nat} (hr : Reach s)
    (hq : viewAmountIn s d out = some q) (hact : s.status = .active) (hle : q ≤ maxIn)
    (hsend : (swapMid s d q (swapFee s q) out).sendFee d (swapFee s q) = some s3)
    (hlock : s.lockOn = true → s.lockSc = .simpleLock) :
    swapOut s d maxIn out = some (swapEnd s s3 d out, ⟨out, q, maxIn - q, s.locksOut⟩) := by
  obtain ⟨hi, hf⟩ := hr.inv
  obtain ⟨h1, hq⟩ := peel_req hq
  obtain ⟨h2, hq⟩ := peel_req hq
  obtain ⟨h3, hq⟩ := peel_req hq
  obtain rfl := Option.some.inj hq
  obtain ⟨f, _, _, hrel⟩ := sendFee_spec hsend
  have hpos : 0 < amountIn s.total out (s.rin d) (s.rout d) := Nat.succ_pos _
  exact swapOut_iff.mpr ⟨h1, Nat.lt_of_lt_of_le hpos hle, hact, h2, h3, hle,
    ⟨(swapFee_bound hf _).1, swapMid_kdir.mpr (swapOut_k _ out _ _ _ hf.total_lt h2 (swapFee_bound hf _).2),
      hlock, s3, hsend,
      swap_out_covered hi (Nat.le_of_lt h2) hrel, rfl⟩, rfl⟩

/-- **the two directions as one statement** for the fixed-output swap -/
theorem swapOut_succeeds_iff {s : St} {d : Dir} {maxIn out : Nat} (hr : Reach s) (o : Out) :
    (∃ s', swapOut s d maxIn out = some (s', o)) ↔
      (s.status = .active ∧ (s.lockOn = true → s.lockSc = .simpleLock) ∧
       viewAmountIn s d out = some o.v2 ∧ o.v2 ≤ maxIn ∧
       o = ⟨out, o.v2, maxIn - o.v2, s.locksOut⟩ ∧
       ((swapMid s d o.v2 (swapFee s o.v2) out).sendFee d (swapFee s o.v2)).isSome = true) := by
  constructor
  · rintro ⟨s', h⟩
    obtain ⟨hq, ho, hle⟩ := swapOut_eq_quote h
    obtain ⟨_, _, g3, _, _, _, ⟨_, _, hl, s3, hs, _⟩, rfl⟩ := swapOut_iff.mp h
    exact ⟨g3, hl, hq, hle, ho, Option.isSome_iff_exists.mpr ⟨s3, hs⟩⟩
  · rintro ⟨hact, hlock, hq, hle, ho, hs⟩
    obtain ⟨s3, hs3⟩ := Option.isSome_iff_exists.mp hs
    have h := quote_implies_swapOut hr hq hact hle hs3 hlock
    rw [← ho] at h
    exact ⟨_, h⟩

/-- **quote ⇒ exec.**  In every reachable state: if `getTokensForGivenPosition(lp)` answers
    `(x₁, x₂)`, then `removeLiquidity` of `lp` with any minimums `0 < m₁ ≤ x₁`, `0 < m₂ ≤ x₂`
    succeeds and pays exactly `(x₁, x₂)`, provided the state is Active or PartialActive, `0 < lp`
    and the permanent floor stays (`lp + 1000 ≤ S`).  (The K check, "amount below reserve", the LP
    burn and the two balance debits can never fail in a reachable state.) -/
theorem quote_implies_removeLiq {s : St} {lp m1 m2 : Nat} (hr : Reach s)
    (hm1 : 0 < m1) (hm2 : 0 < m2) (hst : s.status = .active ∨ s.status = .partialActive)
    (hlp : 0 < lp) (hS : lp + MINLIQ ≤ s.S)
    (h1 : m1 ≤ (viewTokensForPosition s lp).1) (h2 : m2 ≤ (viewTokensForPosition s lp).2) :
    ∃ s', removeLiq s lp m1 m2 =
      some (s', ⟨(viewTokensForPosition s lp).1, (viewTokensForPosition s lp).2, 0, false⟩) := by
  have hM : MINLIQ = 1000 := rfl
  have hS0 : s.S ≠ 0 := by omega
  have e : viewTokensForPosition s lp = (lp * s.r1 / s.S, lp * s.r2 / s.S) := by
    simp [viewTokensForPosition, hS0]
  rw [e] at h1 h2 ⊢
  exact ⟨_, removeLiq_ok hr.inv.1 hm1 hm2 hst hlp hS h1 h2⟩

/-- **the two directions as one statement** for `removeLiquidity` -/
theorem removeLiq_succeeds_iff {s : St} {lp m1 m2 : Nat} (hr : Reach s) (o : Out) :
    (∃ s', removeLiq s lp m1 m2 = some (s', o)) ↔
      (0 < m1 ∧ 0 < m2 ∧ (s.status = .active ∨ s.status = .partialActive) ∧ 0 < lp ∧
       lp + MINLIQ ≤ s.S ∧ viewTokensForPosition s lp = (o.v1, o.v2) ∧ m1 ≤ o.v1 ∧ m2 ≤ o.v2 ∧
       o = ⟨o.v1, o.v2, 0, false⟩) := by
  constructor
  · rintro ⟨s', h⟩
    have hq := C20.position_quote_eq_exec h
    have t := removeLiq_spec h
    exact ⟨t.m1_pos, t.m2_pos, t.status, t.lp_pos, t.minliq, hq, t.min1, t.min2, by rw [t.out]⟩
  · rintro ⟨g1, g2, g3, g4, g5, hq, g8, g11, ho⟩
    have := quote_implies_removeLiq hr g1 g2 g3 g4 g5 (by rw [hq]; exact g8) (by rw [hq]; exact g11)
    rw [hq] at this
    simp only [] at this
    rw [← ho] at this
    exact this

/-! ### non-vacuity: a reachable pool with the fee switch ON (a burn destination and a fees
    collector), where all three quotes are answered and the operations deliver exactly them -/

def demoOps : List Op :=
  [.cfg (.setState .active), .cfg (.addDest .first), .cfg (.setCollector 30000),
   .addLiq 1000000 2000000 1 1, .swapIn .ba 7000 1]

theorem demo_reach : Reach (run (init 300 50 none 8) demoOps) :=
  ⟨300, 50, none, 8, demoOps, by decide, by decide, rfl⟩

example :
    let s := run (init 300 50 none 8) demoOps
    s.feeOn = true ∧ swapFee s 100000 = 50 ∧
    viewAmountOut s .ab 100000 = some 182534 ∧
    ((swapMid s .ab 100000 (swapFee s 100000) 182534).sendFee .ab (swapFee s 100000)).isSome = true ∧
    (swapIn s .ab 100000 182534).map (·.2) = some ⟨182534, 0, 0, false⟩ ∧
    viewAmountIn s .ab 182484 = some 99970 ∧
    (swapOut s .ab 150000 182484).map (·.2) = some ⟨182484, 99970, 50030, false⟩ ∧
    viewTokensForPosition s 1000 = (996, 2007) ∧
    (removeLiq s 1000 996 2007).map (·.2) = some ⟨996, 2007, 0, false⟩ := by
  decide

end Mx.C20Pair2
