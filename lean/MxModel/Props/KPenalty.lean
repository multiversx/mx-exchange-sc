/-
  KPenalty — the option search of the early-unlock penalty
  (`locked-asset/energy-factory/src/penalty.rs::calculate_penalty_percentage_full_unlock`) as the
  SOURCE writes it, against `Energy.pctFull` of `Core/Energy.lean` (property C09).

  Generated (`Gen/KEnergyFactory.lean`): `penalty_percentage_full_unlock` and its loop
  `penalty_percentage_full_unlock_loop`.  The stored `ArrayVec<LockOption, 10>` is read through
  `lock_options_len` and the two index functions `lock_options_lock_epochs`,
  `lock_options_penalty_start_percentage` (`get_unchecked(i)` = element `i`); the helper
  `get_lock_options` (non-empty check) is inlined; `prev_option = *prev_option_temp` copies field by field.

  Proved here: on every non-empty table with positive, strictly increasing lock periods (`Chain 0`)
  the source function equals the model's `pctFull` for every remaining period
  (`penalty_full_unlock_all`: induction relating the index loop to the model's list recursion), hence
  `calculate_penalty_amount` with the source's own percentage function is the model's `penaltyAmount`
  (`penalty_amount_whole_source`).  The one-, two- and three-entry tables
  (`penalty_full_unlock_partial_one/two/three`; the deployed configuration has three options) are instances.
-/
import MxModel.Gen.KEnergyFactory
import MxModel.Core.Energy
import MxModel.Props.KMath
import MxModel.Props.KEnergyFactory

namespace Mx.KPenalty
open Mx Mx.Gen Mx.Energy

/-- field `lock_epochs` of entry `i` of a table (0 beyond the end — never read by the source) -/
def epochsAt (opts : List Opt) (i : Nat) : Nat := (opts.getD i (0, 0)).1
/-- field `penalty_start_percentage` of entry `i` -/
def pctAt (opts : List Opt) (i : Nat) : Nat := (opts.getD i (0, 0)).2

/-- the source function run on a stored table -/
def srcPct (opts : List Opt) (rem : Nat) : Option Nat :=
  KEnergyFactory.penalty_percentage_full_unlock rem opts.length (epochsAt opts) (pctAt opts)

theorem srcPct_empty (rem : Nat) : srcPct [] rem = none := by
  simp [srcPct, KEnergyFactory.penalty_percentage_full_unlock, req]

/-- strictly increasing chain of lock periods starting above `e0` -/
def Chain (e0 : Nat) : List Opt → Prop
  | [] => True
  | o :: rest => e0 < o.1 ∧ Chain o.1 rest

/-- the search loop followed by the interpolation, started at index `k` on the suffix `(ek, pk) :: rest` -/
theorem loop_then_interp (rem : Nat) (E P : Nat → Nat) :
    ∀ (rest : List Opt) (k ek pk : Nat),
      (∀ j, j ≤ rest.length → E (k + j) = (((ek, pk) :: rest).getD j (0, 0)).1) →
      (∀ j, j ≤ rest.length → P (k + j) = (((ek, pk) :: rest).getD j (0, 0)).2) →
      Chain ek rest → ek < rem →
      (KEnergyFactory.penalty_percentage_full_unlock_loop rem E P (List.range' k rest.length) (0, 0, 0, 0)).bind
        (fun r => KMath.linear_interpolation r.1 r.2.2.1 rem r.2.1 r.2.2.2) = pctFrom ek pk rest rem := by
  intro rest
  induction rest with
  | nil =>
    intro k ek pk _ _ _ hr
    have : KMath.linear_interpolation 0 0 rem 0 0 = none := by
      rw [KMath.linear_interpolation_eq]; simp
    simp [KEnergyFactory.penalty_percentage_full_unlock_loop, List.range', pctFrom, this]
  | cons o rest ih =>
    intro k ek pk hE hP hc hr
    obtain ⟨e1, p1⟩ := o
    obtain ⟨h01, hc'⟩ := hc
    have hEk : E k = ek := by simpa using hE 0 (Nat.zero_le _)
    have hPk : P k = pk := by simpa using hP 0 (Nat.zero_le _)
    have hE1 : E (k + 1) = e1 := by simpa using hE 1 (by simp)
    have hP1 : P (k + 1) = p1 := by simpa using hP 1 (by simp)
    simp only [List.length_cons, List.range'_succ, KEnergyFactory.penalty_percentage_full_unlock_loop,
      hEk, hPk, hE1, hP1, pctFrom]
    by_cases hle : rem ≤ e1
    · have h1 : ek ≤ rem := Nat.le_of_lt hr
      simp [hle, h1, KMath.linear_interpolation_eq]
      omega
    · have h1 : ek ≤ rem := Nat.le_of_lt hr
      simp only [hle, and_false, if_false]
      have := ih (k + 1) e1 p1
        (fun j hj => by rw [Nat.add_assoc, Nat.add_comm 1 j]; simpa using hE (j + 1) (by simp; omega))
        (fun j hj => by rw [Nat.add_assoc, Nat.add_comm 1 j]; simpa using hP (j + 1) (by simp; omega))
        hc' (by omega)
      simpa using this

theorem pctFrom_none_of_all_lt (rem : Nat) :
    ∀ (L : List Opt) (e0 p0 : Nat), (∀ x ∈ L, x.1 < rem) → pctFrom e0 p0 L rem = none := by
  intro L
  induction L with
  | nil => intros; rfl
  | cons o rest ih =>
    intro e0 p0 h
    obtain ⟨e1, p1⟩ := o
    have h1 : e1 < rem := h (e1, p1) (by simp)
    have : ¬ rem ≤ e1 := by omega
    simp only [pctFrom, this, if_false]
    exact ih e1 p1 (fun x hx => h x (by simp [hx]))

/-- lock period of the last entry -/
def lastE (L : List Opt) : Nat := (L.getD (L.length - 1) (0, 0)).1

theorem chain_le_last : ∀ (L : List Opt) (e0 : Nat), Chain e0 L → ∀ x ∈ L, x.1 ≤ lastE L := by
  intro L
  induction L with
  | nil => intro _ _ x hx; cases hx
  | cons o rest ih =>
    intro e0 hc x hx
    obtain ⟨_, hc'⟩ := hc
    cases rest with
    | nil =>
      simp at hx; subst hx; simp [lastE]
    | cons o' r' =>
      have hl : lastE (o :: o' :: r') = lastE (o' :: r') := by simp [lastE]
      rw [hl]
      have ho' : o'.1 ≤ lastE (o' :: r') := ih o.1 hc' o' (by simp)
      rcases List.mem_cons.1 hx with rfl | hx'
      · have := hc'.1; omega
      · exact ih o.1 hc' x hx'

theorem penalty_full_unlock_all (opts : List Opt) (rem : Nat) (hne : opts ≠ []) (hs : Chain 0 opts) :
    srcPct opts rem = pctFull opts rem := by
  cases opts with
  | nil => exact absurd rfl hne
  | cons o rest =>
    obtain ⟨e1, p1⟩ := o
    obtain ⟨h0, hc⟩ := hs
    have hE : ∀ j, j ≤ rest.length → epochsAt ((e1, p1) :: rest) (0 + j) = (((e1, p1) :: rest).getD j (0, 0)).1 := by
      intro j _; simp [epochsAt]
    have hP : ∀ j, j ≤ rest.length → pctAt ((e1, p1) :: rest) (0 + j) = (((e1, p1) :: rest).getD j (0, 0)).2 := by
      intro j _; simp [pctAt]
    have hE0 : epochsAt ((e1, p1) :: rest) 0 = e1 := rfl
    have hP0 : pctAt ((e1, p1) :: rest) 0 = p1 := rfl
    have hlast : epochsAt ((e1, p1) :: rest) rest.length = lastE ((e1, p1) :: rest) := by
      simp [epochsAt, lastE]
    have hloop := loop_then_interp rem (epochsAt ((e1, p1) :: rest)) (pctAt ((e1, p1) :: rest)) rest 0 e1 p1 hE hP hc
    have hsub : sub? (rest.length + 1) 1 = some rest.length := by simp [sub?]
    by_cases hg : rem ≤ lastE ((e1, p1) :: rest)
    · have hg' : rem ≤ epochsAt ((e1, p1) :: rest) rest.length := hlast ▸ hg
      by_cases hb : 0 < rest.length ∧ e1 < rem
      · -- the search branch
        have := hloop hb.2
        simp [srcPct, KEnergyFactory.penalty_percentage_full_unlock, hsub, hE0, hP0, req, hg', hb.1, hb.2,
          pctFull, pctFrom, show ¬ rem ≤ e1 by omega]
        simpa [Option.bind] using this
      · -- below (or at) the first option, or a single option
        have hr : rem ≤ e1 := by
          by_cases hl : 0 < rest.length
          · have : ¬ e1 < rem := fun x => hb ⟨hl, x⟩; omega
          · have : rest = [] := List.length_eq_zero_iff.1 (by omega)
            subst this; simpa [lastE] using hg
        have hb' : ¬ (0 < rest.length ∧ e1 < rem) := hb
        simp [srcPct, KEnergyFactory.penalty_percentage_full_unlock, hsub, hE0, hP0, req, hg', hb',
          pctFull, pctFrom, hr, KMath.linear_interpolation_eq]
        omega
    · -- beyond the last option: both abort
      have hg' : ¬ rem ≤ epochsAt ((e1, p1) :: rest) rest.length := hlast ▸ hg
      have hall : ∀ x ∈ ((e1, p1) :: rest), x.1 < rem := fun x hx => by
        have := chain_le_last ((e1, p1) :: rest) 0 ⟨h0, hc⟩ x hx; omega
      simp [srcPct, KEnergyFactory.penalty_percentage_full_unlock, hsub, req, hg', pctFull,
        pctFrom_none_of_all_lt rem _ 0 0 hall]

/-! ### one, two and three options (the deployed configuration has three)

  Instances of `penalty_full_unlock_all`: the hypotheses `0 < e1 < e2 < …` are the `Chain 0` of the table. -/

theorem penalty_full_unlock_partial_one (e p rem : Nat) (h : 0 < e) :
    srcPct [(e, p)] rem = pctFull [(e, p)] rem :=
  penalty_full_unlock_all _ rem (List.cons_ne_nil _ _) ⟨h, trivial⟩

theorem penalty_full_unlock_partial_two (e1 p1 e2 p2 rem : Nat) (h1 : 0 < e1) (h2 : e1 < e2) :
    srcPct [(e1, p1), (e2, p2)] rem = pctFull [(e1, p1), (e2, p2)] rem :=
  penalty_full_unlock_all _ rem (List.cons_ne_nil _ _) ⟨h1, h2, trivial⟩

theorem penalty_full_unlock_partial_three (e1 p1 e2 p2 e3 p3 rem : Nat)
    (h1 : 0 < e1) (h2 : e1 < e2) (h3 : e2 < e3) :
    srcPct [(e1, p1), (e2, p2), (e3, p3)] rem = pctFull [(e1, p1), (e2, p2), (e3, p3)] rem :=
  penalty_full_unlock_all _ rem (List.cons_ne_nil _ _) ⟨h1, h2, h3, trivial⟩

/-- `calculate_penalty_amount` (the view `getPenaltyAmount`, the penalty of `unlockEarly` /
    `reduceLockPeriod`) fed with the SOURCE's own percentage function: no opaque callee is left -/
theorem penalty_amount_whole_source (opts : List Opt) (amt prev new : Nat) (hne : opts ≠ [])
    (hs : Chain 0 opts) :
    KEnergyFactory.calculate_penalty_amount amt prev new (srcPct opts) = penaltyAmount opts amt prev new := by
  have hf : srcPct opts = pctFull opts := funext fun rem => penalty_full_unlock_all opts rem hne hs
  rw [hf, KEnergyFactory.calculate_penalty_amount_eq]

theorem penalty_amount_whole_source_three (e1 p1 e2 p2 e3 p3 amt prev new : Nat)
    (h1 : 0 < e1) (h2 : e1 < e2) (h3 : e2 < e3) :
    KEnergyFactory.calculate_penalty_amount amt prev new (srcPct [(e1, p1), (e2, p2), (e3, p3)]) =
      penaltyAmount [(e1, p1), (e2, p2), (e3, p3)] amt prev new :=
  penalty_amount_whole_source _ amt prev new (List.cons_ne_nil _ _) ⟨h1, h2, h3, trivial⟩

-- the deployed table satisfies the hypothesis of `penalty_full_unlock_all` (non-vacuity), so:
example : Chain 0 [(360, 4000), (720, 6000), (1440, 8000)] := by simp [Chain]
example (rem : Nat) : srcPct [(360, 4000), (720, 6000), (1440, 8000)] rem =
    pctFull [(360, 4000), (720, 6000), (1440, 8000)] rem :=
  penalty_full_unlock_all _ rem (by simp) (by simp [Chain])
example : srcPct [(360, 4000), (720, 6000), (1440, 8000)] 540 = some 5000 := by decide
example : srcPct [(360, 4000), (720, 6000), (1440, 8000)] 540 =
    pctFull [(360, 4000), (720, 6000), (1440, 8000)] 540 := by decide
example : srcPct [(360, 4000), (720, 6000), (1440, 8000)] 180 = some 2000 := by decide
example : srcPct [(360, 4000), (720, 6000), (1440, 8000)] 1441 = none := by decide
example : srcPct [(360, 4000), (720, 6000), (1440, 8000), (2000, 9000)] 1720 = some 8500 := by decide

end Mx.KPenalty
