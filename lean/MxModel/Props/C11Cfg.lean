/-
  C11 — Boosted rewards: the factors in force per week.

  `C11.factors_for_week` (farm) and `C11Staking.factors_for_week` (farm-staking) describe the 5-slot
  ring of boosted-yields factors under ONE update, assuming the stored ring is well formed
  (`WF cfg`, resp. `c.f.length = 5`).  Here that hypothesis is discharged: in EVERY state reachable
  from a fresh deployment, by any history of any operations with any arguments, a stored
  configuration has its 5 slots and `last_update_week ≤ current week`; and the factors recorded for
  a past week never change again while that week is claimable, over ANY continuation.

  Models: Core/Farm.lean (`St.b.cfg : Option BCfg`, written by `setFactors` and by
  `collectBoosted mem` inside the boosted claim), Core/Staking.lean (same cells).
-/
import MxModel.Props.C11
import MxModel.Props.C11Staking
import MxModel.Lemmas.FarmCfgInv
import MxModel.Lemmas.StakingCfgInv

namespace Mx.C11Cfg

section farm
open Mx.Farm

/-- **cfg_wf_reachable (farm).**  In every state reachable from a fresh deployment (any farm kind,
    any parameters, any users list, any history) a stored boosted-yields configuration has its five
    slots, the current week exists, and the configuration's `last_update_week` is not after it. -/
theorem cfg_wf_reachable (kind : Kind) (sameTok : Bool) (dsc perBlock : Nat) (produce : Bool)
    (users : List Nat) (e0 : Nat) (ops : List Op) :
    let s := run (init kind sameTok dsc perBlock produce users e0) ops
    ∀ cfg, s.b.cfg = some cfg →
      WF cfg ∧ (∃ W, s.week = some W) ∧ (∀ W, s.week = some W → cfg.lastUpdateWeek ≤ W) := by
  intro s cfg hc
  obtain ⟨hwf, W, hW, hle⟩ := reachable_cfgOK kind sameTok dsc perBlock produce users e0 ops cfg hc
  have hW0 : s.week = some W := hW
  refine ⟨hwf, ⟨W, hW0⟩, fun W' hW' => ?_⟩
  rw [hW0] at hW'
  cases hW'
  exact hle

/-- one transaction keeps the invariant, for every operation and all arguments (the inductive step
    behind `cfg_wf_reachable`, usable from any state that satisfies it) -/
theorem cfg_wf_step {s s' : St} {op : Op} {o : Out}
    (hI : ∀ cfg, s.b.cfg = some cfg → WF cfg ∧ ∃ W, s.week = some W ∧ cfg.lastUpdateWeek ≤ W)
    (h : step s op = some (s', o)) :
    ∀ cfg, s'.b.cfg = some cfg → WF cfg ∧ ∃ W, s'.week = some W ∧ cfg.lastUpdateWeek ≤ W :=
  step_trans h Trans.ok hI

/-- in a reachable state the update of the stored configuration to the current week — what every
    boosted claim and every `setBoostedYieldsFactors` starts with — never fails -/
theorem update_defined_reachable (kind : Kind) (sameTok : Bool) (dsc perBlock : Nat) (produce : Bool)
    (users : List Nat) (e0 : Nat) (ops : List Op) :
    let s := run (init kind sameTok dsc perBlock produce users e0) ops
    ∀ cfg W new, s.b.cfg = some cfg → s.week = some W → ∃ c', cfg.update W new = some c' := by
  intro s cfg W new hc hW
  exact BCfg.update_defined cfg new
    ((cfg_wf_reachable kind sameTok dsc perBlock produce users e0 ops cfg hc).2.2 W hW)

/-- **factors_for_week_reachable (farm).**  `C11.factors_for_week` with its well-formedness hypothesis
    discharged: for the configuration stored in ANY reachable state, an update to week `W` (time
    passing, with or without a new setting) keeps, for every week `w` still inside the claim window
    (`W < w + 5`), the factors that were in force in `w`: weeks before the previous update keep
    theirs, the weeks since the previous update carry the previously latest factors, and the
    current week gets the new setting (or keeps the latest one). -/
theorem factors_for_week_reachable (kind : Kind) (sameTok : Bool) (dsc perBlock : Nat)
    (produce : Bool) (users : List Nat) (e0 : Nat) (ops : List Op) :
    let s := run (init kind sameTok dsc perBlock produce users e0) ops
    ∀ cfg c' W w new, s.b.cfg = some cfg → cfg.update W new = some c' → W < w + 5 →
      (w < cfg.lastUpdateWeek → c'.factorsForWeek w = cfg.factorsForWeek w) ∧
      (cfg.lastUpdateWeek ≤ w → w < W → c'.factorsForWeek w = some cfg.latest) ∧
      (c'.latest = new.getD cfg.latest) ∧ WF c' ∧ c'.lastUpdateWeek = W := by
  intro s cfg c' W w new hc hu hw
  exact C11.factors_for_week
    (cfg_wf_reachable kind sameTok dsc perBlock produce users e0 ops cfg hc).1 hu hw

/-- **claim_factors_defined (farm).**  In a reachable state the boosted claim never aborts for want of
    factors: the in-memory configuration it works with (the stored one updated to the current week
    `W`) exists and answers for each of the four claimable weeks `W − 4 … W − 1`. -/
theorem claim_factors_defined (kind : Kind) (sameTok : Bool) (dsc perBlock : Nat) (produce : Bool)
    (users : List Nat) (e0 : Nat) (ops : List Op) :
    let s := run (init kind sameTok dsc perBlock produce users e0) ops
    ∀ cfg W, s.b.cfg = some cfg → s.week = some W →
      ∃ mem, cfg.update W none = some mem ∧
        ∀ w, w < W → W < w + 5 → ∃ fa, mem.factorsForWeek w = some fa := by
  intro s cfg W hc hW
  obtain ⟨hwf, _, hle⟩ := cfg_wf_reachable kind sameTok dsc perBlock produce users e0 ops cfg hc
  obtain ⟨mem, hm⟩ := BCfg.update_defined cfg none (hle W hW)
  obtain ⟨h1, h2⟩ := BCfg.update_wf hwf hm
  refine ⟨mem, hm, fun w hw1 hw2 => factorsForWeek_defined h1 (by rw [h2]; exact hw1) (by rw [h2]; exact hw2)⟩

/-- **factors_frozen (farm).**  Once a week is past, the factors recorded for it are frozen for as
    long as it is claimable: from a reachable state with stored configuration `cfg`, over ANY
    continuation `ops'` (claims, new settings, time passing, anything), a configuration `cfg'` is
    still stored, it is not older, and for every week `w` that was already past for `cfg`
    (`w < cfg.lastUpdateWeek`) and is still inside the window of `cfg'`
    (`cfg'.lastUpdateWeek < w + 5`) it returns exactly what `cfg` returned. -/
theorem factors_frozen (kind : Kind) (sameTok : Bool) (dsc perBlock : Nat) (produce : Bool)
    (users : List Nat) (e0 : Nat) (ops ops' : List Op) :
    let s := run (init kind sameTok dsc perBlock produce users e0) ops
    let s' := run s ops'
    ∀ cfg, s.b.cfg = some cfg →
      ∃ cfg', s'.b.cfg = some cfg' ∧ WF cfg' ∧ cfg.lastUpdateWeek ≤ cfg'.lastUpdateWeek ∧
        ∀ w, w < cfg.lastUpdateWeek → cfg'.lastUpdateWeek < w + 5 →
          cfg'.factorsForWeek w = cfg.factorsForWeek w := by
  intro s s' cfg hc
  obtain ⟨cfg', hc', hf⟩ := run_frozen ops' hc
    (cfg_wf_reachable kind sameTok dsc perBlock produce users e0 ops cfg hc).1
  exact ⟨cfg', hc', hf.wf, hf.mono, hf.keep⟩

/-- the same from ANY state (reachable or not) whose stored configuration is well formed -/
theorem factors_frozen_from {s : St} {cfg : BCfg} (hc : s.b.cfg = some cfg) (hw : WF cfg)
    (ops' : List Op) :
    ∃ cfg', (run s ops').b.cfg = some cfg' ∧ WF cfg' ∧ cfg.lastUpdateWeek ≤ cfg'.lastUpdateWeek ∧
      ∀ w, w < cfg.lastUpdateWeek → cfg'.lastUpdateWeek < w + 5 →
        cfg'.factorsForWeek w = cfg.factorsForWeek w := by
  obtain ⟨cfg', hc', hf⟩ := run_frozen ops' hc hw
  exact ⟨cfg', hc', hf.wf, hf.mono, hf.keep⟩

/-- non-vacuity: factors set in week 1, a boosted claim in week 2 (stores the config updated to
    week 2), NEW factors set in week 2, a boosted claim in week 3.  The stored config is at week 3,
    week 1 still answers with the old factors, week 2 with the new ones, and 2500 were paid. -/
example :
    let s := run (init .mint false 1000000000000 1000 true [1, 2] 0)
      [.setFactors OWNER ⟨10, 3, 2, 1, 1⟩, .setPct OWNER 2500, .setEnergy 1 1000000 0 1000,
       .enter 1 none 100000000 [], .advance 10 6, .claim 1 none [(1, 100000000)], .advance 10 7,
       .claimBoosted 1 none, .setFactors OWNER ⟨20, 1, 1, 2, 2⟩, .advance 20 14, .claimBoosted 1 none]
    s.week = some 3 ∧ s.b.cfg.map (·.lastUpdateWeek) = some 3 ∧
    s.b.cfg.map (·.ring.length) = some 5 ∧
    s.b.cfg.bind (·.factorsForWeek 1) = some ⟨10, 3, 2, 1, 1⟩ ∧
    s.b.cfg.bind (·.factorsForWeek 2) = some ⟨20, 1, 1, 2, 2⟩ ∧ s.paidBoosted = 2500 := by
  decide

/-- non-vacuity of `factors_frozen`: the state after the first eight operations stores a config at
    week 2 (so week 1 is past); after the continuation (new factors, a week passes, a claim) the
    stored config is at week 3 and week 1 still has the factors recorded before -/
example :
    let s := run (init .mint false 1000000000000 1000 true [1, 2] 0)
      [.setFactors OWNER ⟨10, 3, 2, 1, 1⟩, .setPct OWNER 2500, .setEnergy 1 1000000 0 1000,
       .enter 1 none 100000000 [], .advance 10 6, .claim 1 none [(1, 100000000)], .advance 10 7,
       .claimBoosted 1 none]
    let s' := run s [.setFactors OWNER ⟨20, 1, 1, 2, 2⟩, .advance 20 14, .claimBoosted 1 none]
    s.b.cfg.map (·.lastUpdateWeek) = some 2 ∧ s'.b.cfg.map (·.lastUpdateWeek) = some 3 ∧
    s.b.cfg.bind (·.factorsForWeek 1) = some ⟨10, 3, 2, 1, 1⟩ ∧
    s'.b.cfg.bind (·.factorsForWeek 1) = s.b.cfg.bind (·.factorsForWeek 1) := by
  decide

end farm

section staking
open Mx.Staking Mx.Staking.CfgInv

/-- **cfg_wf_reachable (farm-staking).**  In every state reachable from a fresh deployment (any
    parameters, accounts, whitelist, any history) a stored boosted-yields configuration has its five
    slots and its `last_update_week` is not after the current week. -/
theorem staking_cfg_wf_reachable (epoch block dsc maxApr minUnbond perBlock : Nat)
    (accts wl : List Nat) (ops : List Op) :
    let s := run (init epoch block dsc maxApr minUnbond perBlock accts wl) ops
    ∀ c, s.b.cfg = some c → c.f.length = 5 ∧ c.lastUpdateWeek ≤ s.week :=
  reachable_cfgOK epoch block dsc maxApr minUnbond perBlock accts wl ops

theorem staking_cfg_wf_step {s s' : St} {op : Op} {o : Out}
    (hI : ∀ c, s.b.cfg = some c → c.f.length = 5 ∧ c.lastUpdateWeek ≤ s.week)
    (h : step s op = some (s', o)) :
    ∀ c, s'.b.cfg = some c → c.f.length = 5 ∧ c.lastUpdateWeek ≤ s'.week :=
  (step_cstep h).ok hI

/-- in a reachable state the update of the stored configuration to the current week — what every
    boosted claim and every `setBoostedYieldsFactors` starts with — never fails -/
theorem staking_update_defined_reachable (epoch block dsc maxApr minUnbond perBlock : Nat)
    (accts wl : List Nat) (ops : List Op) :
    let s := run (init epoch block dsc maxApr minUnbond perBlock accts wl) ops
    ∀ c new, s.b.cfg = some c → ∃ c', c.update s.week new = some c' := by
  intro s c new hc
  obtain ⟨hl, hle⟩ := reachable_cfgOK epoch block dsc maxApr minUnbond perBlock accts wl ops c hc
  exact BCfg.update_defined c new hl hle

/-- **factors_for_week_reachable (farm-staking).**  `C11Staking.factors_for_week` with its length
    hypothesis discharged: for the configuration stored in ANY reachable state, an update to week
    `W` keeps five slots, moves `last_update_week` to `W`, makes the new factors (or keeps the
    latest) the latest ones, keeps the factors of every week before the previous update that is
    still in the window, and gives the weeks since the previous update the previously latest
    factors. -/
theorem staking_factors_for_week_reachable (epoch block dsc maxApr minUnbond perBlock : Nat)
    (accts wl : List Nat) (ops : List Op) :
    let s := run (init epoch block dsc maxApr minUnbond perBlock accts wl) ops
    ∀ c c' W new, s.b.cfg = some c → c.update W new = some c' →
      c'.f.length = 5 ∧ c'.lastUpdateWeek = W ∧
      (∃ last, c.latest = some last ∧ c'.latest = some (new.getD last)) ∧
      (∀ w, w < c.lastUpdateWeek → W - w < 5 → c'.factorsForWeek w = c.factorsForWeek w) ∧
      (∀ w, c.lastUpdateWeek ≤ w → w < W → W - w < 5 → c'.factorsForWeek w = c.latest) := by
  intro s c c' W new hc hu
  exact C11Staking.factors_for_week
    (reachable_cfgOK epoch block dsc maxApr minUnbond perBlock accts wl ops c hc).1 hu

/-- **claim_factors_defined (farm-staking).**  In a reachable state the boosted claim never aborts
    for want of factors: the in-memory configuration it works with (the stored one updated to the
    current week) exists and answers for each of the four claimable weeks. -/
theorem staking_claim_factors_defined (epoch block dsc maxApr minUnbond perBlock : Nat)
    (accts wl : List Nat) (ops : List Op) :
    let s := run (init epoch block dsc maxApr minUnbond perBlock accts wl) ops
    ∀ c, s.b.cfg = some c →
      ∃ c', c.update s.week none = some c' ∧
        ∀ w, w < s.week → s.week - w < 5 → ∃ x, c'.factorsForWeek w = some x := by
  intro s c hc
  obtain ⟨hl, hle⟩ := reachable_cfgOK epoch block dsc maxApr minUnbond perBlock accts wl ops c hc
  obtain ⟨c', hu⟩ := BCfg.update_defined c none hl hle
  obtain ⟨_, h1, h2, _⟩ := BCfg.update_spec hl hu
  refine ⟨c', hu, fun w hw1 hw2 =>
    BCfg.factorsForWeek_defined h1 (by rw [h2]; exact hw1) (by rw [h2]; exact hw2)⟩

/-- **factors_frozen (farm-staking).**  Once a week is past, the factors recorded for it are frozen
    for as long as it is claimable: from a reachable state with stored configuration `c`, over ANY
    continuation `ops'`, a configuration `c'` is still stored, it is not older, and for every week
    `w` that was already past for `c` and is still inside the window of `c'` it returns exactly what
    `c` returned. -/
theorem staking_factors_frozen (epoch block dsc maxApr minUnbond perBlock : Nat)
    (accts wl : List Nat) (ops ops' : List Op) :
    let s := run (init epoch block dsc maxApr minUnbond perBlock accts wl) ops
    let s' := run s ops'
    ∀ c, s.b.cfg = some c →
      ∃ c', s'.b.cfg = some c' ∧ c'.f.length = 5 ∧ c.lastUpdateWeek ≤ c'.lastUpdateWeek ∧
        ∀ w, w < c.lastUpdateWeek → c'.lastUpdateWeek - w < 5 →
          c'.factorsForWeek w = c.factorsForWeek w := by
  intro s s' c hc
  obtain ⟨c', hc', hf⟩ := run_frozen ops' hc
    (reachable_cfgOK epoch block dsc maxApr minUnbond perBlock accts wl ops c hc).1
  exact ⟨c', hc', hf.len, hf.mono, hf.keep⟩

/-- the same from ANY state (reachable or not) whose stored configuration has five slots -/
theorem staking_factors_frozen_from {s : St} {c : BCfg} (hc : s.b.cfg = some c)
    (hl : c.f.length = 5) (ops' : List Op) :
    ∃ c', (run s ops').b.cfg = some c' ∧ c'.f.length = 5 ∧ c.lastUpdateWeek ≤ c'.lastUpdateWeek ∧
      ∀ w, w < c.lastUpdateWeek → c'.lastUpdateWeek - w < 5 →
        c'.factorsForWeek w = c.factorsForWeek w := by
  obtain ⟨c', hc', hf⟩ := run_frozen ops' hc hl
  exact ⟨c', hc', hf.len, hf.mono, hf.keep⟩

/-- non-vacuity: factors set in week 1, a claim in week 2 (stores the config updated to week 2),
    NEW factors set in week 2, a boosted claim in week 3.  The stored config is at week 3, week 1
    still answers with the old factors, week 2 with the new ones. -/
example :
    let s := run (init 5 10 1000000000000 1000000 5 5000 [1, 2, 101] [101])
      [.topUp 100000000, .setBoostedPct 2500, .setFactors ⟨10, 3, 2, 1, 1⟩, .setEnergy 1 10000 100,
       .stake 1 none 100000000000 [], .advance 10 0, .claimBoosted 1 none, .advance 1 7,
       .claim 1 none (1, 100000000000), .setFactors ⟨20, 1, 1, 2, 2⟩, .advance 5 7,
       .claimBoosted 1 none]
    s.week = 3 ∧ s.b.cfg.map (·.lastUpdateWeek) = some 3 ∧ s.b.cfg.map (·.f.length) = some 5 ∧
    s.b.cfg.bind (·.factorsForWeek 1) = some ⟨10, 3, 2, 1, 1⟩ ∧
    s.b.cfg.bind (·.factorsForWeek 2) = some ⟨20, 1, 1, 2, 2⟩ ∧ s.paidBoosted = 13750 := by
  decide

/-- non-vacuity of `staking_factors_frozen`: after nine operations the stored config is at week 2;
    after the continuation (new factors, a week passes, a claim) it is at week 3 and week 1 still
    has the factors recorded before -/
example :
    let s := run (init 5 10 1000000000000 1000000 5 5000 [1, 2, 101] [101])
      [.topUp 100000000, .setBoostedPct 2500, .setFactors ⟨10, 3, 2, 1, 1⟩, .setEnergy 1 10000 100,
       .stake 1 none 100000000000 [], .advance 10 0, .claimBoosted 1 none, .advance 1 7,
       .claim 1 none (1, 100000000000)]
    let s' := run s [.setFactors ⟨20, 1, 1, 2, 2⟩, .advance 5 7, .claimBoosted 1 none]
    s.b.cfg.map (·.lastUpdateWeek) = some 2 ∧ s'.b.cfg.map (·.lastUpdateWeek) = some 3 ∧
    s.b.cfg.bind (·.factorsForWeek 1) = some ⟨10, 3, 2, 1, 1⟩ ∧
    s'.b.cfg.bind (·.factorsForWeek 1) = s.b.cfg.bind (·.factorsForWeek 1) := by
  decide

end staking

end Mx.C11Cfg
