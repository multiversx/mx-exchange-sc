/-
  KPair — the pair MODEL computes what the pair SOURCE computes.

  `Gen/KPair.lean` is regenerated on every run by `bin/gen-kernels` from the Rust text of
  `dex/pair/src/{amm.rs, liquidity_pool.rs, pair_actions/swap.rs}` (translation rules in the
  generator's doc string: `BigUint` = `Nat`, checked subtraction / division, `require!` = `req`,
  fields of `storage_cache` / `context` as explicit inputs and outputs).  The theorems below are
  re-checked against the regenerated text:

  * the arithmetic kernels of the source equal the model's kernels (`Pair.quote`, `amountOut`,
    `amountIn`, `amountOutNoFee`, `specialFee`) wherever the source does not abort; `get_amount_out`
    and `get_amount_in` for a total fee `total ≤ M`, `get_amount_in` for `out ≤ rOut`
    (`get_amount_in_none`: beyond that the source aborts);
  * `get_amounts_removed` of the source IS the model's `amountsRemoved`; `set_optimal_amounts` IS
    `optimal` on a pool with `S ≠ 0`, `r1 ≠ 0`, `r2 ≠ 0` (`set_optimal_amounts_initial`: `S = 0`);
  * `pool_add_liquidity`, `pool_add_initial_liquidity`, `pool_remove_liquidity`, `swap_safe_no_fee`,
    `perform_swap_fixed_input`, `perform_swap_fixed_output` of the source in closed form over the
    model's kernels (`*_eq`: the values AND exactly when the source aborts) — so a guard dropped or
    weakened in the source breaks a theorem as much as a changed operand does;
  * hence a successful model `addLiq` (with LP supply, `s.S ≠ 0`; the mint of a first deposit,
    `St.firstMint`, is `firstMint_runs_source`) / `removeLiq` / `swapIn` / `swapOut` (total fee `s.total ≤ M`) /
    `localSwap` step is a successful run of the translated function with exactly the model's amounts
    and reserves — for the two swaps the reserves before the fee is routed, `swapMid`
    (`*_runs_source`).

  A changed operator, operand, rounding direction, guard or update in those source functions
  changes the generated definition and breaks the corresponding theorem; harmless rewrites of the
  source (operands reordered, `min` arguments swapped, locals renamed or introduced, independent
  statements or `require!`s swapped) keep them checking (Lemmas/KTactic.lean says how).  Model constants
  are replaced by their literals first (`hM : M = 100000`): the generated text has the literal.
  `KPair.quote` is listed wherever a proportion is computed: a maintainer may (or may not) route it
  through the `quote` helper.
-/
import MxModel.Gen.KPair
import MxModel.Lemmas.PairSpec
import MxModel.Lemmas.KTactic

namespace Mx.KPair
open Mx Mx.Pair Mx.Gen

/-! ### amm.rs -/

theorem quote_eq (a rA rB : Nat) :
    KPair.quote a rA rB = if rA = 0 then none else some (Pair.quote a rA rB) := by
  k_defs [KPair.quote, Pair.quote]
  try grind

theorem get_amount_out_no_fee_eq (a rIn rOut : Nat) :
    KPair.get_amount_out_no_fee a rIn rOut =
      if rIn + a = 0 then none else some (amountOutNoFee a rIn rOut) := by
  k_defs [KPair.get_amount_out_no_fee, amountOutNoFee]
  try grind

theorem get_amount_out_eq (a rIn rOut total : Nat) (ht : total ≤ M) :
    KPair.get_amount_out a rIn rOut total =
      if rIn * M + a * (M - total) = 0 then none else some (amountOut total a rIn rOut) := by
  have hM : M = 100000 := rfl
  rw [hM] at ht
  k_defs [KPair.get_amount_out, amountOut, hM]
  grind

theorem get_amount_in_eq (out rIn rOut total : Nat) (ht : total ≤ M) (ho : out ≤ rOut) :
    KPair.get_amount_in out rIn rOut total =
      if (rOut - out) * (M - total) = 0 then none else some (amountIn total out rIn rOut) := by
  have hM : M = 100000 := rfl
  rw [hM] at ht
  k_defs [KPair.get_amount_in, amountIn, hM]
  grind

theorem get_amount_in_none (out rIn rOut total : Nat) (ho : rOut < out) :
    KPair.get_amount_in out rIn rOut total = none := by
  k_defs [KPair.get_amount_in]
  k_ifs

theorem get_special_fee_eq (a special : Nat) :
    KPair.get_special_fee_from_input a special = some (specialFee special a) := by
  have hM : M = 100000 := rfl
  k_defs [KPair.get_special_fee_from_input, specialFee, hM]
  grind

theorem k_constant_eq (a b : Nat) : KPair.calculate_k_constant a b = some (a * b) := by
  k_defs [KPair.calculate_k_constant]
  try grind

/-! ### liquidity_pool.rs -/

/-- The source divides by the supply before it has looked at it; the first guard, `lp + 1000 ≤ S`, has
    excluded `S = 0` by then. -/
theorem get_amounts_removed_eq (s : St) (lp m1 m2 : Nat) :
    KPair.get_amounts_removed m1 lp m2 s.r1 s.S s.r2 = amountsRemoved s lp m1 m2 := by
  have hL : MINLIQ = 1000 := rfl
  k_defs [KPair.get_amounts_removed, KPair.quote, amountsRemoved, hL]
  grind

theorem set_optimal_amounts_eq (s : St) (a1 a2 m1 m2 : Nat) (hS : s.S ≠ 0)
    (h1 : s.r1 ≠ 0) (h2 : s.r2 ≠ 0) :
    KPair.set_optimal_amounts a1 m1 a2 m2 s.r1 s.S s.r2 = optimal s a1 a2 m1 m2 := by
  k_defs [KPair.set_optimal_amounts, optimal, quote_eq, if_neg h1, if_neg h2]
  grind

theorem set_optimal_amounts_initial (a1 a2 m1 m2 r1 r2 : Nat) :
    KPair.set_optimal_amounts a1 m1 a2 m2 r1 0 r2 = some (a1, a2) := by
  k_defs [KPair.set_optimal_amounts]
  try grind

theorem pool_add_liquidity_eq (o1 o2 r1 S r2 : Nat) :
    KPair.pool_add_liquidity o1 o2 r1 S r2 =
      if r1 = 0 ∨ r2 = 0 ∨ min (o1 * S / r1) (o2 * S / r2) = 0 then none
      else some (min (o1 * S / r1) (o2 * S / r2), r1 + o1, S + min (o1 * S / r1) (o2 * S / r2), r2 + o2) := by
  k_defs [KPair.pool_add_liquidity, KPair.quote]
  grind

theorem addLiq_runs_source {s s' : St} {a1 a2 m1 m2 : Nat} {o : Out} (hS : s.S ≠ 0)
    (h : addLiq s a1 a2 m1 m2 = some (s', o)) :
    KPair.set_optimal_amounts a1 m1 a2 m2 s.r1 s.S s.r2 = some (o.v2, o.v3) ∧
    KPair.pool_add_liquidity o.v2 o.v3 s.r1 s.S s.r2 = some (o.v1, s'.r1, s'.S, s'.r2) := by
  obtain ⟨o1, o2, -, -, -, -, -, hr1, hr2, hopt, rfl, hliq, -, rfl⟩ := addLiq_spec hS h
  refine ⟨(set_optimal_amounts_eq s a1 a2 m1 m2 hS hr1 hr2).trans hopt, ?_⟩
  simp only [] at hliq ⊢
  rw [pool_add_liquidity_eq, if_neg (by omega)]

theorem pool_add_initial_liquidity_eq (s : St) (a1 a2 : Nat) :
    KPair.pool_add_initial_liquidity a1 a2 s.r1 s.r2 =
      (s.firstMint a1 a2).map fun r => (r.2, r.1.r1, r.1.S, r.1.r2) := by
  have hL : MINLIQ = 1000 := rfl
  k_defs [KPair.pool_add_initial_liquidity, St.firstMint, hL]
  grind

theorem firstMint_runs_source {s s' : St} {a1 a2 lp : Nat}
    (h : s.firstMint a1 a2 = some (s', lp)) :
    KPair.pool_add_initial_liquidity a1 a2 s.r1 s.r2 = some (lp, s'.r1, s'.S, s'.r2) := by
  rw [pool_add_initial_liquidity_eq, h, Option.map_some]

/-- the three checked subtractions of the source cannot abort once `amountsRemoved` has passed
    (`lp + 1000 ≤ S`, `x₁ < r₁`, `x₂ < r₂`), so they add no abort case -/
theorem pool_remove_liquidity_eq (s : St) (lp m1 m2 : Nat) :
    KPair.pool_remove_liquidity m1 lp m2 s.r1 s.S s.r2 =
      (amountsRemoved s lp m1 m2).map fun x => (x.1, x.2, s.r1 - x.1, s.S - lp, s.r2 - x.2) := by
  have hL : MINLIQ = 1000 := rfl
  k_defs [KPair.pool_remove_liquidity, get_amounts_removed_eq, amountsRemoved, hL]
  grind

theorem removeLiq_runs_source {s s' : St} {lp m1 m2 : Nat} {o : Out}
    (h : removeLiq s lp m1 m2 = some (s', o)) :
    KPair.pool_remove_liquidity m1 lp m2 s.r1 s.S s.r2 = some (o.v1, o.v2, s'.r1, s'.S, s'.r2) := by
  obtain ⟨-, -, -, -, hS, rfl, g1, g2, g3, g4, g5, g6, -, -, -, rfl⟩ := removeLiq_spec h
  simp only [] at g1 g2 g3 g4 g5 g6 ⊢
  rw [pool_remove_liquidity_eq]
  k_defs [amountsRemoved, St.touch]
  k_ifs

theorem swap_safe_no_fee_eq (s : St) (d : Dir) (a : Nat) :
    KPair.swap_safe_no_fee a (s.rin d) (s.rout d) =
      (s.localSwap d a).map fun r => (r.2, r.1.rin d, r.1.rout d) := by
  have hd : ∀ x y, (s.setR d x y).rin d = x ∧ (s.setR d x y).rout d = y := by
    intro x y; cases d <;> exact ⟨rfl, rfl⟩
  k_defs [KPair.swap_safe_no_fee, get_amount_out_no_fee_eq, St.localSwap, (hd _ _).1, (hd _ _).2]
  grind

theorem localSwap_runs_source {s s' : St} {d : Dir} {a out : Nat}
    (h : s.localSwap d a = some (s', out)) :
    KPair.swap_safe_no_fee a (s.rin d) (s.rout d) = some (out, s'.rin d, s'.rout d) := by
  rw [swap_safe_no_fee_eq, h, Option.map_some]

/-! ### pair_actions/swap.rs -/

theorem perform_swap_fixed_input_eq (f0 a minOut rIn rOut special total : Nat) (feeOn : Bool)
    (ht : total ≤ M) :
    KPair.perform_swap_fixed_input f0 a minOut rIn rOut feeOn special total =
      if rIn * M + a * (M - total) ≠ 0 ∧ minOut ≤ amountOut total a rIn rOut ∧
          amountOut total a rIn rOut < rOut ∧ amountOut total a rIn rOut ≠ 0 ∧
          (feeOn = true → specialFee special a ≤ a)
      then some (if feeOn then specialFee special a else f0, a, amountOut total a rIn rOut,
                 rIn + (a - if feeOn then specialFee special a else 0), rOut - amountOut total a rIn rOut)
      else none := by
  k_defs [KPair.perform_swap_fixed_input, get_amount_out_eq _ _ _ _ ht, get_special_fee_eq]
  generalize amountOut total a rIn rOut = out
  generalize specialFee special a = fee
  generalize rIn * M + a * (M - total) = den
  cases feeOn <;> grind

/-- the reserves the source writes back are the model's reserves before fee routing (`swapMid`) -/
theorem swapIn_runs_source {s s' : St} {d : Dir} {a minOut f0 : Nat} {o : Out}
    (ht : s.total ≤ M) (h : swapIn s d a minOut = some (s', o)) :
    KPair.perform_swap_fixed_input f0 a minOut (s.rin d) (s.rout d) s.feeOn s.special s.total =
      some (if s.feeOn then swapFee s a else f0, a, o.v1,
            (swapMid s d a (swapFee s a) o.v1).rin d, (swapMid s d a (swapFee s a) o.v1).rout d) := by
  obtain ⟨-, -, -, hmin, hlt, hne, ⟨hfee, -⟩, rfl⟩ := swapIn_iff.mp h
  have hden : s.rin d * M + a * (M - s.total) ≠ 0 := fun h0 =>
    hne (by rw [amountOut, h0]; exact Nat.div_zero _)
  rw [perform_swap_fixed_input_eq _ _ _ _ _ _ _ _ ht, swapMid_rin, swapMid_rout, if_pos]
  · cases hf : s.feeOn <;> simp only [swapFee, hf, if_true, if_false, Bool.false_eq_true]
  · refine ⟨hden, hmin, hlt, hne, fun hf => ?_⟩
    simpa only [swapFee, hf, if_true] using hfee

theorem perform_swap_fixed_output_eq (f0 maxIn out rIn rOut special total : Nat) (feeOn : Bool)
    (ht : total ≤ M) :
    KPair.perform_swap_fixed_output f0 maxIn out rIn rOut feeOn special total =
      if out ≤ rOut ∧ (rOut - out) * (M - total) ≠ 0 ∧ amountIn total out rIn rOut ≤ maxIn ∧
          (feeOn = true → specialFee special (amountIn total out rIn rOut) ≤ amountIn total out rIn rOut)
      then some (if feeOn then specialFee special (amountIn total out rIn rOut) else f0,
                 amountIn total out rIn rOut, out,
                 rIn + (amountIn total out rIn rOut -
                   if feeOn then specialFee special (amountIn total out rIn rOut) else 0),
                 rOut - out)
      else none := by
  have hne : amountIn total out rIn rOut ≠ 0 := Nat.succ_ne_zero _
  by_cases ho : out ≤ rOut
  · k_defs [KPair.perform_swap_fixed_output, get_amount_in_eq _ _ _ _ ht ho, get_special_fee_eq]
    generalize amountIn total out rIn rOut = ain at hne ⊢
    generalize specialFee special ain = fee
    generalize (rOut - out) * (M - total) = den
    cases feeOn <;> grind
  · k_defs [KPair.perform_swap_fixed_output, get_amount_in_none _ _ _ _ (Nat.lt_of_not_le ho)]
    grind

theorem swapOut_runs_source {s s' : St} {d : Dir} {maxIn out f0 : Nat} {o : Out}
    (ht : s.total ≤ M) (h : swapOut s d maxIn out = some (s', o)) :
    KPair.perform_swap_fixed_output f0 maxIn out (s.rin d) (s.rout d) s.feeOn s.special s.total =
      some (if s.feeOn then swapFee s o.v2 else f0, o.v2, out,
            (swapMid s d o.v2 (swapFee s o.v2) out).rin d,
            (swapMid s d o.v2 (swapFee s o.v2) out).rout d) := by
  obtain ⟨-, -, -, hout, hden, hmax, ⟨hfee, -⟩, rfl⟩ := swapOut_iff.mp h
  rw [perform_swap_fixed_output_eq _ _ _ _ _ _ _ _ ht, swapMid_rin, swapMid_rout, if_pos]
  · cases hf : s.feeOn <;> simp only [swapFee, hf, if_true, if_false, Bool.false_eq_true]
  · refine ⟨hout.le, hden, hmax, fun hf => ?_⟩
    simpa only [swapFee, hf, if_true] using hfee

/-! ### fee.rs: the fees-collector cut and the slice of `send_fee`; liquidity_pool.rs: position view -/

/-- the fees-collector part of `send_fee`; the abort case is a percentage above 100 % -/
theorem fee_collector_cut_eq (fee pct : Nat) :
    KPair.fee_collector_cut fee pct =
      if fee < fee * pct / M then none else some (fee * pct / M, fee - fee * pct / M) := by
  have hM : M = 100000 := rfl
  k_defs [KPair.fee_collector_cut, hM]
  grind

theorem collectorCut_runs_source {s s' : St} {d : Dir} {fee pct rem : Nat} (hc : s.cut = some pct)
    (h : s.collectorCut d fee = some (s', rem)) :
    KPair.fee_collector_cut fee pct = some (fee * pct / M, rem) := by
  simp only [St.collectorCut, hc] at h
  obtain ⟨hle, h⟩ := peel_sub h
  have hr : rem = fee - fee * pct / M := by
    split at h
    · obtain ⟨_, _, h⟩ := peel h
      exact (Prod.mk.inj (Option.some.inj h)).2.symm
    · exact (Prod.mk.inj (Option.some.inj h)).2.symm
  rw [fee_collector_cut_eq, if_neg (by omega), hr]

/-- in `send_fee` the caller has returned before for zero destinations, so the division does not abort there -/
theorem fee_slice_amount_eq (rem n : Nat) :
    KPair.fee_slice_amount rem n = if n = 0 then none else some (rem / n) := by
  k_defs [KPair.fee_slice_amount]
  try grind

/-- the guard of `setupFeesCollector`; in the model, of `cfg (.setCollector c)` -/
theorem setup_fees_collector_guard_eq (pct : Nat) :
    KPair.setup_fees_collector_guard pct = if 0 < pct ∧ pct ≤ M then some () else none := by
  have hM : M = 100000 := rfl
  k_defs [KPair.setup_fees_collector_guard, hM]
  try grind

theorem get_token_for_given_position_eq (s : St) (lp tok : Nat) :
    KPair.get_token_for_given_position lp s.S s.r1 tok = some (tok, 0, (viewTokensForPosition s lp).1) ∧
    KPair.get_token_for_given_position lp s.S s.r2 tok = some (tok, 0, (viewTokensForPosition s lp).2) := by
  constructor <;> k_defs [KPair.get_token_for_given_position, viewTokensForPosition] <;> grind

end Mx.KPair
